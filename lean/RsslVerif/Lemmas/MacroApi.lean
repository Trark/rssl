import RsslVerif.Lemmas.MacroScope
import RsslVerif.Lemmas.Include
/-!
API-level defines versus `#define` lines (fix 9f7cdb8): the initial defines are processed by the very function
that processes a `#define` line, so installing them equals running the lines `#define name value` first; and the
macro list keeps pairwise distinct names through the whole run.
-/
namespace RsslVerif.Lemmas.MacroApi
open RsslVerif.Model.Macro RsslVerif.Model.Include RsslVerif.Lemmas.MacroScope RsslVerif.Lemmas.Include

/-- the line `#define name value` -/
def defineLineOf (d : ApiDefine) : Line := .define (⟨.ws, true⟩ :: apiCommand d)

theorem parseDefine_ws_cons (c : List PTok) (b : Bool) : parseDefine (⟨.ws, b⟩ :: c) = parseDefine c := by
  have : trimStart (⟨.ws, b⟩ :: c) = trimStart c := by
    unfold trimStart
    rw [List.dropWhile_cons]
    simp [Tok.isBlank]
  unfold parseDefine
  rw [this]

theorem doDefine_ws_cons (ms : List Macro) (c : List PTok) (b : Bool) :
    doDefine ms (⟨.ws, b⟩ :: c) = doDefine ms c := by
  unfold doDefine
  rw [parseDefine_ws_cons]

theorem applyMacros_nil (ms : List Macro) : applyMacros ms [] = .ok [] := by
  unfold applyMacros
  rw [applyLoop]
  simp [SearchPos.start]

theorem flush_nil (st : State) : flush st [] = .ok st := by
  unfold flush
  rw [applyMacros_nil]
  simp

theorem foldLines_defines (inc : Inc) (cur : String) (ms : List Macro) (out : List PTok) (once : List String)
    (api : List ApiDefine) (rest : List Line) (hline : ∀ d ∈ api, hasLineBreak d = false) :
    foldLines inc cur (⟨ms, out, once⟩, []) (api.map defineLineOf ++ rest) =
      match initialMacros ms api with
      | .error e => .error e
      | .ok ms' => foldLines inc cur (⟨ms', out, once⟩, []) rest := by
  induction api generalizing ms with
  | nil => simp [initialMacros]
  | cons d ds ih =>
    simp only [List.map_cons, List.cons_append, foldLines, defineLineOf, stepLine, flush_nil,
      doDefine_ws_cons, initialMacros, hline d (by simp), Bool.false_eq_true, if_false]
    cases hd : doDefine ms (apiCommand d) with
    | error e => rfl
    | ok ms' => exact ih ms' (fun x hx => hline x (by simp [hx]))

theorem fileStart_of_ne_nil {ls : List Line} (h : ls ≠ []) : fileStart ls = [] := by
  cases ls with
  | nil => exact absurd rfl h
  | cons _ _ => rfl

theorem doDefine_nodup {ms ms' : List Macro} {cmd : List PTok} (hn : (names ms).Nodup)
    (h : doDefine ms cmd = .ok ms') : (names ms').Nodup := by
  obtain ⟨m, _, rfl⟩ := doDefine_eq h
  exact nodup_applyEvent hn _

theorem doUndef_nodup {ms ms' : List Macro} {cmd : List PTok} (hn : (names ms).Nodup)
    (h : doUndef ms cmd = .ok ms') : (names ms').Nodup := by
  obtain ⟨n, b, _, rfl⟩ := doUndef_eq h
  exact nodup_applyEvent hn _

theorem initialMacros_append (ms : List Macro) (a b : List ApiDefine) :
    initialMacros ms (a ++ b) =
      match initialMacros ms a with
      | .error e => .error e
      | .ok ms' => initialMacros ms' b := by
  fun_induction initialMacros ms a
  case case4 hd _ hx ih => simpa [initialMacros, hd, hx] using ih
  all_goals simp [initialMacros, *]

theorem initialMacros_nodup {ms ms' : List Macro} (api : List ApiDefine) (hn : (names ms).Nodup)
    (h : initialMacros ms api = .ok ms') : (names ms').Nodup := by
  revert h
  fun_induction initialMacros ms api <;> intro h
  · cases h; exact hn
  · cases h
  · cases h
  next hd ih => exact ih (doDefine_nodup hn hd) h

theorem preserved_nodup : Preserved (fun a b : State => (names a.macros).Nodup → (names b.macros).Nodup) where
  refl := fun _ h => h
  trans := fun _ _ _ h1 h2 h => h2 (h1 h)
  flush := fun _ _ _ hf h => by rw [flush_macros hf]; exact h
  define := fun _ _ _ hd h => doDefine_nodup h hd
  undef := fun _ _ _ hd h => doUndef_nodup h hd
  once := fun _ _ h => h

end RsslVerif.Lemmas.MacroApi
