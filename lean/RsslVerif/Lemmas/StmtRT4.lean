import RsslVerif.Lemmas.StmtRT3
import RsslVerif.Lemmas.StmtRT1
/-! Round trip of statements: `for`, well-formed statements, the tokens no statement starts with, the induction. -/
set_option linter.unusedSimpArgs false
namespace RsslVerif.Lemmas.StmtRT
open RsslVerif.Gen.FmtTables RsslVerif.Gen.ParseTables RsslVerif.Gen.SyntaxTables RsslVerif.Model.Format
open RsslVerif.Model.FormatFull RsslVerif.Model.ParseFull RsslVerif.Model.FormatStmt RsslVerif.Model.ParseStmt
open RsslVerif.Lemmas.FmtParseTables RsslVerif.Lemmas.RoundtripFull

variable (W : List String)

def WFOpt : Option XExpr → Prop
  | none => True
  | some e => WF W e

def WFForInit : ForInit → Prop
  | .empty => True
  | .expr e => WF W e ∧ declDeadB (toks (fmtExprX e) ++ [.p .Semicolon]) = true
  | .decl v => WFVarDef W v ∧ varExprDeadB (toks (fmtVarDef v)) = true

theorem badHead_semi : BadHead (.p .Semicolon) := badHead_p (by decide) rfl (by decide)

theorem optExpr_reads (o : Option XExpr) (hw : WFOpt W o) (c : Tok) (hc : c = .p .Semicolon ∨ c = .p .RightParen)
    (rest : List Tok) (hsafe : hasLtOpt o = true → TmplFree (toks (fmtOptExpr o) ++ c :: rest) = true) :
    ∃ N, ∀ f, N ≤ f → parseOptExpr W f (toks (fmtOptExpr o) ++ c :: rest) = some (o, c :: rest) := by
  cases o with
  | none =>
    refine LevelParser.Ev.of_all fun f => ?_
    simp only [fmtOptExpr, toks_nil, List.nil_append]
    unfold parseOptExpr
    rcases hc with rfl | rfl
    · rw [xparseLvl_badhead W _ _ badHead_semi]
    · rw [xparseLvl_badhead W _ _ badHead_rparen]
  | some e =>
    have htoks : toks (fmtOptExpr (some e)) = toks (fmtExprX e) := by simp [fmtOptExpr]
    rw [htoks] at hsafe ⊢
    refine LevelParser.Ev.mono (expr_reads W e hw c (by rcases hc with h | h; exact Or.inr (Or.inr (Or.inr h)); exact Or.inl h) rest
      (fun hl => hsafe (by simpa [hasLtOpt] using hl))) fun f h => ?_
    unfold parseOptExpr
    rw [h]

theorem varDef_toks_len (v : VarDef) (hw : WFVarDef W v) : 2 ≤ (toks (fmtVarDef v)).length := by
  obtain ⟨_, _, hne, hwD⟩ := hw
  obtain ⟨t0, r0, ht0, _⟩ := ids_head W v.defs hne hwD
  rw [toks_fmtVarDef, ht0]
  simp only [List.length_append, List.length_cons, List.length_map]
  omega

theorem forInit_reads (i : ForInit) (hw : WFForInit W i) (rest : List Tok)
    (hsafe : hasLtForInit i = true → TmplFree (toks (fmtForInit i) ++ .p .Semicolon :: rest) = true) :
    ∃ N, ∀ f, N ≤ f → parseForInit W f (toks (fmtForInit i) ++ .p .Semicolon :: rest) = some (i, .p .Semicolon :: rest) := by
  cases i with
  | empty =>
    refine LevelParser.Ev.of_all fun f => ?_
    simp only [fmtForInit, toks_nil, List.nil_append]
    unfold parseForInit
    rw [xparseLvl_badhead W _ _ badHead_semi]
    rw [parseVarDef_badhead W f _ rest rfl (by intro n h; cases h)]
  | expr e =>
    obtain ⟨hwe, hdead⟩ := hw
    simp only [fmtForInit] at hsafe ⊢
    have h := expr_reads W e hwe _ (Or.inr (Or.inr (Or.inr rfl))) rest (fun hl => hsafe (by simpa [hasLtForInit] using hl))
    refine LevelParser.Ev.mono h fun f h => ?_
    unfold parseForInit
    rw [h, varDef_dead W _ _ rest hdead f]
  | decl v =>
    obtain ⟨hwv, hdead⟩ := hw
    simp only [fmtForInit] at hsafe ⊢
    have h := varDef_reads W v hwv (.p .Semicolon :: rest) ⟨rest, rfl⟩ (fun hl => hsafe (by simpa [hasLtForInit] using hl))
    refine LevelParser.Ev.mono (LevelParser.Ev.and h (expr_dead_var W (toks (fmtVarDef v)) hdead (.p .Semicolon :: rest))) fun f ⟨h, hx⟩ => ?_
    unfold parseForInit
    rw [h]
    -- an expression reading takes at most one token, the definition at least two: the definition is the longer
    cases hp : xparseLvl W f 15 .Standard (toks (fmtVarDef v) ++ .p .Semicolon :: rest) with
    | none => rfl
    | some er =>
      have hlen := varDef_toks_len W v hwv
      have := (hx er.1 er.2 hp).2
      simp only [List.length_append, List.length_cons] at this
      exact if_pos (by simp only [List.length_cons]; omega)

theorem rk_for (i : ForInit) (c n : Option XExpr) (body : Stmt) (hwi : WFForInit W i) (hwc : WFOpt W c) (hwn : WFOpt W n)
    (ihb : RS W body) : RK W (.forS i c n body) := by
  intro rest hne hopen hsafe
  have htoks : toks (fmtKind (.forS i c n body)) ++ rest = .p .For :: .p .LeftParen :: (toks (fmtForInit i) ++
      (.p .Semicolon :: (toks (fmtOptExpr c) ++ (.p .Semicolon :: (toks (fmtOptExpr n) ++
        (.p .RightParen :: (toks (fmtStmt body) ++ rest))))))) := by
    simp [fmtKind, pp, kw, semi]
  rw [htoks] at hsafe ⊢
  have h1 := forInit_reads W i hwi _
    (SafeAt.mono (SafeAt.cons (SafeAt.cons hsafe)) fun hl => by simp [hasLtK, hl])
  have h2 := optExpr_reads W c hwc _ (Or.inl rfl) _
    (SafeAt.mono (SafeAt.cons (SafeAt.append (SafeAt.cons (SafeAt.cons hsafe)))) fun hl => by simp [hasLtK, hl])
  have h3 := optExpr_reads W n hwn _ (Or.inr rfl) _
    (SafeAt.mono (SafeAt.cons (SafeAt.append (SafeAt.cons (SafeAt.append (SafeAt.cons (SafeAt.cons hsafe)))))) fun hl => by simp [hasLtK, hl])
  have h4 := ihb rest hne (fun ho => hopen (by simpa [openIfK] using ho))
    (SafeAt.mono (SafeAt.cons (SafeAt.append (SafeAt.cons (SafeAt.append (SafeAt.cons (SafeAt.append (SafeAt.cons (SafeAt.cons hsafe)))))))) fun hl => by simp [hasLtK, hl])
  refine LevelParser.Ev.step (LevelParser.Ev.and (LevelParser.Ev.and (LevelParser.Ev.and h1 h2) h3) h4) fun f ⟨⟨⟨h1, h2⟩, h3⟩, h4⟩ => ?_
  simp [parseKind, h1, h2, h3, h4]

mutual
def WFS : Stmt → Prop
  | .mk attrs k => WFAttrs W attrs ∧ WFK k
def WFK : Kind → Prop
  | .empty => True
  | .expr e => WF W e ∧ declDeadB (toks (fmtExprX e) ++ [.p .Semicolon]) = true
  | .var v => WFVarDef W v ∧ varExprDeadB (toks (fmtVarDef v)) = true
  | .block b => WFSs b
  | .ifS c t => WF W c ∧ WFS t
  | .ifElse c t e => WF W c ∧ WFS t ∧ openIf t = false ∧ WFS e
  | .forS i c n b => WFForInit W i ∧ WFOpt W c ∧ WFOpt W n ∧ WFS b
  | .whileS c b => WF W c ∧ WFS b
  | .doWhile b c => WFS b ∧ WF W c
  | .switchS c b => WF W c ∧ WFS b
  | .breakS => True
  | .continueS => True
  | .discardS => True
  | .ret e => WFOpt W e
  | .caseS v n => WF W v ∧ WFS n
  | .defaultS n => WFS n
def WFSs : Stmts → Prop
  | .nil => True
  | .cons s r => WFS s ∧ WFSs r
end

/-- none of `[`, `else`, `}` starts a statement kind: they begin neither an expression nor a type -/
theorem parseKind_closer (f : Nat) (t : Tok) (r : List Tok)
    (ht : t = .p .LeftSquareBracket ∨ t = .p .Else ∨ t = .p .RightBrace) : parseKind W f (t :: r) = .fail := by
  cases f with
  | zero => rfl
  | succ f =>
    have hb : BadHead t := by rcases ht with rfl | rfl | rfl <;> exact badHead_p (by decide) rfl (by decide)
    have hs : modBeforeStep t = .stop := by rcases ht with rfl | rfl | rfl <;> rfl
    have hd : parseDeclOrExpr W f (t :: r) = .fail := by
      unfold parseDeclOrExpr
      simp [parseVarDef_badhead W f t r hs hb.1, xparseLvl_badhead W t r hb]
    rcases ht with rfl | rfl | rfl <;> simpa [parseKind] using hd

theorem parseStmt_closer (f : Nat) (t : Tok) (r : List Tok) (ht : t = .p .Else ∨ t = .p .RightBrace) :
    parseStmt W f (t :: r) = .fail := by
  cases f with
  | zero => rfl
  | succ f =>
    unfold parseStmt
    cases f with
    | zero => rfl
    | succ f => rcases ht with rfl | rfl <;> simp [parseAttrs, parseKind_closer]

/-! That the kind does not start with `[`, the statement not with `}` and what follows it not with `else` is read off the
parsers having accepted them, not off the printed form. -/

theorem rs_of_rk (attrs : List Attr) (k : Kind) (hwa : WFAttrs W attrs) (ihk : RK W k) : RS W (.mk attrs k) := by
  intro rest hne hopen hsafe
  rw [toks_fmtStmt] at hsafe ⊢
  simp only [List.append_assoc] at hsafe ⊢
  have h2 := ihk rest hne (fun ho => hopen (by simpa [openIf] using ho))
    (SafeAt.mono (SafeAt.append hsafe) fun hl => by simp [hasLtS, hl])
  have h1 := attrs_read W attrs hwa (toks (fmtKind k) ++ rest)
    (fun r e => by
      obtain ⟨f, hf⟩ := Fuel.Ev.exists h2
      rw [e, parseKind_closer W f _ r (.inl rfl)] at hf
      cases hf)
    (fun hl => hsafe (by simp [hasLtS, hl]))
  refine LevelParser.Ev.step (LevelParser.Ev.and h1 h2) fun f ⟨h1, h2⟩ => ?_
  unfold parseStmt
  simp [h1, h2]

theorem rss_cons (s : Stmt) (r : Stmts) (ihs : RS W s) (ihr : RSs W r) : RSs W (.cons s r) := by
  intro rest hsafe
  have htoks : toks (fmtStmts (.cons s r)) ++ .p .RightBrace :: rest =
      toks (fmtStmt s) ++ (toks (fmtStmts r) ++ .p .RightBrace :: rest) := by
    simp [fmtStmts]
  rw [htoks] at hsafe ⊢
  have h2 := ihr rest (SafeAt.mono (SafeAt.append hsafe) fun hl => by simp [hasLtSs, hl])
  -- what follows the statement is the rest of a block: never `else`
  have hnoelse : ∀ r', toks (fmtStmts r) ++ .p .RightBrace :: rest ≠ .p .Else :: r' := by
    intro r' e
    obtain ⟨f, hf⟩ := Fuel.Ev.exists h2
    rw [e] at hf
    cases f <;> simp [parseStmts, parseStmt_closer] at hf
  have h1 := ihs (toks (fmtStmts r) ++ .p .RightBrace :: rest) (by simp) (fun _ => hnoelse)
    (fun hl => hsafe (by simp [hasLtSs, hl]))
  refine LevelParser.Ev.step (LevelParser.Ev.and h1 h2) fun f ⟨h1, h2⟩ => ?_
  unfold parseStmts
  split
  · rename_i heq; rw [heq, parseStmt_closer W f _ _ (.inr rfl)] at h1; cases h1
  · simp [h1, h2]

mutual
theorem rs : (s : Stmt) → WFS W s → RS W s
  | .mk attrs k, h => rs_of_rk W attrs k h.1 (rk k h.2)
theorem rk : (k : Kind) → WFK W k → RK W k
  | .empty, _ => rk_empty W
  | .expr e, h => rk_expr W e h.1 h.2
  | .var v, h => rk_var W v h.1 h.2
  | .block b, h => rk_block W b (rss b h)
  | .ifS c t, h => rk_if W c t h.1 (rs t h.2)
  | .ifElse c t e, h => rk_ifElse W c t e h.1 h.2.2.1 (rs t h.2.1) (rs e h.2.2.2)
  | .forS i c n b, h => rk_for W i c n b h.1 h.2.1 h.2.2.1 (rs b h.2.2.2)
  | .whileS c b, h => rk_while W c b h.1 (rs b h.2)
  | .doWhile b c, h => rk_doWhile W b c h.2 (rs b h.1)
  | .switchS c b, h => rk_switch W c b h.1 (rs b h.2)
  | .breakS, _ => rk_break W
  | .continueS, _ => rk_continue W
  | .discardS, _ => rk_discard W
  | .ret none, _ => rk_ret_none W
  | .ret (some e), h => rk_ret_some W e h
  | .caseS v n, h => rk_case W v n h.1 (rs n h.2)
  | .defaultS n, h => rk_default W n (rs n h)
theorem rss : (b : Stmts) → WFSs W b → RSs W b
  | .nil, _ => rss_nil W
  | .cons s r, h => rss_cons W s r (rs s h.1) (rss r h.2)
end

end RsslVerif.Lemmas.StmtRT
