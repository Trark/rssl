import RsslVerif.Lemmas.GenMslStmt
/-! Metal exporter, functions: running the emitted definition that carries the source body (a plain function or a
trampoline target) on arguments placed at the parameter slots equals running the typed function. -/
namespace RsslVerif.Lemmas.GenMsl
open RsslVerif.Gen.HlslGenTables RsslVerif.Gen.MslGenTables RsslVerif.Model RsslVerif.Model.GenMsl RsslVerif.Spec.Sem
open RsslVerif.Model.Ir (Ty Var Const Dir)
open RsslVerif.Model.GenHlsl (GenErr)
open RsslVerif.Lemmas.GenSem (bindS ModeOK)
/-- the body loop of `generate_function_inner` (no label handling): same flow, same store -/
theorem sim_bodyM {W : World} {M : Msl.MWorld} {env : Ast.Env} {cx : Ctx} {vis : Var → Bool} {rsv : Nat → List Var}
    (hag : AgreeM cx vis env) (hw : Worlds cx rsv W M) (rt : Ty) :
    ∀ (b : Ir.Stmts) (b' : HlslAst.Stmts), genBody cx b = .ok b' → Ir.wtStmtsM (side cx W vis rsv) rt none b = true →
      ∀ fuel σ, Msl.execs M env rt fuel .run b' σ = Ir.execs W fuel .run b σ := by
  intro b
  fun_induction genBody cx b <;> intro b' hg hwt <;> cases hg
  · exact fun fuel σ => rfl
  next s r s' hs r' hr ih =>
    simp only [Ir.wtStmtsM, Bool.and_eq_true] at hwt
    have h1 := sim_stmtM hag hw rt s s' none hs hwt.1 .run trivial
    intro fuel σ
    simp only [Msl.execs, Ir.execs, h1 fuel σ, ih r' hr hwt.2 fuel]
    rfl

/-- a frame environment resolves the visible variables to themselves -/
def Res (cx : Ctx) (vis : Var → Bool) (ρ : String → Option Var) : Prop := ∀ x, vis x = true → ρ (cx.name x) = some x

/-- binding the name of a visible variable to that variable keeps `Res` (names of visible variables are distinct) -/
theorem Res.bind {cx : Ctx} {vis : Var → Bool} {ρ : String → Option Var}
    (hinj : ∀ x y, vis x = true → vis y = true → cx.name x = cx.name y → x = y)
    (h : Res cx vis ρ) (y : Var) (hy : vis y = true) :
    Res cx vis (fun s => if s = cx.name y then some y else ρ s) := by
  intro x hx
  by_cases hn : cx.name x = cx.name y
  · simp [hinj x y hx hy hn]
  · simp [hn, h x hx]

/-- the arguments of the definition that carries the body: values for `in` parameters, the parameter's own slot for
out/inout parameters -/
def slotArgs : List (Nat × Dir × Ty) → List Val → List Msl.MArg
  | (id, d, _) :: ps, v :: vs => (if d = .in_ then Msl.MArg.val v else Msl.MArg.ref (.loc id)) :: slotArgs ps vs
  | _, _ => []

/-- the out/inout slots already hold the argument values -/
def Preset : List (Nat × Dir × Ty) → List Val → Store → Prop
  | (id, d, _) :: ps, v :: vs, σ => (d ≠ .in_ → σ (.loc id) = v) ∧ Preset ps vs σ
  | _, _, _ => True

theorem preset_set {ps : List (Nat × Dir × Ty)} : ∀ {vs : List Val} {σ : Store} {id : Nat} {v : Val},
    (∀ p ∈ ps, p.1 ≠ id) → Preset ps vs σ → Preset ps vs (σ.set (.loc id) v) := by
  induction ps with
  | nil => intro vs σ id v _ _; cases vs <;> simp [Preset]
  | cons p ps ih =>
    intro vs σ id v hne h
    obtain ⟨pid, d, T⟩ := p
    cases vs with
    | nil => simp [Preset]
    | cons w ws =>
      simp only [Preset] at h ⊢
      refine ⟨fun hd => ?_, ih (fun q hq => hne q (List.mem_cons_of_mem _ hq)) h.2⟩
      have : pid ≠ id := hne (pid, d, T) (by simp)
      simp [Store.set, this, h.1 hd]

theorem bind_user {cx : Ctx} {vis : Var → Bool} (slot : String → Option Var)
    (hinj : ∀ x y, vis x = true → vis y = true → cx.name x = cx.name y → x = y) :
    ∀ (ps : List (Nat × Dir × Ty)) (mps : List MslAst.Param) (vals : List Val) (ρ : String → Option Var) (σ : Store)
      (rest : List MslAst.Param) (restArgs : List Msl.MArg),
      GenMsl.genParams cx ps = .ok mps → vals.length = ps.length →
      (∀ p ∈ ps, vis (.loc p.1) = true ∧ slot (cx.locName p.1) = some (.loc p.1)) →
      (ps.map (·.1)).Nodup → Preset ps vals σ → Res cx vis ρ →
      ∃ ρ1, Res cx vis ρ1 ∧
        Msl.bindArgs slot (mps ++ rest) (slotArgs ps vals ++ restArgs) ρ σ =
          Msl.bindArgs slot rest restArgs ρ1 (Ir.bindParams ps vals σ)
  | [], mps, vals, ρ, σ, rest, restArgs, hg, hlen, _, _, _, hρ => by
    rw [genParams_nil_ok hg]
    cases vals with
    | nil => exact ⟨ρ, hρ, by simp [slotArgs, Ir.bindParams]⟩
    | cons v vs => simp at hlen
  | (id, d, T) :: ps, mps, [], ρ, σ, rest, restArgs, hg, hlen, hvis, hnd, hpre, hρ => by simp at hlen
  | (id, d, T) :: ps, mps, v :: vs, ρ, σ, rest, restArgs, hg, hlen, hvis, hnd, hpre, hρ => by
    obtain ⟨tn, mps', _, hr, rfl⟩ := genParams_cons_ok hg
    have hv0 := hvis (id, d, T) (by simp)
    obtain ⟨hid, hnd'⟩ := List.nodup_cons.mp hnd
    have hne : ∀ p ∈ ps, p.1 ≠ id := fun p hp h => hid (h ▸ List.mem_map_of_mem (f := (·.1)) hp)
    simp only [Preset] at hpre
    have hlen' : vs.length = ps.length := by simpa using hlen
    have hvis' := fun p hp => hvis p (List.mem_cons_of_mem _ hp)
    by_cases hd : d = .in_
    · subst hd
      obtain ⟨ρ1, h1, h2⟩ := bind_user slot hinj ps mps' vs ρ (σ.set (.loc id) v) rest restArgs hr hlen' hvis' hnd'
        (preset_set hne hpre.2) hρ
      exact ⟨ρ1, h1, by simp [slotArgs, Msl.bindArgs, hv0.2, Ir.bindParams, h2]⟩
    · have hσ : σ.set (.loc id) v = σ := by rw [← hpre.1 hd]; exact set_self σ _
      obtain ⟨ρ1, h1, h2⟩ := bind_user slot hinj ps mps' vs (fun s => if s = cx.locName id then some (.loc id) else ρ s) σ rest restArgs
        hr hlen' hvis' hnd' hpre.2 (Res.bind hinj hρ (.loc id) hv0.1)
      exact ⟨ρ1, h1, by simp [slotArgs, hd, Msl.bindArgs, Ir.bindParams, hσ, h2]⟩

/-- `bindArgs` on the parameters for statics: their names are bound to the statics, the store is untouched; afterwards
every visible variable is resolved (before, the statics still to be bound need not be) -/
theorem bind_globals {cx : Ctx} {vis : Var → Bool} (slot : String → Option Var)
    (hinj : ∀ x y, vis x = true → vis y = true → cx.name x = cx.name y → x = y) :
    ∀ (gs : List Nat) (gps : List MslAst.Param) (ρ : String → Option Var) (σ : Store),
      GenMsl.genGlobalParams cx gs = .ok gps → (∀ g ∈ gs, vis (.glob g) = true) →
      (∀ x, vis x = true → (∀ g ∈ gs, x ≠ .glob g) → ρ (cx.name x) = some x) →
      ∃ ρ1, Res cx vis ρ1 ∧ Msl.bindArgs slot gps (globMArgs gs) ρ σ = some (ρ1, σ)
  | [], gps, ρ, σ, hg, _, hρ => by
    rw [genGlobalParams_nil_ok hg]
    exact ⟨ρ, fun x hx => hρ x hx (by simp), by simp [globMArgs, Msl.bindArgs]⟩
  | g :: gs, gps, ρ, σ, hg, hvis, hρ => by
    obtain ⟨tn, gps', _, hr, rfl⟩ := genGlobalParams_cons_ok hg
    have hvg := hvis g (by simp)
    obtain ⟨ρ1, h1, h2⟩ := bind_globals slot hinj gs gps' (fun s => if s = cx.globName g then some (.glob g) else ρ s) σ hr
      (fun g' hg' => hvis g' (List.mem_cons_of_mem _ hg'))
      (by
        intro x hx hnot
        by_cases hxg : x = .glob g
        · subst hxg; simp [Ctx.name]
        · have hn : cx.name x ≠ cx.globName g := fun h => hxg (hinj x (.glob g) hx hvg h)
          simp only [hn, if_false]
          exact hρ x hx (by
            intro g' hg'
            rcases List.mem_cons.mp hg' with rfl | h
            · exact hxg
            · exact hnot g' h))
    refine ⟨ρ1, h1, ?_⟩
    simp only [globMArgs, List.map_cons] at h2 ⊢
    simp [Msl.bindArgs, h2]

/-- the layout of the emitted module agrees with the IR for one function: locals (and the file-scope constants) live at
the IR's variable ids; statics threaded as parameters are **not** in the frame: they are reachable only through the
reference parameters -/
structure AgreeL (cx : Ctx) (L : Msl.Layout) (fn : Ir.Func) (vis0 : Var → Bool) : Prop where
  vty : L.vty = cx.vty
  fres : ∀ f, L.fres (cx.funcName f) = some f
  notLib : ∀ f, cx.funcName f ≠ Msl.fmodName ∧ cx.funcName f ≠ Msl.tagName
  frame : Res cx vis0 (L.frame (cx.funcName fn.id))
  params : ∀ p ∈ fn.params, vis0 (.loc p.1) = true

/-- what is in scope inside a function: its frame, plus the statics it receives -/
def visWith (vis0 : Var → Bool) (gs : List Nat) : Var → Bool := fun x =>
  vis0 x || (match x with | .glob g => gs.contains g | .loc _ => false)

theorem genParams_length {cx : Ctx} : ∀ (ps : List (Nat × Dir × Ty)) (mps : List MslAst.Param),
    GenMsl.genParams cx ps = .ok mps → mps.length = ps.length
  | [], mps, h => by rw [genParams_nil_ok h]; rfl
  | (pid, d, T) :: ps, mps, h => by
    obtain ⟨_, mps', _, hr, rfl⟩ := genParams_cons_ok h
    simp [genParams_length ps mps' hr]

/-- **function level** (the definition that carries the source body): with the out/inout arguments placed at the
parameter slots, same return value and same final store as the typed function, up to the reclaimed scratch slots -/
theorem sim_funcM {W : World} {M : Msl.MWorld} {cx : Ctx} {L : Msl.Layout} {rsv : Nat → List Var} {vis0 : Var → Bool}
    {fn : Ir.Func} {mfn : MslAst.Func} {gs : List Nat} {tgt : Bool}
    (hL : AgreeL cx L fn vis0) (hw : Worlds cx rsv W M) (hreq : cx.req fn.id = some gs)
    (hinj : ∀ x y, visWith vis0 gs x = true → visWith vis0 gs y = true → cx.name x = cx.name y → x = y)
    (hnd : (fn.params.map (·.1)).Nodup)
    (hg : genFuncInner cx fn tgt false = .ok mfn)
    (hwt : Ir.wtStmtsM (side cx W (visWith vis0 gs) rsv) fn.ret none fn.body = true) :
    ∀ fuel vals σ, vals.length = fn.params.length → Preset fn.params vals σ →
      Msl.callFunc M L fuel mfn (slotArgs fn.params vals ++ ((if tgt then [Msl.MArg.tag] else []) ++ globMArgs gs)) σ =
        (Ir.callFunc W fuel fn vals σ).map (fun r => (r.1, Msl.restore (L.scratch (cx.funcName fn.id)) σ r.2.2)) := by
  obtain ⟨rt, ps', gps, body, hrt, hps, hgp, hb, rfl⟩ := genFuncInner_ok hreq hg
  simp only [Bool.false_eq_true, if_false] at hb
  intro fuel vals σ hlen hpre
  have hvis0 : ∀ x, vis0 x = true → visWith vis0 gs x = true := by intro x hx; simp [visWith, hx]
  have hinj0 : ∀ x y, vis0 x = true → vis0 y = true → cx.name x = cx.name y → x = y :=
    fun x y hx hy => hinj x y (hvis0 x hx) (hvis0 y hy)
  obtain ⟨ρ1, hρ1, hb1⟩ := bind_user (vis := vis0) (L.frame (cx.funcName fn.id)) hinj0 fn.params ps' vals
    (L.frame (cx.funcName fn.id)) σ ((if tgt then [MslAst.Param.tag tagType] else []) ++ gps)
    ((if tgt then [Msl.MArg.tag] else []) ++ globMArgs gs) hps hlen
    (fun p hp => ⟨hL.params p hp, by have := hL.frame (.loc p.1) (hL.params p hp); simpa [Ctx.name] using this⟩)
    hnd hpre hL.frame
  obtain ⟨ρ2, hρ2, hb2⟩ := bind_globals (vis := visWith vis0 gs) (L.frame (cx.funcName fn.id)) hinj gs gps ρ1
    (Ir.bindParams fn.params vals σ) hgp (fun g hg' => by simp [visWith, hg'])
    (by
      intro x hx hnot
      apply hρ1 x
      simp only [visWith, Bool.or_eq_true] at hx
      cases hx with
      | inl h => exact h
      | inr h =>
        cases x with
        | loc n => simp at h
        | glob g => simp at h; exact absurd rfl (hnot g h))
  have hbind : Msl.bindArgs (L.frame (cx.funcName fn.id))
      (ps' ++ ((if tgt then [MslAst.Param.tag tagType] else []) ++ gps))
      (slotArgs fn.params vals ++ ((if tgt then [Msl.MArg.tag] else []) ++ globMArgs gs))
      (L.frame (cx.funcName fn.id)) σ = some (ρ2, Ir.bindParams fn.params vals σ) := by
    rw [hb1]
    cases tgt <;> simp [Msl.bindArgs, hb2]
  have hag : AgreeM cx (visWith vis0 gs) { res := ρ2, vty := L.vty, fres := L.fres } :=
    { res := hρ2, vty := hL.vty, fres := hL.fres, notLib := hL.notLib }
  have hbody := sim_bodyM hag hw fn.ret fn.body body hb hwt fuel (Ir.bindParams fn.params vals σ)
  have hlen' : ¬ vals.length ≠ fn.params.length := by simpa using hlen
  simp only [Msl.callFunc, typeName_tyOfName hrt, hbind, hbody, Ir.callFunc, hlen', if_false]
  cases Ir.execs W fuel .run fn.body (Ir.bindParams fn.params vals σ) with
  | none => rfl
  | some r => obtain ⟨fl, σ1⟩ := r; rfl

end RsslVerif.Lemmas.GenMsl
