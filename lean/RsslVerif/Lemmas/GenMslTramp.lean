import RsslVerif.Lemmas.GenMslFunc
/-! Metal exporter, the out/inout trampoline: executing `generate_function_out_trampoline_body` in a frame whose
reference parameters are bound to arbitrary caller variables (possibly aliasing each other and the statics) is
copy-in, the call of the target on the trampoline's own locals, copy-out in parameter order. -/
namespace RsslVerif.Lemmas.GenMsl
open RsslVerif.Gen.HlslGenTables RsslVerif.Gen.MslGenTables RsslVerif.Model RsslVerif.Model.GenMsl RsslVerif.Spec.Sem
open RsslVerif.Model.Ir (Ty Var Const Dir)
open RsslVerif.Model.GenHlsl (GenErr)
abbrev CArgs := List (Val × Option Var)

def slotsOf (ps : Params) : List Var := ps.map fun p => Var.loc p.1

/-- what `bindArgs` stores for the by-value parameters -/
def bindIn : Params → CArgs → Store → Store
  | (pid, _, _) :: ps, (v, none) :: l, σ => bindIn ps l (σ.set (.loc pid) v)
  | _ :: ps, _ :: l, σ => bindIn ps l σ
  | _, _, σ => σ

/-- what the declarations of the trampoline store: `T __p = p;` for inout, `T __p;` for out -/
def copyIn : Params → CArgs → Store → Store
  | (pid, d, _) :: ps, (_, some x) :: l, σ => copyIn ps l (if d = .inout then σ.set (.loc pid) (σ x) else σ)
  | _ :: ps, _ :: l, σ => copyIn ps l σ
  | _, _, σ => σ

/-- what the copies back store: `p = __p;` in parameter order -/
def copyOut : Params → CArgs → Store → Store
  | (pid, _, _) :: ps, (_, some x) :: l, σ => copyOut ps l (σ.set x (σ (.loc pid)))
  | _ :: ps, _ :: l, σ => copyOut ps l σ
  | _, _, σ => σ

/-- the values the typed function is entered with: the argument value for `in`, the current value of the argument
variable for `inout`, whatever the parameter slot holds for `out` (the declaration `T __p;` has no initialiser) -/
def valsIn : Params → CArgs → Store → List Val
  | (pid, d, _) :: ps, (v, o) :: l, σ =>
    (match o with
      | none => v
      | some x => if d = .inout then σ x else σ (.loc pid)) :: valsIn ps l σ
  | _, _, _ => []

/-- the argument variables are outside the parameter slots (and the scratch slot `xo`), kinds and types fit -/
def ArgsOK (vty : Var → Ty) (slots : List Var) (xo : Var) : Params → CArgs → Prop
  | (pid, d, T) :: ps, (_, o) :: l =>
    vty (.loc pid) = T ∧
    (match o with
      | none => d = .in_
      | some x => d ≠ .in_ ∧ vty x = T ∧ x ∉ slots ∧ x ≠ xo) ∧
    ArgsOK vty slots xo ps l
  | [], [] => True
  | _, _ => False

theorem not_mem_slots_cons {pid : Nat} {d : Dir} {T : Ty} {ps : Params} {y : Var}
    (h : y ∉ slotsOf ((pid, d, T) :: ps)) : y ≠ .loc pid ∧ y ∉ slotsOf ps := by
  simp only [slotsOf, List.map_cons, List.mem_cons, not_or] at h
  exact ⟨h.1, by simpa [slotsOf] using h.2⟩

/-- induction along `ArgsOK`: no parameter, a by-value argument for an `in` parameter, a variable for an out/inout one -/
theorem ArgsOK.induction {vty : Var → Ty} {slots : List Var} {xo : Var}
    {motive : (ps : Params) → (l : CArgs) → ArgsOK vty slots xo ps l → Prop}
    (nil : motive [] [] trivial)
    (val : ∀ pid T ps v l (hT : vty (.loc pid) = T) (h : ArgsOK vty slots xo ps l), motive ps l h →
      motive ((pid, .in_, T) :: ps) ((v, none) :: l) ⟨hT, rfl, h⟩)
    (ref : ∀ pid d T ps v x l (hT : vty (.loc pid) = T) (hd : d ≠ .in_) (hx : vty x = T) (hxs : x ∉ slots) (hxo : x ≠ xo)
      (h : ArgsOK vty slots xo ps l), motive ps l h → motive ((pid, d, T) :: ps) ((v, some x) :: l) ⟨hT, ⟨hd, hx, hxs, hxo⟩, h⟩) :
    ∀ (ps : Params) (l : CArgs) (h : ArgsOK vty slots xo ps l), motive ps l h
  | [], [], _ => nil
  | [], _ :: _, h => by simp [ArgsOK] at h
  | _ :: _, [], h => by simp [ArgsOK] at h
  | (pid, d, T) :: ps, (v, none) :: l, h => by
    obtain ⟨hT, rfl, h'⟩ := h
    exact val pid T ps v l hT h' (ArgsOK.induction nil val ref ps l h')
  | (pid, d, T) :: ps, (v, some x) :: l, h => by
    obtain ⟨hT, ⟨hd, hx, hxs, hxo⟩, h'⟩ := h
    exact ref pid d T ps v x l hT hd hx hxs hxo h' (ArgsOK.induction nil val ref ps l h')

theorem slots_sub_tail {slots : List Var} {p : Nat × Dir × Ty} {ps : Params} (h : ∀ y ∈ slotsOf (p :: ps), y ∈ slots) :
    Var.loc p.1 ∈ slots ∧ ∀ y ∈ slotsOf ps, y ∈ slots :=
  ⟨h _ (by simp [slotsOf]), fun y hy => h y (by simp only [slotsOf, List.map_cons, List.mem_cons]; exact .inr hy)⟩

section
variable {vty : Var → Ty} {slots : List Var} {xo : Var}

theorem bindIn_set (ps : Params) (l : CArgs) (σ : Store) (y : Var) (w : Val) (h : ArgsOK vty slots xo ps l)
    (hy : y ∉ slotsOf ps) : bindIn ps l (σ.set y w) = (bindIn ps l σ).set y w := by
  induction ps, l, h using ArgsOK.induction generalizing σ with
  | nil => rfl
  | val pid T ps v l _ _ ih =>
    obtain ⟨hy1, hy2⟩ := not_mem_slots_cons hy
    simp only [bindIn]; rw [set_comm _ _ _ _ _ hy1, ih _ hy2]
  | ref pid d T ps v x l _ _ _ _ _ _ ih => exact ih σ (not_mem_slots_cons hy).2

theorem bindIn_off (ps : Params) (l : CArgs) (σ : Store) (y : Var) (h : ArgsOK vty slots xo ps l)
    (hy : y ∉ slotsOf ps) : bindIn ps l σ y = σ y := by
  have := congrFun (bindIn_set ps l σ y (σ y) h hy) y
  rw [set_self] at this
  rw [this]; simp [Store.set]

theorem valsIn_set (ps : Params) (l : CArgs) (σ : Store) (y : Var) (w : Val) (h : ArgsOK vty slots xo ps l)
    (hy : y ∉ slotsOf ps) (hys : y ∈ slots) : valsIn ps l (σ.set y w) = valsIn ps l σ := by
  induction ps, l, h using ArgsOK.induction with
  | nil => rfl
  | val pid T ps v l _ _ ih => simp [valsIn, ih (not_mem_slots_cons hy).2]
  | ref pid d T ps v x l _ _ _ hxs _ _ ih =>
    obtain ⟨hy1, hy2⟩ := not_mem_slots_cons hy
    have hx : x ≠ y := fun hxy => hxs (hxy ▸ hys)
    simp [valsIn, ih hy2, Store.set, hx, hy1.symm]

/-- **by-value binding followed by the copy-in declarations is the typed semantics' parameter binding** with the values
`valsIn` (all stores involved differ from `σ` only on the parameter slots, the argument variables lie outside) -/
theorem copyIn_bindIn (ps : Params) (l : CArgs) (σ : Store) (h : ArgsOK vty slots xo ps l) (hnd : (ps.map (·.1)).Nodup)
    (hsub : ∀ y ∈ slotsOf ps, y ∈ slots) : copyIn ps l (bindIn ps l σ) = Ir.bindParams ps (valsIn ps l σ) σ := by
  induction ps, l, h using ArgsOK.induction generalizing σ with
  | nil => rfl
  | val pid T ps v l _ h ih =>
    obtain ⟨hpid, hnd'⟩ := List.nodup_cons.mp hnd
    obtain ⟨hpids, hsub'⟩ := slots_sub_tail hsub
    have hpid' : Var.loc pid ∉ slotsOf ps := by simpa [slotsOf] using hpid
    simp only [bindIn, copyIn, valsIn, Ir.bindParams]
    rw [ih _ hnd' hsub', valsIn_set ps l σ _ v h hpid' hpids]
  | ref pid d T ps v x l _ _ _ hxs _ h ih =>
    obtain ⟨hpid, hnd'⟩ := List.nodup_cons.mp hnd
    obtain ⟨hpids, hsub'⟩ := slots_sub_tail hsub
    have hpid' : Var.loc pid ∉ slotsOf ps := by simpa [slotsOf] using hpid
    have hxps : x ∉ slotsOf ps := fun hc => hxs (hsub' x hc)
    by_cases hio : d = .inout
    · simp only [bindIn, copyIn, valsIn, Ir.bindParams, hio, if_true]
      rw [bindIn_off ps l σ x h hxps, ← bindIn_set ps l σ _ _ h hpid', ih _ hnd' hsub', valsIn_set ps l σ _ _ h hpid' hpids]
    · simp only [bindIn, copyIn, valsIn, Ir.bindParams, hio, if_false]
      rw [set_self, ih σ hnd' hsub']

end

/-- the copies back are the typed semantics' `writeBack` of the final contents of the parameter slots -/
theorem copyOut_writeBack {vty : Var → Ty} {slots : List Var} {xo : Var} :
    ∀ (ps : Params) (l : CArgs) (σ : Store), ArgsOK vty slots xo ps l → (∀ y ∈ slotsOf ps, y ∈ slots) →
      copyOut ps l σ = writeBack (l.map (·.2)) (ps.map (fun p => σ (.loc p.1))) σ := by
  intro ps l σ h hsub
  induction ps, l, h using ArgsOK.induction generalizing σ with
  | nil => rfl
  | val pid T ps v l _ _ ih => simp only [copyOut, List.map_cons, writeBack]; exact ih σ (slots_sub_tail hsub).2
  | ref pid d T ps v x l _ _ _ hxs _ _ ih =>
    have hsub' := (slots_sub_tail hsub).2
    simp only [copyOut, List.map_cons, writeBack]
    rw [ih _ hsub']
    congr 1
    apply List.map_congr_left
    intro p hp
    have : x ≠ Var.loc p.1 := fun hc => hxs (hsub' _ (by rw [hc]; simp only [slotsOf]; exact List.mem_map_of_mem hp))
    simp [Store.set, this.symm]

/-- how the names of the trampoline's parameters and locals resolve in its frame: a by-value parameter at its slot, a
reference parameter at the caller's variable, the local `__p` at the parameter slot of the typed function -/
def TEnv (cx : Ctx) (env : Ast.Env) : Params → CArgs → Prop
  | (pid, _, _) :: ps, (_, o) :: l =>
    (match o with
      | none => env.res (cx.locName pid) = some (.loc pid)
      | some x => env.res (cx.locName pid) = some x ∧ env.res (trampLocal cx pid) = some (.loc pid)) ∧
    TEnv cx env ps l
  | _, _ => True

theorem execs_cons_run (M : Msl.MWorld) (env : Ast.Env) (rt : Ty) (fuel : Nat) (s : HlslAst.Stmt) (r : HlslAst.Stmts) (σ σ1 : Store)
    (h : Msl.exec M env rt fuel .run s σ = some (.normal, σ1)) :
    Msl.execs M env rt fuel .run (.cons s r) σ = Msl.execs M env rt fuel .run r σ1 := by
  simp [Msl.execs, h]

section
variable {cx : Ctx} {vty : Var → Ty} {slots : List Var} {xo : Var} (M : Msl.MWorld) (env : Ast.Env) (hvty : env.vty = vty)
  (rt : Ty) (fuel : Nat) (rest : HlslAst.Stmts)
include hvty

theorem decls_exec (ps : Params) (l : CArgs) (decls : HlslAst.Stmts) (σ : Store) (hg : trampDecls cx ps = .ok decls)
    (h : ArgsOK vty slots xo ps l) (he : TEnv cx env ps l) :
    Msl.execs M env rt fuel .run (appendStmts decls rest) σ = Msl.execs M env rt fuel .run rest (copyIn ps l σ) := by
  induction ps, l, h using ArgsOK.induction generalizing decls σ with
  | nil => simp [trampDecls] at hg; subst hg; rfl
  | val pid T ps v l _ _ ih =>
    simp only [trampDecls] at hg
    cases hr : trampDecls cx ps with
    | error e => simp [hr] at hg
    | ok restD => simp [hr] at hg; subst hg; exact ih _ σ hr he.2
  | ref pid d T ps v x l hT hd hvx _ _ _ ih =>
    obtain ⟨⟨hrx, hrl⟩, he'⟩ := he
    simp only [trampDecls] at hg
    cases hr : trampDecls cx ps with
    | error e => simp [hr] at hg
    | ok restD =>
      simp only [hr, hd, if_false] at hg
      cases htn : GenMsl.typeName T with
      | error e => simp [htn] at hg
      | ok tn =>
        simp [htn] at hg; subst hg
        have htn' := typeName_tyOfName htn
        simp only [appendStmts, copyIn]
        by_cases hio : d = .inout
        · have hex : Msl.exec M env rt fuel .run (.var tn (trampLocal cx pid) (some (.ident (cx.locName pid)))) σ =
              some (.normal, σ.set (.loc pid) (σ x)) := by
            simp [Msl.exec, skip, htn', Msl.execVarDef, hrl, Msl.typeOf, hrx, hvty, hvx, Msl.eval, Msl.convR, Msl.convert, setOf, normalOf]
          simp only [hio, if_true]
          rw [execs_cons_run M env rt fuel _ _ σ _ hex]
          exact ih _ _ hr he'
        · have hex : Msl.exec M env rt fuel .run (.var tn (trampLocal cx pid) none) σ = some (.normal, σ) := by
            simp [Msl.exec, skip, htn', Msl.execVarDef, hrl, normalOf]
          simp only [hio, if_false]
          rw [execs_cons_run M env rt fuel _ _ σ _ hex]
          exact ih _ _ hr he'

theorem copyOut_exec (ps : Params) (l : CArgs) (σ : Store) (h : ArgsOK vty slots xo ps l) (he : TEnv cx env ps l) :
    Msl.execs M env rt fuel .run (appendStmts (trampCopyOut cx ps) rest) σ = Msl.execs M env rt fuel .run rest (copyOut ps l σ) := by
  induction ps, l, h using ArgsOK.induction generalizing σ with
  | nil => rfl
  | val pid T ps v l _ _ ih => simp only [trampCopyOut, if_true, copyOut]; exact ih σ he.2
  | ref pid d T ps v x l hT hd hvx _ _ _ ih =>
    obtain ⟨⟨hrx, hrl⟩, he'⟩ := he
    have hex : Msl.exec M env rt fuel .run
        (.expr (.bin .Assignment (.ident (cx.locName pid)) (.ident (trampLocal cx pid)))) σ =
        some (.normal, σ.set x (σ (.loc pid))) := by
      simp [Msl.exec, skip, Msl.eval, astBinSem, Msl.lvalOf, hrx, Msl.typeOf, hrl, hvty, hT, hvx, Msl.convR, Msl.convert,
        dropVal, normalOf]
    simp only [trampCopyOut, hd, if_false, appendStmts, copyOut]
    rw [execs_cons_run M env rt fuel _ _ σ _ hex]
    exact ih _ he'

end

/-- parameter kinds/types of the user parameters as the Metal signature lists them -/
def mParamsOf (ps : Params) : List (Msl.PK × Ty) := ps.map fun p => (pkOf p.2.1, p.2.2)

theorem mParams_dirs (ps : Params) : mParams (ps.map fun p => (p.2.1, p.2.2)) = mParamsOf ps := by
  simp [mParams, mParamsOf, List.map_map, Function.comp_def]

theorem trampArgs_eval {cx : Ctx} {vty : Var → Ty} {slots : List Var} {xo : Var} (M : Msl.MWorld) (env : Ast.Env)
    (hvty : env.vty = vty) (tailA : HlslAst.Exprs) (tailP : List (Msl.PK × Ty)) (tailM : List Msl.MArg) (σ : Store)
    (htail : Msl.evalArgs M env tailA tailP σ = some (tailM, σ)) (ps : Params) (l : CArgs)
    (h : ArgsOK vty slots xo ps l) (he : TEnv cx env ps l) :
    Msl.evalArgs M env (appendArgs (trampArgs cx ps) tailA) (mParamsOf ps ++ tailP) σ =
      some (slotArgs ps (ps.map fun p => σ (.loc p.1)) ++ tailM, σ) := by
  induction ps, l, h using ArgsOK.induction with
  | nil => simpa [trampArgs, appendArgs, mParamsOf, slotArgs] using htail
  | val pid T ps v l hT _ ih =>
    have hmp : mParamsOf ((pid, .in_, T) :: ps) = (pkOf .in_, T) :: mParamsOf ps := rfl
    have hres : env.res (cx.locName pid) = some (.loc pid) := he.1
    simp only [hmp, trampArgs, if_true, appendArgs, List.cons_append, pkOf, Msl.evalArgs, Msl.typeOf, hres, Option.map, hvty, hT,
      Msl.eval, Msl.convR, Msl.convert, ih he.2, List.map_cons, slotArgs]
  | ref pid d T ps v x l hT hd _ _ _ _ ih =>
    have hmp : mParamsOf ((pid, d, T) :: ps) = (pkOf d, T) :: mParamsOf ps := rfl
    obtain ⟨⟨hrx, hrl⟩, he'⟩ := he
    have hpk : pkOf d = Msl.PK.ref := by cases d <;> simp_all [pkOf]
    simp only [hmp, trampArgs, hd, if_false, appendArgs, List.cons_append, hpk, Msl.evalArgs, Msl.lvalOf, hrl, hvty, hT, if_true, ih he',
      List.map_cons, slotArgs]

theorem copyOut_off {vty : Var → Ty} {slots : List Var} {xo : Var} (ps : Params) (l : CArgs) (σ : Store)
    (h : ArgsOK vty slots xo ps l) : copyOut ps l σ xo = σ xo := by
  induction ps, l, h using ArgsOK.induction generalizing σ with
  | nil => rfl
  | val pid T ps v l _ _ ih => exact ih σ
  | ref pid d T ps v x l _ _ _ _ hxo _ ih =>
    simp only [copyOut]
    rw [ih]
    simp [Store.set, hxo.symm]

theorem tag_is_tag : Msl.isTagArg (.call tagType .nil) = true := by decide

theorem hasTag_trampCall (cx : Ctx) (ps : Params) (gs : List Nat) :
    Msl.hasTagArg (appendArgs (trampArgs cx ps) (.cons (.call tagType .nil) (globalArgs cx gs))) = true := by
  rw [hasTag_append]; simp [Msl.hasTagArg, tag_is_tag]

theorem execs_append_run (M : Msl.MWorld) (env : Ast.Env) (rt : Ty) (fuel : Nat) (s : HlslAst.Stmt) (σ : Store) :
    Msl.execs M env rt fuel .run (.cons s .nil) σ =
      (match Msl.exec M env rt fuel .run s σ with
        | none => none
        | some (.seeking, σ1) => some (.normal, σ1)
        | some (fl, σ1) => some (fl, σ1)) := by
  simp only [Msl.execs]
  cases Msl.exec M env rt fuel .run s σ with
  | none => rfl
  | some p => obtain ⟨fl, σ1⟩ := p; cases fl <;> simp [endOf]

/-- **the body of the trampoline, executed** in a frame whose reference parameters denote arbitrary caller variables
outside the parameter slots: copy-in, the target on the parameter slots (by the target's specification `hT` the typed
function run from the store at hand), the result kept in `out`, copy-out in parameter order, `return out` -/
theorem tramp_body_exec {W : World} {cx : Ctx} {vty : Var → Ty} {slots : List Var} {xo : Var} (M : Msl.MWorld) (env : Ast.Env)
    (fn : Ir.Func) (gs : List Nat) (rtn : String) (body : HlslAst.Stmts) (fuel : Nat) (sc : List Var) (l : CArgs)
    (hvty : env.vty = vty) (hrtn : Ast.tyOfName rtn = some fn.ret)
    (hbody : trampolineBody cx fn rtn gs = .ok body)
    (hok : ArgsOK vty slots xo fn.params l) (henv : TEnv cx env fn.params l)
    (hout : env.res trampolineResultName = some xo) (hxoty : vty xo = fn.ret)
    (hfres : env.fres (cx.funcName fn.id) = some fn.id) (hnf : cx.funcName fn.id ≠ Msl.fmodName)
    (hglob : ∀ σ, Msl.evalArgs M env (globalArgs cx gs) (globParams cx gs) σ = some (globMArgs gs, σ))
    (hsig : M.msig fn.id true = some (fn.ret, mParamsOf fn.params ++ (Msl.PK.tag, Ty.void) :: globParams cx gs))
    (hT : ∀ σ', M.mphi fn.id true (slotArgs fn.params (fn.params.map fun p => σ' (.loc p.1)) ++ Msl.MArg.tag :: globMArgs gs) σ' =
      (Ir.callFunc W fuel fn (fn.params.map fun p => σ' (.loc p.1)) σ').map (fun r => (r.1, Msl.restore sc σ' r.2.2))) :
    ∀ σ0, Msl.execs M env fn.ret fuel .run body σ0 =
      match Ir.callFunc W fuel fn (fn.params.map fun p => copyIn fn.params l σ0 (.loc p.1)) (copyIn fn.params l σ0) with
      | none => none
      | some (ret, _, σ1) =>
        if fn.ret = .void then some (.normal, copyOut fn.params l (Msl.restore sc (copyIn fn.params l σ0) σ1))
        else some (.ret (some ret), copyOut fn.params l ((Msl.restore sc (copyIn fn.params l σ0) σ1).set xo ret)) := by
  intro σ0
  simp only [trampolineBody] at hbody
  cases hd : trampDecls cx fn.params with
  | error e => simp [hd] at hbody
  | ok decls =>
    simp [hd] at hbody
    subst hbody
    rw [decls_exec M env hvty fn.ret fuel _ fn.params l decls σ0 hd hok henv]
    generalize copyIn fn.params l σ0 = σc
    have hnotfmod : (cx.funcName fn.id == Msl.fmodName) = false := by simpa using hnf
    have htag := hasTag_trampCall cx fn.params gs
    have htail : Msl.evalArgs M env (.cons (.call tagType .nil) (globalArgs cx gs)) ((Msl.PK.tag, Ty.void) :: globParams cx gs) σc =
        some (Msl.MArg.tag :: globMArgs gs, σc) := by
      simp [Msl.evalArgs, tag_is_tag, hglob σc]
    have hargs := trampArgs_eval M env hvty _ _ _ σc htail fn.params l hok henv
    have hcallT : Msl.typeOf M.msig env (.call (cx.funcName fn.id)
        (appendArgs (trampArgs cx fn.params) (.cons (.call tagType .nil) (globalArgs cx gs)))) = some fn.ret := by
      simp [Msl.typeOf, hnotfmod, hfres, htag, hsig]
    have hcall : Msl.eval M env (.call (cx.funcName fn.id)
        (appendArgs (trampArgs cx fn.params) (.cons (.call tagType .nil) (globalArgs cx gs)))) σc =
        (Ir.callFunc W fuel fn (fn.params.map fun p => σc (.loc p.1)) σc).map (fun r => (r.1, Msl.restore sc σc r.2.2)) := by
      simp only [Msl.eval, hnotfmod, Bool.false_eq_true, if_false, hfres, htag, hsig, hargs, hT σc]
    by_cases hv : fn.ret = .void
    · -- no result to keep
      have hnr : ¬ fn.ret ≠ .void := by simpa using hv
      simp only [if_pos hv]
      cases hir : Ir.callFunc W fuel fn (fn.params.map fun p => σc (.loc p.1)) σc with
      | none =>
        simp only [Msl.execs, Msl.exec, skip, hcall, hir, Option.map, dropVal, normalOf]
      | some r =>
        obtain ⟨ret, fin, σ1⟩ := r
        have hex : Msl.exec M env fn.ret fuel .run (.expr (.call (cx.funcName fn.id)
            (appendArgs (trampArgs cx fn.params) (.cons (.call tagType .nil) (globalArgs cx gs))))) σc =
            some (.normal, Msl.restore sc σc σ1) := by
          simp [Msl.exec, skip, hcall, hir, dropVal, normalOf]
        rw [execs_cons_run M env fn.ret fuel _ _ σc _ hex, copyOut_exec M env hvty fn.ret fuel .nil fn.params l _ hok henv]
        simp [Msl.execs, endOf]
    · have hnr : fn.ret ≠ .void := hv
      simp only [hnr, ↓reduceIte]
      cases hir : Ir.callFunc W fuel fn (fn.params.map fun p => σc (.loc p.1)) σc with
      | none =>
        simp only [Msl.execs, Msl.exec, skip, hrtn, Msl.execVarDef, hout, hcallT, hcall, hir, Option.map, Msl.convR, setOf,
          normalOf]
      | some r =>
        obtain ⟨ret, fin, σ1⟩ := r
        have hex : Msl.exec M env fn.ret fuel .run (.var rtn trampolineResultName (some (.call (cx.funcName fn.id)
            (appendArgs (trampArgs cx fn.params) (.cons (.call tagType .nil) (globalArgs cx gs)))))) σc =
            some (.normal, (Msl.restore sc σc σ1).set xo ret) := by
          simp [Msl.exec, skip, hrtn, Msl.execVarDef, hout, hcallT, hcall, hir, Msl.convR, Msl.convert, setOf, normalOf]
        rw [execs_cons_run M env fn.ret fuel _ _ σc _ hex,
          copyOut_exec M env hvty fn.ret fuel (.cons (.ret (some (.ident trampolineResultName))) .nil) fn.params l _ hok henv]
        have hread : copyOut fn.params l ((Msl.restore sc σc σ1).set xo ret) xo = ret := by
          rw [copyOut_off fn.params l _ hok]; simp [Store.set]
        simp [Msl.execs, Msl.exec, skip, Msl.typeOf, hout, hvty, hxoty, Msl.eval, Msl.convR, Msl.convert, retOf, hread]

end RsslVerif.Lemmas.GenMsl
