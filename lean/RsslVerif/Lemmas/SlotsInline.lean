import RsslVerif.Lemmas.Slots
/-! Lemmas about the inline-constant buffers built at the end of `assign_api_bindings`. -/
namespace RsslVerif.Lemmas.Slots
open RsslVerif.Gen.SlotTables RsslVerif.Model.Slots RsslVerif.Spec.Slots

/-- the key list of a counter has no duplicates and holds exactly the keys with a positive total -/
def KeysInv (c : Counter) : Prop := c.keys.Nodup ∧ ∀ g, g ∈ c.keys ↔ 0 < c.get g

theorem KeysInv.empty : KeysInv Counter.empty := by
  simp [KeysInv, Counter.empty]

theorem KeysInv.bump {c : Counter} (hc : KeysInv c) (s n : Nat) (hn : 0 < n) :
    KeysInv (c.bump s n).2 := by
  obtain ⟨hnd, hk⟩ := hc
  simp only [Counter.bump, List.contains_eq_mem, decide_eq_true_eq]
  by_cases hm : s ∈ c.keys
  · simp only [hm, if_true]
    refine ⟨hnd, fun g => ?_⟩
    by_cases hg : g = s
    · subst hg; simp [hm]; omega
    · simp [hg, hk]
  · simp only [hm, if_false]
    refine ⟨?_, fun g => ?_⟩
    · rw [List.nodup_append]
      refine ⟨hnd, by simp, ?_⟩
      intro a ha b hb
      simp at hb; subst hb
      intro e; subst e; exact hm ha
    · by_cases hg : g = s
      · subst hg; simp; omega
      · simp [hg, hk]

theorem alloc_keysInv {p : Params} {dflt : Nat} {ds : List Decl} {st st' : State} {bs : List (Option Binding)}
    (h : Alloc p dflt st ds st' bs) (hc : KeysInv st.inline) : KeysInv st'.inline := by
  induction h with
  | nil => exact hc
  | skip _ _ _ _ ih => exact ih hc
  | index _ _ _ _ ih => exact ih hc
  | inline _ _ _ _ ih => exact ih (KeysInv.bump hc _ _ (by omega))

theorem mem_insertBuf {b x : InlineBuf} {l : List InlineBuf} :
    x ∈ insertBuf b l ↔ x = b ∨ x ∈ l := by
  fun_induction insertBuf b l
  case case3 ih =>
    simp [ih]; constructor
    · rintro (h | h | h) <;> simp [h]
    · rintro (h | h | h) <;> simp [h]
  all_goals simp

theorem mem_sortBufs {x : InlineBuf} {l : List InlineBuf} : x ∈ sortBufs l ↔ x ∈ l := by
  induction l with
  | nil => simp [sortBufs]
  | cons y ys ih => simp [sortBufs, mem_insertBuf, ih]

theorem insertBuf_sorted {b : InlineBuf} {l : List InlineBuf}
    (hl : l.Pairwise (fun a c => a.set < c.set)) (hb : ∀ x ∈ l, x.set ≠ b.set) :
    (insertBuf b l).Pairwise (fun a c => a.set < c.set) := by
  fun_induction insertBuf b l
  case case1 => simp
  all_goals rw [List.pairwise_cons] at hl ⊢
  case case2 y ys hle =>
    have hlt : b.set < y.set := by
      have := hb y (by simp); omega
    refine ⟨?_, List.pairwise_cons.2 hl⟩
    intro a ha
    simp at ha
    rcases ha with rfl | ha
    · exact hlt
    · have := hl.1 a ha; omega
  case case3 y ys hnle ih =>
    refine ⟨?_, ih hl.2 (fun x hx => hb x (by simp [hx]))⟩
    intro a ha
    rw [mem_insertBuf] at ha
    rcases ha with rfl | ha
    · omega
    · exact hl.1 a ha

theorem sortBufs_sorted {l : List InlineBuf} (hnd : (l.map (·.set)).Nodup) :
    (sortBufs l).Pairwise (fun a c => a.set < c.set) := by
  induction l with
  | nil => simp [sortBufs]
  | cons y ys ih =>
    simp only [List.map_cons, List.nodup_cons] at hnd
    simp only [sortBufs]
    apply insertBuf_sorted (ih hnd.2)
    intro x hx e
    rw [mem_sortBufs] at hx
    exact hnd.1 (by rw [← e]; exact List.mem_map_of_mem hx)

end RsslVerif.Lemmas.Slots
