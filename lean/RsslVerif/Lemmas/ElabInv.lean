import RsslVerif.Lemmas.Elab
/-! What a successful run of each elaboration helper (`castOperand`, `elabUn`, `arithBuild`, `elabArith`, `elabAssign`, `elabTern`, `castArgs`) went
through, as equations between `find`, `applyConv` and the node built — no typing hypothesis.  The typed forms (C03) and the stability of
re-elaboration (C04) both start from these.  Core Lean only. -/
namespace RsslVerif.Lemmas.ElabInv
open RsslVerif.Gen.RankTable RsslVerif.Gen.TypingTables RsslVerif.Model.Conv RsslVerif.Model.Overload
open RsslVerif.Model.IrTyping RsslVerif.Model.Elab RsslVerif.Lemmas.ElabConv RsslVerif.Lemmas.Elab

theorem castOperand_inv {f : Err} {e e2 : IExpr} {τ inp : ETy} (h : castOperand f e τ inp = .ok e2) :
    (τ = inp ∧ e2 = e) ∨ (τ ≠ inp ∧ ∃ c, find τ inp = .ok (some c) ∧ applyConv c e = .ok e2) := by
  revert h
  fun_cases castOperand f e τ inp <;> intro h
  case case1 he => cases h; exact .inl ⟨he, rfl⟩
  case case4 hne c hf => exact .inr ⟨hne, c, hf, h⟩
  all_goals cases h

/-- the operator of the node `parse_expr_unaryop` builds -/
def unIOp : UnOp → Option IOp
  | .prefixIncrement => some .prefixIncrement
  | .prefixDecrement => some .prefixDecrement
  | .postfixIncrement => some .postfixIncrement
  | .postfixDecrement => some .postfixDecrement
  | .plus => some .plus
  | .minus => some .minus
  | .logicalNot => some .logicalNot
  | .bitwiseNot => some .bitwiseNot
  | _ => none

/-- the three shapes of a node `parse_expr_unaryop` builds: the operator over the operand as it is, at the type `get_return_type`
    gives (an rvalue but for prefix `++` / `--`); the operand itself, when it is a literal whose negation folds; the operator over
    the operand converted to the operator's input type (`!`: `bool`, `~` on a `bool`: `int`), which then is also the type of the node -/
theorem elabUn_cases {Γ : Env} {o : UnOp} {e n : IExpr} {τ τ' : ETy} (h : elabUn Γ o e τ = .ok (n, τ')) :
    (∃ i, unIOp o = some i ∧ n = .op i (.cons e .nil) ∧ opReturn i [τ] = .ok τ' ∧
      (o ≠ .prefixIncrement → o ≠ .prefixDecrement → τ'.vt = .rvalue)) ∨
    (∃ k, o = .minus ∧ e = .lit k ∧ minusFolds k = true ∧ n = .lit k ∧ τ' = τ.ty.unmod.r) ∨
    (∃ c e2, τ ≠ τ' ∧ find τ τ' = .ok (some c) ∧ applyConv c e = .ok e2 ∧
      (o = .logicalNot ∧ τ' = boolR ∧ n = .op .logicalNot (.cons e2 .nil) ∨
       o = .bitwiseNot ∧ τ' = intR ∧ τ.ty.layer = .scalar .bool ∧ n = .op .bitwiseNot (.cons e2 .nil))) := by
  -- `τ'` comes back after the principle's `let unmodR`, so that `cases h` can put `unmodR` in its place
  revert τ'
  fun_cases elabUn Γ o e τ <;> intro τ' h <;> try cases h
  -- prefix `++` / `--`: the node has the operand's own type
  case case3 | case6 => exact .inl ⟨_, rfl, rfl, rfl, by simp⟩
  -- `-` on a literal that folds
  case case18 k hk _ _ => exact .inr (.inl ⟨k, rfl, rfl, hk, rfl, rfl⟩)
  -- `!`
  case case24 e2 _ _ hp hco =>
    by_cases hb : τ.ty.layer.extractScalar = some .bool
    · -- a bool operand is used as it is
      rw [if_pos hb] at hp; cases hp
      rcases castOperand_inv hco with ⟨_, rfl⟩ | ⟨hne, _⟩
      · refine .inl ⟨_, rfl, rfl, ?_, fun _ _ => rfl⟩
        show opReturn .logicalNot [τ] = .ok τ.ty.unmod.r
        cases hl : τ.ty.layer <;> simp [hl, Layer.extractScalar] at hb <;>
          simp [opReturn, IOp.rule, hl, hb, Ty.unmod, scalarTy, Ty.r, logicalNotHasMatrixArm]
      · exact absurd rfl hne
    · rw [if_neg hb] at hp; cases hp
      rcases castOperand_inv hco with ⟨he, _⟩ | ⟨hne, c, hf, ha⟩
      · exact absurd (by rw [he]; rfl) hb
      · exact .inr (.inr ⟨c, e2, hne, hf, ha, .inl ⟨rfl, rfl, rfl⟩⟩)
  -- `~` on a `bool`
  case case30 hl e2 hco =>
    rcases castOperand_inv hco with ⟨he, _⟩ | ⟨hne, c, hf, ha⟩
    · rw [he] at hl; cases hl
    · exact .inr (.inr ⟨c, e2, hne, hf, ha, .inr ⟨rfl, rfl, hl, rfl⟩⟩)
  -- every other accepted branch: the operator over the operand as it is
  all_goals exact .inl ⟨_, rfl, rfl, rfl, fun _ _ => rfl⟩

/-- `arithBuild` succeeds exactly when both conversions have the same target, apply, and the operator has a result type -/
theorem arithBuild_iff {o : BinOp} {ca cb : Conversion} {a b n : IExpr} {τ : ETy} :
    arithBuild o ca cb a b = .ok (n, τ) ↔
    ∃ ta a2 b2 i, targetType ca = .ok ta ∧ targetType cb = .ok ta ∧ applyConv ca a = .ok a2 ∧ applyConv cb b = .ok b2 ∧
      o.toIOp = some i ∧ opReturn i [ta, ta] = .ok τ ∧ n = .op i (.cons a2 (.cons b2 .nil)) := by
  constructor
  · fun_cases arithBuild o ca cb a b <;> intro h <;> try cases h
    rename_i ta hta tb htb hne a2 ha2 b2 hb2 i hi hout
    cases (by simpa using hne : ta = tb)
    exact ⟨ta, a2, b2, i, hta, htb, ha2, hb2, hi, hout, rfl⟩
  · rintro ⟨ta, a2, b2, i, h1, h2, h3, h4, h5, h6, rfl⟩
    simp [arithBuild, h1, h2, h3, h4, h5, h6]

/-- the type both operands of an arithmetic / comparison / bit / logical operator are converted to -/
def DTy (ts : Scalar) (dim : Dim) : ETy := (Ty.mk {} (Layer.ofDim ts dim)).r

/-- `elabArith` succeeds exactly when no operand is an enum, the operator has a scalar working kind `ts` and a dimension
    `dim`, both operands convert to `DTy (arithScalar ts dim) dim`, and the node is the operator over the converted operands -/
theorem elabArith_iff {o : BinOp} {a b n : IExpr} {τa τb τ : ETy} :
    elabArith o a τa b τb = .ok (n, τ) ↔
    ∃ ts dim ca cb a2 b2 i, (∀ id, τa.ty.layer ≠ .enum id) ∧ (∀ id, τb.ty.layer ≠ .enum id) ∧
      arithTarget o τa.ty.layer τb.ty.layer = .ok (.scalar ts) ∧
      selectVectorRank τa.ty.layer τb.ty.layer = some dim ∧
      find τa (DTy (arithScalar ts dim) dim) = .ok (some ca) ∧ find τb (DTy (arithScalar ts dim) dim) = .ok (some cb) ∧
      applyConv ca a = .ok a2 ∧ applyConv cb b = .ok b2 ∧ o.toIOp = some i ∧
      opReturn i [DTy (arithScalar ts dim) dim, DTy (arithScalar ts dim) dim] = .ok τ ∧
      n = .op i (.cons a2 (.cons b2 .nil)) := by
  constructor
  · fun_cases elabArith o a τa b τb <;> intro h <;> try cases h
    rename_i ts dim ca hca cb hcb hna hnb hts hdim
    obtain ⟨ta, a2, b2, i, h1, h2, h3, h4, h5, h6, h7⟩ := arithBuild_iff.1 h
    cases Except.ok.inj ((targetType_ok hca).symm.trans h1)
    exact ⟨ts, dim, ca, cb, a2, b2, i, hna, hnb, hts, hdim, hca, hcb, h3, h4, h5, h6, h7⟩
  · rintro ⟨ts, dim, ca, cb, a2, b2, i, hna, hnb, hts, hdim, hca, hcb, h3, h4, h5, h6, rfl⟩
    unfold elabArith
    split
    · rename_i hl; exact absurd hl (hna _)
    · rename_i hl _; exact absurd hl (hnb _)
    · simp only [hts, hdim]
      rw [DTy] at hca hcb
      simp only [hca, hcb]
      exact arithBuild_iff.2 ⟨_, a2, b2, i, targetType_ok hca, targetType_ok hcb, h3, h4, h5, h6, rfl⟩

/-- what an accepted assignment went through: the target is a non-const lvalue that passed `check_mutable_place`, the value
    converts to the target's type -/
theorem elabAssign_inv {Γ : Env} {o : BinOp} {a b' n : IExpr} {τa τb τ : ETy}
    (h : elabAssign Γ o a τa b' τb = .ok (n, τ)) :
    τa.ty.mod.isConst = false ∧ τa.vt = .lvalue ∧ checkMutablePlace Γ a = .ok () ∧
    ∃ c b2 i, find τb τa.ty.r = .ok (some c) ∧ applyConv c b' = .ok b2 ∧ o.toIOp = some i ∧
      opReturn i [τa, τa.ty.r] = .ok τ ∧ n = .op i (.cons a (.cons b2 .nil)) := by
  revert h
  fun_cases elabAssign Γ o a τa b' τb <;> intro h <;> try cases h
  rename_i hconst hlv _ hplace b2 _ hc i hi hout
  obtain ⟨c, hf, ha, rfl⟩ := convert_inv hc
  exact ⟨by simpa using hconst, by simpa using hlv, hplace, c, b2, i, hf, ha, hi, hout, rfl⟩

/-- the type the arms of `?:` are converted to: the common layer, with the `row_major` / `column_major` bits of the left arm -/
def TTy (τa : ETy) (lt : Layer) : ETy := (Ty.mk { rest := τa.ty.mod.rest &&& 3 } lt).r

/-- `elabTern` succeeds exactly when the arms have a common layer `lt`, both convert to `TTy τa lt`, the condition is no
    vector / matrix and converts to `bool`, and the node is `?:` over the converted operands -/
theorem elabTern_iff {c a b n : IExpr} {τc τa τb τ : ETy} :
    elabTern c τc a τa b τb = .ok (n, τ) ↔
    ∃ lt cc ca cb c2 a2 b2, ternTargets τa.ty.layer τb.ty.layer = .ok (lt, lt) ∧
      find τa (TTy τa lt) = .ok (some ca) ∧ find τb (TTy τa lt) = .ok (some cb) ∧
      applyConv ca a = .ok a2 ∧ applyConv cb b = .ok b2 ∧ τc.ty.layer.isVecOrMat = false ∧
      find τc boolR = .ok (some cc) ∧ applyConv cc c = .ok c2 ∧ n = .tern c2 a2 b2 ∧ τ = TTy τa lt := by
  constructor
  · fun_cases elabTern c τc a τa b τb <;> intro h <;> try cases h
    rename_i lt rt htt heq ca hca cb hcb
    cases (by simpa using heq : lt = rt)
    -- the accepted branch of `elabTern` hands over to `ternBuild`
    revert h
    fun_cases ternBuild c τc ca cb a b <;> intro h <;> try cases h
    rename_i a2 ha2 b2 hb2 _ _ hvm c2 _ hcc hta _
    obtain ⟨cc, hfc, hac, _⟩ := convert_inv hcc
    cases Except.ok.inj ((targetType_ok hca).symm.trans hta)
    exact ⟨lt, cc, ca, cb, c2, a2, b2, htt, hca, hcb, ha2, hb2, by simpa using hvm, hfc, hac, rfl, rfl⟩
  · rintro ⟨lt, cc, ca, cb, c2, a2, b2, htt, hca, hcb, ha2, hb2, hvm, hfc, hac, rfl, rfl⟩
    unfold TTy at hca hcb
    simp only [elabTern, htt, ne_eq, not_true_eq_false, if_false, hca, hcb, ternBuild, ha2, hb2, targetType_ok hca,
      targetType_ok hcb, hvm, Bool.false_eq_true, convert_iff.2 ⟨cc, hfc, hac, rfl⟩, TTy]

/-- what `apply_casts` did: argument by argument the conversion to the parameter's type was found and applied -/
inductive CastArgs : List Param → IArgs → List ETy → IArgs → Prop
  | nil (ps : List Param) : CastArgs ps .nil [] .nil
  | cons {p : Param} {ps : List Param} {e e' : IExpr} {r r' : IArgs} {t : ETy} {ts : List ETy} {c : Conversion} :
      find t p.ety = .ok (some c) → applyConv c e = .ok e' → CastArgs ps r ts r' →
      CastArgs (p :: ps) (.cons e r) (t :: ts) (.cons e' r')

theorem castArgs_ok : ∀ (ps : List Param) (args : IArgs) (ts : List ETy) (args2 : IArgs),
    castArgs ps args ts = .ok args2 → CastArgs ps args ts args2 := by
  intro ps args ts
  fun_induction castArgs ps args ts <;> intro args2 h <;> try cases h
  case case4 hc _ hr ih =>
    obtain ⟨c, hf, ha, _⟩ := convert_inv hc
    exact .cons hf ha (ih _ hr)
  case case5 ps => exact .nil ps

theorem castArgs_of {ps : List Param} {args args2 : IArgs} {ts : List ETy} (h : CastArgs ps args ts args2) :
    castArgs ps args ts = .ok args2 := by
  induction h with
  | nil ps => cases ps <;> rfl
  | cons hf ha _ ih => simp only [castArgs, convert, hf, ha, targetType_ok hf, ih]

/-- `check_mutable_place` accepts exactly the expressions to which `get_type` gives a non-const lvalue type -/
theorem checkMutablePlace_iff {Γ : Env} {e : IExpr} :
    checkMutablePlace Γ e = .ok () ↔ ∃ τ, typeOf Γ e = .ok τ ∧ τ.vt = .lvalue ∧ τ.ty.mod.isConst = false := by
  unfold checkMutablePlace
  cases typeOf Γ e with
  | error m => simp
  | ok τ => by_cases hv : τ.vt = .lvalue <;> by_cases hc : τ.ty.mod.isConst = true <;> simp [hv, hc]

/-- one step of `check_output_arguments`: the argument of an `out` / `inout` parameter passed `check_mutable_place` -/
theorem checkOutArgs_cons {Γ : Env} {p : Param} {ps : List Param} {e : IExpr} {r : IArgs} :
    checkOutArgs Γ (p :: ps) (.cons e r) = .ok () ↔
      (isOutputParam p.io = true → checkMutablePlace Γ e = .ok ()) ∧ checkOutArgs Γ ps r = .ok () := by
  simp only [checkOutArgs]
  cases isOutputParam p.io
  · simp
  · cases checkMutablePlace Γ e <;> simp

end RsslVerif.Lemmas.ElabInv
