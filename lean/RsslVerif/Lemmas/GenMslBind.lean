import RsslVerif.Lemmas.GenMslTramp
/-! Metal exporter: what `bindArgs` does to the frame environment of a trampoline call (reference parameters bound to
arbitrary caller variables), given that the names involved are distinct. -/
namespace RsslVerif.Lemmas.GenMsl
open RsslVerif.Gen.HlslGenTables RsslVerif.Gen.MslGenTables RsslVerif.Model RsslVerif.Model.GenMsl RsslVerif.Spec.Sem
open RsslVerif.Model.Ir (Ty Var Const Dir)
open RsslVerif.Model.GenHlsl (GenErr)

/-- binding the parameters for statics leaves the store alone, binds each static's name to it (the names are distinct) and
no other name -/
theorem bind_globals_env {cx : Ctx} (slot : String → Option Var) :
    ∀ (gs : List Nat) (gps : List MslAst.Param) (ρ : String → Option Var) (σ : Store),
      GenMsl.genGlobalParams cx gs = .ok gps → (gs.map cx.globName).Nodup →
      ∃ ρ1, Msl.bindArgs slot gps (globMArgs gs) ρ σ = some (ρ1, σ) ∧ (∀ g ∈ gs, ρ1 (cx.globName g) = some (.glob g)) ∧
        ∀ s, s ∉ gs.map cx.globName → ρ1 s = ρ s
  | [], gps, ρ, σ, hg, _ => by
    rw [genGlobalParams_nil_ok hg]
    exact ⟨ρ, by simp [globMArgs, Msl.bindArgs], by simp, fun _ _ => rfl⟩
  | g :: gs, gps, ρ, σ, hg, hnd => by
    obtain ⟨tn, gps', _, hr, rfl⟩ := genGlobalParams_cons_ok hg
    obtain ⟨hg0, hnd'⟩ := List.nodup_cons.mp hnd
    obtain ⟨ρ1, h1, h2, h3⟩ := bind_globals_env slot gs gps' (fun s => if s = cx.globName g then some (.glob g) else ρ s) σ hr hnd'
    refine ⟨ρ1, ?_, ?_, ?_⟩
    · simp only [globMArgs, List.map_cons] at h1 ⊢
      simp [Msl.bindArgs, h1]
    · intro g' hg'
      rcases List.mem_cons.mp hg' with rfl | h
      · rw [h3 _ hg0]; simp
      · exact h2 g' h
    · intro s hs
      simp only [List.map_cons, List.mem_cons, not_or] at hs
      rw [h3 s hs.2]; simp [hs.1]

/-- binding the user parameters of a trampoline, in a frame that has the by-value parameters and the locals `__p` at the
parameter slots: the by-value arguments are stored, and in every environment that agrees with the resulting one on the
names of the parameters and of the locals these names resolve as `TEnv` says -/
theorem bind_tramp_user {cx : Ctx} {vty : Var → Ty} {slots : List Var} {xo : Var} (slot : String → Option Var)
    (ps : Params) (mps : List MslAst.Param) (l : CArgs) (ρ : String → Option Var) (σ : Store)
    (rest : List MslAst.Param) (restArgs : List Msl.MArg)
    (hg : GenMsl.genParams cx ps = .ok mps) (h : ArgsOK vty slots xo ps l)
    (hslot : ∀ p ∈ ps, slot (cx.locName p.1) = some (.loc p.1)) (hnd : (ps.map fun p => cx.locName p.1).Nodup)
    (hρ : ∀ p ∈ ps, ρ (cx.locName p.1) = some (.loc p.1) ∧ ρ (trampLocal cx p.1) = some (.loc p.1) ∧
      trampLocal cx p.1 ∉ ps.map fun q => cx.locName q.1) :
    ∃ ρ1, Msl.bindArgs slot (mps ++ rest) (l.map toMArg ++ restArgs) ρ σ = Msl.bindArgs slot rest restArgs ρ1 (bindIn ps l σ) ∧
      (∀ s, s ∉ (ps.map fun p => cx.locName p.1) → ρ1 s = ρ s) ∧
      ∀ ρ2 vtyE fresE,
        (∀ p ∈ ps, ρ2 (cx.locName p.1) = ρ1 (cx.locName p.1) ∧ ρ2 (trampLocal cx p.1) = ρ1 (trampLocal cx p.1)) →
        TEnv cx { res := ρ2, vty := vtyE, fres := fresE } ps l := by
  induction ps, l, h using ArgsOK.induction generalizing mps ρ σ with
  | nil =>
    rw [genParams_nil_ok hg]
    exact ⟨ρ, by simp [bindIn], fun s _ => rfl, fun _ _ _ _ => trivial⟩
  | val pid T ps v l _ _ ih =>
    obtain ⟨tn, mps', _, hr, rfl⟩ := genParams_cons_ok hg
    obtain ⟨hhead, hnd'⟩ := List.nodup_cons.mp hnd
    obtain ⟨ρ1, h1, h2, h3⟩ := ih mps' ρ (σ.set (.loc pid) v) hr (fun p hp => hslot p (List.mem_cons_of_mem _ hp)) hnd'
      (fun p hp => by
        obtain ⟨a, b, c⟩ := hρ p (List.mem_cons_of_mem _ hp)
        exact ⟨a, b, fun hc => c (List.mem_cons_of_mem _ hc)⟩)
    refine ⟨ρ1, ?_, fun s hs => h2 s (fun hc => hs (List.mem_cons_of_mem _ hc)), fun ρ2 vtyE fresE h2' => ⟨?_, h3 ρ2 vtyE fresE fun p hp => h2' p (List.mem_cons_of_mem _ hp)⟩⟩
    · simp [toMArg, Msl.bindArgs, hslot (pid, .in_, T) (by simp), bindIn, h1]
    · exact (h2' (pid, .in_, T) (by simp)).1.trans ((h2 _ hhead).trans (hρ (pid, .in_, T) (by simp)).1)
  | ref pid d T ps v x l _ hd _ _ _ _ ih =>
    obtain ⟨tn, mps', _, hr, rfl⟩ := genParams_cons_ok hg
    obtain ⟨hhead, hnd'⟩ := List.nodup_cons.mp hnd
    obtain ⟨_, hT0, hn0⟩ := hρ (pid, d, T) (by simp)
    simp only [List.map_cons, List.mem_cons, not_or] at hn0
    obtain ⟨ρ1, h1, h2, h3⟩ := ih mps' (fun s => if s = cx.locName pid then some x else ρ s) σ hr
      (fun p hp => hslot p (List.mem_cons_of_mem _ hp)) hnd'
      (fun p hp => by
        obtain ⟨a, b, c⟩ := hρ p (List.mem_cons_of_mem _ hp)
        simp only [List.map_cons, List.mem_cons, not_or] at c
        have : cx.locName p.1 ≠ cx.locName pid := fun hc =>
          hhead (by show cx.locName pid ∈ _; rw [← hc]; exact List.mem_map_of_mem (f := fun p => cx.locName p.1) hp)
        exact ⟨by simp [this, a], by simp [c.1, b], c.2⟩)
    refine ⟨ρ1, by simp [toMArg, Msl.bindArgs, bindIn, hd, h1], ?_, fun ρ2 vtyE fresE h2' => ⟨⟨?_, ?_⟩, h3 ρ2 vtyE fresE fun p hp => h2' p (List.mem_cons_of_mem _ hp)⟩⟩
    · intro s hs
      simp only [List.map_cons, List.mem_cons, not_or] at hs
      rw [h2 s hs.2]; simp [hs.1]
    · exact (h2' (pid, d, T) (by simp)).1.trans ((h2 _ hhead).trans (by simp))
    · exact (h2' (pid, d, T) (by simp)).2.trans ((h2 _ hn0.2).trans (by simp [hn0.1, hT0]))

end RsslVerif.Lemmas.GenMsl
