import RsslVerif.Gen.ParseTables
import RsslVerif.Lemmas.Fuel
/-!
A parser in precedence levels, seen through two relations: `Parses k term ts out` (level `k` reads `ts` as `out`) and
`Conts k term acc ts out` (level `k`, holding the operand `acc`, continues in front of `ts` to `out`), related by one
rule `lift`: level `k + 1` is level `k` followed by the continuation of level `k + 1` (at level 2 only for streams
satisfying an entry condition).  What follows from that rule alone is proved here, once, for the parser models of
`Model/Parse.lean` and `Model/ParseFull.lean`.
-/
namespace RsslVerif.Lemmas.LevelParser
open RsslVerif.Gen.ParseTables

theorem succ_of_pos {f N : Nat} (h : N + 1 ≤ f) : ∃ f', f = f' + 1 ∧ N ≤ f' := ⟨f - 1, by omega, by omega⟩

/- The invariants whose text is referred to from `Thm/C09.lean` (`Conts`, `A1`, `RTArr`, `RTDecl`, `RTArg`, `RK`, `RInits`)
and the lemmas feeding them spell `∃ N, ∀ f, N ≤ f → …` out; it unfolds to `Ev`, and the proofs combine such facts through
`Ev.and` / `Ev.step` / `Ev.mono`. -/
export RsslVerif.Lemmas.Fuel (Ev Ev.of_all Ev.mono Ev.and Ev.step Ev.succ)

/-- the head token does not start the tail of a conditional -/
def NoQuestion : List Tok → Prop
  | [] => True
  | t :: _ => t ≠ .p .QuestionMark

section Levels
variable {E : Type}
  {Parses : Nat → Terminator → List Tok → E × List Tok → Prop}
  {Conts : Nat → Terminator → E → List Tok → E × List Tok → Prop}
  {Entry : List Tok → Prop}

/-- level `k` does nothing in front of `ts` -/
def Inert (Conts : Nat → Terminator → E → List Tok → E × List Tok → Prop) (k : Nat) (term : Terminator)
    (ts : List Tok) : Prop := ∀ acc, Conts k term acc ts (acc, ts)

/-- no level below `k` does anything in front of `ts` -/
def NoLow (Conts : Nat → Terminator → E → List Tok → E × List Tok → Prop) (k : Nat) (term : Terminator)
    (ts : List Tok) : Prop := ∀ i, 1 ≤ i → i < k → Inert Conts i term ts

/-- levels whose continuation is not a loop: a finished node of the level is final -/
def NonLoop (k : Nat) : Prop := k = 0 ∨ k = 2 ∨ k = 13 ∨ k = 14

instance (k : Nat) : Decidable (NonLoop k) := by unfold NonLoop; infer_instance

/-- what the caller knows about the result of reading a node of level `lv` at level `k` in front of `rest` -/
def Fin (Conts : Nat → Terminator → E → List Tok → E × List Tok → Prop) (e : E) (lv k : Nat) (term : Terminator)
    (rest : List Tok) (out : E × List Tok) : Prop :=
  if k = lv ∧ NonLoop k then out = (e, rest) ∧ ((k = 13 ∨ k = 14) → Inert Conts k term rest)
  else Conts k term e rest out

theorem fin_of_conts (e : E) (lv : Nat) {k term rest out} (hl : ¬ NonLoop k) (hc : Conts k term e rest out) :
    Fin Conts e lv k term rest out := by
  unfold Fin
  rw [if_neg (fun h => hl h.2)]
  exact hc

theorem fin_self (e : E) {lv k term rest} (hle : lv ≤ k) (hin : k ≠ 0 → Inert Conts k term rest) :
    Fin Conts e lv k term rest (e, rest) := by
  unfold Fin
  split
  · exact ⟨rfl, fun h13 => hin (by omega)⟩
  · rename_i h
    by_cases hk0 : k = 0
    · subst hk0
      obtain rfl : lv = 0 := by omega
      exact absurd ⟨rfl, Or.inl rfl⟩ h
    · exact hin hk0 e

/-- a node of level 13 or 14 is read in front of tokens its own level leaves alone: the caller says so (`Fin`, when it
reads at that level) or no lower level does anything there (`NoLow`, when it reads above) -/
theorem inert_of_fin {e : E} {lv k term rest out} (hlv : lv = 13 ∨ lv = 14) (hle : lv ≤ k)
    (hno : NoLow Conts k term rest) (hfin : Fin Conts e lv k term rest out) : Inert Conts lv term rest := by
  by_cases hk : k = lv
  · subst hk
    have hnl : NonLoop k := Or.inr (Or.inr hlv)
    simp only [Fin, hnl, and_self, if_true] at hfin
    exact hfin.2 hlv
  · exact hno lv (by omega) (by omega)

variable (lift : ∀ {k term ts a r out}, Parses k term ts (a, r) → Conts (k + 1) term a r out → (k + 1 = 2 → Entry ts) →
  Parses (k + 1) term ts out)
include lift

theorem raise {j term ts e rest} (hp : Parses j term ts (e, rest)) (hnp : j < 2 → Entry ts) :
    ∀ d out, (∀ i, j < i → i < j + d + 1 → Inert Conts i term rest) → Conts (j + d + 1) term e rest out →
      Parses (j + d + 1) term ts out := by
  intro d
  induction d with
  | zero =>
    intro out _ hc
    exact lift hp hc (fun h => hnp (by omega))
  | succ d ih =>
    intro out hin hc
    have hmid : Parses (j + d + 1) term ts (e, rest) :=
      ih (e, rest) (fun i h1 h2 => hin i h1 (by omega)) (hin (j + d + 1) (by omega) (by omega) e)
    exact lift hmid hc (fun h => hnp (by omega))

theorem finish_nonloop {e lv ts rest k term out} (hp : Parses lv term ts (e, rest)) (hnl : NonLoop lv)
    (hle : lv ≤ k) (hnp : lv < 2 → Entry ts) (hno : NoLow Conts k term rest) (hfin : Fin Conts e lv k term rest out) :
    Parses k term ts out := by
  by_cases hk : k = lv
  · subst hk
    simp only [Fin, hnl, and_self, if_true] at hfin
    rw [hfin.1]; exact hp
  · have hc : Conts k term e rest out := by simpa [Fin, hk] using hfin
    obtain ⟨d, rfl⟩ : ∃ d, k = lv + d + 1 := ⟨k - lv - 1, by omega⟩
    exact raise @lift hp hnp d out (fun i h1 h2 => hno i (by omega) h2) hc

theorem finish_loop {e lv ts rest k term out} (hown : ∀ out', Conts lv term e rest out' → Parses lv term ts out')
    (hl : ¬ NonLoop lv) (hle : lv ≤ k) (hnp : lv < 2 → Entry ts) (hno : NoLow Conts k term rest)
    (hfin : Fin Conts e lv k term rest out) : Parses k term ts out := by
  have hc : Conts k term e rest out := by
    by_cases hk : k = lv
    · subst hk; simpa [Fin, hl] using hfin
    · simpa [Fin, hk] using hfin
  have hlv1 : 1 ≤ lv := by
    rcases Nat.eq_zero_or_pos lv with h | h
    · exact absurd (Or.inl h) hl
    · exact h
  by_cases hk : k = lv
  · subst hk; exact hown out hc
  · have hp := hown (e, rest) (hno lv hlv1 (by omega) e)
    obtain ⟨d, rfl⟩ : ∃ d, k = lv + d + 1 := ⟨k - lv - 1, by omega⟩
    exact raise @lift hp hnp d out (fun i h1 h2 => hno i (by omega) h2) hc

end Levels

end RsslVerif.Lemmas.LevelParser
