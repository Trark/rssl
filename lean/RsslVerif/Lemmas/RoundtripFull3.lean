import RsslVerif.Lemmas.RoundtripFull2
import RsslVerif.Model.ParseStmt
/-! Round trip for the full expression model: type modifiers, declarators, type ids. -/
set_option linter.unusedSimpArgs false
namespace RsslVerif.Lemmas.RoundtripFull
open RsslVerif.Gen.FmtTables RsslVerif.Gen.ParseTables RsslVerif.Gen.SyntaxTables RsslVerif.Model.Format
open RsslVerif.Model.FormatFull RsslVerif.Model.ParseFull RsslVerif.Lemmas.FmtParseTables
open RsslVerif.Lemmas.LevelParser

variable (W : List String)

/-- every modifier prints a token that `parse_type_modifiers_before` reads back as the modifier -/
theorem modBeforeStep_modTok (m : TypeMod) : modBeforeStep (modTok m) = .mod m := by cases m <;> decide

theorem toks_fmtMods_before (mods : List TypeMod) : toks (fmtMods mods false) = mods.map modTok := toks_fmtMods mods false

theorem toks_fmtMods_after (mods : List TypeMod) : toks (fmtMods mods true) = mods.map modTok := toks_fmtMods mods true

theorem takeModsBefore_mods (mods : List TypeMod) (t : Tok) (more : List Tok) (h : modBeforeStep t = .stop) :
    takeModsBefore (mods.map modTok ++ t :: more) = (mods, t :: more) := by
  induction mods with
  | nil => simp [takeModsBefore, h]
  | cons m ms ih => simp [takeModsBefore, modBeforeStep_modTok, ih]

theorem takeModsAfter_quals (quals : List TypeMod) (hq : ∀ q, q ∈ quals → q = .Const ∨ q = .Volatile)
    (more : List Tok) (h : ∀ t r, more = t :: r → t ≠ .p .Const ∧ t ≠ .p .Volatile) :
    takeModsAfter (quals.map modTok ++ more) = (quals, more) := by
  induction quals with
  | nil =>
    cases more with
    | nil => rfl
    | cons t r =>
      obtain ⟨h1, h2⟩ := h t r rfl
      simp [takeModsAfter_stop t r h1 h2]
  | cons q qs ih =>
    have hq' := hq q (List.mem_cons_self)
    have ih' := ih (fun q' hq'' => hq q' (List.mem_cons_of_mem _ hq''))
    rcases hq' with rfl | rfl
    · simp only [List.map_cons, List.cons_append, takeModsAfter]
      rw [show modAfterStep (modTok .Const) = some .Const by rfl]
      simp [ih']
    · simp only [List.map_cons, List.cons_append, takeModsAfter]
      rw [show modAfterStep (modTok .Volatile) = some .Volatile by rfl]
      simp [ih']

/-- so a token that `parse_type_modifiers_before` does not take as a modifier is no modifier's token -/
theorem modTok_ne {t : Tok} (h : modBeforeStep t = .stop) (m : TypeMod) : modTok m ≠ t := by
  intro e
  rw [← e, modBeforeStep_modTok] at h
  cases h

theorem prefixOp_stop {t : Tok} {op : UnOp} (h : prefixOp t = some op) : modBeforeStep t = .stop := by
  unfold prefixOp at h
  split at h <;> first | rfl | cases h

theorem badHead_modKw (m : TypeMod) (k : Punct) (h : modTok m = .p k) : BadHead (.p k) := by
  refine ⟨nofun, nofun, h ▸ modTok_ne rfl m, ?_, h ▸ modTok_ne rfl m⟩
  cases hp : prefixOp (.p k) with
  | none => rfl
  | some op => exact absurd h (modTok_ne (prefixOp_stop hp) m)

def NoEq : List Tok → Prop
  | .p .Equals :: _ => False
  | _ => True

/-- what follows a type id in an expression: `)` (cast, sizeof), `,` or `>` (template argument list) -/
def TyRest : List Tok → Prop
  | .p .RightParen :: _ => True
  | .p .Comma :: _ => True
  | .gt _ :: r => shiftAssignHead r = false ∧ NoEq r
  | _ => False

theorem tyRest_cases {rest : List Tok} (h : TyRest rest) :
    ∃ t r, rest = t :: r ∧ (t = .p .RightParen ∨ t = .p .Comma ∨ (t.isGt = true ∧ shiftAssignHead r = false ∧ NoEq r)) := by
  unfold TyRest at h
  split at h
  · exact ⟨_, _, rfl, Or.inl rfl⟩
  · exact ⟨_, _, rfl, Or.inr (Or.inl rfl)⟩
  · exact ⟨_, _, rfl, Or.inr (Or.inr ⟨rfl, h.1, h.2⟩)⟩
  · exact h.elim

theorem tyRest_closes {rest : List Tok} (h : TyRest rest) : ∃ t r, rest = t :: r ∧ Closes .TypeList t r := by
  obtain ⟨t, r, rfl, h'⟩ := tyRest_cases h
  refine ⟨t, r, rfl, ?_⟩
  rcases h' with rfl | rfl | ⟨h1, h2, _⟩
  · exact Or.inl rfl
  · exact Or.inr (Or.inr (Or.inr (Or.inr (Or.inr (Or.inl ⟨rfl, rfl⟩)))))
  · exact Or.inr (Or.inr (Or.inr (Or.inr (Or.inr (Or.inr ⟨h1, rfl, h2⟩)))))

theorem tyRest_shift {rest : List Tok} (h : TyRest rest) : shiftAssignHead rest = false := by
  obtain ⟨t, r, rfl, h | h | ⟨_, _, hne⟩⟩ := tyRest_cases h
  · subst h; rfl
  · subst h; rfl
  · unfold shiftAssignHead
    split
    · rename_i heq; cases heq; exact False.elim hne
    · rfl

/-- the tokens that stop a declarator -/
def DeclRest : List Tok → Prop
  | [] => True
  | t :: _ => t ≠ .p .Asterix ∧ t ≠ .p .Ampersand ∧ t ≠ .p .LeftSquareBracket ∧ t ≠ .p .Const ∧ t ≠ .p .Volatile ∧
      t.isLt = false ∧ t ≠ .p .Equals

theorem tyRest_declRest {rest : List Tok} (h : TyRest rest) : DeclRest rest := by
  obtain ⟨t, r, rfl, h'⟩ := tyRest_cases h
  rcases h' with rfl | rfl | ⟨h1, _⟩
  · simp [DeclRest, Tok.isLt]
  · simp [DeclRest, Tok.isLt]
  · cases t <;> simp [Tok.isGt] at h1
    simp [DeclRest, Tok.isLt]

/-- arrays around the base only (no pointer / reference below an array) -/
def arrOnly : Decl → Bool
  | .empty => true
  | .name _ => true
  | .arr i _ => arrOnly i
  | .arrN i => arrOnly i
  | _ => false

theorem arrOnly_of_noScope : (i : Decl) → WFDecl W i → i.needsScope = false → arrOnly i = true
  | .empty, _, _ => rfl
  | .name _, _, _ => rfl
  | .ptr _ _, _, h => by simp [Decl.needsScope] at h
  | .ref _, _, h => by simp [Decl.needsScope] at h
  | .arr i _, hw, _ => arrOnly_of_noScope i hw.2.1 hw.1
  | .arrN i, hw, _ => arrOnly_of_noScope i hw.2 hw.1

theorem arrDim_step (acc : Decl) (s : XExpr) (hws : WF W s) (ihs : RT W s) (rest : List Tok) (out : Decl × List Tok)
    (hsafe : Safe s (toks (fmtSubX s arraySizePrec arraySizeSide) ++ .p .RightSquareBracket :: rest))
    (hc : ∃ N, ∀ f, N ≤ f → parseArrDims W f (.arr acc s) rest = some out) :
    ∃ N, ∀ f, N ≤ f → parseArrDims W f acc (.p .LeftSquareBracket ::
      (toks (fmtSubX s arraySizePrec arraySizeSide) ++ .p .RightSquareBracket :: rest)) = some out := by
  have hpo : PosOk arraySizePrec arraySizeSide := Or.inl (by decide)
  have hS : Parses W 15 .Sequence (toks (fmtSubX s arraySizePrec arraySizeSide) ++ (.p .RightSquareBracket :: rest))
      (s, .p .RightSquareBracket :: rest) :=
    rts_closed W ihs hws hpo 15 .Sequence _ _ 14 (by omega) (pos_commaList s.prec_lvl) (by omega) nofun hsafe
      (Or.inr (Or.inl rfl))
  refine LevelParser.Ev.step (LevelParser.Ev.and hS hc) fun f ⟨h1, h2⟩ => ?_
  unfold parseArrDims
  simp [arraySizeTerminator, h1, h2]

theorem arrDimN_step (acc : Decl) (rest : List Tok) (out : Decl × List Tok)
    (hc : ∃ N, ∀ f, N ≤ f → parseArrDims W f (.arrN acc) rest = some out) :
    ∃ N, ∀ f, N ≤ f → parseArrDims W f acc (.p .LeftSquareBracket :: .p .RightSquareBracket :: rest) = some out := by
  obtain ⟨N2, h2⟩ := hc
  refine ⟨N2 + 1, fun f hf => ?_⟩
  obtain ⟨f', rfl, hf'⟩ := succ_of_pos hf
  unfold parseArrDims
  have hbad : xparseLvl W f' 15 arraySizeTerminator (.p .RightSquareBracket :: rest) = none :=
    xparseLvl_badhead W _ _ ⟨(by intro n h; cases h), (by intro l h; cases h), (by decide), rfl, (by decide)⟩ _ _ _
  simp [hbad, h2 f' hf']

theorem arrDims_stop (acc : Decl) (rest : List Tok) (h : ∀ r, rest ≠ .p .LeftSquareBracket :: r) :
    ∀ f, 1 ≤ f → parseArrDims W f acc rest = some (acc, rest) := by
  intro f hf
  obtain ⟨f', rfl, _⟩ := succ_of_pos hf
  unfold parseArrDims
  split
  · rename_i r; exact absurd rfl (h r)
  · rfl

/-- array dimensions of an arrays-only abstract declarator, read starting from the empty declarator -/
def RTArr (d : Decl) : Prop :=
  arrOnly d = true → d.abstr = true → ∀ rest out,
    (hasLtDecl d = true → TmplFree (toks (fmtDecl d true) ++ rest) = true) →
    (∃ N, ∀ f, N ≤ f → parseArrDims W f d rest = some out) →
    ∃ N, ∀ f, N ≤ f → parseArrDims W f .empty (toks (fmtDecl d true) ++ rest) = some out

/-- an abstract declarator reads back -/
def RTDecl (d : Decl) : Prop :=
  d.abstr = true → ∀ rest, DeclRest rest →
    (hasLtDecl d = true → TmplFree (toks (fmtDecl d true) ++ rest) = true) →
    ∃ N, ∀ f, N ≤ f → parseDecl W f true (toks (fmtDecl d true) ++ rest) = some (d, rest)

/-- the base of a declarator under its array dimensions -/
def declBase : Decl → Decl
  | .arr i _ => declBase i
  | .arrN i => declBase i
  | d => d

/-- the tokens of the array dimensions around the base -/
def dimToks : Decl → List Tok
  | .arr i s => dimToks i ++ .p .LeftSquareBracket :: (toks (fmtSubX s arraySizePrec arraySizeSide) ++ [.p .RightSquareBracket])
  | .arrN i => dimToks i ++ [.p .LeftSquareBracket, .p .RightSquareBracket]
  | _ => []

/-- an arrays-only declarator prints its base (nothing, or the name) and then the dimensions -/
theorem toks_arrOnly : (d : Decl) → WFDecl W d → arrOnly d = true →
    toks (fmtDecl d true) = toks (fmtDecl (declBase d) true) ++ dimToks d
  | .empty, _, _ => rfl
  | .name n, _, _ => by simp [declBase, dimToks]
  | .ptr _ _, _, h => by simp [arrOnly] at h
  | .ref _, _, h => by simp [arrOnly] at h
  | .arr i s, hw, ha => by
    rw [toks_fmtDecl_arr, hw.1]
    simp [wrap_false, declBase, dimToks, toks_arrOnly i hw.2.1 (by simpa [arrOnly] using ha)]
  | .arrN i, hw, ha => by
    rw [toks_fmtDecl_arrN, hw.1]
    simp [wrap_false, declBase, dimToks, toks_arrOnly i hw.2 (by simpa [arrOnly] using ha)]

theorem declBase_cases : (d : Decl) → arrOnly d = true →
    (d.abstr = true ∧ declBase d = .empty) ∨ (d.abstr = false ∧ ∃ n, declBase d = .name n)
  | .empty, _ => Or.inl ⟨rfl, rfl⟩
  | .name n, _ => Or.inr ⟨rfl, n, rfl⟩
  | .ptr _ _, h => by simp [arrOnly] at h
  | .ref _, h => by simp [arrOnly] at h
  | .arr i _, h => by simpa [Decl.abstr, declBase] using declBase_cases i (by simpa [arrOnly] using h)
  | .arrN i, h => by simpa [Decl.abstr, declBase] using declBase_cases i (by simpa [arrOnly] using h)

theorem dimToks_head : (d : Decl) → dimToks d = [] ∨ ∃ r, dimToks d = .p .LeftSquareBracket :: r
  | .empty => Or.inl rfl
  | .name _ => Or.inl rfl
  | .ptr _ _ => Or.inl rfl
  | .ref _ => Or.inl rfl
  | .arr i s => by rcases dimToks_head i with h | ⟨r, h⟩ <;> simp [dimToks, h]
  | .arrN i => by rcases dimToks_head i with h | ⟨r, h⟩ <;> simp [dimToks, h]

/-- the array dimensions of an arrays-only declarator, read starting from its base (the empty declarator, or the name
once it has been read) -/
def RTDims (d : Decl) : Prop :=
  arrOnly d = true → ∀ rest out, (hasLtDecl d = true → TmplFree (dimToks d ++ rest) = true) →
    (∃ N, ∀ f, N ≤ f → parseArrDims W f d rest = some out) →
    ∃ N, ∀ f, N ≤ f → parseArrDims W f (declBase d) (dimToks d ++ rest) = some out

theorem rtDims_arr (i : Decl) (s : XExpr) (hw : WFDecl W (.arr i s)) (ihi : RTDims W i) (ihs : RT W s) :
    RTDims W (.arr i s) := by
  intro ha rest out hsafe hc
  have hd : dimToks (.arr i s) ++ rest = dimToks i ++ (.p .LeftSquareBracket ::
      (toks (fmtSubX s arraySizePrec arraySizeSide) ++ .p .RightSquareBracket :: rest)) := by simp [dimToks]
  rw [hd] at hsafe ⊢
  exact ihi (by simpa [arrOnly] using ha) _ out (fun hl => hsafe (by simp [hasLtDecl, hl]))
    (arrDim_step W i s hw.2.2 ihs rest out (SafeAt.mono (SafeAt.cons (SafeAt.append hsafe)) fun hl => by simp [hasLtDecl, hl]) hc)

theorem rtDims_arrN (i : Decl) (ihi : RTDims W i) : RTDims W (.arrN i) := by
  intro ha rest out hsafe hc
  have hd : dimToks (.arrN i) ++ rest = dimToks i ++ (.p .LeftSquareBracket :: .p .RightSquareBracket :: rest) := by
    simp [dimToks]
  rw [hd] at hsafe ⊢
  exact ihi (by simpa [arrOnly] using ha) _ out (fun hl => hsafe (by simpa [hasLtDecl] using hl))
    (arrDimN_step W i rest out hc)

/-- the first token of a printed declarator: none (the empty declarator), the name, `*`, `&`, or the `[` of the first
dimension of an abstract array -/
theorem decl_first : (d : Decl) → WFDecl W d → d = .empty ∨ ∃ t r, toks (fmtDecl d true) = t :: r ∧
    ((∃ n, t = .id n) ∧ d.abstr = false ∨ t = .p .Asterix ∨ t = .p .Ampersand ∨
      t = .p .LeftSquareBracket ∧ d.abstr = true ∧ d.startsBracket = true)
  | .empty, _ => Or.inl rfl
  | .name n, _ => Or.inr ⟨.id n, [], toks_fmtDecl_name n true, Or.inl ⟨⟨n, rfl⟩, rfl⟩⟩
  | .ptr q i, _ => Or.inr ⟨_, _, by simp [fmtDecl, pp]; rfl, Or.inr (Or.inl rfl)⟩
  | .ref i, _ => Or.inr ⟨_, _, by simp [fmtDecl, pp]; rfl, Or.inr (Or.inr (Or.inl rfl))⟩
  | .arr i s, hw => by
    rw [toks_fmtDecl_arr, hw.1]
    rcases decl_first i hw.2.1 with rfl | ⟨t, r, hr, ht⟩
    · exact Or.inr ⟨_, _, rfl, Or.inr (Or.inr (Or.inr ⟨rfl, rfl, rfl⟩))⟩
    · refine Or.inr ⟨t, _, by simp [wrap_false, hr]; rfl, ?_⟩
      rcases ht with h | h | h | ⟨h1, h2, h3⟩ <;> simp [Decl.abstr, Decl.startsBracket, hw.1, *]
  | .arrN i, hw => by
    rw [toks_fmtDecl_arrN, hw.1]
    rcases decl_first i hw.2 with rfl | ⟨t, r, hr, ht⟩
    · exact Or.inr ⟨_, _, rfl, Or.inr (Or.inr (Or.inr ⟨rfl, rfl, rfl⟩))⟩
    · refine Or.inr ⟨t, _, by simp [wrap_false, hr]; rfl, ?_⟩
      rcases ht with h | h | h | ⟨h1, h2, h3⟩ <;> simp [Decl.abstr, Decl.startsBracket, hw.1, *]

theorem declRest_noBracket {rest : List Tok} (h : DeclRest rest) : ∀ r, rest ≠ .p .LeftSquareBracket :: r := by
  intro r hr
  subst hr
  simp [DeclRest] at h

theorem named_head (d : Decl) (hb : d.abstr = false) (hw : WFDecl W d) :
    ∃ t r, toks (fmtDecl d true) = t :: r ∧ ((∃ n, t = .id n) ∨ t = .p .Asterix ∨ t = .p .Ampersand) := by
  rcases decl_first W d hw with rfl | ⟨t, r, hr, ht⟩
  · cases hb
  · refine ⟨t, r, hr, ?_⟩
    rcases ht with ⟨h, _⟩ | h | h | ⟨_, h, _⟩
    · exact Or.inl h
    · exact Or.inr (Or.inl h)
    · exact Or.inr (Or.inr h)
    · rw [hb] at h; cases h

/-- what may follow a declarator: an abstract one stands in front of a token that continues no declarator, a named one
in front of anything but `[` -/
def DeclStop : Bool → List Tok → Prop
  | true, rest => DeclRest rest
  | false, rest => ∀ r, rest ≠ .p .LeftSquareBracket :: r

theorem declStop_noBracket {ab : Bool} {rest : List Tok} (h : DeclStop ab rest) :
    ∀ r, rest ≠ .p .LeftSquareBracket :: r := by
  cases ab
  · exact h
  · exact declRest_noBracket h

/-- a declarator reads back, with `ab` the `abstract` flag of `parse_declarator_internal` -/
def RTDeclAt (ab : Bool) (d : Decl) : Prop :=
  d.abstr = ab → ∀ rest, DeclStop ab rest →
    (hasLtDecl d = true → TmplFree (toks (fmtDecl d true) ++ rest) = true) →
    ∃ N, ∀ f, N ≤ f → parseDecl W f ab (toks (fmtDecl d true) ++ rest) = some (d, rest)

theorem inner_head (inner : Decl) (hw : WFDecl W inner) (hsb : inner.startsBracket = false) (rest : List Tok)
    (hr : DeclStop inner.abstr rest) :
    ∀ t r, toks (fmtDecl inner true) ++ rest = t :: r → t ≠ .p .Const ∧ t ≠ .p .Volatile ∧ t ≠ .p .LeftSquareBracket := by
  intro t r h
  rcases decl_first W inner hw with rfl | ⟨t0, r0, hr0, ht0⟩
  · subst h
    exact ⟨hr.2.2.2.1, hr.2.2.2.2.1, hr.2.2.1⟩
  · rw [hr0] at h
    obtain ⟨rfl, _⟩ := List.cons.inj h
    rcases ht0 with ⟨⟨n, rfl⟩, _⟩ | rfl | rfl | ⟨_, _, h⟩
    · exact ⟨nofun, nofun, nofun⟩
    · exact ⟨nofun, nofun, nofun⟩
    · exact ⟨nofun, nofun, nofun⟩
    · rw [hsb] at h; cases h

theorem rtDeclAt_arrs (ab : Bool) (d : Decl) (hw : WFDecl W d) (ha : arrOnly d = true) (ih : RTDims W d) :
    RTDeclAt W ab d := by
  intro hb rest hr hsafe
  rw [toks_arrOnly W d hw ha] at hsafe ⊢
  have h := ih ha rest (d, rest)
    (fun hl => tmplFree_suffix (by rw [List.append_assoc]; exact List.suffix_append _ _) (hsafe hl))
    ⟨1, arrDims_stop W d rest (declStop_noBracket hr)⟩
  refine LevelParser.Ev.step h fun f h => ?_
  have h' := h
  rcases declBase_cases d ha with ⟨hab, hbase⟩ | ⟨hab, n, hbase⟩
  · obtain rfl : ab = true := hb.symm.trans hab
    rw [hbase] at h' ⊢
    rw [show toks (fmtDecl .empty true) = [] from rfl, List.nil_append, parseDecl_other, if_pos rfl, h']
    intro t r ht
    rcases dimToks_head d with hd | ⟨r0, hd⟩
    · rw [hd, List.nil_append] at ht
      subst ht
      exact ⟨hr.1, hr.2.1⟩
    · rw [hd] at ht
      simp only [List.cons_append, List.cons.injEq] at ht
      rw [← ht.1]
      exact ⟨nofun, nofun⟩
  · obtain rfl : ab = false := hb.symm.trans hab
    rw [hbase] at h' ⊢
    rw [toks_fmtDecl_name, List.append_assoc, List.singleton_append,
      parseDecl_other W f false _ fun t r ht => by cases ht; exact ⟨nofun, nofun⟩]
    exact h'

theorem rtDeclAt_ptr (ab : Bool) (quals : List TypeMod) (inner : Decl) (hw : WFDecl W (.ptr quals inner))
    (ih : RTDeclAt W ab inner) : RTDeclAt W ab (.ptr quals inner) := by
  intro hb rest hr hsafe
  obtain ⟨hq, hwi, hsb⟩ := hw
  have hbi : inner.abstr = ab := by simpa [Decl.abstr] using hb
  rw [toks_fmtDecl_ptr, toks_fmtMods_after] at hsafe ⊢
  simp only [List.cons_append, List.append_assoc] at hsafe ⊢
  have hhead := inner_head W inner hwi hsb rest (hbi ▸ hr)
  have h := ih hbi rest hr (SafeAt.mono (SafeAt.append (SafeAt.cons hsafe)) fun hl => by simpa [hasLtDecl] using hl)
  refine LevelParser.Ev.step h fun f h => ?_
  have hmods := takeModsAfter_quals quals hq (toks (fmtDecl inner true) ++ rest)
    (fun t r ht => ⟨(hhead t r ht).1, (hhead t r ht).2.1⟩)
  unfold parseDecl
  split
  · -- `*` `[`: excluded
    rename_i tl heq
    simp only [List.cons.injEq, true_and] at heq
    cases quals with
    | nil =>
      simp only [List.map_nil, List.nil_append] at heq
      exact absurd rfl ((hhead _ _ heq).2.2)
    | cons q qs =>
      have := hq q List.mem_cons_self
      rcases this with rfl | rfl <;> simp [modTok, modBeforeKw] at heq
  · rename_i r0 _ heq
    simp only [List.cons.injEq, true_and] at heq
    subst heq
    simp [hmods, h]
  · rename_i heq; simp at heq
  · rename_i heq; simp at heq
  · rename_i h1 h2 h3 h4
    exact absurd rfl (h2 _)

theorem rtDeclAt_ref (ab : Bool) (inner : Decl) (hw : WFDecl W (.ref inner)) (ih : RTDeclAt W ab inner) :
    RTDeclAt W ab (.ref inner) := by
  intro hb rest hr hsafe
  obtain ⟨hwi, hsb, _⟩ := hw
  have hbi : inner.abstr = ab := by simpa [Decl.abstr] using hb
  rw [toks_fmtDecl_ref, List.cons_append] at hsafe ⊢
  have hhead := inner_head W inner hwi hsb rest (hbi ▸ hr)
  have h := ih hbi rest hr (SafeAt.mono (SafeAt.cons hsafe) fun hl => by simpa [hasLtDecl] using hl)
  refine LevelParser.Ev.step h fun f h => ?_
  unfold parseDecl
  split
  · rename_i heq; simp at heq
  · rename_i heq; simp at heq
  · rename_i tl heq
    simp only [List.cons.injEq, true_and] at heq
    exact absurd rfl ((hhead _ _ heq).2.2)
  · rename_i r0 _ heq
    simp only [List.cons.injEq, true_and] at heq
    subst heq
    simp [h]
  · rename_i h1 h2 h3 h4
    exact absurd rfl (h4 _)

def RTTy (ty : TyId) : Prop :=
  ∀ sym fol rest, (sym = true → W.contains (tyName ty) = true) → TyRest rest →
    (hasLtTy ty = true → TmplFree (toks (fmtTyId ty fol) ++ rest) = true) →
    ∃ N, ∀ f, N ≤ f → parseTyId W f sym (toks (fmtTyId ty fol) ++ rest) = some (ty, rest)

def RTTArgs (as : TArgs) : Prop :=
  ∀ a r, as = .cons a r → ∀ fol rest, shiftAssignHead rest = false → NoEq rest →
    (hasLtTArgs as = true → TmplFree (toks (fmtTArgs as fol) ++ rest) = true) →
    ∃ N, ∀ f, N ≤ f → parseTArgsReq W f (toks (fmtTArgs as fol) ++ rest) = some (as, rest)

theorem toks_fmtTyId (mods : List TypeMod) (n : String) (targs : TArgs) (d : Decl) (fol : Bool) :
    toks (fmtTyId (.mk mods n targs d) fol) =
      mods.map modTok ++ (.id n :: (toks (fmtTArgs targs (startsTok (fmtDecl d true) fol)) ++ toks (fmtDecl d true))) := by
  simp [fmtTyId, toks_fmtMods_before]

theorem shift_of_head {ts : List Tok} (h : ∀ t r, ts = t :: r → t.isGt = false) : shiftAssignHead ts = false := by
  cases ts with
  | nil => rfl
  | cons t r =>
    have := h t r rfl
    cases t <;> simp [Tok.isGt] at this <;> rfl

theorem noEq_of_head {ts : List Tok} (h : ∀ t r, ts = t :: r → t ≠ .p .Equals) : NoEq ts := by
  unfold NoEq
  split
  · exact h _ _ rfl rfl
  · trivial

/-- a token that may follow a type: not `<`, not a trailing qualifier, not a `>`-family token, not `=` -/
def AfterTy (t : Tok) : Prop :=
  t.isLt = false ∧ t ≠ .p .Const ∧ t ≠ .p .Volatile ∧ t.isGt = false ∧ t ≠ .p .Equals

theorem afterTy_id (n : String) : AfterTy (.id n) := ⟨rfl, nofun, nofun, rfl, nofun⟩
theorem afterTy_star : AfterTy (.p .Asterix) := ⟨rfl, nofun, nofun, rfl, nofun⟩
theorem afterTy_amp : AfterTy (.p .Ampersand) := ⟨rfl, nofun, nofun, rfl, nofun⟩
theorem afterTy_comma : AfterTy (.p .Comma) := ⟨rfl, nofun, nofun, rfl, nofun⟩
theorem afterTy_lbrace : AfterTy (.p .LeftBrace) := ⟨rfl, nofun, nofun, rfl, nofun⟩
theorem afterTy_lbracket : AfterTy (.p .LeftSquareBracket) := ⟨rfl, nofun, nofun, rfl, nofun⟩

/-- what `parse_type_internal` stops in front of: no template argument list, no `>>=`-like head that would re-split the
closing `>`, no `=` after it, no trailing qualifier -/
def TyStop (more : List Tok) : Prop :=
  (∀ t r, more = t :: r → t.isLt = false) ∧ shiftAssignHead more = false ∧ NoEq more ∧ takeModsAfter more = ([], more)

theorem tyStop_of_afterTy {t : Tok} (h : AfterTy t) (r : List Tok) : TyStop (t :: r) :=
  ⟨fun _ _ e => by cases e; exact h.1, shift_of_head fun _ _ e => by cases e; exact h.2.2.2.1,
    noEq_of_head fun _ _ e => by cases e; exact h.2.2.2.2, takeModsAfter_stop _ _ h.2.1 h.2.2.1⟩

theorem tyStop_of_tyRest {rest : List Tok} (h : TyRest rest) : TyStop rest := by
  have hd := tyRest_declRest h
  obtain ⟨t, r, rfl, _⟩ := tyRest_cases h
  exact ⟨fun _ _ e => by cases e; exact hd.2.2.2.2.2.1, tyRest_shift h, noEq_of_head fun _ _ e => by cases e; exact hd.2.2.2.2.2.2,
    takeModsAfter_stop _ _ hd.2.2.2.1 hd.2.2.2.2.1⟩

/-- `parse_type_id_internal` is `parse_type_internal` (modifiers, name, template arguments, modifiers after) followed by an
abstract declarator; with a symbol table the name has to be a type -/
theorem parseTyId_succ (f : Nat) (sym : Bool) (ts : List Tok) :
    parseTyId W (f + 1) sym ts =
      match RsslVerif.Model.ParseStmt.parseTy W f ts with
      | some ((mods, n, targs), r) =>
        if sym && !W.contains n then none
        else match parseDecl W f true r with
          | some (d, r') => some (.mk mods n targs d, r')
          | none => none
      | none => none := by
  unfold parseTyId RsslVerif.Model.ParseStmt.parseTy
  rcases takeModsBefore ts with ⟨mods, _ | ⟨t, r⟩⟩
  · rfl
  · cases t <;> rfl

/-- modifiers, name and template arguments of a printed type, in front of tokens that continue none of them -/
theorem parseTy_reads (mods : List TypeMod) (n : String) (targs : TArgs) (fol : Bool)
    (hstop : modBeforeStep (.id n) = .stop) (ihT : RTTArgs W targs) (more : List Tok) (hmore : TyStop more)
    (hsafe : hasLtTArgs targs = true → TmplFree (toks (fmtTArgs targs fol) ++ more) = true) :
    ∃ N, ∀ f, N ≤ f → RsslVerif.Model.ParseStmt.parseTy W f (mods.map modTok ++ (.id n :: (toks (fmtTArgs targs fol) ++ more))) =
      some ((mods, n, targs), more) := by
  have hmods := takeModsBefore_mods mods (.id n) (toks (fmtTArgs targs fol) ++ more) hstop
  obtain ⟨hlt, hsh, hne, hafter⟩ := hmore
  cases targs with
  | nil =>
    refine ⟨0, fun f _ => ?_⟩
    have hnone : parseTArgsReq W f more = none := by
      cases more with
      | nil => cases f <;> simp [parseTArgsReq]
      | cons t r => exact parseTArgsReq_notlt W f t r (hlt t r rfl)
    unfold RsslVerif.Model.ParseStmt.parseTy
    rw [hmods]
    simp only [fmtTArgs, toks_nil, List.nil_append, hnone, hafter, List.append_nil]
  | cons a r =>
    refine LevelParser.Ev.mono (ihT a r rfl fol more hsh hne hsafe) fun f h => ?_
    unfold RsslVerif.Model.ParseStmt.parseTy
    rw [hmods]
    simp only [h, hafter, List.append_nil]

theorem rtTy (mods : List TypeMod) (n : String) (targs : TArgs) (d : Decl) (hw : WFTy W (.mk mods n targs d))
    (hb : d.abstr = true) (ihT : RTTArgs W targs) (ihD : RTDecl W d) : RTTy W (.mk mods n targs d) := by
  intro sym fol rest hsym hrest hsafe
  obtain ⟨hstop, hwT, hwD⟩ := hw
  have hdr := tyRest_declRest hrest
  rw [toks_fmtTyId] at hsafe ⊢
  simp only [List.append_assoc, List.cons_append] at hsafe ⊢
  have h2 := ihD hb rest hdr (SafeAt.mono (SafeAt.append (SafeAt.cons (SafeAt.append hsafe))) fun hl => by simp [hasLtTy, hl])
  -- the declarator is empty (then `rest` follows the type) or starts with `*`, `&` or `[`
  have hstopD : TyStop (toks (fmtDecl d true) ++ rest) := by
    rcases decl_first W d hwD with rfl | ⟨t, r, hr, ht⟩
    · exact tyStop_of_tyRest hrest
    · rw [hr]
      rcases ht with ⟨_, h⟩ | rfl | rfl | ⟨rfl, _⟩
      · rw [hb] at h; cases h
      · exact tyStop_of_afterTy afterTy_star _
      · exact tyStop_of_afterTy afterTy_amp _
      · exact tyStop_of_afterTy afterTy_lbracket _
  have h1 := parseTy_reads W mods n targs (startsTok (fmtDecl d true) fol) hstop ihT _ hstopD
    (SafeAt.mono (SafeAt.cons (SafeAt.append hsafe)) fun hl => by simp [hasLtTy, hl])
  refine LevelParser.Ev.step (LevelParser.Ev.and h1 h2) fun f ⟨h1, h2⟩ => ?_
  have hsym' : (sym && !W.contains n) = false := by
    cases sym with
    | false => rfl
    | true => simp [tyName] at hsym; simp [hsym]
  rw [parseTyId_succ, h1]
  simp only [hsym', Bool.false_eq_true, if_false, h2]

end RsslVerif.Lemmas.RoundtripFull
