import RsslVerif.Model.InstCache
/-!
# The instantiation cache returns only the instantiation that was asked for (C13)
-/
namespace RsslVerif.Lemmas.InstCache
open RsslVerif.Gen.InstTable RsslVerif.Model.ConstEval RsslVerif.Model.ConstPos RsslVerif.Model.InstCache

/-- tie: the comparison extracted from `find_instantiation` is the derived `==` (refuted when the source compares in
    another way the extractor can read, e.g. through `to_uint64`) -/
theorem fnKeyMode_exact : fnKeyMode = .exact := by decide

theorem argEq_is_derived : argEqDerived = true ∧ structMapKeyedByArgs = true := by decide

theorem sameKey_exact (a b : List Arg) : sameKey .exact a b = true ↔ a = b := by
  induction a generalizing b with
  | nil => cases b <;> simp [sameKey]
  | cons x xs ih =>
    cases b with
    | nil => simp [sameKey]
    | cons y ys => simp [sameKey, sameArg, ih]

/-- `find_instantiation` is `List.find?` with the comparison as its test -/
theorem find_eq {α : Type} (m : KeyMode) (p : Nat) (k : List Arg) (c : List (Entry α)) :
    find m p k c = c.find? fun e => e.parent = p && sameKey m e.key k := by
  induction c with
  | nil => rfl
  | cons x r ih => rw [find, ih, List.find?_cons]; cases x.parent = p && sameKey m x.key k <;> rfl

theorem find_sound {α : Type} (p : Nat) (k : List Arg) (c : List (Entry α)) (e : Entry α)
    (h : find .exact p k c = some e) : e ∈ c ∧ e.parent = p ∧ e.key = k := by
  rw [find_eq] at h
  have := List.find?_some h
  simp only [Bool.and_eq_true, decide_eq_true_eq, sameKey_exact] at this
  exact ⟨List.mem_of_find?_eq_some h, this⟩

theorem find_complete {α : Type} (p : Nat) (k : List Arg) (c : List (Entry α))
    (h : ∃ e ∈ c, e.parent = p ∧ e.key = k) : (find .exact p k c).isSome = true := by
  simpa [find_eq, sameKey_exact] using h

/-- every registered instantiation is what building it from its own recorded arguments gives -/
def Inv {α : Type} (build : Nat → List Arg → α) (c : List (Entry α)) : Prop :=
  ∀ e ∈ c, e.val = build e.parent e.key

theorem use_exact {α : Type} (build : Nat → List Arg → α) (c : List (Entry α)) (p : Nat) (k : List Arg)
    (hinv : Inv build c) :
    (use .exact build c p k).2 = build p k ∧ Inv build (use .exact build c p k).1 := by
  unfold use
  cases hf : find .exact p k c with
  | some e =>
    obtain ⟨hm, hp, hk⟩ := find_sound p k c e hf
    refine ⟨?_, hinv⟩
    simp only
    rw [hinv e hm, hp, hk]
  | none =>
    refine ⟨rfl, ?_⟩
    intro e he
    simp only at he
    rcases List.mem_append.mp he with h | h
    · exact hinv e h
    · simp only [List.mem_singleton] at h
      subst h
      rfl

theorem run_exact {α : Type} (build : Nat → List Arg → α) (calls : List (Nat × List Arg)) (c : List (Entry α))
    (hinv : Inv build c) :
    run .exact build c calls = calls.map (fun pk => build pk.1 pk.2) := by
  induction calls generalizing c with
  | nil => rfl
  | cons pk r ih =>
    obtain ⟨p, k⟩ := pk
    have hu := use_exact build c p k hinv
    simp only [run, List.map_cons]
    rw [hu.1, ih _ hu.2]

/-! ### struct templates -/

theorem complete_idem (ds k : List Arg) (hlen : k.length ≤ ds.length) : complete ds (complete ds k) = complete ds k := by
  have : (complete ds k).length = ds.length := by
    simp only [complete, List.length_append, List.length_drop]
    omega
  unfold complete at this ⊢
  rw [this]
  simp

/-- under the invariant a struct template is used like a function template built from the completed argument list: the
    second lookup can only find what building would give -/
theorem useStruct_eq_use {α : Type} (build : List Arg → α) (ds : List Arg) (c : List (Entry α)) (k : List Arg)
    (hlen : k.length ≤ ds.length) (hinv : Inv (fun _ k => build (complete ds k)) c) :
    useStruct build ds c k = use .exact (fun _ k => build (complete ds k)) c 0 k := by
  unfold useStruct use
  cases find .exact 0 k c with
  | some e => rfl
  | none =>
    cases hf : find .exact 0 (complete ds k) c with
    | none => simp only [hf]
    | some e =>
      obtain ⟨hm, _, hk⟩ := find_sound 0 (complete ds k) c e hf
      simp only [hf, hinv e hm, hk, complete_idem ds k hlen]

theorem runStruct_exact {α : Type} (build : List Arg → α) (ds : List Arg) (uses : List (List Arg)) (c : List (Entry α))
    (hlen : ∀ k ∈ uses, k.length ≤ ds.length) (hinv : Inv (fun _ k => build (complete ds k)) c) :
    runStruct build ds c uses = uses.map (fun k => build (complete ds k)) := by
  induction uses generalizing c with
  | nil => rfl
  | cons k r ih =>
    have hu := use_exact _ c 0 k hinv
    simp only [runStruct, List.map_cons, useStruct_eq_use build ds c k (hlen k List.mem_cons_self) hinv]
    rw [hu.1, ih _ (fun k' hk' => hlen k' (List.mem_cons_of_mem _ hk')) hu.2]

end RsslVerif.Lemmas.InstCache
