import RsslVerif.Lemmas.GenMslTramp
/-! Metal exporter, programs: the emitted definitions, looked up the way a C++ front end resolves the exporter's
overloads, and their signatures. -/
namespace RsslVerif.Lemmas.GenMsl
open RsslVerif.Gen.HlslGenTables RsslVerif.Gen.MslGenTables RsslVerif.Model RsslVerif.Model.GenMsl RsslVerif.Spec.Sem
open RsslVerif.Model.Ir (Ty Var Const Dir)
open RsslVerif.Model.GenHlsl (GenErr)

/-- the user parameters as a C++ front end reads them: no tag among them, kinds and types those of the typed signature -/
theorem paramSig_user {cx : Ctx} : ∀ (ps : Params) (mps : List MslAst.Param) (rest : List MslAst.Param) (restSig : List (Msl.PK × Ty)),
    GenMsl.genParams cx ps = .ok mps → Msl.paramSig rest = some restSig →
    mps.any MslAst.Param.isTag = false ∧ Msl.paramSig (mps ++ rest) = some (mParamsOf ps ++ restSig)
  | [], mps, rest, restSig, h, hr => by rw [genParams_nil_ok h]; exact ⟨rfl, by simpa [mParamsOf] using hr⟩
  | (pid, d, T) :: ps, mps, rest, restSig, h, hr => by
    obtain ⟨tn, mps', htn, hrp, rfl⟩ := genParams_cons_ok h
    obtain ⟨ih0, ih⟩ := paramSig_user ps mps' rest restSig hrp hr
    have htn' := typeName_tyOfName htn
    have hmp : mParamsOf ((pid, d, T) :: ps) = (pkOf d, T) :: mParamsOf ps := rfl
    by_cases hd : d = .in_
    · subst hd; simp [Msl.paramSig, htn', ih, ih0, hmp, pkOf, MslAst.Param.isTag]
    · have hpk : pkOf d = Msl.PK.ref := by cases d <;> simp_all [pkOf]
      simp [hd, Msl.paramSig, htn', ih, ih0, hmp, hpk, MslAst.Param.isTag]

theorem paramSig_globals {cx : Ctx} : ∀ (gs : List Nat) (gps : List MslAst.Param),
    GenMsl.genGlobalParams cx gs = .ok gps → gps.any MslAst.Param.isTag = false ∧ Msl.paramSig gps = some (globParams cx gs)
  | [], gps, h => by rw [genGlobalParams_nil_ok h]; exact ⟨rfl, rfl⟩
  | g :: gs, gps, h => by
    obtain ⟨tn, gps', htn, hr, rfl⟩ := genGlobalParams_cons_ok h
    obtain ⟨ih0, ih⟩ := paramSig_globals gs gps' hr
    simp [Msl.paramSig, typeName_tyOfName htn, ih, ih0, globParams, MslAst.Param.isTag]

/-- name, kind of overload, return type and signature of what `generate_function_inner` emits -/
theorem genFuncInner_facts {cx : Ctx} {fn : Ir.Func} {gs : List Nat} {target tramp : Bool} {m : MslAst.Func}
    (hreq : cx.req fn.id = some gs) (h : genFuncInner cx fn target tramp = .ok m) :
    m.name = cx.funcName fn.id ∧ m.isTarget = target ∧ Ast.tyOfName m.ret = some fn.ret ∧
    Msl.paramSig m.params = some (mParamsOf fn.params ++ ((if target then [(Msl.PK.tag, Ty.void)] else []) ++ globParams cx gs)) := by
  obtain ⟨rt, ps', gps, body, hrt, hps, hgp, _, rfl⟩ := genFuncInner_ok hreq h
  obtain ⟨h2, h3⟩ := paramSig_globals gs gps hgp
  refine ⟨rfl, ?_, typeName_tyOfName hrt, ?_⟩
  · have h1 := (paramSig_user fn.params ps' gps _ hps h3).1
    cases target <;> simp [MslAst.Func.isTarget, List.any_append, h1, h2, MslAst.Param.isTag]
  · cases target
    · simpa using (paramSig_user fn.params ps' gps _ hps h3).2
    · have : Msl.paramSig (MslAst.Param.tag tagType :: gps) = some ((Msl.PK.tag, Ty.void) :: globParams cx gs) := by
        simp [Msl.paramSig, h3]
      simpa using (paramSig_user fn.params ps' (MslAst.Param.tag tagType :: gps) _ hps this).2

theorem genFuncInner_name {cx : Ctx} {fn : Ir.Func} {target tramp : Bool} {m : MslAst.Func}
    (h : genFuncInner cx fn target tramp = .ok m) : m.name = cx.funcName fn.id := by
  cases hreq : cx.req fn.id with
  | none => simp only [genFuncInner, hreq] at h; split at h <;> cases h
  | some gs => exact (genFuncInner_facts hreq h).1

theorem genFuncs_names {cx : Ctx} {fn : Ir.Func} {ms : List MslAst.Func} (hf : genFuncs cx fn = .ok ms) :
    ∀ m ∈ ms, m.name = cx.funcName fn.id := by
  revert hf
  fun_cases genFuncs cx fn <;> intro hf <;> cases hf
  next m1 h1 _ m2 h2 => -- a target and its trampoline
    intro m hm
    simp only [List.mem_cons, List.not_mem_nil, or_false] at hm
    rcases hm with rfl | rfl
    · exact genFuncInner_name h1
    · exact genFuncInner_name h2
  next m1 h1 _ =>
    intro m hm
    rw [List.mem_singleton.mp hm]; exact genFuncInner_name h1

end RsslVerif.Lemmas.GenMsl
