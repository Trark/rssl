import RsslVerif.Lemmas.FixpointCall
/-!
The two inductions over successful elaborations behind C04: every tree read from the export of an elaborated expression
elaborates to it again (`reelab_aux`), and no accepted call passes a `Cast` for an `out` / `inout` parameter (`elab_outArgsPlain`).
-/
namespace RsslVerif.Lemmas.FixpointMain
open RsslVerif.Gen.RankTable RsslVerif.Gen.TypingTables
open RsslVerif.Model.Conv RsslVerif.Model.Overload RsslVerif.Model.IrTyping RsslVerif.Model.Elab
open RsslVerif.Model.Fixpoint RsslVerif.Lemmas.ElabConv RsslVerif.Lemmas.Elab RsslVerif.Lemmas.ElabExact
open RsslVerif.Lemmas.ElabRelease RsslVerif.Lemmas.ElabInv RsslVerif.Lemmas.FixpointElab RsslVerif.Lemmas.FixpointArith RsslVerif.Lemmas.FixpointArithDim
open RsslVerif.Lemmas.FixpointForms RsslVerif.Lemmas.FixpointCall RsslVerif.Lemmas.FixpointPlace

variable {Γ Γ' : Env}

/-! ## conversions keep "no `Cast` in an `out` / `inout` argument position" -/

theorem applyConv_out {c : Conversion} {a a2 : IExpr} (h : applyConv c a = .ok a2) (hp : OutArgsPlain Γ a) :
    OutArgsPlain Γ a2 := by
  rcases applyConv_cases h with ⟨rfl, _⟩ | ⟨t, _, rfl | ⟨k0, k, rfl, _, _, _, rfl⟩⟩
  · exact hp
  · exact hp
  · trivial

theorem convert_out {a a2 : IExpr} {s d t : ETy} (h : convert a s d = .ok (some (a2, t)))
    (hp : OutArgsPlain Γ a) : OutArgsPlain Γ a2 := by
  obtain ⟨c, _, ha, _⟩ := convert_inv h
  exact applyConv_out ha hp

theorem castArgs_out {ps : List Param} {args args2 : IArgs} {ts : List ETy} (h : CastArgs ps args ts args2) :
    OutArgsPlainArgs Γ args → OutArgsPlainArgs Γ args2 := by
  induction h with
  | nil => exact id
  | cons _ ha _ ih => exact fun hp => ⟨applyConv_out ha hp.1, ih hp.2⟩

theorem elabUn_out {o : UnOp} {e n : IExpr} {τ τ' : ETy} (h : elabUn Γ o e τ = .ok (n, τ')) (hp : OutArgsPlain Γ e) :
    OutArgsPlain Γ n := by
  rcases elabUn_cases h with ⟨i, _, rfl, _⟩ | ⟨k, _, _, _, rfl, _⟩ | ⟨c, e2, _, _, ha, ⟨_, _, rfl⟩ | ⟨_, _, _, rfl⟩⟩
  · exact ⟨hp, trivial⟩
  · trivial
  · exact ⟨applyConv_out ha hp, trivial⟩
  · exact ⟨applyConv_out ha hp, trivial⟩

theorem cls_sequence (o : BinOp) (h : o.cls = .sequence) : o = .sequence := by
  cases o <;> simp [BinOp.cls] at h <;> rfl

/-- the cases of `reelab_aux`: each form reads back when its operands do -/
theorem reelab_cases (hR : Renamed Γ Γ') :
    ElabCases false Γ (fun s i τ => SrcOk s → Reads Γ' i τ) (fun as args ts => SrcArgsOk as → ArgsIH Γ Γ' args ts) where
  lit k hs s' hu := by
    have := elabE_unelab_lit hu
    rwa [show rereadKind k = k from hs] at this
  var v t ht _ s' hu := by
    cases hu
    simp [elabE, hR.vars, ht, selfCheck]
  un o e e' τe n τn _ ih hn hs := elabUn_stable hR hn (ih hs)
  arith o a b a' τa b' τb n τn hcls _ iha _ ihb hn hs := elabArith_stable hcls hn (iha hs.1) (ihb hs.2)
  assign o a b a' τa b' τb n τn hcls _ iha _ ihb hn hs := elabAssign_stable hR hcls hn (iha hs.1) (ihb hs.2)
  seq o a b a' τa b' τb hcls _ iha _ ihb hs s' hu := by
    cases cls_sequence o hcls
    cases hu with
    | seq hx hy => simp [elabE, iha hs.1 _ hx, ihb hs.2 _ hy, BinOp.cls, selfCheck]
  tern c a b c' τc a' τa b' τb n τn _ ihc _ iha _ ihb hn hs := elabTern_stable hn (ihc hs.1) (iha hs.2.1) (ihb hs.2.2)
  call name args args' ts n τn _ ih hn hs := elabCall_stable hR hn (ih hs)
  cast t e e' τe _ ih hs s' hu := by
    cases hu with
    | castDrop hl _ => rw [hs.1] at hl; cases hl
    | cast _ hue => simp [elabE, ih hs.2 _ hue, selfCheck]
  nil _ := trivial
  cons e r e' τe r' tr he ihe _ ihr hs := ⟨elab_sound_any false e e' τe he, ihe hs.1, ihr hs.2⟩

/-- every tree the front end can read from the export of an elaborated expression elaborates to that expression -/
theorem reelab_aux (hR : Renamed Γ Γ') (s : SExpr) (i : IExpr) (τ : ETy) (hs : SrcOk s)
    (h : elabE false Γ s = .ok (i, τ)) : Reads Γ' i τ :=
  elabE_ok_rec (reelab_cases hR) s i τ h hs

theorem reelabArgs_aux (hR : Renamed Γ Γ') : ∀ (as : SArgs) (args : IArgs) (ts : List ETy), SrcArgsOk as →
    elabArgs false Γ as = .ok (args, ts) → ArgsIH Γ Γ' args ts :=
  fun as args ts hs h => elabArgs_ok_rec (reelab_cases hR) as args ts h hs

/-! ## since fix 3758fdd: no accepted expression passes a `Cast` for an `out` / `inout` parameter -/

theorem outArgsPlain_cases : ElabCases false Γ (fun _ i _ => OutArgsPlain Γ i) (fun _ args _ => OutArgsPlainArgs Γ args) where
  lit _ := trivial
  var _ _ _ := trivial
  un _ _ _ _ _ _ _ ih hn := elabUn_out hn ih
  arith _ _ _ _ _ _ _ _ _ _ _ iha _ ihb hn := by
    obtain ⟨_, _, ca, cb, a2, b2, iop, _, _, _, _, _, _, haa, hab, _, _, rfl⟩ := elabArith_iff.1 hn
    exact ⟨applyConv_out haa iha, applyConv_out hab ihb, trivial⟩
  assign _ _ _ _ _ _ _ _ _ _ _ iha _ ihb hn := by
    obtain ⟨_, _, _, c, b2, iop, _, hab, _, _, rfl⟩ := elabAssign_inv hn
    exact ⟨iha, applyConv_out hab ihb, trivial⟩
  seq _ _ _ _ _ _ _ _ _ iha _ ihb := ⟨iha, ihb⟩
  tern _ _ _ _ _ _ _ _ _ _ _ _ ihc _ iha _ ihb hn := by
    obtain ⟨_, _, _, _, c2, a2, b2, _, _, _, haa, hab, _, _, hac, rfl, _⟩ := elabTern_iff.1 hn
    exact ⟨applyConv_out hac ihc, applyConv_out haa iha, applyConv_out hab ihb⟩
  call name args args' ts n τ _ ih hn := by
    obtain ⟨id, sg, args2, _, hsg, hca, hchk, rfl, _⟩ := elabCall_inv hn
    refine ⟨fun sg' hsg' => ?_, castArgs_out hca ih⟩
    cases hsg.symm.trans hsg'
    exact outArgsPlain_of_checkOutArgs sg.params args2 hchk
  cast _ _ _ _ _ ih := ih
  nil := trivial
  cons _ _ _ _ _ _ _ ihe _ ihr := ⟨ihe, ihr⟩

/-- in every elaborated expression, at every call, no
    argument in an `out` / `inout` position is a `Cast` node (`check_output_arguments` runs on the converted arguments and
    a `Cast` is an rvalue) -/
theorem elab_outArgsPlain : ∀ (s : SExpr) (i : IExpr) (τ : ETy), elabE false Γ s = .ok (i, τ) → OutArgsPlain Γ i :=
  elabE_ok_rec outArgsPlain_cases

theorem elabArgs_outArgsPlain : ∀ (as : SArgs) (args : IArgs) (ts : List ETy),
    elabArgs false Γ as = .ok (args, ts) → OutArgsPlainArgs Γ args :=
  elabArgs_ok_rec outArgsPlain_cases

end RsslVerif.Lemmas.FixpointMain
