import RsslVerif.Lemmas.ElabX
/-! Lemmas for C03, extended language: the type of an operand after `ImplicitConversion::apply` and call arguments against
parameter types (namespace `ElabExactX`: the statements of namespace `ElabExact` in `Lemmas/ElabRelease.lean` over the larger `IExpr`); every node the
elaboration helpers of the old fragment build has, under the IR's typing rules, exactly the computed type: one lemma per helper,
read off the helper's inversion in `Lemmas/ElabX` (namespace `ElabReleaseX`: the statements of `Lemmas/ElabRelease.lean`).
Core Lean only. -/
open RsslVerif.Gen.RankTable RsslVerif.Gen.TypingTables RsslVerif.Model.Conv RsslVerif.Model.Overload
open RsslVerif.Model.IrTyping (FuncSig opReturn boolOf)
open RsslVerif.Model.Elab (Err boolR intR minusFolds enforceIncrement unwrapPanic nvRank nvIsInteger arithTarget
  arithScalar mostSigScalar ternTargets candsFrom)
open RsslVerif.Model.IrTypingX RsslVerif.Model.ElabX RsslVerif.Lemmas.ElabConv RsslVerif.Lemmas.ElabX

namespace RsslVerif.Lemmas.ElabExactX

variable {Γ : Env}

theorem applyConv_type {e e' : IExpr} {s d : ETy} {c : Conversion} (he : HasType Γ e s)
    (hf : find s d = .ok (some c)) (ha : applyConv c e = .ok e') :
    ∃ τ', HasType Γ e' τ' ∧ τ'.ty = d.ty ∧ ((e' = e ∧ τ' = s) ∨ τ'.vt = .rvalue) := by
  have ht := targetType_ok hf
  rcases applyConv_cases ha with ⟨rfl, hc⟩ | ⟨t, ht', hk⟩
  · exact ⟨s, he, trivial_conv_same hf hc, Or.inl ⟨rfl, rfl⟩⟩
  · rw [ht] at ht'; cases ht'
    rcases hk with rfl | ⟨_, k, _, _, hm, hl, rfl⟩
    · exact ⟨d.ty.r, .cast he, rfl, Or.inr rfl⟩
    · exact ⟨(scalarTy k).r, .lit k, ty_ext (by simp [scalarTy, Ty.r, hm]) (by simp [scalarTy, Ty.r, hl]), Or.inr rfl⟩

def ArgsMatch : List ETy → List Param → Prop
  | [], _ => True
  | t :: ts, p :: ps => t.ty = p.ty ∧ ArgsMatch ts ps
  | _ :: _, [] => False

theorem castArgs_exact {ps : List Param} {as as' : IArgs} {ts : List ETy} (h : CastArgs ps as ts as')
    (hu : HasArgs Γ as ts) : ∃ us, HasArgs Γ as' us ∧ ArgsMatch us ps := by
  induction h with
  | nil => exact ⟨[], .nil, trivial⟩
  | cons hf ha _ ih =>
    cases hu with
    | cons he hr =>
      obtain ⟨τ', h1, hty, _⟩ := applyConv_type he hf ha
      obtain ⟨us, h2, h3⟩ := ih hr
      exact ⟨τ' :: us, .cons h1 h2, by simpa [Param.ety] using hty, h3⟩

end RsslVerif.Lemmas.ElabExactX

namespace RsslVerif.Lemmas.ElabReleaseX
open RsslVerif.Lemmas.ElabExactX

variable {Γ : Env}

theorem elabUn_sound {o : UnOp} {e n : IExpr} {τ τ' : ETy} (he : HasType Γ e τ)
    (h : elabUn Γ o e τ = .ok (n, τ')) : HasType Γ n τ' := by
  rcases elabUn_cases h with ⟨i, rfl, hret, _⟩ | ⟨k, rfl, rfl, rfl⟩ | ⟨c, e2, hf, ha, hop⟩
  · exact .op (.cons he .nil) hret
  · -- `-literal` is folded: the literal itself, at its own (unmodified) type
    cases he; exact .lit _
  · obtain ⟨τ'', h1, h2, _⟩ := applyConv_type he hf ha
    rcases hop with ⟨rfl, rfl⟩ | ⟨rfl, rfl⟩
    · have hlay : τ''.ty.layer = .scalar .bool := by rw [h2]; rfl
      exact .op (.cons h1 .nil) (by simp [opReturn, IOp.rule, hlay, boolR])
    · exact .op (.cons h1 .nil) (by simp [opReturn, IOp.rule, h2, intR, Ty.unmod, scalarTy, Ty.r])

theorem elabArith_ok {o : BinOp} {a b n : IExpr} {τa τb τ' : ETy} (hc : o.cls = .arith)
    (ha : HasType Γ a τa) (hb : HasType Γ b τb) (h : elabArith o a τa b τb = .ok (n, τ')) :
    ∃ ts dim i a' b' ta tb, o.toIOp = some i ∧ n = .op i (.cons a' (.cons b' .nil)) ∧ HasType Γ a' ta ∧ HasType Γ b' tb ∧
      ta.ty = ⟨{}, Layer.ofDim (arithScalar ts dim) dim⟩ ∧ tb.ty = ⟨{}, Layer.ofDim (arithScalar ts dim) dim⟩ ∧
      opReturn i [ta, tb] = .ok τ' := by
  obtain ⟨ts, dim, _, ca, cb, a', b', i, rfl, hfa, hfb, haa, hbb, hi, hout, rfl⟩ := elabArith_inv h
  obtain ⟨τa', h1, h2, _⟩ := applyConv_type ha hfa haa
  obtain ⟨τb', h3, h4, _⟩ := applyConv_type hb hfb hbb
  obtain ⟨hl, hr⟩ := (toIOp_rule o i hi).2.2.2 hc
  exact ⟨ts, dim, i, a', b', τa', τb', hi, rfl, h1, h3, h2, h4,
    by rw [← hout, opReturn_snd_ty h4, opReturn_fst_ty hl hr h2]⟩

theorem elabArith_sound {o : BinOp} {a b n : IExpr} {τa τb τ' : ETy} (hc : o.cls = .arith)
    (ha : HasType Γ a τa) (hb : HasType Γ b τb) (h : elabArith o a τa b τb = .ok (n, τ')) :
    HasType Γ n τ' := by
  obtain ⟨_, _, i, _, _, _, _, hi, rfl, h1, h2, _, _, hret⟩ := elabArith_ok hc ha hb h
  exact .op (.cons h1 (.cons h2 .nil)) hret

theorem elabAssign_ok {o : BinOp} {a b n : IExpr} {τa τb τ' : ETy} (hb : HasType Γ b τb)
    (h : elabAssign Γ o a τa b τb = .ok (n, τ')) :
    τa.ty.mod.isConst = false ∧ τa.vt = .lvalue ∧ checkMutablePlace Γ a = .ok () ∧
    ∃ i b' tb, o.toIOp = some i ∧ n = .op i (.cons a (.cons b' .nil)) ∧ HasType Γ b' tb ∧ tb.ty = τa.ty ∧
      opReturn i [τa, tb] = .ok τ' := by
  obtain ⟨hconst, hlv, hplace, c, b', i, hf, hbb, hi, hout, rfl⟩ := elabAssign_inv h
  obtain ⟨τb', h1, h2, _⟩ := applyConv_type hb hf hbb
  exact ⟨hconst, hlv, hplace, i, b', τb', hi, rfl, h1, h2, by rw [← hout]; exact opReturn_snd_ty h2⟩

theorem elabAssign_sound {o : BinOp} {a b n : IExpr} {τa τb τ' : ETy}
    (ha : HasType Γ a τa) (hb : HasType Γ b τb) (h : elabAssign Γ o a τa b τb = .ok (n, τ')) : HasType Γ n τ' := by
  obtain ⟨_, _, _, i, b', tb, _, rfl, h1, _, hret⟩ := elabAssign_ok hb h
  exact .op (.cons ha (.cons h1 .nil)) hret

theorem elabTern_sound {c a b n : IExpr} {τc τa τb τ' : ETy} (hc : HasType Γ c τc) (ha : HasType Γ a τa)
    (hb : HasType Γ b τb) (h : elabTern c τc a τa b τb = .ok (n, τ')) : HasType Γ n τ' := by
  obtain ⟨lt, cc, ca, cb, c', a', b', _, rfl, hca, hcb, haa, hbb, _, hfc, hcc, rfl⟩ := elabTern_inv h
  obtain ⟨τa', h1, h2, _⟩ := applyConv_type ha hca haa
  obtain ⟨τb', h3, h4, _⟩ := applyConv_type hb hcb hbb
  obtain ⟨τc', h5, _⟩ := applyConv_type hc hfc hcc
  have hty : τa'.ty.r = (Ty.mk { rest := τa.ty.mod.rest &&& 3 } lt).r := ety_ext rfl (by rw [h2]; rfl) (by rw [h2]; rfl)
  exact hty ▸ .tern h5 h1 h3 (by rw [h2, h4])

theorem elabCall_sound {name : Nat} {args : IArgs} {ts : List ETy} {n : IExpr} {τ' : ETy}
    (ha : HasArgs Γ args ts) (h : elabCall Γ name args ts = .ok (n, τ')) : HasType Γ n τ' := by
  obtain ⟨id, s, as', _, hs, hca, _, rfl, rfl⟩ := elabCall_inv h
  obtain ⟨us, h1, _⟩ := castArgs_exact hca ha
  exact .call hs h1

end RsslVerif.Lemmas.ElabReleaseX
