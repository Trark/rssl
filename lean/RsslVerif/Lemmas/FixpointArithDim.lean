import RsslVerif.Model.Fixpoint
/-!
Lemmas for C04 `reelab_no_new_casts`: the type both operands of an arithmetic / comparison / bit / logical
operator are converted to (`arithTarget`, `selectVectorRank`, and `arithScalar` of fix 40c6233) is unchanged when an
operand is replaced by an operand of that type.  Core Lean only; depends on the model only.
-/
namespace RsslVerif.Lemmas.FixpointArithDim
open RsslVerif.Gen.RankTable RsslVerif.Gen.TypingTables
open RsslVerif.Model.Conv RsslVerif.Model.Overload RsslVerif.Model.IrTyping RsslVerif.Model.Elab
open RsslVerif.Model.Fixpoint

def isEnum : Layer → Bool
  | .enum _ => true
  | _ => false

/-- `select_vector_rank` on the dimensions -/
def selD : Dim → Dim → Option Dim
  | .scalar, .scalar => some .scalar
  | .scalar, .vector x => some (.vector x)
  | .vector x, .scalar => some (.vector x)
  | .vector x1, .vector x2 =>
    if x2 = 1 then some (.vector x1) else if x1 = 1 then some (.vector x2)
    else if x1 < x2 then some (.vector x1) else some (.vector x2)
  | .scalar, .matrix x y => some (.matrix x y)
  | .matrix x y, .scalar => some (.matrix x y)
  | .matrix x1 y1, .matrix x2 y2 => if x1 = x2 ∧ y1 = y2 then some (.matrix x1 y1) else none
  | _, _ => none

theorem selectVectorRank_eq (l r : Layer) : selectVectorRank l r = selD l.opDim r.opDim := by
  unfold selectVectorRank selD
  cases l.opDim <;> cases r.opDim <;> rfl

theorem selD_idem {da db d : Dim} (h : selD da db = some d) :
    selD d db = some d ∧ selD da d = some d ∧ selD d d = some d := by
  revert h
  fun_cases selD da db <;> intro h <;> cases h <;> simp_all [selD]
  -- left over: two vectors longer than 1, the first not shorter than the second
  omega

theorem opDim_ofDim (s : Scalar) (d : Dim) : (Layer.ofDim s d).opDim = d := by
  cases d <;> rfl

theorem nonVector_ofDim (s : Scalar) (d : Dim) : (Layer.ofDim s d).nonVector = .scalar s := by
  cases d <;> rfl

theorem isVecOrMat_iff (l : Layer) : l.isVecOrMat = true ↔ l.opDim ≠ .scalar := by
  cases l <;> simp [Layer.isVecOrMat, Layer.opDim]

theorem opDim_of_not_vecOrMat {l : Layer} (h : l.isVecOrMat = false) : l.opDim = .scalar := by
  cases l <;> first | rfl | cases h

theorem ofDim_not_enum (s : Scalar) (d : Dim) : isEnum (Layer.ofDim s d) = false := by
  cases d <;> rfl

theorem selectVectorRank_stable {la lb la0 lb0 : Layer} {s : Scalar} {dim : Dim} (hd : selectVectorRank la lb = some dim)
    (ha : la0 = la ∨ la0 = Layer.ofDim s dim) (hb : lb0 = lb ∨ lb0 = Layer.ofDim s dim) :
    selectVectorRank la0 lb0 = some dim := by
  rw [selectVectorRank_eq] at hd ⊢
  obtain ⟨h1, h2, h3⟩ := selD_idem hd
  rcases ha with rfl | rfl <;> rcases hb with rfl | rfl <;> (try simp only [opDim_ofDim])
  · exact hd
  · exact h2
  · exact h1
  · exact h3

/-- `arithTarget` reads only the flags of the operator, whether an operand is a vector / matrix, and the two
    non-vector types -/
def aT (sc ri vm : Bool) (x y : Layer) : Except Err Layer :=
  if sc then
    if vm then .error (.reject "ShortCircuitingVector") else .ok (.scalar .bool)
  else
    if ri && !nvIsInteger x then .error (.reject "IntegerTypeExpected")
    else if ri && !nvIsInteger y then .error (.reject "IntegerTypeExpected")
    else
      match nvRank x with
      | none => .error (.reject "NumericTypeExpected")
      | some lo =>
        match nvRank y with
        | none => .error (.reject "NumericTypeExpected")
        | some ro =>
          let t := if lo > ro then x else y
          if t.extractScalar = some .bool then .ok (.scalar .int32) else .ok t

theorem arithTarget_eq (o : BinOp) (la lb : Layer) :
    arithTarget o la lb = aT o.shortCircuit o.requireInteger (la.isVecOrMat || lb.isVecOrMat) la.nonVector lb.nonVector := by
  rfl

theorem aT_true (ri vm : Bool) (x y : Layer) :
    aT true ri vm x y = if vm then .error (.reject "ShortCircuitingVector") else .ok (.scalar .bool) := by
  simp [aT]

/-- the kind an operator that is not short-circuiting works in on operands of kinds `a` and `b`: the more significant
    of the two, `bool` remapped to `int` -/
def wk (a b : Scalar) : Scalar :=
  let t := if nonVectorRank a > nonVectorRank b then a else b
  if t = .bool then .int32 else t

theorem aT_scalars (ri vm : Bool) (a b : Scalar) :
    aT false ri vm (.scalar a) (.scalar b) =
      if ri && !(isIntegerScalar a && isIntegerScalar b) then .error (.reject "IntegerTypeExpected")
      else .ok (.scalar (wk a b)) := by
  -- the last step of `aT` on two scalar layers is `wk`
  have hw : (if (if nonVectorRank a > nonVectorRank b then Layer.scalar a else .scalar b).extractScalar = some .bool
      then (.ok (.scalar .int32) : Except Err Layer)
      else .ok (if nonVectorRank a > nonVectorRank b then .scalar a else .scalar b)) = .ok (.scalar (wk a b)) := by
    unfold wk
    split <;> simp only [Layer.extractScalar, Option.some.injEq] <;> split <;> rfl
  simp only [aT, Bool.false_eq_true, if_false, nvIsInteger, nvRank, hw]
  cases ri <;> cases isIntegerScalar a <;> cases isIntegerScalar b <;> rfl

theorem Scalar.mem_all (a : Scalar) : a ∈ Scalar.all := by cases a <;> decide

/-- a property of two scalar kinds that holds on `Scalar.all × Scalar.all` (where it can be evaluated) holds -/
theorem Scalar.forall₂ {P : Scalar → Scalar → Prop} (h : ∀ a ∈ Scalar.all, ∀ b ∈ Scalar.all, P a b) (a b : Scalar) : P a b :=
  h a (Scalar.mem_all a) b (Scalar.mem_all b)

/-- what the stability of the working type rests on, read off the generated rank tables: the working kind absorbs
    itself on either side, also through the remap of fix 40c6233; it is an integer kind when both operands are; and a
    float literal operand never makes the operator work on `int` -/
theorem wk_facts : ∀ a b : Scalar,
    (wk (wk a b) b = wk a b ∧ wk a (wk a b) = wk a b ∧ wk (wk a b) (wk a b) = wk a b) ∧
    (litVecRemap (wk (litVecRemap (wk a b)) b) = litVecRemap (wk a b) ∧
      litVecRemap (wk a (litVecRemap (wk a b))) = litVecRemap (wk a b) ∧
      litVecRemap (wk (litVecRemap (wk a b)) (litVecRemap (wk a b))) = litVecRemap (wk a b)) ∧
    (isIntegerScalar a = true → isIntegerScalar b = true →
      isIntegerScalar (wk a b) = true ∧ isIntegerScalar (litVecRemap (wk a b)) = true) ∧
    wk .floatLiteral b ≠ .int32 ∧ wk a .floatLiteral ≠ .int32 :=
  Scalar.forall₂ (by decide)

/-- `r` is a remap of the working kind (`arithScalar · dim`) that the working kind absorbs: converting an operand to
    the remapped working kind does not change the remapped working kind -/
structure Absorbs (r : Scalar → Scalar) : Prop where
  bool : r .bool = .bool
  int : ∀ a b, isIntegerScalar a = true → isIntegerScalar b = true → isIntegerScalar (r (wk a b)) = true
  left : ∀ a b, r (wk (r (wk a b)) b) = r (wk a b)
  right : ∀ a b, r (wk a (r (wk a b))) = r (wk a b)
  both : ∀ a b, r (wk (r (wk a b)) (r (wk a b))) = r (wk a b)

theorem absorbs_self : Absorbs fun s => s where
  bool := rfl
  int a b ha hb := ((wk_facts a b).2.2.1 ha hb).1
  left a b := (wk_facts a b).1.1
  right a b := (wk_facts a b).1.2.1
  both a b := (wk_facts a b).1.2.2

theorem absorbs_litVecRemap : Absorbs litVecRemap where
  bool := rfl
  int a b ha hb := ((wk_facts a b).2.2.1 ha hb).2
  left a b := (wk_facts a b).2.1.1
  right a b := (wk_facts a b).2.1.2.1
  both a b := (wk_facts a b).2.1.2.2

theorem nonVector_not_enum {l : Layer} (h : isEnum l = false) : isEnum l.nonVector = false := by
  cases l <;> simp_all [isEnum, Layer.nonVector]

theorem aT_false_ranked {ri vm : Bool} {x y t : Layer} (h : aT false ri vm x y = .ok t) :
    (nvRank x).isSome = true ∧ (nvRank y).isSome = true := by
  revert h
  fun_cases aT false ri vm x y <;> intro h <;> try cases h
  · contradiction
  -- the two branches that return: both ranks were found
  all_goals simp [*]

theorem scalar_of_ranked {x : Layer} (he : isEnum x = false) (h : (nvRank x).isSome = true) : ∃ a, x = .scalar a := by
  cases x <;> simp [isEnum, nvRank] at he h
  exact ⟨_, rfl⟩

/-- an operator that is not short-circuiting accepts operands that are not enums only when both are numeric, and then
    works in `wk` of their kinds; an integer operator needs integer kinds -/
theorem aT_false_inv {ri vm : Bool} {x y t : Layer} (hx : isEnum x = false) (hy : isEnum y = false)
    (h : aT false ri vm x y = .ok t) :
    ∃ a b, x = .scalar a ∧ y = .scalar b ∧ t = .scalar (wk a b) ∧
      (ri = true → isIntegerScalar a = true ∧ isIntegerScalar b = true) := by
  obtain ⟨h1, h2⟩ := aT_false_ranked h
  obtain ⟨a, rfl⟩ := scalar_of_ranked hx h1
  obtain ⟨b, rfl⟩ := scalar_of_ranked hy h2
  rw [aT_scalars] at h
  split at h
  · cases h
  · rename_i hi
    cases h
    exact ⟨a, b, rfl, rfl, rfl, fun hri => by simpa [hri] using hi⟩

theorem aT_floatLit_not_int32 (sc ri v : Bool) (y : Layer) :
    aT sc ri v (.scalar .floatLiteral) y ≠ .ok (.scalar .int32) ∧ aT sc ri v y (.scalar .floatLiteral) ≠ .ok (.scalar .int32) := by
  cases sc
  · by_cases hy : isEnum y = false
    · constructor <;> intro h
      · obtain ⟨a, b, ha, rfl, ht, _⟩ := aT_false_inv rfl hy h
        cases ha
        exact (wk_facts .floatLiteral b).2.2.2.1 (Layer.scalar.inj ht).symm
      · obtain ⟨a, b, rfl, hb, ht, _⟩ := aT_false_inv hy rfl h
        cases hb
        exact (wk_facts a .floatLiteral).2.2.2.2 (Layer.scalar.inj ht).symm
    · cases y <;> simp [isEnum] at hy
      cases ri <;> simp [aT, nvRank, nvIsInteger, enumRank, nonVectorRank, Layer.extractScalar, isIntegerScalar]
  · rw [aT_true, aT_true]
    cases v <;> simp

/-- **The operator's working type is stable** under every remap `r` of the working kind that the working kind absorbs:
    replacing either operand type by the working type `ofDim (r ts) dim` itself leaves the dimension unchanged and the
    scalar kind unchanged up to `r`. -/
theorem arithTarget_stable {r : Scalar → Scalar} (hr : Absorbs r) {o : BinOp} {la lb la0 lb0 : Layer} {ts : Scalar}
    {dim : Dim} (hna : isEnum la = false) (hnb : isEnum lb = false)
    (ht : arithTarget o la lb = .ok (.scalar ts)) (hd : selectVectorRank la lb = some dim)
    (ha : la0 = la ∨ la0 = Layer.ofDim (r ts) dim) (hb : lb0 = lb ∨ lb0 = Layer.ofDim (r ts) dim) :
    isEnum la0 = false ∧ isEnum lb0 = false ∧
      ∃ ts0, arithTarget o la0 lb0 = .ok (.scalar ts0) ∧ r ts0 = r ts ∧ selectVectorRank la0 lb0 = some dim := by
  have he0 : isEnum la0 = false := by rcases ha with rfl | rfl; exact hna; exact ofDim_not_enum _ _
  have he1 : isEnum lb0 = false := by rcases hb with rfl | rfl; exact hnb; exact ofDim_not_enum _ _
  have hsel := selectVectorRank_stable hd ha hb
  refine ⟨he0, he1, ?_⟩
  rw [arithTarget_eq] at ht
  cases hsc : o.shortCircuit
  · rw [hsc] at ht
    obtain ⟨a, b, hx, hy, hts, hint⟩ := aT_false_inv (nonVector_not_enum hna) (nonVector_not_enum hnb) ht
    cases hts
    -- the operands of the second generation have kinds `a` or `r (wk a b)`, `b` or `r (wk a b)`
    have key : ∀ a0 b0, (a0 = a ∨ a0 = r (wk a b)) → (b0 = b ∨ b0 = r (wk a b)) → la0.nonVector = .scalar a0 →
        lb0.nonVector = .scalar b0 →
        ∃ ts0, arithTarget o la0 lb0 = .ok (.scalar ts0) ∧ r ts0 = r (wk a b) ∧ selectVectorRank la0 lb0 = some dim := by
      intro a0 b0 ha0 hb0 hx0 hy0
      refine ⟨wk a0 b0, ?_, ?_, hsel⟩
      · rw [arithTarget_eq, hsc, hx0, hy0, aT_scalars, if_neg]
        cases hri : o.requireInteger
        · simp
        · obtain ⟨hia, hib⟩ := hint hri
          have := hr.int a b hia hib
          rcases ha0 with rfl | rfl <;> rcases hb0 with rfl | rfl <;> simp [*]
      · rcases ha0 with rfl | rfl <;> rcases hb0 with rfl | rfl
        · rfl
        · exact hr.right _ _
        · exact hr.left _ _
        · exact hr.both _ _
    rcases ha with rfl | rfl <;> rcases hb with rfl | rfl
    · exact key a b (.inl rfl) (.inl rfl) hx hy
    · exact key a _ (.inl rfl) (.inr rfl) hx (nonVector_ofDim _ _)
    · exact key _ b (.inr rfl) (.inl rfl) (nonVector_ofDim _ _) hy
    · exact key _ _ (.inr rfl) (.inr rfl) (nonVector_ofDim _ _) (nonVector_ofDim _ _)
  · -- a short-circuiting operator works on scalars only, in `bool`
    rw [hsc, aT_true] at ht
    cases hvm : (la.isVecOrMat || lb.isVecOrMat) <;> rw [hvm] at ht <;> simp at ht
    subst ht
    simp only [Bool.or_eq_false_iff] at hvm
    rw [selectVectorRank_eq, opDim_of_not_vecOrMat hvm.1, opDim_of_not_vecOrMat hvm.2] at hd
    cases hd
    rw [hr.bool] at ha hb
    have hs : (Layer.ofDim Scalar.bool Dim.scalar).isVecOrMat = false := rfl
    have hv0 : (la0.isVecOrMat || lb0.isVecOrMat) = false := by
      rcases ha with rfl | rfl <;> rcases hb with rfl | rfl <;> simp [hvm.1, hvm.2, hs]
    exact ⟨.bool, by rw [arithTarget_eq, hsc, aT_true, hv0]; rfl, rfl, hsel⟩

/-! ## fix 40c6233: vector / matrix operations are never done in a literal kind -/

theorem arithScalar_scalar (ts : Scalar) : arithScalar ts .scalar = ts := by simp [arithScalar]

theorem arithScalar_of_ne {ts : Scalar} {dim : Dim} (h : dim ≠ .scalar) : arithScalar ts dim = litVecRemap ts := by
  simp [arithScalar, h]

theorem litVecRemap_idem (s : Scalar) : litVecRemap (litVecRemap s) = litVecRemap s := by cases s <;> rfl

theorem arithScalar_idem (ts : Scalar) (dim : Dim) : arithScalar (arithScalar ts dim) dim = arithScalar ts dim := by
  by_cases h : dim = .scalar
  · subst h; simp [arithScalar]
  · simp [arithScalar, h, litVecRemap_idem]

theorem absorbs_arithScalar (dim : Dim) : Absorbs (arithScalar · dim) := by
  by_cases h : dim = .scalar
  · subst h; exact (funext arithScalar_scalar : (arithScalar · .scalar) = fun s => s) ▸ absorbs_self
  · exact (funext fun ts => arithScalar_of_ne h : (arithScalar · dim) = litVecRemap) ▸ absorbs_litVecRemap

/-- **The operator's working type is stable** (with the remap of fix 40c6233): replacing either operand type by the
    working type `ofDim (arithScalar ts dim) dim` itself leaves the dimension unchanged and the scalar kind unchanged up
    to the remap — so the working type is the same (`bool3 + 1`: `IntLiteral`, remapped `int`; `(int3)b + (int3)1`: `int`). -/
theorem arith_stable_remap {o : BinOp} {la lb la0 lb0 : Layer} {ts : Scalar} {dim : Dim}
    (hna : isEnum la = false) (hnb : isEnum lb = false)
    (ht : arithTarget o la lb = .ok (.scalar ts)) (hd : selectVectorRank la lb = some dim)
    (ha : la0 = la ∨ la0 = Layer.ofDim (arithScalar ts dim) dim)
    (hb : lb0 = lb ∨ lb0 = Layer.ofDim (arithScalar ts dim) dim) :
    isEnum la0 = false ∧ isEnum lb0 = false ∧
      ∃ ts0, arithTarget o la0 lb0 = .ok (.scalar ts0) ∧ arithScalar ts0 dim = arithScalar ts dim ∧
        selectVectorRank la0 lb0 = some dim :=
  arithTarget_stable (absorbs_arithScalar dim) hna hnb ht hd ha hb

end RsslVerif.Lemmas.FixpointArithDim
