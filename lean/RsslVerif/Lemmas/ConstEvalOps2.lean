import RsslVerif.Lemmas.ConstEvalOps
/-!
The unary arms of `evaluate_operator` and the arms of `evaluate_cast` against the specification.
-/
namespace RsslVerif.Lemmas.ConstEval
open RsslVerif.Gen.EvalTable RsslVerif.Model.ConstEval
open RsslVerif.Spec.HlslConst (bv sInt uInt fitsLit lit?)

@[simp, c13] theorem plain_floatLit (v : Nat) : plain (.floatLit v) = true := by simp [plain, wf, Constant.kind]
@[simp, c13] theorem plain_float16 (v : Nat) : plain (.float16 v) = true := by simp [plain, wf, Constant.kind]
@[simp, c13] theorem plain_float32 (v : Nat) : plain (.float32 v) = true := by simp [plain, wf, Constant.kind]
@[simp, c13] theorem plain_float64 (v : Nat) : plain (.float64 v) = true := by simp [plain, wf, Constant.kind]
@[simp, c13] theorem plain_string : plain .string = true := by simp [plain, wf, Constant.kind]
@[simp, c13] theorem plain_int64 (v : Int) : plain (.int64 v) = i64.inRange v := by simp [plain, wf, Constant.kind]
@[simp, c13] theorem plain_uint64 (v : Int) : plain (.uint64 v) = u64.inRange v := by simp [plain, wf, Constant.kind]
attribute [c13] floatFmtOf Constant.floatBits? mkFloat bv_one

theorem wrap_of_inRange_signed {w : Nat} (hw : 0 < w) {z : Int} (h : (IntTy.mk true w).inRange z = true) :
    (IntTy.mk true w).wrap z = z := by
  rw [wrap_signed]; exact toInt_ofInt_of_inRange hw h

theorem not_inRange_i128 {v : Int} (h : i128.inRange v = true) : i128.inRange (-v - 1) = true := by
  simp only [IntTy.inRange, IntTy.lo, IntTy.hi, i128, Bool.and_eq_true, decide_eq_true_eq] at h ⊢
  simp at h ⊢; omega

theorem plain_int32_wrap (z : Int) : plain (.int32 (i32.wrap z)) = true := by rw [int32_wrap]; exact plain_sInt _
theorem plain_uint32_wrap (z : Int) : plain (.uint32 (u32.wrap z)) = true := by rw [uint32_wrap]; exact plain_uInt _

/-- every unary arm of `evaluate_operator`: a returned value is the specified one and is in range -/
theorem unop_agrees (o : Op) {a r : Constant} (ha : plain a = true)
    (h : applyOp o [a] = .ok r) : S.unop o a = some r ∧ plain r = true := by
  -- an operator without a unary arm gives no value on one operand, whatever the operand
  cases o <;> first | cases h | skip
  case Plus => cases a <;> cases h <;> exact ⟨rfl, ha⟩
  case LogicalNot => cases a <;> cases h; exact ⟨rfl, rfl⟩
  case PrefixIncrement | PostfixIncrement =>
    cases a <;> cases h
    · exact ⟨by rw [int32_wrap, bv_add, bv_one]; rfl, plain_int32_wrap _⟩
    · exact ⟨by rw [uint32_wrap, bv_add, bv_one]; rfl, plain_uint32_wrap _⟩
  case PrefixDecrement | PostfixDecrement =>
    cases a <;> cases h
    · exact ⟨by rw [int32_wrap, bv_sub, bv_one]; rfl, plain_int32_wrap _⟩
    · exact ⟨by rw [uint32_wrap, bv_sub, bv_one]; rfl, plain_uint32_wrap _⟩
  case BitwiseNot =>
    cases a <;> cases h
    · have hr := not_inRange_i128 (by simpa using ha)
      rw [show i128 = ⟨true, 128⟩ from rfl, wrap_of_inRange_signed (by decide) hr]
      exact ⟨rfl, by simpa using hr⟩
    · exact ⟨by rw [int32_wrap, bv_not]; rfl, plain_int32_wrap _⟩
    · exact ⟨by rw [uint32_wrap, bv_not]; rfl, plain_uint32_wrap _⟩
  case Minus =>
    cases a <;> first | cases h | skip
    · -- the literal arm is `checked_neg`: a value only if `-x` fits
      rename_i x
      have h : okInt .IntLiteral (deliver i128 .checked .neg (-x)) = .ok r := h
      obtain ⟨z, hz, hr⟩ := okInt_ok.1 h
      obtain ⟨hin, rfl⟩ := deliver_checked.1 hz
      cases hr
      exact ⟨by simp [S.unop, lit?, fitsLit_iff, hin], by simpa using hin⟩
    · exact ⟨by rw [int32_wrap, bv_neg]; rfl, plain_int32_wrap _⟩
    all_goals exact ⟨rfl, rfl⟩

theorem sInt_bv_of_inRange {x : Int} (h : i32.inRange x = true) : sInt (bv x) = .int32 x := by
  simp [sInt, toInt_bv h]
theorem uInt_bv_of_inRange {x : Int} (h : u32.inRange x = true) : uInt (bv x) = .uint32 x := by
  simp [uInt, toNat_bv h]

/-- every arm of a scalar target of `evaluate_cast`: the row of `castTable` is evaluated for each pair of target and
source kind; only the integer targets need an argument (low 32 bits, value kept when in range, saturation) -/
theorem castScalar_agrees (s : Scalar) {v r : Constant} (hv : plain v = true)
    (h : castScalar s v = .ok r) : S.castScalar s v = some r ∧ plain r = true := by
  cases v with
  | enum i c => simp at hv
  | bool b => cases s <;> cases h <;> cases b <;> exact ⟨rfl, by decide⟩
  | intLit z =>
    cases s with
    | Int32 => cases h; exact ⟨congrArg some (int32_wrap _).symm, plain_int32_wrap _⟩
    | UInt32 => cases h; exact ⟨congrArg some (uint32_wrap _).symm, plain_uint32_wrap _⟩
    | _ => cases h <;> exact ⟨rfl, rfl⟩
  | int32 z =>
    cases s with
    | Int32 => cases h; exact ⟨congrArg some (sInt_bv_of_inRange (by simpa using hv)), hv⟩
    | UInt32 => cases h; exact ⟨congrArg some (uint32_wrap _).symm, plain_uint32_wrap _⟩
    | _ => cases h <;> exact ⟨rfl, rfl⟩
  | uint32 z =>
    cases s with
    | Int32 => cases h; exact ⟨congrArg some (int32_wrap _).symm, plain_int32_wrap _⟩
    | UInt32 => cases h; exact ⟨congrArg some (uInt_bv_of_inRange (by simpa using hv)), hv⟩
    | _ => cases h <;> exact ⟨rfl, rfl⟩
  | floatLit b | float16 b | float32 b | float64 b =>
    cases s with
    | Int32 => cases h; exact ⟨rfl, by rw [plain_int32]; exact toIntSat_inRange i32 _⟩
    | UInt32 => cases h; exact ⟨rfl, by rw [plain_uint32]; exact toIntSat_inRange u32 _⟩
    | _ => cases h <;> exact ⟨rfl, rfl⟩
  | _ => cases s <;> cases h

@[c13] theorem f64_ne_f32 : (RsslVerif.Model.ConstEvalFloat.f64 = RsslVerif.Model.ConstEvalFloat.f32) = False := by
  simp [RsslVerif.Model.ConstEvalFloat.f64, RsslVerif.Model.ConstEvalFloat.f32]
@[c13] theorem f32_ne_f64 : (RsslVerif.Model.ConstEvalFloat.f32 = RsslVerif.Model.ConstEvalFloat.f64) = False := by
  simp [RsslVerif.Model.ConstEvalFloat.f64, RsslVerif.Model.ConstEvalFloat.f32]

@[c13] theorem wf_enum (i : Nat) (c : Constant) : wf (.enum i c) = plain c := rfl

theorem plain_wf {c : Constant} (h : plain c = true) : wf c = true := by
  simp [plain] at h; exact h.1

theorem stripEnum_eq (v : Constant) : stripEnum v = S.strip v := by cases v <;> rfl

theorem plain_strip {v : Constant} (h : wf v = true) : plain (S.strip v) = true := by
  cases v <;> simp_all [S.strip, plain, wf, Constant.kind]

theorem strip_of_plain {c : Constant} (h : plain c = true) : S.strip c = c := by
  cases c <;> first | rfl | simp at h

/-- `evaluate_cast`: a returned value is the specified conversion, and it is in range -/
theorem evalCast_agrees (t : Ty) {v r : Constant} (hv : wf v = true)
    (h : evalCast t v = .ok r) : S.cast t v = some r ∧ wf r = true := by
  have hstrip := plain_strip hv
  -- every scalar arm starts by unwrapping an enum operand, as the specification does
  have hcs : ∀ s, castScalar s v = castScalar s (S.strip v) := fun s => by
    simp only [castScalar, stripEnum_eq, strip_of_plain hstrip]
  cases t with
  | scalar s =>
    rw [evalCast, hcs] at h
    have := castScalar_agrees s hstrip h
    exact ⟨this.1, plain_wf this.2⟩
  | enum id u =>
    simp only [evalCast, hcs] at h
    split at h
    · rename_i x hc
      cases h
      have := castScalar_agrees u hstrip hc
      exact ⟨by simp [S.cast, this.1], by rw [wf_enum]; exact this.2⟩
    · cases h
  | other => cases h
end RsslVerif.Lemmas.ConstEval
