import RsslVerif.Lemmas.Dec2BinMono
/-!
# The two cut-offs of `nearestDec` agree with `nearestRat` (binary64)

`nearestDec` answers `+∞` for `e > 400` and `0` for `e + |digits| < -400` without building the power of ten.
Here: `nearestRat binary64` of the exact rational gives the same, so `nearest64 ds e` *is* `nearestRat binary64`
of `digits × 10^e` for every digit string and every exponent.
-/
namespace RsslVerif.Spec.Dec2Bin

set_option exponentiation.threshold 3000 in
theorem pow10_401_ge : 2 ^ 1332 ≤ 10 ^ 401 := by decide +kernel

theorem ofDigits_foldl_lt (ds : List Nat) (h : ∀ d ∈ ds, d < 10) (acc : Nat) :
    ds.foldl (fun a d => a * 10 + d) acc < (acc + 1) * 10 ^ ds.length := by
  induction ds generalizing acc with
  | nil => simp
  | cons d ds ih =>
    simp only [List.foldl_cons, List.length_cons]
    have hd : d < 10 := h d (List.mem_cons_self)
    have := ih (fun x hx => h x (List.mem_cons_of_mem _ hx)) (acc * 10 + d)
    have h2 : (acc * 10 + d + 1) * 10 ^ ds.length ≤ ((acc + 1) * 10) * 10 ^ ds.length :=
      Nat.mul_le_mul (by omega) (Nat.le_refl _)
    rw [Nat.pow_succ]
    have h3 : (acc + 1) * (10 ^ ds.length * 10) = (acc + 1) * 10 * 10 ^ ds.length := by ac_rfl
    omega

theorem ofDigits_lt (ds : List Nat) (h : ∀ d ∈ ds, d < 10) : ofDigits 10 ds < 10 ^ ds.length := by
  have := ofDigits_foldl_lt ds h 0
  simpa [ofDigits] using this

set_option exponentiation.threshold 3000 in
/-- overflow cut-off: `x ≥ 10^401 ≥ 2^1332`, and `2^1332` already rounds to `+∞` -/
theorem nearestRat_huge (N : Nat) (hN : 10 ^ 401 ≤ N) : nearestRat binary64 N 1 = binary64.infBits := by
  apply Nat.le_antisymm
  · unfold nearestRat; split
    · exact Nat.zero_le _
    · exact Nat.min_le_right _ _
  · have h := nearestRat_mono binary64 (by decide) (2 ^ 1332) 1 N 1 (by omega) (by omega)
      (by have := pow10_401_ge; omega)
    rwa [show nearestRat binary64 (2 ^ 1332) 1 = binary64.infBits by decide +kernel] at h

set_option exponentiation.threshold 3000 in
/-- underflow cut-off: `x < 10^-401 < 2^-1076` (written `N · 10^401 < M`), and `2^-1076` rounds to `0` -/
theorem nearestRat_tiny (N M : Nat) (hN : 0 < N) (hNM : N * 10 ^ 401 < M) : nearestRat binary64 N M = 0 := by
  have h := nearestRat_mono binary64 (by decide) N M 1 (2 ^ 1076) (by omega) (Nat.two_pow_pos _)
    (by have : N * 2 ^ 1076 ≤ N * 10 ^ 401 :=
          Nat.mul_le_mul (Nat.le_refl _) (Nat.le_trans (Nat.pow_le_pow_right (by omega) (by omega)) pow10_401_ge)
        omega)
  rw [show nearestRat binary64 1 (2 ^ 1076) = 0 by decide +kernel] at h
  omega

/-- `nearest64` is `nearestRat binary64` of the exact rational `digits × 10^e`, for every digit string and
every exponent (the cut-offs included) -/
theorem nearest64_eq_nearestRat (ds : List Nat) (e : Int) (hds : ∀ d ∈ ds, d < 10) :
    nearest64 ds e =
      if 0 ≤ e then nearestRat binary64 (ofDigits 10 ds * 10 ^ e.toNat) 1
      else nearestRat binary64 (ofDigits 10 ds) (10 ^ (-e).toNat) := by
  unfold nearest64 nearestDec
  dsimp only
  by_cases hD : ofDigits 10 ds = 0
  · rw [if_pos hD, hD]
    simp [nearestRat]
  · rw [if_neg hD]
    have hDpos : 0 < ofDigits 10 ds := Nat.pos_of_ne_zero hD
    by_cases h1 : 400 < e
    · rw [if_pos h1, if_pos (by omega)]
      symm
      apply nearestRat_huge
      have hk : 401 ≤ e.toNat := by omega
      calc 10 ^ 401 ≤ 10 ^ e.toNat := Nat.pow_le_pow_right (by omega) hk
        _ = 1 * 10 ^ e.toNat := (Nat.one_mul _).symm
        _ ≤ ofDigits 10 ds * 10 ^ e.toNat := Nat.mul_le_mul hDpos (Nat.le_refl _)
    · rw [if_neg h1]
      by_cases h2 : e + ds.length < -400
      · rw [if_pos h2, if_neg (by omega)]
        symm
        apply nearestRat_tiny _ _ hDpos
        have hlt := ofDigits_lt ds hds
        have hk : ds.length + 401 ≤ (-e).toNat := by omega
        calc ofDigits 10 ds * 10 ^ 401 < 10 ^ ds.length * 10 ^ 401 :=
              Nat.mul_lt_mul_of_lt_of_le hlt (Nat.le_refl _) (Nat.pow_pos (by omega))
          _ = 10 ^ (ds.length + 401) := (Nat.pow_add _ _ _).symm
          _ ≤ 10 ^ (-e).toNat := Nat.pow_le_pow_right (by omega) hk
      · rw [if_neg h2]

end RsslVerif.Spec.Dec2Bin
