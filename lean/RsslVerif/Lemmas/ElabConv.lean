import RsslVerif.Model.Elab
import RsslVerif.Lemmas.Conv
import RsslVerif.Lemmas.Overload
/-! What both elaboration models (`Model.Elab`, `Model.ElabX`) share, used by C03: a complete description of the type
`get_target_type` computes for a conversion that `find` returned; what a successful `get_return_type` returned; the rules
of the operators a binary source operator elaborates to; the literal re-tagging tables; what the selected overload of a call
is (`selected_sig`). Core Lean only. -/
namespace RsslVerif.Lemmas.ElabConv
open RsslVerif.Gen.RankTable RsslVerif.Gen.TypingTables RsslVerif.Model.Conv RsslVerif.Model.Overload
open RsslVerif.Model.IrTyping RsslVerif.Model.Elab

export RsslVerif.Lemmas.Conv (find_inv ok_of_ite_error)

theorem modifierCast_some {a b : Modifier} {lv : Bool} {mc : Option Modifier}
    (h : modifierCast a b lv = some mc) : (mc = some b ∧ a ≠ b) ∨ (mc = none ∧ a = b) := by
  revert h
  fun_cases modifierCast a b lv <;> intro h <;> cases h
  case case2 hne _ => exact .inl ⟨rfl, hne⟩
  case case3 he => exact .inr ⟨rfl, Decidable.not_not.1 he⟩

/-- the numeric part of a conversion: a cast to the destination layer, between different layers; or none, between equal
    layers or layers of the same scalar kind -/
theorem primaryCast_inv {sl dl : Layer} {pc : Option PrimaryCast} (h : primaryCast sl dl = .ok (some pc)) :
    match (generalizing := false) pc with
    | some p => p.dest = dl ∧ sl ≠ dl
    | none => sl = dl ∨ ∃ s, sl.extractScalar = some s ∧ dl.extractScalar = some s := by
  revert h
  -- the principle leaves the match on the two scalars in `h`; `simp [*]` evaluates it with the branch's equations
  fun_cases primaryCast sl dl <;> intro h <;> simp [*] at h <;> subst h
  case case1 => exact .inl rfl
  -- the two branches with a cast: enum to numeric, and the rank table's entry
  case case2 hne => exact ⟨rfl, hne⟩
  case case5 ds hd _ _ hs => exact .inr ⟨ds, hs, hd⟩
  case case6 hne _ _ => exact ⟨rfl, hne⟩

/-- towards an lvalue the layers agree up to `T` ~ `T1`, so no numeric conversion is involved -/
theorem lvalue_no_primary {sl dl : Layer} {dc : Option (Dim × Dim)} {pc : Option PrimaryCast}
    (h1 : dimensionCast sl dl true = some dc) (h2 : primaryCast sl dl = .ok (some pc)) : pc = none := by
  generalize hlv : true = lv at h1
  revert h1
  fun_cases dimensionCast sl dl lv <;> intro h1 <;> cases hlv <;> try cases h1
  -- towards an lvalue only `T` ~ `T`, `T1` ~ `T` and `T` ~ `T1` are left, and there the scalar kinds agree
  all_goals simp_all [primaryCast, Layer.extractScalar]

/-- the part of `get_target_type` before the modifier cast, when there is no primary cast -/
def rebuilt (ty : ETy) (dc : Option (Dim × Dim)) : Except String ETy :=
  match (match dc with | some (_, d) => some d | none => ty.ty.layer.dim) with
  | some d =>
    match ty.ty.layer.extractScalar with
    | some s => .ok ⟨⟨ty.ty.mod, Layer.ofDim s d⟩, ty.vt⟩
    | none => .error "casting.rs: dimension cast on non numeric type"
  | none => .ok ty

/-- without a primary cast the rebuilt type is the source's with the destination layer: the source scalar at the cast's
    destination dimension -/
theorem rebuilt_ok {ty : ETy} {dl : Layer} {lv : Bool} {dc : Option (Dim × Dim)}
    (h1 : dimensionCast ty.ty.layer dl lv = some dc) (h2 : primaryCast ty.ty.layer dl = .ok (some none)) :
    ∃ b, rebuilt ty dc = .ok b ∧ b.vt = ty.vt ∧ b.ty.layer = dl ∧ b.ty.mod = ty.ty.mod := by
  obtain ⟨⟨m, sl⟩, v⟩ := ty
  have hs := primaryCast_inv h2
  clear h2
  revert h1
  fun_cases dimensionCast sl dl lv <;> intro h1 <;> try cases h1
  -- `T` to `T`
  case case1 => cases dl <;> exact ⟨_, rfl, rfl, rfl, rfl⟩
  -- the layers differ, so they have the same scalar kind: arm by arm `rebuilt` evaluates to the destination layer
  all_goals
    rcases hs with he | ⟨s, hs, hd⟩
    · exact absurd he (by assumption)
    cases hs <;> cases hd
  -- scalar to `T1`, matrix to a matrix of its own size: the arm's test gives the destination's dimension
  case case8 hc _ => obtain ⟨-, rfl⟩ := hc; exact ⟨_, rfl, rfl, rfl, rfl⟩
  case case17 hc _ => obtain ⟨rfl, rfl⟩ := hc; exact ⟨_, rfl, rfl, rfl, rfl⟩
  all_goals exact ⟨_, rfl, rfl, rfl, rfl⟩

theorem targetType_noPrimary (c : Conversion) (h : c.primary = none) :
    targetType c = match rebuilt (if c.valueCast then ⟨c.source.ty, .rvalue⟩ else c.source) c.dimCast with
      | .error e => .error e
      | .ok t => match c.modCast with
        | some m => .ok ⟨⟨m, t.ty.layer⟩, t.vt⟩
        | none => .ok t := by
  unfold targetType rebuilt
  simp only [h]
  rfl

theorem ety_ext {a b : ETy} (h1 : a.vt = b.vt) (h2 : a.ty.layer = b.ty.layer) (h3 : a.ty.mod = b.ty.mod) : a = b := by
  obtain ⟨⟨am, al⟩, av⟩ := a
  obtain ⟨⟨bm, bl⟩, bv⟩ := b
  simp only at h1 h2 h3
  subst h1 h2 h3
  rfl

/-- **`find` is sound**: the conversion it returns produces exactly the requested type (and `get_target_type`
    does not panic on it) -/
theorem targetType_ok {s d : ETy} {c : Conversion} (h : find s d = .ok (some c)) : targetType c = .ok d := by
  obtain ⟨hv, hsrc, hvc, hdc, hpc, mc0, hmc, hshared⟩ := find_inv h
  obtain ⟨src, vc, dc, pc, mc⟩ := c
  simp only at hsrc hvc hdc hpc hshared
  subst hsrc
  -- value category after the value-type cast
  have hvt : (if vc = true then (⟨src.ty, .rvalue⟩ : ETy) else src).vt = d.vt ∧
      (if vc = true then (⟨src.ty, .rvalue⟩ : ETy) else src).ty = src.ty := by
    subst hvc
    cases hs : src.vt <;> cases hd : d.vt <;> simp_all
  generalize hty : (if vc = true then (⟨src.ty, .rvalue⟩ : ETy) else src) = ty at hvt
  cases pc with
  | some p =>
    obtain ⟨hdest, _⟩ := primaryCast_inv hpc
    have hdr : d.vt = .rvalue := by
      cases hd : d.vt with
      | rvalue => rfl
      | lvalue =>
        simp only [hd, decide_true] at hdc
        have := lvalue_no_primary hdc hpc
        simp at this
    have hmcd : mc = some d.ty.mod ∨ (mc = none ∧ d.ty.mod = {}) := by
      subst hshared
      rcases modifierCast_some hmc with ⟨rfl, _⟩ | ⟨rfl, _⟩
      · exact Or.inl rfl
      · by_cases hd0 : d.ty.mod = {}
        · exact Or.inr ⟨by simp [sharedModifierCast, hd0], hd0⟩
        · exact Or.inl (by simp [sharedModifierCast, hd0])
    rcases hmcd with rfl | ⟨rfl, hd0⟩
    · have : targetType ⟨src, vc, dc, some p, some d.ty.mod⟩ = .ok ⟨⟨d.ty.mod, d.ty.layer⟩, .rvalue⟩ := by
        simp [targetType, hdest]
      rw [this]
      exact congrArg _ (ety_ext hdr.symm rfl rfl)
    · have : targetType ⟨src, vc, dc, some p, none⟩ = .ok ⟨⟨{}, d.ty.layer⟩, .rvalue⟩ := by
        simp [targetType, hdest]
      rw [this]
      exact congrArg _ (ety_ext hdr.symm rfl hd0.symm)
  | none =>
    have hmc' : mc = mc0 := by subst hshared; cases mc0 <;> simp [sharedModifierCast]
    subst hmc'
    obtain ⟨hvt1, hvt2⟩ := hvt
    rw [← hvt2] at hdc hpc
    obtain ⟨b, hb, hb1, hb2, hb3⟩ := rebuilt_ok hdc hpc
    rw [targetType_noPrimary _ rfl]
    simp only [hty, hb]
    rcases modifierCast_some hmc with ⟨rfl, hne⟩ | ⟨rfl, heq⟩
    · exact congrArg Except.ok
        (ety_ext (a := ⟨⟨d.ty.mod, b.ty.layer⟩, b.vt⟩) (by simp only [hb1, hvt1]) hb2 rfl)
    · exact congrArg Except.ok (ety_ext (by rw [hb1, hvt1]) hb2 (by rw [hb3, hvt2, heq]))

theorem ty_ext {a b : Ty} (h1 : a.mod = b.mod) (h2 : a.layer = b.layer) : a = b := by
  cases a; cases b; simp_all

/-- the literal re-tagging tables of `apply` keep the scalar kind of the target (table fact) -/
theorem retag_same (k k' : Scalar) : (retagInt k = some k' → k' = k) ∧ (retagFloat k = some k' → k' = k) := by
  cases k <;> constructor <;> intro h <;> cases h <;> rfl

/-- a conversion without dimension, numeric and modifier cast changes the value category at most: its target, which is the
    destination (`targetType_ok`), has the source's type -/
theorem trivial_conv_same {s d : ETy} {c : Conversion} (hf : find s d = .ok (some c))
    (hc : c.dimCast = none ∧ c.primary = none ∧ c.modCast = none) : s.ty = d.ty := by
  have ht := targetType_ok hf
  have hsrc := (find_inv hf).2.1
  obtain ⟨src, vc, dc, pc, mc⟩ := c
  obtain ⟨rfl, rfl, rfl⟩ := hc
  subst hsrc
  -- `get_target_type` rebuilds a numeric layer from its own scalar kind and dimension: layer by layer it evaluates to the source
  obtain ⟨⟨m, l⟩, v⟩ := src
  cases l <;> cases vc <;> exact (congrArg ETy.ty (Except.ok.inj ht) :)

/-- the parameters `check_output_arguments` looks at are the ones whose arguments must be lvalues for `find` -/
theorem isOutputParam_eq (io : InputModifier) : isOutputParam io = io.needsLvalue := by
  cases io <;> rfl

/-- a successful `get_return_type` passed its asserts and returned `param_types[0]` itself or an rvalue -/
theorem opReturn_ok {o : IOp} {ts : List ETy} {τ : ETy} (h : opReturn o ts = .ok τ) :
    ∃ a rest, ts = a :: rest ∧
      (o.rule.sameTypes = true → ∃ b r, rest = b :: r ∧ a.ty = b.ty) ∧
      (o.rule.lhsLvalue = true → a.vt = .lvalue) ∧
      (o.rule.result = .arg0 → τ = a) ∧ (o.rule.result ≠ .arg0 → τ.vt = .rvalue) := by
  obtain ⟨_, h⟩ := ok_of_ite_error h
  cases ts with
  | nil => cases h
  | cons a rest =>
    obtain ⟨hs, h⟩ := ok_of_ite_error h
    obtain ⟨hl, h⟩ := ok_of_ite_error h
    refine ⟨a, rest, rfl, ?_, ?_, ?_, ?_⟩
    · intro hst
      cases rest with
      | nil => simp [hst] at hs
      | cons b r => exact ⟨b, r, rfl, by simpa [hst] using hs⟩
    · intro hlv; simpa [hlv] using hl
    · intro hr; simp only [hr] at h; cases h; rfl
    · intro hr
      cases hres : o.rule.result <;> simp only [hres] at h hr
      · exact absurd rfl hr
      all_goals (repeat' split at h)
      all_goals (first | cases h; rfl | cases h)

theorem opReturn_rvalue {o : IOp} {ts : List ETy} {τ : ETy} (ho : o.rule.result ≠ .arg0)
    (h : opReturn o ts = .ok τ) : τ.vt = .rvalue := by
  obtain ⟨_, _, _, _, _, _, hr⟩ := opReturn_ok h
  exact hr ho

theorem opReturn_same {o : IOp} {a b : ETy} {τ : ETy} (ho : o.rule.sameTypes = true)
    (h : opReturn o [a, b] = .ok τ) : a.ty = b.ty := by
  obtain ⟨_, _, hts, hs, _⟩ := opReturn_ok h
  obtain ⟨_, _, hr, hab⟩ := hs ho
  cases hts; cases hr; exact hab

theorem opReturn_lvalue {o : IOp} {a b : ETy} {τ : ETy} (ho : o.rule.lhsLvalue = true)
    (h : opReturn o [a, b] = .ok τ) : a.vt = .lvalue := by
  obtain ⟨_, _, hts, _, hl, _⟩ := opReturn_ok h
  cases hts; exact hl ho

/-- `get_return_type` looks at the second operand's type only, never at its value category -/
theorem opReturn_snd_ty {i : IOp} {x y y' : ETy} (h : y.ty = y'.ty) : opReturn i [x, y] = opReturn i [x, y'] := by
  simp only [opReturn, h, List.length_cons, List.length_nil]

/-- ... and at the first operand's value category only for `param_types[0]`-returning / lvalue-asserting arms -/
theorem opReturn_fst_ty {i : IOp} {x x' : ETy} {rest : List ETy} (hl : i.rule.lhsLvalue = false)
    (hr : i.rule.result ≠ .arg0) (h : x.ty = x'.ty) : opReturn i (x :: rest) = opReturn i (x' :: rest) := by
  cases hres : i.rule.result
  · exact absurd hres hr
  all_goals simp only [opReturn, hl, h, hres, List.length_cons, Bool.false_and]

/-- every operator the elaboration of a binary source operator can produce takes two operands and asserts equal operand
    types; the assignment family additionally asserts an lvalue on the left and returns `param_types[0]`, the arithmetic
    family does neither (table fact, re-extracted from intrinsics.rs / expressions.rs) -/
theorem toIOp_rule (b : BinOp) (i : IOp) (h : b.toIOp = some i) :
    i.rule.sameTypes = true ∧ i.rule.arity = some 2 ∧
    (b.cls = .assign → i.rule.lhsLvalue = true ∧ i.rule.result = .arg0) ∧
    (b.cls = .arith → i.rule.lhsLvalue = false ∧ i.rule.result ≠ .arg0) := by
  cases b <;> cases h <;> decide

theorem candsFrom_mem {name : Nat} : ∀ {l : List FuncSig} {i : Nat} {c : Cand}, c ∈ candsFrom name l i →
    ∃ j s, l[j]? = some s ∧ s.name = name ∧ c = ⟨i + j, s.params, s.nonDefault⟩ := by
  intro l i c
  fun_induction candsFrom name l i <;> intro h
  case case1 => cases h
  case case2 s r i hn ih =>
    rcases List.mem_cons.mp h with rfl | h'
    · exact ⟨0, s, rfl, hn, rfl⟩
    · obtain ⟨j, s', h1, h2, h3⟩ := ih h'
      exact ⟨j + 1, s', by simpa using h1, h2, by rw [h3]; congr 1; omega⟩
  case case3 s r i hn ih =>
    obtain ⟨j, s', h1, h2, h3⟩ := ih h
    exact ⟨j + 1, s', by simpa using h1, h2, by rw [h3]; congr 1; omega⟩

/-- the selected overload of a call (either elaboration model: `candidates Γ name` is `candsFrom name Γ.funcs 0`): function
    `id` is named `name`, is a candidate with its own parameters, and was ranked -/
theorem selected_sig {fs : List FuncSig} {name id : Nat} {ts : List ETy}
    (h : resolve (candsFrom name fs 0) ts = .selected id) :
    ∃ s rs, fs[id]? = some s ∧ s.name = name ∧ (⟨id, s.params, s.nonDefault⟩ : Cand) ∈ candsFrom name fs 0 ∧
      rankCand ts ⟨id, s.params, s.nonDefault⟩ = .ranked id rs := by
  obtain ⟨c, hc, rfl, rs, hrc⟩ := RsslVerif.Lemmas.Overload.resolve_selected h
  obtain ⟨j, s, hj, hn, rfl⟩ := candsFrom_mem hc
  exact ⟨s, rs, by simpa using hj, hn, by simpa using hc, by simpa using hrc⟩

end RsslVerif.Lemmas.ElabConv
