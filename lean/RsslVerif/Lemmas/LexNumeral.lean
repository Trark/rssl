import RsslVerif.Lemmas.LexerFloat
import RsslVerif.Lemmas.LexerInt
/-!
# Maximal munch for numerals (C10: a floating literal is read as ONE floating literal)

`Numeral` is the decimal floating grammar of the property text,

    digits "." digits* [exponent] [suffix]   |   digits exponent [suffix]
    exponent = ("e" | "E") ["+" | "-"] digits          suffix = h H f F l L

as an inductive type with its spelling `Numeral.bytes`. `numeral_one_token`: for every numeral and every text that
follows it and does not continue it (`Boundary`: the end, or a byte that is neither an identifier character nor `#`),
`token_intermediate` on numeral ++ follower returns one token, consumes exactly the numeral, and the token is the float
literal of the suffix' kind carrying `nearest64` of the numeral's digits and exponent.
-/
namespace RsslVerif.Model.Lexer
open RsslVerif.Gen.LexTables RsslVerif.Spec

theorem digitByte_toNat (d : Nat) (h : d < 10) : (digitByte d).toNat = 48 + d := by
  unfold digitByte; simp [UInt8.toNat_ofNat]; omega

theorem decDigit_digitByte (d : Nat) (h : d < 10) : decDigit? (digitByte d) = some d := by
  unfold decDigit?
  rw [digitByte_toNat d h]
  simp
  omega

/-- the first byte of `bs` is not a decimal digit (or `bs` is empty) -/
def NoDigitHead (bs : Bytes) : Prop := ∀ b r, bs = b :: r → decDigit? b = none

theorem spanDigits_digits (ds : List Nat) (hds : ∀ d ∈ ds, d < 10) (rest : Bytes) (hr : NoDigitHead rest) :
    spanDigits (ds.map digitByte ++ rest) = (ds, rest) := by
  induction ds with
  | nil =>
    cases rest with
    | nil => rfl
    | cons b r => simp [spanDigits, hr b r rfl]
  | cons d ds ih =>
    have hd := decDigit_digitByte d (hds d (by simp))
    simp only [List.map_cons, List.cons_append, spanDigits, hd]
    rw [ih (fun x hx => hds x (by simp [hx]))]

theorem digitSequence_digits (d : Nat) (ds : List Nat) (hds : ∀ x ∈ d :: ds, x < 10) (rest : Bytes)
    (hr : NoDigitHead rest) :
    digitSequence ((d :: ds).map digitByte ++ rest) = .ok (rest, d :: ds) := by
  have hd := decDigit_digitByte d (hds d (by simp))
  simp only [digitSequence, List.map_cons, List.cons_append, digitWith, hd]
  rw [spanDigits_digits ds (fun x hx => hds x (by simp [hx])) rest hr]

/-- what may follow a printed literal: the end of the text, or a byte that is not an identifier character (letter,
digit, `_`) and not `#` (`#INF`) — an operator, a bracket, white space, `;`, `,`, `.` … -/
def Boundary (rest : Bytes) : Prop := ∀ b r, rest = b :: r → isIdentChar b = false ∧ b.toNat ≠ 35

theorem identChar_of_digit {b : UInt8} {d : Nat} (h : decDigit? b = some d) : isIdentChar b = true := by
  unfold decDigit? at h
  split at h
  · rename_i hb; simp [isIdentChar, hb]
  · cases h

theorem Boundary.noDigit {rest : Bytes} (h : Boundary rest) : NoDigitHead rest := by
  intro b r hb
  cases hd : decDigit? b with
  | none => rfl
  | some d => have := (h b r hb).1; rw [identChar_of_digit hd] at this; cases this

theorem floatExponent_none (i2 : Bytes) (h : ∀ b r, i2 = b :: r → b.toNat ≠ 101 ∧ b.toNat ≠ 69) :
    opt (floatExponent i2) i2 = (i2, none) := by
  cases i2 with
  | nil => rfl
  | cons b r =>
    have := h b r rfl
    simp [floatExponent, opt, wrongChars, this.1, this.2]

theorem identChar_e {b : UInt8} (h : isIdentChar b = false) : b.toNat ≠ 101 ∧ b.toNat ≠ 69 := by
  constructor <;> intro hb <;> simp [isIdentChar, isIdentStart, hb] at h

theorem stripInf_none (i : Bytes) (h : ∀ b r, i = b :: r → b.toNat ≠ 35) :
    stripPrefix? [35, 73, 78, 70] i = none := by
  cases i with
  | nil => rfl
  | cons b r =>
    have := h b r rfl
    have hb : ¬ (35 : UInt8) = b := by
      intro hb; subst hb; simp at this
    simp [stripPrefix?, hb]

theorem token_of_float_ok {b : UInt8} {r : Bytes} {x : Bytes × Token} (inc : Bool)
    (hd : 48 ≤ b.toNat ∧ b.toNat ≤ 57) (h : literalFloat (b :: r) = .ok x) :
    tokenIntermediate (b :: r) inc = .ok x := by
  rw [tokenIntermediate_digit b r inc hd, h]
  rfl

theorem digitByte_range (d : Nat) (h : d < 10) : 48 ≤ (digitByte d).toNat ∧ (digitByte d).toNat ≤ 57 := by
  have := digitByte_toNat d h
  omega

theorem digitRun_digits (ds : List Nat) (hds : ∀ d ∈ ds, d < 10) (rest : Bytes) (hr : NoDigitHead rest) :
    digitRun decDigit? (ds.map digitByte ++ rest) = ds ∧ afterRun decDigit? (ds.map digitByte ++ rest) = rest := by
  induction ds with
  | nil =>
    cases rest with
    | nil => exact ⟨rfl, rfl⟩
    | cons b r => simp [digitRun, afterRun, hr b r rfl]
  | cons d ds ih =>
    have hd := decDigit_digitByte d (hds d (by simp))
    have := ih (fun x hx => hds x (by simp [hx]))
    simp only [List.map_cons, List.cons_append, digitRun, afterRun, hd]
    exact ⟨by rw [this.1], this.2⟩

/-- after an integer literal: a boundary that is not `.` either (`1.` would be a float) -/
def IntBoundary (rest : Bytes) : Prop := ∀ b r, rest = b :: r → isIdentChar b = false ∧ b.toNat ≠ 46


inductive ExpLetter where
  | e | E
  deriving DecidableEq, Repr

def ExpLetter.byte : ExpLetter → UInt8
  | .e => 101
  | .E => 69

inductive SignSpelling where
  | absent | plus | minus
  deriving DecidableEq, Repr

def SignSpelling.bytes : SignSpelling → Bytes
  | .absent => []
  | .plus => [43]
  | .minus => [45]

/-- exponent part: letter, sign, at least one digit -/
structure ExpPart where
  letter : ExpLetter
  sign : SignSpelling
  d : Nat
  ds : List Nat
  deriving Repr

def ExpPart.bytes (x : ExpPart) : Bytes := x.letter.byte :: (x.sign.bytes ++ (x.d :: x.ds).map digitByte)

/-- the exponent the lexer computes (saturating at `i64::MAX`, then negated for `-`) -/
def ExpPart.value (x : ExpPart) : Int :=
  if x.sign = .minus then -((satExp (x.d :: x.ds) : Nat) : Int) else ((satExp (x.d :: x.ds) : Nat) : Int)

/-- a suffix letter: the type it names and whether it is written in upper case -/
structure SuffixSpelling where
  ty : FloatType
  upper : Bool
  deriving Repr

def SuffixSpelling.byte : SuffixSpelling → UInt8
  | ⟨.Half, false⟩ => 104
  | ⟨.Half, true⟩ => 72
  | ⟨.Float, false⟩ => 102
  | ⟨.Float, true⟩ => 70
  | ⟨.Double, false⟩ => 108
  | ⟨.Double, true⟩ => 76

def suffixBytes : Option SuffixSpelling → Bytes
  | none => []
  | some s => [s.byte]

/-- **the decimal floating numerals**: `point` = `digits "." digits* [exponent] [suffix]` (the fraction digits may be
absent: `1.`), `expo` = `digits exponent [suffix]` (no point: the exponent is mandatory) -/
inductive Numeral where
  | point (w : Nat) (ws : List Nat) (fr : List Nat) (ex : Option ExpPart) (sfx : Option SuffixSpelling)
  | expo (w : Nat) (ws : List Nat) (ex : ExpPart) (sfx : Option SuffixSpelling)
  deriving Repr

def expBytes : Option ExpPart → Bytes
  | none => []
  | some x => x.bytes

def Numeral.bytes : Numeral → Bytes
  | .point w ws fr ex sfx => (w :: ws).map digitByte ++ 46 :: (fr.map digitByte ++ (expBytes ex ++ suffixBytes sfx))
  | .expo w ws ex sfx => (w :: ws).map digitByte ++ (ex.bytes ++ suffixBytes sfx)

def Numeral.WF : Numeral → Prop
  | .point w ws fr ex _ => (∀ x ∈ w :: ws, x < 10) ∧ (∀ x ∈ fr, x < 10) ∧ (∀ x, ex = some x → ∀ y ∈ x.d :: x.ds, y < 10)
  | .expo w ws ex _ => (∀ x ∈ w :: ws, x < 10) ∧ (∀ y ∈ ex.d :: ex.ds, y < 10)

def Numeral.digits : Numeral → List Nat
  | .point w ws fr _ _ => (w :: ws) ++ fr
  | .expo w ws _ _ => w :: ws

def Numeral.fracLen : Numeral → Nat
  | .point _ _ fr _ _ => fr.length
  | .expo _ _ _ _ => 0

def Numeral.expValue : Numeral → Int
  | .point _ _ _ ex _ => (ex.map ExpPart.value).getD 0
  | .expo _ _ ex _ => ex.value

def Numeral.suffixType : Numeral → Option FloatType
  | .point _ _ _ _ sfx => sfx.map (·.ty)
  | .expo _ _ _ sfx => sfx.map (·.ty)

/-- the one token a numeral is: the float literal of its suffix' kind with the double nearest to
`digits × 10^(exponent − |fraction|)` (narrowed once for `f` / `h` by `mkFloatToken`) -/
def Numeral.token (n : Numeral) : Token :=
  mkFloatToken (Dec2Bin.nearest64 n.digits (n.expValue - (n.fracLen : Nat))) n.suffixType

theorem suffix_noDigit (sfx : Option SuffixSpelling) (rest : Bytes) (h : Boundary rest) :
    NoDigitHead (suffixBytes sfx ++ rest) := by
  match sfx with
  | none => simpa [suffixBytes] using h.noDigit
  | some ⟨ty, up⟩ =>
    intro b r hb
    simp only [suffixBytes, List.cons_append, List.nil_append, List.cons.injEq] at hb
    rw [← hb.1]
    cases ty <;> cases up <;> decide

theorem suffix_head (sfx : Option SuffixSpelling) (rest : Bytes) (h : Boundary rest) :
    ∀ b r, suffixBytes sfx ++ rest = b :: r → b.toNat ≠ 101 ∧ b.toNat ≠ 69 ∧ b.toNat ≠ 35 := by
  intro b r hb
  match sfx with
  | none =>
    simp [suffixBytes] at hb
    have := h b r hb
    exact ⟨(identChar_e this.1).1, (identChar_e this.1).2, this.2⟩
  | some ⟨ty, up⟩ =>
    simp only [suffixBytes, List.cons_append, List.nil_append, List.cons.injEq] at hb
    rw [← hb.1]
    cases ty <;> cases up <;> decide

theorem floatType_suffix (sfx : Option SuffixSpelling) (rest : Bytes) (h : Boundary rest) :
    opt (floatType (suffixBytes sfx ++ rest)) (suffixBytes sfx ++ rest) = (rest, sfx.map (·.ty)) := by
  match sfx with
  | some ⟨ty, up⟩ =>
    cases ty <;> cases up <;> simp [suffixBytes, SuffixSpelling.byte, floatType, floatTypeTable, floatTypeFrom, opt]
  | none =>
    cases rest with
    | nil => simp [suffixBytes, floatType, floatTypeTable, floatTypeFrom, opt, wrongChars]
    | cons b r =>
      have hb := (h b r rfl).1
      have h1 : b.toNat ≠ 104 ∧ b.toNat ≠ 72 ∧ b.toNat ≠ 102 ∧ b.toNat ≠ 70 ∧ b.toNat ≠ 108 ∧ b.toNat ≠ 76 := by
        refine ⟨?_, ?_, ?_, ?_, ?_, ?_⟩ <;> intro hx <;> simp [isIdentChar, isIdentStart, hx] at hb
      simp [suffixBytes, floatType, floatTypeTable, floatTypeFrom, opt, wrongChars, h1]

theorem sign_spelled (s : SignSpelling) (d : Nat) (hd : d < 10) (tl : Bytes) :
    opt (sign (s.bytes ++ digitByte d :: tl)) (s.bytes ++ digitByte d :: tl) =
      (digitByte d :: tl, match s with | .absent => none | .plus => some false | .minus => some true) := by
  cases s with
  | absent =>
    have := digitByte_toNat d hd
    have h1 : (digitByte d).toNat ≠ 43 := by omega
    have h2 : (digitByte d).toNat ≠ 45 := by omega
    simp [SignSpelling.bytes, sign, opt, wrongChars, h1, h2]
  | plus => simp [SignSpelling.bytes, sign, opt]
  | minus => simp [SignSpelling.bytes, sign, opt]

theorem floatExponent_part (x : ExpPart) (hx : ∀ y ∈ x.d :: x.ds, y < 10) (tl : Bytes) (ht : NoDigitHead tl) :
    floatExponent (x.bytes ++ tl) = .ok (tl, x.value) := by
  have hs := sign_spelled x.sign x.d (hx x.d (by simp)) (x.ds.map digitByte ++ tl)
  have hd := digitSequence_digits x.d x.ds hx tl ht
  have hl : x.letter.byte.toNat = 101 ∨ x.letter.byte.toNat = 69 := by
    cases x.letter <;> simp [ExpLetter.byte]
  simp only [List.map_cons, List.cons_append] at hd
  simp only [ExpPart.bytes, List.cons_append, List.map_cons, List.append_assoc, floatExponent, hl, if_true]
  rw [hs]
  simp only [hd, ExpPart.value]
  cases x.sign <;> simp

/-- the second half of `literal_float`: mantissa and exponent read, the outcome of the `#INF` check given, the tail a suffix
and a boundary -/
theorem literalFloat_of_parts {inp i2 tl tl' rest : Bytes} {hasF : Bool} {l r : List Nat} {exv : Option Int}
    {ty : Option FloatType} {v : Nat}
    (hm : floatMantissa inp = .ok (i2, (hasF, l, r)))
    (hex : opt (floatExponent i2) i2 = (tl, exv))
    (hne : ¬ (hasF = false ∧ exv = none))
    (hinf : floatInf tl (float64FromParts l r (exv.getD 0)) exv.isSome = .ok (tl', v))
    (hty : opt (floatType tl') tl' = (rest, ty))
    (hb : Boundary rest) :
    literalFloat inp = .ok (rest, mkFloatToken v ty) := by
  unfold literalFloat
  rw [hm]
  simp only [hex, hne, if_false, hinf, hty]
  cases rest with
  | nil => simp
  | cons c r5 =>
    have := (hb c r5 rfl).1
    simp [this]

/-- `digits "." digits*` followed by something that is not a digit -/
theorem floatMantissa_point (w : Nat) (ws fr : List Nat) (hw : ∀ x ∈ w :: ws, x < 10) (hf : ∀ x ∈ fr, x < 10)
    (tl : Bytes) (ht : NoDigitHead tl) :
    floatMantissa ((w :: ws).map digitByte ++ 46 :: (fr.map digitByte ++ tl)) = .ok (tl, (true, w :: ws, fr)) := by
  have h46 : NoDigitHead (46 :: (fr.map digitByte ++ tl)) := by
    intro b q hq; simp at hq; rw [← hq.1]; decide
  have hm : mantissaOf ((w :: ws).map digitByte ++ 46 :: (fr.map digitByte ++ tl)) = (tl, (true, w :: ws, fr)) := by
    unfold mantissaOf
    rw [spanDigits_digits (w :: ws) hw _ h46]
    simp only [show (46 : UInt8).toNat = 46 from rfl, if_true, spanDigits_digits fr hf tl ht]
  rw [floatMantissa_eq, hm, if_neg (by simp)]

/-- `digits` followed by something that is neither a digit nor the point: no fraction -/
theorem floatMantissa_whole (w : Nat) (ws : List Nat) (hw : ∀ x ∈ w :: ws, x < 10) (tl : Bytes)
    (ht : NoDigitHead tl) (h46 : ∀ b q, tl = b :: q → b.toNat ≠ 46) :
    floatMantissa ((w :: ws).map digitByte ++ tl) = .ok (tl, (false, w :: ws, [])) := by
  have hm : mantissaOf ((w :: ws).map digitByte ++ tl) = (tl, (false, w :: ws, [])) := by
    unfold mantissaOf
    rw [spanDigits_digits (w :: ws) hw _ ht]
    cases tl with
    | nil => rfl
    | cons c q => simp only [h46 c q rfl, if_false]
  rw [floatMantissa_eq, hm, if_neg (by simp)]

theorem expBytes_head_noDigit (ex : Option ExpPart) (tl : Bytes) (ht : NoDigitHead tl) : NoDigitHead (expBytes ex ++ tl) := by
  cases ex with
  | none => simpa [expBytes] using ht
  | some x =>
    intro b q hq
    simp [expBytes, ExpPart.bytes] at hq
    rw [← hq.1]
    cases x.letter <;> decide

/-- an optional exponent part is read, or nothing is read where none stands -/
theorem floatExponent_opt (ex : Option ExpPart) (hx : ∀ x, ex = some x → ∀ y ∈ x.d :: x.ds, y < 10) (tl : Bytes)
    (ht : NoDigitHead tl) (hh : ∀ b r, tl = b :: r → b.toNat ≠ 101 ∧ b.toNat ≠ 69) :
    opt (floatExponent (expBytes ex ++ tl)) (expBytes ex ++ tl) = (tl, ex.map ExpPart.value) := by
  cases ex with
  | none => simpa [expBytes] using floatExponent_none tl hh
  | some x => simp [expBytes, floatExponent_part x (hx x rfl) tl ht, opt]

/-- everything behind the mantissa: an optional exponent part, the suffix, a boundary -/
theorem literalFloat_spelled {inp : Bytes} {hasF : Bool} {l r : List Nat} (ex : Option ExpPart)
    (sfx : Option SuffixSpelling) (rest : Bytes) (hb : Boundary rest)
    (hx : ∀ x, ex = some x → ∀ y ∈ x.d :: x.ds, y < 10)
    (hm : floatMantissa inp = .ok (expBytes ex ++ (suffixBytes sfx ++ rest), (hasF, l, r)))
    (hne : hasF = false → ex ≠ none) :
    literalFloat inp = .ok (rest,
      mkFloatToken (float64FromParts l r ((ex.map ExpPart.value).getD 0)) (sfx.map (·.ty))) := by
  have hsh := suffix_head sfx rest hb
  have hex := floatExponent_opt ex hx _ (suffix_noDigit sfx rest hb)
    (fun b q hq => ⟨(hsh b q hq).1, (hsh b q hq).2.1⟩)
  -- no `#` ahead: the `#INF` check changes nothing
  exact literalFloat_of_parts hm hex (fun h => hne h.1 (by simpa using h.2))
    (by simp only [floatInf, stripInf_none _ fun b q hq => (hsh b q hq).2.2]) (floatType_suffix sfx rest hb) hb

attribute [local simp] Numeral.bytes Numeral.token Numeral.digits Numeral.expValue Numeral.fracLen Numeral.suffixType
  float64FromParts in
theorem literalFloat_numeral (n : Numeral) (hwf : n.WF) (rest : Bytes) (hb : Boundary rest) :
    literalFloat (n.bytes ++ rest) = .ok (rest, n.token) := by
  have hnd := fun ex sfx => expBytes_head_noDigit ex _ (suffix_noDigit sfx rest hb)
  cases n with
  | point w ws fr ex sfx =>
    obtain ⟨hw, hf, hx⟩ := hwf
    have hm := floatMantissa_point w ws fr hw hf _ (hnd ex sfx)
    simpa using literalFloat_spelled ex sfx rest hb hx hm nofun
  | expo w ws ex sfx =>
    obtain ⟨hw, hx⟩ := hwf
    have hm := floatMantissa_whole w ws hw _ (hnd (some ex) sfx) (fun b q hq => by
      simp [expBytes, ExpPart.bytes] at hq; rw [← hq.1]; cases ex.letter <;> decide)
    simpa [expBytes] using literalFloat_spelled (some ex) sfx rest hb (by simpa using hx) hm nofun

theorem Numeral.bytes_head (n : Numeral) (hwf : n.WF) (rest : Bytes) :
    ∃ b r, n.bytes ++ rest = b :: r ∧ 48 ≤ b.toNat ∧ b.toNat ≤ 57 := by
  cases n with
  | point w ws fr ex sfx =>
    exact ⟨digitByte w, _, by simp [Numeral.bytes]; rfl, digitByte_range w (hwf.1 w (by simp))⟩
  | expo w ws ex sfx =>
    exact ⟨digitByte w, _, by simp [Numeral.bytes]; rfl, digitByte_range w (hwf.1 w (by simp))⟩

/-- **numeral_one_token**: `token_intermediate` on numeral ++ follower is the numeral's one token and leaves exactly
the follower -/
theorem numeral_one_token (n : Numeral) (hwf : n.WF) (rest : Bytes) (hb : Boundary rest) (inc : Bool) :
    tokenIntermediate (n.bytes ++ rest) inc = .ok (rest, n.token) := by
  obtain ⟨b, r, hbr, hd⟩ := n.bytes_head hwf rest
  have h := literalFloat_numeral n hwf rest hb
  rw [hbr] at h ⊢
  exact token_of_float_ok inc hd h

end RsslVerif.Model.Lexer
