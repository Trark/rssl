/-!
# An inventory extracted from the source against its reviewed list

The inventories (`Gen.PanicSites.sites`, `Gen.ArithSites.sites`, ...) and the reviewed lists are sorted the same way,
so "every extracted entry is a reviewed one" is a `List.Sublist` fact; the `Bool` forms the theorems state follow
from it.
-/
namespace RsslVerif.Lemmas.ReviewedTables

set_option hygiene false in
/-- Builds a `List.Sublist` derivation between two literal lists in one pass: a row of the longer list either is the
next entry of the shorter one (`cons_cons`) or is skipped (`cons`).  Not `decide`: to evaluate `==` on strings the
kernel re-encodes every string literal as UTF-8 bytes, at a cost quadratic in its length, while here two entries are
compared as literals, and identical literals are equal by reflexivity.  The pass still succeeds when an entry
disappears from the shorter list and fails when it gains one the longer list does not have.  (Hygiene is off because the
quotation names constants only, and resolving their hygienic copies at each of several hundred steps doubles the cost.) -/
macro "sublist_pass" : tactic =>
  `(tactic| repeat first | apply List.Sublist.cons_cons | apply List.Sublist.cons | exact List.Sublist.slnil)

variable {α : Type} [BEq α] [LawfulBEq α]

theorem isSublist_of_sublist {s l : List α} (h : s.Sublist l) : s.isSublist l = true :=
  List.isSublist_iff_sublist.2 h

theorem all_contains_of_sublist {s l : List α} (h : s.Sublist l) : s.all (fun u => l.contains u) = true :=
  List.all_eq_true.2 fun _ hu => List.contains_iff_mem.2 (h.subset hu)

/-- The rows `(key t, cl, ρ)`, `t ∈ ts`, occur in the reviewed list `l`, and `ρ` is the reason the citing list `cs`
records for the fact `n`. -/
theorem all_any_cited {τ : Type} {l : List (α × String × String)} {cs : List (String × String)} {ts : List τ}
    {key : τ → α} {cl n ρ : String} (hc : (n, ρ) ∈ cs) (hl : (ts.map fun t => (key t, cl, ρ)).Sublist l) :
    (ts.all fun t => l.any fun r => r.1 == key t && r.2.1 == cl && cs.any fun c => c.1 == n && c.2 == r.2.2) = true := by
  refine List.all_eq_true.2 fun t ht => List.any_eq_true.2 ⟨_, hl.subset (List.mem_map.2 ⟨t, ht, rfl⟩), ?_⟩
  simp only [beq_self_eq_true, Bool.true_and, List.any_eq_true]
  exact ⟨_, hc, by simp⟩

end RsslVerif.Lemmas.ReviewedTables
