import RsslVerif.Lemmas.GenMslBase
/-! Metal exporter, the generators of parameters and functions read backwards, and that no generated expression is the tag argument. -/
namespace RsslVerif.Lemmas.GenMsl
open RsslVerif.Gen.HlslGenTables RsslVerif.Gen.MslGenTables RsslVerif.Model RsslVerif.Model.GenMsl RsslVerif.Spec.Sem
open RsslVerif.Model.Ir (Ty Var Const Dir)
open RsslVerif.Model.GenHlsl (GenErr)

variable {cx : Ctx}

theorem genParams_nil_ok {mps : List MslAst.Param} (h : GenMsl.genParams cx [] = .ok mps) : mps = [] := by
  simp [GenMsl.genParams] at h; exact h

theorem genParams_cons_ok {pid : Nat} {d : Dir} {T : Ty} {ps : List (Nat × Dir × Ty)} {mps : List MslAst.Param}
    (h : GenMsl.genParams cx ((pid, d, T) :: ps) = .ok mps) :
    ∃ tn mps', GenMsl.typeName T = .ok tn ∧ GenMsl.genParams cx ps = .ok mps' ∧
      mps = (if d = .in_ then .val tn (cx.locName pid) else .ref threadSpace tn (cx.locName pid)) :: mps' := by
  simp only [GenMsl.genParams, GenMsl.genParam] at h
  cases htn : GenMsl.typeName T with
  | error e => simp [htn] at h
  | ok tn =>
    cases hr : GenMsl.genParams cx ps with
    | error e => simp only [htn] at h; split at h <;> simp [hr] at h
    | ok mps' =>
      refine ⟨tn, mps', rfl, rfl, ?_⟩
      by_cases hd : d = .in_
      · simp [htn, hr, hd] at h; simp [hd, ← h]
      · simp [htn, hr, hd] at h; simp [hd, ← h]

theorem genGlobalParams_nil_ok {gps : List MslAst.Param} (h : GenMsl.genGlobalParams cx [] = .ok gps) : gps = [] := by
  simp [GenMsl.genGlobalParams] at h; exact h

theorem genGlobalParams_cons_ok {g : Nat} {gs : List Nat} {gps : List MslAst.Param}
    (h : GenMsl.genGlobalParams cx (g :: gs) = .ok gps) :
    ∃ tn gps', GenMsl.typeName (cx.vty (.glob g)) = .ok tn ∧ GenMsl.genGlobalParams cx gs = .ok gps' ∧
      gps = .ref threadSpace tn (cx.globName g) :: gps' := by
  simp only [GenMsl.genGlobalParams] at h
  cases htn : GenMsl.typeName (cx.vty (.glob g)) with
  | error e => simp [htn] at h
  | ok tn =>
    cases hr : GenMsl.genGlobalParams cx gs with
    | error e => simp [htn, hr] at h
    | ok gps' => simp [htn, hr] at h; exact ⟨tn, gps', rfl, rfl, h.symm⟩

theorem genFuncInner_ok {fn : Ir.Func} {gs : List Nat} {target tramp : Bool} {m : MslAst.Func}
    (hreq : cx.req fn.id = some gs) (h : genFuncInner cx fn target tramp = .ok m) :
    ∃ rt ps gps body, GenMsl.typeName fn.ret = .ok rt ∧ GenMsl.genParams cx fn.params = .ok ps ∧
      GenMsl.genGlobalParams cx gs = .ok gps ∧
      (if tramp = true then trampolineBody cx fn rt gs else genBody cx fn.body) = .ok body ∧
      m = { name := cx.funcName fn.id, ret := rt,
            params := ps ++ ((if target then [MslAst.Param.tag tagType] else []) ++ gps), body := body } := by
  revert h
  fun_cases genFuncInner cx fn target tramp <;> intro h <;> cases h
  next rt hrt gs' hreq' ps hps gps hgp body hb =>
    cases hreq.symm.trans hreq'
    exact ⟨rt, ps, gps, body, hrt, hps, hgp, hb, by simp⟩

theorem hasTag_append : ∀ (a b : HlslAst.Exprs), Msl.hasTagArg (appendArgs a b) = (Msl.hasTagArg a || Msl.hasTagArg b)
  | .nil, b => by simp [appendArgs, Msl.hasTagArg]
  | .cons e r, b => by simp [appendArgs, Msl.hasTagArg, hasTag_append r b, Bool.or_assoc]

theorem hasTag_globalArgs (cx : Ctx) : ∀ gs, Msl.hasTagArg (globalArgs cx gs) = false
  | [] => by simp [globalArgs, Msl.hasTagArg]
  | g :: r => by simp [globalArgs, Msl.hasTagArg, Msl.isTagArg, hasTag_globalArgs cx r]

theorem genLiteral_shape {c : Const} {a : HlslAst.Expr} (h : GenHlsl.genLiteral c = .ok a) :
    (∃ l, a = .lit l) ∨ (∃ m, a = .un .Minus (.lit (.intUntyped m))) := by
  revert h
  fun_cases GenHlsl.genLiteral c <;> intro h <;> try cases h
  case case5 k _ | case6 k _ => -- a literal of the kind the arm names
    obtain ⟨l, _, rfl⟩ := GenSem.map_ok_inv h
    exact .inl ⟨l, rfl⟩
  all_goals exact .inr ⟨_, rfl⟩

/-- what `gen_not_tag_all` proves of a generated expression: it is not the tag argument -/
abbrev NotTag (r : Except GenErr HlslAst.Expr) : Prop := ∀ a, r = .ok a → Msl.isTagArg a = false
/-- … and of a generated argument list -/
abbrev NotTags (r : Except GenErr HlslAst.Exprs) : Prop := ∀ as, r = .ok as → Msl.hasTagArg as = false

/-- by the functional induction principle of the generator: a branch returns a constructor that is not a call of the tag, or hands on
what a recursive call returned, or ends in an error -/
theorem gen_not_tag_all (hn : ∀ f, cx.funcName f ≠ Msl.tagName) :
    (∀ e, NotTag (genExpr cx e)) ∧ (∀ es, NotTag (genHead cx es)) ∧ (∀ b es, NotTag (genBinary cx b es)) ∧
      (∀ es, NotTags (genArgs cx es)) ∧ ∀ es, NotTag (genSeq cx es) := by
  apply genExpr.mutual_induct_unfolding cx (fun _ r => NotTag r) (fun _ r => NotTag r) (fun _ _ r => NotTag r)
    (fun _ r => NotTags r) (fun _ r => NotTag r)
  -- a constant: a literal or a negated literal
  case case1 => intro c a hg; rw [genLiteral_eq] at hg; rcases genLiteral_shape hg with ⟨l, rfl⟩ | ⟨m, rfl⟩ <;> rfl
  -- a cast to a literal type is dropped: what the operand gave
  case case12 => intro ty e f' hge _ ih a hg; cases hg; exact ih _ hge
  -- a user call: user functions are not named like the tag
  case case17 =>
    intro f args as _ gs _ _ a hg; cases hg
    have := hn f
    cases appendArgs as (globalArgs cx gs) <;> simp [Msl.isTagArg, this]
  -- `metal::fmod(…)`
  case case29 =>
    intro o name s b hf x r t _ _ as has _ a hg
    obtain ⟨-, rfl, -⟩ := mslOpForm_floatCall hf
    simp only [has] at hg; cases hg
    cases as <;> first | rfl | decide
  -- `genBinary` on two operands
  case case48 => intro b x y x' hgx y' hgy _ _ a hg; simp only [genBinary, hgx, hgy] at hg; cases hg; rfl
  -- an argument and the rest
  case case53 =>
    intro e r a1 hge ar hgr ih1 ih2 as hg
    simp only [genArgs, hge, hgr] at hg; cases hg
    simp [Msl.hasTagArg, ih1 a1 hge, ih2 ar hgr]
  -- `genSeq`: a `Sequence` node
  case case58 => intro e e2 r tail a1 hge hgt _ _ a hg; rw [genSeq] at hg; simp only [hgt, hge] at hg; cases hg; rfl
  -- the branches left folded by the principle that end in an error
  case case28 => intros; intro a hg; simp_all
  case case46 | case47 | case49 => intros; intro a hg; simp_all [genBinary]
  case case51 | case52 => intros; intro as hg; simp_all [genArgs]
  case case56 | case57 => intros; intro a hg; simp_all [genSeq]
  -- every other branch: another constructor, the result of a recursive call, or an error
  all_goals intros; first | assumption | (intro a hg; cases hg <;> rfl)

theorem gen_not_tag (hn : ∀ f, cx.funcName f ≠ Msl.tagName) :
    ∀ (e : Ir.Expr) (a : HlslAst.Expr), genExpr cx e = .ok a → Msl.isTagArg a = false :=
  (gen_not_tag_all hn).1

theorem genArgs_not_tag (hn : ∀ f, cx.funcName f ≠ Msl.tagName) :
    ∀ (es : Ir.Exprs) (as : HlslAst.Exprs), genArgs cx es = .ok as → Msl.hasTagArg as = false :=
  (gen_not_tag_all hn).2.2.2.1

end RsslVerif.Lemmas.GenMsl
