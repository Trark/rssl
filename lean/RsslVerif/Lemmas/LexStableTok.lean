import RsslVerif.Lemmas.LexStable
/-!
# `token_intermediate` does not look past a stopper (words, trivia, strings, symbols, the dispatcher)
-/
namespace RsslVerif.Lemmas.LexStable
open RsslVerif.Gen.LexTables RsslVerif.Model.Lexer

/-- `identifier_start` as a test that returns the byte -/
def identStart (b : UInt8) : Option UInt8 := if isIdentStart b then some b else none

def otherAt (x : Bytes) : LexErr := .lex (.rest x) .OtherTokenBytes

theorem anyWord_pipe : anyWord = andThen (firstByte identStart (.lex .static .EndOfStream) otherAt) fun b =>
    andThen (run identByte) fun w => ret (wordToken (b :: w)) := by
  funext x
  cases x with
  | nil => rfl
  | cons b r =>
    unfold andThen
    simp only [anyWord, firstByte, identStart, spanIdent_eq]
    split <;> rfl

theorem identByte_blind : StopBlind identByte := fun b hb => by simp only [identByte, identChar_stop hb]; rfl

theorem anyWord_okStable : OkStable anyWord :=
  Local₂.okStable (anyWord_pipe ▸ (firstByte_local ..).andThen fun _ => (run_local identByte_blind).andThen fun _ => .ret _)

theorem stripPrefix_append (pat y : Bytes) : stripPrefix? pat (pat ++ y) = some y := by
  induction pat with
  | nil => simp [stripPrefix?]
  | cons a pat ih => simp [stripPrefix?, ih]

theorem whitespaceEndline_ok {x rest : Bytes} {tok : Token} (h : whitespaceEndline x = .ok (rest, tok)) :
    (x = [92, 13, 10] ++ rest ∧ tok = .simple .PhysicalEndline) ∨ (x = [92, 10] ++ rest ∧ tok = .simple .PhysicalEndline) ∨
    (x = [13, 10] ++ rest ∧ tok = .simple .Endline) ∨ (x = [10] ++ rest ∧ tok = .simple .Endline) := by
  revert h
  fun_cases whitespaceEndline x <;> intro h <;> cases h
  · exact .inl ⟨stripPrefix?_eq ‹_›, rfl⟩
  · exact .inr (.inl ⟨stripPrefix?_eq ‹_›, rfl⟩)
  · exact .inr (.inr (.inl ⟨stripPrefix?_eq ‹_›, rfl⟩))
  · exact .inr (.inr (.inr ⟨stripPrefix?_eq ‹_›, rfl⟩))

theorem whitespaceEndline_pe1 (y : Bytes) : whitespaceEndline ([92, 13, 10] ++ y) = .ok (y, .simple .PhysicalEndline) := by
  simp [whitespaceEndline, stripPrefix?]
theorem whitespaceEndline_pe2 (y : Bytes) : whitespaceEndline ([92, 10] ++ y) = .ok (y, .simple .PhysicalEndline) := by
  simp [whitespaceEndline, stripPrefix?]
theorem whitespaceEndline_el1 (y : Bytes) : whitespaceEndline ([13, 10] ++ y) = .ok (y, .simple .Endline) := by
  simp [whitespaceEndline, stripPrefix?]
theorem whitespaceEndline_el2 (y : Bytes) : whitespaceEndline ([10] ++ y) = .ok (y, .simple .Endline) := by
  simp [whitespaceEndline, stripPrefix?]

theorem whitespaceEndline_okStable : OkStable whitespaceEndline := by
  intro c q s s' tok h _
  rcases whitespaceEndline_ok h with ⟨hx, ht⟩ | ⟨hx, ht⟩ | ⟨hx, ht⟩ | ⟨hx, ht⟩ <;>
    (have hc := List.append_cancel_right hx; subst hc ht)
  · exact whitespaceEndline_pe1 _
  · exact whitespaceEndline_pe2 _
  · exact whitespaceEndline_el1 _
  · exact whitespaceEndline_el2 _

theorem lce_append (u y : Bytes) (h : lineCommentEnd u ≠ []) : lineCommentEnd (u ++ y) = lineCommentEnd u ++ y := by
  fun_induction lineCommentEnd u <;>
    first
    | (simp_all [lineCommentEnd]; done)
    | (simp only [List.cons_append]
       conv => lhs; rw [lineCommentEnd.eq_def]
       simp_all; done)

def endsCR : Bytes → Bool
  | [] => false
  | [b] => b.toNat == 13
  | _ :: c :: r => endsCR (c :: r)

theorem endsCR_tail {b : UInt8} {r : Bytes} (h : endsCR (b :: r) = false) : endsCR r = false := by
  cases r with
  | nil => rfl
  | cons c r => simpa [endsCR] using h

theorem lce_after_backslash (b : UInt8) (hb : b.toNat = 92) (y : Bytes) : lineCommentEnd (b :: y) <:+ y := by
  rw [lineCommentEnd.eq_def]
  simp only [hb, if_true]
  cases y with
  | nil => simp
  | cons c r2 =>
    simp only
    by_cases h10 : c.toNat = 10
    · rw [if_pos h10]; exact List.IsSuffix.trans (lineCommentEnd_suffix r2) (List.suffix_cons _ _)
    · rw [if_neg h10]
      by_cases h13 : c.toNat = 13
      · rw [if_pos h13]
        cases r2 with
        | nil => exact lineCommentEnd_suffix _
        | cons d r3 =>
          simp only
          by_cases hd : d.toNat = 10
          · rw [if_pos hd]
            exact List.IsSuffix.trans (lineCommentEnd_suffix r3) (List.IsSuffix.trans (List.suffix_cons _ _) (List.suffix_cons _ _))
          · rw [if_neg hd]; exact lineCommentEnd_suffix _
      · rw [if_neg h13]; exact lineCommentEnd_suffix _

/-- the scan ran off the end of `u` (and `u` does not end in a lone CR): it continues in what follows -/
theorem lce_append_nil (u y : Bytes) (h : lineCommentEnd u = []) (hl : endsCR u = false) :
    lineCommentEnd (u ++ y) <:+ y := by
  fun_induction lineCommentEnd u with
  | case2 b hb => exact lce_after_backslash b hb y
  | case3 b hb d r3 hd ih =>
    simp only [List.cons_append]
    rw [lineCommentEnd.eq_def]
    simp only [hb, hd, if_true]
    exact ih h (endsCR_tail (endsCR_tail hl))
  | case5 b hb c hc10 hc13 d r3 hd ih =>
    simp only [List.cons_append]
    rw [lineCommentEnd.eq_def]
    simp only [hb, hc13, hd, if_true]
    exact ih h (endsCR_tail (endsCR_tail (endsCR_tail hl)))
  | case12 b r h92 h10 h13 ih =>
    simp only [List.cons_append]
    rw [lineCommentEnd.eq_def]
    simp only [h92, h10, h13, if_false]
    exact ih h (endsCR_tail hl)
  | _ => first
    | (simp_all [lineCommentEnd_suffix, endsCR]; done)
    | (simp only [List.cons_append]
       conv => lhs; rw [lineCommentEnd.eq_def]
       simp_all [endsCR]; done)

theorem endsCR_append (c t : Bytes) (ht : t ≠ []) : endsCR (c ++ t) = endsCR t := by
  induction c with
  | nil => rfl
  | cons b c ih =>
    cases hct : c ++ t with
    | nil => simp at hct; exact absurd hct.2 ht
    | cons x r => simp only [List.cons_append, hct, endsCR]; rw [← hct, ih]

/-- a line comment that ended at a line ending `t` (LF or CRLF) ends there whatever follows the line ending -/
theorem lce_stable (c t y y' : Bytes) (ht : t = [10] ∨ t = [13, 10])
    (h : lineCommentEnd (c ++ (t ++ y)) = t ++ y) : lineCommentEnd (c ++ (t ++ y')) = t ++ y' := by
  have htne : t ≠ [] := by rcases ht with rfl | rfl <;> simp
  have hcr : endsCR (c ++ t) = false := by
    rw [endsCR_append c t htne]
    rcases ht with rfl | rfl <;> rfl
  rw [← List.append_assoc] at h ⊢
  by_cases hz : lineCommentEnd (c ++ t) = []
  · exfalso
    have := (lce_append_nil (c ++ t) y hz hcr).length_le
    rw [h] at this
    have : 0 < t.length := List.length_pos_iff.2 htne
    simp [List.length_append] at *
    omega
  · have h1 := lce_append (c ++ t) y hz
    rw [h] at h1
    have h2 : lineCommentEnd (c ++ t) = t := (List.append_cancel_right h1).symm
    rw [lce_append (c ++ t) y' hz, h2]

theorem lineComment_okStable (b : UInt8) (c q s s' : Bytes) (tok : Token)
    (h : lineComment (b :: (c ++ (q ++ s))) = .ok (q ++ s, tok))
    (hq : ∀ c0 c1, c = c0 :: c1 → b.toNat = 47 → c0.toNat = 47 → (∃ q', q = 10 :: q') ∨ (∃ q', q = 13 :: 10 :: q')) :
    lineComment (b :: (c ++ (q ++ s'))) = .ok (q ++ s', tok) := by
  generalize hx : b :: (c ++ (q ++ s)) = x at h
  revert h
  fun_cases lineComment x <;> intro h
  · rename_i r hr
    simp only [Except.ok.injEq, Prod.mk.injEq] at h
    obtain ⟨hend, rfl⟩ := h
    have hx' := hx.trans (stripPrefix?_eq hr)
    cases c with
    | nil =>
      -- `//` alone would be followed by its own rest
      have h1 := congrArg List.length hx'
      have h2 := (lineCommentEnd_suffix r).length_le
      rw [hend] at h2
      simp at h1 h2
      omega
    | cons c0 c1 =>
      cases hx'
      change Except.ok (lineCommentEnd (c1 ++ (q ++ s')), Token.simple .Comment) = _
      rcases hq 47 c1 rfl rfl rfl with ⟨q', rfl⟩ | ⟨q', rfl⟩
      · rw [show (10 :: q') ++ s' = [10] ++ (q' ++ s') from rfl, lce_stable c1 [10] (q' ++ s) (q' ++ s') (.inl rfl) hend]
      · rw [show (13 :: 10 :: q') ++ s' = [13, 10] ++ (q' ++ s') from rfl,
          lce_stable c1 [13, 10] (q' ++ s) (q' ++ s') (.inr rfl) hend]
  · cases h

theorem blockSearch_cons2 (a b : UInt8) (r : Bytes) :
    blockSearch (a :: b :: r) = if a.toNat = 42 ∧ b.toNat = 47 then some r else blockSearch (b :: r) := rfl

theorem blockSearch_lt {x r : Bytes} (h : blockSearch x = some r) : r.length + 2 ≤ x.length := by
  fun_induction blockSearch x
  case case3 => cases h; simp
  case case4 ih => have := ih h; simp at this ⊢; omega
  all_goals cases h

/-- the search for `*/` as a stage -/
def searchStage : Bytes → LexResult Unit := fun x =>
  match blockSearch x with
  | some r => .ok (r, ())
  | none => endOfStream

theorem blockSearch_swap (c r r' : Bytes) (h : blockSearch (c ++ r) = some r) : blockSearch (c ++ r') = some r' := by
  induction c with
  | nil =>
    exfalso
    have := blockSearch_lt h
    simp at this
    omega
  | cons a c ih =>
    cases c with
    | nil =>
      exfalso
      -- one byte left before the rest: the closing `*/` cannot lie there
      simp only [List.cons_append, List.nil_append] at h
      cases r with
      | nil => simp [blockSearch] at h
      | cons b r =>
        rw [blockSearch_cons2] at h
        by_cases hab : a.toNat = 42 ∧ b.toNat = 47
        · rw [if_pos hab] at h
          simp only [Option.some.injEq] at h
          have := congrArg List.length h; simp at this
        · rw [if_neg hab] at h
          have := blockSearch_lt h
          simp at this
          omega
    | cons b c =>
      simp only [List.cons_append] at h ⊢
      rw [blockSearch_cons2] at h ⊢
      by_cases hab : a.toNat = 42 ∧ b.toNat = 47
      · rw [if_pos hab] at h ⊢
        simp only [Option.some.injEq] at h
        cases nil_of_same_len h
        rfl
      · rw [if_neg hab] at h ⊢
        exact ih h

theorem searchStage_local : Local searchStage where
  suf := by
    intro x r a h
    revert h
    fun_cases searchStage x <;> intro h <;> cases h
    exact blockSearch_suffix ‹_›
  ok := by
    intro c r r' a _ h
    revert h
    fun_cases searchStage (c ++ r) <;> intro h <;> cases h
    rename_i hb
    simp only [searchStage, blockSearch_swap c r r' hb]

theorem blockComment_pipe :
    blockComment = andThen (strip [47, 42] otherAt) fun _ => andThen searchStage fun _ => ret (.simple .Comment) := by
  funext x
  unfold blockComment andThen searchStage
  rw [strip_eq]
  cases stripPrefix? [47, 42] x with
  | none => rfl
  | some r => simp only; cases blockSearch r <;> rfl

theorem blockComment_okStable : OkStable blockComment :=
  Local₂.okStable (blockComment_pipe ▸ (strip_local ..).andThen fun _ => searchStage_local.andThen fun _ => .ret _)

theorem splitAtByte_stable (cl : UInt8) (c q s s' body : Bytes)
    (h : splitAtByte cl (c ++ (q ++ s)) = some (body, q ++ s)) :
    splitAtByte cl (c ++ (q ++ s')) = some (body, q ++ s') := by
  induction c generalizing body with
  | nil =>
    exfalso
    have := splitAtByte_eq h
    have := congrArg List.length this
    simp [List.length_append] at this
    omega
  | cons b c ih =>
    simp only [List.cons_append, splitAtByte] at h ⊢
    by_cases hb : b = cl
    · rw [if_pos hb] at h ⊢
      simp only [Option.some.injEq, Prod.mk.injEq] at h
      have := nil_of_same_len h.2
      subst this
      simp [h.1]
    · rw [if_neg hb] at h ⊢
      cases hr : splitAtByte cl (c ++ (q ++ s)) with
      | none => rw [hr] at h; cases h
      | some xy =>
        obtain ⟨x, y⟩ := xy
        rw [hr] at h
        simp only [Option.some.injEq, Prod.mk.injEq] at h
        obtain ⟨hbody, hy⟩ := h
        subst hy
        rw [ih x hr]
        simp [hbody]

theorem delimited_okStable (opn cls : Nat) (mk : Bytes → Token) (r1 r2 r3 : Reason) :
    OkStable (delimited opn cls mk r1 r2 r3) := by
  intro c q s s' tok h _
  cases c with
  | nil => exact absurd h ((delimited_sound opn cls mk r1 r2 r3 _).1.2.ne_ok _)
  | cons b c =>
    generalize hx : b :: c ++ (q ++ s) = x at h
    revert h
    fun_cases delimited opn cls mk r1 r2 r3 x <;> intro h <;> cases h
    cases hx
    rename_i body hv hn hb hsp
    simp only [List.cons_append, delimited, if_pos hb, splitAtByte_stable _ c q s s' body hsp, if_pos hv, if_neg hn]

/-- a doubled operator (`++`, `&&`, `##`, `::`) is never made of a stopper byte -/
def subBlind : Sub → Bool
  | .opOrEq c _ _ (some _) => !(c == 32 || c == 9 || c == 10 || c == 13 || c == 92 || c == 47)
  | _ => true

theorem stopNat_of_isStop {b : UInt8} (h : isStop b = true) :
    (b.toNat == 32 || b.toNat == 9 || b.toNat == 10 || b.toNat == 13 || b.toNat == 92 || b.toNat == 47) = true := h

/-- what an operator entry makes of the byte after the operator: `=` or the operator again extend the token -/
def opSecond (c : Nat) (opEq opOp : Option Simple) : Bytes → Option Simple
  | [] => none
  | b2 :: _ =>
    match (if b2.toNat = 61 then opEq else none) with
    | some t => some t
    | none => if b2.toNat = c then opOp else none

theorem runSub_opOrEq (c : Nat) (op : Simple) (opEq opOp : Option Simple) (look : Unit → LexResult Token)
    (b : UInt8) (r : Bytes) :
    runSub (.opOrEq c op opEq opOp) look (b :: r) =
      if b.toNat = c then
        match opSecond c opEq opOp r with
        | some t => .ok (r.tail, .simple t)
        | none => .ok (r, .simple op)
      else otherTokenChars (b :: r) := by
  cases r with
  | nil => rfl
  | cons b2 r2 =>
    simp only [runSub, opSecond, List.tail_cons]
    by_cases hb : b.toNat = c
    · simp only [hb, if_true]
      cases (if b2.toNat = 61 then opEq else none) with
      | some t => rfl
      | none => cases (if b2.toNat = c then opOp else none) <;> rfl
    · simp only [hb, if_false]

theorem opSecond_stable (c : Nat) (op : Simple) (opEq opOp : Option Simple)
    (hbl : subBlind (.opOrEq c op opEq opOp) = true) (q s s' : Bytes) (hs : HeadStop s')
    (h : opSecond c opEq opOp (q ++ s) = none) : opSecond c opEq opOp (q ++ s') = none := by
  cases q with
  | cons b r => exact h
  | nil =>
    cases s' with
    | nil => rfl
    | cons sb sr =>
      have hsb := isStop_cases hs
      have h61 : ¬ sb.toNat = 61 := by omega
      simp only [List.nil_append, opSecond, if_neg h61]
      cases opOp with
      | none => simp
      | some t =>
        have hne : ¬ sb.toNat = c := by
          intro hh
          simp only [subBlind] at hbl
          rw [← hh, stopNat_of_isStop hs] at hbl
          cases hbl
        simp [hne]

/-- a one-byte entry that produced a token: its test held and the token is that byte -/
theorem first_ok {p : Prop} [Decidable p] {c q s x : Bytes} {v a : Token}
    (h : (if p then .ok (c ++ (q ++ s), v) else otherTokenChars x : LexResult Token) = .ok (q ++ s, a)) :
    p ∧ c = [] ∧ v = a := by
  split at h
  · simp only [Except.ok.injEq, Prod.mk.injEq] at h
    exact ⟨‹_›, nil_of_same_len h.1, h.2⟩
  · cases h

/-- an entry that produced a token produces the same token when the text after it is replaced by a
stopper-headed one; for a line comment the line ending that stopped it has to be kept; for `<` and `>` the
look-ahead has to classify the following token the same way -/
theorem runSub_okStable (sub : Sub) (hbl : subBlind sub = true) (look look' : Unit → LexResult Token)
    (b : UInt8) (c q s s' : Bytes) (tok : Token)
    (h : runSub sub look (b :: (c ++ (q ++ s))) = .ok (q ++ s, tok)) (hs : HeadStop s')
    (hlc : ∀ c0 c1, c = c0 :: c1 → b.toNat = 47 → c0.toNat = 47 → (∃ q', q = 10 :: q') ∨ (∃ q', q = 13 :: 10 :: q'))
    (hlook : b.toNat = 60 ∨ b.toNat = 62 → followedBy (look ()) = followedBy (look' ())) :
    runSub sub look' (b :: (c ++ (q ++ s'))) = .ok (q ++ s', tok) := by
  cases sub with
  | whitespaceSimple =>
    simp only [runSub, whitespaceSimple] at h ⊢
    obtain ⟨hb, rfl, rfl⟩ := first_ok h
    simp [hb]
  | whitespaceEndline => exact whitespaceEndline_okStable (b :: c) q s s' tok h hs
  | lineComment => exact lineComment_okStable b c q s s' tok h hlc
  | blockComment => exact blockComment_okStable (b :: c) q s s' tok h hs
  | literalString => exact delimited_okStable _ _ _ _ _ _ (b :: c) q s s' tok h hs
  | leftAngle =>
    simp only [runSub] at h ⊢
    obtain ⟨hb, rfl, rfl⟩ := first_ok h
    simp [hb, hlook (.inl hb)]
  | rightAngle =>
    simp only [runSub] at h ⊢
    obtain ⟨hb, rfl, rfl⟩ := first_ok h
    simp [hb, hlook (.inr hb)]
  | single ch t =>
    simp only [runSub] at h ⊢
    obtain ⟨hb, rfl, rfl⟩ := first_ok h
    simp [hb]
  | opOrEq ch op opEq opOp =>
    rw [runSub_opOrEq] at h ⊢
    by_cases hb : b.toNat = ch
    · rw [if_pos hb] at h ⊢
      cases hsec : opSecond ch opEq opOp (c ++ (q ++ s)) with
      | some t =>
        -- a two-byte operator: the second byte lies in `c` and decides alone
        rw [hsec] at h
        simp only [Except.ok.injEq, Prod.mk.injEq] at h
        obtain ⟨hrest, rfl⟩ := h
        cases c with
        | nil =>
          exfalso
          cases hx : q ++ s with
          | nil => rw [List.nil_append, hx] at hsec; cases hsec
          | cons x r => rw [List.nil_append, hx] at hrest; have := congrArg List.length hrest; simp at this
        | cons b2 c =>
          simp only [List.cons_append, List.tail_cons] at hrest ⊢
          have hc := nil_of_same_len hrest
          subst hc
          rw [show opSecond ch opEq opOp (b2 :: ([] ++ (q ++ s'))) = some t from hsec]
          rfl
      | none =>
        -- a one-byte operator: the next byte is neither `=` nor the operator again
        rw [hsec] at h
        simp only [Except.ok.injEq, Prod.mk.injEq] at h
        obtain ⟨hc, rfl⟩ := h
        have hc := nil_of_same_len hc
        subst hc
        rw [List.nil_append] at hsec ⊢
        rw [opSecond_stable ch op opEq opOp hbl q s s' hs hsec]
    · rw [if_neg hb] at h; simp [otherTokenChars] at h

/-- an entry may share a first byte with a later entry only if it is one of the two comment lexers -/
def tableOK : List Sub → Bool
  | [] => true
  | s :: more =>
    (more.all fun t => (subFirst t).all fun b =>
      !(subFirst s).contains b || decide (s = .lineComment) || decide (s = .blockComment)) && tableOK more

theorem choose_ok_mem (subs : List Sub) (look : Unit → LexResult Token) (x rest : Bytes) (tok : Token)
    (h : choose subs look x = .ok (rest, tok)) : ∃ t ∈ subs, runSub t look x = .ok (rest, tok) := by
  fun_induction choose subs look x
  case case2 sub more v hr => cases h; exact ⟨sub, by simp, hr⟩
  case case3 ih => obtain ⟨t, ht, hrt⟩ := ih h; exact ⟨t, by simp [ht], hrt⟩
  all_goals cases h

/-- a comment lexer that said "not my token" says so again: the byte after a `/` is the same, or a stopper other than `/` -/
theorem comment_other_stable (sub : Sub) (hsub : sub = .lineComment ∨ sub = .blockComment)
    (look look' : Unit → LexResult Token) (b : UInt8) (c q s s' : Bytes)
    (h : runSub sub look (b :: (c ++ (q ++ s))) = otherTokenChars (b :: (c ++ (q ++ s)))) (hs : HeadStop s')
    (hsl : c = [] → q = [] → ∀ r, s' ≠ 47 :: r) :
    runSub sub look' (b :: (c ++ (q ++ s'))) = otherTokenChars (b :: (c ++ (q ++ s'))) := by
  have hsecond : ∀ (pat2 : UInt8), pat2.toNat = 47 ∨ pat2.toNat = 42 →
      stripPrefix? [47, pat2] (b :: (c ++ (q ++ s))) = none →
      (pat2.toNat = 47 → c = [] → q = [] → ∀ r, s' ≠ 47 :: r) →
      stripPrefix? [47, pat2] (b :: (c ++ (q ++ s'))) = none := by
    intro pat2 hp2 hn hsl'
    simp only [stripPrefix?] at hn ⊢
    by_cases hb : (47 : UInt8) = b
    · rw [if_pos hb] at hn ⊢
      cases c with
      | cons c0 c1 =>
        simp only [List.cons_append, stripPrefix?] at hn ⊢
        by_cases h2 : pat2 = c0
        · rw [if_pos h2] at hn; cases hn
        · rw [if_neg h2]
      | nil =>
        cases q with
        | cons q0 q1 =>
          simp only [List.nil_append, List.cons_append, stripPrefix?] at hn ⊢
          by_cases h2 : pat2 = q0
          · rw [if_pos h2] at hn; cases hn
          · rw [if_neg h2]
        | nil =>
          simp only [List.nil_append] at hn ⊢
          cases s' with
          | nil => rfl
          | cons sb sr =>
            simp only [stripPrefix?]
            have : pat2 ≠ sb := by
              intro he; subst he
              rcases hp2 with h47 | h42
              · have : pat2 = 47 := by
                  apply UInt8.toNat_inj.1; simpa using h47
                subst this
                exact hsl' rfl rfl rfl sr rfl
              · have := isStop_cases hs; omega
            rw [if_neg this]
    · rw [if_neg hb]
  rcases hsub with rfl | rfl
  · simp only [runSub, lineComment] at h ⊢
    cases hp : stripPrefix? [47, 47] (b :: (c ++ (q ++ s))) with
    | some r => rw [hp] at h; simp [otherTokenChars] at h
    | none => rw [hsecond 47 (Or.inl rfl) hp (fun _ => hsl)]
  · simp only [runSub, blockComment] at h ⊢
    cases hp : stripPrefix? [47, 42] (b :: (c ++ (q ++ s))) with
    | some r =>
      rw [hp] at h
      simp only at h
      cases hb : blockSearch r with
      | none => rw [hb] at h; simp [endOfStream, otherTokenChars] at h
      | some rest => rw [hb] at h; simp [otherTokenChars] at h
    | none => rw [hsecond 42 (Or.inr rfl) hp (fun h42 => by simp at h42)]

/-- what has to be known about the text after the token, beyond "stopper-headed" -/
structure SideOK (b : UInt8) (c q s' : Bytes) : Prop where
  /-- a `/` directly followed by the new text: that text does not start with `/` -/
  slash : b.toNat = 47 → c = [] → q = [] → ∀ r, s' ≠ 47 :: r
  /-- a line comment: the line ending that stopped it is kept -/
  lineComment : ∀ c0 c1, c = c0 :: c1 → b.toNat = 47 → c0.toNat = 47 →
    (∃ q', q = 10 :: q') ∨ (∃ q', q = 13 :: 10 :: q')

theorem choose_stable (subs : List Sub) (htab : tableOK subs = true) (hbl : subs.all subBlind = true)
    (look look' : Unit → LexResult Token) (b : UInt8) (c q s s' : Bytes) (tok : Token)
    (h : choose subs look (b :: (c ++ (q ++ s))) = .ok (q ++ s, tok)) (hs : HeadStop s')
    (hside : SideOK b c q s')
    (hlook : b.toNat = 60 ∨ b.toNat = 62 → followedBy (look ()) = followedBy (look' ())) :
    choose subs look' (b :: (c ++ (q ++ s'))) = .ok (q ++ s', tok) := by
  induction subs with
  | nil => simp [choose, wrongChars] at h
  | cons sub more ih =>
    simp only [tableOK, Bool.and_eq_true] at htab
    simp only [List.all_cons, Bool.and_eq_true] at hbl
    rw [choose_cons] at h ⊢
    rcases (runSub_sound sub look (b :: (c ++ (q ++ s)))).orElse_cases (choose more look (b :: (c ++ (q ++ s))))
      with e | ⟨hr, e⟩ <;> rw [e] at h
    · -- this entry produced the token
      rw [runSub_okStable sub hbl.1 look look' b c q s s' tok h hs hside.lineComment hlook]
      rfl
    · -- the same entry says "not my token" on the edited text
      have hr' : runSub sub look' (b :: (c ++ (q ++ s'))) = otherTokenChars (b :: (c ++ (q ++ s'))) := by
        by_cases hm : b.toNat ∈ subFirst sub
        · obtain ⟨t, ht, hrt⟩ := choose_ok_mem more look _ _ _ h
          have htf := runSub_first t look b _ _ _ hrt
          have hsub : sub = .lineComment ∨ sub = .blockComment := by
            have h1 := List.all_eq_true.1 htab.1 t ht
            have h2 := List.all_eq_true.1 h1 _ htf
            simp only [Bool.or_eq_true, Bool.not_eq_true', decide_eq_true_eq] at h2
            rcases h2 with (h2 | h2) | h2
            · exfalso
              have : (subFirst sub).contains b.toNat = true := by simpa using hm
              rw [h2] at this; cases this
            · exact Or.inl h2
            · exact Or.inr h2
          have hb47 : b.toNat = 47 := by
            rcases hsub with rfl | rfl <;> simpa [subFirst] using hm
          exact comment_other_stable sub hsub look look' b c q s s' hr hs (hside.slash hb47)
        · exact runSub_other_first sub look' b _ hm
      rw [hr', orElse_other]
      exact ih htab.2 hbl.2 h

/-- **The token at the front of a text does not depend on what follows it, as far as stopper-headed
replacements go.**  `token_intermediate` produced `tok` from `b :: c` (rest `q ++ s`); then it produces the same
token from `b :: c` followed by `q ++ s'`, for every `s'` that is empty or begins with a stopper, provided:
the float lexer did not give up on an `x` suffix (`1.xxx`), a `/` is not directly followed by a new `/`,
a line comment keeps its line ending, and for `<` / `>` the look-ahead classifies the next token alike. -/
theorem tokenIntermediate_stable (b : UInt8) (c q s s' : Bytes) (tok : Token)
    (h : tokenIntermediate (b :: (c ++ (q ++ s))) false = .ok (q ++ s, tok)) (hs : HeadStop s')
    (hnx : ¬ FloatGaveUpOnX (b :: (c ++ (q ++ s))))
    (hside : SideOK b c q s')
    (hlook : b.toNat = 60 ∨ b.toNat = 62 →
      followedBy (tokenIntermediate (c ++ (q ++ s)) false) = followedBy (tokenIntermediate (c ++ (q ++ s')) false)) :
    tokenIntermediate (b :: (c ++ (q ++ s'))) false = .ok (q ++ s', tok) := by
  by_cases hd : 48 ≤ b.toNat ∧ b.toNat ≤ 57
  · exact numTok_stable b hd c q s s' tok false h hnx hs
  · unfold tokenIntermediate tokenStep at h ⊢
    rw [if_neg hd] at h ⊢
    by_cases hi : isIdentStart b = true
    · rw [if_pos hi] at h ⊢
      have := anyWord_okStable (b :: c) q s s' tok (by simpa using h) hs
      simpa using this
    · rw [if_neg hi] at h ⊢
      simp only [Bool.false_eq_true, if_false] at h ⊢
      exact choose_stable tokenChoice (by decide +kernel) (by decide +kernel) _ _ b c q s s' tok h hs hside hlook

end RsslVerif.Lemmas.LexStable
