/-!
Membership tests over tables of string literals, arranged for evaluation by the kernel.
-/
namespace RsslVerif.Lemmas.StringKey

/-- the bytes `b` as digits `b + 1` of a little-endian numeral in base 257 -/
def codeOf : List UInt8 → Nat
  | [] => 0
  | b :: r => b.toNat + 1 + 257 * codeOf r

theorem codeOf_inj : ∀ {a b : List UInt8}, codeOf a = codeOf b → a = b
  | [], [], _ => rfl
  | [], _ :: _, h => by simp only [codeOf] at h; omega
  | _ :: _, [], h => by simp only [codeOf] at h; omega
  | x :: r, y :: s, h => by
    have hx := x.toNat_lt
    have hy := y.toNat_lt
    simp only [codeOf] at h
    have hxy : x.toNat = y.toNat := by omega
    rw [UInt8.toNat_inj.mp hxy, codeOf_inj (a := r) (b := s) (by omega)]

/-- A numeric key of a string.  The kernel decides `s = t` on string literals by encoding both sides to UTF-8 again at
every comparison; a key is computed once per string, and keys are compared by the kernel's arithmetic. -/
def code (s : String) : Nat := codeOf s.toByteArray.data.toList

theorem code_inj {a b : String} (h : code a = code b) : a = b :=
  String.toByteArray_inj.mp (ByteArray.ext (Array.ext' (codeOf_inj h)))

theorem mem_of_code_mem {n : String} {ys : List String} (h : (ys.map code).contains (code n) = true) : n ∈ ys := by
  obtain ⟨m, hm, e⟩ := List.mem_map.mp (List.contains_iff_mem.mp h)
  exact code_inj e ▸ hm

/-- `xs ⊆ ys` from one evaluation over the keys -/
theorem subset_of_codes {xs ys : List String}
    (h : (xs.all fun n => (ys.map code).contains (code n)) = true) : ∀ n ∈ xs, n ∈ ys :=
  fun n hn => mem_of_code_mem (List.all_eq_true.mp h n hn)

end RsslVerif.Lemmas.StringKey
