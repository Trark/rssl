import RsslVerif.Lemmas.GenMslBind
/-! Metal exporter: `trampoline_copy` (stated as `Thm.C02Sem.trampoline_copy_semantics`) — a call of the emitted trampoline with arbitrary caller variables for
its reference parameters is copy-in / typed function / copy-out. -/
namespace RsslVerif.Lemmas.GenMsl
open RsslVerif.Gen.HlslGenTables RsslVerif.Gen.MslGenTables RsslVerif.Model RsslVerif.Model.GenMsl RsslVerif.Spec.Sem
open RsslVerif.Model.Ir (Ty Var Const Dir)
open RsslVerif.Model.GenHlsl (GenErr)
/-- the frame of a trampoline as the layout fixes it: by-value parameters and the locals `__p` at the parameter slots of
the typed function, `out` at a scratch slot of its own (reclaimed at return), all names involved distinct -/
structure AgreeT (cx : Ctx) (L : Msl.Layout) (fn : Ir.Func) (gs : List Nat) (xo : Var) : Prop where
  vty : L.vty = cx.vty
  fres : L.fres (cx.funcName fn.id) = some fn.id
  notFmod : cx.funcName fn.id ≠ Msl.fmodName
  slotP : ∀ p ∈ fn.params, L.frame (cx.funcName fn.id) (cx.locName p.1) = some (.loc p.1)
  slotT : ∀ p ∈ fn.params, L.frame (cx.funcName fn.id) (trampLocal cx p.1) = some (.loc p.1)
  slotO : L.frame (cx.funcName fn.id) trampolineResultName = some xo
  scratch : L.scratch (cx.funcName fn.id) = [xo]
  tyO : cx.vty xo = fn.ret
  xoFresh : xo ∉ slotsOf fn.params
  ids : (fn.params.map (·.1)).Nodup
  names : (fn.params.map fun p => cx.locName p.1).Nodup
  namesT : ∀ p ∈ fn.params, trampLocal cx p.1 ∉ (fn.params.map fun q => cx.locName q.1) ∧ trampLocal cx p.1 ∉ gs.map cx.globName
  namesO : trampolineResultName ∉ (fn.params.map fun q => cx.locName q.1) ∧ trampolineResultName ∉ gs.map cx.globName
  namesG : (gs.map cx.globName).Nodup ∧ ∀ p ∈ fn.params, cx.locName p.1 ∉ gs.map cx.globName

theorem valsIn_length {vty : Var → Ty} {slots : List Var} {xo : Var} (ps : Params) (l : CArgs) (σ : Store)
    (h : ArgsOK vty slots xo ps l) : (valsIn ps l σ).length = ps.length := by
  induction ps, l, h using ArgsOK.induction with
  | nil => rfl
  | val pid T ps v l _ _ ih => simp only [valsIn, List.length_cons, ih]
  | ref pid d T ps v x l _ _ _ _ _ _ ih => simp only [valsIn, List.length_cons, ih]

theorem bindParams_self : ∀ (ps : Params) (σ : Store), Ir.bindParams ps (ps.map fun p => σ (.loc p.1)) σ = σ
  | [], σ => rfl
  | (pid, d, T) :: ps, σ => by
    simp only [List.map_cons, Ir.bindParams]
    have hs : σ.set (.loc pid) (σ (.loc pid)) = σ := set_self σ _
    conv => lhs; rw [hs]
    exact bindParams_self ps σ

/-- **copy-in / copy-out** (store form): the emitted trampoline, called with by-value arguments `v` for the `in`
parameters and *arbitrary variables* `x` (outside its own slots; possibly equal to one another or to statics) for the
out/inout parameters, plus references to the statics: evaluates to the typed function entered with the values `valsIn`
(for inout the current content of `x`), whose final parameter values are then written back to the variables in
parameter order, on top of the typed function's final store. -/
theorem trampoline_copy {W : World} {cx : Ctx} {L : Msl.Layout} {fn : Ir.Func} {gs : List Nat} {xo : Var}
    (hA : AgreeT cx L fn gs xo) (M : Msl.MWorld) (fuel : Nat) (t : MslAst.Func)
    (hreq : cx.req fn.id = some gs) (hg : genFuncInner cx fn false true = .ok t)
    (hsig : M.msig fn.id true = some (fn.ret, mParamsOf fn.params ++ (Msl.PK.tag, Ty.void) :: globParams cx gs))
    (hT : ∀ σ', M.mphi fn.id true (slotArgs fn.params (fn.params.map fun p => σ' (.loc p.1)) ++ Msl.MArg.tag :: globMArgs gs) σ' =
      (Ir.callFunc W fuel fn (fn.params.map fun p => σ' (.loc p.1)) σ').map (fun r => (r.1, Msl.restore [xo] σ' r.2.2)))
    (l : CArgs) (hok : ArgsOK cx.vty (slotsOf fn.params) xo fn.params l) :
    ∀ σ, Msl.callFunc M L fuel t (l.map toMArg ++ globMArgs gs) σ =
      match Ir.callFunc W fuel fn (valsIn fn.params l σ) σ with
      | none => none
      | some (ret, finals, σ1) =>
        some (if fn.ret = .void then Val.void else ret, Msl.restore [xo] σ (writeBack (l.map (·.2)) finals σ1)) := by
  intro σ
  obtain ⟨rtn, ps', gps, body, hrt, hps, hgp, hb, rfl⟩ := genFuncInner_ok hreq hg
  simp only [if_true] at hb
  simp only [Bool.false_eq_true, if_false, List.nil_append]
  obtain ⟨ρ1, hb1, hun, hte⟩ := bind_tramp_user (L.frame (cx.funcName fn.id)) fn.params ps' l
    (L.frame (cx.funcName fn.id)) σ gps (globMArgs gs) hps hok hA.slotP hA.names
    (fun p hp => ⟨hA.slotP p hp, hA.slotT p hp, (hA.namesT p hp).1⟩)
  obtain ⟨ρ2, hb2, hgl, h12⟩ := bind_globals_env (cx := cx) (L.frame (cx.funcName fn.id)) gs gps ρ1 (bindIn fn.params l σ) hgp hA.namesG.1
  have henv := hte ρ2 L.vty L.fres fun p hp => ⟨h12 _ (hA.namesG.2 p hp), h12 _ (hA.namesT p hp).2⟩
  have hout : ρ2 trampolineResultName = some xo := by
    rw [h12 _ hA.namesO.2, hun _ hA.namesO.1]; exact hA.slotO
  have hglob : ∀ σ', Msl.evalArgs M { res := ρ2, vty := L.vty, fres := L.fres } (globalArgs cx gs) (globParams cx gs) σ' =
      some (globMArgs gs, σ') :=
    globalArgs_eval' (M := M) (env := { res := ρ2, vty := L.vty, fres := L.fres }) hA.vty gs hgl
  have hbind : Msl.bindArgs (L.frame (cx.funcName fn.id)) (ps' ++ gps) (l.map toMArg ++ globMArgs gs)
      (L.frame (cx.funcName fn.id)) σ = some (ρ2, bindIn fn.params l σ) := by rw [hb1, hb2]
  have hexec := tramp_body_exec (W := W) (cx := cx) (vty := cx.vty) (slots := slotsOf fn.params) (xo := xo) M
    { res := ρ2, vty := L.vty, fres := L.fres } fn gs rtn body fuel [xo] l hA.vty (typeName_tyOfName hrt) hb hok henv hout
    hA.tyO hA.fres hA.notFmod hglob hsig hT (bindIn fn.params l σ)
  rw [copyIn_bindIn fn.params l σ hok hA.ids (fun y hy => hy)] at hexec
  -- both sides run the body of the typed function from the same store
  have hlen1 : ¬ (fn.params.map fun p => Ir.bindParams fn.params (valsIn fn.params l σ) σ (.loc p.1)).length ≠ fn.params.length := by simp
  have hlen2 : ¬ (valsIn fn.params l σ).length ≠ fn.params.length := by simp [valsIn_length fn.params l σ hok]
  simp only [Msl.callFunc, typeName_tyOfName hrt, hbind, hexec, hA.scratch]
  simp only [Ir.callFunc, hlen1, hlen2, if_false, bindParams_self]
  cases hx : Ir.execs W fuel .run fn.body (Ir.bindParams fn.params (valsIn fn.params l σ) σ) with
  | none => rfl
  | some r =>
    obtain ⟨fl, σ1⟩ := r
    simp only []
    -- the stores agree: the reclaimed slot aside, the copies back are the typed `writeBack`
    have hfin : ∀ (σ2 : Store), (∀ y, y ≠ xo → σ2 y = σ1 y) →
        Msl.restore [xo] σ (copyOut fn.params l σ2) =
          Msl.restore [xo] σ (writeBack (l.map (·.2)) (fn.params.map fun p => σ1 (.loc p.1)) σ1) := by
      intro σ2 h2
      funext y
      by_cases hy : y = xo
      · subst hy; simp [Msl.restore]
      · simp only [Msl.restore, List.contains_cons, List.contains_nil, Bool.or_false, beq_iff_eq, hy, if_false]
        rw [copyOut_writeBack fn.params l σ2 hok (fun y hy => hy)]
        have hmap : (fn.params.map fun p => σ2 (.loc p.1)) = fn.params.map fun p => σ1 (.loc p.1) := by
          apply List.map_congr_left
          intro p hp
          apply h2
          intro hc
          apply hA.xoFresh
          rw [← hc]; simp only [slotsOf]; exact List.mem_map_of_mem hp
        rw [hmap]
        exact writeBack_congr _ _ σ2 σ1 y (h2 y hy)
    by_cases hv : fn.ret = .void
    · simp only [hv, if_true]
      rw [hfin _ (fun y hy => by simp [Msl.restore, hy])]
      rfl
    · simp only [hv, if_false, Ir.retVal]
      rw [hfin _ (fun y hy => by simp [Store.set, Msl.restore, hy])]

end RsslVerif.Lemmas.GenMsl
