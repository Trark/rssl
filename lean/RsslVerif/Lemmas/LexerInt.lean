import RsslVerif.Lemmas.Lexer
/-! # Integer literals: the accumulated value is exactly the written one, or the literal is rejected -/
namespace RsslVerif.Model.Lexer
open RsslVerif.Gen.LexTables RsslVerif.Spec

/-- the digits (as numbers) of the maximal run of digit bytes at the start of the input -/
def digitRun (f : UInt8 → Option Nat) : Bytes → List Nat
  | [] => []
  | b :: r => match f b with | some d => d :: digitRun f r | none => []

/-- the input after that run -/
def afterRun (f : UInt8 → Option Nat) : Bytes → Bytes
  | [] => []
  | b :: r => match f b with | some _ => afterRun f r | none => b :: r

def step (base : Nat) (a d : Nat) : Nat := a * base + d

theorem foldl_step_ge (base : Nat) (hb : 1 ≤ base) (ds : List Nat) (v : Nat) :
    v ≤ ds.foldl (step base) v := by
  induction ds generalizing v with
  | nil => exact Nat.le_refl _
  | cons d ds ih =>
    simp only [List.foldl_cons]
    have h1 : v ≤ step base v d := by
      unfold step
      calc v = v * 1 := (Nat.mul_one v).symm
        _ ≤ v * base := Nat.mul_le_mul_left v hb
        _ ≤ v * base + d := Nat.le_add_right _ _
    exact Nat.le_trans h1 (ih _)

/-- closed form of the `digits*` loop: exact accumulation, or rejection as soon as 64 bits overflow -/
theorem digitsLoop_closed (f : UInt8 → Option Nat) (base : Nat) (hb : 1 ≤ base) (start inp : Bytes) (v : Nat)
    (hv : v < 2 ^ 64) :
    digitsLoop f base start inp v =
      (if (digitRun f inp).foldl (step base) v < 2 ^ 64 then
        (.ok (afterRun f inp, (digitRun f inp).foldl (step base) v) : LexResult Nat)
      else .error (.lex (.rest start) .IntegerLiteralTooLarge)) := by
  fun_induction digitsLoop f base start inp v
  case case1 v => simp [digitRun, afterRun, hv]
  case case2 b r v hf => simp [digitRun, afterRun, hf, hv]
  case case3 b r v d hf hc ih => simp only [digitRun, afterRun, hf, List.foldl_cons]; exact ih hc.2
  case case4 b r v d hf hc =>
    -- the accumulator only grows, so an overflow at this digit is an overflow of the whole run
    have hge := foldl_step_ge base hb (digitRun f r) (step base v d)
    have : ¬ ((digitRun f r).foldl (step base) (step base v d) < 2 ^ 64) := by
      unfold step at hge ⊢; omega
    simp only [digitRun, hf, List.foldl_cons, this, if_false]

theorem ofDigits_cons (base d : Nat) (ds : List Nat) :
    Dec2Bin.ofDigits base (d :: ds) = ds.foldl (step base) d := by
  simp only [Dec2Bin.ofDigits, List.foldl_cons, Nat.zero_mul, Nat.zero_add]; rfl

/-- closed form of `digits` / `digits_hex` / `digits_octal` on an input that starts with a digit -/
theorem digitsWith_closed (f : UInt8 → Option Nat) (base : Nat) (hb : 1 ≤ base)
    (hf : ∀ b d, f b = some d → d < 2 ^ 64) (b : UInt8) (r : Bytes) (d : Nat) (hd : f b = some d) :
    digitsWith f base (b :: r) =
      (if Dec2Bin.ofDigits base (digitRun f (b :: r)) < 2 ^ 64 then
        (.ok (afterRun f (b :: r), Dec2Bin.ofDigits base (digitRun f (b :: r))) : LexResult Nat)
      else .error (.lex (.rest (b :: r)) .IntegerLiteralTooLarge)) := by
  simp only [digitsWith, digitWith, hd, digitRun, afterRun, ofDigits_cons]
  exact digitsLoop_closed f base hb (b :: r) r d (hf b d hd)

/-- the integer a token denotes -/
def Token.intValue? : Token → Option Int
  | .litInt v | .litIntU32 v | .litIntU64 v => some (v : Int)
  | .litIntS64 v => some v
  | _ => none

theorem mkIntToken?_value {v : Nat} {k : Option IntType} {tok : Token} (h : mkIntToken? v k = some tok) :
    tok.intValue? = some (v : Int) := by
  revert h
  fun_cases mkIntToken? v k <;> intro h <;> cases h <;> rfl

/-- the literal does not fit the type its suffix names: `u` ⇒ 32 bits, `l` ⇒ signed 64 bits -/
def SuffixOverflow (v : Nat) (k : Option IntType) : Prop :=
  (k = some .Unsigned32 ∧ 2 ^ 32 ≤ v) ∨ (k = some .Signed64 ∧ 2 ^ 63 ≤ v)

theorem mkIntToken?_none {v : Nat} {k : Option IntType} :
    mkIntToken? v k = none ↔ SuffixOverflow v k := by
  unfold SuffixOverflow
  fun_cases mkIntToken? v k <;> simp <;> omega

/-- the range of the type the token's kind names: `u` ⇒ `[0, 2^32)`, `l` ⇒ `[0, 2^63)`, none / `ul` ⇒ `[0, 2^64)` -/
def Token.intInRange : Token → Prop
  | .litInt v | .litIntU64 v => v < 2 ^ 64
  | .litIntU32 v => v < 2 ^ 32
  | .litIntS64 v => 0 ≤ v ∧ v < 2 ^ 63
  | _ => True

theorem mkIntToken?_inRange {v : Nat} {k : Option IntType} {tok : Token} (hv : v < 2 ^ 64)
    (h : mkIntToken? v k = some tok) : tok.intInRange := by
  revert h
  fun_cases mkIntToken? v k <;> intro h <;> cases h <;> simp only [Token.intInRange] <;> omega

theorem decDigit_lt (b : UInt8) (d : Nat) (h : decDigit? b = some d) : d < 10 := by
  revert h; fun_cases decDigit? b <;> intro h <;> cases h; omega
theorem octDigit_lt (b : UInt8) (d : Nat) (h : octDigit? b = some d) : d < 8 := by
  revert h; fun_cases octDigit? b <;> intro h <;> cases h; omega
theorem hexDigit_lt (b : UInt8) (d : Nat) (h : hexDigit? b = some d) : d < 16 := by
  revert h; fun_cases hexDigit? b <;> intro h <;> cases h <;> omega

end RsslVerif.Model.Lexer

namespace RsslVerif.Thm.C10
open RsslVerif.Model.Lexer RsslVerif.Gen.LexTables RsslVerif.Spec

/-- the three digit readers of the lexer with their radix -/
inductive IsRadix : (UInt8 → Option Nat) → Nat → Prop
  | dec : IsRadix decDigit? 10
  | hex : IsRadix hexDigit? 16
  | oct : IsRadix octDigit? 8

theorem IsRadix.facts {f : UInt8 → Option Nat} {base : Nat} (h : IsRadix f base) :
    1 ≤ base ∧ ∀ b d, f b = some d → d < 2 ^ 64 := by
  cases h
  · exact ⟨by omega, fun b d h => by have := decDigit_lt b d h; omega⟩
  · exact ⟨by omega, fun b d h => by have := hexDigit_lt b d h; omega⟩
  · exact ⟨by omega, fun b d h => by have := octDigit_lt b d h; omega⟩

/-- closed form of `literal_decimal_int` / `literal_hex_int` / `literal_octal_int` on an input starting with a
digit: with `v` the positional value of the maximal digit run and `k` the suffix that follows it -/
theorem literalIntWith_closed {f : UInt8 → Option Nat} {base : Nat} (hr : IsRadix f base) (b : UInt8) (r : Bytes)
    (d : Nat) (hd : f b = some d) :
    literalIntWith f base (b :: r) =
      (if Dec2Bin.ofDigits base (digitRun f (b :: r)) < 2 ^ 64 then
        (match mkIntToken? (Dec2Bin.ofDigits base (digitRun f (b :: r)))
                 (opt (intType (afterRun f (b :: r))) (afterRun f (b :: r))).2 with
         | some tok => .ok ((opt (intType (afterRun f (b :: r))) (afterRun f (b :: r))).1, tok)
         | none => .error (.lex (.rest (b :: r)) .IntegerLiteralTooLarge))
       else .error (.lex (.rest (b :: r)) .IntegerLiteralTooLarge)) := by
  obtain ⟨hb, hf⟩ := hr.facts
  unfold literalIntWith
  rw [digitsWith_closed f base hb hf b r d hd]
  by_cases hlt : Dec2Bin.ofDigits base (digitRun f (b :: r)) < 2 ^ 64
  · simp only [hlt, if_true]
    split <;> (rename_i hk; simp [hk])
  · simp only [hlt, if_false]

end RsslVerif.Thm.C10
