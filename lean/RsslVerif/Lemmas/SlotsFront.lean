import RsslVerif.Model.SlotsFront
/-!
# What the front half of binding (Model.SlotsFront) computes, stated per declarator

`explicitGroup attrs anns` is our reading of "the explicit group of a declarator": the group named by the LAST
group-naming attribute of its declaration, else the space of its OWN last `register(..)` annotation, else none.
The lemmas show the model's loops compute exactly this for every declarator, independently of the other
declarators of the same declaration and of what is already in the registry.
-/
namespace RsslVerif.Lemmas.SlotsFront
open RsslVerif.Gen.SlotTables RsslVerif.Model.Slots RsslVerif.Model.SlotsFront

/-- the last element of the list `f` says something about -/
def lastSome {α β : Type} (f : α → Option β) : List α → Option β
  | [] => none
  | x :: xs =>
    match lastSome f xs with
    | some b => some b
    | none => f x

/-- the group an attribute names -/
def attrGroup : Attr → Option Nat
  | .bindGroup g => some g
  | .vkBinding _ (some g) => some g
  | _ => none

/-- the binding index an attribute names -/
def attrIndex : Attr → Option Nat
  | .vkBinding i _ => some i
  | _ => none

def isBindless : Attr → Bool
  | .bindless => true
  | _ => false

def registerOf : Annotation → Option Register
  | .register r => some r
  | _ => none

/-- **Spec**: the explicit group of ONE declarator with annotations `anns` in a declaration with attributes `attrs` -/
def explicitGroup (attrs : List Attr) (anns : List Annotation) : Option Nat :=
  match lastSome attrGroup attrs with
  | some g => some g
  | none => (lastSome registerOf anns).bind (·.space)

/-- an accepted attribute list has no ill-formed attribute -/
def wellFormed : Attr → Bool
  | .badCount _ => false
  | .unknown _ => false
  | .notConstant _ => false
  | _ => true

/-- the loop accepts exactly the lists without ill-formed attribute, and then has applied every attribute in order -/
theorem attrLoop_ok_iff (as : List Attr) : ∀ {r r' : AttrResult},
    attrLoop r as = .ok r' ↔ as.all wellFormed = true ∧ r' = as.foldl attrStep r := by
  induction as with
  | nil => intro r r'; simp [attrLoop, eq_comm]
  | cons a as ih => intro r r'; cases a <;> simp [attrLoop, wellFormed, ih]

theorem attrStep_fields (r : AttrResult) (a : Attr) :
    (attrStep r a).groupOverride = (attrGroup a).or r.groupOverride ∧
    (attrStep r a).indexOverride = (attrIndex a).or r.indexOverride ∧
    (attrStep r a).bindless = (r.bindless || isBindless a) := by
  cases a with
  | vkBinding i g => cases g <;> simp [attrStep, attrGroup, attrIndex, isBindless]
  | _ => simp [attrStep, attrGroup, attrIndex, isBindless]

theorem lastSome_cons {α β : Type} (f : α → Option β) (x : α) (xs : List α) :
    lastSome f (x :: xs) = (lastSome f xs).or (f x) := by
  simp only [lastSome]; cases lastSome f xs <;> rfl

/-- an attribute overwrites what an earlier one said: the last one that names a group / an index decides -/
theorem foldl_attrStep (as : List Attr) : ∀ (r : AttrResult),
    (as.foldl attrStep r).groupOverride = (lastSome attrGroup as).or r.groupOverride ∧
    (as.foldl attrStep r).indexOverride = (lastSome attrIndex as).or r.indexOverride ∧
    (as.foldl attrStep r).bindless = (r.bindless || as.any isBindless) := by
  induction as with
  | nil => intro r; simp [lastSome]
  | cons a as ih =>
    intro r
    obtain ⟨h1, h2, h3⟩ := ih (attrStep r a)
    obtain ⟨s1, s2, s3⟩ := attrStep_fields r a
    simp [h1, h2, h3, s1, s2, s3, lastSome_cons, Option.or_assoc, Bool.or_assoc]

theorem parseAttributes_spec {attrs : List Attr} {attr : AttrResult} (h : parseAttributes attrs = .ok attr) :
    attrs.all wellFormed = true ∧
    attr.groupOverride = lastSome attrGroup attrs ∧
    attr.indexOverride = lastSome attrIndex attrs ∧
    attr.bindless = attrs.any isBindless := by
  obtain ⟨hw, rfl⟩ := (attrLoop_ok_iff attrs).1 h
  simpa [AttrResult.empty] using And.intro hw (foldl_attrStep attrs AttrResult.empty)

/-- the language binding one `register(..)` asks for, when its class is right -/
def bindingOf (e : RegT) (name : String) (r : Register) : Option LangBinding :=
  match registerIndex e name r with
  | .ok index => some { set := r.space, index := index }
  | .error _ => none

/-- the loop gets past an annotation only if it is a `register(..)` of the right class that asks for what the slot
    holds already (if it holds something); it goes on with the binding asked for -/
theorem annotate_cons_ok {expected : Option RegT} {conflict : FrontErr} {name : String} {a : Annotation}
    {rest : List Annotation} {slot s : LangBinding} (h : annotate expected conflict name slot (a :: rest) = .ok s) :
    ∃ r e b, a = .register r ∧ expected = some e ∧ bindingOf e name r = some b ∧ b.set = r.space ∧
      (slot = LangBinding.default ∨ slot = b) ∧ annotate expected conflict name b rest = .ok s := by
  generalize hl : a :: rest = l at h
  revert h
  fun_cases annotate expected conflict name slot l <;> intro h <;> cases hl <;> try cases h
  rename_i r e _ hi _ hc
  refine ⟨r, e, _, rfl, rfl, by rw [bindingOf, hi], rfl, ?_, h⟩
  exact Decidable.byContradiction fun hn => hc ⟨fun e => hn (.inl e), fun e => hn (.inr e)⟩

theorem annotate_set {expected : Option RegT} {conflict : FrontErr} {name : String} :
    ∀ {anns : List Annotation} {slot s : LangBinding}, annotate expected conflict name slot anns = .ok s →
      s.set = (match lastSome registerOf anns with | some r => r.space | none => slot.set)
  | [], slot, s, h => by simp [annotate] at h; subst h; rfl
  | _ :: rest, slot, s, h => by
    obtain ⟨r, e, b, rfl, _, _, hset, _, hrest⟩ := annotate_cons_ok h
    rw [annotate_set hrest, hset]
    simp only [lastSome, registerOf]
    cases lastSome registerOf rest <;> rfl

/-- every `register(..)` the parser produces names a slot or a space -/
def Register.nontrivial (r : Register) : Prop := r.slot.isSome ∨ r.space.isSome

theorem bindingOf_ne_default {e : RegT} {name : String} {r : Register} {b : LangBinding}
    (hr : Register.nontrivial r) (h : bindingOf e name r = some b) : b ≠ LangBinding.default := by
  rintro rfl
  unfold bindingOf at h
  revert h
  fun_cases registerIndex e name r <;> intro h <;> simp [LangBinding.default] at h
  -- left: no slot is named, and the binding's `set`, which is the space, is `none`
  next hslot => simp [Register.nontrivial, hslot, h] at hr

/-- "Repeated annotations are fine as long as they agree": an accepted list consists of `register(..)` annotations of the
    right class, each asking for the binding the name ends up with (or for nothing: an empty `register()`), and a
    binding the slot held before is that binding too; there is no "the first one wins" or "the last one wins" on
    accepted input -/
theorem annotate_ok {e : RegT} {conflict : FrontErr} {name : String} :
    ∀ {anns : List Annotation} {slot s : LangBinding}, annotate (some e) conflict name slot anns = .ok s →
      (slot = LangBinding.default ∨ slot = s) ∧
      ∀ a ∈ anns, ∃ r b, a = .register r ∧ bindingOf e name r = some b ∧ (b = LangBinding.default ∨ b = s)
  | [], slot, s, h => by simp [annotate] at h; exact ⟨.inr h, nofun⟩
  | _ :: rest, slot, s, h => by
    obtain ⟨r, e', b, rfl, he, hb, _, hslot, hrest⟩ := annotate_cons_ok h
    cases he
    obtain ⟨h1, h2⟩ := annotate_ok hrest
    refine ⟨hslot.elim .inl (· ▸ h1), fun a ha => ?_⟩
    rcases List.mem_cons.1 ha with rfl | ha
    · exact ⟨r, b, rfl, hb, h1⟩
    · exact h2 a ha

theorem applyOverrides_set (attr : AttrResult) (slot : LangBinding) :
    (applyOverrides attr slot).set = (match attr.groupOverride with | some g => some g | none => slot.set) := by
  unfold applyOverrides
  cases attr.indexOverride <;> cases attr.groupOverride <;> rfl

theorem applyOverrides_index (attr : AttrResult) (slot : LangBinding) :
    (applyOverrides attr slot).index = (match attr.indexOverride with | some i => some i | none => slot.index) := by
  unfold applyOverrides
  cases attr.indexOverride <;> cases attr.groupOverride <;> rfl

/-- one iteration appends exactly one global, and that global is what the same declarator gives on an EMPTY
    registry: nothing of the registry (the earlier declarators included) is read -/
theorem declaratorStep_frame {σ : Type} {expected : Option RegT} {isExtern : Bool} {attr : AttrResult}
    {registry registry' : List (GlobalVar σ)} {d : Declarator σ}
    (h : declaratorStep expected isExtern attr registry d = .ok registry') :
    ∃ g, registry' = registry ++ [g] ∧ declaratorStep expected isExtern attr [] d = .ok [g] := by
  revert h
  fun_cases declaratorStep expected isExtern attr registry d <;> intro h <;> cases h
  rename_i hss _ _ hann _ hidx
  exact ⟨_, rfl, by simp +zetaDelta [declaratorStep, hss, hann, hidx]⟩

/-- the global one declarator produces: its own name and shape, and a group that is `explicitGroup` of the
    declaration's attributes and ITS annotations -/
theorem declaratorStep_single {σ : Type} {attrs : List Attr} {attr : AttrResult} {expected : Option RegT}
    {isExtern : Bool} {d : Declarator σ} {g : GlobalVar σ} (ha : parseAttributes attrs = .ok attr)
    (h : declaratorStep expected isExtern attr [] d = .ok [g]) :
    g.name = d.name ∧ g.shape = d.shape ∧ g.staticSampler = d.staticSampler ∧
    g.bindless = attrs.any isBindless ∧
    g.langSlot.set = explicitGroup attrs d.annotations := by
  revert h
  fun_cases declaratorStep expected isExtern attr [] d <;> intro h <;> cases h
  rename_i hann _ _
  refine ⟨rfl, rfl, rfl, (parseAttributes_spec ha).2.2.2, ?_⟩
  simp +zetaDelta only [applyOverrides_set, (parseAttributes_spec ha).2.1, explicitGroup, annotate_set hann]
  cases lastSome attrGroup attrs with
  | some g => rfl
  | none => cases lastSome registerOf d.annotations <;> rfl

/-- the loop appends one global per declarator, in declarator order, each being what its declarator gives alone -/
theorem declaratorLoop_spec {σ : Type} {expected : Option RegT} {isExtern : Bool} {attr : AttrResult} :
    ∀ {ds : List (Declarator σ)} {registry registry' : List (GlobalVar σ)},
      declaratorLoop expected isExtern attr registry ds = .ok registry' →
      ∃ news : List (GlobalVar σ), registry' = registry ++ news ∧
        news.map (fun g => (Except.ok [g] : Except FrontErr _)) = ds.map (declaratorStep expected isExtern attr []) := by
  intro ds registry
  fun_induction declaratorLoop expected isExtern attr registry ds <;> intro registry' h
  case case1 => cases h; exact ⟨[], by simp, rfl⟩
  case case2 => cases h
  case case3 reg1 hstep ih =>
    obtain ⟨g, rfl, hg⟩ := declaratorStep_frame hstep
    obtain ⟨news, rfl, hall⟩ := ih h
    exact ⟨g :: news, by simp, by simp [hg, hall]⟩

/-- no state is carried from one root definition to the next: the front end of a concatenation is the
    concatenation of the front ends -/
theorem frontItems_append : ∀ (a b : List RootItem) {out : List (String × Decl)},
    frontItems (a ++ b) = .ok out →
    ∃ oa ob, frontItems a = .ok oa ∧ frontItems b = .ok ob ∧ out = oa ++ ob := by
  intro a
  induction a with
  | nil => intro b out h; exact ⟨[], out, rfl, by simpa using h, by simp⟩
  | cons item rest ih =>
    intro b out h
    rw [List.cons_append] at h
    simp only [frontItems] at h ⊢
    split at h
    · cases h
    · rename_i xs hx
      split at h
      · cases h
      · rename_i ys hy
        cases h
        obtain ⟨oa, ob, h1, h2, h3⟩ := ih b hy
        refine ⟨xs ++ oa, ob, ?_, h2, by simp [h3]⟩
        simp [h1]

end RsslVerif.Lemmas.SlotsFront
