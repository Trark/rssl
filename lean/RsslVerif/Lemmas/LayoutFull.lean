import RsslVerif.Lemmas.Layout
import RsslVerif.Spec.LayoutFull
/-!
# The full type universe against the model (C19)

* on the `plain` part of the universe (no `bool`, no matrix) the full reference calculators coincide with
  those of `Spec.Layout` on the erased type (`coincide`);
* a type that mentions a `bool` or a matrix anywhere never gets a layout from `get_type_layout`
  (`get_opaque`): the check can neither accept it nor report sizes for it; when both rule sets have a layout for it
  the answer is exactly `None`, never a panic (`get_unknown`).
-/
namespace RsslVerif.Lemmas.LayoutFull
open RsslVerif.Gen.LayoutTables RsslVerif.Model.Layout RsslVerif.Spec.Layout RsslVerif.Spec.LayoutFull
open RsslVerif.Lemmas.Layout

theorem xbytes_eq (m : Mode) (s : Scalar) (h : (s != .Bool) = true) : xbytes m s = bytes s := by
  cases s <;> first | (exact absurd h (by decide)) | rfl

theorem xsized_eq (s : Scalar) (h : (s != .Bool) = true) : xsized s = sized s := by
  cases s <;> first | (exact absurd h (by decide)) | rfl

def Same (t : XTy) : Prop :=
  wf (erase t) = true ∧
  (∀ m, xsize m t = size m (erase t) ∧ xalign m t = align m (erase t)) ∧
  (∀ m b, xfieldsAt m t b = fieldsAt m (erase t) b) ∧
  xagreeIn t = agreeIn (erase t)

def SameAll (ts : XTys) : Prop :=
  wfAll (eraseAll ts) = true ∧
  (∀ m, xalignMax m ts = alignMax m (eraseAll ts)) ∧
  (∀ m c, xendOf m ts c = endOf m (eraseAll ts) c ∧ xoffsets m ts c = offsets m (eraseAll ts) c) ∧
  (∀ m b c, xmembersAt m ts b c = membersAt m (eraseAll ts) b c) ∧
  xagreeInAll ts = agreeInAll (eraseAll ts)

mutual
theorem coincide : ∀ t : XTy, plain t = true → xwf t = true → Same t
  | .scalar s, hp, hw => by
    simp only [plain] at hp
    simp only [xwf, xsized_eq s hp] at hw
    refine ⟨by simpa [erase, wf] using hw, fun m => ?_, fun m b => rfl, rfl⟩
    simp [xsize, xalign, erase, size, align, xbytes_eq m s hp]
  | .vec s n, hp, hw => by
    simp only [plain] at hp
    simp only [xwf, xsized_eq s hp] at hw
    refine ⟨by simpa [erase, wf] using hw, fun m => ?_, fun m b => rfl, rfl⟩
    cases m <;> simp [xsize, xalign, erase, size, align, xvecSize, xvecAlign, vecSize, vecAlign, xbytes_eq _ s hp]
  | .mat _ _ _ _, hp, _ => by simp [plain] at hp
  | .enum u, _, hw => by
    simp only [xwf] at hw
    have hu : (u != .Bool) = true := by
      cases u <;> first | (exact absurd hw (by decide)) | rfl
    refine ⟨by simpa [erase, wf] using hw, fun m => ?_, fun m b => rfl, rfl⟩
    simp [xsize, xalign, erase, size, align, xbytes_eq m u hu]
  | .arr t n, hp, hw => by
    simp only [plain] at hp
    simp only [xwf, Bool.and_eq_true, decide_eq_true_eq] at hw
    obtain ⟨h1, h2, h3, h4⟩ := coincide t hp hw.2
    refine ⟨by simp [erase, wf, hw.1, h1], fun m => ?_, fun m b => ?_, ?_⟩
    · simp [xsize, xalign, erase, size, align, (h2 m).1, (h2 m).2]
    · simp only [xfieldsAt, erase, fieldsAt, xstride, stride, (h2 m).1, (h2 m).2, h3]
    · simp only [xagreeIn, erase, agreeIn, xstride, stride, (h2 .hlsl).1, (h2 .hlsl).2, (h2 .metal).1,
        (h2 .metal).2, h4]
  | .struct ms, hp, hw => by
    simp only [plain] at hp
    simp only [xwf] at hw
    obtain ⟨h1, h2, h3, h4, h5⟩ := coincideAll ms hp hw
    cases ms with
    | nil =>
      refine ⟨rfl, fun m => ?_, fun m b => rfl, rfl⟩
      cases m <;> exact ⟨rfl, rfl⟩
    | cons t ts =>
      refine ⟨by simpa [erase, wf, eraseAll] using h1, fun m => ?_, fun m b => ?_, ?_⟩
      · simp only [xsize, xalign, erase, eraseAll, size, align]
        simp only [eraseAll] at h2 h3
        rw [h2 m, (h3 m 0).1]
        exact ⟨rfl, rfl⟩
      · simp only [xfieldsAt, erase, fieldsAt, h4]
      · simp only [xagreeIn, erase, agreeIn, (h3 .hlsl 0).2, (h3 .metal 0).2, h5]
theorem coincideAll : ∀ ts : XTys, plainAll ts = true → xwfAll ts = true → SameAll ts
  | .nil, _, _ => ⟨rfl, fun _ => rfl, fun _ _ => ⟨rfl, rfl⟩, fun _ _ _ => rfl, rfl⟩
  | .cons t ts, hp, hw => by
    simp only [plainAll, Bool.and_eq_true] at hp
    simp only [xwfAll, Bool.and_eq_true] at hw
    obtain ⟨a1, a2, a3, a4⟩ := coincide t hp.1 hw.1
    obtain ⟨b1, b2, b3, b4, b5⟩ := coincideAll ts hp.2 hw.2
    refine ⟨by simp [eraseAll, wfAll, a1, b1], fun m => ?_, fun m c => ?_, fun m b c => ?_, ?_⟩
    · simp only [xalignMax, eraseAll, alignMax, (a2 m).2, b2 m]
    · simp only [xendOf, xoffsets, eraseAll, endOf, offsets, (a2 m).1, (a2 m).2, (b3 m _).1, (b3 m _).2, and_self]
    · simp only [xmembersAt, eraseAll, membersAt, (a2 m).1, (a2 m).2, a3, b4]
    · simp only [xagreeInAll, eraseAll, agreeInAll, a4, b5]
end

theorem scalarLayout_bool : scalarLayout .Bool = .error .unknown := rfl

theorem otherLayout_matrix : otherLayout .Matrix = .error .unknown := rfl

mutual
/-- `get_type_layout` returns `None` (or panics earlier) on every type that mentions a `bool` or a matrix -/
theorem get_opaque (m : Mode) : ∀ t : XTy, plain t = false → ∀ l, get m (erase t) ≠ .ok l
  | .scalar s, hp, l => by
    have : s = .Bool := by
      cases s <;> simp_all [plain]
    subst this
    simp [erase, Model.Layout.get, scalarLayout_bool]
  | .vec s n, hp, l => by
    have : s = .Bool := by
      cases s <;> simp_all [plain]
    subst this
    simp [erase, Model.Layout.get, scalarLayout_bool]
  | .mat _ _ _ _, _, l => by simp [erase, Model.Layout.get, otherLayout_matrix]
  | .enum _, hp, _ => by simp [plain] at hp
  | .arr t n, hp, l => by
    simp only [plain] at hp
    have ih := get_opaque m t hp
    simp only [erase, Model.Layout.get]
    split
    · simp
    · rename_i l' h; exact absurd h (ih l')
  | .struct ms, hp, l => by
    simp only [plain] at hp
    have ih := getMembers_opaque m ms hp
    simp only [erase, Model.Layout.get]
    split
    · simp
    · rename_i l' h; exact absurd h (ih _ l')
theorem getMembers_opaque (m : Mode) : ∀ ts : XTys, plainAll ts = false → ∀ acc l,
    getMembers m (eraseAll ts) acc ≠ .ok l
  | .nil, hp, _, _ => by simp [plainAll] at hp
  | .cons t ts, hp, acc, l => by
    simp only [eraseAll, getMembers]
    split
    · simp
    · rename_i ml hml
      split
      · simp
      · rename_i acc' _
        cases hpt : plain t with
        | false => exact absurd hml (get_opaque m t hpt ml)
        | true =>
          simp only [plainAll, hpt, Bool.true_and] at hp
          exact getMembers_opaque m ts hp acc' l
end

theorem checkOne_opaque (t : XTy) (hp : plain t = false) : ∀ r, checkOne (erase t) ≠ .ok r := by
  intro r
  unfold checkOne
  split
  · simp
  · rename_i lh h; exact absurd h (get_opaque .hlsl t hp lh)

mutual
/-- on a type of the full universe that mentions a `bool` or a matrix `get_type_layout` returns `None`: the leaf has no layout,
    and every step between the leaf and the root (a member loop before it included) passes `None` on or returns it itself -/
theorem get_unknown (m : Mode) : ∀ t : XTy, xwf t = true → plain t = false → get m (erase t) = .error .unknown
  | .scalar s, _, hp => by
    have : s = .Bool := by
      cases s <;> simp_all [plain]
    subst this
    simp [erase, Model.Layout.get, scalarLayout_bool]
  | .vec s n, _, hp => by
    have : s = .Bool := by
      cases s <;> simp_all [plain]
    subst this
    simp [erase, Model.Layout.get, scalarLayout_bool]
  | .mat _ _ _ _, _, _ => by simp [erase, Model.Layout.get, otherLayout_matrix]
  | .enum _, _, hp => by simp [plain] at hp
  | .arr t n, hw, hp => by
    simp only [xwf, Bool.and_eq_true] at hw
    simp only [plain] at hp
    simp only [erase, Model.Layout.get, get_unknown m t hw.2 hp]
  | .struct ms, hw, hp => by
    simp only [xwf] at hw
    simp only [plain] at hp
    simp only [erase, Model.Layout.get, getMembers_unknown m ms hw hp]
theorem getMembers_unknown (m : Mode) : ∀ ts : XTys, xwfAll ts = true → plainAll ts = false → ∀ acc,
    getMembers m (eraseAll ts) acc = .error .unknown
  | .nil, _, hp, _ => by simp [plainAll] at hp
  | .cons t ts, hw, hp, acc => by
    simp only [xwfAll, Bool.and_eq_true] at hw
    simp only [eraseAll, getMembers]
    cases hpt : plain t with
    | false => rw [get_unknown m t hw.1 hpt]
    | true =>
      simp only [plainAll, hpt, Bool.true_and] at hp
      have w := (coincide t hpt hw.1).1
      rw [get_eq m _ w]
      by_cases hf : Fits m (erase t)
      · rw [if_pos hf]
        simp only []
        rw [member_ops_pinned, memberStep_eq (align_pos m _ w)]
        split
        · rename_i e he
          split at he <;> cases he
          rfl
        · exact getMembers_unknown m ts hw.2 hp _
      · rw [if_neg hf]
end

theorem getMembers_noPanic_full (m : Mode) : ∀ (ts : XTys) (acc : Layout), xwfAll ts = true →
    NoPanic (getMembers m (eraseAll ts) acc) := by
  intro ts acc hw
  cases hp : plainAll ts with
  | true => exact getMembers_noPanic m _ acc (coincideAll ts hp hw).1
  | false => rw [getMembers_unknown m ts hw hp]; exact noPanic_unknown

theorem checkOne_opaque_unknown (t : XTy) (hw : xwf t = true) (hp : plain t = false) :
    checkOne (erase t) = .error .unknown := by
  unfold checkOne
  rw [get_unknown .hlsl t hw hp]

theorem checkOne_noPanic_full (t : XTy) (hw : xwf t = true) : NoPanic (checkOne (erase t)) := by
  cases hp : plain t with
  | true => exact checkOne_noPanic (erase t) (coincide t hp hw).1
  | false => rw [checkOne_opaque_unknown t hw hp]; exact noPanic_unknown

end RsslVerif.Lemmas.LayoutFull
