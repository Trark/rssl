import RsslVerif.Lemmas.OverloadT
/-!
# The call after the resolution: `apply_casts` and `check_output_arguments` (`callT`)

An `out` / `inout` argument passes the check iff it is a non-const lvalue of *exactly* the parameter's type
(`checkOutputs_none_iff`): every conversion `find` can build for an lvalue destination other than the identity
(scalar ↔ 1-vector, an added modifier) turns the argument into an rvalue cast.  The verdict on the whole call does not
depend on the declaration order.
-/
namespace RsslVerif.Lemmas.OverloadCall
open RsslVerif.Gen.RankTable RsslVerif.Model.Conv RsslVerif.Model.Overload RsslVerif.Spec.Overload
open RsslVerif.Lemmas.Overload RsslVerif.Lemmas.Conv RsslVerif.Lemmas.OverloadLazy RsslVerif.Lemmas.OverloadT

theorem find_fields {a d : ETy} {c : Conversion} (h : find a d = .ok (some c)) :
    ∃ dc pc mc, dimensionCast a.ty.layer d.ty.layer (decide (d.vt = .lvalue)) = some dc ∧
      primaryCast a.ty.layer d.ty.layer = .ok (some pc) ∧
      modifierCast a.ty.mod d.ty.mod (decide (d.vt = .lvalue)) = some mc ∧
      c = ⟨a, decide (a.vt = .lvalue ∧ d.vt = .rvalue), dc, pc, sharedModifierCast pc d.ty.mod mc⟩ := by
  obtain ⟨_, h1, h2, h3, h4, mc, h5, h6⟩ := find_inv h
  exact ⟨_, _, mc, h3, h4, h5, by rw [← h2, ← h1, ← h6]⟩

theorem dimensionCast_lvalue_none {sl dl : Layer} (h : dimensionCast sl dl true = some none) : sl = dl := by
  generalize hlv : true = lv at h
  revert h
  fun_cases dimensionCast sl dl lv <;> intro h <;> try cases h
  · rfl
  -- the other branches that answer `some none` are for an rvalue destination
  all_goals cases hlv

theorem modifierCast_none {ms md : Modifier} {lv : Bool} (h : modifierCast ms md lv = some none) : ms = md := by
  revert h
  fun_cases modifierCast ms md lv <;> intro h <;> try cases h
  rename_i hne
  simpa using hne

/-- for an lvalue destination `ImplicitConversion::apply` keeps the argument expression iff the argument has exactly
    the destination type -/
theorem find_lvalue_keeps_iff {a : ETy} {t : Ty} {c : Conversion} (h : find a ⟨t, .lvalue⟩ = .ok (some c)) :
    applyKeepsExpr c = true ↔ a.ty = t := by
  obtain ⟨dc, pc, mc, hdc, hpc, hmc, rfl⟩ := find_fields h
  simp only [decide_true] at hdc hmc
  simp only [applyKeepsExpr, Bool.and_eq_true, Option.isNone_iff_eq_none]
  constructor
  · rintro ⟨⟨h1, h2⟩, h3⟩
    subst h1 h2
    have hl := dimensionCast_lvalue_none hdc
    have hm : mc = none := by
      cases mc with
      | none => rfl
      | some m => simp [sharedModifierCast] at h3
    subst hm
    have hmm := modifierCast_none hmc
    cases a with
    | mk ty vt =>
      cases ty with
      | mk m l =>
        cases t with
        | mk m' l' =>
          simp only at hl hmm
          subst hl hmm; rfl
  · intro he
    subst he
    have h1 : dc = none := by
      unfold dimensionCast at hdc
      simpa using hdc.symm
    have h2 : pc = none := by
      unfold primaryCast at hpc
      simpa using hpc.symm
    have h3 : mc = none := by
      unfold modifierCast at hmc
      simpa using hmc.symm
    subst h1 h2 h3
    simp [sharedModifierCast]

theorem find_source {a d : ETy} {c : Conversion} (h : find a d = .ok (some c)) : c.source = a :=
  (find_inv h).2.1

/-- the parameters that `check_output_arguments` looks at are the ones `find_overload_casts` gives an lvalue
    destination (`impl From<InputModifier> for ValueType`, re-extracted) -/
theorem ety_of_output {p : Param} (h : p.io = .out ∨ p.io = .inOut) : p.ety = ⟨p.ty, .lvalue⟩ := by
  unfold Param.ety
  rcases h with h | h <;> rw [h] <;> rfl

/-- the arguments of `out` / `inout` parameters are mutable lvalues of exactly the parameter's type -/
def OutputsExact : List Param → List ETy → Prop
  | p :: ps, a :: as => ((p.io = .out ∨ p.io = .inOut) → a = ⟨p.ty, .lvalue⟩ ∧ a.ty.mod.isConst = false) ∧ OutputsExact ps as
  | _, _ => True

theorem checkPlace_none_iff {a : ETy} {t : Ty} {c : Conversion} (h : find a ⟨t, .lvalue⟩ = .ok (some c)) :
    checkPlace c = none ↔ a = ⟨t, .lvalue⟩ ∧ a.ty.mod.isConst = false := by
  have hs := find_source h
  have hk := find_lvalue_keeps_iff h
  unfold checkPlace appliedVT
  rw [hs]
  by_cases hkeep : applyKeepsExpr c = true
  · have hty := hk.mp hkeep
    simp only [hkeep, if_true]
    cases a with
    | mk ty vt =>
      simp only at hty
      subst hty
      cases vt <;> cases hc : ty.mod.isConst <;> simp
  · have hty : ¬ a.ty = t := fun e => hkeep (hk.mpr e)
    simp only [hkeep]
    simp only [Bool.false_eq_true, if_false, ne_eq, reduceCtorEq, not_false_eq_true, if_true, false_iff, not_and]
    intro e
    exact absurd (by rw [e]) hty

/-- **An out or inout argument can not be the result of a conversion.**  Whatever the selected signature and the
    arguments: the casts that `find_overload_casts` found pass `check_output_arguments` iff every argument given for an
    `out` / `inout` parameter is a non-const lvalue whose type *is* the parameter's type (no scalar ↔ 1-vector
    reshaping, no added qualifier). -/
theorem checkOutputs_none_iff : ∀ (ps : List Param) (as : List ETy) (cs : List Conversion),
    zipFind ps as = .ok (some cs) → (checkOutputs ps cs = none ↔ OutputsExact ps as)
  | [], _, cs, h => by
    simp only [zipFind, Except.ok.injEq, Option.some.injEq] at h
    subst h
    simp [checkOutputs, OutputsExact]
  | _ :: _, [], cs, h => by
    simp only [zipFind, Except.ok.injEq, Option.some.injEq] at h
    subst h
    simp [checkOutputs, OutputsExact]
  | p :: ps, a :: as, cs, h => by
    obtain ⟨c, rest, hc, hrest, rfl⟩ := zipFind_cons_some.mp h
    have ih := checkOutputs_none_iff ps as rest hrest
    simp only [checkOutputs, OutputsExact]
    by_cases hio : p.io = .out ∨ p.io = .inOut
    · rw [ety_of_output hio] at hc
      have hp := checkPlace_none_iff hc
      simp only [hio, if_true, true_imp_iff]
      cases hcp : checkPlace c with
      | some e =>
        simp only [reduceCtorEq, false_iff, not_and]
        intro hx
        rw [hp.mpr hx] at hcp
        exact absurd hcp (by simp)
      | none =>
        simp only [ih]
        exact ⟨fun h' => ⟨hp.mp hcp, h'⟩, fun h' => h'.2⟩
    · simp only [hio, if_false, false_imp_iff, true_and]
      exact ih

theorem find?_id_perm {cands cands' : List TCand} (h : List.Perm cands cands') (hid : (cands.map (·.id)).Nodup) (i : Nat) :
    cands.find? (·.id == i) = cands'.find? (·.id == i) := by
  induction h with
  | nil => rfl
  | cons x _ ih =>
    simp only [List.map_cons, List.nodup_cons] at hid
    simp only [List.find?_cons]
    rw [ih hid.2]
  | swap x y l =>
    simp only [List.map_cons, List.nodup_cons, List.mem_cons, not_or] at hid
    simp only [List.find?_cons]
    by_cases hx : x.id = i <;> by_cases hy : y.id = i
    · exact absurd (hy.trans hx.symm) hid.1.1
    · have hxb : (x.id == i) = true := by simpa using hx
      have hyb : (y.id == i) = false := by simpa using hy
      simp only [hxb, hyb]
    · have hxb : (x.id == i) = false := by simpa using hx
      have hyb : (y.id == i) = true := by simpa using hy
      simp only [hxb, hyb]
    · have hxb : (x.id == i) = false := by simpa using hx
      have hyb : (y.id == i) = false := by simpa using hy
      simp only [hxb, hyb]
  | trans h1 _ ih1 ih2 =>
    rw [ih1 hid, ih2 ((h1.map (·.id)).nodup_iff.mp hid)]

theorem selectedCasts_perm {cands cands' : List TCand} (h : List.Perm cands cands') (hid : (cands.map (·.id)).Nodup)
    (explicit : List TArg) (args : List ETy) (i : Nat) :
    selectedCasts cands explicit args i = selectedCasts cands' explicit args i := by
  unfold selectedCasts
  rw [find?_id_perm h hid i]

theorem finishCall_perm {cands cands' : List TCand} (h : List.Perm cands cands') (hid : (cands.map (·.id)).Nodup)
    (explicit : List TArg) (args : List ETy) {o o' : Outcome} (ho : o.normalize = o'.normalize) :
    (finishCall cands explicit args o).normalize = (finishCall cands' explicit args o').normalize := by
  cases o <;> cases o' <;> simp only [Outcome.normalize, Outcome.selected.injEq, Outcome.ambiguous.injEq, reduceCtorEq] at ho
  · subst ho
    simp only [finishCall, selectedCasts_perm h hid explicit args]
  · simp only [finishCall, CallOutcome.normalize, ho]
  · rfl
  · rfl

theorem resolveTLazy_eq (cands : List TCand) (explicit : List TArg) (args : List ETy)
    (hid : (cands.map (·.id)).Nodup) : resolveTLazy cands explicit args = resolveT cands explicit args := by
  apply resolveGLazy_eq
  · intro g hg
    obtain ⟨c, _, rfl⟩ := List.mem_map.mp hg
    exact tcand_wf explicit c
  · simpa [List.map_map, Function.comp_def, TCand.toG] using hid

theorem callT_eq_finish_resolveT (cands : List TCand) (explicit : List TArg) (args : List ETy)
    (hid : (cands.map (·.id)).Nodup) :
    callT cands explicit args = finishCall cands explicit args (resolveT cands explicit args) := by
  unfold callT
  rw [resolveTLazy_eq cands explicit args hid]

end RsslVerif.Lemmas.OverloadCall
