import RsslVerif.Model.FixpointSlots
import RsslVerif.Lemmas.MetaText
import RsslVerif.Lemmas.Slots
/-!
Lemmas for C04 `slots_stable_reread`: one step of the allocator on the re-read declaration.
-/
namespace RsslVerif.Lemmas.FixpointSlots
open RsslVerif.Gen.SlotTables RsslVerif.Gen.MetaTables RsslVerif.Model.Slots RsslVerif.Model.Meta RsslVerif.Spec.Meta
open RsslVerif.Model.FixpointSlots RsslVerif.Lemmas.Meta

/-- DirectX flavour of `AssignBindingsParams`: register types required, no buffer addresses -/
def DxParams (p : Params) : Prop := p.requireSlotType = true ∧ p.supportBufferAddress = false

/-- the printed `register(..)` annotation, read back character by character, names the group of the binding -/
theorem rereadSet_reg (r : RegT) (i s : Nat) : (rereadSet (Annot.reg r i s).print).getD 0 = s := by
  have h := readAnnot_print (.reg r i s) (by intro _ _ h; cases h)
  simp only [rereadSet, h]
  by_cases hs : s = 0 <;> simp [hs]

/-- the allocator reads the explicit group only through `set.getD default` -/
theorem step_withSet (p : Params) (dflt dflt' : Nat) (st : State) (d : Decl) (s s' : Option Nat)
    (h : s.getD dflt = s'.getD dflt') : step p dflt st (withSet d s) = step p dflt' st (withSet d s') := by
  cases d <;> simp [withSet, step, h]

theorem withSet_self (d : Decl) : ∃ s, withSet d s = d := by
  cases d with
  | other => exact ⟨none, rfl⟩
  | cbuffer s => exact ⟨s, rfl⟩
  | global s ss k l => exact ⟨s, rfl⟩

theorem place_withSet (p : Params) (d : Decl) (s : Option Nat) : Slots.place p (withSet d s) = Slots.place p d := by
  cases d <;> rfl

/-- **one step**: on the re-read declaration, with default group 0, the allocator does what it did on the original: the
    placement does not look at the group, and the group read back from the printed annotation is the one that was used -/
theorem step_second {p : Params} (hp : DxParams p) (dflt : Nat) (st st' : State) (d : Decl) (ob : Option Binding)
    (h : step p dflt st d = .ok (st', ob)) : step p 0 st (secondDecl d ob) = .ok (st', ob) := by
  simp only [Slots.step_eq, Except.ok.injEq] at h ⊢
  cases hpl : Slots.place p d with
  | none =>
    rw [hpl] at h; cases h
    simp [secondDecl, regAnnot, Slots.placed, place_withSet, hpl]
  | inline n => exact absurd (Slots.place_inline hpl).1 (by simp [hp.2])
  | index n r =>
    rw [hpl] at h; cases h
    have hg := rereadSet_reg r (st.used.get (Spec.Slots.group dflt d)) (Spec.Slots.group dflt d)
    cases d with
    | other => cases hpl
    | cbuffer s | global s ss k l =>
      simp only [hp.1, if_true, secondDecl, regAnnot, place_withSet, hpl]
      simp only [Slots.placed, withSet, Spec.Slots.group, hp.1, if_true] at hg ⊢
      rw [hg]

theorem run_second {p : Params} (hp : DxParams p) (dflt : Nat) : ∀ (ds : List Decl) (st st' : State)
    (bs : List (Option Binding)), run p dflt st ds = .ok (st', bs) → run p 0 st (secondDecls ds bs) = .ok (st', bs)
  | [], st, st', bs, h => by
    simp [run] at h; obtain ⟨rfl, rfl⟩ := h; simp [secondDecls, run]
  | d :: ds, st, st', bs, h => by
    obtain ⟨st1, ob, bs', hstep, hrun, rfl⟩ := Slots.run_cons_ok.mp h
    exact Slots.run_cons_ok.mpr
      ⟨st1, ob, bs', step_second hp dflt st st1 d ob hstep, run_second hp dflt ds st1 st' bs' hrun, rfl⟩

end RsslVerif.Lemmas.FixpointSlots
