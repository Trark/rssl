import RsslVerif.Lemmas.LexStableTok
import RsslVerif.Lemmas.Trivia
import RsslVerif.Model.TriviaLexer
/-!
# The three facts about the concrete lexer that the trivia theorem needs

`rsslLexer` is `Model.Lexer.tokenIntermediate _ false` behind the `Model.Trivia.Lexer` interface.  For a trivia text
`w` (white space, line ends, splices, complete comments):

* (T) `LexesAs rsslLexer w ws` — it lexes into whitespace tokens whatever follows;
* (A′) a token after which insertion is allowed is unchanged when `w` follows it directly;
* (D′) a token is unchanged when `w` is inserted at or beyond the end of the next token, provided that next
  token is unchanged.

(A′) and (D′) are instances of `tokenIntermediate_stable`.  `good` is the side condition of (A′) / (D′), `adjacent` is (A′)
for `rsslLexer`, `distant` is (D′); `Thm/C14` opens this namespace and uses them under these names.
-/
namespace RsslVerif.Lemmas.TriviaLexer
open RsslVerif.Gen.LexTables RsslVerif.Model.Lexer RsslVerif.Lemmas.LexStable
open RsslVerif.Model.Trivia RsslVerif.Model.TriviaLexer RsslVerif.Lemmas.Trivia
open RsslVerif.Model.SourceMap (insertAt)

theorem ti_space (y : Bytes) : tokenIntermediate (32 :: y) false = .ok (y, .simple .Whitespace) := by
  rw [tokenIntermediate_symbol _ _ _ (by decide) (by decide) (by decide),
    show tokenChoice.filter (fun s => (subFirst s).contains (32 : UInt8).toNat) = [.whitespaceSimple] by decide]
  rfl

theorem ti_tab (y : Bytes) : tokenIntermediate (9 :: y) false = .ok (y, .simple .Whitespace) := by
  rw [tokenIntermediate_symbol _ _ _ (by decide) (by decide) (by decide),
    show tokenChoice.filter (fun s => (subFirst s).contains (9 : UInt8).toNat) = [.whitespaceSimple] by decide]
  rfl

theorem ti_lf (y : Bytes) : tokenIntermediate (10 :: y) false = .ok (y, .simple .Endline) := by
  rw [tokenIntermediate_symbol _ _ _ (by decide) (by decide) (by decide),
    show tokenChoice.filter (fun s => (subFirst s).contains (10 : UInt8).toNat) = [.whitespaceEndline] by decide]
  rfl

theorem ti_crlf (y : Bytes) : tokenIntermediate (13 :: 10 :: y) false = .ok (y, .simple .Endline) := by
  rw [tokenIntermediate_symbol _ _ _ (by decide) (by decide) (by decide),
    show tokenChoice.filter (fun s => (subFirst s).contains (13 : UInt8).toNat) = [.whitespaceEndline] by decide]
  rfl

theorem ti_splice (y : Bytes) : tokenIntermediate (92 :: 10 :: y) false = .ok (y, .simple .PhysicalEndline) := by
  rw [tokenIntermediate_symbol _ _ _ (by decide) (by decide) (by decide),
    show tokenChoice.filter (fun s => (subFirst s).contains (92 : UInt8).toNat) = [.whitespaceEndline] by decide]
  rfl

theorem ti_spliceCr (y : Bytes) : tokenIntermediate (92 :: 13 :: 10 :: y) false = .ok (y, .simple .PhysicalEndline) := by
  rw [tokenIntermediate_symbol _ _ _ (by decide) (by decide) (by decide),
    show tokenChoice.filter (fun s => (subFirst s).contains (92 : UInt8).toNat) = [.whitespaceEndline] by decide]
  rfl

/-- the three entries of the `choose` list that begin with `/` -/
theorem slash_entries : tokenChoice.filter (fun s => (subFirst s).contains (47 : UInt8).toNat) =
    [.lineComment, .blockComment, .opOrEq 47 .ForwardSlash (some .ForwardSlashEquals) none] := by decide

theorem ti_block (r y : Bytes) (h : blockSearch r = some y) :
    tokenIntermediate (47 :: 42 :: r) false = .ok (y, .simple .Comment) := by
  rw [tokenIntermediate_symbol _ _ _ (by decide) (by decide) (by decide), slash_entries]
  simp [choose, runSub, lineComment, blockComment, stripPrefix?, otherTokenChars, ErrAt.len, h]

theorem ti_line (r : Bytes) :
    tokenIntermediate (47 :: 47 :: r) false = .ok (lineCommentEnd r, .simple .Comment) := by
  rw [tokenIntermediate_symbol _ _ _ (by decide) (by decide) (by decide), slash_entries]
  rfl

theorem ti_langle (y : Bytes) :
    tokenIntermediate (60 :: y) false = .ok (y, .leftAngle (followedBy (tokenIntermediate y false))) := by
  rw [tokenIntermediate_symbol _ _ _ (by decide) (by decide) (by decide),
    show tokenChoice.filter (fun s => (subFirst s).contains (60 : UInt8).toNat) = [.leftAngle] by decide]
  rfl

theorem ti_rangle (y : Bytes) :
    tokenIntermediate (62 :: y) false = .ok (y, .rightAngle (followedBy (tokenIntermediate y false))) := by
  rw [tokenIntermediate_symbol _ _ _ (by decide) (by decide) (by decide),
    show tokenChoice.filter (fun s => (subFirst s).contains (62 : UInt8).toNat) = [.rightAngle] by decide]
  rfl

theorem tokAt_of_ok {x rest : Bytes} {t : Token} (h : tokenIntermediate x false = .ok (rest, t)) :
    tokAt x = some ((t, x.take (x.length - rest.length)), x.length - rest.length) := by
  simp [tokAt, h]

theorem tokAt_split {x : Bytes} {t : LTok} {n : Nat} (h : tokAt x = some (t, n)) :
    ∃ p rest, x = p ++ rest ∧ p.length = n ∧ t.2 = p ∧ tokenIntermediate x false = .ok (rest, t.1) := by
  revert h
  fun_cases tokAt x <;> intro h <;> cases h
  rename_i rest tk hx
  have hgood := tokenIntermediate_good x false
  rw [hx] at hgood
  obtain ⟨p, hp⟩ := hgood
  exact ⟨p, rest, hp.symm, by rw [← hp]; simp, by rw [← hp]; simp, hx⟩

theorem tokAt_of_split {p rest : Bytes} {tk : Token} (h : tokenIntermediate (p ++ rest) false = .ok (rest, tk)) :
    tokAt (p ++ rest) = some ((tk, p), p.length) := by
  rw [tokAt_of_ok h]
  simp

/-- the side condition on the text at the start of a token: the float lexer did not give up on an `x` suffix -/
def good (x : Bytes) : Prop := ¬ FloatGaveUpOnX x

/-- the tokens after which `w` may be inserted: the spelling does not begin with `<`, `>` or `//`, and a lone `/`
is not followed by a `w` that starts with `/` -/
def allowedBefore (w : Bytes) (t : LTok) : Prop :=
  (∀ r, t.2 ≠ 60 :: r) ∧ (∀ r, t.2 ≠ 62 :: r) ∧ (∀ r, t.2 ≠ 47 :: 47 :: r) ∧ (t.2 = [47] → ∀ r, w ≠ 47 :: r)

theorem headStop_append {w y : Bytes} (hw : HeadStop w) (hne : w ≠ []) : HeadStop (w ++ y) := by
  cases w with
  | nil => exact absurd rfl hne
  | cons b r => exact hw

theorem adjacent (w : Bytes) (hw : HeadStop w) (t : LTok) (ha : allowedBefore w t) :
    AdjacentStableIf rsslLexer w good t := by
  intro x n hg ht hn hle
  show tokAt _ = _
  obtain ⟨p, rest, hx, hlen, hlex, hti⟩ := tokAt_split ht
  subst hx
  have htake : (p ++ rest).take n = p := by rw [← hlen]; simp
  have hdrop : (p ++ rest).drop n = rest := by rw [← hlen]; simp
  rw [htake, hdrop]
  by_cases hwn : w = []
  · subst hwn; simp only [List.append_nil]; exact ht
  · cases p with
    | nil => simp at hlen; omega
    | cons b c =>
      obtain ⟨ha60, ha62, hacc, haslash⟩ := ha
      rw [hlex] at ha60 ha62 hacc haslash
      have hstable := tokenIntermediate_stable b c [] rest (w ++ rest) t.1 (by simpa using hti)
        (headStop_append hw hwn) (by simpa [good] using hg)
        { slash := by
            intro hb hc _ r hr
            subst hc
            have hb' : b = 47 := UInt8.toNat_inj.1 (by simpa using hb)
            subst hb'
            cases w with
            | nil => exact hwn rfl
            | cons wb wr =>
              simp only [List.cons_append, List.cons.injEq] at hr
              exact haslash rfl wr (by rw [hr.1])
          lineComment := by
            intro c0 c1 hc hb hc0
            exfalso
            subst hc
            have hb' : b = 47 := UInt8.toNat_inj.1 (by simpa using hb)
            have hc' : c0 = 47 := UInt8.toNat_inj.1 (by simpa using hc0)
            subst hb' hc'
            exact hacc c1 rfl }
        (by
          intro hb
          exfalso
          rcases hb with hb | hb
          · have hb' : b = 60 := UInt8.toNat_inj.1 (by simpa using hb)
            subst hb'; exact ha60 c rfl
          · have hb' : b = 62 := UInt8.toNat_inj.1 (by simpa using hb)
            subst hb'; exact ha62 c rfl)
      have := tokAt_of_split (p := b :: c) (rest := w ++ rest) (tk := t.1) (by simpa using hstable)
      rw [List.append_assoc]
      rw [this, ← hlen, ← hlex]

/-- the text after a line comment begins with the line ending that stopped it -/
theorem lineCommentEnd_head (r : Bytes) :
    lineCommentEnd r = [] ∨ (∃ y, lineCommentEnd r = 10 :: y) ∨ (∃ y, lineCommentEnd r = 13 :: 10 :: y) := by
  fun_induction lineCommentEnd r <;> simp_all
  · rename_i h10
    left; exact UInt8.toNat_inj.1 (by simpa using h10)
  · rename_i h13 _ _ hd
    right; exact ⟨UInt8.toNat_inj.1 (by simpa using h13), UInt8.toNat_inj.1 (by simpa using hd)⟩

theorem distant (w : Bytes) (hw : HeadStop w) : DistantStableIf rsslLexer w good := by
  intro x t n t2 n2 j hg ht hn hle ht2 hn2 hj hjx hnext
  show tokAt _ = _
  change tokAt _ = _ at ht ht2 hnext
  obtain ⟨p, rest, hx, hlen, hlex, hti⟩ := tokAt_split ht
  subst hx
  have hdrop : (p ++ rest).drop n = rest := by rw [← hlen]; simp
  rw [hdrop] at ht2 hnext
  have hjr : j - n ≤ rest.length := by simp [List.length_append] at hjx; omega
  have hq : rest = rest.take (j - n) ++ rest.drop (j - n) := (List.take_append_drop _ _).symm
  have hqlen : (rest.take (j - n)).length = j - n := by simp [List.length_take]; omega
  have hins : insertAt (p ++ rest) j w = p ++ (rest.take (j - n) ++ (w ++ rest.drop (j - n))) := by
    rw [insertAt_split _ w n j (by omega), hdrop, ← hlen, List.take_left, insertAt, List.append_assoc]
  rw [hins]
  by_cases hwn : w = []
  · subst hwn
    simp only [List.nil_append]
    rw [← hq]; exact ht
  · cases p with
    | nil => simp at hlen; omega
    | cons b c =>
      generalize hqd : rest.take (j - n) = q at *
      generalize hsd : rest.drop (j - n) = s at *
      have hrest : rest = q ++ s := hq
      subst hrest
      -- the insertion point lies at or beyond the end of the next token
      have hq2 : n2 ≤ q.length := by omega
      -- the next token, before and after the insertion
      have hins2 : insertAt (q ++ s) (j - n) w = q ++ (w ++ s) := by
        unfold insertAt
        rw [hqd, hsd]; simp [List.append_assoc]
      rw [hins2] at hnext
      obtain ⟨p2, r2, hx2, hlen2, _, hti2⟩ := tokAt_split ht2
      obtain ⟨p2', r2', hx2', hlen2', _, hti2'⟩ := tokAt_split hnext
      have hstable := tokenIntermediate_stable b c q s (w ++ s) t.1 (by simpa using hti)
        (headStop_append hw hwn) (by simpa [good] using hg)
        { slash := by
            intro _ _ hq0
            exfalso
            subst hq0
            exact Nat.lt_irrefl 0 (Nat.lt_of_lt_of_le hn2 hq2)
          lineComment := by
            intro c0 c1 hc hb hc0
            subst hc
            have hb' : b = 47 := UInt8.toNat_inj.1 (by simpa using hb)
            have hc' : c0 = 47 := UInt8.toNat_inj.1 (by simpa using hc0)
            subst hb' hc'
            simp only [List.cons_append] at hti
            rw [ti_line] at hti
            simp only [Except.ok.injEq, Prod.mk.injEq] at hti
            rcases lineCommentEnd_head (c1 ++ (q ++ s)) with h0 | ⟨y, h1⟩ | ⟨y, h2⟩
            · exfalso
              rw [hti.1] at h0
              rw [h0] at ht2
              simp [tokAt, tokenIntermediate, endOfStream] at ht2
            · left
              rw [hti.1] at h1
              cases q with
              | nil => exact absurd (Nat.lt_of_lt_of_le hn2 hq2) (Nat.lt_irrefl 0)
              | cons q0 q1 =>
                simp only [List.cons_append, List.cons.injEq] at h1
                exact ⟨q1, by rw [h1.1]⟩
            · right
              rw [hti.1] at h2
              -- the next token is the two-byte line ending
              have hn2' : n2 = 2 := by
                rw [h2] at ht2
                rw [tokAt_of_ok (ti_crlf y)] at ht2
                simp at ht2; omega
              rw [hn2'] at hq2
              cases q with
              | nil => exact absurd hq2 (by decide)
              | cons q0 q1 =>
                cases q1 with
                | nil => exact absurd hq2 (Nat.lt_irrefl 1)
                | cons q1a q1b =>
                  simp only [List.cons_append, List.cons.injEq] at h2
                  exact ⟨q1b, by rw [h2.1, h2.2.1]⟩ }
        (by
          intro hb
          -- `<` and `>` are one byte long
          have hc : c = [] := by
            rcases hb with hb | hb
            · have hb' : b = 60 := UInt8.toNat_inj.1 (by simpa using hb)
              subst hb'
              simp only [List.cons_append] at hti
              rw [ti_langle] at hti
              simp only [Except.ok.injEq, Prod.mk.injEq] at hti
              exact nil_of_same_len hti.1
            · have hb' : b = 62 := UInt8.toNat_inj.1 (by simpa using hb)
              subst hb'
              simp only [List.cons_append] at hti
              rw [ti_rangle] at hti
              simp only [Except.ok.injEq, Prod.mk.injEq] at hti
              exact nil_of_same_len hti.1
          subst hc
          simp only [List.nil_append]
          -- both answers carry the same token
          rw [hti2, hti2']
          simp [followedBy])
      have := tokAt_of_split (p := b :: c) (rest := q ++ (w ++ s)) (tk := t.1) (by simpa using hstable)
      rw [this, ← hlen, ← hlex]

/-- Complete trivia texts together with the tokens (token, spelling, length) they lex into: spaces, tabs, line
ends, line splices, block comments that end at their first `*/`, line comments together with the line end that
stops them. -/
inductive TriviaText : Bytes → List (LTok × Nat) → Prop
  | nil : TriviaText [] []
  | space {w ws} : TriviaText w ws → TriviaText (32 :: w) (((.simple .Whitespace, [32]), 1) :: ws)
  | tab {w ws} : TriviaText w ws → TriviaText (9 :: w) (((.simple .Whitespace, [9]), 1) :: ws)
  | lf {w ws} : TriviaText w ws → TriviaText (10 :: w) (((.simple .Endline, [10]), 1) :: ws)
  | crlf {w ws} : TriviaText w ws → TriviaText (13 :: 10 :: w) (((.simple .Endline, [13, 10]), 2) :: ws)
  | splice {w ws} : TriviaText w ws → TriviaText (92 :: 10 :: w) (((.simple .PhysicalEndline, [92, 10]), 2) :: ws)
  | spliceCr {w ws} : TriviaText w ws →
      TriviaText (92 :: 13 :: 10 :: w) (((.simple .PhysicalEndline, [92, 13, 10]), 3) :: ws)
  | block {w ws} (body : Bytes) (h : blockSearch (body ++ [42, 47]) = some []) : TriviaText w ws →
      TriviaText (47 :: 42 :: (body ++ (42 :: 47 :: w)))
        (((.simple .Comment, 47 :: 42 :: (body ++ [42, 47])), body.length + 4) :: ws)
  | lineLf {w ws} (body : Bytes) (h : lineCommentEnd (body ++ [10]) = [10]) : TriviaText w ws →
      TriviaText (47 :: 47 :: (body ++ (10 :: w)))
        (((.simple .Comment, 47 :: 47 :: body), body.length + 2) :: ((.simple .Endline, [10]), 1) :: ws)
  | lineCrlf {w ws} (body : Bytes) (h : lineCommentEnd (body ++ [13, 10]) = [13, 10]) : TriviaText w ws →
      TriviaText (47 :: 47 :: (body ++ (13 :: 10 :: w)))
        (((.simple .Comment, 47 :: 47 :: body), body.length + 2) :: ((.simple .Endline, [13, 10]), 2) :: ws)

theorem triviaText_headStop {w : Bytes} {ws : List (LTok × Nat)} (h : TriviaText w ws) : HeadStop w := by
  cases h <;> simp [HeadStop, isStop]

theorem triviaText_ws {w : Bytes} {ws : List (LTok × Nat)} (h : TriviaText w ws) :
    ∀ t ∈ ws, rsslLexer.isWs t.1 = true := by
  induction h with
  | nil => exact fun _ h => nomatch h
  | lineLf _ _ _ ih | lineCrlf _ _ _ ih => exact List.forall_mem_cons.2 ⟨rfl, List.forall_mem_cons.2 ⟨rfl, ih⟩⟩
  | _ => rename_i ih; exact List.forall_mem_cons.2 ⟨rfl, ih⟩

theorem lexBytes_front (p y : Bytes) (tk : Token) (off : Nat) (hp : p ≠ [])
    (h : tokenIntermediate (p ++ y) false = .ok (y, tk)) :
    lexBytes rsslLexer (p ++ y) off =
      consOk ⟨(tk, p), off, off + p.length⟩ (lexBytes rsslLexer y (off + p.length)) := by
  have ht : rsslLexer.tok (p ++ y) = some ((tk, p), p.length) := tokAt_of_split h
  have hpos : 0 < p.length := List.length_pos_iff.2 hp
  have := lexBytes_step rsslLexer (p ++ y) off (tk, p) p.length ht hpos (by simp)
  rw [this]
  simp

/-- one more token in front of a text that lexes as `ws` whatever follows -/
theorem lexesAs_cons (p : Bytes) (tk : Token) (w : Bytes) (ws : List (LTok × Nat)) (hp : p ≠ [])
    (hti : ∀ y, tokenIntermediate (p ++ (w ++ y)) false = .ok (w ++ y, tk)) (ih : LexesAs rsslLexer w ws) :
    LexesAs rsslLexer (p ++ w) (((tk, p), p.length) :: ws) := by
  intro y off
  rw [List.append_assoc, lexBytes_front p (w ++ y) tk off hp (hti y), ih y (off + p.length), consOk_mapOk]
  simp only [spansFrom, List.cons_append, List.length_append]
  have e : off + p.length + w.length = off + (p.length + w.length) := by omega
  rw [e]

/-- a line comment and the line ending `eol` that stops it, in front of a text that lexes as `ws` -/
theorem lexesAs_lineComment (body eol w : Bytes) (ws : List (LTok × Nat)) (heol : eol ≠ [])
    (hb : lineCommentEnd (body ++ eol) = eol) (hti : ∀ y, tokenIntermediate (eol ++ y) false = .ok (y, .simple .Endline))
    (ih : LexesAs rsslLexer w ws) :
    LexesAs rsslLexer (47 :: 47 :: (body ++ (eol ++ w)))
      (((.simple .Comment, 47 :: 47 :: body), body.length + 2) :: ((.simple .Endline, eol), eol.length) :: ws) := by
  have h10 := lexesAs_cons eol (.simple .Endline) w ws heol (fun y => hti _) ih
  have := lexesAs_cons (47 :: 47 :: body) (.simple .Comment) (eol ++ w) _ (by simp)
    (fun y => by
      have h1 := lce_append (body ++ eol) (w ++ y) (by rw [hb]; exact heol)
      rw [hb] at h1
      have := ti_line (body ++ eol ++ (w ++ y))
      rw [h1] at this
      simpa [List.append_assoc] using this) h10
  simpa [List.append_assoc] using this

theorem triviaText_lexesAs {w : Bytes} {ws : List (LTok × Nat)} (h : TriviaText w ws) : LexesAs rsslLexer w ws := by
  induction h with
  | nil =>
    intro y off
    simp only [List.nil_append, List.length_nil, Nat.add_zero, spansFrom]
    cases lexBytes rsslLexer y off <;> rfl
  | @space w ws _ ih => exact lexesAs_cons [32] _ w ws (by simp) (fun y => ti_space _) ih
  | @tab w ws _ ih => exact lexesAs_cons [9] _ w ws (by simp) (fun y => ti_tab _) ih
  | @lf w ws _ ih => exact lexesAs_cons [10] _ w ws (by simp) (fun y => ti_lf _) ih
  | @crlf w ws _ ih => exact lexesAs_cons [13, 10] _ w ws (by simp) (fun y => ti_crlf _) ih
  | @splice w ws _ ih => exact lexesAs_cons [92, 10] _ w ws (by simp) (fun y => ti_splice _) ih
  | @spliceCr w ws _ ih => exact lexesAs_cons [92, 13, 10] _ w ws (by simp) (fun y => ti_spliceCr _) ih
  | @block w ws body hb _ ih =>
    have := lexesAs_cons (47 :: 42 :: (body ++ [42, 47])) (.simple .Comment) w ws (by simp)
      (fun y => by
        have := ti_block _ _ (blockSearch_swap (body ++ [42, 47]) [] (w ++ y) (by rwa [List.append_nil]))
        simpa [List.append_assoc] using this) ih
    have e : (47 :: 42 :: (body ++ [42, 47]) : Bytes).length = body.length + 4 := by simp
    rw [e] at this
    simpa [List.append_assoc] using this
  | @lineLf w ws body hb _ ih => exact lexesAs_lineComment body [10] w ws (by simp) hb (fun y => ti_lf _) ih
  | @lineCrlf w ws body hb _ ih => exact lexesAs_lineComment body [13, 10] w ws (by simp) hb (fun y => ti_crlf _) ih

end RsslVerif.Lemmas.TriviaLexer
