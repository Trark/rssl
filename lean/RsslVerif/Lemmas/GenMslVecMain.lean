import RsslVerif.Lemmas.GenMslVecSim
import RsslVerif.Lemmas.GenMslSim
/-! Vector layer of C02: the induction over the generator (`sim_genMV`; `sim_mv`, `sim_mslots` are its parts), re-using the
scalar `sim_exprM` at the scalar leaves. -/
namespace RsslVerif.Lemmas.GenMslVec
open RsslVerif.Gen.HlslGenTables RsslVerif.Gen.HlslVecTables RsslVerif.Gen.MslGenTables RsslVerif.Gen.MslVecTables
open RsslVerif.Model RsslVerif.Model.IrVec RsslVerif.Model.GenMsl RsslVerif.Model.GenMslVec
open RsslVerif.Spec.Sem RsslVerif.Spec.SemVec RsslVerif.Spec.SemMslVec RsslVerif.Lemmas.GenMsl
open RsslVerif.Model.Ir (Ty Var Const Dir)
open RsslVerif.Model.GenHlsl (GenErr)

variable {W : World} {M : Msl.MWorld} {env : VAst.VEnv} {ρ : VStore} {cx : Ctx} {vvty : Var → VTy} {vis : Var → Bool} {rsv : Nat → List Var}

theorem float_of_scalarIn {k : Ty} (hk : VOk.basicK k = true)
    (h : scalarIn ["Float16", "Float32", "Float64", "FloatLiteral"] k = true) : k = .float := by
  rcases basicK_cases hk with rfl | rfl | rfl | rfl <;> simp [scalarIn, GenHlsl.scalarKey] at h ⊢

/-- `%=` is an assignment: typed at statement level only (`sim_massign`) -/
theorem floatAssign_untyped {sig : Sig} {vty : Var → Ty} {o outer inner : IntrinsicOp} {s : List String} {err : String} {b : BinOp}
    {es : VExprs} {t : VTy} (hf : mslOpForm o = .floatAssign s err outer inner b)
    (ht : VIr.typeOf sig vty vvty (.op o es) = some t) : False := by
  obtain ⟨rfl, -⟩ := mslOpForm_floatAssign hf
  simpa [irOpSem] using op_args ht

/-- the operand of a typed swizzle that `okMV` admits, at the type `get_type` reports for it -/
theorem swz_operand (hw : Worlds cx rsv W M) {x : VExpr} {sl : List SwizzleSlot} {t tx : VTy}
    (ht : VIr.typeOf W.sig cx.vty vvty (.swz x sl) = some t) (hok : VOk.okMV (side cx W vis rsv) vvty (.swz x sl) = true)
    (hgt : getTy cx vvty x = some tx) :
    VIr.typeOf W.sig cx.vty vvty x = some tx ∧ VOk.okMV (side cx W vis rsv) vvty x = true ∧ VOk.tyOKM tx = true ∧
      sl.length ≤ 4 ∧ t = Spec.SemVec.swzTy tx.scalar sl.length ∧ sl ≠ [] ∧
      sl.all (fun s => decide (slotIdx s < tx.count)) = true := by
  simp only [VOk.okMV, Bool.and_eq_true, decide_eq_true_eq] at hok
  obtain ⟨tx', htx, rfl, hne, hall, _⟩ := VIr.typeOf_swz ht
  obtain rfl : tx' = tx := Option.some.inj ((getTy_ok hw.ret x tx' htx).symm.trans hgt)
  exact ⟨htx, hok.1.1, by simpa [side, htx, VOk.optTyOKM] using hok.1.2, hok.2, rfl, hne, hall⟩

/-- element by element -/
inductive ElemsV (P : VExpr → VAExpr → Prop) : VExprs → VAExprs → Prop
  | nil : ElemsV P .nil .nil
  | cons {e r a ar} : P e a → ElemsV P r ar → ElemsV P (.cons e r) (.cons a ar)

section induction
variable (W M env ρ cx vvty vis rsv)

/-- `a` simulates `e`, whatever type the type checker gave it -/
abbrev SimXV (e : VExpr) (a : VAExpr) : Prop :=
  ∀ t, VIr.typeOf W.sig cx.vty vvty e = some t → VOk.okMV (side cx W vis rsv) vvty e = true → VSimM W M env ρ e a t
/-- what the induction proves of an expression and of what `genMV` returns for it -/
abbrev SimEV (e : VExpr) (r : Except GenErr VAExpr) : Prop := ∀ a, r = .ok a → SimXV W M env ρ cx vvty vis rsv e a
/-- … of `genMBinary`: the node `x op y` over these operands, whatever row of the table the syntax operator comes from -/
abbrev SimBinV (b : BinOp) (es : VExprs) (r : Except GenErr VAExpr) : Prop :=
  ∀ o a t, r = .ok a → astBinSem b = irOpSem o → VIr.typeOf W.sig cx.vty vvty (.op o es) = some t →
    VOk.okMV (side cx W vis rsv) vvty (.op o es) = true →
    (irOpSem o = .bin .mod → ∀ x rest tx, es = .cons x rest → VIr.typeOf W.sig cx.vty vvty x = some tx → tx.scalar ≠ .float) →
    VSimM W M env ρ (.op o es) a t
/-- … of `genMArgs`: element by element (the operands of `metal::fmod`) -/
abbrev SimAsV (es : VExprs) (r : Except GenErr VAExprs) : Prop :=
  ∀ as, r = .ok as → ElemsV (SimXV W M env ρ cx vvty vis rsv) es as
/-- … of `genMSlots` -/
abbrev SimSlV (slots : VSlots) (r : Except GenErr VAExprs) : Prop :=
  ∀ as, r = .ok as → ∀ k total, VIr.slotsOK W.sig cx.vty vvty k slots = some total →
    VOk.okMVSlots (side cx W vis rsv) vvty slots = true → SlotsSim W M env ρ k slots as total
end induction

/-- by the functional induction principle of the generator: its cases are the generator's branches, each with the results of the
calls made on the way; a branch that ends in an error leaves nothing to prove -/
theorem sim_genMV (hag : VAgreeM cx vis env vvty) (hw : Worlds cx rsv W M) (hρ : ∀ y, VOk.shaped (vvty y) (ρ y) = true) :
    (∀ e, SimEV W M env ρ cx vvty vis rsv e (genMV cx vvty e)) ∧ (VExprs → True) ∧
    (∀ es, SimAsV W M env ρ cx vvty vis rsv es (genMArgs cx vvty es)) ∧
    (∀ b es, SimBinV W M env ρ cx vvty vis rsv b es (genMBinary cx vvty b es)) ∧
    ∀ slots, SimSlV W M env ρ cx vvty vis rsv slots (genMSlots cx vvty slots) := by
  apply genMV.mutual_induct_unfolding cx vvty (SimEV W M env ρ cx vvty vis rsv) (fun _ _ => True)
    (SimAsV W M env ρ cx vvty vis rsv) (SimBinV W M env ρ cx vvty vis rsv) (SimSlV W M env ρ cx vvty vis rsv)
  -- a scalar
  case case2 =>
    intro e a' hge a hg t ht hok
    cases hg
    simp only [VOk.okMV, Bool.and_eq_true, Bool.not_eq_true'] at hok
    obtain ⟨t', hte, rfl⟩ := VIr.typeOf_sc ht
    exact sim_msc ((sim_exprM hag.base hw e a' t' hge hte hok.1.1).plain hok.1.2)
  -- a variable in scope
  case case3 | case4 =>
    intro id a hg t ht hok
    cases hg
    simp only [VOk.okMV, Bool.and_eq_true] at hok
    simp [VIr.typeOf] at ht; subst ht
    have hr := hag.vres _ hok.1
    simp only [Ctx.name] at hr
    exact ⟨by simp [VMsl.typeOf, hr, hag.vvty], fun σ => by simp [VMsl.eval, hr, VIr.eval]⟩
  -- a cast to a literal type is dropped: the type checker builds none
  case case7 =>
    intro ty x _ _ _ _ hty _ a _ t ht _
    obtain ⟨_, _, _, h1, h2, _⟩ := VIr.typeOf_cast ht
    rcases hty with rfl | rfl <;> simp [VTy.scalar] at h1 h2
  -- a cast, its type name found
  case case9 =>
    intro ty x tx hgt x' hgx _ n hn ih a hg t ht hok
    cases hg
    simp only [VOk.okMV, Bool.and_eq_true, Bool.or_eq_true] at hok
    obtain ⟨tx', htx, rfl, _⟩ := VIr.typeOf_cast ht
    obtain rfl : tx' = tx := Option.some.inj ((getTy_ok hw.ret x tx' htx).symm.trans hgt)
    rcases hok.2 with hlit | hok2
    · -- a literal operand converted to a concrete type (fixes 40c6233 / c05bffa)
      exact sim_mcast_lit hw.prim hok.1 hlit hgt hgx hn
    · have hcond : VOk.tyOKM tx' = true ∧ VOk.castFits tx' t = true := by simpa [side, htx] using hok2.2
      exact sim_mcast hw.prim hρ hn (ih x' hgx tx' htx hok2.1) htx hcond.1 hok.1 hcond.2
  -- one slot of a scalar: the operand itself
  case case12 =>
    intro x sl x' hgx k _ h1 hgt ih a hg t ht hok
    cases hg
    obtain ⟨htx, hokx, _, _, rfl, _, hall⟩ := swz_operand hw ht hok hgt
    exact sim_mswz_one hρ (ih x' hgx _ htx hokx) htx hall h1
  -- several slots of a scalar: the constructor call
  case case14 =>
    intro x sl x' hgx k _ h1 n hn hgt ih a hg t ht hok
    cases hg
    obtain ⟨htx, hokx, hox, h4, rfl, hne, hall⟩ := swz_operand hw ht hok hgt
    exact sim_mswz_rep hρ (ih x' hgx _ htx hokx) htx hne hall hox h1 h4 hn
  -- slots of a vector: a member
  case case16 =>
    intro x sl x' hgx k n hgt ih a hg t ht hok
    cases hg
    obtain ⟨htx, hokx, _, _, rfl, hne, hall⟩ := swz_operand hw ht hok hgt
    exact sim_mswz_vec (ih x' hgx _ htx hokx) hne hall
  -- a constructor, its type name found and its slots generated
  case case19 =>
    intro ty slots n hn as hgs ih a hg t ht hok
    cases hg
    simp only [VOk.okMV, Bool.and_eq_true] at hok
    obtain ⟨rfl, hso, _⟩ := VIr.typeOf_ctor ht
    exact sim_mctor hn hok.1 (ih as hgs t.scalar t.count hso hok.2)
  -- `c ? f : g`, the three parts generated
  case case23 =>
    intro c f g c' hgc f' hgf g' hgg ihc ihf ihg a hg t ht hok
    cases hg
    simp only [VOk.okMV, Bool.and_eq_true] at hok
    obtain ⟨⟨lc, lf⟩, lg⟩ := hok
    obtain ⟨htc, htf, htg, _⟩ := VIr.typeOf_tern ht
    exact sim_mtern (ihc c' hgc _ htc lc) (ihf f' hgf _ htf lf) (ihg g' hgg _ htg lg)
  -- `Form::Unary` on one operand
  case case28 =>
    intro o u hf x x' hgx ih a hg t ht hok
    cases hg
    simp only [VOk.okMV, VOk.okMVs, Bool.and_eq_true, Bool.and_true] at hok
    obtain ⟨m0, hm0, htx, _⟩ := VIr.typeOf_op1 ht
    have hside := hok.2
    simp only [side] at hside
    rw [htx] at hside
    refine sim_mun hw.prim hρ hf (ih x' hgx t htx hok.1) htx ht ?_
    intro m k hm hl hk
    subst hk
    rw [hm] at hside
    cases m <;> simp at hl <;> simpa using hside
  -- `Form::Binary`: `%` has a row of its own
  case case30 =>
    intro o args b hf ih a hg t ht hok
    exact ih o a t hg (op_binaryM hf) ht hok (fun hm => ((op_binary_not_mod hf).1 hm).elim)
  -- `%` on floating-point components: `metal::fmod`
  case case34 =>
    intro o name s b hf x r tx hgt hin as has ih a hg t ht hok
    obtain ⟨rfl, rfl, rfl, rfl⟩ := mslOpForm_floatCall hf
    simp only [has] at hg; cases hg
    rcases op_args ht with ⟨_, _, _, hs⟩ | ⟨_, y, h, _⟩
    · cases hs
    cases h
    obtain ⟨tx', htx, hty, _⟩ := VIr.typeOf_op2 ht
    obtain rfl : tx' = tx := Option.some.inj ((getTy_ok hw.ret x tx' htx).symm.trans hgt)
    obtain ⟨lx, ly, _⟩ := okMV_op2 (S := side cx W vis rsv) hok htx
    have hox := okMV_tyOK (S := side cx W vis rsv) x tx' htx lx
    obtain _ | ⟨hx, _ | ⟨hy, _ | _⟩⟩ := ih as has
    rw [metalLib_fmod]
    exact sim_mfmod hw.prim rfl (float_of_scalarIn (tyOKM_scalar hox) hin) (hx _ htx lx) htx (hy _ hty ly) ht
  -- `%` on any other components stays `%`
  case case35 =>
    intro o name s b hf x r tx hgt hnin ih a hg t ht hok
    obtain ⟨rfl, rfl, rfl, rfl⟩ := mslOpForm_floatCall hf
    refine ih .Modulus a t hg rfl ht hok (fun _ x' _ tx' he htx hfl => hnin ?_)
    cases he
    obtain rfl : tx' = tx := Option.some.inj ((getTy_ok hw.ret _ tx' htx).symm.trans hgt)
    rw [hfl]; rfl
  case case41 | case43 | case45 | case48 =>
    intro o args _ _ _ _ _ hf
    intros
    intro a _ t ht _
    exact (floatAssign_untyped hf ht).elim
  -- `genMArgs`: no operand; an operand and the rest, both generated
  case case51 =>
    intro as hg
    simp [genMArgs] at hg; subst hg
    exact .nil
  case case54 =>
    intro e r a1 hge ar hgr ih1 ih2 as hg
    simp only [genMArgs, hge, hgr] at hg; cases hg
    exact .cons (ih1 a1 hge) (ih2 ar hgr)
  -- `genMBinary` on two operands, both generated
  case case57 =>
    intro b x y x' hgx y' hgy ihx ihy o a t hg hb ht hok hrem
    simp only [genMBinary, hgx, hgy] at hg; cases hg
    obtain ⟨tx, htx, hty, _⟩ := VIr.typeOf_op2 ht
    obtain ⟨lx, ly, hbs⟩ := okMV_op2 (S := side cx W vis rsv) hok htx
    exact sim_mbin hw.prim hρ hb (ihx x' hgx tx htx lx) htx (ihy y' hgy tx hty ly) hty ht hbs
      (fun hm => hrem hm x _ tx rfl htx)
  -- no slot; a slot and the rest, both generated
  case case59 =>
    intro as hg k total hso _
    cases hg
    simp [VIr.slotsOK] at hso; subst hso
    exact ⟨[], rfl, by simp, rfl, fun σ => by simp [VMsl.evalArgs, VIr.evalSlots, flat, shapedAll]⟩
  case case62 =>
    intro n e r a1 hge ar hgr ihe ihr as hg k total hso hok
    cases hg
    simp only [VOk.okMVSlots, Bool.and_eq_true] at hok
    obtain ⟨te, m, hte, hsr, hc1, hc2, rfl⟩ := VIr.slotsOK_cons hso
    have h1 := ihe a1 hge te hte hok.1
    obtain ⟨tys, hat, hk, hsum, hev⟩ := ihr ar hgr k m hsr hok.2
    have hoe := okMV_tyOK (S := side cx W vis rsv) e te hte hok.1
    refine ⟨te :: tys, by simp [VMsl.argTypes, h1.1, hat], ?_, by simp [hsum, hc2], ?_⟩
    · intro t ht
      rcases List.mem_cons.mp ht with rfl | ht
      · exact ⟨hc1, hoe⟩
      · exact hk t ht
    · intro σ
      simp only [VMsl.evalArgs, h1.2 σ, VIr.evalSlots]
      cases hv : VIr.eval W ρ e σ with
      | none => simp
      | some p =>
        obtain ⟨v, σ1⟩ := p
        have hs := shape_sound hρ e te σ σ1 v hte hv
        have h2 := hev σ1
        simp only []
        cases hr : VMsl.evalArgs M env ρ ar σ1 with
        | none => simp only [hr] at h2; simp [h2]
        | some q =>
          obtain ⟨vs, σ2⟩ := q
          simp only [hr] at h2
          simp [h2.1, flat, shapedAll, hs, h2.2]
  -- the branches that end in an error return nothing (`genMArgs`, `genMBinary` are left folded by the principle)
  case case33 => intros; intro a hg; simp [*] at hg
  case case49 | case50 => intros; trivial
  case case52 | case53 => intros; intro as hg; simp [genMArgs, *] at hg
  case case55 | case56 | case58 => intros; intro o a t hg; simp [genMBinary, *] at hg
  all_goals (intros; intro _ hg; cases hg)

theorem sim_mv (hag : VAgreeM cx vis env vvty) (hw : Worlds cx rsv W M) (hρ : ∀ y, VOk.shaped (vvty y) (ρ y) = true) :
    ∀ (e : VExpr) (a : VAExpr) (t : VTy),
      genMV cx vvty e = .ok a → VIr.typeOf W.sig cx.vty vvty e = some t → VOk.okMV (side cx W vis rsv) vvty e = true →
      VSimM W M env ρ e a t :=
  fun e a t hg => (sim_genMV hag hw hρ).1 e a hg t
theorem sim_mslots (hag : VAgreeM cx vis env vvty) (hw : Worlds cx rsv W M) (hρ : ∀ y, VOk.shaped (vvty y) (ρ y) = true) :
    ∀ (slots : VSlots) (as : VAExprs) (k : Ty) (total : Nat),
      genMSlots cx vvty slots = .ok as → VIr.slotsOK W.sig cx.vty vvty k slots = some total →
      VOk.okMVSlots (side cx W vis rsv) vvty slots = true → SlotsSim W M env ρ k slots as total :=
  fun slots as k total hg => (sim_genMV hag hw hρ).2.2.2.2 slots as hg k total

end RsslVerif.Lemmas.GenMslVec
