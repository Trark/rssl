import RsslVerif.Model.MetaFront
import RsslVerif.Lemmas.Names
/-!
Lemmas about the pipeline front end (`parse_pipeline` / `add_stage`) and about reading names out of the name map.
-/
namespace RsslVerif.Lemmas.MetaFront
open RsslVerif.Gen.CompileTables RsslVerif.Model.Meta RsslVerif.Model.MetaFront
open RsslVerif.Model

/-- `fnIndices` in core's terms: the positions, counted from `off`, of the registered functions called `n` -/
theorem fnIndices_eq (n : String) : ∀ (funcs : List FnSrc) (off : Nat),
    fnIndices funcs n off = ((funcs.zipIdx off).filter fun x => x.1.registered && x.1.name == n).map (·.2)
  | [], _ => rfl
  | f :: r, off => by
    simp only [fnIndices, List.zipIdx_cons, List.filter_cons, fnIndices_eq n r]
    split <;> rfl

theorem mem_fnIndices {funcs : List FnSrc} {n : String} {i : Nat} (h : i ∈ fnIndices funcs n 0) :
    ∃ f, funcs[i]? = some f ∧ f.name = n ∧ f.registered = true := by
  rw [fnIndices_eq] at h
  obtain ⟨⟨f, j⟩, hx, rfl⟩ := List.mem_map.1 h
  obtain ⟨hm, hp⟩ := List.mem_filter.1 hx
  simp only [Bool.and_eq_true, beq_iff_eq] at hp
  exact ⟨f, List.mem_zipIdx_iff_getElem?.1 hm, hp.2, hp.1⟩

/-- `add_stage` succeeds only for a name that exactly one function of the registry carries; that function has a
    body, is no template, and the recorded thread group size is its last `numthreads` attribute -/
theorem addStage_ok {funcs : List FnSrc} {st : Stage} {n : String} {s : StageRec}
    (h : addStage funcs st n = .ok s) :
    s.stage = st ∧ fnIndices funcs n 0 = [s.entry] ∧
    ∃ f, funcs[s.entry]? = some f ∧ f.name = n ∧ f.isTemplate = false ∧ f.hasBody = true ∧ f.registered = true ∧
      s.threadGroupSize = lastNumThreads f.attrs := by
  revert h
  fun_cases addStage funcs st n <;> intro h <;> try cases h
  rename_i i hi f hf ht hb
  obtain ⟨g, hg, hgn, hgr⟩ := mem_fnIndices (hi ▸ List.mem_cons_self ..)
  cases hf.symm.trans hg
  exact ⟨rfl, hi, f, hf, hgn, by simpa using ht, by simpa using hb, hgr, rfl⟩

theorem addStages_ok {funcs : List FnSrc} : ∀ {ps : List (Stage × String)} {ss : List StageRec},
    addStages funcs ps = .ok ss →
    ss.map (·.stage) = ps.map (·.1) ∧
    ∀ s ∈ ss, ∃ q ∈ ps, addStage funcs q.1 q.2 = .ok s := by
  intro ps
  fun_induction addStages funcs ps <;> intro ss h <;> try cases h
  · simp
  · rename_i st n r s hs rest hrest ih
    obtain ⟨h1, h2⟩ := ih hrest
    refine ⟨by simp [h1, (addStage_ok hs).1], ?_⟩
    intro x hx
    rcases List.mem_cons.1 hx with rfl | hx'
    · exact ⟨(st, n), List.mem_cons_self .., hs⟩
    · obtain ⟨q', hq', hq''⟩ := h2 x hx'
      exact ⟨q', List.mem_cons_of_mem _ hq', hq''⟩

/-- what a successfully parsed `Pipeline` block records -/
theorem parsePipeline_ok {funcs : List FnSrc} {earlier : List String} {p : PipeSrc} {d : PipeDef}
    (h : parsePipeline funcs earlier p = .ok d) :
    d.name = p.name ∧ p.name ∉ earlier ∧ d.dflt = p.dflt.getD 0 ∧
    d.stages.map (·.stage) = p.stages.map (·.1) ∧ d.stages ≠ [] ∧
    (∀ s ∈ d.stages, ∃ q ∈ p.stages, addStage funcs q.1 q.2 = .ok s) ∧
    (d.graphics = true ↔ (d.stages.head?.map (·.stage)) ≠ some .Compute) := by
  revert h
  fun_cases parsePipeline funcs earlier p <;> intro h <;> try cases h
  rename_i hname _ s rest hst _ _ _ _
  obtain ⟨hmap, hall⟩ := addStages_ok hst
  exact ⟨rfl, by simpa using hname, rfl, hmap, by simp, hall, by simp +zetaDelta⟩

/-! ## a file in source order: functions (attributes given once) and pipelines -/

/-- `parse_function_attributes` accepts a list of `numthreads` attributes only when it adds at most one to the
    ones already accepted (and then to none), and returns all of them unchanged -/
theorem parseFunctionAttributes_ok : ∀ {attrs acc out : List (Nat × Nat × Nat)},
    parseFunctionAttributes acc attrs = .ok out → out = acc ++ attrs ∧ attrs.length ≤ 1 ∧ (acc = [] ∨ attrs = []) := by
  intro attrs acc
  fun_induction parseFunctionAttributes acc attrs <;> intro out h
  · cases h; simp
  · cases h
  · rename_i acc _ _ hacc ih
    have hacc' : acc = [] := by simpa using hacc
    subst hacc'
    obtain ⟨ho, _, hr⟩ := ih h
    have hr' := hr.resolve_left (by simp)
    subst hr'
    exact ⟨by simpa using ho, Nat.le_refl _, .inl rfl⟩

theorem parseFunctionAttributes_of_length {attrs : List (Nat × Nat × Nat)} (h : attrs.length ≤ 1) :
    parseFunctionAttributes [] attrs = .ok attrs := by
  match attrs, h with
  | [], _ => rfl
  | [a], _ => rfl
  | _ :: _ :: _, h => simp at h

/-- what `regAt` shows of function `i`: name, attributes and template flag of the table; an implementation iff the
    table has one or the function is among the defined ones; registered iff the table says so or it is declared / defined -/
theorem regAt_getElem? {funcs : List FnSrc} {dc df : List Nat} {i : Nat} {g : FnSrc}
    (h : (regAt funcs dc df)[i]? = some g) :
    ∃ f, funcs[i]? = some f ∧ g.name = f.name ∧ g.attrs = f.attrs ∧ g.isTemplate = f.isTemplate ∧
      g.hasBody = (f.hasBody || df.contains i) ∧ g.registered = (f.registered || dc.contains i || df.contains i) := by
  unfold regAt at h
  rw [List.getElem?_mapIdx] at h
  cases hf : funcs[i]? with
  | none => simp [hf] at h
  | some f =>
    simp only [hf, Option.map_some, Option.some.injEq] at h
    subst h
    exact ⟨f, rfl, rfl, rfl, rfl, rfl, rfl⟩

theorem regAt_length (funcs : List FnSrc) (dc df : List Nat) : (regAt funcs dc df).length = funcs.length := by
  simp [regAt]

/-- an accepted file: each of its pipeline definitions is a `Pipeline` block of the file, parsed against the registry of
    that moment.  That every function with an implementation from the file (`df`) carries at most one `numthreads`
    attribute is an invariant of the walk: a definition is accepted only through `parse_function_attributes`. -/
theorem parseFile_ok {funcs : List FnSrc} : ∀ {items : List Item} {dc df : List Nat} {earlier : List String}
    {ds : List PipeDef}, parseFile funcs dc df earlier items = .ok ds →
    (∀ i ∈ df, ∀ f, funcs[i]? = some f → f.attrs.length ≤ 1) →
    ∀ d ∈ ds, ∃ p ∈ itemPipes items, ∃ dc' df' e, parsePipeline (regAt funcs dc' df') e p = .ok d ∧
      ∀ i ∈ df', ∀ f, funcs[i]? = some f → f.attrs.length ≤ 1 := by
  intro items dc df earlier
  fun_induction parseFile funcs dc df earlier items <;> intro ds h hdf d hd
  case case1 => cases h; cases hd
  -- a declaration; a definition of a function the table lacks
  case case2 ih => exact ih h hdf d hd
  case case3 ih => exact ih h hdf d hd
  case case5 f hf out hout ih =>
    -- a definition whose attributes were accepted: the function joins `df` with at most one attribute
    refine ih h (fun k hk g hg => ?_) d hd
    rcases List.mem_cons.1 hk with rfl | hk
    · rw [hf] at hg; cases hg; exact (parseFunctionAttributes_ok hout).2.1
    · exact hdf k hk g hg
  case case8 dc df earlier p _ d0 hd0 rest hrest ih =>
    -- a `Pipeline` block that is accepted, and so is the rest of the file
    cases h
    rcases List.mem_cons.1 hd with rfl | hd'
    · exact ⟨p, List.mem_cons_self .., dc, df, earlier, hd0, hdf⟩
    · obtain ⟨q, hq, x⟩ := ih hrest hdf d hd'
      exact ⟨q, List.mem_cons_of_mem _ hq, x⟩
  all_goals cases h

theorem parseFile_names_of_pairwise {funcs : List FnSrc} : ∀ {items : List Item} {dc df : List Nat}
    {earlier : List String} {ds : List PipeDef}, parseFile funcs dc df earlier items = .ok ds →
    earlier.Pairwise (· ≠ ·) →
    ds.map (·.name) = (itemPipes items).map (·.name) ∧
      (earlier ++ (itemPipes items).map (·.name)).Pairwise (· ≠ ·) := by
  intro items dc df earlier
  fun_induction parseFile funcs dc df earlier items <;> intro ds h he
  case case1 => cases h; simpa [itemPipes] using he
  -- declarations and definitions leave the pipelines alone
  case case2 ih => exact ih h he
  case case3 ih => exact ih h he
  case case5 ih => exact ih h he
  case case8 earlier p _ d hd rest hrest ih =>
    -- a `Pipeline` block that is accepted, and so is the rest of the file
    cases h
    obtain ⟨hn, hne, _⟩ := parsePipeline_ok hd
    have he' : (earlier ++ [p.name]).Pairwise (· ≠ ·) :=
      List.pairwise_append.mpr ⟨he, by simp, fun a ha b hb hab => hne (List.mem_singleton.mp hb ▸ hab ▸ ha)⟩
    obtain ⟨h1, h2⟩ := ih hrest he'
    exact ⟨by simp [itemPipes, hn, h1], by simpa [itemPipes, List.append_assoc] using h2⟩
  all_goals cases h

/-- the pipeline definitions of an accepted file are its blocks in order; names are pairwise different -/
theorem parseFile_names {funcs : List FnSrc} : ∀ {items : List Item} {dc df : List Nat} {earlier : List String}
    {ds : List PipeDef}, parseFile funcs dc df earlier items = .ok ds →
    ds.map (·.name) = (itemPipes items).map (·.name) ∧
      (earlier ++ (itemPipes items).map (·.name)).Pairwise (· ≠ ·) ∨
    ¬ earlier.Pairwise (· ≠ ·) := by
  intro items dc df earlier ds h
  by_cases he : earlier.Pairwise (· ≠ ·)
  · exact .inl (parseFile_names_of_pairwise h he)
  · exact .inr he

/-! ## a run of `Pipeline` blocks is a file without functions -/

theorem regAt_nil (funcs : List FnSrc) : regAt funcs [] [] = funcs := by
  refine List.ext_getElem? fun i => ?_
  simp [regAt, List.getElem?_mapIdx]

theorem itemPipes_map_pipe : ∀ (ps : List PipeSrc), itemPipes (ps.map .pipe) = ps
  | [] => rfl
  | p :: ps => by simp [itemPipes, itemPipes_map_pipe ps]

theorem parseFile_map_pipe (funcs : List FnSrc) (dc df : List Nat) : ∀ (ps : List PipeSrc) (earlier : List String),
    parseFile funcs dc df earlier (ps.map .pipe) = parsePipelines (regAt funcs dc df) earlier ps
  | [], _ => rfl
  | p :: ps, earlier => by
    simp only [List.map_cons, parseFile, parsePipelines, parseFile_map_pipe funcs dc df ps]

/-- the pipelines of a file are parsed in order; names are pairwise different -/
theorem parsePipelines_names {funcs : List FnSrc} : ∀ {ps : List PipeSrc} {earlier : List String} {ds : List PipeDef},
    parsePipelines funcs earlier ps = .ok ds →
    ds.map (·.name) = ps.map (·.name) ∧ (earlier ++ ps.map (·.name)).Pairwise (· ≠ ·) ∨
    ¬ earlier.Pairwise (· ≠ ·) := by
  intro ps earlier ds h
  rw [← regAt_nil funcs, ← parseFile_map_pipe] at h
  simpa [itemPipes_map_pipe] using parseFile_names h

/-- **the first error in file order wins**: when a prefix of the file is refused, the file is refused with that error,
    whatever follows -/
theorem parseFile_prefix_error {funcs : List FnSrc} {e : FrontErr} : ∀ {pre : List Item} (post : List Item)
    {dc df : List Nat} {earlier : List String}, parseFile funcs dc df earlier pre = .error e →
    parseFile funcs dc df earlier (pre ++ post) = .error e := by
  intro pre post dc df earlier
  fun_induction parseFile funcs dc df earlier pre <;> intro h <;> try cases h
  -- cases 2, 3, 5: the item is accepted and the error is in the rest; 4, 6: the item is refused; 7: a block, the rest refused
  case case2 ih => exact ih h
  case case3 hnone ih => simpa only [List.cons_append, parseFile, hnone] using ih h
  case case4 hf he => simp only [List.cons_append, parseFile, hf, he]
  case case5 hf _ hout ih => simpa only [List.cons_append, parseFile, hf, hout] using ih h
  case case6 he => simp only [List.cons_append, parseFile, he]
  case case7 hd ih he => simp only [List.cons_append, parseFile, hd, ih he]

/-- every pipeline definition of an accepted file comes from one of its blocks, parsed against the names before it -/
theorem parsePipelines_mem {funcs : List FnSrc} : ∀ {ps : List PipeSrc} {earlier : List String} {ds : List PipeDef},
    parsePipelines funcs earlier ps = .ok ds →
    ∀ d ∈ ds, ∃ p ∈ ps, ∃ e, parsePipeline funcs e p = .ok d := by
  intro ps earlier
  fun_induction parsePipelines funcs earlier ps <;> intro ds h d hd <;> cases h
  · cases hd
  · rename_i earlier p _ d0 hd0 rest hrest ih
    rcases List.mem_cons.1 hd with rfl | hd'
    · exact ⟨p, List.mem_cons_self .., earlier, hd0⟩
    · obtain ⟨q, hq, e, he⟩ := ih hrest d hd'
      exact ⟨q, List.mem_cons_of_mem _ hq, e, he⟩

theorem lastNumThreads_of_length {attrs : List (Nat × Nat × Nat)} (h : attrs.length ≤ 1) :
    attrs = (lastNumThreads attrs).toList := by
  match attrs, h with
  | [], _ => rfl
  | [a], _ => rfl
  | _ :: _ :: _, h => simp at h

theorem leaf_ok {names : List Names.Named} {k : Names.Kind} {i : Nat} {n : String}
    (h : leaf names k i = .ok n) : ∃ a, Names.lookup names ⟨k, i⟩ = some a ∧ a.name = n := by
  revert h
  fun_cases leaf names k i <;> intro h <;> cases h
  next a ha => exact ⟨a, ha, rfl⟩

end RsslVerif.Lemmas.MetaFront
