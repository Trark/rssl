import RsslVerif.Lemmas.ElabSoundX
import RsslVerif.Spec.ElabX
/-! Lemmas for C03, projection chains: a member access, swizzle or subscript of a const numeric value is const numeric again; a
chain is only accepted if its base is; members of a value that is not an lvalue are not lvalues. Core Lean only. -/
namespace RsslVerif.Lemmas.ProjX
open RsslVerif.Gen.RankTable RsslVerif.Gen.TypingTables RsslVerif.Model.Conv RsslVerif.Model.Overload
open RsslVerif.Model.IrTyping (FuncSig opReturn boolOf)
open RsslVerif.Model.Elab (Err)
open RsslVerif.Model.IrTypingX RsslVerif.Model.ElabX RsslVerif.Spec.ElabX
open RsslVerif.Lemmas.ElabConv RsslVerif.Lemmas.ElabX RsslVerif.Lemmas.ElabFormsX RsslVerif.Lemmas.ElabExactX
open RsslVerif.Lemmas.ElabNewX RsslVerif.Lemmas.ElabSoundX

variable {Γ : Env}

theorem swizzleLayer_numeric (s : Scalar) (n : Nat) : (swizzleLayer s n).isNumeric = true := by
  unfold swizzleLayer; split <;> rfl

/-- a member access on a const numeric value is a swizzle, and keeps `const` -/
theorem elabMember_constNum {name : String} {e n : IExpr} {τ τ' : ETy} (hc : ConstNum τ)
    (h : elabMember Γ name e τ = .ok (n, τ')) : ConstNum τ' := by
  obtain ⟨hconst, hnum⟩ := hc
  obtain ⟨_, hk⟩ := elabMember_ok h
  rcases hk with ⟨id, _, _, _, hl, _, _, _, _⟩ | ⟨_, _, _, _, _, _, rfl⟩ | ⟨_, _, _, _, _, _, _, rfl⟩ |
    ⟨_, _, _, _, _, _, _, rfl⟩
  · simp [hl, Layer.isNumeric] at hnum
  all_goals exact ⟨hconst, swizzleLayer_numeric _ _⟩

/-- a subscript on a const vector / matrix keeps `const` (and is numeric again) -/
theorem elabIndex_constNum {a i n : IExpr} {τa τi τ : ETy} (ha : HasType Γ a τa) (hc : ConstNum τa)
    (h : elabIndex Γ a τa i τi = .ok (n, τ)) : ConstNum τ := by
  obtain ⟨hconst, hnum⟩ := hc
  obtain ⟨_, _, _, _, _, _, _, hty⟩ := elabIndex_ok h
  simp only [typeOf, typeOf_of_hasType a τa ha] at hty
  split at hty
  · simp at hty; subst hty; exact ⟨hconst, rfl⟩
  · simp at hty; subst hty; exact ⟨hconst, rfl⟩
  · rename_i id hl; simp [hl, Layer.isNumeric] at hnum
  · simp at hty

/-- an element of an array of const numeric elements is const numeric -/
theorem elabIndex_constArr {a i n : IExpr} {τa τi τ : ETy} (ha : HasType Γ a τa) (hc : ConstArr Γ τa)
    (h : elabIndex Γ a τa i τi = .ok (n, τ)) : ConstNum τ := by
  obtain ⟨id, elem, len, hl, ho, hconst, hnum⟩ := hc
  obtain ⟨_, _, _, _, _, _, _, hty⟩ := elabIndex_ok h
  simp only [typeOf, typeOf_of_hasType a τa ha, hl, ho] at hty
  simp at hty; subst hty; exact ⟨hconst, hnum⟩

/-- an element of a read-only resource is const -/
theorem elabIndex_readOnlyRes {a i n : IExpr} {τa τi τ : ETy} (ha : HasType Γ a τa) (hc : ReadOnlyRes Γ τa)
    (h : elabIndex Γ a τa i τi = .ok (n, τ)) : ConstNum τ := by
  obtain ⟨id, kind, elem, hl, ho, hro, hnum⟩ := hc
  obtain ⟨_, _, _, _, _, _, _, hty⟩ := elabIndex_ok h
  simp only [typeOf, typeOf_of_hasType a τa ha, hl, ho, resourceElem, hro, if_true] at hty
  simp at hty; subst hty; exact ⟨rfl, hnum⟩

/-- a chain is only accepted if its base is -/
theorem chain_base_ok {dbg : Bool} : ∀ (ps : List Proj) (e : SExpr) (r : IExpr × ETy),
    elabE dbg Γ (applyChain e ps) = .ok r → ∃ r0, elabE dbg Γ e = .ok r0
  | [], e, r, h => ⟨r, h⟩
  | p :: ps, e, r, h => by
    obtain ⟨r1, h1⟩ := chain_base_ok ps (applyProj e p) r h
    cases p with
    | member name =>
      obtain ⟨e0, τ0, h0, _⟩ := elabE_member_ok h1
      exact ⟨_, h0⟩
    | index i =>
      obtain ⟨a0, τa, _, _, ha, _, _⟩ := elabE_index_ok h1
      exact ⟨_, ha⟩

def memberChain : List String → List Proj := List.map Proj.member

/-- members and swizzles of a value that is not an lvalue are not lvalues, for chains of any length -/
theorem chain_members_rvalue {dbg : Bool} : ∀ (names : List String) (e : SExpr) (e0 : IExpr) (τ0 : ETy) (r : IExpr × ETy),
    elabE dbg Γ e = .ok (e0, τ0) → τ0.vt = .rvalue → elabE dbg Γ (applyChain e (memberChain names)) = .ok r →
    r.2.vt = .rvalue
  | [], e, e0, τ0, r, h0, hv, h => by
    simp only [memberChain, List.map, applyChain] at h
    rw [h0] at h; simp at h; subst h; exact hv
  | nm :: names, e, e0, τ0, r, h0, hv, h => by
    simp only [memberChain, List.map, applyChain] at h
    obtain ⟨⟨e1, τ1⟩, h1⟩ := chain_base_ok (memberChain names) _ r h
    have hv1 : τ1.vt = .rvalue := by
      obtain ⟨e2, τ2, h2, hm⟩ := elabE_member_ok h1
      rw [h0] at h2; cases h2
      exact elabMember_rvalue hv hm
    exact chain_members_rvalue names _ e1 τ1 r h1 hv1 h

end RsslVerif.Lemmas.ProjX
