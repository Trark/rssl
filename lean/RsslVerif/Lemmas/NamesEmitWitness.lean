import RsslVerif.Model.NamesEmit
import RsslVerif.Gen.Reserved
/-!
Concrete programs on which clauses of C15 fail on the current code, evaluated on the model with the regenerated
reserved tables (`decide +kernel`).  Every program is also a corpus request (`C15.res …`, listed next to it); the check
compares the listing of the term below with the listing of the parsed request (`C15.witness`), and that one with the
real compiler.
-/
namespace RsslVerif.Lemmas.NamesEmitWitness
open RsslVerif.Model.Names RsslVerif.Model.NamesEmit

def reservedOf (t : Target) : List String := if t.isMsl then Gen.Reserved.msl else Gen.Reserved.hlsl

/-- the tokens of the emitted program (`none` when `build` panics) -/
def toks (t : Target) (p : Program) : Option (List Tok) :=
  (build (reservedOf t) (namesInput t p)).toOption.map fun names => emit t names p

def namesOf (t : Target) (p : Program) : Option (List (Kind × Nat × String)) :=
  (build (reservedOf t) (namesInput t p)).toOption.map fun names => names.map fun n => (n.sym.kind, n.sym.id, n.name)

def has (t : Target) (p : Program) (tok : Tok) : Bool :=
  match toks t p with
  | some l => l.contains tok
  | none => false

def entry (ord : Nat) (name : String) (param : Nat) (body : List BTok) : Def :=
  ⟨none, .func ord name [param] body (some 'c')⟩

/-- `st zqs kernel end` (Metal): a struct member named like a Metal keyword -/
def pMember : Program :=
  { nss := [], defs := [⟨none, .struct 0 "zqs" ["kernel"] []⟩], localNames := [], pipeline := none }

/-- `cb abs - int end ef c zqe zqp { use D0.0 } pl zqP F0 -` (HLSL) -/
def pCbuffer : Program :=
  { nss := [], defs := [⟨none, .cbuf 0 "abs" none ["int"]⟩, entry 0 "zqe" 0 [.use (.cbMember 0 0)]],
    localNames := ["zqp"], pipeline := some ([0], none) }

/-- `ns zqn cb zqc - zqm end end ef c zqe zqp { use D0.0 } pl zqP F0 -` (HLSL) -/
def pCbufferNs : Program :=
  { nss := [(none, "zqn")], defs := [⟨some 0, .cbuf 0 "zqc" none ["zqm"]⟩, entry 0 "zqe" 0 [.use (.cbMember 0 0)]],
    localNames := ["zqp"], pipeline := some ([0], none) }

/-- `rs ba - g_inlineDescriptor0 ef c zqe zqp { use G0 } pl zqP F0 -` (Vulkan with buffer addresses) -/
def pGenerated : Program :=
  { nss := [], defs := [⟨none, .res 0 "g_inlineDescriptor0" "ba" {}⟩, entry 0 "zqe" 0 [.use (.glob 0)]],
    localNames := ["zqp"], pipeline := some ([0], none) }

/-- `st S zqm end ef c zqe S { use S0 } pl zqP F0 -` -/
def pLocalType : Program :=
  { nss := [], defs := [⟨none, .struct 0 "S" ["zqm"] []⟩, entry 0 "zqe" 0 [.use (.structTy 0)]],
    localNames := ["S"], pipeline := some ([0], none) }

/-- `ef c S S { } pl zqP F0 -` (Metal) -/
def pWrapper : Program :=
  { nss := [], defs := [entry 0 "S" 0 []], localNames := ["S"], pipeline := some ([0], none) }

/-- `ns N gl s x end ns M gl s x end fn f - { use G0 use G1 } ef c zqe zqp { use F0 } pl zqP F1 -` (Metal) -/
def pThreaded : Program :=
  { nss := [(none, "N"), (none, "M")],
    defs := [⟨some 0, .glob 0 "x" 's'⟩, ⟨some 1, .glob 1 "x" 's'⟩,
             ⟨none, .func 0 "f" [] [.use (.glob 0), .use (.glob 1)] none⟩, entry 1 "zqe" 0 [.use (.func 0)]],
    localNames := ["zqp"], pipeline := some ([1], none) }

/-- `ns zqn rs ba - x end rs ba - x ef c zqe zqp { use G0 use G1 } pl zqP F0 -` (Vulkan with buffer addresses) -/
def pInline : Program :=
  { nss := [(none, "zqn")],
    defs := [⟨some 0, .res 0 "x" "ba" {}⟩, ⟨none, .res 1 "x" "ba" {}⟩, entry 0 "zqe" 0 [.use (.glob 0), .use (.glob 1)]],
    localNames := ["zqp"], pipeline := some ([0], none) }

/-- `gl c N ns S fn N - { use G0 } end ef c zqe zqp { use F0 } pl zqP F1 -` -/
def pRelative : Program :=
  { nss := [(none, "S")],
    defs := [⟨none, .glob 0 "N" 'c'⟩, ⟨some 0, .func 0 "N" [] [.use (.glob 0)] none⟩, entry 1 "zqe" 0 [.use (.func 0)]],
    localNames := ["zqp"], pipeline := some ([1], none) }

/-- `st S m | f end st T k | f end ef c zqe zqp { } pl zqP F2 -` -/
def pMethods : Program :=
  { nss := [],
    defs := [⟨none, .struct 0 "S" ["m"] [(0, "f")]⟩, ⟨none, .struct 1 "T" ["k"] [(1, "f")]⟩, entry 2 "zqe" 0 []],
    localNames := ["zqp"], pipeline := some ([2], none) }

/-- `st S log2_0 | log2 end ef c zqe zqp { } pl zqP F1 -` (HLSL) -/
def pMemberMethod : Program :=
  { nss := [], defs := [⟨none, .struct 0 "S" ["log2_0"] [(0, "log2")]⟩, entry 1 "zqe" 0 []],
    localNames := ["zqp"], pipeline := some ([1], none) }

/-- a well-behaved program for the non-vacuity examples:
`st S a end gl s g rs cbs s0 texture rs ba - sampler fn h i p { lv x use G0 use G1 } ef c main tid { use F0 use G2 } pl P F1 -` -/
def pGood : Program :=
  { nss := [],
    defs := [⟨none, .struct 0 "S" ["a"] []⟩, ⟨none, .glob 0 "g" 's'⟩,
             ⟨none, .res 1 "texture" "cbs" { elem := some 0 }⟩, ⟨none, .res 2 "sampler" "ba" {}⟩,
             ⟨none, .func 0 "h" [0] [.lv 1, .use (.glob 0), .use (.glob 1)] none⟩,
             entry 1 "main" 2 [.use (.func 0), .use (.glob 2)]],
    localNames := ["p", "x", "tid"], pipeline := some ([1], none) }

/-! Every evaluation of `toks` names its program against a whole reserved table, and the kernel decodes each entry of the
table it walks through once per theorem.  The facts about the witness programs are therefore stated together, one theorem
per table, in the order of the programs above; `Thm/C15.lean` takes them apart. -/

/-- the programs named against `Gen.Reserved.hlsl` (Direct3D; Vulkan with buffer addresses):
`pCbuffer`; `pCbufferNs` (the member is declared inside namespace `zqn` only, the use in the root function prints the bare
leaf name); `pGenerated`; `pLocalType` (the parameter `S` is declared in the function scope in which the type `S` is then
named); `pInline`; `pRelative` (inside namespace `S` the relative path `N` names the function `S::N`, not the global `::N`
that is meant); `pMethods`; `pMemberMethod` -/
theorem hlsl_witnesses :
    (has .dx pCbuffer (.decl (.file none) "C" "abs" (.cbuf 0)) = true ∧
     has .dx pCbuffer (.decl (.file none) "D" "int" (.cbufMember 0 0)) = true) ∧
    (has .dx pCbufferNs (.use (.func 0) false ["zqm"] (.cbufMember 0 0)) = true ∧
     has .dx pCbufferNs (.decl (.file (some 0)) "D" "zqm" (.cbufMember 0 0)) = true ∧
     (toks .dx pCbufferNs).map (fun l => l.any fun tok => match tok with
       | .decl sc _ n _ => n == "zqm" && (sc == .file none || sc == .func 0)
       | _ => false) = some false) ∧
    (has .vkba pGenerated (.decl (.file none) "G" "g_inlineDescriptor0" (.gen "g_inlineDescriptor0")) = true ∧
     has .vkba pGenerated (.decl (.file none) "G" "g_inlineDescriptor0" (.sym ⟨.global, 0⟩)) = true) ∧
    (has .dx pLocalType (.decl (.func 0) "P" "S" (.sym ⟨.localVar, 0⟩)) = true ∧
     has .dx pLocalType (.use (.func 0) true ["S"] (.sym ⟨.struct, 0⟩)) = true) ∧
    (has .vkba pInline (.decl (.genStruct "InlineDescriptor0") "M" "x" (.sym ⟨.global, 0⟩)) = true ∧
     has .vkba pInline (.decl (.genStruct "InlineDescriptor0") "M" "x" (.sym ⟨.global, 1⟩)) = true) ∧
    (has .dx pRelative (.use (.func 0) false ["N"] (.sym ⟨.global, 0⟩)) = true ∧
     has .dx pRelative (.decl (.file (some 0)) "F" "N" (.sym ⟨.func, 0⟩)) = true ∧
     has .dx pRelative (.decl (.file none) "G" "N" (.sym ⟨.global, 0⟩)) = true) ∧
    (has .dx pMethods (.decl (.strct 0) "m" "f_0" (.sym ⟨.func, 0⟩)) = true ∧
     has .dx pMethods (.decl (.strct 1) "m" "f_1" (.sym ⟨.func, 1⟩)) = true) ∧
    (has .dx pMemberMethod (.decl (.strct 0) "M" "log2_0" (.member 0 0)) = true ∧
     has .dx pMemberMethod (.decl (.strct 0) "m" "log2_0" (.sym ⟨.func, 0⟩)) = true) := by
  decide +kernel

/-- the programs named against `Gen.Reserved.msl`: `pMember`, `pLocalType`, `pWrapper`, `pThreaded` -/
theorem msl_witnesses :
    has .msl pMember (.decl (.strct 0) "M" "kernel" (.member 0 0)) = true ∧
    (has .msl pLocalType (.decl (.func 0) "P" "S" (.sym ⟨.localVar, 0⟩)) = true ∧
     has .msl pLocalType (.use (.func 0) true ["S"] (.sym ⟨.struct, 0⟩)) = true) ∧
    (has .msl pWrapper (.decl .wrapper "P" "S" (.sym ⟨.localVar, 0⟩)) = true ∧
     has .msl pWrapper (.use .wrapper false ["S"] (.sym ⟨.func, 0⟩)) = true) ∧
    (has .msl pThreaded (.decl (.func 0) "P" "x" (.sym ⟨.global, 0⟩)) = true ∧
     has .msl pThreaded (.decl (.func 0) "P" "x" (.sym ⟨.global, 1⟩)) = true) := by
  decide +kernel

/-- `fn zqf i threads_per_simdgroup { use W0 use W1 use L0 } ef c zqe zqp { use F0 } pl zqP F1 -` (Metal): a parameter
spelled like the implicit lane-count parameter in a function that reads the lane count -/
def pWave : Program :=
  { nss := []
    defs := [⟨none, .func 0 "zqf" [0] [.use (.wave false), .use (.wave true), .use (.loc 0)] none⟩,
             entry 1 "zqe" 1 [.use (.func 0)]]
    localNames := ["threads_per_simdgroup", "zqp"], pipeline := some ([1], none) }

/-- the same program named with a reserved list that lacks the implicit parameter's name -/
def toksWith (reserved : List String) (t : Target) (p : Program) : Option (List Tok) :=
  (build reserved (namesInput t p)).toOption.map fun names => emit t names p

/-- with the regenerated table the user parameter is renamed and the implicit parameters follow it, in the helper, in the
entry point (which only passes them on) and in the wrapper -/
theorem wave_params_emitted :
    (toks .msl pWave).map (fun l => (l.map render)) =
      some ["F:zqf", "(", "P:threads_per_simdgroup_0", "P:thread_index_in_simdgroup", "P:threads_per_simdgroup",
            "?thread_index_in_simdgroup", "?threads_per_simdgroup", "?threads_per_simdgroup_0", ")",
            "F:zqe", "(", "P:zqp", "P:thread_index_in_simdgroup", "P:threads_per_simdgroup",
            "?zqf", "?thread_index_in_simdgroup", "?threads_per_simdgroup", ")",
            "F:ComputeShaderEntry", "(", "P:zqp", "P:thread_index_in_simdgroup", "P:threads_per_simdgroup",
            "?zqe", "?zqp", "?thread_index_in_simdgroup", "?threads_per_simdgroup", ")"] ∧
    (toks .dx pWave).map (fun l => (l.map render)) =
      some ["F:zqf", "(", "P:threads_per_simdgroup", "?threads_per_simdgroup", ")", "F:zqe", "(", "P:zqp", "?zqf", ")"] := by
  decide +kernel

/-- **the reservation is what keeps them apart**: with `threads_per_simdgroup` taken out of the reserved list (seeded
mutant C15-6) the same function scope declares the user parameter and the implicit parameter under one name -/
theorem wave_clash_without_reservation :
    let l := toksWith (Gen.Reserved.msl.erase "threads_per_simdgroup") .msl pWave
    (l.map fun l => l.contains (.decl (.func 0) "P" "threads_per_simdgroup" (.sym ⟨.localVar, 0⟩))) = some true ∧
    (l.map fun l => l.contains (.decl (.func 0) "P" "threads_per_simdgroup" (.gen "threads_per_simdgroup"))) = some true := by
  decide +kernel

end RsslVerif.Lemmas.NamesEmitWitness
