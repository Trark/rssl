import RsslVerif.Model.CondChain
import RsslVerif.Lemmas.CondSubst
/-!
# C11: the stack automaton refines tree-shaped selection

`flattenItems` writes a `Spec.CPre` tree as the list of lines the model consumes.  `Item.refines / Items.refines /
Chain.refines`: running the automaton over the lines of a sub-tree, from any stack, has exactly the effect the
reference prescribes, where the top of the stack encodes "has a group of this if-section been taken" (`taken`)
and the rest of the stack "is the if-section processed" (`active`).  The second half: a list of clean lines moves the
automaton as the grammar scan `Spec.CPre.scanC` moves its flag stack (`step_flags`, `run_scan`), and lines that come from
a tree pass the strict scan (`Items.strict`).
-/
namespace RsslVerif.Lemmas.CondChain
open RsslVerif.Gen.CondTables RsslVerif.Model.CondExpr RsslVerif.Model.CondChain
open RsslVerif.Spec.CPre RsslVerif.Lemmas.CondSubst

deriving instance DecidableEq for Except

@[simp] theorem switch_en (b : Bool) : CS.switch .Enabled b = .DisabledOuter := by cases b <;> rfl
@[simp] theorem switch_di_t : CS.switch .DisabledInner true = .Enabled := rfl
@[simp] theorem switch_di_f : CS.switch .DisabledInner false = .DisabledInner := rfl
@[simp] theorem switch_do (b : Bool) : CS.switch .DisabledOuter b = .DisabledOuter := by cases b <;> rfl
theorem switch_table :
    (∀ b, CS.switch .Enabled b = .DisabledOuter) ∧
    (CS.switch .DisabledInner true = .Enabled) ∧ (CS.switch .DisabledInner false = .DisabledInner) ∧
    (∀ b, CS.switch .DisabledOuter b = .DisabledOuter) :=
  ⟨switch_en, switch_di_t, switch_di_f, switch_do⟩

@[simp] theorem pushState_t : pushState true = .Enabled := rfl
@[simp] theorem pushState_f : pushState false = .DisabledInner := rfl
@[simp] theorem activeState_eq : activeState = .Enabled := rfl
@[simp] theorem elseSwitchArg_eq : elseSwitchArg = true := rfl
@[simp] theorem switchEmptyErr_eq : switchEmptyErr = .ElseNotMatched := rfl
@[simp] theorem popEmptyErr_eq : popEmptyErr = .EndIfNotMatched := rfl
@[simp] theorem unfinishedErr_eq : unfinishedErr = .ConditionChainNotFinished := rfl
@[simp] theorem fileUnfinishedErr_eq : fileUnfinishedErr = .ConditionChainNotFinished := rfl
@[simp] theorem elseIsElse_eq : elseIsElse = true := rfl
@[simp] theorem elifIsElse_eq : elifIsElse = false := rfl
@[simp] theorem nonNameGate_eq : nonNameGate = .skipNoEffect := rfl
@[simp] theorem afterElseErr_t : afterElseErr true = .ElseAfterElse := rfl
@[simp] theorem afterElseErr_f : afterElseErr false = .ElifAfterElse := rfl
@[simp] theorem newBlock_eq (c : CS) : newBlock c = ⟨c, false⟩ := rfl

/-- `Block.switch`, cell by cell: an error exactly when the `#else` branch has started -/
@[simp] theorem block_switch_seen (c : CS) (a e : Bool) : Block.switch ⟨c, true⟩ a e = .error (afterElseErr e) := rfl
@[simp] theorem block_switch_fresh (c : CS) (a e : Bool) : Block.switch ⟨c, false⟩ a e = .ok ⟨c.switch a, e⟩ := rfl

@[simp] theorem gate_if : gate "if" = .skipPushes .DisabledInner := by decide
@[simp] theorem gate_ifdef : gate "ifdef" = .skipPushes .DisabledInner := by decide
@[simp] theorem gate_ifndef : gate "ifndef" = .skipPushes .DisabledInner := by decide
@[simp] theorem gate_elif : gate "elif" = .notGated := by decide
@[simp] theorem gate_else : gate "else" = .notGated := by decide
@[simp] theorem gate_endif : gate "endif" = .notGated := by decide
@[simp] theorem gate_define : gate "define" = .skipNoEffect := by decide
@[simp] theorem gate_undef : gate "undef" = .skipNoEffect := by decide
@[simp] theorem gate_pragma : gate "pragma" = .skipNoEffect := by decide
@[simp] theorem gate_include : gate "include" = .skipNoEffect := by decide
/-- a directive name the preprocessor does not know is ignored while skipping -/
theorem gate_unknown {name : String} (h : name ∉ gatedCommands) : gate name = .skipNoEffect := by
  simp only [gatedCommands, List.mem_cons, List.not_mem_nil, or_false, not_or] at h
  simp [gate, h]

@[simp] theorem gate_other : gate "frobnicate" = .skipNoEffect := gate_unknown (by decide)

@[simp] theorem en_beq_en : (CS.Enabled == CS.Enabled) = true := by decide
@[simp] theorem di_beq_en : (CS.DisabledInner == CS.Enabled) = false := by decide
@[simp] theorem do_beq_en : (CS.DisabledOuter == CS.Enabled) = false := by decide

theorem active_cons (b : Block) (r : List Block) : active (b :: r) = ((b.state == .Enabled) && active r) := by
  simp [active]

@[simp] theorem active_nil : active [] = true := rfl

def shape : Dir → Shape
  | .ifc _ | .ifdef _ _ => .opens
  | .elif _ => .elif
  | .els => .els
  | .endif => .endif
  | _ => .other

/-- under an inactive chain an opening directive only deepens the stack and a line of no shape does nothing -/
theorem step_inactive (cv) (ch : List Block) (m : Macros) (out : List (List CTok)) (h : active ch = false)
    (d : Dir) :
    step cv ⟨ch, m, out⟩ d = match shape d with
      | .opens => .ok ⟨⟨.DisabledInner, false⟩ :: ch, m, out⟩
      | .other => .ok ⟨ch, m, out⟩
      | _ => exec cv ⟨ch, m, out⟩ d := by
  cases d with
  | ifdef neg n => cases neg <;> simp [step, Dir.command, Cmd.gate, h, shape]
  | _ => simp [step, Dir.command, Cmd.gate, h, shape]

theorem step_active (cv) (ch : List Block) (m : Macros) (out : List (List CTok)) (h : active ch = true)
    (d : Dir) :
    step cv ⟨ch, m, out⟩ d = exec cv ⟨ch, m, out⟩ d := by
  simp [step, h]

/-- `#elif`, `#else` and `#endif` are executed whether or not a level is inactive -/
theorem step_notGated (cv) (s : St) (d : Dir) (h : d.command.gate = .notGated) : step cv s d = exec cv s d := by
  simp only [step, h, ite_self]

theorem run_append (cv) (s : St) (a b : List Dir) :
    run cv s (a ++ b) = match run cv s a with
      | .ok s' => run cv s' b
      | .error e => .error e := by
  induction a generalizing s with
  | nil => simp [run]
  | cons d ds ih =>
    simp only [List.cons_append, run]
    cases step cv s d with
    | ok s' => simp [ih]
    | error e => simp

def plainDir : Plain → Dir
  | .text t => .text t
  | .define n b => .define n b
  | .undef n => .undef n
  | .pragma .once => .pragma .once
  | .pragma .warning => .pragma .warning
  | .pragma .unknown => .pragma .unknown
  | .incl f => .incl f
  | .unknown => .unknown
  | .nonName => .nonName

def headDir : Head → Dir
  | .ifc c => .ifc c
  | .ifdef n => .ifdef false n
  | .ifndef n => .ifdef true n

theorem shape_plainDir (p : Plain) : shape (plainDir p) = .other := by
  cases p with
  | pragma k => cases k <;> rfl
  | _ => rfl

theorem shape_headDir (h : Head) : shape (headDir h) = .opens := by cases h <;> rfl

mutual
def flattenItem : Item → List Dir
  | .plain p => [plainDir p]
  | .cond h body rest => headDir h :: (flattenItems body ++ flattenChain rest)
def flattenItems : Items → List Dir
  | .nil => []
  | .cons i is => flattenItem i ++ flattenItems is
def flattenChain : Chain → List Dir
  | .endif => [.endif]
  | .els body => .els :: (flattenItems body ++ [.endif])
  | .elif c body rest => .elif c :: (flattenItems body ++ flattenChain rest)
end

def TotalOn (Inv : Macros → Prop) (cv : Macros → List CTok → Except CondErr Bool) (c : List CTok) : Prop :=
  ∀ m, Inv m → ∃ b, cv m c = .ok b

def Total (cv : Macros → List CTok → Except CondErr Bool) (c : List CTok) : Prop :=
  TotalOn (fun _ => True) cv c

/-! "Well-formed conditions", relative to an invariant `Inv` of the macro table: every `#define/#undef`
    of the tree preserves `Inv`, and every `#elif` condition of the tree has a value in every macro table
    satisfying `Inv`.  (The code evaluates `#elif` conditions even in groups C never looks at — see
    `Thm.C11.dead_elif_is_evaluated` — so *all* `#elif` conditions are constrained, not only the ones C
    evaluates; `#if` conditions are not constrained at all.) -/
mutual
def ItemWF (Inv : Macros → Prop) (cv : Macros → List CTok → Except CondErr Bool) : Item → Prop
  | .plain (.define n b) => ∀ m, Inv m → Inv (Macros.define m n b)
  | .plain (.undef n) => ∀ m, Inv m → Inv (Macros.undef m n)
  | .plain _ => True
  | .cond _ body rest => ItemsWF Inv cv body ∧ ChainWF Inv cv rest
def ItemsWF (Inv : Macros → Prop) (cv : Macros → List CTok → Except CondErr Bool) : Items → Prop
  | .nil => True
  | .cons i is => ItemWF Inv cv i ∧ ItemsWF Inv cv is
def ChainWF (Inv : Macros → Prop) (cv : Macros → List CTok → Except CondErr Bool) : Chain → Prop
  | .endif => True
  | .els body => ItemsWF Inv cv body
  | .elif c body rest => TotalOn Inv cv c ∧ ItemsWF Inv cv body ∧ ChainWF Inv cv rest
end

/-- rejection reasons of the reference as `PreprocessError` variants -/
def toErr : Reject CondErr → Err
  | .cond e => .cond e
  | .unknownPragma => .UnknownPragma
  | .unknownDirective => .UnknownCommand
  | .missingInclude => .FailedToFindFile

/-- continue the automaton from the state the reference prescribes -/
def andThen (cv : Macros → List CTok → Except CondErr Bool) (ch : List Block) (rest : List Dir) : Except (Reject CondErr) (Env × Out) → Except Err St
  | .ok s' => run cv ⟨ch, s'.1, s'.2⟩ rest
  | .error e => .error (toErr e)

/-- what the top of the stack says about its if-section: has a group been taken already? -/
def taken : CS → Bool
  | .DisabledInner => false
  | _ => true

theorem expandText_eq (m : Macros) (toks : List CTok) : expandText m toks = Env.expand m toks := by
  simp [expandText, subst_false]

theorem Items.sel_false {ε} (cv : Env → List CTok → Except ε Bool) :
    ∀ (is : Items) (s : Env × Out), is.sel cv false s = .ok s
  | .nil, s => by simp [Items.sel]
  | .cons i is, s => by
    have hi : i.sel cv false s = .ok s := by cases i <;> simp [Item.sel]
    simp [Items.sel, hi, Items.sel_false cv is s]

theorem Chain.sel_false {ε} (cv : Env → List CTok → Except ε Bool) :
    ∀ (c : Chain) (t : Bool) (s : Env × Out), c.sel cv false t s = .ok s
  | .endif, _, _ => by simp [Chain.sel]
  | .els body, _, s => by simp [Chain.sel, Items.sel_false]
  | .elif c body rest, t, s => by simp [Chain.sel, Chain.sel_false cv rest]

theorem exec_plain_active (cv) (ch : List Block) (m : Macros) (out : Out) (p : Plain) :
    exec cv ⟨ch, m, out⟩ (plainDir p) =
      match (p.apply (m, out) : Except (Reject CondErr) (Env × Out)) with
      | .ok s' => .ok ⟨ch, s'.1, s'.2⟩
      | .error e => .error (toErr e) := by
  cases p with
  | pragma k => cases k <;> simp [plainDir, exec, Plain.apply, toErr]
  | incl f => cases f <;> simp [plainDir, exec, Plain.apply, toErr, expandText_eq]
  | _ => simp [plainDir, exec, Plain.apply, toErr, expandText_eq, define_eq, undef_eq]

theorem step_head_active (cv) (ch m out) (h : Head) (ha : active ch = true) :
    step cv ⟨ch, m, out⟩ (headDir h) =
      match (h.value cv m : Except (Reject CondErr) Bool) with
      | .ok b => .ok ⟨⟨pushState b, false⟩ :: ch, m, out⟩
      | .error e => .error (toErr e) := by
  cases h with
  | ifc c =>
    simp only [headDir, step_active cv _ _ _ ha, exec, Head.value]
    cases cv m c <;> simp [toErr]
  | ifdef n => simp [headDir, step_active cv _ _ _ ha, exec, Head.value, isDefined_eq]
  | ifndef n => simp [headDir, step_active cv _ _ _ ha, exec, Head.value, isDefined_eq]

theorem step_endif (cv) (top : Block) (r : List Block) (m out) :
    step cv ⟨top :: r, m, out⟩ .endif = .ok ⟨r, m, out⟩ :=
  step_notGated cv _ .endif gate_endif

theorem step_els (cv) (top : CS) (r : List Block) (m out) :
    step cv ⟨⟨top, false⟩ :: r, m, out⟩ .els = .ok ⟨⟨top.switch true, true⟩ :: r, m, out⟩ :=
  step_notGated cv _ .els gate_else

theorem step_elif (cv) (top : CS) (r : List Block) (m out) (c : List CTok) (b : Bool) (hb : cv m c = .ok b) :
    step cv ⟨⟨top, false⟩ :: r, m, out⟩ (.elif c) = .ok ⟨⟨top.switch b, false⟩ :: r, m, out⟩ := by
  rw [step_notGated cv _ (.elif c) gate_elif]; simp [exec, hb, switchTop]

theorem Plain.apply_inv (Inv : Macros → Prop) (cv) (p : Plain) (h : ItemWF Inv cv (.plain p))
    (m : Macros) (out : Out) (s' : Env × Out) (hm : Inv m)
    (hs : (p.apply (m, out) : Except (Reject CondErr) (Env × Out)) = .ok s') : Inv s'.1 := by
  cases p with
  | define n b => simp only [Plain.apply, Except.ok.injEq] at hs; subst hs; exact h m hm
  | undef n => simp only [Plain.apply, Except.ok.injEq] at hs; subst hs; exact h m hm
  | text t => simp only [Plain.apply, Except.ok.injEq] at hs; subst hs; exact hm
  | pragma k => cases k <;> simp [Plain.apply] at hs <;> (subst hs; exact hm)
  | incl f => cases f <;> simp [Plain.apply] at hs; subst hs; exact hm
  | unknown => simp [Plain.apply] at hs
  | nonName => simp [Plain.apply] at hs

mutual
theorem Item.sel_inv (Inv : Macros → Prop) (cv) : ∀ (i : Item), ItemWF Inv cv i → ∀ (act : Bool) (m : Macros)
    (out : Out) (s' : Env × Out), Inv m → i.sel cv act (m, out) = .ok s' → Inv s'.1
  | .plain p, h, act, m, out, s', hm, hs => by
    cases act
    · simp only [Item.sel, Bool.false_eq_true, if_false, Except.ok.injEq] at hs; subst hs; exact hm
    · simp only [Item.sel, if_true] at hs
      exact Plain.apply_inv Inv cv p h m out s' hm hs
  | .cond h body chain, ⟨hb, hc⟩, act, m, out, s', hm, hs => by
    cases act
    · simp only [Item.sel, Bool.false_eq_true, if_false, Except.ok.injEq] at hs; subst hs; exact hm
    · simp only [Item.sel, if_true] at hs
      cases hv : (h.value cv m : Except (Reject CondErr) Bool) with
      | error e => simp [hv] at hs
      | ok b =>
        simp only [hv] at hs
        cases hs1 : body.sel cv b (m, out) with
        | error e => simp [hs1] at hs
        | ok s1 =>
          simp only [hs1] at hs
          have h1 := Items.sel_inv Inv cv body hb b m out s1 hm hs1
          exact Chain.sel_inv Inv cv chain hc true b s1.1 s1.2 s' h1 hs
theorem Items.sel_inv (Inv : Macros → Prop) (cv) : ∀ (is : Items), ItemsWF Inv cv is → ∀ (act : Bool)
    (m : Macros) (out : Out) (s' : Env × Out), Inv m → is.sel cv act (m, out) = .ok s' → Inv s'.1
  | .nil, _, act, m, out, s', hm, hs => by
    simp only [Items.sel, Except.ok.injEq] at hs; subst hs; exact hm
  | .cons i is, ⟨hi, his⟩, act, m, out, s', hm, hs => by
    simp only [Items.sel] at hs
    cases hs1 : i.sel cv act (m, out) with
    | error e => simp [hs1] at hs
    | ok s1 =>
      simp only [hs1] at hs
      have h1 := Item.sel_inv Inv cv i hi act m out s1 hm hs1
      exact Items.sel_inv Inv cv is his act s1.1 s1.2 s' h1 hs
theorem Chain.sel_inv (Inv : Macros → Prop) (cv) : ∀ (c : Chain), ChainWF Inv cv c → ∀ (act taken : Bool)
    (m : Macros) (out : Out) (s' : Env × Out), Inv m → c.sel cv act taken (m, out) = .ok s' → Inv s'.1
  | .endif, _, act, tk, m, out, s', hm, hs => by
    simp only [Chain.sel, Except.ok.injEq] at hs; subst hs; exact hm
  | .els body, hb, act, tk, m, out, s', hm, hs => by
    simp only [Chain.sel] at hs
    exact Items.sel_inv Inv cv body hb _ m out s' hm hs
  | .elif c body chain, ⟨hc, hb, hch⟩, act, tk, m, out, s', hm, hs => by
    simp only [Chain.sel] at hs
    by_cases hat : (act && !tk) = true
    · simp only [hat, if_true] at hs
      cases hcv : cv m c with
      | error e => simp [hcv] at hs
      | ok b =>
        simp only [hcv] at hs
        cases hs1 : body.sel cv b (m, out) with
        | error e => simp [hs1] at hs
        | ok s1 =>
          simp only [hs1] at hs
          have h1 := Items.sel_inv Inv cv body hb b m out s1 hm hs1
          exact Chain.sel_inv Inv cv chain hch act b s1.1 s1.2 s' h1 hs
    · simp only [hat] at hs
      exact Chain.sel_inv Inv cv chain hch act tk m out s' hm hs
end

mutual
theorem Item.refines (Inv : Macros → Prop) (cv) : ∀ (i : Item), ItemWF Inv cv i → ∀ (ch : List Block)
    (m : Macros) (out : Out) (rest : List Dir), Inv m →
    run cv ⟨ch, m, out⟩ (flattenItem i ++ rest) = andThen cv ch rest (i.sel cv (active ch) (m, out))
  | .plain p, _, ch, m, out, rest, _ => by
    simp only [flattenItem, List.cons_append, List.nil_append, run]
    cases ha : active ch
    · rw [step_inactive cv _ _ _ ha, shape_plainDir]
      simp [Item.sel, andThen]
    · rw [step_active cv _ _ _ ha, exec_plain_active]
      simp only [Item.sel, if_true]
      cases (p.apply (m, out) : Except (Reject CondErr) (Env × Out)) <;> simp [andThen]
  | .cond h body chain, ⟨hb, hc⟩, ch, m, out, rest, hm => by
    simp only [flattenItem, List.cons_append, run, List.append_assoc]
    cases ha : active ch
    · rw [step_inactive cv ch m out ha, shape_headDir]
      simp only []
      rw [Items.refines Inv cv body hb _ _ _ _ hm]
      have h1 : active (⟨CS.DisabledInner, false⟩ :: ch) = false := by simp [active_cons]
      rw [h1, Items.sel_false]
      simp only [andThen]
      rw [Chain.refines Inv cv chain hc _ _ _ _ _ hm, ha, Chain.sel_false]
      simp [Item.sel, andThen]
    · rw [step_head_active cv ch m out h ha]
      simp only [Item.sel, if_true]
      cases hv : (h.value cv m : Except (Reject CondErr) Bool) with
      | error e => simp [andThen]
      | ok b =>
        simp only []
        rw [Items.refines Inv cv body hb _ _ _ _ hm]
        have h1 : active (⟨pushState b, false⟩ :: ch) = b := by cases b <;> simp [active_cons, ha]
        rw [h1]
        cases hs : body.sel cv b (m, out) with
        | error e => simp [andThen]
        | ok s' =>
          have hm' := Items.sel_inv Inv cv body hb b m out s' hm hs
          simp only [andThen]
          rw [Chain.refines Inv cv chain hc _ _ _ _ _ hm', ha]
          cases b <;> simp [taken, andThen]
theorem Items.refines (Inv : Macros → Prop) (cv) : ∀ (is : Items), ItemsWF Inv cv is → ∀ (ch : List Block)
    (m : Macros) (out : Out) (rest : List Dir), Inv m →
    run cv ⟨ch, m, out⟩ (flattenItems is ++ rest) = andThen cv ch rest (is.sel cv (active ch) (m, out))
  | .nil, _, ch, m, out, rest, _ => by simp [flattenItems, Items.sel, andThen]
  | .cons i is, ⟨hi, his⟩, ch, m, out, rest, hm => by
    simp only [flattenItems, List.append_assoc]
    rw [Item.refines Inv cv i hi _ _ _ _ hm]
    simp only [Items.sel]
    cases hs : i.sel cv (active ch) (m, out) with
    | error e => simp [andThen]
    | ok s' =>
      have hm' := Item.sel_inv Inv cv i hi _ m out s' hm hs
      simp only [andThen]; rw [Items.refines Inv cv is his _ _ _ _ hm']; simp [andThen]
theorem Chain.refines (Inv : Macros → Prop) (cv) : ∀ (c : Chain), ChainWF Inv cv c → ∀ (top : CS)
    (r : List Block) (m : Macros) (out : Out) (rest : List Dir), Inv m →
    run cv ⟨⟨top, false⟩ :: r, m, out⟩ (flattenChain c ++ rest) =
      andThen cv r rest (c.sel cv (active r) (taken top) (m, out))
  | .endif, _, top, r, m, out, rest, _ => by
    simp [flattenChain, run, step_endif, Chain.sel, andThen]
  | .els body, hb, top, r, m, out, rest, hm => by
    simp only [flattenChain, List.cons_append, run, step_els, List.append_assoc]
    rw [Items.refines Inv cv body hb _ _ _ _ hm]
    have h1 : active (⟨top.switch true, true⟩ :: r) = (active r && !taken top) := by
      cases top <;> simp [active_cons, taken]
    rw [h1]
    simp only [Chain.sel]
    cases body.sel cv (active r && !taken top) (m, out) with
    | error e => simp [andThen]
    | ok s' => simp [andThen, run, step_endif]
  | .elif c body chain, ⟨hc, hb, hch⟩, top, r, m, out, rest, hm => by
    obtain ⟨b, hcv⟩ := hc m hm
    simp only [flattenChain, List.cons_append, run, step_elif cv top r m out c b hcv, List.append_assoc]
    rw [Items.refines Inv cv body hb _ _ _ _ hm]
    simp only [Chain.sel]
    cases top with
    | DisabledInner =>
      cases har : active r
      · simp only [active_cons, har, Bool.and_false, Items.sel_false, andThen]
        rw [Chain.refines Inv cv chain hch _ _ _ _ _ hm, har]
        simp [Chain.sel_false, andThen]
      · have h1 : active (⟨CS.switch .DisabledInner b, false⟩ :: r) = b := by cases b <;> simp [active_cons, har]
        rw [h1]
        simp only [taken, Bool.not_false, Bool.and_self, if_true, hcv]
        cases hs : body.sel cv b (m, out) with
        | error e => simp [andThen]
        | ok s' =>
          have hm' := Items.sel_inv Inv cv body hb b m out s' hm hs
          simp only [andThen]
          rw [Chain.refines Inv cv chain hch _ _ _ _ _ hm', har]
          cases b <;> simp [taken, andThen]
    | Enabled =>
      simp only [switch_en, active_cons, do_beq_en, Bool.false_and, Items.sel_false, andThen]
      rw [Chain.refines Inv cv chain hch _ _ _ _ _ hm]
      simp [taken, andThen]
    | DisabledOuter =>
      simp only [switch_do, active_cons, do_beq_en, Bool.false_and, Items.sel_false, andThen]
      rw [Chain.refines Inv cv chain hch _ _ _ _ _ hm]
      simp [taken, andThen]
end

/-- a line that cannot be rejected for a reason other than nesting -/
def CleanDir (cv : Macros → List CTok → Except CondErr Bool) : Dir → Prop
  | .ifc c | .elif c => Total cv c
  | .pragma .unknown => False
  | .incl none => False
  | .unknown => False
  | .nonName => False
  | _ => True

def shapeErr : ShapeErr → Err
  | .unmatchedElse => .chain .ElseNotMatched
  | .unmatchedEndif => .chain .EndIfNotMatched
  | .unterminated => .chain .ConditionChainNotFinished
  | .elseAfterElse => .chain .ElseAfterElse
  | .elifAfterElse => .chain .ElifAfterElse

/-- what the grammar scan keeps of the stack: per open block, has its `#else` been seen -/
def flags (ch : List Block) : List Bool := ch.map (·.seenElse)

def scanStep (st : List Bool) : Shape → Except ShapeErr (List Bool)
  | .opens => .ok (false :: st)
  | .elif => match st with
    | [] => .error .unmatchedElse
    | true :: _ => .error .elifAfterElse
    | false :: _ => .ok st
  | .els => match st with
    | [] => .error .unmatchedElse
    | true :: _ => .error .elseAfterElse
    | false :: st' => .ok (true :: st')
  | .endif => match st with
    | [] => .error .unmatchedEndif
    | _ :: st' => .ok st'
  | .other => .ok st

theorem scanC_cons (st : List Bool) (sh : Shape) (r : List Shape) :
    scanC st (sh :: r) = match scanStep st sh with
      | .ok st' => scanC st' r
      | .error e => .error e := by
  cases sh with
  | opens => simp [scanC, scanStep]
  | other => simp [scanC, scanStep]
  | endif => cases st <;> simp [scanC, scanStep]
  | elif => rcases st with _ | ⟨_ | _, _⟩ <;> simp [scanC, scanStep]
  | els => rcases st with _ | ⟨_ | _, _⟩ <;> simp [scanC, scanStep]

/-- one clean line moves the automaton exactly as the grammar scan moves its flag stack, and fails exactly
    where the scan fails, with the corresponding error variant -/
theorem step_flags (cv) (d : Dir) (hc : CleanDir cv d) (ch : List Block) (m : Macros) (out : List (List CTok)) :
    match scanStep (flags ch) (shape d) with
    | .ok st' => ∃ s', step cv ⟨ch, m, out⟩ d = .ok s' ∧ flags s'.chain = st'
    | .error e => step cv ⟨ch, m, out⟩ d = .error (shapeErr e) := by
  cases d with
  | elif c =>
    obtain ⟨b, hb⟩ := hc m trivial
    rw [step_notGated cv _ (.elif c) gate_elif]
    rcases ch with _ | ⟨⟨c0, _ | _⟩, r⟩ <;> simp [shape, scanStep, flags, exec, hb, switchTop, shapeErr]
  | els =>
    rw [step_notGated cv _ .els gate_else]
    rcases ch with _ | ⟨⟨c0, _ | _⟩, r⟩ <;> simp [shape, scanStep, flags, exec, switchTop, shapeErr]
  | endif =>
    rw [step_notGated cv _ .endif gate_endif]
    cases ch <;> simp [shape, scanStep, flags, exec, shapeErr]
  | ifc c =>
    obtain ⟨b, hb⟩ := hc m trivial
    cases ha : active ch
    · simp [step_inactive cv _ _ _ ha, shape, scanStep, flags]
    · simp [step_active cv _ _ _ ha, shape, scanStep, flags, exec, hb]
  | pragma k =>
    cases ha : active ch
    · rw [step_inactive cv _ _ _ ha]; cases k <;> simp [shape, scanStep]
    · rw [step_active cv _ _ _ ha]; cases k <;> simp_all [shape, scanStep, exec, CleanDir]
  | incl f =>
    cases ha : active ch
    · simp [step_inactive cv _ _ _ ha, shape, scanStep]
    · rw [step_active cv _ _ _ ha]; cases f <;> simp_all [shape, scanStep, exec, CleanDir]
  | unknown => simp_all [CleanDir]
  | nonName => simp_all [CleanDir]
  | _ =>
    cases ha : active ch
    · simp [step_inactive cv _ _ _ ha, shape, scanStep, flags]
    · simp [step_active cv _ _ _ ha, shape, scanStep, flags, exec]

/-- what `runFile` does with the result of `run`, the final state forgotten: the end-of-file test of
    `preprocess_included_file` (file base 0), then the one of `preprocess_initial_file`.  So
    `finish (run cv ⟨[], m, []⟩ ds)` unfolds to `(runFile cv m ds).map fun _ => ()`. -/
def finish (r : Except Err St) : Except Err Unit :=
  Except.map (fun _ => ()) <| match r with
    | .ok s =>
      if s.chain.length ≠ 0 then .error (.chain fileUnfinishedErr)
      else if s.chain.isEmpty then .ok s else .error (.chain unfinishedErr)
    | .error e => .error e

theorem run_scan (cv) : ∀ (ds : List Dir), (∀ d ∈ ds, CleanDir cv d) → ∀ (s : St),
    finish (run cv s ds) = (scanC (flags s.chain) (ds.map shape)).mapError shapeErr
  | [], _, s => by
    cases hch : s.chain <;> simp [run, finish, scanC, flags, hch, Except.mapError, Except.map, shapeErr]
  | d :: ds, hcl, ⟨ch, m, out⟩ => by
    have hd := hcl d (by simp)
    have ih := run_scan cv ds (fun d hd => hcl d (by simp [hd]))
    have hs := step_flags cv d hd ch m out
    simp only [run, List.map_cons, scanC_cons]
    cases hst : scanStep (flags ch) (shape d) with
    | error e =>
      rw [hst] at hs
      simp [hs, finish, Except.mapError, Except.map]
    | ok st' =>
      rw [hst] at hs
      obtain ⟨s', h1, h2⟩ := hs
      simp [h1, ih, h2]

/-- the error-naming scan accepts exactly what the Boolean strict scan accepts -/
theorem scanC_ok_iff_strict : ∀ (l : List Shape) (st : List Bool), scanC st l = .ok () ↔ scanStrict st l = true
  | [], st => by cases st <;> simp [scanC, scanStrict]
  | .opens :: r, st => by simp [scanC, scanStrict, scanC_ok_iff_strict r]
  | .other :: r, st => by simp [scanC, scanStrict, scanC_ok_iff_strict r]
  | .endif :: r, st => by cases st <;> simp [scanC, scanStrict, scanC_ok_iff_strict r]
  | .elif :: r, st => by rcases st with _ | ⟨_ | _, _⟩ <;> simp [scanC, scanStrict, scanC_ok_iff_strict r]
  | .els :: r, st => by rcases st with _ | ⟨_ | _, _⟩ <;> simp [scanC, scanStrict, scanC_ok_iff_strict r]

mutual
theorem Item.strict : ∀ (i : Item) (st : List Bool) (rest : List Shape),
    scanStrict st ((flattenItem i).map shape ++ rest) = scanStrict st rest
  | .plain p, st, rest => by simp [flattenItem, shape_plainDir, scanStrict]
  | .cond h body chain, st, rest => by
    simp only [flattenItem, List.map_cons, List.map_append, List.cons_append, List.append_assoc, shape_headDir,
      scanStrict]
    rw [Items.strict body, Chain.strict chain]
theorem Items.strict : ∀ (is : Items) (st : List Bool) (rest : List Shape),
    scanStrict st ((flattenItems is).map shape ++ rest) = scanStrict st rest
  | .nil, st, rest => by simp [flattenItems]
  | .cons i is, st, rest => by
    simp only [flattenItems, List.map_append, List.append_assoc]
    rw [Item.strict i, Items.strict is]
theorem Chain.strict : ∀ (c : Chain) (st : List Bool) (rest : List Shape),
    scanStrict (false :: st) ((flattenChain c).map shape ++ rest) = scanStrict st rest
  | .endif, st, rest => by simp [flattenChain, shape, scanStrict]
  | .els body, st, rest => by
    simp only [flattenChain, List.map_cons, List.map_append, List.cons_append, List.append_assoc, shape,
      scanStrict]
    rw [Items.strict body]
    simp [scanStrict]
  | .elif c body chain, st, rest => by
    simp only [flattenChain, List.map_cons, List.map_append, List.cons_append, List.append_assoc, shape,
      scanStrict]
    rw [Items.strict body, Chain.strict chain]
end

end RsslVerif.Lemmas.CondChain
