import RsslVerif.Model.Usage
import RsslVerif.Spec.Usage
import RsslVerif.Lemmas.Basics
/-!
# Lemmas about the usage fixpoint loop (C02)

A pure shadow of the `Except` model (`unionP`, `stepP`, `sweepP`, `recP`), the loop invariant `Inv`, the measure
`total`, and the agreement of the `Except` model with its shadow on closed tables.
-/
namespace RsslVerif.Lemmas.Usage
open RsslVerif.Model.Usage RsslVerif.Spec.Usage RsslVerif.Lemmas.Basics

theorem mem_insertSym {s : SymSet} {x y : Sym} : y ∈ insertSym s x ↔ y ∈ s ∨ y = x := by
  unfold insertSym
  split
  · rename_i hx
    exact ⟨.inl, fun h => h.elim id (· ▸ hx)⟩
  · simp

theorem mem_extend {xs : List Sym} : ∀ {s : SymSet} {y : Sym}, y ∈ extend s xs ↔ y ∈ s ∨ y ∈ xs := by
  induction xs with
  | nil => intro s y; simp [extend]
  | cons x xs ih => intro s y; simp only [extend, ih, mem_insertSym, List.mem_cons, or_assoc]

theorem prefix_insertSym (s : SymSet) (x : Sym) : s <+: insertSym s x := by
  unfold insertSym
  split
  · exact List.prefix_rfl
  · exact List.prefix_append s [x]

theorem prefix_extend (xs : List Sym) : ∀ s : SymSet, s <+: extend s xs := by
  induction xs with
  | nil => exact fun s => List.prefix_rfl
  | cons x xs ih => exact fun s => (prefix_insertSym s x).trans (ih _)

theorem nodup_insertSym {s : SymSet} {x : Sym} (h : s.Nodup) : (insertSym s x).Nodup := by
  unfold insertSym
  split
  · exact h
  · rename_i hx
    simpa [List.nodup_append, h] using fun a ha (e : a = x) => hx (e ▸ ha)

theorem nodup_extend {xs : List Sym} : ∀ {s : SymSet}, s.Nodup → (extend s xs).Nodup := by
  induction xs with
  | nil => intro s h; simpa [extend] using h
  | cons x xs ih => intro s h; exact ih (nodup_insertSym h)

theorem keysOf_setKey (t : Table) (key : Sym) (v : SymSet) : keysOf (setKey t key v) = keysOf t := by
  unfold keysOf setKey
  rw [List.map_map]
  apply List.map_congr_left
  intro e _
  simp only [Function.comp]
  split <;> rfl

theorem lookup_eq_none_of_not_mem {t : Table} {k : Sym} (h : k ∉ keysOf t) : t.lookup k = none :=
  List.lookup_eq_none_iff.2 fun e he => by simpa using fun hk => h (List.mem_map.2 ⟨e, he, hk.symm⟩)

theorem lookup_isSome_of_mem {t : Table} {k : Sym} (h : k ∈ keysOf t) : ∃ s, t.lookup k = some s := by
  obtain ⟨e, he, rfl⟩ := List.mem_map.1 h
  exact Option.isSome_iff_exists.1 (List.lookup_isSome_iff.2 ⟨e, he, by simp⟩)

theorem lookup_eq_val {t : Table} {k : Sym} (h : k ∈ keysOf t) : t.lookup k = some (val t k) := by
  obtain ⟨s, hs⟩ := lookup_isSome_of_mem h
  simp [val, hs]

theorem val_of_not_mem {t : Table} {k : Sym} (h : k ∉ keysOf t) : val t k = [] := by
  simp [val, lookup_eq_none_of_not_mem h]

theorem mem_keys_of_val_ne_nil {t : Table} {k x : Sym} (h : x ∈ val t k) : k ∈ keysOf t := by
  by_cases hk : k ∈ keysOf t
  · exact hk
  · rw [val_of_not_mem hk] at h; simp at h

theorem lookup_setKey (t : Table) (key : Sym) (v : SymSet) (k : Sym) :
    (setKey t key v).lookup k = if k = key then (t.lookup k).map (fun _ => v) else t.lookup k := by
  induction t with
  | nil => simp [setKey]
  | cons e t ih =>
    obtain ⟨a, s⟩ := e
    have ih' : List.lookup k (List.map (fun e => if e.1 = key then (e.1, v) else e) t) =
        if k = key then (t.lookup k).map (fun _ => v) else t.lookup k := ih
    by_cases hak : a = key
    · subst hak
      by_cases hk : k = a
      · subst hk; simp [setKey]
      · have : (k == a) = false := by simpa using hk
        simp [setKey, List.lookup_cons, this, hk, ih']
    · by_cases hk : k = a
      · subst hk
        have hne : ¬ k = key := hak
        simp [setKey, hak]
      · have : (k == a) = false := by simpa using hk
        simp only [setKey, List.map_cons, hak, if_false, List.lookup_cons, this]
        exact ih'

theorem val_setKey (t : Table) (key : Sym) (v : SymSet) (k : Sym) :
    val (setKey t key v) k = if k = key ∧ key ∈ keysOf t then v else val t k := by
  unfold val
  rw [lookup_setKey]
  by_cases hk : k = key
  · subst hk
    by_cases hm : k ∈ keysOf t
    · obtain ⟨s, hs⟩ := lookup_isSome_of_mem hm
      simp [hs, hm]
    · simp [lookup_eq_none_of_not_mem hm, hm]
  · simp [hk]

/-! ## the pure shadow of the loop -/

def unionP (t : Table) : List Sym → SymSet → SymSet
  | [], acc => acc
  | o :: os, acc => unionP t os (extend acc (val t o))

def newSet (t : Table) (k : Sym) : SymSet := unionP t (val t k) (val t k)

def stepP (t : Table) (key : Sym) : Table × Bool :=
  if (newSet t key).length > (val t key).length then (setKey t key (newSet t key), true) else (t, false)

def sweepP (t : Table) (modified : Bool) : List Sym → Table × Bool
  | [] => (t, modified)
  | k :: ks => sweepP (stepP t k).1 (modified || (stepP t k).2) ks

def recP : Nat → List Sym → Table → Option Table
  | 0, _, _ => none
  | n + 1, keys, t =>
    if (sweepP t false keys).2 then recP n keys (sweepP t false keys).1 else some (sweepP t false keys).1

theorem mem_unionP {t : Table} {os : List Sym} : ∀ {acc : SymSet} {x : Sym},
    x ∈ unionP t os acc ↔ x ∈ acc ∨ ∃ o ∈ os, x ∈ val t o := by
  induction os with
  | nil => intro acc x; simp [unionP]
  | cons o os ih => intro acc x; simp [unionP, ih, mem_extend, or_assoc]

theorem prefix_unionP (t : Table) (os : List Sym) : ∀ acc : SymSet, acc <+: unionP t os acc := by
  induction os with
  | nil => exact fun acc => List.prefix_rfl
  | cons o os ih => exact fun acc => (prefix_extend (val t o) acc).trans (ih _)

theorem nodup_unionP {t : Table} {os : List Sym} : ∀ {acc : SymSet}, acc.Nodup → (unionP t os acc).Nodup := by
  induction os with
  | nil => intro acc h; simpa [unionP] using h
  | cons o os ih => intro acc h; exact ih (nodup_extend h)

theorem length_newSet_ge (t : Table) (k : Sym) : (val t k).length ≤ (newSet t k).length :=
  (prefix_unionP t _ _).length_le

/-- `new_set.len() > current.len()` is false exactly when nothing was added: the old set is a prefix of the new one -/
theorem newSet_eq_of_not_grown {t : Table} {k : Sym} (h : ¬ (newSet t k).length > (val t k).length) :
    newSet t k = val t k :=
  ((prefix_unionP t _ _).eq_of_length_le (Nat.le_of_not_lt h)).symm

/-- a key is *stable* when its set already contains the sets of all its members -/
def Stable (t : Table) (k : Sym) : Prop := ∀ o ∈ val t k, ∀ x ∈ val t o, x ∈ val t k

theorem stable_of_not_grown {t : Table} {k : Sym} (h : ¬ (newSet t k).length > (val t k).length) :
    Stable t k := by
  intro o ho x hx
  have e := newSet_eq_of_not_grown h
  have : x ∈ newSet t k := mem_unionP.2 (.inr ⟨o, ho, hx⟩)
  rwa [e] at this

theorem sweepP_unmodified {keys : List Sym} : ∀ {t : Table} {m : Bool},
    (sweepP t m keys).2 = false → m = false ∧ (sweepP t m keys).1 = t ∧ ∀ k ∈ keys, Stable t k := by
  induction keys with
  | nil => intro t m h; simpa [sweepP] using h
  | cons k ks ih =>
    intro t m h
    simp only [sweepP] at h ⊢
    obtain ⟨hm, ht, hs⟩ := ih h
    have hm' : m = false ∧ (stepP t k).2 = false := by simpa using hm
    have hstep : ¬ (newSet t k).length > (val t k).length := fun hg => by simp [stepP, hg] at hm'
    have e : (stepP t k).1 = t := by simp [stepP, hstep]
    rw [e] at hs
    refine ⟨hm'.1, ht.trans e, ?_⟩
    intro k' hk'
    rcases List.mem_cons.1 hk' with rfl | hk'
    · exact stable_of_not_grown hstep
    · exact hs k' hk'

/-- the "mentions" relation of a table -/
def Mentions (t : Table) (a b : Sym) : Prop := b ∈ val t a

/-- tables the analysis starts from: every mentioned symbol has an entry, sets are duplicate-free -/
structure WF (t : Table) : Prop where
  closed : ∀ k x, x ∈ val t k → x ∈ keysOf t
  nodup : ∀ k, (val t k).Nodup

/-- invariant of the loop, relative to the initial table `t₀` -/
structure Inv (t₀ t : Table) : Prop where
  keys : keysOf t = keysOf t₀
  infl : ∀ k x, x ∈ val t₀ k → x ∈ val t k
  sound : ∀ k x, x ∈ val t k → Needs (Mentions t₀) k x
  closed : ∀ k x, x ∈ val t k → x ∈ keysOf t₀
  nodup : ∀ k, (val t k).Nodup

theorem Inv.init {t₀ : Table} (h : WF t₀) : Inv t₀ t₀ :=
  ⟨rfl, fun _ _ hx => hx, fun _ _ hx => Needs.of_mentions hx, h.closed, h.nodup⟩

theorem mem_newSet {t : Table} {k x : Sym} :
    x ∈ newSet t k ↔ x ∈ val t k ∨ ∃ o ∈ val t k, x ∈ val t o := mem_unionP

theorem Inv.step {t₀ t : Table} (h : Inv t₀ t) (key : Sym) : Inv t₀ (stepP t key).1 := by
  unfold stepP
  split
  · -- the key's set is replaced by `newSet t key`
    have hv : ∀ k, val (setKey t key (newSet t key)) k =
        if k = key ∧ key ∈ keysOf t then newSet t key else val t k := val_setKey t key _
    refine ⟨by rw [keysOf_setKey]; exact h.keys, ?_, ?_, ?_, ?_⟩
    · intro k x hx
      rw [hv]
      split
      · rename_i hk
        rw [hk.1] at hx
        exact mem_newSet.2 (.inl (h.infl key x hx))
      · exact h.infl k x hx
    · intro k x hx
      rw [hv] at hx
      split at hx
      · rename_i hk
        rw [hk.1]
        rcases mem_newSet.1 hx with hx | ⟨o, ho, hx⟩
        · exact h.sound key x hx
        · exact (h.sound key o ho).trans (h.sound o x hx)
      · exact h.sound k x hx
    · intro k x hx
      rw [hv] at hx
      split at hx
      · rcases mem_newSet.1 hx with hx | ⟨o, _, hx⟩
        · exact h.closed key x hx
        · exact h.closed o x hx
      · exact h.closed k x hx
    · intro k
      rw [hv]
      split
      · exact nodup_unionP (h.nodup key)
      · exact h.nodup k
  · exact h

theorem Inv.sweep {t₀ : Table} {keys : List Sym} : ∀ {t : Table} {m : Bool},
    Inv t₀ t → Inv t₀ (sweepP t m keys).1 := by
  induction keys with
  | nil => intro t m h; simpa [sweepP] using h
  | cons k ks ih => intro t m h; simp only [sweepP]; exact ih (h.step k)

def total (t : Table) : Nat := ((keysOf t).map fun k => (val t k).length).sum

theorem total_step (t : Table) (key : Sym) :
    total t ≤ total (stepP t key).1 ∧ ((stepP t key).2 = true → total t < total (stepP t key).1) := by
  unfold stepP
  split
  · rename_i hg
    have hkey : key ∈ keysOf t := by
      by_cases hk : key ∈ keysOf t
      · exact hk
      · have e : val t key = [] := val_of_not_mem hk
        simp [newSet, e, unionP] at hg
    have hpt : ∀ k ∈ keysOf t, (val t k).length ≤ (val (setKey t key (newSet t key)) k).length := by
      intro k _
      rw [val_setKey]
      split
      · rename_i hk; rw [hk.1]; exact length_newSet_ge t key
      · exact Nat.le_refl _
    have hlt : (val t key).length < (val (setKey t key (newSet t key)) key).length := by
      rw [val_setKey]; simp [hkey]; exact hg
    have : total t < total (setKey t key (newSet t key)) := by
      unfold total
      rw [keysOf_setKey]
      exact sum_map_lt hpt hkey hlt
    exact ⟨Nat.le_of_lt this, fun _ => this⟩
  · exact ⟨Nat.le_refl _, fun h => Bool.noConfusion h⟩

theorem total_sweep {keys : List Sym} : ∀ (t : Table) (m : Bool),
    total t ≤ total (sweepP t m keys).1 ∧
    ((sweepP t m keys).2 = true → m = false → total t < total (sweepP t m keys).1) := by
  induction keys with
  | nil => intro t m; simp only [sweepP]; exact ⟨Nat.le_refl _, fun h1 h2 => by rw [h2] at h1; exact Bool.noConfusion h1⟩
  | cons k ks ih =>
    intro t m
    simp only [sweepP]
    have hs := total_step t k
    have hr := ih (stepP t k).1 (m || (stepP t k).2)
    refine ⟨Nat.le_trans hs.1 hr.1, ?_⟩
    intro h1 h2
    subst h2
    by_cases hstep : (stepP t k).2 = true
    · exact Nat.lt_of_lt_of_le (hs.2 hstep) hr.1
    · have hf : (stepP t k).2 = false := by simpa using hstep
      have := hr.2 h1 (by simp [hf])
      exact Nat.lt_of_le_of_lt hs.1 this

theorem total_le_of_inv {t₀ t : Table} (h : Inv t₀ t) : total t ≤ t₀.length * t₀.length := by
  unfold total
  rw [h.keys]
  have hb : ∀ k ∈ keysOf t₀, (val t k).length ≤ t₀.length := fun k _ => by
    simpa [keysOf] using (h.nodup k).length_le_of_subset (h.closed k)
  simpa [keysOf] using sum_map_le_mul hb

/-- enough fuel: the loop returns a table -/
theorem recP_some {t₀ : Table} {keys : List Sym} : ∀ (fuel : Nat) (t : Table), Inv t₀ t →
    t₀.length * t₀.length - total t < fuel → ∃ t', recP fuel keys t = some t' := by
  intro fuel
  induction fuel with
  | zero => intro t _ h; omega
  | succ n ih =>
    intro t hinv hf
    simp only [recP]
    split
    · rename_i hm
      have hinv' : Inv t₀ (sweepP t false keys).1 := hinv.sweep
      have hlt := (total_sweep (keys := keys) t false).2 hm rfl
      have hb := total_le_of_inv hinv'
      exact ih _ hinv' (by omega)
    · exact ⟨_, rfl⟩

/-- what the loop returns satisfies the invariant and is stable at every key it iterates -/
theorem recP_spec {t₀ : Table} {keys : List Sym} : ∀ (fuel : Nat) (t t' : Table), Inv t₀ t →
    recP fuel keys t = some t' → Inv t₀ t' ∧ ∀ k ∈ keys, Stable t' k := by
  intro fuel
  induction fuel with
  | zero => intro t t' _ h; simp [recP] at h
  | succ n ih =>
    intro t t' hinv h
    simp only [recP] at h
    split at h
    · exact ih _ _ hinv.sweep h
    · rename_i hm
      have hm' : (sweepP t false keys).2 = false := by simpa using hm
      obtain ⟨_, ht, hs⟩ := sweepP_unmodified hm'
      have e : t' = t := by
        have := Option.some.inj h
        rw [← this, ht]
      subst e
      exact ⟨hinv, hs⟩

/-- in a stable table the set of everything reachable from `k` is contained in `k`'s set -/
theorem reach_subset {t₀ t : Table} (hinv : Inv t₀ t) (hs : ∀ k ∈ keysOf t₀, Stable t k) {k h : Sym}
    (hreach : Reach (Mentions t₀) k h) : ∀ y, y ∈ val t h → y ∈ val t k := by
  induction hreach with
  | refl => intro y hy; exact hy
  | tail _ r ih =>
    rename_i b c _
    intro y hy
    have hb : b ∈ keysOf t₀ := mem_keys_of_val_ne_nil (show c ∈ val t₀ b from r)
    have hc : c ∈ val t b := hinv.infl b c r
    exact ih y (hs b hb c hc y hy)

/-- a table that satisfies the invariant and is stable at all its keys is the reachability closure -/
theorem closure_of_stable {t₀ t : Table} (hinv : Inv t₀ t) (hs : ∀ k ∈ keysOf t₀, Stable t k) (k x : Sym) :
    x ∈ val t k ↔ Needs (Mentions t₀) k x := by
  constructor
  · exact hinv.sound k x
  · rintro ⟨h, hreach, hm⟩
    exact reach_subset hinv hs hreach x (hinv.infl h x hm)

/-! ## the `Except` model agrees with its shadow on closed tables -/

theorem unionOthers_eq {t : Table} {os : List Sym} : ∀ {acc : SymSet}, (∀ o ∈ os, o ∈ keysOf t) →
    unionOthers t os acc = .ok (unionP t os acc) := by
  induction os with
  | nil => intro acc _; rfl
  | cons o os ih =>
    intro acc h
    have ho : o ∈ keysOf t := h o (by simp)
    simp only [unionOthers, lookup_eq_val ho, unionP]
    exact ih (fun o' ho' => h o' (by simp [ho']))

theorem stepKey_eq {t₀ t : Table} (hinv : Inv t₀ t) {key : Sym} (hk : key ∈ keysOf t₀) :
    stepKey t key = .ok (stepP t key) := by
  have hk' : key ∈ keysOf t := by rw [hinv.keys]; exact hk
  have hcl : ∀ o ∈ val t key, o ∈ keysOf t := by
    intro o ho; rw [hinv.keys]; exact hinv.closed key o ho
  simp only [stepKey, lookup_eq_val hk', unionOthers_eq hcl, stepP, newSet]
  split <;> simp [*]

theorem sweep_eq {t₀ : Table} {keys : List Sym} : ∀ {t : Table} {m : Bool}, Inv t₀ t →
    (∀ k ∈ keys, k ∈ keysOf t₀) → sweep t m keys = .ok (sweepP t m keys) := by
  induction keys with
  | nil => intro t m _ _; rfl
  | cons k ks ih =>
    intro t m hinv hk
    simp only [sweep, stepKey_eq hinv (hk k (by simp)), sweepP]
    exact ih (hinv.step k) (fun k' hk' => hk k' (by simp [hk']))

theorem recurseFuel_eq {t₀ : Table} {keys : List Sym} (hk : ∀ k ∈ keys, k ∈ keysOf t₀) :
    ∀ (fuel : Nat) (t : Table), Inv t₀ t → recurseFuel fuel keys t = .ok (recP fuel keys t) := by
  intro fuel
  induction fuel with
  | zero => intro t _; rfl
  | succ n ih =>
    intro t hinv
    have hsw := hinv.sweep (keys := keys) (m := false)
    simp only [recurseFuel, sweep_eq hinv hk, recP]
    cases hs : sweepP t false keys with
    | mk t₁ m =>
      rw [hs] at hsw
      cases m
      · simp
      · simpa using ih t₁ hsw

/-- more than `|t₀|²` sweeps always reach the fixpoint -/
theorem recurseFuel_some {t₀ : Table} (hwf : WF t₀) {keys : List Sym} (hk : ∀ k ∈ keys, k ∈ keysOf t₀) (fuel : Nat)
    (hf : t₀.length * t₀.length < fuel) : ∃ t', recurseFuel fuel keys t₀ = .ok (some t') :=
  (recP_some (keys := keys) fuel t₀ (Inv.init hwf) (by omega)).imp fun _ h => by
    rw [recurseFuel_eq hk _ _ (Inv.init hwf), h]

/-! ## a checkable sufficient condition for `WF` -/

/-- a non-empty `val` is the set of an entry of the table -/
theorem val_entry {t : Table} {k x : Sym} (hx : x ∈ val t k) : (k, val t k) ∈ t := by
  cases hl : t.lookup k with
  | none => simp [val, hl] at hx
  | some s => simpa [val, hl] using mem_of_lookup_eq_some hl

def wfCheck (t : Table) : Bool :=
  t.all fun e => e.2.all (fun x => (keysOf t).contains x) && decide e.2.Nodup

theorem wf_of_check {t : Table} (h : wfCheck t = true) : WF t := by
  have he : ∀ e ∈ t, (∀ x ∈ e.2, x ∈ keysOf t) ∧ e.2.Nodup := by
    simpa [wfCheck, List.all_eq_true] using h
  constructor
  · intro k x hx
    exact (he _ (val_entry hx)).1 x hx
  · intro k
    cases hv : val t k with
    | nil => exact List.nodup_nil
    | cons x r => exact hv ▸ (he _ (val_entry (x := x) (by simp [hv]))).2

end RsslVerif.Lemmas.Usage

/-! ## the fixpoint loop of the analysis: no panic, termination, closure = reachability (C02; cited by C07 and C08) -/
namespace RsslVerif.Thm.C02
open RsslVerif.Gen.UsageTables RsslVerif.Model.Usage RsslVerif.Spec.Usage RsslVerif.Lemmas.Usage

/-- `recurse` never hits `Option::unwrap()` on `None`, whatever the fuel: every symbol a set mentions has an
    entry (calculate_local inserts one per function, global and constant buffer) -/
theorem recurse_no_panic {t₀ : Table} (hwf : WF t₀) {keys : List Sym} (hk : ∀ k ∈ keys, k ∈ keysOf t₀)
    (fuel : Nat) : ∃ r, recurseFuel fuel keys t₀ = .ok r :=
  ⟨_, recurseFuel_eq hk fuel t₀ (Inv.init hwf)⟩

/-- the loop terminates: the total size of the sets is at most `|keys|²` (`total_le_of_inv`) and every pass
    that reports `modified` strictly increases it (`total_sweep`), so `|keys|² + 1` passes suffice -/
theorem recurse_terminates {t₀ : Table} (hwf : WF t₀) {keys : List Sym} (hk : ∀ k ∈ keys, k ∈ keysOf t₀) :
    ∃ t', recurse keys t₀ = .ok (some t') :=
  recurseFuel_some hwf hk (fuelBound t₀) (by unfold fuelBound; omega)

/-- the measure statement itself: bounded, monotone, strictly increasing on a modified pass -/
theorem measure_bounded_and_increasing {t₀ t : Table} (hinv : Inv t₀ t) (keys : List Sym) :
    total t ≤ t₀.length * t₀.length ∧ total t ≤ total (sweepP t false keys).1 ∧
    ((sweepP t false keys).2 = true → total t < total (sweepP t false keys).1) :=
  ⟨total_le_of_inv hinv, (total_sweep t false).1, fun h => (total_sweep t false).2 h rfl⟩

theorem recurse_spec {t₀ t' : Table} (hwf : WF t₀) {keys : List Sym}
    (hk : ∀ k, k ∈ keys ↔ k ∈ keysOf t₀) (h : recurse keys t₀ = .ok (some t')) :
    Inv t₀ t' ∧ ∀ k ∈ keysOf t₀, Stable t' k := by
  unfold recurse at h
  rw [recurseFuel_eq (fun k hk' => (hk k).1 hk') _ _ (Inv.init hwf)] at h
  obtain ⟨hinv, hs⟩ := recP_spec _ _ _ (Inv.init hwf) (Except.ok.inj h)
  exact ⟨hinv, fun k hk' => hs k ((hk k).2 hk')⟩

/-- **closure = reachability**: after `recurse`, `g` is in `f`'s set iff some `h` reachable from `f` through
    mentions (reflexive-transitive) mentions `g` in the local table -/
theorem close_is_reachability {t₀ t' : Table} (hwf : WF t₀) {keys : List Sym}
    (hk : ∀ k, k ∈ keys ↔ k ∈ keysOf t₀) (h : recurse keys t₀ = .ok (some t')) (f g : Sym) :
    g ∈ val t' f ↔ ∃ h, Reach (Mentions t₀) f h ∧ g ∈ val t₀ h :=
  closure_of_stable (recurse_spec hwf hk h).1 (recurse_spec hwf hk h).2 f g

/-- the result does not depend on the iteration order of `self.0.keys()` (cited by C07) -/
theorem closure_order_independent {t₀ t₁ t₂ : Table} (hwf : WF t₀) {keys₁ keys₂ : List Sym}
    (hk₁ : ∀ k, k ∈ keys₁ ↔ k ∈ keysOf t₀) (hk₂ : ∀ k, k ∈ keys₂ ↔ k ∈ keysOf t₀)
    (h₁ : recurse keys₁ t₀ = .ok (some t₁)) (h₂ : recurse keys₂ t₀ = .ok (some t₂)) (f g : Sym) :
    g ∈ val t₁ f ↔ g ∈ val t₂ f := by
  rw [close_is_reachability hwf hk₁ h₁, close_is_reachability hwf hk₂ h₂]

/-- sets stay duplicate free and keys are unchanged (so `get_usage_for_function` never fails afterwards) -/
theorem closure_keeps_keys {t₀ t' : Table} (hwf : WF t₀) {keys : List Sym}
    (hk : ∀ k, k ∈ keys ↔ k ∈ keysOf t₀) (h : recurse keys t₀ = .ok (some t')) :
    keysOf t' = keysOf t₀ ∧ ∀ k, (val t' k).Nodup :=
  ⟨(recurse_spec hwf hk h).1.keys, (recurse_spec hwf hk h).1.nodup⟩

end RsslVerif.Thm.C02
