import RsslVerif.Spec.Meta
import RsslVerif.Lemmas.Slots
/-! Lemmas for C05 about `Model.Meta`: what a metadata entry and a printed annotation say (`hlslEvent_some`,
    `hlslAnnot_some`, ..), the registrations of a bind group (`events_group`), the annotation printers on the
    allocator's output (`GoodFor`, `annots_total`), and the Metal per-group sort (a permutation; the identity on
    sorted slots). -/
namespace RsslVerif.Lemmas.Meta
open RsslVerif.Gen.SlotTables RsslVerif.Gen.MetaTables RsslVerif.Model.Slots RsslVerif.Model.Meta RsslVerif.Spec.Meta
open RsslVerif.Spec.Slots (bound group)

/-- entries of bind group `g` (none when the group vector is shorter) -/
def bindingsAt (gs : List Group) (g : Nat) : List Entry :=
  match gs[g]? with
  | some grp => grp.bindings
  | none => []

theorem bindingsAt_nil (g : Nat) : bindingsAt [] g = [] := by simp [bindingsAt]

theorem bindingsAt_addAt (n : Nat) (e : Entry) : ∀ (gs : List Group) (m : Nat),
    bindingsAt (addAt n e gs) m = bindingsAt gs m ++ (if m = n then [e] else []) := by
  induction n with
  | zero =>
    intro gs m
    cases gs with
    | nil => cases m <;> simp [addAt, bindingsAt]
    | cons g gs => cases m <;> simp [addAt, bindingsAt]
  | succ n ih =>
    intro gs m
    cases gs with
    | nil =>
      cases m with
      | zero => simp [addAt, bindingsAt, Group.empty]
      | succ m =>
        have := ih [] m
        simp only [bindingsAt_nil, List.nil_append] at this
        simp only [addAt, bindingsAt, List.getElem?_cons_succ, List.getElem?_nil, List.nil_append,
          Nat.add_right_cancel_iff]
        simpa [bindingsAt] using this
    | cons g gs =>
      cases m with
      | zero => simp [addAt, bindingsAt]
      | succ m =>
        have := ih gs m
        simp only [addAt, bindingsAt, List.getElem?_cons_succ, Nat.add_right_cancel_iff]
        simpa [bindingsAt] using this

theorem bindingsAt_registerAll (evs : List (Nat × Entry)) : ∀ (gs : List Group) (g : Nat),
    bindingsAt (registerAll evs gs) g = bindingsAt gs g ++ (evs.filter (fun x => x.1 == g)).map (·.2) := by
  induction evs with
  | nil => intro gs g; simp [registerAll]
  | cons x r ih =>
    intro gs g
    obtain ⟨n, e⟩ := x
    simp only [registerAll, ih, bindingsAt_addAt, List.filter_cons]
    by_cases h : g = n
    · subst h; simp
    · have h' : ¬ n = g := fun e => h e.symm
      simp [h, h']

theorem bindingsAt_setInline {gs gs' : List Group} {b : InlineBuf} (h : setInline gs b = .ok gs') (g : Nat) :
    bindingsAt gs' g = bindingsAt gs g := by
  revert h
  fun_cases setInline gs b <;> intro h <;> cases h
  rename_i hget
  unfold bindingsAt
  by_cases hg : g = b.set
  · subst hg
    obtain ⟨hlt, heq⟩ := List.getElem?_eq_some_iff.1 hget
    simp [hlt, heq]
  · have hg' : ¬ b.set = g := fun e => hg e.symm
    simp [hg']

theorem bindingsAt_setInlines : ∀ {bs : List InlineBuf} {gs gs' : List Group},
    setInlines gs bs = .ok gs' → ∀ g, bindingsAt gs' g = bindingsAt gs g := by
  intro bs gs
  fun_induction setInlines gs bs <;> intro gs' h g
  · cases h; rfl
  · cases h
  · rename_i h1 ih
    rw [ih h g, bindingsAt_setInline h1 g]

/-- what both `analyse_bindings` have in common: no api slot, no entry; an api slot on a cbuffer or global
    registers one entry, in the slot's group, under the declaration's name -/
def EvOk (ev : MDecl → Option Binding → Except String (Option (Nat × Entry))) : Prop :=
  ∀ d ob o, ev d ob = .ok o →
    (ob = none → o = none) ∧
    (∀ b, ob = some b → d ≠ .other → ∃ e, o = some (b.set, e) ∧ e.name = d.name ∧ e.loc = b.loc)

/-- everything an HLSL metadata entry says is read off the declaration and its api slot (`mslEvent_some`: Metal) -/
theorem hlslEvent_some {d : MDecl} {ob : Option Binding} {g : Nat} {e : Entry}
    (h : hlslEvent d ob = .ok (some (g, e))) :
    ∃ b, ob = some b ∧ g = b.set ∧ e.name = d.name ∧ e.loc = b.loc ∧ e.used = true := by
  revert h
  fun_cases hlslEvent d ob <;> intro h <;> cases h <;> exact ⟨_, rfl, rfl, rfl, rfl, rfl⟩

/-- the entry of a global carries the descriptor type of its kind and the count of its array (`mslEvent_global`: Metal) -/
theorem hlslEvent_global {n : String} {s : Option Nat} {ss bl : Bool} {k : Option ObjKind} {arr : Arr} {st : Storage}
    {ob : Option Binding} {g : Nat} {e : Entry} (h : hlslEvent (.global n s ss k arr bl st) ob = .ok (some (g, e))) :
    descOf hlslDescType hlslNonObjectDescType k = .ok e.descType ∧ e.count = countOf arr := by
  generalize hd : MDecl.global n s ss k arr bl st = d at h
  revert h
  fun_cases hlslEvent d ob <;> intro h <;> cases h <;> cases hd
  exact ⟨‹_›, rfl⟩

theorem mslEvent_some {u : Bool} {d : MDecl} {ob : Option Binding} {g : Nat} {e : Entry}
    (h : mslEvent u d ob = .ok (some (g, e))) :
    ∃ b, ob = some b ∧ g = b.set ∧ e.name = d.name ∧ e.loc = b.loc ∧ e.used = u ∧
      b.set < argumentBufferNames.length := by
  revert h
  fun_cases mslEvent u d ob <;> intro h <;> cases h <;> exact ⟨_, rfl, rfl, rfl, rfl, rfl, by omega⟩

theorem mslEvent_global {u : Bool} {n : String} {s : Option Nat} {ss bl : Bool} {k : Option ObjKind} {arr : Arr}
    {st : Storage} {ob : Option Binding} {g : Nat} {e : Entry}
    (h : mslEvent u (.global n s ss k arr bl st) ob = .ok (some (g, e))) :
    descOf mslDescType mslNonObjectDescType k = .ok e.descType ∧ e.count = countOf arr := by
  generalize hd : MDecl.global n s ss k arr bl st = d at h
  revert h
  fun_cases mslEvent u d ob <;> intro h <;> cases h <;> cases hd
  exact ⟨‹_›, rfl⟩

/-- `EvOk` from what a registration says, and from "a slot on a declaration registers" -/
theorem evOk_of_some {ev : MDecl → Option Binding → Except String (Option (Nat × Entry))}
    (hsome : ∀ {d ob g e}, ev d ob = .ok (some (g, e)) → ∃ b, ob = some b ∧ g = b.set ∧ e.name = d.name ∧ e.loc = b.loc)
    (hprog : ∀ {d b}, d ≠ .other → ev d (some b) ≠ .ok none) : EvOk ev := by
  intro d ob o h
  cases o with
  | none => exact ⟨fun _ => rfl, fun b hb hd => absurd (hb ▸ h) (hprog hd)⟩
  | some x =>
    obtain ⟨g, e⟩ := x
    obtain ⟨b, rfl, rfl, hn, hl⟩ := hsome h
    exact ⟨fun hb => (by cases hb), fun b' hb _ => (by cases hb; exact ⟨e, rfl, hn, hl⟩)⟩

theorem hlslEvent_ok : EvOk hlslEvent := by
  refine evOk_of_some (fun h => ?_) (fun {d b} hd h => ?_)
  · obtain ⟨b, hb, hg, hn, hl, _⟩ := hlslEvent_some h
    exact ⟨b, hb, hg, hn, hl⟩
  · cases d with
    | other => exact hd rfl
    | cbuffer n s => cases h
    | global n s ss k arr bl st =>
      simp only [hlslEvent] at h
      split at h <;> cases h

theorem mslEvent_ok (u : Bool) : EvOk (mslEvent u) := by
  refine evOk_of_some (fun h => ?_) (fun {d b} hd h => ?_)
  · obtain ⟨b, hb, hg, hn, hl, _⟩ := mslEvent_some h
    exact ⟨b, hb, hg, hn, hl⟩
  · generalize hob : some b = ob at h
    revert h
    fun_cases mslEvent u d ob <;> intro h <;> cases hob <;> cases h
    exact hd rfl

/-- names of the externally bound declarations of group `g`, in declaration order -/
def boundNames (p : Params) (dflt g : Nat) (ds : List MDecl) : List String :=
  (ds.filter fun d => externallyBound p d && (group dflt d.toSlot == g)).map MDecl.name

theorem toSlot_other {d : MDecl} (h : bound p d.toSlot = true) : d ≠ .other := by
  intro hd; subst hd; simp [MDecl.toSlot, bound] at h

/-- locations of the bindings of group `g`, in declaration order -/
def locsOf (g : Nat) : List (Option Binding) → List Loc
  | [] => []
  | none :: bs => locsOf g bs
  | some b :: bs => (if b.set = g then [b.loc] else []) ++ locsOf g bs

theorem extern_of_bound {p : Params} {n : String} {s : Option Nat} {ss bl : Bool} {k : Option ObjKind} {arr : Arr}
    {st : Storage} (h : bound p (MDecl.global n s ss k arr bl st).toSlot = true) : st = .extern := by
  apply Decidable.byContradiction
  intro hst
  simp [MDecl.toSlot, hst, bound] at h

theorem events_cons_ok {ev : Nat → MDecl → Option Binding → Except String (Option (Nat × Entry))} {i : Nat}
    {d : MDecl} {ds : List MDecl} {ob : Option Binding} {bs : List (Option Binding)} {evs : List (Nat × Entry)} :
    events ev i (d :: ds) (ob :: bs) = .ok evs ↔
      ∃ o r, ev i d ob = .ok o ∧ events ev (i + 1) ds bs = .ok r ∧ evs = o.toList ++ r := by
  constructor
  · intro h
    simp only [events] at h
    split at h
    · cases h
    · rename_i o ho
      split at h
      · cases h
      · rename_i r hr
        cases h
        exact ⟨o, r, ho, hr, by cases o <;> rfl⟩
  · rintro ⟨o, r, ho, hr, rfl⟩
    simp only [events, ho, hr]
    cases o <;> rfl

/-- **the registrations of group `g`** carry, in declaration order, the names of the declarations bound in group `g`
    and the locations of their bindings -/
theorem events_group {p : Params} {dflt : Nat}
    {ev : Nat → MDecl → Option Binding → Except String (Option (Nat × Entry))} (hev : ∀ i, EvOk (ev i)) (g : Nat) :
    ∀ (ds : List MDecl) (bs : List (Option Binding)) (i : Nat) (evs : List (Nat × Entry)),
      RsslVerif.Thm.C06.Agrees p dflt (ds.map MDecl.toSlot) bs → events ev i ds bs = .ok evs →
      (evs.filter (fun x => x.1 == g)).map (·.2.name) = boundNames p dflt g ds ∧
      (evs.filter (fun x => x.1 == g)).map (·.2.loc) = locsOf g bs
  | [], [], i, evs, _, h => by
    simp only [events] at h; cases h; exact ⟨rfl, rfl⟩
  | [], _ :: _, _, _, hag, _ => absurd hag.length_eq (by simp)
  | d :: ds, [], _, _, hag, _ => absurd hag.length_eq (by simp)
  | d :: ds, ob :: bs, i, evs, hag, h => by
    rw [List.map_cons, RsslVerif.Thm.C06.Agrees.cons_iff] at hag
    obtain ⟨o, r, ho, hr, rfl⟩ := events_cons_ok.1 h
    have ih := events_group hev g ds bs (i + 1) r hag.2 hr
    obtain ⟨hnone, hsome⟩ := hev i d ob o ho
    simp only [boundNames, externallyBound, List.filter_cons] at ih ⊢
    cases ob with
    | none =>
      cases hnone rfl
      have hb : bound p d.toSlot = false := hag.1
      simpa only [hb, locsOf, Option.toList, List.nil_append, Bool.false_and, Bool.false_eq_true, if_false] using ih
    | some b =>
      obtain ⟨hb, hset, _⟩ := hag.1
      obtain ⟨e, rfl, hname, hloc⟩ := hsome b rfl (toSlot_other hb)
      simp only [locsOf, Option.toList, List.singleton_append, List.filter_cons, hb, Bool.true_and, ← hset]
      by_cases hg : b.set = g
      · simp [hg, hname, hloc, ih]
      · simp [hg, ih]

theorem events_names {p : Params} {dflt : Nat}
    {ev : Nat → MDecl → Option Binding → Except String (Option (Nat × Entry))} (hev : ∀ i, EvOk (ev i)) (g : Nat) :
    ∀ (ds : List MDecl) (bs : List (Option Binding)) (i : Nat) (evs : List (Nat × Entry)),
      RsslVerif.Thm.C06.Agrees p dflt (ds.map MDecl.toSlot) bs → events ev i ds bs = .ok evs →
      ((evs.filter (fun x => x.1 == g)).map (·.2.name)) = boundNames p dflt g ds :=
  fun ds bs i evs hag h => (events_group hev g ds bs i evs hag h).1

theorem events_locs {p : Params} {dflt : Nat}
    {ev : Nat → MDecl → Option Binding → Except String (Option (Nat × Entry))} (hev : ∀ i, EvOk (ev i)) (g : Nat) :
    ∀ (ds : List MDecl) (bs : List (Option Binding)) (i : Nat) (evs : List (Nat × Entry)),
      RsslVerif.Thm.C06.Agrees p dflt (ds.map MDecl.toSlot) bs → events ev i ds bs = .ok evs →
      ((evs.filter (fun x => x.1 == g)).map (·.2.loc)) = locsOf g bs :=
  fun ds bs i evs hag h => (events_group hev g ds bs i evs hag h).2

/-- insertion by key is core's `merge` with a one-element list -/
theorem insertEntry_eq_merge (e : Entry) (k : Nat) :
    ∀ xs, insertEntry e k xs = List.merge [(k, e)] xs (fun a b => a.1 ≤ b.1)
  | [] => (List.merge_right _).symm
  | (k', x) :: xs => by
    simp only [insertEntry, List.cons_merge_cons, insertEntry_eq_merge e k xs, List.nil_merge, decide_eq_true_eq]

theorem sortKeyed_perm : ∀ xs, (sortKeyed xs).Perm xs
  | [] => .refl _
  | (k, e) :: xs => by
    rw [sortKeyed, insertEntry_eq_merge]
    exact (List.merge_perm_append _).trans ((sortKeyed_perm xs).cons _)

theorem keyed_map : ∀ {es : List Entry} {ks : List (Nat × Entry)}, keyed es = some ks → ks.map (·.2) = es := by
  intro es
  fun_induction keyed es <;> intro ks h <;> cases h
  · rfl
  · rename_i hr _ ih; simp [ih hr]

theorem sortGroup_perm {g g' : Group} (h : sortGroup g = .ok g') :
    g'.bindings.Perm g.bindings ∧ g'.inlineConstants = g.inlineConstants := by
  revert h
  fun_cases sortGroup g <;> intro h <;> cases h
  · exact ⟨List.Perm.refl _, rfl⟩
  · rename_i ks hk
    refine ⟨?_, rfl⟩
    have := (sortKeyed_perm ks).map (·.2)
    rwa [keyed_map hk] at this

theorem sortKeyed_sorted : ∀ xs : List (Nat × Entry), xs.Pairwise (fun a b => a.1 ≤ b.1) → sortKeyed xs = xs
  | [], _ => rfl
  | (k, e) :: xs, h => by
    rw [List.pairwise_cons] at h
    rw [sortKeyed, sortKeyed_sorted xs h.2, insertEntry_eq_merge]
    exact List.merge_of_le fun a b ha hb => by cases List.mem_singleton.1 ha; exact decide_eq_true (h.1 b hb)

theorem sortGroups_at : ∀ {gs gs' : List Group}, sortGroups gs = .ok gs' →
    gs'.length = gs.length ∧ ∀ g, (bindingsAt gs' g).Perm (bindingsAt gs g) := by
  intro gs
  fun_induction sortGroups gs <;> intro gs' h <;> cases h
  · exact ⟨rfl, fun g => List.Perm.refl _⟩
  · rename_i h2 h1 ih
    obtain ⟨hl, hp⟩ := ih h2
    refine ⟨by simp [hl], ?_⟩
    intro g
    cases g with
    | zero => simpa [bindingsAt] using (sortGroup_perm h1).1
    | succ g => simpa [bindingsAt] using hp g

/-- what `process_definition` guarantees about the binding it stores on a declaration -/
def GoodFor (p : Params) (d : Decl) (b : Binding) : Prop :=
  match b.loc with
  | .index _ => b.slotType.isSome = p.requireSlotType
  | .inline _ => b.slotType = none ∧ p.supportBufferAddress = true ∧ ∃ s ss k l, d = .global s ss (some k) l

theorem step_good {p : Params} {dflt : Nat} {st st' : State} {d : Decl} {b : Binding}
    (h : step p dflt st d = .ok (st', some b)) : GoodFor p d b := by
  rw [Lemmas.Slots.step_eq] at h
  cases hpl : Lemmas.Slots.place p d with
  | none => rw [hpl] at h; cases h
  | index n r =>
    rw [hpl] at h
    cases h
    cases hr : p.requireSlotType <;> simp [GoodFor, hr]
  | inline n =>
    obtain ⟨hsba, hd⟩ := Lemmas.Slots.place_inline hpl
    rw [hpl] at h
    cases h
    exact ⟨rfl, hsba, hd⟩

def AllGood (p : Params) : List Decl → List (Option Binding) → Prop
  | d :: ds, ob :: bs => (∀ b, ob = some b → GoodFor p d b) ∧ AllGood p ds bs
  | _, _ => True

theorem run_good {p : Params} {dflt : Nat} : ∀ {ds : List Decl} {st st' : State} {bs : List (Option Binding)},
    run p dflt st ds = .ok (st', bs) → AllGood p ds bs
  | [], st, st', bs, h => by simp [run] at h; obtain ⟨_, rfl⟩ := h; trivial
  | d :: ds, st, st', bs, h => by
    obtain ⟨st1, ob, bs', hstep, hrun, rfl⟩ := Lemmas.Slots.run_cons_ok.1 h
    exact ⟨fun b hb => by subst hb; exact step_good hstep, run_good hrun⟩

theorem assign_good {p : Params} {dflt : Nat} {ds : List Decl} {res : Result} (h : assign p dflt ds = .ok res) :
    AllGood p ds res.bindings := by
  obtain ⟨st, hrun, _⟩ := Lemmas.Slots.assign_ok_iff.1 h
  exact run_good hrun

/-- the parameter sets of the two HLSL flavours: register classes are requested only without buffer addresses -/
def HlslParams (p : Params) : Prop := p.requireSlotType = true → p.supportBufferAddress = false

theorem vkAnnot_ok {b : Binding} (h1 : b.slotType = none) {i : Nat} (h2 : b.loc = .index i) :
    vkAnnot (some b) = .ok (some (.vk i b.set)) := by
  simp [vkAnnot, h1, h2]

theorem regAnnot_ok {b : Binding} {r : RegT} (h1 : b.slotType = some r) {i : Nat} (h2 : b.loc = .index i) :
    regAnnot (some b) = .ok (some (.reg r i b.set)) := by
  simp [regAnnot, h1, h2]

/-- the annotation of a cbuffer or an extern global (`[[vk::binding]]` or `register(..)`, by target): none without an
    api slot; with one, the slot's index and group, and the slot's register class on the `register(..)` form -/
theorem slotAnnot_ok {p : Params} {ob : Option Binding} {oa : Option Annot}
    (h : (if requiresVk p then vkAnnot ob else regAnnot ob) = .ok oa) :
    (ob = none ∧ oa = none) ∨
    ∃ b i, ob = some b ∧ b.loc = .index i ∧
      ((oa = some (.vk i b.set) ∧ b.slotType = none) ∨ ∃ r, oa = some (.reg r i b.set) ∧ b.slotType = some r) := by
  split at h
  · revert h
    fun_cases vkAnnot ob <;> intro h <;> cases h
    · exact .inl ⟨rfl, rfl⟩
    · rename_i b hst i hl
      exact .inr ⟨b, i, rfl, hl, .inl ⟨rfl, Decidable.not_not.1 hst⟩⟩
  · revert h
    fun_cases regAnnot ob <;> intro h <;> cases h
    · exact .inl ⟨rfl, rfl⟩
    · rename_i b r hst i hl
      exact .inr ⟨b, i, rfl, hl, .inr ⟨r, rfl, hst⟩⟩

/-- **what a printed HLSL annotation says**: it belongs to a declaration with an api slot and names that slot's group
    and location, and its register class if it names one; it is never an `[[id]]` member -/
theorem hlslAnnot_some {p : Params} {d : MDecl} {ob : Option Binding} {a : Annot}
    (h : hlslAnnot p d ob = .ok (some a)) :
    ∃ b, ob = some b ∧ (Annot.read a).1 = b.set ∧ (Annot.read a).2.1 = b.loc ∧
      (∀ r, (Annot.read a).2.2 = some r → b.slotType = some r) ∧ ∀ i s, a ≠ .id i s := by
  have slot : ∀ {ob : Option Binding}, (if requiresVk p then vkAnnot ob else regAnnot ob) = .ok (some a) →
      ∃ b, ob = some b ∧ (Annot.read a).1 = b.set ∧ (Annot.read a).2.1 = b.loc ∧
        (∀ r, (Annot.read a).2.2 = some r → b.slotType = some r) ∧ ∀ i s, a ≠ .id i s := by
    intro ob h
    rcases slotAnnot_ok h with ⟨_, h0⟩ | ⟨b, i, rfl, hl, ⟨h1, _⟩ | ⟨r, h1, hr⟩⟩
    · cases h0
    · cases h1
      exact ⟨b, rfl, rfl, hl.symm, fun r hr => (by cases hr), fun _ _ e => (by cases e)⟩
    · cases h1
      exact ⟨b, rfl, rfl, hl.symm, fun r' hr' => (by cases hr'; exact hr), fun _ _ e => (by cases e)⟩
  cases d with
  | other => cases h
  | cbuffer n s => exact slot h
  | global n s ss k arr bl st =>
    cases ob with
    | none =>
      simp only [hlslAnnot] at h
      split at h
      · exact slot h
      · cases h
    | some b =>
      obtain ⟨bs, bl', bt⟩ := b
      cases bl' with
      | inline o =>
        cases h
        exact ⟨_, rfl, rfl, rfl, fun r hr => (by cases hr), fun _ _ e => (by cases e)⟩
      | index i =>
        simp only [hlslAnnot] at h
        split at h
        · exact slot h
        · cases h

theorem hlslAnnot_of_slot {p : Params} {d : MDecl} {b : Binding} {oa : Option Annot} (hd : d ≠ .other)
    (hext : ∀ n s ss k arr bl st, d = .global n s ss k arr bl st → st = .extern)
    (h : hlslAnnot p d (some b) = .ok oa) : oa.isSome = true := by
  have slot : ∀ {b : Binding}, (if requiresVk p then vkAnnot (some b) else regAnnot (some b)) = .ok oa →
      oa.isSome = true := by
    intro b h
    rcases slotAnnot_ok h with ⟨h0, _⟩ | ⟨_, _, _, _, ⟨rfl, _⟩ | ⟨_, rfl, _⟩⟩
    · cases h0
    · rfl
    · rfl
  cases d with
  | other => exact absurd rfl hd
  | cbuffer n s => exact slot h
  | global n s ss k arr bl st =>
    cases hext _ _ _ _ _ _ _ rfl
    obtain ⟨bs, bl', bt⟩ := b
    cases bl' with
    | inline o => cases h; rfl
    | index i => exact slot h

theorem mslAnnot_some {d : MDecl} {ob : Option Binding} {a : Annot} (h : mslAnnot d ob = .ok (some a)) :
    ∃ b i, ob = some b ∧ b.loc = .index i ∧ a = .id i b.set := by
  revert h
  fun_cases mslAnnot d ob <;> intro h <;> cases h
  rename_i b i hl _
  exact ⟨b, i, rfl, hl, rfl⟩

theorem annots_cons_ok {an : MDecl → Option Binding → Except String (Option Annot)} {d : MDecl} {ds : List MDecl}
    {ob : Option Binding} {bs : List (Option Binding)} {as : List (String × Annot)} :
    annots an (d :: ds) (ob :: bs) = .ok as ↔
      ∃ o r, an d ob = .ok o ∧ annots an ds bs = .ok r ∧ as = (o.map fun a => (d.name, a)).toList ++ r := by
  constructor
  · intro h
    simp only [annots] at h
    split at h
    · cases h
    · rename_i o ho
      split at h
      · cases h
      · rename_i r hr
        cases h
        exact ⟨o, r, ho, hr, by cases o <;> rfl⟩
  · rintro ⟨o, r, ho, hr, rfl⟩
    simp only [annots, ho, hr]
    cases o <;> rfl

theorem hlslMeta_of_assign {p : Params} {dflt : Nat} {ds : List MDecl} {res : Result}
    (h : assign p dflt (ds.map MDecl.toSlot) = .ok res) :
    hlslMeta p dflt ds =
      match events (fun _ => hlslEvent) 0 ds res.bindings with
      | .error e => .error e
      | .ok evs => setInlines (registerAll evs []) res.inlineBufs := by
  simp only [hlslMeta, h]
  cases events (fun _ => hlslEvent) 0 ds res.bindings <;> rfl

theorem mslMeta_of_assign {p : Params} {dflt : Nat} {usedAt : Nat → Bool} {ds : List MDecl} {res : Result}
    (h : assign p dflt (ds.map MDecl.toSlot) = .ok res) :
    mslMeta p dflt usedAt ds =
      match events (fun i => mslEvent (usedAt i)) 0 ds res.bindings with
      | .error e => .error e
      | .ok evs =>
        if (registerAll evs []).length > argumentBufferNames.length then
          .error "index out of bounds: ARGUMENT_BUFFER_NAMES[i]"
        else sortGroups (registerAll evs []) := by
  simp only [mslMeta, h]
  cases events (fun i => mslEvent (usedAt i)) 0 ds res.bindings <;> rfl

theorem mslExport_of_assign {p : Params} {dflt : Nat} {usedAt : Nat → Bool} {hasPipeline : Bool} {ds : List MDecl}
    {res : Result} (h : assign p dflt (ds.map MDecl.toSlot) = .ok res) :
    mslExport p dflt usedAt hasPipeline ds =
      match mslMeta p dflt usedAt ds with
      | .error e => .error e
      | .ok gs => if hasPipeline && mslUnbound usedAt 0 ds res.bindings then .error "UnboundGlobal" else .ok gs := by
  simp only [mslExport, h]
  cases mslMeta p dflt usedAt ds <;> rfl

theorem hlslMeta_ok {p : Params} {dflt : Nat} {ds : List MDecl} {groups : List Group}
    (h : hlslMeta p dflt ds = .ok groups) :
    ∃ res evs, assign p dflt (ds.map MDecl.toSlot) = .ok res ∧
      events (fun _ => hlslEvent) 0 ds res.bindings = .ok evs ∧
      setInlines (registerAll evs []) res.inlineBufs = .ok groups := by
  revert h
  fun_cases hlslMeta p dflt ds <;> intro h <;> try cases h
  rename_i res hres evs hev
  exact ⟨res, evs, hres, hev, h⟩

theorem mslMeta_ok {p : Params} {dflt : Nat} {usedAt : Nat → Bool} {ds : List MDecl} {groups : List Group}
    (h : mslMeta p dflt usedAt ds = .ok groups) :
    ∃ res evs, assign p dflt (ds.map MDecl.toSlot) = .ok res ∧
      events (fun i => mslEvent (usedAt i)) 0 ds res.bindings = .ok evs ∧
      sortGroups (registerAll evs []) = .ok groups := by
  revert h
  fun_cases mslMeta p dflt usedAt ds <;> intro h <;> try cases h
  rename_i res hres evs hev _ _
  exact ⟨res, evs, hres, hev, h⟩

theorem slotAnnot_total {p : Params} (hp : HlslParams p) {d : Decl} {b : Binding} (hg : GoodFor p d b)
    {i : Nat} (hl : b.loc = .index i) :
    ∃ a, (if requiresVk p then vkAnnot (some b) else regAnnot (some b)) = .ok (some a) := by
  simp only [GoodFor, hl] at hg
  cases hr : p.requireSlotType with
  | true =>
    have hs := hp hr
    rw [hr] at hg
    obtain ⟨r, hr'⟩ := Option.isSome_iff_exists.1 hg
    exact ⟨.reg r i b.set, by simp [requiresVk, hr, hs, regAnnot_ok hr' hl]⟩
  | false =>
    rw [hr] at hg
    have hn : b.slotType = none := by cases h : b.slotType <;> simp_all
    exact ⟨.vk i b.set, by simp [requiresVk, hr, vkAnnot_ok hn hl]⟩

theorem hlslAnnot_total {p : Params} (hp : HlslParams p) (d : MDecl) (ob : Option Binding)
    (hg : ∀ b, ob = some b → GoodFor p d.toSlot b) : ∃ o, hlslAnnot p d ob = .ok o := by
  cases d with
  | other => exact ⟨_, rfl⟩
  | cbuffer n s =>
    cases ob with
    | none => simp only [hlslAnnot]; split <;> exact ⟨_, rfl⟩
    | some b =>
      have hb := hg b rfl
      cases hl : b.loc with
      | index i =>
        obtain ⟨a, ha⟩ := slotAnnot_total hp hb hl
        exact ⟨_, by simpa [hlslAnnot] using ha⟩
      | inline o =>
        simp only [GoodFor, hl, MDecl.toSlot] at hb
        obtain ⟨_, _, _, _, _, _, h⟩ := hb
        cases h
  | global n s ss k arr bl st =>
    cases ob with
    | none =>
      simp only [hlslAnnot, storageAfter]
      by_cases hst : (st == Storage.extern) = true
      · by_cases hv : requiresVk p = true
        · exact ⟨none, by simp [hst, hv, vkAnnot]⟩
        · exact ⟨none, by simp [hst, hv, regAnnot]⟩
      · exact ⟨none, by simp [hst]⟩
    | some b =>
      have hb := hg b rfl
      obtain ⟨bs, bl', bt⟩ := b
      cases bl' with
      | inline o => exact ⟨_, rfl⟩
      | index i =>
        simp only [hlslAnnot, storageAfter]
        by_cases hst : (st == Storage.extern) = true
        · obtain ⟨a, ha⟩ := slotAnnot_total (b := ⟨bs, .index i, bt⟩) hp hb rfl
          exact ⟨some a, by simp only [hst, if_true]; exact ha⟩
        · exact ⟨none, by simp [hst]⟩

theorem annots_total {p : Params} (hp : HlslParams p) : ∀ (ds : List MDecl) (bs : List (Option Binding)),
    AllGood p (ds.map MDecl.toSlot) bs → ∃ r, annots (hlslAnnot p) ds bs = .ok r := by
  intro ds
  induction ds with
  | nil => intro bs _; cases bs <;> exact ⟨_, rfl⟩
  | cons d ds ih =>
    intro bs hg
    cases bs with
    | nil => exact ⟨_, rfl⟩
    | cons ob bs =>
      simp only [List.map_cons, AllGood] at hg
      obtain ⟨o, ho⟩ := hlslAnnot_total hp d ob hg.1
      obtain ⟨r, hr⟩ := ih bs hg.2
      cases o with
      | none => exact ⟨r, by simp [annots, ho, hr]⟩
      | some a => exact ⟨(d.name, a) :: r, by simp [annots, ho, hr]⟩

open RsslVerif.Spec.Slots

theorem tiles_sorted : ∀ {s : Nat} {rs : List (Nat × Nat)} {e : Nat}, TilesTo s rs e →
    (∀ r ∈ rs, s ≤ r.1) ∧ rs.Pairwise (fun a b => a.1 ≤ b.1) := by
  intro s rs e h
  induction h with
  | nil s => exact ⟨by simp, List.Pairwise.nil⟩
  | cons s c e r _ ih =>
    obtain ⟨h1, h2⟩ := ih
    refine ⟨?_, ?_⟩
    · intro x hx
      rcases List.mem_cons.1 hx with rfl | hx
      · exact Nat.le_refl _
      · exact Nat.le_trans (Nat.le_add_right s c) (h1 x hx)
    · exact List.Pairwise.cons (fun x hx => Nat.le_trans (Nat.le_add_right s c) (h1 x hx)) h2

theorem indexRanges_locs {p : Params} {dflt : Nat} (g : Nat) :
    ∀ (ds : List Decl) (bs : List (Option Binding)),
      RsslVerif.Thm.C06.Agrees p dflt ds bs → (∀ b, some b ∈ bs → ∃ i, b.loc = .index i) →
      (indexRanges p g ds bs).map (fun r => Loc.index r.1) = locsOf g bs := by
  intro ds
  induction ds with
  | nil =>
    intro bs hag _
    cases bs with
    | nil => simp [indexRanges, locsOf]
    | cons _ _ => exact absurd hag.length_eq (by simp)
  | cons d ds ih =>
    intro bs hag hall
    cases bs with
    | nil => exact absurd hag.length_eq (by simp)
    | cons ob bs =>
      rw [RsslVerif.Thm.C06.Agrees.cons_iff] at hag
      have ihr := ih bs hag.2 (fun b hb => hall b (by simp [hb]))
      cases ob with
      | none => simpa [indexRanges, locsOf] using ihr
      | some b =>
        obtain ⟨i, hi⟩ := hall b (by simp)
        simp only [indexRanges, locsOf, hi, List.map_append, ihr]
        by_cases hg : b.set = g <;> simp [hg]

theorem keyed_of_locs : ∀ (es : List Entry) (ks : List Nat), es.map (·.loc) = ks.map Loc.index →
    keyed es = some (ks.zip es) := by
  intro es
  induction es with
  | nil => intro ks h; cases ks <;> simp [keyed] at h ⊢
  | cons e es ih =>
    intro ks h
    cases ks with
    | nil => simp at h
    | cons k ks =>
      simp only [List.map_cons, List.cons.injEq] at h
      simp [keyed, h.1, locIndex, ih ks h.2]

theorem sortGroup_id {g : Group} {ks : List Nat} (hl : g.bindings.map (·.loc) = ks.map Loc.index)
    (hs : ks.Pairwise (· ≤ ·)) : sortGroup g = .ok g := by
  have hlen : ks.length = g.bindings.length := by
    have := congrArg List.length hl; simpa using this.symm
  unfold sortGroup
  rw [keyed_of_locs _ _ hl]
  simp only
  rw [sortKeyed_sorted _ (List.pairwise_map.1 (by rw [List.map_fst_zip (by omega)]; exact hs)),
    List.map_snd_zip (by omega)]

theorem sortGroups_id : ∀ (gs : List Group), (∀ g ∈ gs, sortGroup g = .ok g) → sortGroups gs = .ok gs := by
  intro gs
  induction gs with
  | nil => intro _; rfl
  | cons g gs ih =>
    intro h
    simp [sortGroups, h g (by simp), ih (fun x hx => h x (by simp [hx]))]

theorem sortGroups_error : ∀ (gs : List Group) (e : String), sortGroups gs = .error e →
    e = "panic: inline constant in an argument buffer" := by
  intro gs
  fun_induction sortGroups gs <;> intro e h <;> cases h
  · rename_i g _ _ hg _
    revert hg
    fun_cases sortGroup g <;> intro hg <;> cases hg
    rfl
  · rename_i hg' _ ih
    exact ih _ hg'

theorem all_index {p : Params} {dflt : Nat} (hsba : p.supportBufferAddress = false) :
    ∀ (ds : List Decl) (bs : List (Option Binding)), RsslVerif.Thm.C06.Agrees p dflt ds bs → AllGood p ds bs →
      ∀ b, some b ∈ bs → ∃ i, b.loc = .index i :=
  fun _ _ hag _ b hb => Lemmas.Slots.agrees_all_index hsba hag (some b) hb b rfl

end RsslVerif.Lemmas.Meta
