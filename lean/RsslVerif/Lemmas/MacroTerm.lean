import RsslVerif.Model.Macro
/-!
What each function of `Model/Macro.lean` (C12's model of the macro engine; C08's `Model/DefinedLoc.lean` and C18's
`Model/MacroLite.lean` are separate models with their own lemma files) does, function by function: lengths after trimming, what `split_macro_args`
returns and which errors it can give, which entry `matchMacro` reports (`Fires`), the scan of `find_single_macro` token by
token (`Skips`), `##` (`pasteTokens_ok`).  From these, in one walk over the scan (`scanFrom_ok`) and one over the loop
(`applyLoop_ok`), what never happens inside `applyLoop`: the run-time tests of the termination measure (`Err.guard`) never
fire; and the `continue` of `find_single_macro` that does not advance its index (a `Concat` token left of `next_pos`,
`Err.hang`) is never taken, because no `Concat` token is ever left of `next_pos` and what the loop returns contains none.
-/
namespace RsslVerif.Lemmas.MacroTerm
open RsslVerif.Model.Macro

theorem trimStart_length_le (l : List PTok) : (trimStart l).length ≤ l.length := by
  unfold trimStart
  exact List.Sublist.length_le (List.dropWhile_sublist _)

theorem trimStartAll_length_le (l : List PTok) : (trimStartAll l).length ≤ l.length := by
  unfold trimStartAll
  exact List.Sublist.length_le (List.dropWhile_sublist _)

theorem trim_sublist (l : List PTok) : (trim l).Sublist l := by
  unfold trim trimEnd trimStart
  have h := (List.dropWhile_sublist (fun t : PTok => t.tok.isBlank) (l := (l.dropWhile fun t => t.tok.isBlank).reverse)).reverse
  rw [List.reverse_reverse] at h
  exact h.trans (List.dropWhile_sublist _)

/-! White space is skipped by one function, `trimStartAll` (`Model.MacroTame.dropWs` is the same term, `firstTok` its head):
two equations and one decomposition. -/

theorem trimStartAll_ws (W r : List PTok) (hW : ∀ t ∈ W, t.tok.isWhitespace = true) :
    trimStartAll (W ++ r) = trimStartAll r := by
  induction W with
  | nil => rfl
  | cons a W ih =>
    simp only [trimStartAll, List.cons_append, List.dropWhile_cons, hW a (by simp), if_true]
    exact ih (fun t ht => hW t (by simp [ht]))

theorem trimStartAll_nonws (x : PTok) (r : List PTok) (hx : x.tok.isWhitespace = false) :
    trimStartAll (x :: r) = x :: r := by
  simp [trimStartAll, hx]

/-- what is skipped is white space, what is left does not start with white space -/
theorem ws_split (l : List PTok) : ∃ W, l = W ++ trimStartAll l ∧ (∀ t ∈ W, t.tok.isWhitespace = true) ∧
    ∀ x r, trimStartAll l = x :: r → x.tok.isWhitespace = false := by
  induction l with
  | nil => exact ⟨[], rfl, fun _ h => (by cases h), fun _ _ h => (by cases h)⟩
  | cons a l ih =>
    cases ha : a.tok.isWhitespace with
    | true =>
      obtain ⟨W, h1, h2, h3⟩ := ih
      have e : trimStartAll (a :: l) = trimStartAll l :=
        trimStartAll_ws [a] l (fun t ht => by rw [List.mem_singleton.mp ht]; exact ha)
      refine ⟨a :: W, by rw [e, List.cons_append, ← h1], fun t ht => ?_, by rw [e]; exact h3⟩
      rcases List.mem_cons.mp ht with rfl | ht
      · exact ha
      · exact h2 t ht
    | false =>
      rw [trimStartAll_nonws a l ha]
      exact ⟨[], rfl, fun _ h => (by cases h), fun x r h => (by cases h; exact ha)⟩

/-! One token of `split_macro_args`: it closes the list, ends an argument, or is pushed onto the current argument. -/

/-- `brace_scope` after a token of kind `k` that is pushed onto the current argument -/
def depthAfter (k : Tok) (d : Nat) : Nat :=
  match k with
  | .lparen => d + 1
  | .rparen => d - 1
  | _ => d

theorem scanArgs_close (t : PTok) (more cur : List PTok) (acc : List (List PTok)) (htk : t.tok = .rparen) :
    scanArgs (t :: more) cur acc 0 = .ok (more, acc ++ [trim cur]) := by
  rw [scanArgs]; simp [htk]

theorem scanArgs_comma (t : PTok) (more cur : List PTok) (acc : List (List PTok)) (htk : t.tok = .comma) :
    scanArgs (t :: more) cur acc 0 = scanArgs more [] (acc ++ [trim cur]) 0 := by
  rw [scanArgs]; simp [htk]

theorem scanArgs_push (t : PTok) (more cur : List PTok) (acc : List (List PTok)) (d : Nat)
    (h : d = 0 → t.tok ≠ .rparen ∧ t.tok ≠ .comma) :
    scanArgs (t :: more) cur acc d = scanArgs more (cur ++ [t]) acc (depthAfter t.tok d) := by
  rw [scanArgs]
  unfold depthAfter
  split <;> simp_all

/-- a token of kind `k` met at depth `d`: the closing `)`, the `,` that ends an argument, or a token that is pushed -/
theorem scanArgs_cases (k : Tok) (d : Nat) :
    (k = .rparen ∧ d = 0) ∨ (k = .comma ∧ d = 0) ∨ (d = 0 → k ≠ .rparen ∧ k ≠ .comma) := by
  by_cases hd : d = 0
  · by_cases h1 : k = .rparen
    · exact Or.inl ⟨h1, hd⟩
    · by_cases h2 : k = .comma
      · exact Or.inr (Or.inl ⟨h2, hd⟩)
      · exact Or.inr (Or.inr fun _ => ⟨h1, h2⟩)
  · exact Or.inr (Or.inr fun h => absurd h hd)

theorem mem_dropWhile_of_not {α : Type} (p : α → Bool) (l : List α) (t : α) (ht : t ∈ l) (hp : p t = false) :
    t ∈ l.dropWhile p := by
  induction l with
  | nil => cases ht
  | cons x xs ih =>
    rw [List.dropWhile_cons]
    split
    · rename_i hx
      rcases List.mem_cons.mp ht with rfl | ht
      · rw [hp] at hx; cases hx
      · exact ih ht
    · exact ht

theorem mem_trim_of_nonblank (l : List PTok) (t : PTok) (ht : t ∈ l) (hb : t.tok.isBlank = false) : t ∈ trim l := by
  unfold trim trimEnd trimStart
  have h1 : t ∈ List.dropWhile (fun t : PTok => t.tok.isBlank) l := mem_dropWhile_of_not _ l t ht hb
  have h2 : t ∈ (List.dropWhile (fun t : PTok => t.tok.isBlank) l).reverse := List.mem_reverse.mpr h1
  have h3 := mem_dropWhile_of_not (fun t : PTok => t.tok.isBlank) _ t h2 hb
  exact List.mem_reverse.mpr h3

/-- a successful `scanArgs`: what it consumes is `init` and the closing parenthesis, and scanning that alone gives the same
arguments; these are the arguments collected before and then new ones, each no longer than the current argument and `init`
together; a `Concat` token of the current argument or of `init` lies in a new one -/
theorem scanArgs_ok (ts cur : List PTok) (acc : List (List PTok)) (d : Nat) (rest : List PTok) (out : List (List PTok))
    (h : scanArgs ts cur acc d = .ok (rest, out)) :
    ∃ init b news, ts = (init ++ [⟨.rparen, b⟩]) ++ rest ∧ out = acc ++ news ∧
      scanArgs (init ++ [⟨.rparen, b⟩]) cur acc d = .ok ([], out) ∧
      (∀ a ∈ news, a.length ≤ cur.length + init.length) ∧
      ∀ t, t.tok = .concat → (t ∈ cur ∨ t ∈ init) → ∃ a ∈ news, t ∈ a := by
  induction ts generalizing cur acc d with
  | nil => simp [scanArgs] at h
  | cons t ts ih =>
    -- an argument that ends here is `trim cur`: no longer than `cur`, and a `##` of `cur` survives the trimming
    have hlen := (trim_sublist cur).length_le
    have incur : ∀ x, x.tok = .concat → x ∈ cur → x ∈ trim cur :=
      fun x hx hm => mem_trim_of_nonblank cur x hm (by rw [hx]; rfl)
    rcases scanArgs_cases t.tok d with ⟨htk, rfl⟩ | ⟨htk, rfl⟩ | hne
    · rw [scanArgs_close t ts cur acc htk] at h; cases h
      obtain ⟨tt, tb⟩ := t
      simp only at htk; subst htk
      refine ⟨[], tb, [trim cur], by simp, rfl, scanArgs_close _ [] cur acc rfl, by simpa using hlen, fun x hx hmem => ?_⟩
      rcases hmem with hm | hm
      · exact ⟨trim cur, by simp, incur x hx hm⟩
      · cases hm
    · rw [scanArgs_comma t ts cur acc htk] at h
      obtain ⟨init, b, news, h1, h2, h3, h4, h5⟩ := ih _ _ _ h
      refine ⟨t :: init, b, trim cur :: news, by rw [h1]; simp, by rw [h2]; simp, ?_, fun a ha => ?_, fun x hx hmem => ?_⟩
      · rw [List.cons_append, scanArgs_comma t _ cur acc htk]; exact h3
      · rcases List.mem_cons.mp ha with rfl | ha
        · simp only [List.length_cons]; omega
        · have := h4 a ha
          simp only [List.length_nil, List.length_cons] at this ⊢; omega
      · rcases hmem with hm | hm
        · exact ⟨trim cur, by simp, incur x hx hm⟩
        · rcases List.mem_cons.mp hm with rfl | hm
          · rw [htk] at hx; cases hx
          · obtain ⟨a, ha, hxa⟩ := h5 x hx (Or.inr hm)
            exact ⟨a, List.mem_cons_of_mem _ ha, hxa⟩
    · rw [scanArgs_push t ts cur acc d hne] at h
      obtain ⟨init, b, news, h1, h2, h3, h4, h5⟩ := ih _ _ _ h
      refine ⟨t :: init, b, news, by rw [h1]; simp, h2,
        by rw [List.cons_append, scanArgs_push t _ cur acc d hne]; exact h3, fun a ha => ?_, fun x hx hmem => ?_⟩
      · have := h4 a ha
        simp only [List.length_append, List.length_cons, List.length_nil] at this ⊢; omega
      · apply h5 x hx
        rcases hmem with hm | hm
        · exact Or.inl (List.mem_append_left _ hm)
        · rcases List.mem_cons.mp hm with rfl | hm
          · exact Or.inl (by simp)
          · exact Or.inr hm

theorem scanArgs_error (ts cur : List PTok) (args : List (List PTok)) (d : Nat) (e : Err)
    (h : scanArgs ts cur args d = .error e) : e = .macroArgumentsNeverEnd := by
  induction ts generalizing cur args d with
  | nil => simp only [scanArgs, Except.error.injEq] at h; exact h.symm
  | cons t ts ih =>
    rcases scanArgs_cases t.tok d with ⟨htk, rfl⟩ | ⟨htk, rfl⟩ | hne
    · rw [scanArgs_close t ts cur args htk] at h; cases h
    · rw [scanArgs_comma t ts cur args htk] at h; exact ih _ _ _ h
    · rw [scanArgs_push t ts cur args d hne] at h; exact ih _ _ _ h

theorem splitArgs_ok (name : String) (remaining : List PTok) (r : List PTok × List (List PTok))
    (h : splitArgs name remaining = .ok r) :
    ∃ b tail, trimStartAll remaining = ⟨.lparen, b⟩ :: tail ∧ scanArgs tail [] [] 0 = .ok r := by
  revert h
  fun_cases splitArgs name remaining <;> intro h
  · exact ⟨_, _, ‹_›, h⟩
  · cases h

/-- a successful `readArgs` of a function-like macro: the `(` that was found, the scan behind it, and the arity test
that was passed -/
theorem readArgs_function (m : Macro) (remaining rest : List PTok) (args : List (List PTok))
    (hf : m.isFunction = true) (h : readArgs m remaining = .ok (rest, args)) :
    ∃ b tail, trimStartAll remaining = ⟨.lparen, b⟩ :: tail ∧ scanArgs tail [] [] 0 = .ok (rest, args) ∧
      (if m.numParams = 0 then ∃ a, args = [a] ∧ trimStartAll a = [] else args.length = m.numParams) := by
  revert h
  fun_cases readArgs m remaining <;> intro h <;> try cases h
  -- no parameters: the one argument is empty up to white space
  next hn a hemp hs =>
    obtain ⟨b, tail, htrim, hscan⟩ := splitArgs_ok _ _ _ hs
    exact ⟨b, tail, htrim, hscan, by simpa [hn] using hemp⟩
  -- as many arguments as parameters
  next hn hlen hs =>
    obtain ⟨b, tail, htrim, hscan⟩ := splitArgs_ok _ _ _ hs
    exact ⟨b, tail, htrim, hscan, by simpa [hn] using hlen⟩
  · contradiction

theorem readArgs_error (m : Macro) (remaining : List PTok) (e : Err) (h : readArgs m remaining = .error e) :
    e = .macroExpectsDifferentNumberOfArguments ∨ splitArgs m.name remaining = .error e := by
  revert h
  fun_cases readArgs m remaining <;> intro h <;> cases h
  · exact Or.inr ‹_›
  all_goals exact Or.inl rfl

/-- the errors of `readArgs`: the arity test, or `split_macro_args` found no `(` or no end of the argument list -/
theorem readArgs_error_cases (m : Macro) (remaining : List PTok) (e : Err) (h : readArgs m remaining = .error e) :
    e = .macroExpectsDifferentNumberOfArguments ∨ e = .macroArgumentsNeverEnd ∨ e = .macroRequiresArguments m.name := by
  rcases readArgs_error m remaining e h with h1 | h1
  · exact Or.inl h1
  · revert h1
    fun_cases splitArgs m.name remaining <;> intro h1
    · exact Or.inr (Or.inl (scanArgs_error _ _ _ _ _ h1))
    · cases h1; exact Or.inr (Or.inr rfl)

/-- `readArgs` on the tokens after the macro name: where the invocation ends and how long the arguments are -/
theorem readArgs_spec (m : Macro) (remaining rest : List PTok) (args : List (List PTok))
    (h : readArgs m remaining = .ok (rest, args)) :
    if m.isFunction then
      ∃ b tail, trimStartAll remaining = ⟨.lparen, b⟩ :: tail ∧ rest.length < tail.length ∧
        ∀ a ∈ args, a.length + 1 ≤ tail.length
    else rest = remaining ∧ args = [] := by
  cases hf : m.isFunction with
  | true =>
    simp only [if_true]
    obtain ⟨b, tail, htrim, hscan, _⟩ := readArgs_function m remaining rest args hf h
    obtain ⟨init, _, news, rfl, rfl, _, hlen, _⟩ := scanArgs_ok tail [] [] 0 rest args hscan
    refine ⟨b, _, htrim, by simp only [List.length_append, List.length_cons, List.length_nil]; omega, fun a ha => ?_⟩
    have := hlen a ha
    simp only [List.length_append, List.length_cons, List.length_nil] at this ⊢; omega
  | false =>
    unfold readArgs at h
    simp only [hf] at h ⊢
    cases h
    exact ⟨rfl, rfl⟩

theorem parenAfter_spec (toks : List PTok) (i a : Nat) (h : parenAfter toks i = some a) :
    ∃ b tail, trimStartAll (toks.drop (i + 1)) = ⟨.lparen, b⟩ :: tail ∧ a = toks.length - (tail.length + 1) := by
  revert h
  fun_cases parenAfter toks i <;> intro h <;> cases h
  exact ⟨_, _, ‹_›, rfl⟩

/-- the entry `e` at index `mi` answers an identifier of its name at position `i`: it is enabled, it is not the
function-like macro applied last while `i` lies in the early region, and the invocation reaches `next_pos` (with its
`(` if it is function-like, with the name otherwise) -/
structure Fires (toks : List PTok) (i : Nat) (sp : SearchPos) (mi : Nat) (e : Entry) : Prop where
  enabled : e.disabled = false
  notLast : ¬ (sp.lastFn = some mi ∧ i < sp.next)
  reaches : if e.m.isFunction then ∃ act, parenAfter toks i = some act ∧ sp.next ≤ act else sp.next ≤ i

theorem matchMacro_cons_fire (toks : List PTok) (i : Nat) (name : String) (sp : SearchPos) (mi : Nat) (e : Entry)
    (es : List Entry) (hn : name = e.m.name) (h : Fires toks i sp mi e) :
    matchMacro toks i name sp mi (e :: es) = some mi := by
  obtain ⟨hd, hl, hc⟩ := h
  rw [matchMacro]
  cases hf : e.m.isFunction with
  | true =>
    simp only [hf, if_true] at hc
    obtain ⟨act, hpa, hact⟩ := hc
    simp [hd, hl, hn, hpa, Nat.not_lt.mpr hact]
  | false =>
    simp only [hf, Bool.false_eq_true, if_false] at hc
    simp [hd, hn, Nat.not_lt.mpr hc]

theorem matchMacro_cons_skip (toks : List PTok) (i : Nat) (name : String) (sp : SearchPos) (mi : Nat) (e : Entry)
    (es : List Entry) (h : name = e.m.name → ¬ Fires toks i sp mi e) :
    matchMacro toks i name sp mi (e :: es) = matchMacro toks i name sp (mi + 1) es := by
  rw [matchMacro]
  by_cases hd : e.disabled = true
  · simp [hd]
  by_cases hl : sp.lastFn = some mi ∧ i < sp.next
  · simp [hl]
  by_cases hn : name = e.m.name
  · have hnf := h hn
    simp only [Bool.not_eq_true] at hd
    cases hf : e.m.isFunction with
    | true =>
      cases hpa : parenAfter toks i with
      | none => simp [hd, hl, hn]
      | some act =>
        have : act < sp.next := by
          apply Nat.lt_of_not_le
          intro hle
          exact hnf ⟨hd, hl, by simp only [hf, if_true]; exact ⟨act, hpa, hle⟩⟩
        simp [hd, hl, hn, this]
    | false =>
      have : i < sp.next := by
        apply Nat.lt_of_not_le
        intro hle
        exact hnf ⟨hd, hl, by simpa [hf] using hle⟩
      simp [hd, hn, this]
  · simp [hn]

theorem matchMacro_some (toks : List PTok) (i : Nat) (name : String) (sp : SearchPos) (k : Nat) (env : List Entry)
    (mi : Nat) (h : matchMacro toks i name sp k env = some mi) :
    ∃ j e, mi = k + j ∧ env[j]? = some e ∧ name = e.m.name ∧ Fires toks i sp mi e := by
  induction env generalizing k with
  | nil => simp [matchMacro] at h
  | cons e es ih =>
    by_cases hf : name = e.m.name ∧ Fires toks i sp k e
    · rw [matchMacro_cons_fire toks i name sp k e es hf.1 hf.2] at h
      cases h
      exact ⟨0, e, rfl, rfl, hf.1, hf.2⟩
    · rw [matchMacro_cons_skip toks i name sp k e es (fun hn hfi => hf ⟨hn, hfi⟩)] at h
      obtain ⟨j, e', hmi, hget, hn, hfi⟩ := ih (k + 1) h
      exact ⟨j + 1, e', by omega, by simpa using hget, hn, hfi⟩

theorem matchMacro_none_of (toks : List PTok) (i : Nat) (name : String) (sp : SearchPos) (k : Nat) (env : List Entry)
    (h : ∀ j e, env[j]? = some e → name = e.m.name → ¬ Fires toks i sp (k + j) e) :
    matchMacro toks i name sp k env = none := by
  induction env generalizing k with
  | nil => rfl
  | cons e es ih =>
    rw [matchMacro_cons_skip toks i name sp k e es (h 0 e rfl)]
    exact ih (k + 1) (fun j e' hj => by
      have := h (j + 1) e' (by simpa using hj)
      rwa [show k + (j + 1) = k + 1 + j by omega] at this)

/-- the first entry of a name is the one `matchMacro` reports, if it fires -/
theorem matchMacro_first (toks : List PTok) (i : Nat) (sp : SearchPos) (k : Nat) (pre post : List Entry) (e : Entry)
    (hpre : ∀ x ∈ pre, x.m.name ≠ e.m.name) (h : Fires toks i sp (k + pre.length) e) :
    matchMacro toks i e.m.name sp k (pre ++ e :: post) = some (k + pre.length) := by
  induction pre generalizing k with
  | nil => exact matchMacro_cons_fire toks i _ sp k e post rfl h
  | cons x xs ih =>
    rw [List.cons_append, matchMacro_cons_skip toks i _ sp k x _ (fun hn => absurd hn.symm (hpre x (by simp)))]
    have := ih (k + 1) (fun y hy => hpre y (by simp [hy]))
      (by rwa [show k + 1 + xs.length = k + (x :: xs).length by simp; omega])
    rw [this]
    congr 1
    simp; omega

/-- what `find_single_macro` guarantees about a macro invocation it reports at index `p` -/
def UserOk (toks : List PTok) (sp : SearchPos) (env : List Entry) (mi p : Nat) : Prop :=
  p < toks.length ∧ ∃ e, env[mi]? = some e ∧ Fires toks p sp mi e

/-- the scan of `find_single_macro` passes the token `t` at index `i`: it is not `##` and selects no entry -/
def Skips (toks : List PTok) (sp : SearchPos) (env : List Entry) (i : Nat) (t : PTok) : Prop :=
  t.tok ≠ .concat ∧ ∀ n, t.tok = .id n → matchMacro toks i n sp 0 env = none

theorem scanFrom_cons_skip (toks : List PTok) (sp : SearchPos) (env : List Entry) (t : PTok) (rest : List PTok) (i : Nat)
    (h : Skips toks sp env i t) : scanFrom toks sp env (t :: rest) i = scanFrom toks sp env rest (i + 1) := by
  cases htk : t.tok with
  | id n => simp [scanFrom, htk, h.2 n htk]
  | concat => exact absurd htk h.1
  | _ => simp [scanFrom, htk]

theorem scanFrom_cons_hit (toks : List PTok) (sp : SearchPos) (env : List Entry) (t : PTok) (rest : List PTok) (i : Nat)
    (n : String) (mi : Nat) (htk : t.tok = .id n) (hm : matchMacro toks i n sp 0 env = some mi) :
    scanFrom toks sp env (t :: rest) i = .ok (.user mi i) := by
  simp [scanFrom, htk, hm]

theorem scanFrom_cons_concat (toks : List PTok) (sp : SearchPos) (env : List Entry) (t : PTok) (rest : List PTok) (i : Nat)
    (htk : t.tok = .concat) :
    scanFrom toks sp env (t :: rest) i =
      if i < sp.next then .error .hang
      else match lastNonWs (toks.take i) 0 none with
        | none => .error .concatMissingLeftToken
        | some l =>
          match firstNonWs rest (i + 1) with
          | none => .error .concatMissingRightToken
          | some r => .ok (.concat l r) := by
  rw [scanFrom]
  simp only [htk]
  split <;> rfl

theorem scanFrom_append_skip (toks : List PTok) (sp : SearchPos) (env : List Entry) (a rest : List PTok) (i : Nat)
    (h : ∀ (j : Nat) t, a[j]? = some t → Skips toks sp env (i + j) t) :
    scanFrom toks sp env (a ++ rest) i = scanFrom toks sp env rest (i + a.length) := by
  induction a generalizing i with
  | nil => rfl
  | cons t ts ih =>
    rw [List.cons_append, scanFrom_cons_skip toks sp env t _ i (h 0 t rfl),
      ih (i + 1) (fun j x hj => by
        have := h (j + 1) x (by simpa using hj)
        rwa [show i + (j + 1) = i + 1 + j by omega] at this)]
    congr 1
    simp only [List.length_cons]; omega

theorem skips_of_whitespace (toks : List PTok) (sp : SearchPos) (env : List Entry) (i : Nat) (t : PTok)
    (h : t.tok.isWhitespace = true) : Skips toks sp env i t := by
  refine ⟨fun hc => ?_, fun n hn => ?_⟩
  · rw [hc] at h; cases h
  · rw [hn] at h; cases h

theorem lastNonWs_spec (l : List PTok) (i : Nat) (acc : Option Nat) (r : Nat) (h : lastNonWs l i acc = some r) :
    acc = some r ∨ (i ≤ r ∧ r < i + l.length) := by
  induction l generalizing i acc with
  | nil => exact Or.inl h
  | cons t ts ih =>
    rw [lastNonWs] at h
    rcases ih (i + 1) _ h with h1 | h1
    · split at h1
      · exact Or.inl h1
      · right; simp only [Option.some.injEq] at h1; subst h1; simp
    · right; simp only [List.length_cons]; omega

/-- the left operand of `##` lies before the operator -/
theorem lastNonWs_take_lt (toks : List PTok) (i l : Nat) (h : lastNonWs (toks.take i) 0 none = some l) : l < i := by
  rcases lastNonWs_spec _ _ _ _ h with h1 | h1
  · cases h1
  · have := List.length_take_le i toks
    omega

theorem firstNonWs_spec (l : List PTok) (i r : Nat) (h : firstNonWs l i = some r) :
    i ≤ r ∧ r < i + l.length := by
  revert h
  fun_induction firstNonWs l i <;> intro h
  · cases h
  next ih =>
    have := ih h
    simp only [List.length_cons]
    omega
  · cases h
    simp

theorem suffix_facts (toks : List PTok) (i : Nat) (t : PTok) (rest : List PTok)
    (hs : t :: rest = toks.drop i) :
    i < toks.length ∧ rest = toks.drop (i + 1) ∧ rest.length = toks.length - (i + 1) ∧ toks[i]? = some t := by
  have hlen : i < toks.length := by
    have : (toks.drop i).length = (t :: rest).length := by rw [← hs]
    simp only [List.length_drop, List.length_cons] at this
    omega
  have hrest : rest = toks.drop (i + 1) := by
    have := congrArg List.tail hs
    simp only [List.tail_cons, List.tail_drop] at this
    exact this
  refine ⟨hlen, hrest, by rw [hrest]; simp, ?_⟩
  have := congrArg List.head? hs
  simp only [List.head?_cons, List.head?_drop] at this
  exact this.symm

/-- what a result of the scan says about the position it reports -/
def FoundOk (toks : List PTok) (sp : SearchPos) (env : List Entry) : Found → Prop
  | .user mi p => UserOk toks sp env mi p
  | .concat _ r => sp.next < r ∧ r < toks.length
  | .none => True

/-- a failing `##`: an operand without location, a joined spelling outside the model, or no single token -/
theorem pasteTokens_error (l r : PTok) (e : Err) (h : pasteTokens l r = .error e) :
    (∃ s, e = .panic s) ∨ (∃ s, e = .unsupported s) ∨ e = .concatFailed := by
  revert h
  fun_cases pasteTokens l r <;> intro h <;> cases h <;> simp

/-- a successful `##`: located operands of matching kinds, the merged token is spelled like the two joined -/
theorem pasteTokens_ok (l r m : PTok) (h : pasteTokens l r = .ok m) :
    m.located = true ∧ ∃ a b,
      (l.tok = .id a ∧ (r.tok = .id b ∨ r.tok = .int b) ∧ m.tok = .id (a ++ b)) ∨
      (l.tok = .int a ∧ r.tok = .int b ∧ m.tok = .int (a ++ b)) ∨
      (l.tok = .punct a ∧ r.tok = .punct b ∧ punctMerges.contains (a, b) = true ∧ m.tok = .punct (a ++ b)) := by
  revert h
  fun_cases pasteTokens l r <;> intro h <;> cases h
  next a b hr hl _ => exact ⟨rfl, a, b, Or.inl ⟨hl, Or.inl hr, rfl⟩⟩
  next a b hr hl _ => exact ⟨rfl, a, b, Or.inl ⟨hl, Or.inr hr, rfl⟩⟩
  next a b hr hl _ _ => exact ⟨rfl, a, b, Or.inr (Or.inl ⟨hl, hr, rfl⟩)⟩
  next a b hr hl hc => exact ⟨rfl, a, b, Or.inr (Or.inr ⟨hl, hr, hc, rfl⟩)⟩

theorem substitute_error (body : List PTok) (args : List (List PTok)) (e : Err) (h : substitute body args = .error e) :
    e = .panic "index out of bounds: args[i]" := by
  revert h
  fun_induction substitute body args <;> intro h <;> cases h
  · rfl
  next ih hs => exact ih hs
  next ih hs => exact ih hs

theorem mapE_error {α β : Type} (f : α → Except Err β) (l : List α) (e : Err) (h : mapE f l = .error e) :
    ∃ a ∈ l, f a = .error e := by
  revert h
  fun_induction mapE f l <;> intro h <;> cases h
  next a _ he => exact ⟨a, by simp, he⟩
  next ih he =>
    obtain ⟨x, hx, hfx⟩ := ih he
    exact ⟨x, by simp [hx], hfx⟩

/-- the arithmetic of `user_bounds` for a function-like macro, without subtraction: `L` tokens, the name at `p`, `t`
tokens behind the `(` at `act`, `r` of them left behind the `)` -/
theorem user_bounds_arith {L p t r next act : Nat} (hact : act + (t + 1) = L) (hnext : next ≤ act)
    (hrest : r < t) (htl : t + 1 + (p + 1) ≤ L) :
    p + r < L ∧ next + r < L ∧ ∀ a, a + 1 ≤ t → a + next < L := by
  refine ⟨by omega, by omega, fun a ha => by omega⟩

end RsslVerif.Lemmas.MacroTerm

namespace RsslVerif.Lemmas.MacroHang
open RsslVerif.Model.Macro RsslVerif.Lemmas.MacroTerm

def NoConcat (ts : List PTok) : Prop := ∀ t ∈ ts, t.tok ≠ .concat

theorem noConcat_nil : NoConcat [] := fun _ h => by cases h

theorem noConcat_append {a b : List PTok} : NoConcat (a ++ b) ↔ NoConcat a ∧ NoConcat b := by
  unfold NoConcat
  constructor
  · intro h; exact ⟨fun t ht => h t (by simp [ht]), fun t ht => h t (by simp [ht])⟩
  · rintro ⟨ha, hb⟩ t ht
    rcases List.mem_append.mp ht with h | h
    · exact ha t h
    · exact hb t h

theorem noConcat_take_le {ts : List PTok} {a b : Nat} (hab : a ≤ b) (h : NoConcat (ts.take b)) :
    NoConcat (ts.take a) := by
  intro t ht
  apply h t
  have : ts.take a = (ts.take b).take a := by rw [List.take_take]; congr 1; omega
  rw [this] at ht
  exact List.mem_of_mem_take ht

theorem noConcat_take_succ {ts : List PTok} {i : Nat} {t : PTok} (hget : ts[i]? = some t) (h : NoConcat (ts.take i))
    (ht : t.tok ≠ .concat) : NoConcat (ts.take (i + 1)) := by
  rw [List.take_add_one, hget]
  exact noConcat_append.mpr ⟨h, fun x hx => by simp only [Option.toList_some, List.mem_singleton] at hx; rw [hx]; exact ht⟩

/-- up to which index a result of the search vouches for "no `Concat` token" -/
def foundPos (len : Nat) : Found → Nat
  | .user _ p => p
  | .concat l _ => l
  | .none => len

theorem pasteTokens_noConcat (l r m : PTok) (h : pasteTokens l r = .ok m) : m.tok ≠ .concat := by
  obtain ⟨_, a, b, ⟨_, _, hm⟩ | ⟨_, _, hm⟩ | ⟨_, _, _, hm⟩⟩ := pasteTokens_ok l r m h <;> rw [hm] <;> simp

theorem mapE_ok_mem {α β : Type} (f : α → Except Err β) (l : List α) (r : List β) (h : mapE f l = .ok r) :
    ∀ b ∈ r, ∃ a ∈ l, f a = .ok b := by
  revert h
  fun_induction mapE f l generalizing r <;> intro h <;> cases h
  · intro b hb; cases hb
  next a _ b0 hb0 bs hbs ih =>
    intro b hb
    rcases List.mem_cons.mp hb with rfl | hb
    · exact ⟨a, by simp, hb0⟩
    · obtain ⟨x, hx, hfx⟩ := ih bs hbs b hb
      exact ⟨x, by simp [hx], hfx⟩

theorem substitute_noConcat (body : List PTok) (args : List (List PTok)) (out : List PTok)
    (ha : ∀ a ∈ args, NoConcat a) (h : substitute body args = .ok out) :
    ∀ t ∈ out, t.tok = .concat → t ∈ body := by
  revert h
  fun_induction substitute body args generalizing out <;> intro h <;> cases h
  · intro t ht; cases ht
  next a hget r hs ih =>
    intro t ht htk
    rcases List.mem_append.mp ht with h1 | h1
    · exact absurd htk (ha a (List.mem_of_getElem? hget) t h1)
    · exact List.mem_cons_of_mem _ (ih r ha hs t h1 htk)
  next r hs _ ih =>
    intro t ht htk
    rcases List.mem_cons.mp ht with rfl | h1
    · simp
    · exact List.mem_cons_of_mem _ (ih r ha hs t h1 htk)

theorem noConcat_start (toks : List PTok) : NoConcat (toks.take SearchPos.start.next) := by
  simpa [SearchPos.start] using noConcat_nil

end RsslVerif.Lemmas.MacroHang

namespace RsslVerif.Lemmas.MacroTerm
open RsslVerif.Model.Macro RsslVerif.Lemmas.MacroHang

/-- a result of the search from `i`, provided no `Concat` token lies before `next_pos` or before `i`: an error is no failed
test of the measure and not the spin; what is found is as `FoundOk` says, with no `Concat` token before the reported position -/
def ScanOk (toks : List PTok) (sp : SearchPos) (env : List Entry) (i : Nat) : Except Err Found → Prop
  | .error e => (∀ w, e ≠ .guard w) ∧ (NoConcat (toks.take sp.next) → NoConcat (toks.take i) → e ≠ .hang)
  | .ok f => FoundOk toks sp env f ∧
      (NoConcat (toks.take sp.next) → NoConcat (toks.take i) → NoConcat (toks.take (foundPos toks.length f)))

theorem ScanOk.mono {toks : List PTok} {sp : SearchPos} {env : List Entry} {i j : Nat} {r : Except Err Found}
    (h : ScanOk toks sp env j r) (hij : NoConcat (toks.take i) → NoConcat (toks.take j)) : ScanOk toks sp env i r := by
  cases r <;> exact ⟨h.1, fun hnc hi => h.2 hnc (hij hi)⟩

theorem scanFrom_ok (toks : List PTok) (sp : SearchPos) (env : List Entry) (suffix : List PTok) (i : Nat)
    (hs : suffix = toks.drop i) : ScanOk toks sp env i (scanFrom toks sp env suffix i) := by
  fun_induction scanFrom toks sp env suffix i with
  | case1 i =>
    have hlen : toks.length ≤ i := by
      have := congrArg List.length hs
      simp only [List.length_nil, List.length_drop] at this
      omega
    exact ⟨trivial, fun _ => noConcat_take_le hlen⟩
  | case2 t rest i n htk mi hm =>
    -- an identifier that selects an entry
    obtain ⟨hlen, _⟩ := suffix_facts toks i t rest hs
    obtain ⟨j, e, hj, hget, _, hfire⟩ := matchMacro_some toks i n sp 0 env mi hm
    exact ⟨⟨hlen, e, by rw [hj, Nat.zero_add]; exact hget, hfire⟩, fun _ => id⟩
  | case3 t rest i n htk hm ih =>
    -- an identifier that selects none
    obtain ⟨_, hrest, _, hti⟩ := suffix_facts toks i t rest hs
    exact (ih hrest).mono fun hi => noConcat_take_succ hti hi (by rw [htk]; simp)
  | case4 t rest i htk hnext =>
    -- a `Concat` token left of `next_pos`
    obtain ⟨_, _, _, hti⟩ := suffix_facts toks i t rest hs
    refine ⟨nofun, fun hnc _ _ => absurd htk (hnc t ?_)⟩
    apply List.mem_of_getElem? (i := i)
    rw [List.getElem?_take]
    simp [hnext, hti]
  | case7 t rest i htk hnext l hl r hr =>
    -- `##` with both operands
    obtain ⟨hlen, _, hrl, _⟩ := suffix_facts toks i t rest hs
    have := firstNonWs_spec rest (i + 1) r hr
    exact ⟨⟨by omega, by omega⟩, fun _ => noConcat_take_le (Nat.le_of_lt (lastNonWs_take_lt toks i l hl))⟩
  | case8 t rest i _ hc ih =>
    -- any other token
    obtain ⟨_, hrest, _, hti⟩ := suffix_facts toks i t rest hs
    exact (ih hrest).mono fun hi => noConcat_take_succ hti hi hc
  -- `##` without an operand
  | _ => exact ⟨nofun, fun _ _ => nofun⟩

theorem findSingle_ok (toks : List PTok) (sp : SearchPos) (env : List Entry) :
    ScanOk toks sp env sp.next (findSingle toks sp env) := by
  fun_cases findSingle toks sp env
  next he => exact (scanFrom_ok toks sp env _ sp.early rfl).mono (noConcat_take_le he)
  · exact ⟨nofun, fun _ _ => nofun⟩

/-- what an invocation found by `find_single_macro` implies about its arguments and its end -/
theorem user_bounds (env : List Entry) (toks : List PTok) (sp : SearchPos) (mi p : Nat) (e : Entry)
    (rest : List PTok) (args : List (List PTok))
    (hf : findSingle toks sp env = .ok (.user mi p)) (hmi : env[mi]? = some e)
    (hra : readArgs e.m (toks.drop (p + 1)) = .ok (rest, args)) :
    p < toks.length - rest.length ∧ sp.next < toks.length - rest.length ∧
    ∀ a ∈ args, a.length < toks.length - sp.next := by
  obtain ⟨hp, e', hget, _, _, hc⟩ := (hf ▸ findSingle_ok toks sp env).1
  rw [hmi] at hget
  cases hget
  have hs := readArgs_spec e.m _ rest args hra
  cases hfn : e.m.isFunction with
  | true =>
    simp only [hfn, if_true] at hs hc
    obtain ⟨b, tail, htrim, hrest, hargs⟩ := hs
    obtain ⟨act, hpa, hnext⟩ := hc
    obtain ⟨b', tail', htrim', hact⟩ := parenAfter_spec toks p act hpa
    rw [htrim] at htrim'
    cases htrim'
    have htl : tail.length + 1 ≤ toks.length - (p + 1) := by
      have := trimStartAll_length_le (toks.drop (p + 1))
      rw [htrim] at this
      simpa using this
    have hL : tail.length + 1 + (p + 1) ≤ toks.length := by omega
    obtain ⟨h1, h2, h3⟩ := user_bounds_arith (by omega : act + (tail.length + 1) = toks.length) hnext hrest hL
    exact ⟨Nat.lt_sub_of_add_lt h1, Nat.lt_sub_of_add_lt h2,
      fun a ha => Nat.lt_sub_of_add_lt (h3 a.length (hargs a ha))⟩
  | false =>
    simp only [hfn, Bool.false_eq_true, if_false] at hs hc
    have hlen : rest.length = toks.length - (p + 1) := by rw [hs.1]; simp
    refine ⟨by omega, by omega, ?_⟩
    intro a ha
    rw [hs.2] at ha
    cases ha

/-- a result of the loop: no failed test of the measure; and, started with no `Concat` token before `next_pos`, no spin
and no `Concat` token in what is returned -/
def LoopOk (hnc : Prop) (r : Except Err (List PTok)) : Prop :=
  (∀ w, r ≠ .error (.guard w)) ∧ (hnc → r ≠ .error .hang ∧ ∀ out, r = .ok out → NoConcat out)

theorem LoopOk.error {hnc : Prop} {e : Err} (h1 : ∀ w, e ≠ .guard w) (h2 : hnc → e ≠ .hang) : LoopOk hnc (.error e) :=
  ⟨fun w h => h1 w (by cases h; rfl), fun hn => ⟨fun h => h2 hn (by cases h; rfl), fun out h => (by cases h)⟩⟩

theorem LoopOk.imp {p q : Prop} {r : Except Err (List PTok)} (h : LoopOk p r) (hqp : q → p) : LoopOk q r :=
  ⟨h.1, fun hq => h.2 (hqp hq)⟩

/-- **the loop is safe**: the three run-time tests of the measure never fail, `find_single_macro` never spins, and what
the loop returns has no `Concat` token -- at any depth of the recursion -/
theorem applyLoop_ok (env : List Entry) (toks : List PTok) (sp : SearchPos) :
    LoopOk (NoConcat (toks.take sp.next)) (applyLoop env toks sp) := by
  fun_induction applyLoop env toks sp with
  | case1 env toks sp hlt e hf =>
    have := findSingle_ok toks sp env
    rw [hf] at this
    exact LoopOk.error this.1 (fun hnc => this.2 hnc hnc)
  | case2 env toks sp hlt hf =>
    have := findSingle_ok toks sp env
    rw [hf] at this
    refine ⟨fun w h => (by cases h), fun hnc => ⟨fun h => (by cases h), fun out h => ?_⟩⟩
    cases h
    simpa [foundPos] using this.2 hnc hnc
  | case3 env toks sp hlt l r hf lt rt hr hl hlr e hp =>
    rcases pasteTokens_error _ _ _ hp with ⟨s, rfl⟩ | ⟨s, rfl⟩ | rfl <;>
      exact LoopOk.error (fun w h => (by cases h)) (fun _ h => (by cases h))
  | case4 env toks sp hlt l r hf lt rt hr hl hlr merged hp hg ih =>
    refine ih.imp fun hnc => ?_
    have := findSingle_ok toks sp env
    rw [hf] at this
    have hl' : l ≤ toks.length := by omega
    have e : (splice toks l (r + 1) [merged]).take l = toks.take l := by
      unfold splice
      rw [List.append_assoc, List.take_left' (by simp [List.length_take]; omega)]
    simp only [e]
    exact this.2 hnc hnc
  | case5 env toks sp hlt l r hf lt rt hr hl hlr merged hp hg =>
    have := findSingle_ok toks sp env
    rw [hf] at this
    exact absurd this.1 hg
  | case9 env toks sp hlt mi p hf e hmi er hra =>
    rcases readArgs_error_cases _ _ _ hra with rfl | rfl | rfl <;>
      exact LoopOk.error (fun w h => (by cases h)) (fun _ h => (by cases h))
  | case10 env toks sp hlt mi p hf e hmi rest args hra er hm ih =>
    obtain ⟨a, ha, hfa⟩ := mapE_error _ _ _ hm
    split at hfa
    · rename_i hlen
      have := ih a hlen
      rw [hfa] at this
      exact LoopOk.error (fun w h => this.1 w (by rw [h])) (fun _ h => (this.2 (noConcat_start a)).1 (by rw [h]))
    · rename_i hlen
      exact absurd ((user_bounds env toks sp mi p e rest args hf hmi hra).2.2 a ha) hlen
  | case11 env toks sp hlt mi p hf e hmi rest args hra args' hm er hsub ih =>
    cases substitute_error _ _ _ hsub
    exact LoopOk.error (fun w h => (by cases h)) (fun _ h => (by cases h))
  | case12 env toks sp hlt mi p hf e hmi rest args hra args' hm output hsub hd er hbody ih1 ih2 =>
    rw [hbody] at ih2
    exact LoopOk.error (fun w h => ih2.1 w (by rw [h])) (fun _ h => (ih2.2 (noConcat_start output)).1 (by rw [h]))
  | case13 env toks sp hlt mi p hf e hmi rest args hra end_ args' hm output hsub hd output' hbody hp hg ih1 ih2 ih3 =>
    refine ih3.imp fun hnc => ?_
    have := findSingle_ok toks sp env
    rw [hf] at this
    have hout : NoConcat output' := (ih2.2 (noConcat_start output)).2 output' hbody
    have hp' : p ≤ toks.length := by
      have : end_ ≤ toks.length := Nat.sub_le _ _
      omega
    have e : (splice toks p end_ output').take (p + output'.length) = toks.take p ++ output' := by
      unfold splice
      rw [List.take_left' (by simp [List.length_take]; omega)]
    simp only [e]
    exact noConcat_append.mpr ⟨this.2 hnc hnc, hout⟩
  | case14 env toks sp hlt mi p hf e hmi rest args hra end_ args' hm output hsub hd output' hbody hp hg ih1 ih2 =>
    exact absurd (user_bounds env toks sp mi p e rest args hf hmi hra).2.1 hg
  | case17 env toks sp hlt =>
    refine ⟨fun w h => (by cases h), fun hnc => ⟨fun h => (by cases h), fun out h => ?_⟩⟩
    cases h
    rwa [List.take_of_length_le (by omega)] at hnc
  | _ => exact LoopOk.error (fun w h => (by cases h)) (fun _ h => (by cases h))

end RsslVerif.Lemmas.MacroTerm
