import RsslVerif.Lemmas.FmtParseTables
import RsslVerif.Model.FormatFull
/-! Facts about the printer of the full expression language alone (`Model/FormatFull`): parser level of a node, the printed
form without the outer parenthesis decision, token lists of the node kinds and of the declarator forms, which operators a
bare operand exposes. -/
set_option linter.unusedSimpArgs false
namespace RsslVerif.Lemmas.RoundtripFull
open RsslVerif.Gen.FmtTables RsslVerif.Gen.ParseTables RsslVerif.Gen.SyntaxTables RsslVerif.Model.Format
open RsslVerif.Model.FormatFull RsslVerif.Lemmas.FmtParseTables

/-- parser level of the production that builds the node -/
def _root_.RsslVerif.Model.FormatFull.XExpr.lvl : XExpr → Nat
  | .lit l => if litNegative l then 2 else 0
  | .id _ => 0
  | .un op _ => if isPostfix op then 1 else 2
  | .bin op _ _ => binLevel op
  | .tern _ _ _ => 13
  | .sub _ _ => 1
  | .mem _ _ => 1
  | .call _ _ _ => 1
  | .cast _ _ => 2
  | .sizeof _ => 2

/-- the printed form without the outer parenthesis decision -/
def fmtBodyX (e : XExpr) : List Piece := fmtSubX e topPrec topSide

theorem fmtSubX_eq (e : XExpr) (outer : Nat) (side : Side) :
    fmtSubX e outer side = wrap (needParen e.prec outer side) (fmtBodyX e) := by
  cases e with
  | lit l => simp only [fmtBodyX, fmtSubX, XExpr.prec, needParen_top_lit, wrap_false]
  | un op x => simp only [fmtBodyX, fmtSubX, XExpr.prec, needParen_top_un, wrap_false]
  | bin op l r => simp only [fmtBodyX, fmtSubX, XExpr.prec, needParen_top_bin, wrap_false]
  | _ => simp only [fmtBodyX, fmtSubX, XExpr.prec]; rfl

theorem _root_.RsslVerif.Model.FormatFull.XExpr.prec_lvl (x : XExpr) : (x.prec, x.lvl) ∈ precLevels := by
  cases x with
  | lit l => simp only [XExpr.prec, XExpr.lvl, litPrec]; cases litNegative l <;> decide
  | un op _ => simp only [XExpr.prec, XExpr.lvl]; cases op <;> decide
  | bin op _ _ => exact binPrec_level_mem op
  | _ => simp only [XExpr.prec, XExpr.lvl]; decide

theorem lvl_le (e : XExpr) : e.lvl ≤ 15 := level_le e.prec_lvl

-- `hasLt`: the tree contains a `<` operator (its left operand is followed by a `<` that `expr_p1_call` looks at)
mutual
def hasLt : XExpr → Bool
  | .lit _ => false
  | .id _ => false
  | .un _ x => hasLt x
  | .bin op l r => op == .LessThan || hasLt l || hasLt r
  | .tern c a b => hasLt c || hasLt a || hasLt b
  | .sub o i => hasLt o || hasLt i
  | .mem o _ => hasLt o
  | .call f t a => hasLt f || hasLtTArgs t || hasLtArgs a
  | .cast t x => hasLtTy t || hasLt x
  | .sizeof a => hasLtArg a
def hasLtArgs : XArgs → Bool
  | .nil => false
  | .cons e r => hasLt e || hasLtArgs r
def hasLtArg : TArg → Bool
  | .e x => hasLt x
  | .t t => hasLtTy t
  | .both x t => hasLt x || hasLtTy t
def hasLtTArgs : TArgs → Bool
  | .nil => false
  | .cons a r => hasLtArg a || hasLtTArgs r
def hasLtTy : TyId → Bool
  | .mk _ _ targs d => hasLtTArgs targs || hasLtDecl d
def hasLtDecl : Decl → Bool
  | .empty => false
  | .name _ => false
  | .ptr _ i => hasLtDecl i
  | .ref i => hasLtDecl i
  | .arr i s => hasLtDecl i || hasLt s
  | .arrN i => hasLtDecl i
end

/-- an assignment after `:` gets parentheses from `falseIsAssignment` alone, not from the position; the second part is what
`parenDead` asks of a parenthesised node -/
theorem falseIsAssignmentX_spec (x : XExpr) (h : falseIsAssignmentX x = true) :
    needParen x.prec precTernaryConditional ternFalseSide = false ∧ 3 ≤ x.prec := by
  cases x with
  | bin o _ _ => cases o <;> simp only [XExpr.prec, falseIsAssignmentX] at h ⊢ <;> revert h <;> decide
  | _ => simp [falseIsAssignmentX] at h

theorem falseIsAssignmentX_of_lvl (x : XExpr) (h : x.lvl = 14) : falseIsAssignmentX x = true := by
  cases x with
  | lit l => simp only [XExpr.lvl] at h; split at h <;> cases h
  | un o _ => simp only [XExpr.lvl] at h; split at h <;> cases h
  | bin o _ _ => simp only [XExpr.lvl, falseIsAssignmentX] at h ⊢; revert h; cases o <;> decide
  | _ => cases h

/-- every child position has an outer precedence of at least 2, and at 2 the side is `Left` or `Middle`: a
parenthesised child has precedence at least 3 -/
def PosOk (outer : Nat) (side : Side) : Prop := 3 ≤ outer ∨ (outer = 2 ∧ (side = .Left ∨ side = .Middle))

theorem needParen_prec {p outer : Nat} {side : Side} (hpo : PosOk outer side) (h : needParen p outer side = true) :
    3 ≤ p := by
  revert h
  fun_cases needParen p outer side <;> intro h
  case case1 => rcases hpo with h3 | ⟨rfl, _⟩ <;> omega
  case case2 => cases h
  case case3 =>   -- equal precedences
    rcases hpo with h3 | ⟨rfl, hs⟩
    · omega
    · obtain rfl : p = 2 := by omega
      rcases hs with rfl | rfl <;> revert h <;> decide

/-- tokens an operand can start with -/
def GoodStart (t : Tok) : Prop := (t ≠ .p .Equals ∧ t.isLt = false ∧ t.isGt = false) ∧ t ≠ .p .RightParen

theorem operandStart_of {t : Tok} {ts : List Tok} (h : GoodStart t) : OperandStart (t :: ts) := h.1

/-- tokens an expression starts with -/
def ExprHead (t : Tok) : Prop :=
  (∃ n, t = .id n) ∨ (∃ l, t = .lit l) ∨ t = .p .LeftParen ∨ (∃ op, prefixOp t = some op) ∨ t = .p .SizeOf

theorem goodStart_of_exprHead {t : Tok} (h : ExprHead t) : GoodStart t := by
  rcases h with ⟨n, rfl⟩ | ⟨l, rfl⟩ | rfl | ⟨op, h⟩ | rfl
  · exact ⟨⟨nofun, rfl, rfl⟩, nofun⟩
  · exact ⟨⟨nofun, rfl, rfl⟩, nofun⟩
  · exact ⟨⟨nofun, rfl, rfl⟩, nofun⟩
  · unfold prefixOp at h
    split at h <;> first | exact ⟨⟨nofun, rfl, rfl⟩, nofun⟩ | cases h
  · exact ⟨⟨nofun, rfl, rfl⟩, nofun⟩

theorem prefixOp_unTok {op : UnOp} (h : isPostfix op = false) : prefixOp (unTok op) = some op := by
  cases op <;> first | rfl | cases h

theorem toks_lit (n : Lit) (h : LitOk n = true) : toks (fmtBodyX (.lit n)) = [.lit n] := by
  simp only [fmtBodyX, fmtSubX]
  rw [needParen_top_lit, wrap_false, litOk_toks n h]

theorem toks_id (n : String) : toks (fmtBodyX (.id n)) = [.id n] := by
  simp only [fmtBodyX, fmtSubX]
  rw [show needParen precIdentifier topPrec topSide = false by decide, wrap_false]; rfl

theorem toks_prefix (op : UnOp) (x : XExpr) (h : isPostfix op = false) :
    toks (fmtBodyX (.un op x)) = unTok op :: toks (fmtSubX x (unPrec op) prefixOperandSide) := by
  simp only [fmtBodyX, fmtSubX, needParen_top_un, wrap_false, h, if_false, Bool.false_eq_true, toks_un_prefix]

theorem toks_postfix (op : UnOp) (x : XExpr) (h : isPostfix op = true) :
    toks (fmtBodyX (.un op x)) = toks (fmtSubX x (unPrec op) postfixOperandSide) ++ [unTok op] := by
  simp only [fmtBodyX, fmtSubX, needParen_top_un, wrap_false, h, if_true, toks_append]
  simp [unPiece]

theorem toks_bin (op : BinOp) (l r : XExpr) :
    toks (fmtBodyX (.bin op l r)) =
      toks (fmtSubX l (binPrec op) binLeftSide) ++ (binToks op ++ toks (fmtSubX r (binPrec op) binRightSide)) := by
  simp only [fmtBodyX, fmtSubX, needParen_top_bin, wrap_false, toks_append, toks_binPieces, toks_cons_sp]
  split <;> simp

theorem toks_tern (c a b : XExpr) :
    toks (fmtBodyX (.tern c a b)) = toks (fmtSubX c precTernaryConditional ternCondSide) ++
      (.p .QuestionMark :: (toks (fmtSubX a precTernaryConditional ternTrueSide) ++
        (.p .Colon :: toks (wrap (falseIsAssignmentX b) (fmtSubX b precTernaryConditional ternFalseSide))))) := by
  simp only [fmtBodyX, fmtSubX]
  rw [show needParen precTernaryConditional topPrec topSide = false by decide, wrap_false]
  simp [pp]

theorem toks_sub (o i : XExpr) :
    toks (fmtBodyX (.sub o i)) = toks (fmtSubX o precArraySubscript subObjectSide) ++
      (.p .LeftSquareBracket :: (toks (fmtSubX i precArraySubscript subIndexSide) ++ [.p .RightSquareBracket])) := by
  simp only [fmtBodyX, fmtSubX]
  rw [show needParen precArraySubscript topPrec topSide = false by decide, wrap_false]
  simp [pp]

theorem toks_mem (o : XExpr) (n : String) :
    toks (fmtBodyX (.mem o n)) =
      toks (wrap (memObjParenX o) (fmtSubX o precMember memObjectSide)) ++ [.p .Period, .id n] := by
  simp only [fmtBodyX, fmtSubX]
  rw [show needParen precMember topPrec topSide = false by decide, wrap_false]
  simp [pp]

theorem toks_call (f : XExpr) (targs : TArgs) (args : XArgs) :
    toks (fmtBodyX (.call f targs args)) = toks (fmtSubX f callObjectPrec callObjectSide) ++
      (toks (fmtTArgs targs true) ++ (.p .LeftParen :: (toks (fmtArgsX args) ++ [.p .RightParen]))) := by
  simp only [fmtBodyX, fmtSubX]
  rw [show needParen precCall topPrec topSide = false by decide, wrap_false]
  simp [pp]

theorem toks_cast (t : TyId) (x : XExpr) :
    toks (fmtBodyX (.cast t x)) = .p .LeftParen :: (toks (fmtTyId t true) ++
      (.p .RightParen :: toks (fmtSubX x precCast castOperandSide))) := by
  simp only [fmtBodyX, fmtSubX]
  rw [show needParen precCast topPrec topSide = false by decide, wrap_false]
  simp [pp]

theorem toks_sizeof (a : TArg) :
    toks (fmtBodyX (.sizeof a)) = .p .SizeOf :: .p .LeftParen :: (toks (fmtEOT a true) ++ [.p .RightParen]) := by
  simp only [fmtBodyX, fmtSubX]
  rw [show needParen precSizeOf topPrec topSide = false by decide, wrap_false]
  simp [pp, sizeofP]

theorem toks_fmtMods (mods : List TypeMod) (spaceBefore : Bool) : toks (fmtMods mods spaceBefore) = mods.map modTok := by
  induction mods with
  | nil => rfl
  | cons m ms ih => cases spaceBefore <;> simp [fmtMods, modPiece, ih]

theorem toks_fmtDecl_name (n : String) (single : Bool) : toks (fmtDecl (.name n) single) = [.id n] := by
  cases single <;> rfl

theorem toks_fmtDecl_ptr (quals : List TypeMod) (inner : Decl) (single : Bool) :
    toks (fmtDecl (.ptr quals inner) single) =
      .p .Asterix :: (toks (fmtMods quals single) ++ toks (fmtDecl inner single)) := by
  simp [fmtDecl, pp]

theorem toks_fmtDecl_ref (inner : Decl) (single : Bool) :
    toks (fmtDecl (.ref inner) single) = .p .Ampersand :: toks (fmtDecl inner single) := by
  simp [fmtDecl, pp]

/-- an array declarator prints its inner declarator (in parentheses when it is a pointer or a reference), then the dimension -/
theorem toks_fmtDecl_arr (i : Decl) (s : XExpr) (single : Bool) :
    toks (fmtDecl (.arr i s) single) = toks (wrap i.needsScope (fmtDecl i (single && !i.needsScope))) ++
      (.p .LeftSquareBracket :: (toks (fmtSubX s arraySizePrec arraySizeSide) ++ [.p .RightSquareBracket])) := by
  cases h : i.needsScope <;> cases single <;> simp [fmtDecl, h, wrap, lp, rp, pp]

theorem toks_fmtDecl_arrN (i : Decl) (single : Bool) :
    toks (fmtDecl (.arrN i) single) = toks (wrap i.needsScope (fmtDecl i (single && !i.needsScope))) ++
      [.p .LeftSquareBracket, .p .RightSquareBracket] := by
  cases h : i.needsScope <;> cases single <;> simp [fmtDecl, h, wrap, lp, rp, pp]

theorem posOk_prefix (op : UnOp) (h : isPostfix op = false) : PosOk (unPrec op) prefixOperandSide := by
  cases op <;> simp [isPostfix] at h <;> exact Or.inl (by decide)

theorem posOk_postfix (op : UnOp) (h : isPostfix op = true) : PosOk (unPrec op) postfixOperandSide := by
  cases op <;> simp [isPostfix] at h <;> exact Or.inr ⟨rfl, Or.inl rfl⟩

theorem posOk_binL (op : BinOp) : PosOk (binPrec op) binLeftSide := by cases op <;> exact Or.inl (by decide)

theorem posOk_binR (op : BinOp) : PosOk (binPrec op) binRightSide := by cases op <;> exact Or.inl (by decide)

theorem posOk_top : PosOk topPrec topSide := Or.inl (by decide)

theorem posOk_eot : PosOk eotExprPrec eotExprSide := Or.inl (by decide)

theorem needParen_false_le {p outer : Nat} {side : Side} (h : needParen p outer side = false) : p ≤ outer := by
  unfold needParen at h
  split at h
  · cases h
  · omega

/-- an expression-or-type position parenthesises the shift operators and everything that binds less tightly (e8e0be6):
what is printed bare has a precedence below the one of the shift operators -/
theorem eot_bare_prec {p : Nat} (h : needParen p eotExprPrec eotExprSide = false) : p ≤ 6 := by
  have h7 := needParen_false_le h
  have h7' : p ≤ 7 := h7
  rcases Nat.lt_or_ge p 7 with hlt | hge
  · omega
  · have : p = 7 := by omega
    subst this
    revert h; decide

theorem posOk_arg : PosOk callArgPrec callArgSide := Or.inl (by decide)

theorem posOk_argMain : PosOk callArgMainPrec callArgMainSide := Or.inl (by decide)

end RsslVerif.Lemmas.RoundtripFull
