import RsslVerif.Lemmas.MacroSubst
import RsslVerif.Model.MacroTame
/-!
# Tame expansions: the big-step reading of `apply_macros` on which rssl and the C algorithm agree

`Tame env toks out` is a derivation of "the token list `toks` expands to `out` under the macro list `env`" in the
style of a big-step semantics: the list is read left to right, a token is either *kept* or it is the name of an
enabled macro that is *invoked* (arguments read, each argument expanded on its own, the substituted replacement list
expanded with the macro disabled, the result put in place of the invocation and never looked at again).  The
rules carry the side conditions that delimit where rssl's algorithm (per-macro `macro_disabled` flags, rescanning of
the replacement list in isolation, `early_function_pos`) and the C algorithm (per-token hide sets, rescanning together
with the rest of the source) provably coincide:

* `ArgOK` = `OnlyDisabled` or `AllKept`: what an argument expands to contains no macro name that is still enabled
  (otherwise rssl expands it again when it rescans the replacement list, C does not: deviation `argument-repainted`)
  -- unless nothing was expanded in the argument at all: then its tokens carry exactly the hide set of the invocation
  and behave like tokens of the replacement list (the bare name of a function-like macro passed to a macro that
  invokes it, `APPLY(NEG, a)`, `LIST(DECL)`);
* `NoFire`: the expansion of a replacement list does not end in the name of an enabled function-like macro that is
  followed by `(` in the rest of the source (an invocation that spans the end of a replacement list: rssl decides it
  with `early_function_pos`/`last_macro_function_index`, C with hide sets, and they differ: deviations
  `painted-function-name-reinvoked`, `function-name-before-vanished-macro`);
* `Kept`: an enabled function-like macro name is kept only if the next token that is not white space is not `(`
  (this is exactly when rssl keeps it: the search for `(` skips line ends like C does, fix f08088c,
  `parenAfter_iff_startsParen`); no `##`.

This file: the relation and what the scan of `find_single_macro` does on the tokens a derivation keeps.  A tame
derivation is what `applyLoop` computes: `tame_model` in `Lemmas/MacroTameP.lean`.
-/
namespace RsslVerif.Lemmas.MacroTame
open RsslVerif.Model.Macro RsslVerif.Model.MacroTame RsslVerif.Lemmas.MacroTerm RsslVerif.Lemmas.MacroSubst
open RsslVerif.Lemmas.MacroHang

/-- the identifier `n` selects entry `mi`: it is enabled and it is the only entry of that name -/
structure Selects (env : List Entry) (n : String) (mi : Nat) (e : Entry) : Prop where
  get : env[mi]? = some e
  name : e.m.name = n
  enabled : e.disabled = false
  uniq : ∀ j e', env[j]? = some e' → e'.m.name = n → j = mi

/-- the token `t`, followed by `rest`, starts no operation: it is not `##`, and if it is an identifier then every
entry of that name is disabled, or is function-like while the next token is not `(` -/
def Kept (env : List Entry) (t : PTok) (rest : List PTok) : Prop :=
  t.tok ≠ .concat ∧
  ∀ n, t.tok = .id n → ∀ e ∈ env, e.m.name = n →
    e.disabled = true ∨ (e.m.isFunction = true ∧ startsParen rest = false)

/-- every macro name in `l` names disabled entries only -/
def OnlyDisabled (env : List Entry) (l : List PTok) : Prop :=
  ∀ t ∈ l, ∀ n, t.tok = .id n → ∀ e ∈ env, e.m.name = n → e.disabled = true

/-- no token of `l` starts an operation where it stands: the list expands to itself, token by token -/
def AllKept (env : List Entry) : List PTok → Prop
  | [] => True
  | t :: rest => Kept env t rest ∧ AllKept env rest

/-- the side condition on an argument `a` of an invocation and what it expanded to, `a'`: `a'` names disabled macros
only, or nothing happened in `a` at all (`a' = a`, token by token).  The second case is the higher-order use of a
macro: the bare name of an enabled function-like macro is passed (`APPLY(NEG, a)`, `LIST(DECL)`), not followed by `(`
inside the argument, and the replacement list invokes it. -/
def ArgOK (env : List Entry) (a a' : List PTok) : Prop := OnlyDisabled env a' ∨ AllKept env a

/-- the expansion `R` of the replacement list of entry `mi`, followed by `rest`, gives no invocation that spans
the end of `R`: if an identifier of `R` is followed by white space only up to the end of `R` and `rest` starts with
`(`, then the function-like entries of that name are disabled, or are `mi` itself -/
def NoFire (env : List Entry) (mi : Nat) (R rest : List PTok) : Prop :=
  ∀ R0 g b R1, R = R0 ++ ⟨.id g, b⟩ :: R1 → (∀ t ∈ R1, t.tok.isWhitespace = true) → startsParen rest = true →
    ∀ j e, env[j]? = some e → e.m.name = g → e.m.isFunction = true → e.disabled = true ∨ j = mi

inductive Tame : List Entry → List PTok → List PTok → Prop
  | nil (env : List Entry) : Tame env [] []
  | keep (env : List Entry) (t : PTok) (rest out : List PTok) :
      Kept env t rest → Tame env rest out → Tame env (t :: rest) (t :: out)
  | invoke (env : List Entry) (n : String) (b : Bool) (rest : List PTok) (mi : Nat) (e : Entry)
      (rest' : List PTok) (args args' : List (List PTok)) (body' R out : List PTok) :
      Selects env n mi e →
      readArgs e.m rest = .ok (rest', args) →
      args'.length = args.length →
      (∀ (i : Nat) (a a' : List PTok), args[i]? = some a → args'[i]? = some a' → Tame env a a') →
      (∀ (i : Nat) (a a' : List PTok), args[i]? = some a → args'[i]? = some a' → ArgOK env a a') →
      substitute e.m.body args' = .ok body' →
      Tame (disable env mi) body' R →
      NoFire env mi R rest' →
      Tame env rest' out →
      Tame env (⟨.id n, b⟩ :: rest) (R ++ out)

theorem disable_getElem? (env : List Entry) (mi j : Nat) :
    (disable env mi)[j]? = (env[j]?).map (fun e => if j = mi then { e with disabled := true } else e) := by
  unfold disable
  rw [List.getElem?_modify]
  cases env[j]? with
  | none => rfl
  | some e =>
    simp only [Option.map_some]
    by_cases h : mi = j
    · subst h; simp
    · have : ¬ j = mi := fun hh => h hh.symm
      simp [h, this]

theorem mem_disable {env : List Entry} {mi : Nat} {e' : Entry} (h : e' ∈ disable env mi) :
    ∃ e ∈ env, e'.m = e.m ∧ (e.disabled = true → e'.disabled = true) := by
  obtain ⟨j, hj⟩ := List.mem_iff_getElem?.mp h
  rw [disable_getElem?] at hj
  cases hget : env[j]? with
  | none => simp [hget] at hj
  | some e =>
    simp only [hget, Option.map_some, Option.some.injEq] at hj
    refine ⟨e, List.mem_of_getElem? hget, ?_, ?_⟩
    · rw [← hj]; split <;> rfl
    · intro hd; rw [← hj]; split
      · rfl
      · exact hd

theorem blank_isWhitespace (t : Tok) (h : t.isBlank = true) : t.isWhitespace = true := by
  cases t <;> simp [Tok.isBlank] at h ⊢ <;> rfl

theorem firstTok_eq (l : List PTok) : firstTok l = (trimStartAll l).head?.map (·.tok) := by
  induction l with
  | nil => rfl
  | cons t r ih =>
    cases h : t.tok.isWhitespace with
    | true => simpa [firstTok, h, trimStartAll] using ih
    | false => simp [firstTok, h, trimStartAll]

/-- the search for `(` of `find_single_macro` / `split_macro_args` (fix f08088c) is the C reading of "the next
preprocessing token is `(`": white space of every kind, line ends included, is skipped -/
theorem startsParen_iff (l : List PTok) : startsParen l = true ↔ ∃ b tail, trimStartAll l = ⟨.lparen, b⟩ :: tail := by
  unfold startsParen
  rw [firstTok_eq]
  cases h : trimStartAll l with
  | nil => simp
  | cons x r =>
    obtain ⟨k, b⟩ := x
    simp only [List.head?_cons, Option.map_some, beq_iff_eq, Option.some.injEq, List.cons.injEq, PTok.mk.injEq]
    exact ⟨fun hk => ⟨b, r, ⟨hk, rfl⟩, rfl⟩, fun ⟨_, _, ⟨hk, _⟩, _⟩ => hk⟩

theorem trimStartAll_append_paren (A B tail : List PTok) (b : Bool)
    (h : trimStartAll (A ++ B) = ⟨.lparen, b⟩ :: tail) (hlen : tail.length + 1 ≤ B.length) :
    (∀ t ∈ A, t.tok.isWhitespace = true) ∧ trimStartAll B = ⟨.lparen, b⟩ :: tail := by
  obtain ⟨W, hW, hws, hx⟩ := ws_split A
  cases hA : trimStartAll A with
  | nil =>
    rw [hA, List.append_nil] at hW
    subst hW
    exact ⟨hws, by rwa [trimStartAll_ws _ _ hws] at h⟩
  | cons x r =>
    exfalso
    rw [hA] at hW
    rw [hW, List.append_assoc, trimStartAll_ws _ _ hws, List.cons_append, trimStartAll_nonws x _ (hx x r hA)] at h
    have := congrArg List.length h
    simp only [List.length_cons, List.length_append] at this
    omega

theorem parenAfter_none_of_startsParen (toks : List PTok) (i : Nat)
    (h : startsParen (toks.drop (i + 1)) = false) : parenAfter toks i = none := by
  unfold parenAfter
  split
  · rename_i b tail ht
    rw [(startsParen_iff _).mpr ⟨b, tail, ht⟩] at h; cases h
  · rfl

/-- **`find_single_macro` looks for the `(` of an invocation the way C does** (fix f08088c): it is found exactly when
the next token that is not white space -- blank, comment *or line end* -- is `(` -/
theorem parenAfter_iff_startsParen (toks : List PTok) (i : Nat) :
    (parenAfter toks i).isSome = startsParen (toks.drop (i + 1)) := by
  cases h : startsParen (toks.drop (i + 1)) with
  | false => rw [parenAfter_none_of_startsParen toks i h]; rfl
  | true =>
    obtain ⟨b, tail, ht⟩ := (startsParen_iff _).mp h
    unfold parenAfter
    rw [ht]; rfl

/-- the last token of a list that is not white space -/
theorem last_nonws_split : ∀ (R : List PTok), (∃ t ∈ R, t.tok.isWhitespace = false) →
    ∃ R0 g R1, R = R0 ++ g :: R1 ∧ g.tok.isWhitespace = false ∧ ∀ t ∈ R1, t.tok.isWhitespace = true
  | [], h => by obtain ⟨_, ht, _⟩ := h; cases ht
  | x :: r, h => by
    by_cases hr : ∃ t ∈ r, t.tok.isWhitespace = false
    · obtain ⟨R0, g, R1, hR, hg, hws⟩ := last_nonws_split r hr
      exact ⟨x :: R0, g, R1, by rw [hR]; rfl, hg, hws⟩
    · obtain ⟨t, ht, htw⟩ := h
      rcases List.mem_cons.mp ht with rfl | ht
      · exact ⟨[], t, r, rfl, htw, fun y hy => by simpa using fun hh => hr ⟨y, hy, hh⟩⟩
      · exact absurd ⟨t, ht, htw⟩ hr

theorem matchMacro_kept (toks : List PTok) (i : Nat) (n : String) (sp : SearchPos) (j : Nat) (env : List Entry)
    (h : ∀ e ∈ env, e.m.name = n → e.disabled = true ∨ (e.m.isFunction = true ∧ parenAfter toks i = none)) :
    matchMacro toks i n sp j env = none := by
  apply matchMacro_none_of
  intro _ e hj hn hf
  rcases h e (List.mem_of_getElem? hj) hn.symm with hd | ⟨hfn, hpa⟩
  · rw [hf.enabled] at hd; cases hd
  · simpa [hfn, hpa] using hf.reaches

theorem skips_of_kept {env : List Entry} {t : PTok} {rest : List PTok} (hk : Kept env t rest) (toks : List PTok)
    (sp : SearchPos) (k : Nat) (hdrop : toks.drop (k + 1) = rest) : Skips toks sp env k t := by
  refine ⟨hk.1, fun n htk => matchMacro_kept toks k n sp 0 env (fun e he hn => ?_)⟩
  rcases hk.2 n htk e he hn with hd | ⟨hf, hs⟩
  · exact Or.inl hd
  · exact Or.inr ⟨hf, parenAfter_none_of_startsParen toks k (by rw [hdrop]; exact hs)⟩

/-- at or beyond `next_pos` an enabled entry fires, if its `(` (when it is function-like) is found -/
theorem fires_of_next {toks : List PTok} {i : Nat} {sp : SearchPos} {e : Entry} (mi : Nat)
    (hen : e.disabled = false) (hi : sp.next ≤ i)
    (hfn : e.m.isFunction = true → ∃ act, parenAfter toks i = some act ∧ sp.next ≤ act) : Fires toks i sp mi e := by
  refine ⟨hen, fun h => Nat.not_lt.mpr hi h.2, ?_⟩
  cases hf : e.m.isFunction with
  | true => simpa using hfn hf
  | false => simpa using hi

theorem matchMacro_at (toks : List PTok) (i : Nat) (sp : SearchPos) (k : Nat) (pre post : List Entry) (e : Entry)
    (hpre : ∀ x ∈ pre, x.m.name ≠ e.m.name) (hen : e.disabled = false) (hi : sp.next ≤ i)
    (hfn : e.m.isFunction = true → ∃ act, parenAfter toks i = some act ∧ sp.next ≤ act) :
    matchMacro toks i e.m.name sp k (pre ++ e :: post) = some (k + pre.length) :=
  matchMacro_first toks i sp k pre post e hpre (fires_of_next _ hen hi hfn)

theorem selects_split {env : List Entry} {n : String} {mi : Nat} {e : Entry} (h : Selects env n mi e) :
    env = env.take mi ++ e :: env.drop (mi + 1) ∧ (env.take mi).length = mi ∧
      ∀ x ∈ env.take mi, x.m.name ≠ e.m.name := by
  have hlt : mi < env.length := by
    have := h.get
    exact (List.getElem?_eq_some_iff.mp this).1
  have hget : env[mi] = e := (List.getElem?_eq_some_iff.mp h.get).2
  refine ⟨?_, by simp; omega, ?_⟩
  · rw [← hget]; simp
  · intro x hx hname
    obtain ⟨j, hj⟩ := List.mem_iff_getElem?.mp hx
    rw [List.getElem?_take] at hj
    split at hj
    · rename_i hlt'
      have := h.uniq j x hj (by rw [hname, h.name])
      omega
    · cases hj

/-- the entry a name selects is the one `matchMacro` reports, if it fires -/
theorem matchMacro_selects {env : List Entry} {n : String} {mi : Nat} {e : Entry} (hsel : Selects env n mi e)
    (toks : List PTok) (i : Nat) (sp : SearchPos) (h : Fires toks i sp mi e) :
    matchMacro toks i n sp 0 env = some mi := by
  obtain ⟨henv, hprelen, hpre⟩ := selects_split hsel
  have := matchMacro_first toks i sp 0 (env.take mi) (env.drop (mi + 1)) e hpre (by rwa [hprelen, Nat.zero_add])
  rwa [← henv, hprelen, hsel.name, Nat.zero_add] at this

theorem parenAfter_gt (toks : List PTok) (i act : Nat) (h : parenAfter toks i = some act) : i < act := by
  obtain ⟨b, tail, htrim, hact⟩ := parenAfter_spec toks i act h
  have := trimStartAll_length_le (toks.drop (i + 1))
  rw [htrim] at this
  simp only [List.length_cons, List.length_drop] at this
  omega


/-- in the early region an identifier starts an invocation only if it names an enabled function-like entry, other
than the one applied last, whose `(` lies at or beyond `next_pos` -/
theorem matchMacro_early (toks : List PTok) (i : Nat) (n : String) (sp : SearchPos) (j : Nat) (env : List Entry)
    (hi : i < sp.next)
    (h : ∀ k e, env[k]? = some e → e.disabled = false → sp.lastFn ≠ some (j + k) → e.m.name = n →
      e.m.isFunction = true → ∀ act, parenAfter toks i = some act → act < sp.next) :
    matchMacro toks i n sp j env = none := by
  apply matchMacro_none_of
  intro k e hk hn hf
  obtain ⟨hd, hl, hc⟩ := hf
  cases hfn : e.m.isFunction with
  | true =>
    simp only [hfn, if_true] at hc
    obtain ⟨act, hpa, hle⟩ := hc
    have := h k e hk hd (fun hh => hl ⟨hh, hi⟩) hn.symm hfn act hpa
    omega
  | false =>
    simp only [hfn, Bool.false_eq_true, if_false] at hc
    omega

/-- the scan passes a region `R1` that ends at or before `next_pos` when no identifier of `R1`, read with what follows it
in `R1 ++ rest`, names an enabled function-like entry (other than the one applied last) whose `(` lies at or beyond
`next_pos` -/
theorem scanFrom_early_pass (toks : List PTok) (sp : SearchPos) (env : List Entry) (R1 rest : List PTok) (i : Nat)
    (hs : toks.drop i = R1 ++ rest) (hend : i + R1.length ≤ sp.next) (hnc : NoConcat R1)
    (hq : ∀ A x b B, R1 = A ++ ⟨.id x, b⟩ :: B →
      ∀ k e, env[k]? = some e → e.disabled = false → sp.lastFn ≠ some k → e.m.name = x → e.m.isFunction = true →
        ∀ bb tail, trimStartAll (B ++ rest) = ⟨.lparen, bb⟩ :: tail → toks.length - (tail.length + 1) < sp.next) :
    scanFrom toks sp env (R1 ++ rest) i = scanFrom toks sp env rest (i + R1.length) := by
  apply scanFrom_append_skip
  intro j t hj
  have hjlt : j < R1.length := (List.getElem?_eq_some_iff.mp hj).1
  refine ⟨hnc t (List.mem_of_getElem? hj), fun x htk => matchMacro_early toks (i + j) x sp 0 env (by omega) ?_⟩
  intro k e hk hd hl hn hf act hpa
  obtain ⟨tt, tb⟩ := t
  simp only at htk
  subst htk
  -- the search for `(` from position `i + j` reads what follows `R1[j]` in `R1 ++ rest`
  obtain ⟨bb, tail, htrim, rfl⟩ := parenAfter_spec _ _ _ hpa
  rw [show i + j + 1 = i + (j + 1) by omega, ← List.drop_drop, hs, List.drop_append_of_le_length (by omega)] at htrim
  refine hq (R1.take j) x tb _ ?_ k e hk hd (by simpa using hl) hn hf bb tail htrim
  rw [← (List.getElem?_eq_some_iff.mp hj).2]; simp

theorem mapE_pointwise {α β : Type} (f : α → Except Err β) (l : List α) (r : List β) (hlen : r.length = l.length)
    (h : ∀ (i : Nat) a b, l[i]? = some a → r[i]? = some b → f a = .ok b) : mapE f l = .ok r := by
  induction l generalizing r with
  | nil =>
    cases r with
    | nil => rfl
    | cons _ _ => simp at hlen
  | cons a as ih =>
    cases r with
    | nil => simp at hlen
    | cons b bs =>
      have h0 := h 0 a b (by simp) (by simp)
      have := ih bs (by simpa using hlen) (fun i x y hx hy => h (i + 1) x y (by simpa using hx) (by simpa using hy))
      simp only [mapE, h0, this]


/-- **The scan of the early region finds the function-like name at the end of an expansion.**  After an invocation
was replaced by `R0 ++ g :: blanks` (`P`: the tokens before it), with `next_pos` behind the expansion and
`early_function_pos` at its start: if `g` names an enabled function-like entry other than the one applied last, only
white space (blanks, comments, line ends) follows it inside the expansion, and the text behind the expansion starts
-- after white space -- with `(`, then `find_single_macro` reports an invocation of that entry at the position of `g`. -/
theorem early_scan_finds_trailing_name (env : List Entry) (P R0 blanks rest : List PTok) (g : String) (b : Bool)
    (mj : Nat) (e : Entry) (lastFn : Option Nat)
    (hsel : Selects env g mj e) (hfn : e.m.isFunction = true) (hlast : lastFn ≠ some mj)
    (hnc : NoConcat R0) (hblank : ∀ t ∈ blanks, t.tok.isWhitespace = true)
    (hparen : ∃ b' tail, trimStartAll rest = ⟨.lparen, b'⟩ :: tail) :
    findSingle (P ++ (R0 ++ ⟨.id g, b⟩ :: blanks) ++ rest)
      ⟨P.length + (R0 ++ ⟨.id g, b⟩ :: blanks).length, P.length, lastFn⟩ env =
      .ok (.user mj (P.length + R0.length)) := by
  obtain ⟨b', tail, htrim⟩ := hparen
  have hlenR : (R0 ++ ⟨.id g, b⟩ :: blanks).length = R0.length + 1 + blanks.length := by simp; omega
  generalize htoks : P ++ (R0 ++ ⟨.id g, b⟩ :: blanks) ++ rest = toks
  have hlen : toks.length = P.length + (R0.length + 1 + blanks.length) + rest.length := by
    rw [← htoks]; simp; omega
  have hdropP : toks.drop P.length = R0 ++ (⟨.id g, b⟩ :: (blanks ++ rest)) := by
    rw [← htoks]; simp [List.append_assoc]
  have hdropg : toks.drop (P.length + R0.length + 1) = blanks ++ rest := by
    have h1 : toks.drop (P.length + R0.length) = ⟨.id g, b⟩ :: (blanks ++ rest) := by
      rw [← List.drop_drop, hdropP, List.drop_left]
    have := congrArg (List.drop 1) h1
    simpa [List.drop_drop, Nat.add_comm 1] using this
  have hpa : parenAfter toks (P.length + R0.length) = some (toks.length - (tail.length + 1)) := by
    unfold parenAfter
    rw [hdropg, trimStartAll_ws blanks rest hblank, htrim]
  have htl : tail.length + 1 ≤ rest.length := by
    have := trimStartAll_length_le rest
    rw [htrim] at this
    simpa using this
  unfold findSingle
  simp only [hlenR, Nat.le_add_right, if_true]
  rw [hdropP]
  rw [scanFrom_early_pass toks _ env R0 _ P.length hdropP (by simp only; omega) hnc]
  · -- at `g`
    have hm := matchMacro_selects hsel toks (P.length + R0.length)
      ⟨P.length + (R0.length + 1 + blanks.length), P.length, lastFn⟩
      ⟨hsel.enabled, fun h => hlast h.1, by simpa [hfn] using ⟨_, hpa, by omega⟩⟩
    simp [scanFrom, hm]
  · -- nothing in `R0` can start an invocation: the search for its `(` stops at `g`
    intro A x bx B _ k e' _ _ _ _ _ bb tl htr
    simp only
    by_cases hl : tl.length + 1 ≤ (⟨.id g, b⟩ :: (blanks ++ rest)).length
    · have := (trimStartAll_append_paren _ _ _ _ htr hl).2
      rw [trimStartAll_nonws _ _ rfl] at this
      cases this
    · simp only [List.length_cons, List.length_append] at hl
      omega


/-- after an invocation was replaced by `R`, the scan of the early region (the tokens of `R`) finds nothing -/
theorem _root_.RsslVerif.Lemmas.MacroSubst.At.after {env : List Entry} {mi : Nat} {e : Entry} (P R rest' : List PTok) (hmi : env[mi]? = some e)
    (hnc : NoConcat R) (hnf : NoFire env mi R rest') :
    At env (P ++ R ++ rest') ⟨P.length + R.length, P.length, if e.m.isFunction then some mi else none⟩
      (P.length + R.length) := by
  refine ⟨Nat.le_add_right _ _, Nat.le_refl _, ?_⟩
  have hd1 : (P ++ R ++ rest').drop P.length = R ++ rest' := by simp [List.append_assoc]
  have hd2 : (P ++ R ++ rest').drop (P.length + R.length) = rest' := by
    rw [← List.length_append, List.drop_left]
  simp only [hd1, hd2]
  apply scanFrom_early_pass _ _ _ R rest' P.length hd1 (Nat.le_refl _) hnc
  intro A x b' B hR j e' hj hd hl hname hfn bb tail htrim
  apply Classical.byContradiction
  intro hact
  simp only [Nat.not_lt] at hact
  have hlen' : (P ++ R ++ rest').length = P.length + R.length + rest'.length := by simp; omega
  have hRlen := congrArg List.length hR
  have htl := trimStartAll_length_le (B ++ rest')
  rw [htrim] at htl
  simp only [List.length_append, List.length_cons] at hRlen htl
  have htl2 : tail.length + 1 ≤ rest'.length := by omega
  obtain ⟨hblank, htrim'⟩ := trimStartAll_append_paren _ _ _ _ htrim htl2
  have hsp : startsParen rest' = true := (startsParen_iff _).mpr ⟨_, _, htrim'⟩
  rcases hnf _ x b' _ hR (fun t ht => hblank t ht) hsp j e' hj hname hfn with h4 | h4
  · rw [hd] at h4; cases h4
  · subst h4
    rw [hmi] at hj
    cases hj
    simp [hfn] at hl

end RsslVerif.Lemmas.MacroTame
