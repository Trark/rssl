import RsslVerif.Lemmas.GenMslVecMain
/-! Vector layer of C02: statement-level assignment / compound assignment to a vector variable or a swizzle of one. -/
namespace RsslVerif.Lemmas.GenMslVec
open RsslVerif.Gen.HlslGenTables RsslVerif.Gen.HlslVecTables RsslVerif.Gen.MslGenTables RsslVerif.Gen.MslVecTables
open RsslVerif.Model RsslVerif.Model.IrVec RsslVerif.Model.GenMsl RsslVerif.Model.GenMslVec
open RsslVerif.Spec.Sem RsslVerif.Spec.SemVec RsslVerif.Spec.SemMslVec RsslVerif.Lemmas.GenMsl
open RsslVerif.Model.Ir (Ty Var Const Dir)

variable {W : World} {M : Msl.MWorld} {env : VAst.VEnv} {cx : Ctx} {vvty : Var → VTy} {vis : Var → Bool} {rsv : Nat → List Var}

abbrev placeOKM := VOk.placeOKM

theorem lval_genMV (hag : VAgreeM cx vis env vvty) {lhs : VExpr} {lhs' : VAExpr} {x : Var} {sl : Option (List SwizzleSlot)}
    (hp : VIr.placeOf lhs = some (x, sl)) (hpl : placeOKM vis vvty lhs = true) (hg : genMV cx vvty lhs = .ok lhs') :
    VAst.lvalOfV env lhs' = some (x, sl.map (·.map slotIdx)) ∧ VMsl.nodupIdx (sl.map (·.map slotIdx)) = true := by
  cases lhs with
  | vvar id | vglobal id =>
    simp [VIr.placeOf] at hp; obtain ⟨rfl, rfl⟩ := hp
    simp [genMV] at hg; subst hg
    have hr := hag.vres _ (by simpa [placeOKM, VOk.placeOKM] using hpl); simp only [Ctx.name] at hr
    simp [VAst.lvalOfV, hr, VMsl.nodupIdx]
  | swz e l =>
    cases e with
    | vvar id | vglobal id =>
      simp [VIr.placeOf] at hp; obtain ⟨rfl, rfl⟩ := hp
      simp only [placeOKM, VOk.placeOKM, Bool.and_eq_true, decide_eq_true_eq] at hpl
      obtain ⟨⟨hv, hvec⟩, hnd⟩ := hpl
      have hr := hag.vres _ hv; simp only [Ctx.name] at hr
      split at hvec
      · rename_i k n hvt
        simp [genMV, getTy, hvt] at hg; subst hg
        simp [VAst.lvalOfV, hr, parse_mslSwizzleName, VMsl.nodupIdx, hnd]
      · cases hvec
    | _ => simp [VIr.placeOf] at hp
  | _ => simp [VIr.placeOf] at hp

theorem convOK_self (t : VTy) : VMsl.convOK t t = true := by cases t <;> simp [VMsl.convOK]

theorem eval_place {W : World} {ρ : VStore} {lhs : VExpr} {x : Var} {sl : Option (List SwizzleSlot)}
    (hp : VIr.placeOf lhs = some (x, sl)) (σ : Store) :
    VIr.eval W ρ lhs σ = (readPlace (ρ x) (sl.map (·.map slotIdx))).map (fun c => (c, σ)) := by
  cases lhs with
  | vvar id | vglobal id => simp [VIr.placeOf] at hp; obtain ⟨rfl, rfl⟩ := hp; simp [readPlace, VIr.eval]
  | swz e l =>
    cases e with
    | vvar id | vglobal id =>
      simp [VIr.placeOf] at hp; obtain ⟨rfl, rfl⟩ := hp
      simp [readPlace, VIr.eval]
      cases select (List.map slotIdx l) (ρ _) <;> rfl
    | _ => simp [VIr.placeOf] at hp
  | _ => simp [VIr.placeOf] at hp

theorem readPlace_shaped {W : World} {vty : Var → Ty} {ρ : VStore} (hρ : ∀ y, VOk.shaped (vvty y) (ρ y) = true)
    {lhs : VExpr} {x : Var} {sl : Option (List SwizzleSlot)} {tl : VTy} {cur : VVal}
    (hp : VIr.placeOf lhs = some (x, sl)) (htl : VIr.typeOf W.sig vty vvty lhs = some tl)
    (hr : readPlace (ρ x) (sl.map (·.map slotIdx)) = some cur) : VOk.shaped tl cur = true := by
  -- reading the place is evaluating the place expression
  have hev : ∀ σ, VIr.eval W ρ lhs σ = some (cur, σ) := fun σ => by rw [eval_place hp, hr]; rfl
  exact shape_sound hρ lhs tl (fun _ => .void) _ cur htl (hev _)

theorem assignOK_inv {sig : Sig} {vty : Var → Ty} {lhs rhs : VExpr} {T : VTy} (h : VIr.assignOK sig vty vvty lhs rhs = some T) :
    ∃ x sl, VIr.placeOf lhs = some (x, sl) ∧ VIr.typeOf sig vty vvty lhs = some T ∧ VIr.typeOf sig vty vvty rhs = some T := by
  revert h
  fun_cases VIr.assignOK sig vty vvty lhs rhs <;> intro h <;> cases h
  next pl hp htr htl => exact ⟨pl.1, pl.2, hp, htl, htr⟩

/-- on a vector place `l %= r` is `l = l % r`: reading the place leaves the scalar store alone and `r` cannot write a vector -/
theorem evalTop_remAssign {W : World} {ρ : VStore} {o oa om : IntrinsicOp} (hc : irOpSem o = .compound .mod)
    (ha : irOpSem oa = .assign) (hm : irOpSem om = .bin .mod) {lhs rhs : VExpr} {x : Var} {sl : Option (List SwizzleSlot)}
    (hp : VIr.placeOf lhs = some (x, sl)) (σ : Store) :
    VIr.evalTop W ρ (.op oa (.cons lhs (.cons (.op om (.cons lhs (.cons rhs .nil))) .nil))) σ =
      VIr.evalTop W ρ (.op o (.cons lhs (.cons rhs .nil))) σ := by
  simp only [VIr.evalTop, ha, hc, hp, VIr.eval, hm, eval_place hp]
  cases readPlace (ρ x) (sl.map (·.map slotIdx)) with
  | none => simp only [Option.map_none]; cases VIr.eval W ρ rhs σ <;> rfl
  | some cur =>
    simp only [Option.map_some]
    cases VIr.eval W ρ rhs σ with
    | none => rfl
    | some r =>
      obtain ⟨v, σ1⟩ := r
      simp only []
      cases lift2 (binop W.P .mod) cur v <;> rfl

/-- the emitted `l op r` for a right side `rhs'` that simulates `rhs`, however it was produced -/
theorem sim_massign (hag : VAgreeM cx vis env vvty) (hw : Worlds cx rsv W M) {o : IntrinsicOp} {b : BinOp} {lhs rhs : VExpr}
    {lhs' rhs' : VAExpr} {T : VTy} {x : Var} {sl : Option (List SwizzleSlot)} {ρ : VStore}
    (hρ : ∀ y, VOk.shaped (vvty y) (ρ y) = true)
    (hbs : astBinSem b = irOpSem o) (hgl : genMV cx vvty lhs = .ok lhs') (hp : VIr.placeOf lhs = some (x, sl))
    (hpl : placeOKM vis vvty lhs = true) (htl : VIr.typeOf W.sig cx.vty vvty lhs = some T)
    (htr : VIr.typeOf W.sig cx.vty vvty rhs = some T) (hL : VSimM W M env ρ lhs lhs' T) (hR : VSimM W M env ρ rhs rhs' T)
    (hsem : irOpSem o = .assign ∨ ∃ m, irOpSem o = .compound m ∧ binSide m T ∧ (m = .mod → T.scalar ≠ .float)) (σ : Store) :
    VMsl.evalTop M env ρ (.bin b lhs' rhs') σ = VIr.evalTop W ρ (.op o (.cons lhs (.cons rhs .nil))) σ := by
  obtain ⟨hlv, hnd⟩ := lval_genMV hag hp hpl hgl
  rcases hsem with ha | ⟨m, hc, hside, hrem⟩
  · simp only [VMsl.evalTop, hbs, ha, hlv, hL.1, hR.1, convOK_self, hnd, Bool.and_self, if_true, convMVR_self, hR.2 σ,
      VIr.evalTop, hp]
    rfl
  · have hro : VMsl.remOK m T T = true := by
      by_cases hmm : m = .mod
      · subst hmm; simp [VMsl.remOK, hrem rfl]
      · cases m <;> simp at hmm <;> simp [VMsl.remOK]
    simp only [VMsl.evalTop, hbs, hc, hlv, hL.1, hR.1, hro, if_true, binTy_self hside, convOK_self, hnd, Bool.and_self,
      operand_tys hside, VMsl.operandR, VMsl.operand, convMVR_self, hR.2 σ, VIr.evalTop, hp]
    cases hv : VIr.eval W ρ rhs σ with
    | none => rfl
    | some r =>
      obtain ⟨v, σ1⟩ := r
      simp only []
      cases hrp : readPlace (ρ x) (Option.map (List.map slotIdx) sl) with
      | none => rfl
      | some cur =>
        have sc := readPlace_shaped (W := W) (vty := cx.vty) hρ hp htl hrp
        have sv := shape_sound hρ rhs T σ σ1 v htr hv
        simp only [VMsl.convMV, if_true, binAt_self hside sc sv hrem, hw.prim]
        rfl

theorem binSide_of_B {m : MBin} {T : VTy} (h : VOk.binSideB m T = true) : binSide m T := by
  cases T with
  | vec k n => trivial
  | sc k => simpa [binSide, VOk.binSideB] using h

/-- what the exporter emits for a top-level assignment whose two sides it exports: `l op r` through the operator table, and
for `%=` on a floating-point place (fixes 92d66eb + 35faaaa; generation succeeds only for a plain place and a right
operand free of writes) `l = metal::fmod(l, r)` -/
theorem genMV_assign_shape (hw : Worlds cx rsv W M) {o : IntrinsicOp} {lhs rhs : VExpr} {lhs' rhs' a : VAExpr} {T : VTy}
    (hgl : genMV cx vvty lhs = .ok lhs') (hgr : genMV cx vvty rhs = .ok rhs')
    (hg : genMV cx vvty (.op o (.cons lhs (.cons rhs .nil))) = .ok a)
    (htl : VIr.typeOf W.sig cx.vty vvty lhs = some T)
    (hsem : irOpSem o = .assign ∨ ∃ m, irOpSem o = .compound m) :
    (irOpSem o = .compound .mod ∧ T.scalar = .float ∧ plainPlaceV lhs = true ∧ freeOfWritesV rhs = true ∧
        a = .bin .Assignment lhs' (.call Msl.fmodName (.cons lhs' (.cons rhs' .nil)))) ∨
    (¬ (irOpSem o = .compound .mod ∧ T.scalar = .float) ∧ ∃ b, astBinSem b = irOpSem o ∧ a = .bin b lhs' rhs') := by
  have hgt := getTy_ok hw.ret lhs T htl
  cases hf : mslOpForm o with
  | special | meshMethod | meshHelper | unary _ => simp [genMV, hf] at hg
  | binary b =>
    simp [genMV, hf, genMBinary, hgl, hgr] at hg
    exact .inr ⟨fun h => (op_binary_not_mod hf).2 h.1, b, op_binaryM hf, hg.symm⟩
  | floatCall name scalars b =>
    obtain ⟨rfl, -⟩ := mslOpForm_floatCall hf
    rcases hsem with h | ⟨m, h⟩ <;> cases h
  | floatAssign s err outer inner b =>
    obtain ⟨rfl, rfl, rfl, rfl, rfl, rfl⟩ := mslOpForm_floatAssign hf
    have hfm : mslOpForm .Modulus = .floatCall "fmod" ["Float16", "Float32", "Float64", "FloatLiteral"] .Modulus := rfl
    have has : mslOpForm .Assignment = .binary .Assignment := rfl
    by_cases hfl : T.scalar = .float
    · left
      have hin : scalarIn ["Float16", "Float32", "Float64"] T.scalar = true := by rw [hfl]; decide
      have hin4 : scalarIn ["Float16", "Float32", "Float64", "FloatLiteral"] T.scalar = true := by rw [hfl]; decide
      cases hpo : (plainPlaceV lhs && freeOfWritesV rhs) with
      | false => simp [genMV, hf, getTyHead, hgt, hin, remOperandsOKV, hpo] at hg
      | true =>
        simp [genMV, hf, getTyHead, hgt, hin, remOperandsOKV, hpo, has, genMHead, hgl, hfm, hin4, genMArgs, hgr] at hg
        rw [Bool.and_eq_true] at hpo
        refine ⟨rfl, hfl, hpo.1, hpo.2, ?_⟩
        rw [← hg]
        rw [metalLib_fmod]
    · right
      have hin : scalarIn ["Float16", "Float32", "Float64"] T.scalar = false := by rw [scalarIn_float3]; simpa using hfl
      simp [genMV, hf, getTyHead, hgt, hin, genMBinary, hgl, hgr] at hg
      exact ⟨fun h => hfl h.2, _, rfl, hg.symm⟩

end RsslVerif.Lemmas.GenMslVec
