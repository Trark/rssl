import RsslVerif.Lemmas.GenMslBase
import RsslVerif.Lemmas.GenSemExpr
/-! The typed semantics of expressions leaves alone every variable the expression does not *write* (`Keeps`, `eval_keeps`).
An expression that does not mention `x` does not write it (`keeps_of_free`, in `IrFrame`); a pure expression writes nothing
(`keeps_of_pure`), so it leaves the store as it was. -/
namespace RsslVerif.Lemmas.GenMsl
open RsslVerif.Gen.HlslGenTables RsslVerif.Model RsslVerif.Spec.Sem
open RsslVerif.Model.Ir (Ty Var Const Dir)

/-- the callable functions leave `x` alone -/
def PhiFrame (W : World) (x : Var) : Prop := ∀ f vals σ r, W.phi f vals σ = some r → r.2.2 x = σ x

theorem set_ne (σ : Store) {x y : Var} (v : Val) (h : y ≠ x) : σ.set y v x = σ x := by
  simp [Store.set, h.symm]

/-- the operators that store into their first operand -/
def storing : OpSem → Bool
  | .incdec _ _ | .assign | .compound _ => true
  | _ => false

mutual
/-- evaluating the expression does not write `x`: no operator stores into it, no call changes it (`PhiFrame`) or is handed it -/
def Keeps (W : World) (x : Var) : Ir.Expr → Prop
  | .lit _ => True
  | .var _ => True
  | .global _ => True
  | .cast _ e => Keeps W x e
  | .tern c t f => Keeps W x c ∧ Keeps W x t ∧ Keeps W x f
  | .seq es => KeepsL W x false es
  | .call _ args => PhiFrame W x ∧ KeepsL W x true args
  | .intr _ _ _ args => KeepsL W x false args
  | .op o args => KeepsL W x (storing (irOpSem o)) args
/-- `place`: an element that is a variable is not `x` -/
def KeepsL (W : World) (x : Var) (place : Bool) : Ir.Exprs → Prop
  | .nil => True
  | .cons e r => (place = true → Ir.lvalOf e ≠ some x) ∧ Keeps W x e ∧ KeepsL W x place r
end

theorem lval_ne {x y : Var} {e : Ir.Expr} (hl : Ir.lvalOf e = some y) (h : Ir.lvalOf e ≠ some x) : y ≠ x :=
  fun hy => h (hy ▸ hl)

variable {W : World} {x : Var}

/-- By the functional induction principle of `Ir.eval`: one case per branch of `eval`, `evalAll`, `evalArgs`, `evalSeq`, with the
sub-results that lead to it and the claim for them. -/
theorem keeps_all :
    (∀ e σ, Keeps W x e → ∀ v σ', Ir.eval W e σ = some (v, σ') → σ' x = σ x) ∧
    (∀ es σ, KeepsL W x false es → ∀ l σ', Ir.evalAll W es σ = some (l, σ') → σ' x = σ x) ∧
    (∀ es ps σ, KeepsL W x true es → ∀ l σ', Ir.evalArgs W es ps σ = some (l, σ') →
      σ' x = σ x ∧ ∀ y, some y ∈ l.map (·.2) → y ≠ x) ∧
    (∀ es σ, KeepsL W x false es → ∀ v σ', Ir.evalSeq W es σ = some (v, σ') → σ' x = σ x) := by
  apply Ir.eval.mutual_induct_unfolding W
    (fun e σ r => Keeps W x e → ∀ v σ', r = some (v, σ') → σ' x = σ x)
    (fun es σ r => KeepsL W x false es → ∀ l σ', r = some (l, σ') → σ' x = σ x)
    (fun es ps σ r => KeepsL W x true es → ∀ l σ', r = some (l, σ') → σ' x = σ x ∧ ∀ y, some y ∈ l.map (·.2) → y ≠ x)
    (fun es σ r => KeepsL W x false es → ∀ v σ', r = some (v, σ') → σ' x = σ x)
  case case1 | case2 | case3 => intro _ σ _ v σ' h; cases h; rfl
  case case4 => -- cast
    intro ty e σ ih hk v σ' h
    generalize he : Ir.eval W e σ = r at h
    revert h
    fun_cases castR W.P ty r <;> intro h <;> cases h
    exact ih hk _ _ he
  case case5 => -- `c ? t : f` with `c` true
    intro c t f σ σ1 hc ihc iht hk v σ' h
    rw [iht hk.2.1 v σ' h, ihc hk.1 _ σ1 hc]
  case case6 =>
    intro c t f σ σ1 hc ihc ihf hk v σ' h
    rw [ihf hk.2.2 v σ' h, ihc hk.1 _ σ1 hc]
  case case8 => exact fun es σ ih hk => ih hk
  case case12 => -- call: the callee leaves `x` alone, and `x` is not written back
    intro f args σ rt ps _ vals σ1 ha ret fin σ2 hp ih hk v σ' h
    cases h
    obtain ⟨e1, e2⟩ := ih hk.2 vals σ1 ha
    rw [writeBack_off _ _ _ _ e2, show σ2 x = σ1 x from hk.1 f _ σ1 _ hp, e1]
  case case15 => -- intrinsic
    intro i T ret args σ vals σ1 ha _ _ ih hk v σ' h
    cases h
    exact ih hk vals σ1 ha
  case case18 => -- unary operator
    intro o σ a m _ va σa ha _ _ ih hk v σ' h
    cases h
    exact ih hk.2.1 va σa ha
  case case21 => -- `++` / `--`
    intro o σ a pre inc hsem y hl _ _ hk v σ' h
    cases h
    exact set_ne σ _ (lval_ne hl (hk.1 (by rw [hsem]; rfl)))
  case case26 => -- binary operator
    intro o σ a b m _ va σa ha vb σb hb _ _ iha ihb hk v σ' h
    cases h
    rw [ihb hk.2.2.2.1 vb σb hb, iha hk.2.1 va σa ha]
  case case27 | case31 => -- `&&`, `||` decided by the first operand
    intro o σ a b _ σ1 ha iha hk v σ' h
    cases h
    exact iha hk.2.1 _ σ1 ha
  case case28 | case32 =>
    intro o σ a b _ σ1 ha r σ2 hb iha ihb hk v σ' h
    cases h
    rw [ihb hk.2.2.2.1 _ σ2 hb, iha hk.2.1 _ σ1 ha]
  case case37 => -- assignment
    intro o σ a b hsem y hl vb σb hb ihb hk v σ' h
    cases h
    rw [set_ne σb _ (lval_ne hl (hk.1 (by rw [hsem]; rfl))), ihb hk.2.2.2.1 vb σb hb]
  case case41 => -- compound assignment
    intro o σ a b m hsem y hl vb σb hb _ _ ihb hk v σ' h
    cases h
    rw [set_ne σb _ (lval_ne hl (hk.1 (by rw [hsem]; rfl))), ihb hk.2.2.2.1 vb σb hb]
  case case44 => intro σ _ l σ' h; cases h; rfl
  case case47 =>
    intro e r σ v σ1 he vals σ2 hr ihe ihr hk l σ' h
    simp only [Ir.evalAll, he, hr] at h
    cases h
    rw [ihr hk.2.2 vals σ2 hr, ihe hk.2.1 v σ1 he]
  case case48 => intro σ _ l σ' h; cases h; simp
  case case53 => -- an `in` argument
    intro e r T ps σ v σa he vals σ2 hr ihe ihr hk l σ' h
    simp only [Ir.evalArgs, he, hr] at h
    cases h
    obtain ⟨e1, e2⟩ := ihr hk.2.2 vals σ2 hr
    exact ⟨by rw [e1, ihe hk.2.1 v σa he], by simpa using e2⟩
  case case56 => -- an `out` / `inout` argument
    intro e r d T ps σ y0 hl vals σ2 hr hd ihr hk l σ' h
    obtain ⟨e1, e2⟩ := ihr hk.2.2 vals σ2 hr
    have h' : some ((σ y0, some y0) :: vals, σ2) = some (l, σ') := by
      cases d
      · exact absurd rfl hd
      all_goals simpa only [Ir.evalArgs, hl, hr] using h
    cases h'
    refine ⟨e1, fun y hy => ?_⟩
    simp only [List.map_cons, List.mem_cons, Option.some.injEq] at hy
    rcases hy with rfl | hy
    · exact lval_ne hl (hk.1 rfl)
    · exact e2 y hy
  case case58 => exact fun e σ ih hk v σ' h => ih hk.2.1 v σ' (by simpa [Ir.evalSeq] using h)
  case case60 =>
    intro e σ e2 r v1 σ1 he ihe ihr hk v σ' h
    rw [GenSem.evalSeq_cons2, he] at h
    rw [ihr hk.2.2 v σ' h, ihe hk.2.1 v1 σ1 he]
  -- the remaining branches fail: those of `evalAll`, `evalArgs`, `evalSeq` once unfolded, those of `eval` as they stand
  case case54 | case55 =>
    intro e r d
    cases d
    · intros; contradiction
    all_goals (intros; rename_i h; simp [Ir.evalArgs, *] at h)
  case case45 | case46 | case51 | case52 | case59 =>
    intros; rename_i h; simp [Ir.evalAll, Ir.evalArgs, GenSem.evalSeq_cons2, *] at h
  all_goals (intros; rename_i h; cases h)

theorem eval_keeps : ∀ (e : Ir.Expr) (σ : Store) (v : Val) (σ' : Store), Keeps W x e → Ir.eval W e σ = some (v, σ') → σ' x = σ x :=
  fun e σ v σ' hk => keeps_all.1 e σ hk v σ'
theorem evalArgs_keeps : ∀ (es : Ir.Exprs) (ps : List (Dir × Ty)) (σ : Store) l σ', KeepsL W x true es →
    Ir.evalArgs W es ps σ = some (l, σ') → σ' x = σ x ∧ ∀ y, some y ∈ l.map (·.2) → y ≠ x :=
  fun es ps σ l σ' hk => keeps_all.2.2.1 es ps σ hk l σ'
theorem evalAll_keeps : ∀ (es : Ir.Exprs) (σ : Store) (l : List Val) (σ' : Store), KeepsL W x false es →
    Ir.evalAll W es σ = some (l, σ') → σ' x = σ x :=
  fun es σ l σ' hk => keeps_all.2.1 es σ hk l σ'
theorem evalSeq_keeps : ∀ (es : Ir.Exprs) (σ : Store) (v : Val) (σ' : Store), KeepsL W x false es →
    Ir.evalSeq W es σ = some (v, σ') → σ' x = σ x :=
  fun es σ v σ' hk => keeps_all.2.2.2 es σ hk v σ'

mutual
theorem keeps_of_pure : ∀ (e : Ir.Expr), Ir.pureExpr e = true → Keeps W x e
  | .lit _, _ => trivial
  | .var _, _ => trivial
  | .global _, _ => trivial
  | .cast _ e, h => keeps_of_pure e h
  | .tern c t f, h => by
    simp only [Ir.pureExpr, Bool.and_eq_true] at h
    exact ⟨keeps_of_pure c h.1.1, keeps_of_pure t h.1.2, keeps_of_pure f h.2⟩
  | .seq es, h => keepsL_of_pure es h
  | .call _ _, h => by simp [Ir.pureExpr] at h
  | .intr _ _ _ args, h => keepsL_of_pure args h
  | .op o args, h => by
    simp only [Ir.pureExpr, Bool.and_eq_true] at h
    have : storing (irOpSem o) = false := by cases hs : irOpSem o <;> simp [hs] at h <;> rfl
    simp only [Keeps, this]
    exact keepsL_of_pure args h.2
theorem keepsL_of_pure : ∀ (es : Ir.Exprs), Ir.pureExprs es = true → KeepsL W x false es
  | .nil, _ => trivial
  | .cons e r, h => by
    simp only [Ir.pureExprs, Bool.and_eq_true] at h
    exact ⟨fun hp => (nomatch hp), keeps_of_pure e h.1, keepsL_of_pure r h.2⟩
end

theorem pure_eval (W : World) : ∀ (e : Ir.Expr) (σ : Store) (v : Val) (σ' : Store),
    Ir.pureExpr e = true → Ir.eval W e σ = some (v, σ') → σ' = σ :=
  fun e σ v σ' hp h => funext fun x => eval_keeps (x := x) e σ v σ' (keeps_of_pure e hp) h

theorem pure_evalSeq (W : World) : ∀ (es : Ir.Exprs) (σ : Store) (v : Val) (σ' : Store),
    Ir.pureExprs es = true → Ir.evalSeq W es σ = some (v, σ') → σ' = σ :=
  fun es σ v σ' hp h => funext fun x => evalSeq_keeps (x := x) es σ v σ' (keepsL_of_pure es hp) h

theorem pure_evalAll (W : World) : ∀ (es : Ir.Exprs) (σ : Store) (l : List Val) (σ' : Store),
    Ir.pureExprs es = true → Ir.evalAll W es σ = some (l, σ') → σ' = σ :=
  fun es σ l σ' hp h => funext fun x => evalAll_keeps (x := x) es σ l σ' (keepsL_of_pure es hp) h

end RsslVerif.Lemmas.GenMsl
