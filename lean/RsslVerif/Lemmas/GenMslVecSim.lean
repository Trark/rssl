import RsslVerif.Lemmas.GenMslVecBase
/-! Vector layer of C02: the emitted Metal expression simulates the typed one (`VSimM`), constructor by constructor. -/
namespace RsslVerif.Lemmas.GenMslVec
open RsslVerif.Gen.HlslGenTables RsslVerif.Gen.HlslVecTables RsslVerif.Gen.MslGenTables RsslVerif.Gen.MslVecTables
open RsslVerif.Model RsslVerif.Model.IrVec RsslVerif.Model.GenMsl RsslVerif.Model.GenMslVec
open RsslVerif.Spec.Sem RsslVerif.Spec.SemVec RsslVerif.Spec.SemMslVec RsslVerif.Lemmas.GenMsl
open RsslVerif.Model.Ir (Ty Var Const Dir)

theorem tyOKM_withScalar_bool {t : VTy} (h : VOk.tyOKM t = true) : VOk.tyOKM (t.withScalar .bool) = true := by
  cases t <;> simp_all [VOk.tyOKM, VTy.withScalar, VOk.basicK]

theorem tyOKM_swzTy {k : Ty} {n : Nat} (hk : VOk.basicK k = true) (h1 : n ≠ 0) (h4 : n ≤ 4) : VOk.tyOKM (Spec.SemVec.swzTy k n) = true := by
  by_cases h : n = 1
  · simp [Spec.SemVec.swzTy, h, VOk.tyOKM, hk]
  · simp [Spec.SemVec.swzTy, h, VOk.tyOKM, hk]; omega

theorem tyOKM_scalar {t : VTy} (h : VOk.tyOKM t = true) : VOk.basicK t.scalar = true := by
  cases t <;> simp_all [VOk.tyOKM, VTy.scalar]

theorem okMV_tyOK {S : Ir.Side} {vvty : Var → VTy} :
    ∀ (e : VExpr) (t : VTy), VIr.typeOf S.sig S.vty vvty e = some t → VOk.okMV S vvty e = true → VOk.tyOKM t = true
  | .sc e, t, ht, hok => by
    obtain ⟨k, hk, rfl⟩ := VIr.typeOf_sc ht
    simp only [VOk.okMV, Bool.and_eq_true] at hok
    simpa [hk, VOk.tyOKM] using hok.2
  | .vvar id, t, ht, hok => by
    simp [VIr.typeOf] at ht; subst ht
    simp only [VOk.okMV, Bool.and_eq_true] at hok; exact hok.2
  | .vglobal id, t, ht, hok => by
    simp [VIr.typeOf] at ht; subst ht
    simp only [VOk.okMV, Bool.and_eq_true] at hok; exact hok.2
  | .cast ty x, t, ht, hok => by
    obtain ⟨_, _, rfl, _⟩ := VIr.typeOf_cast ht
    simp only [VOk.okMV, Bool.and_eq_true] at hok; exact hok.1
  | .swz x sl, t, ht, hok => by
    obtain ⟨tx, htx, rfl, hne, _⟩ := VIr.typeOf_swz ht
    simp only [VOk.okMV, Bool.and_eq_true, decide_eq_true_eq] at hok
    have hox : VOk.tyOKM tx = true := by simpa [htx, VOk.optTyOKM] using hok.1.2
    exact tyOKM_swzTy (tyOKM_scalar hox) (by simpa using hne) hok.2
  | .ctor ty slots, t, ht, hok => by
    obtain ⟨rfl, _⟩ := VIr.typeOf_ctor ht
    simp only [VOk.okMV, Bool.and_eq_true] at hok; exact hok.1
  | .tern c f g, t, ht, hok => by
    simp only [VOk.okMV, Bool.and_eq_true] at hok
    exact okMV_tyOK f t (VIr.typeOf_tern ht).2.1 hok.1.2
  | .op o .nil, t, ht, hok => by rw [VIr.typeOf_op_nil] at ht; cases ht
  | .op o (.cons x .nil), t, ht, hok => by
    obtain ⟨_, _, hx, _⟩ := VIr.typeOf_op1 ht
    simp only [VOk.okMV, VOk.okMVs, Bool.and_eq_true, Bool.and_true] at hok
    exact okMV_tyOK x t hx hok.1
  | .op o (.cons x (.cons y .nil)), t, ht, hok => by
    obtain ⟨ta, ha, _, hsem⟩ := VIr.typeOf_op2 ht
    simp only [VOk.okMV, VOk.okMVs, Bool.and_eq_true, Bool.and_true] at hok
    have hox := okMV_tyOK x ta ha hok.1.1
    rcases hsem with ⟨m, _, _, rfl⟩ | ⟨_, _, rfl⟩
    · cases m.isCmp
      · exact hox
      · exact tyOKM_withScalar_bool hox
    · rfl
  | .op o (.cons x (.cons y (.cons z r))), t, ht, hok => by rw [VIr.typeOf_op_many] at ht; cases ht

variable {W : World} {M : Msl.MWorld} {env : VAst.VEnv} {ρ : VStore} {cx : Ctx} {vvty : Var → VTy}

/-- the results an expression of scalar type can have -/
theorem eval_sc {vty : Var → Ty} (hρ : ∀ y, VOk.shaped (vvty y) (ρ y) = true) {x : VExpr} {k : Ty}
    (htx : VIr.typeOf W.sig vty vvty x = some (.sc k)) (σ : Store) :
    VIr.eval W ρ x σ = none ∨ ∃ y σ1, VIr.eval W ρ x σ = some (.sc y, σ1) := by
  cases hv : VIr.eval W ρ x σ with
  | none => exact .inl rfl
  | some r =>
    obtain ⟨v, σ1⟩ := r
    obtain ⟨y, rfl⟩ := shaped_sc (shape_sound hρ x _ σ σ1 v htx hv)
    exact .inr ⟨y, σ1, rfl⟩

theorem sim_msc {e : Ir.Expr} {a : HlslAst.Expr} {t : Ty}
    (hs : Msl.typeOf M.msig env.base a = some t ∧ ∀ σ, Msl.eval M env.base a σ = Ir.eval W e σ) :
    VSimM W M env ρ (.sc e) (.sc a) (.sc t) := by
  constructor
  · simp [VMsl.typeOf, hs.1]
  · intro σ
    simp only [VMsl.eval, hs.2 σ, VIr.eval]
    rfl


/-- the member that selects the first `n` components -/
def lead : Nat → String
  | 1 => truncateToScalar
  | 2 => truncateToVec2
  | _ => truncateToVec3

theorem parse_lead {n : Nat} (h1 : 1 ≤ n) (h3 : n ≤ 3) : VAst.parseSwizzle (lead n) = some (List.range n) := by
  obtain rfl | rfl | rfl : n = 1 ∨ n = 2 ∨ n = 3 := by omega
  all_goals decide

theorem count_bounds {t : VTy} (h : VOk.tyOKM t = true) : 1 ≤ t.count ∧ t.count ≤ 4 := by
  cases t with
  | sc k => simp [VTy.count]
  | vec k n => simp [VOk.tyOKM] at h; simp [VTy.count]; omega

/-- `try_implicit_truncate` keeps the first `ty.count` components of an operand that has more -/
theorem implicitTruncate_eq {tx ty : VTy} (x' : VAExpr) (hox : VOk.tyOKM tx = true) (h1 : 1 ≤ ty.count) :
    implicitTruncate tx ty x' = if ty.count < tx.count then .member x' (lead ty.count) else x' := by
  cases tx with
  | sc k => exact (if_neg (show ¬ ty.count < 1 by omega)).symm
  | vec k m =>
    have hx := count_bounds hox
    cases ty with
    | sc t => simp [implicitTruncate, VTy.count, lead]
    | vec t n =>
      simp only [VTy.count] at h1 hx ⊢
      match n, h1 with
      | 1, _ | 2, _ | 3, _ => simp [implicitTruncate, lead]
      | n + 4, _ =>
        have : ¬ n + 4 < m := by omega
        simp [implicitTruncate, this]

/-- static type of the operand after `try_implicit_truncate` -/
def truncTy (tx ty : VTy) : VTy := if ty.count < tx.count then Spec.SemVec.swzTy tx.scalar ty.count else tx

/-- what `try_implicit_truncate` does to the operand's value -/
def truncSel (tx ty : VTy) (v : VVal) : Option VVal := if ty.count < tx.count then select (List.range ty.count) v else some v

/-- a type with more than one component is a vector type -/
theorem vec_of_count {tx : VTy} {n : Nat} (h1 : 1 ≤ n) (h : n < tx.count) : tx = .vec tx.scalar tx.count := by
  cases tx with
  | sc k => simp [VTy.count] at h; omega
  | vec k m => rfl

theorem trunc_member {tx ty : VTy} (hox : VOk.tyOKM tx = true)
    (hoy : VOk.tyOKM ty = true) (h : ty.count < tx.count) :
    VMsl.memberTy tx (lead ty.count) = some (Spec.SemVec.swzTy tx.scalar ty.count) ∧
      VAst.parseSwizzle (lead ty.count) = some (List.range ty.count) := by
  have hy := count_bounds hoy
  have hxb := count_bounds hox
  have hp := parse_lead hy.1 (by omega)
  refine ⟨?_, hp⟩
  rw [vec_of_count hy.1 h]
  have hne : List.range ty.count ≠ [] := by simp; omega
  simp only [VMsl.memberTy, hp, VTy.scalar, List.length_range]
  simp [hne]
  exact fun i hi => by omega

theorem trunc_typeOf {x' : VAExpr} {tx : VTy} (ty : VTy) (hx : VMsl.typeOf M.msig env x' = some tx) (hox : VOk.tyOKM tx = true)
    (hoy : VOk.tyOKM ty = true) :
    VMsl.typeOf M.msig env (implicitTruncate tx ty x') = some (truncTy tx ty) := by
  rw [implicitTruncate_eq x' hox (count_bounds hoy).1, truncTy]
  split
  · simp [VMsl.typeOf, hx, (trunc_member hox hoy ‹_›).1]
  · exact hx

theorem trunc_eval {x' : VAExpr} {tx : VTy} (ty : VTy) (hx : VMsl.typeOf M.msig env x' = some tx) (hox : VOk.tyOKM tx = true)
    (hoy : VOk.tyOKM ty = true) (σ : Store) :
    VMsl.eval M env ρ (implicitTruncate tx ty x') σ =
      match VMsl.eval M env ρ x' σ with
      | none => none
      | some (v, σ1) =>
        match truncSel tx ty v with
        | none => none
        | some r => some (r, σ1) := by
  rw [implicitTruncate_eq x' hox (count_bounds hoy).1]
  simp only [truncSel]
  split
  · obtain ⟨hm, hp⟩ := trunc_member hox hoy ‹_›
    simp only [VMsl.eval, hx, hm, hp]
    rfl
  · rcases VMsl.eval M env ρ x' σ with _ | ⟨v, σ1⟩ <;> rfl

theorem trunc_castOK {tx ty : VTy} (hox : VOk.tyOKM tx = true) (hoy : VOk.tyOKM ty = true) (hf : VOk.castFits tx ty = true) :
    VMsl.castOK (truncTy tx ty) ty = true := by
  have hy := count_bounds hoy
  have hx := count_bounds hox
  by_cases h : ty.count < tx.count
  · -- the selected components are as many as the target has
    rw [truncTy, if_pos h]
    cases ty with
    | sc t => simp [Spec.SemVec.swzTy, VTy.count, VMsl.castOK]
    | vec t n =>
      simp only [VOk.tyOKM, Bool.and_eq_true, decide_eq_true_eq] at hoy
      have : n ≠ 1 := by omega
      simp [Spec.SemVec.swzTy, VTy.count, VMsl.castOK, this]
  · rw [truncTy, if_neg h]
    cases tx with
    | sc k => cases ty <;> rfl
    | vec k m =>
      cases ty with
      | sc t => simp [VOk.tyOKM, VTy.count] at hox h; omega
      | vec t n =>
        simp only [VOk.castFits, decide_eq_true_eq, VTy.count] at hf h
        simp [VMsl.castOK]; omega

theorem mapOpt_range' {α : Type} (xs : List α) : ∀ n s, s + n ≤ xs.length →
    mapOpt (fun i => xs[i]?) (List.range' s n) = some ((xs.drop s).take n)
  | 0, s, _ => by simp [mapOpt]
  | n + 1, s, h => by
    have hs : s < xs.length := by omega
    rw [List.range'_succ, mapOpt, List.getElem?_eq_getElem hs]
    simp only [mapOpt_range' xs n (s + 1) (by omega), List.drop_eq_getElem_cons hs, List.take_succ_cons]

/-- the first `n` components of a vector that has them: a scalar for `n = 1` -/
theorem select_range {xs : List Val} {n : Nat} (h : n ≤ xs.length) :
    select (List.range n) (.vec xs) = some (match xs.take n with | [x] => .sc x | ys => .vec ys) := by
  have := mapOpt_range' xs n 0 (by omega)
  simp only [List.drop_zero] at this
  simp only [select, VVal.comps, List.range_eq_range', this]
  split <;> simp_all

/-- a scalar converted to `ty`: its one component converted, in `ty`'s shape -/
theorem castMV_sc {P : Prim} {f : Ty} {ty : VTy} {x y : Val} (h : Msl.castM P f ty.scalar x = castVal P ty.scalar y) :
    VMsl.castMV P (.sc f) ty (.sc x) = castShape P ty (.sc y) := by
  cases ty <;> simp only [VMsl.castMV, castShape, VTy.scalar] at h ⊢ <;> rw [h]

section
-- the definitions every case of `trunc_cast_val` computes with
attribute [local simp] truncTy truncSel VMsl.castMV castShape VTy.scalar VTy.count Spec.SemVec.swzTy

theorem trunc_cast_val {P : Prim} {tx ty : VTy} {v : VVal} (hox : VOk.tyOKM tx = true) (hoy : VOk.tyOKM ty = true)
    (hf : VOk.castFits tx ty = true) (hs : VOk.shaped tx v = true) :
    (truncSel tx ty v).bind (VMsl.castMV P (truncTy tx ty) ty) = castShape P ty v := by
  have hcm : Msl.castM P tx.scalar ty.scalar = castVal P ty.scalar := funext (castM_eq (tyOKM_scalar hox) (tyOKM_scalar hoy))
  cases tx with
  | sc k =>
    obtain ⟨x, rfl⟩ := shaped_sc hs
    have hn : ¬ ty.count < (VTy.sc k).count := by have := (count_bounds hoy).1; show ¬ ty.count < 1; omega
    rw [truncSel, truncTy, if_neg hn, if_neg hn]
    exact castMV_sc (congrFun hcm x)
  | vec k m =>
    obtain ⟨xs, rfl, hlen⟩ := shaped_vec hs
    simp only [VOk.tyOKM, Bool.and_eq_true, decide_eq_true_eq] at hox
    -- a vector operand has two components at least
    obtain ⟨a, b, r, rfl⟩ : ∃ a b r, xs = a :: b :: r := by
      match xs, hlen with
      | a :: b :: r, _ => exact ⟨a, b, r, rfl⟩
      | [_], h | [], h => simp at h; omega
    simp only [List.length_cons] at hlen
    cases ty with
    | sc t =>
      have : 1 < m := by omega
      simp at hcm; simp [this, select, mapOpt, VVal.comps, hcm]
    | vec t n =>
      simp only [VOk.castFits, decide_eq_true_eq] at hf
      simp only [VOk.tyOKM, Bool.and_eq_true, decide_eq_true_eq] at hoy
      obtain ⟨n, rfl⟩ : ∃ n', n = n' + 2 := ⟨n - 2, by omega⟩
      simp at hcm
      by_cases h : n + 2 < m
      · have hnr : n ≤ r.length := by omega
        simp [h, select_range, hcm, hnr]
      · obtain rfl : n = r.length := by omega
        simp [h, hcm]

end

theorem sim_mcast {vty : Var → Ty} {ty : VTy} {n : String} {x : VExpr} {x' : VAExpr} {tx : VTy}
    (hP : M.P = W.P) (hρ : ∀ y, VOk.shaped (vvty y) (ρ y) = true) (hn : GenMslVec.vtypeName ty = .ok n)
    (hx : VSimM W M env ρ x x' tx) (htx : VIr.typeOf W.sig vty vvty x = some tx)
    (hox : VOk.tyOKM tx = true) (hoy : VOk.tyOKM ty = true) (hf : VOk.castFits tx ty = true) :
    VSimM W M env ρ (.cast ty x) (.cast n (implicitTruncate tx ty x')) ty := by
  have htn := vtypeName_vtyOfName hn hoy
  have htt := trunc_typeOf (M := M) (env := env) ty hx.1 hox hoy
  have hco := trunc_castOK hox hoy hf
  refine ⟨by simp [VMsl.typeOf, htt, htn, hco], fun σ => ?_⟩
  simp only [VMsl.eval, htt, htn, hco, if_true, trunc_eval (ρ := ρ) ty hx.1 hox hoy σ, hx.2 σ, VIr.eval, hP]
  cases hv : VIr.eval W ρ x σ with
  | none => rfl
  | some p =>
    obtain ⟨v, σ1⟩ := p
    simp only [VMsl.castMVR, castShapeR, ← trunc_cast_val (P := W.P) hox hoy hf (shape_sound hρ x tx σ σ1 v htx hv)]
    cases truncSel tx ty v <;> rfl

/-! ### a literal operand converted to a concrete type (`(int3)1`, `(float3)1.5`, `(uint2)-3`)

What the type checker builds for the literal next to a vector (fixes 40c6233 / c05bffa).  The emitted cast has the target
type under Metal's rules — the literal is an `int` / a `float` there — and its value is the IR's conversion of the exact
literal (`VOk.litOperandOK`: integer literals of magnitude below 2^31, floating literals converted to a float kind). -/

theorem toInt_ofInt32 {v : Int} (h1 : -2147483648 < v) (h2 : v < 2147483648) : (BitVec.ofInt 32 v).toInt = v := by
  rw [BitVec.toInt_ofInt]
  simp only [Int.bmod]
  omega

theorem castM_int_lit (P : Prim) {k : Ty} (hk : VOk.basicK k = true) (v : Int) (h1 : -2147483648 < v) (h2 : v < 2147483648) :
    Msl.castM P .int k (.i (BitVec.ofInt 32 v)) = castVal P k (.lit v) := by
  -- to `bool`: the 32-bit pattern is zero for `v = 0` only
  have hb : (BitVec.ofInt 32 v != 0#32) = (v != 0) := by
    rw [Bool.eq_iff_iff, bne_iff_ne, bne_iff_ne, ne_eq, ne_eq, ← BitVec.toInt_inj, toInt_ofInt32 h1 h2]
    rfl
  rcases basicK_cases hk with rfl | rfl | rfl | rfl <;> simp [Msl.castM, castVal, hb]

theorem sim_mcast_lit {ty tx : VTy} {n : String} {x : VExpr} {x' : VAExpr}
    (hP : M.P = W.P) (hoy : VOk.tyOKM ty = true) (hl : VOk.litOperandOK ty x = true)
    (hgt : getTy cx vvty x = some tx) (hgx : genMV cx vvty x = .ok x') (hn : GenMslVec.vtypeName ty = .ok n) :
    VSimM W M env ρ (.cast ty x) (.cast n (implicitTruncate tx ty x')) ty := by
  -- the final step, shared by the two kinds of literal: the operand has Metal type `tl` and value `vl`
  have fin : ∀ (l : HlslAst.Expr) (c : Const) (tl : Ty) (vl : Val), GenMsl.genLiteral c = .ok l → x = .sc (.lit c) →
      Msl.typeOf M.msig env.base l = some tl → (∀ σ, Msl.eval M env.base l σ = some (vl, σ)) →
      Msl.castM W.P tl ty.scalar vl = castVal W.P ty.scalar (Ir.constVal c) →
      VSimM W M env ρ (.cast ty x) (.cast n (implicitTruncate tx ty x')) ty := by
    intro l c tl vl hgl hx htl hvl hval
    subst hx
    -- a scalar operand is emitted as it is, and `try_implicit_truncate` leaves it alone
    simp only [genMV, GenMsl.genExpr, hgl, Except.ok.injEq] at hgx
    simp only [getTy, GenMsl.exprTy, Option.map, Option.some.injEq] at hgt
    subst hgx hgt
    have htn := vtypeName_vtyOfName hn hoy
    have hco : VMsl.castOK (.sc tl) ty = true := by cases ty <;> rfl
    constructor
    · simp [implicitTruncate, VMsl.typeOf, htl, htn, hco]
    · intro σ
      simp only [implicitTruncate, VMsl.eval, VMsl.typeOf, htl, Option.map, htn, hco, if_true, hvl σ, VIr.eval, Ir.eval, hP,
        VMsl.castMVR, castShapeR, castMV_sc hval]
      rfl
  cases x with
  | sc e0 =>
    cases e0 with
    | lit c =>
      cases c with
      | intLit v =>
        simp only [VOk.litOperandOK, Bool.and_eq_true, decide_eq_true_eq] at hl
        obtain ⟨l, hgl, ht, he⟩ := eval_genIntLit_int M env.base hl.1 hl.2
        exact fin l _ .int _ hgl rfl ht he (castM_int_lit W.P (tyOKM_scalar hoy) v hl.1 hl.2)
      | floatLit d =>
        simp only [VOk.litOperandOK, beq_iff_eq] at hl
        exact fin _ _ .float (.f (M.P.d2f d)) (genLiteral_floatLit d) rfl (by simp [Msl.typeOf, Msl.litTy])
          (fun σ => by simp [Msl.eval, Msl.litVal, Msl.litTy]) (by rw [hl, hP]; simp [Msl.castM, castVal, Ir.constVal])
      | _ => simp [VOk.litOperandOK] at hl
    | _ => simp [VOk.litOperandOK] at hl
  | _ => simp [VOk.litOperandOK] at hl


theorem fmod_not_type : VMsl.vtyOfName Msl.fmodName = none := by decide

theorem typeName_ne_fmod {n : String} {ty : VTy} (h : VMsl.vtyOfName n = some ty) : (n == Msl.fmodName) = false := by
  cases hb : n == Msl.fmodName with
  | false => rfl
  | true =>
    have : n = Msl.fmodName := by simpa using hb
    subst this
    rw [fmod_not_type] at h; simp at h

theorem slots_all_x {sl : List SwizzleSlot} (h : sl.all (fun s => decide (slotIdx s < 1)) = true) :
    sl.map slotIdx = List.replicate sl.length 0 := by
  induction sl with
  | nil => rfl
  | cons s r ih =>
    simp only [List.all_cons, Bool.and_eq_true, decide_eq_true_eq] at h
    have : slotIdx s = 0 := by omega
    simp [ih h.2, this, List.replicate_succ]

theorem mapOpt_replicate_zero (y : Val) : ∀ n, mapOpt (fun i => [y][i]?) (List.replicate n 0) = some (List.replicate n y)
  | 0 => rfl
  | n + 1 => by simp [List.replicate_succ, mapOpt, mapOpt_replicate_zero y n]

/-! The three arms of `Swizzle`: a member of a vector; on a scalar (Metal has no members there) the operand itself for one slot,
the constructor call `T_n(x)` for several. -/

theorem sim_mswz_vec {x : VExpr} {sl : List SwizzleSlot} {x' : VAExpr} {k : Ty} {n : Nat}
    (hx : VSimM W M env ρ x x' (.vec k n)) (hne : sl ≠ []) (hall : sl.all (fun s => decide (slotIdx s < n)) = true) :
    VSimM W M env ρ (.swz x sl) (.member x' (GenMslVec.swizzleName sl)) (Spec.SemVec.swzTy k sl.length) := by
  have hmt : VMsl.memberTy (.vec k n) (GenMslVec.swizzleName sl) = some (Spec.SemVec.swzTy k sl.length) := by
    have hne' : sl.map slotIdx ≠ [] := by simpa using hne
    simp only [VMsl.memberTy, parse_mslSwizzleName, GenSemVec.all_map_slotIdx, List.length_map]
    simp [hne']
    exact fun s hs => of_decide_eq_true (List.all_eq_true.mp hall s hs)
  constructor
  · simp [VMsl.typeOf, hx.1, hmt]
  · intro σ
    simp only [VMsl.eval, hx.1, hmt, parse_mslSwizzleName, hx.2 σ, VIr.eval]
    rfl

theorem sim_mswz_one {vty : Var → Ty} {x : VExpr} {sl : List SwizzleSlot} {x' : VAExpr} {k : Ty}
    (hρ : ∀ y, VOk.shaped (vvty y) (ρ y) = true)
    (hx : VSimM W M env ρ x x' (.sc k)) (htx : VIr.typeOf W.sig vty vvty x = some (.sc k))
    (hall : sl.all (fun s => decide (slotIdx s < 1)) = true) (h1 : sl.length = 1) :
    VSimM W M env ρ (.swz x sl) x' (Spec.SemVec.swzTy k sl.length) := by
  constructor
  · simpa [Spec.SemVec.swzTy, h1] using hx.1
  · intro σ
    simp only [hx.2 σ, VIr.eval, slots_all_x hall, h1]
    -- `rw` closes the undefined case
    rcases eval_sc hρ htx σ with h | ⟨y, σ1, h⟩ <;> rw [h]
    simp [select, mapOpt, VVal.comps]

theorem sim_mswz_rep {vty : Var → Ty} {x : VExpr} {sl : List SwizzleSlot} {x' : VAExpr} {k : Ty} {n : String}
    (hρ : ∀ y, VOk.shaped (vvty y) (ρ y) = true)
    (hx : VSimM W M env ρ x x' (.sc k)) (htx : VIr.typeOf W.sig vty vvty x = some (.sc k))
    (hne : sl ≠ []) (hall : sl.all (fun s => decide (slotIdx s < 1)) = true) (hox : VOk.tyOKM (.sc k) = true)
    (h1 : ¬ sl.length = 1) (h4 : sl.length ≤ 4) (hn : GenMslVec.vtypeName (.vec (unliteral k) sl.length) = .ok n) :
    VSimM W M env ρ (.swz x sl) (.call n (.cons x' .nil)) (Spec.SemVec.swzTy k sl.length) := by
  have hk : VOk.basicK k = true := by simpa [VOk.tyOKM] using hox
  have hun : unliteral k = k := by rcases basicK_cases hk with rfl | rfl | rfl | rfl <;> rfl
  rw [hun] at hn
  have hlen2 : 2 ≤ sl.length := by
    have : sl.length ≠ 0 := by simpa using hne
    omega
  have hoty : VOk.tyOKM (.vec k sl.length) = true := by simp [VOk.tyOKM, hk, hlen2, h4]
  have htn := vtypeName_vtyOfName hn hoty
  have hnf := typeName_ne_fmod htn
  constructor
  · simp [VMsl.typeOf, VMsl.argTypes, hx.1, VMsl.callTy, hnf, htn, VMsl.castOK, Spec.SemVec.swzTy, h1]
  · intro σ
    simp only [VMsl.eval, VMsl.argTypes, hx.1, VMsl.evalArgs, hx.2 σ, VIr.eval, slots_all_x hall]
    rcases eval_sc hρ htx σ with h | ⟨y, σ1, h⟩ <;> rw [h]
    obtain ⟨m, hm⟩ : ∃ m, sl.length = m + 2 := ⟨sl.length - 2, by omega⟩
    have hmo : mapOpt (fun i => [y][i]?) (0 :: 0 :: List.replicate m 0) = some (y :: y :: List.replicate m y) := by
      have := mapOpt_replicate_zero y (m + 2)
      simpa [List.replicate_succ] using this
    simp [VMsl.callVal, hnf, htn, VMsl.castOK, VTy.scalar, select, VVal.comps, hm, List.replicate_succ, hmo]


/-- an arithmetic kind is what C++ computes at: no promotion, its own common type -/
theorem arithK_facts {k : Ty} (h : VOk.arithK k = true) :
    Msl.promote k = k ∧ Msl.common k k = some k ∧ k ≠ .lit ∧ k ≠ .bool :=
  arith_facts (by cases k <;> simp_all [VOk.arithK, Ir.arithTy])

theorem convMVR_self (P : Prim) (t : VTy) (r : VR) : VMsl.convMVR P t t r = r := by
  cases r with
  | none => rfl
  | some p => simp [VMsl.convMVR, VMsl.convMV]

theorem sim_mun {vty : Var → Ty} {o : IntrinsicOp} {u : UnaryOp} {x : VExpr} {x' : VAExpr} {tx t : VTy}
    (hP : M.P = W.P) (hρ : ∀ y, VOk.shaped (vvty y) (ρ y) = true)
    (hf : mslOpForm o = .unary u)
    (hx : VSimM W M env ρ x x' tx) (htx : VIr.typeOf W.sig vty vvty x = some tx)
    (ht : VIr.typeOf W.sig vty vvty (.op o (.cons x .nil)) = some t)
    (hok : ∀ m k, irOpSem o = .un m → m ≠ .lnot → tx = .sc k → VOk.arithK k = true) :
    VSimM W M env ρ (.op o (.cons x .nil)) (.un u x') t := by
  have hsem := op_unaryM hf
  obtain ⟨m, hm, htx', _, hb⟩ := VIr.typeOf_op1 ht
  obtain rfl : t = tx := Option.some.inj (htx'.symm.trans htx)
  cases t with
  | sc k =>
    -- Metal carries the operator out at `k` itself: `bool` for `!`, an arithmetic kind otherwise
    have hpk : (if m = .lnot then Ty.bool else Msl.promote k) = k := by
      by_cases hl : m = .lnot
      · simpa [hl, VTy.scalar] using (hb hl).symm
      · simp [hl, (arithK_facts (hok m k hm hl rfl)).1]
    have hop : (fun v => if m = .lnot then unop M.P m v else Msl.unopM M.P (Msl.promote k) m v) = unop W.P m := by
      funext v
      by_cases hl : m = .lnot
      · simp [hl, hP]
      · obtain ⟨hp, _, hnl, _⟩ := arithK_facts (hok m k hm hl rfl)
        rw [if_neg hl, hp, unopM_eq _ _ hnl, hP]
    constructor
    · simp only [VMsl.typeOf, hsem, hm, hx.1]
      cases m <;> simp at hpk ⊢ <;> simp [hpk, VTy.withScalar]
    · intro σ
      simp only [VMsl.eval, hsem, hm, hx.1, hpk, convMVR_self, hx.2 σ, VIr.eval]
      rcases eval_sc hρ htx σ with h | ⟨y, σ1, h⟩ <;> rw [h]
      simp only [lift1, congrFun hop y]
      cases unop W.P m y <;> rfl
  | vec k n =>
    constructor
    · simp only [VMsl.typeOf, hsem, hm, hx.1]
      cases m <;> simp [VTy.withScalar]
      simpa [VTy.scalar] using (hb rfl).symm
    · intro σ
      have hcond : ¬ (m = .lnot ∧ k ≠ .bool) := fun h => h.2 (by simpa [VTy.scalar] using hb h.1)
      simp only [VMsl.eval, hsem, hm, hx.1, hcond, if_false, hx.2 σ, VIr.eval, hP]
      rfl


/-- two operands of one type `T`, `T` scalar: the kind is int / uint (shifts) or int / uint / float -/
def binSide (m : MBin) (T : VTy) : Prop :=
  match T with
  | .sc k => (if Msl.isShift m then VOk.intK k else VOk.arithK k) = true
  | .vec _ _ => True

/-- two scalar operands of kind `k`: C++ leaves the kind alone (no promotion, `k` the common type, integers for shifts) -/
theorem binSide_sc {m : MBin} {k : Ty} (h : binSide m (.sc k)) :
    Msl.promote k = k ∧ k ≠ .lit ∧ if Msl.isShift m then Msl.isInteger k = true else Msl.common k k = some k := by
  simp only [binSide] at h
  split at h
  · have := int_facts (t := k) (by cases k <;> simp_all [VOk.intK, Ir.intTy])
    simp [*]
  · have := arithK_facts (k := k) (by simp_all)
    simp [*]

/-- what `okMV` asks of a node with two operands, the first of type `tx` -/
theorem okMV_op2 {S : Ir.Side} {o : IntrinsicOp} {x y : VExpr} {tx : VTy}
    (hok : VOk.okMV S vvty (.op o (.cons x (.cons y .nil))) = true) (htx : VIr.typeOf S.sig S.vty vvty x = some tx) :
    VOk.okMV S vvty x = true ∧ VOk.okMV S vvty y = true ∧ ∀ m, irOpSem o = .bin m → binSide m tx := by
  simp only [VOk.okMV, VOk.okMVs, Bool.and_eq_true, Bool.and_true, htx] at hok
  refine ⟨hok.1.1, hok.1.2, fun m hm => ?_⟩
  cases tx with
  | vec k n => trivial
  | sc k => simpa [hm, binSide] using hok.2

theorem binTy_self {m : MBin} {T : VTy} (h : binSide m T) : VMsl.binTy m T T = some T := by
  cases T with
  | vec k n => simp [VMsl.binTy]
  | sc k =>
    obtain ⟨hp, _, hk⟩ := binSide_sc h
    simp only [VMsl.binTy, hp]
    split <;> simp_all

theorem binAt_self {P : Prim} {m : MBin} {T : VTy} {va vb : VVal} (h : binSide m T) (ha : VOk.shaped T va = true) (hb : VOk.shaped T vb = true)
    (hrem : m = .mod → T.scalar ≠ .float) :
    VMsl.binAt P T T T m va vb = lift2 (binop P m) va vb := by
  cases T with
  | vec k n => simp [VMsl.binAt]
  | sc k =>
    obtain ⟨x, rfl⟩ := shaped_sc ha
    obtain ⟨y, rfl⟩ := shaped_sc hb
    obtain ⟨hp, hnl, _⟩ := binSide_sc h
    -- `float`: the scalar operator `%` does not exist (the exporter writes `metal::fmod`)
    simp only [VMsl.binAt, VTy.scalar, hp, shiftM_eq P m hnl, binopM_eq P hnl (fun hc => hrem hc.1 hc.2), ite_self, lift2]

theorem operand_tys {m : MBin} {T : VTy} (h : binSide m T) : VMsl.operandTy m T T = T := by
  cases T with
  | vec k n => rfl
  | sc k => simp [VMsl.operandTy, VTy.scalar, (binSide_sc h).1]

theorem remOK_self {m : MBin} {T : VTy} (h : m = .mod → T.scalar ≠ .float) : VMsl.remOK m T T = true := by
  by_cases hm : m = .mod
  · simp [VMsl.remOK, h hm]
  · simp [VMsl.remOK, hm]

theorem sim_mbin {vty : Var → Ty} {o : IntrinsicOp} {b : BinOp} {x y : VExpr} {x' y' : VAExpr} {tx t : VTy}
    (hP : M.P = W.P) (hρ : ∀ z, VOk.shaped (vvty z) (ρ z) = true)
    (hsem : astBinSem b = irOpSem o)
    (hx : VSimM W M env ρ x x' tx) (htx : VIr.typeOf W.sig vty vvty x = some tx)
    (hy : VSimM W M env ρ y y' tx) (hty : VIr.typeOf W.sig vty vvty y = some tx)
    (ht : VIr.typeOf W.sig vty vvty (.op o (.cons x (.cons y .nil))) = some t)
    (hok : ∀ m, irOpSem o = .bin m → binSide m tx) (hrem : irOpSem o = .bin .mod → tx.scalar ≠ .float) :
    VSimM W M env ρ (.op o (.cons x (.cons y .nil))) (.bin b x' y') t := by
  obtain ⟨ta, hta, -, hsem'⟩ := VIr.typeOf_op2 ht
  obtain rfl : tx = ta := Option.some.inj (htx.symm.trans hta)
  rcases hsem' with ⟨m, hm, _, hres⟩ | ⟨hm, rfl, rfl⟩
  · have hside := hok m hm
    have hres : t = VMsl.resTy m tx := hres
    have hbt := binTy_self hside
    have hot := operand_tys hside
    have hro := remOK_self (fun hmm => hrem (hmm ▸ hm))
    constructor
    · simp [VMsl.typeOf, hsem, hm, hx.1, hy.1, hbt, hres, hro]
    · intro σ
      simp only [VMsl.eval, hsem, hm, hx.1, hy.1, hro, if_true, hbt, hot, VMsl.operandR, convMVR_self, hx.2 σ, VIr.eval]
      cases hvx : VIr.eval W ρ x σ with
      | none => rfl
      | some r =>
        obtain ⟨va, σ1⟩ := r
        simp only [hy.2 σ1]
        cases hvy : VIr.eval W ρ y σ1 with
        | none => rfl
        | some r2 =>
          obtain ⟨vb, σ2⟩ := r2
          have sa := shape_sound hρ x tx σ σ1 va htx hvx
          have sb := shape_sound hρ y tx σ1 σ2 vb hty hvy
          simp only [binAt_self hside sa sb (fun hmm => hrem (by rw [hm, hmm])), hP]
          rfl
  -- `&&`, `||`: both operands are scalar `bool`s, Metal converts nothing and short-circuits as the typed semantics does
  · rcases hm with hm | hm <;>
      exact ⟨by simp [VMsl.typeOf, hsem, hm, hx.1, hy.1], fun σ => by
        simp only [VMsl.eval, hsem, hm, hx.1, hy.1, convMVR_self, hx.2, hy.2, VIr.eval]; rfl⟩


theorem sim_mfmod {vty : Var → Ty} {o : IntrinsicOp} {x y : VExpr} {x' y' : VAExpr} {tx t : VTy}
    (hP : M.P = W.P)
    (hm : irOpSem o = .bin .mod) (hfl : tx.scalar = .float)
    (hx : VSimM W M env ρ x x' tx) (htx : VIr.typeOf W.sig vty vvty x = some tx) (hy : VSimM W M env ρ y y' tx)
    (ht : VIr.typeOf W.sig vty vvty (.op o (.cons x (.cons y .nil))) = some t) :
    VSimM W M env ρ (.op o (.cons x (.cons y .nil))) (.call Msl.fmodName (.cons x' (.cons y' .nil))) t := by
  obtain ⟨ta, hta, -, hsem'⟩ := VIr.typeOf_op2 ht
  obtain rfl : tx = ta := Option.some.inj (htx.symm.trans hta)
  obtain rfl : tx = t := by
    rcases hsem' with ⟨m', hm', _, h⟩ | ⟨h | h, _⟩
    · rw [hm] at hm'; cases hm'; exact h.symm
    · rw [hm] at h; cases h
    · rw [hm] at h; cases h
  have hside : binSide .mod tx := by
    cases tx with
    | vec k n => trivial
    | sc k => simp [VTy.scalar] at hfl; subst hfl; simp [binSide, Msl.isShift, VOk.arithK]
  have hbt := binTy_self hside
  constructor
  · simp [VMsl.typeOf, VMsl.argTypes, hx.1, hy.1, VMsl.callTy, hfl, hbt]
  · intro σ
    simp only [VMsl.eval, VMsl.argTypes, hx.1, hy.1, VMsl.evalArgs, hx.2 σ, VIr.eval, hm]
    cases VIr.eval W ρ x σ with
    | none => rfl
    | some r =>
      obtain ⟨va, σ1⟩ := r
      simp only [hy.2 σ1]
      cases VIr.eval W ρ y σ1 with
      | none => rfl
      | some r2 =>
        obtain ⟨vb, σ2⟩ := r2
        simp only [VMsl.callVal, beq_self_eq_true, if_true, hfl, and_self, hbt, VMsl.operand, VMsl.convMV, hP]
        rfl

theorem ternTy_self (t : VTy) : VMsl.ternTy t t = some t := by simp [VMsl.ternTy]

theorem sim_mtern {c f g : VExpr} {c' f' g' : VAExpr} {t : VTy}
    (hc : VSimM W M env ρ c c' (.sc .bool)) (hf : VSimM W M env ρ f f' t) (hg : VSimM W M env ρ g g' t) :
    VSimM W M env ρ (.tern c f g) (.tern c' f' g') t := by
  refine ⟨by simp [VMsl.typeOf, hc.1, hf.1, hg.1, ternTy_self], fun σ => ?_⟩
  simp only [VMsl.eval, hc.1, hf.1, hg.1, ternTy_self, convMVR_self, hc.2, hf.2, hg.2, VIr.eval]
  rfl


def flat : List VVal → List Val
  | [] => []
  | v :: r => v.comps ++ flat r

def shapedAll : List VTy → List VVal → Bool
  | [], [] => true
  | t :: ts, v :: vs => VOk.shaped t v && shapedAll ts vs
  | _, _ => false

/-- what the induction proves about a constructor's slots -/
def SlotsSim (W : World) (M : Msl.MWorld) (env : VAst.VEnv) (ρ : VStore) (k : Ty) (slots : VSlots) (as : VAExprs) (total : Nat) : Prop :=
  ∃ tys, VMsl.argTypes M.msig env as = some tys ∧ (∀ t ∈ tys, t.scalar = k ∧ VOk.tyOKM t = true) ∧
    (tys.map VTy.count).sum = total ∧
    ∀ σ, match VMsl.evalArgs M env ρ as σ with
      | none => VIr.evalSlots W ρ slots σ = none
      | some (vs, σ1) => VIr.evalSlots W ρ slots σ = some (flat vs, σ1) ∧ shapedAll tys vs = true

theorem ctorComps_same {P : Prim} {k : Ty} : ∀ (tys : List VTy) (vs : List VVal),
    (∀ t ∈ tys, t.scalar = k) → shapedAll tys vs = true → VMsl.ctorComps P k tys vs = some (flat vs)
  | [], [], _, _ => rfl
  | [], _ :: _, _, h => by simp [shapedAll] at h
  | _ :: _, [], _, h => by simp [shapedAll] at h
  | t :: ts, v :: vs, hk, h => by
    simp only [shapedAll, Bool.and_eq_true] at h
    have ih := ctorComps_same (P := P) ts vs (fun t' ht' => hk t' (List.mem_cons_of_mem _ ht')) h.2
    simp [VMsl.ctorComps, hk t (List.mem_cons_self), ih, flat]

theorem same_ty {a b : VTy} (ha : VOk.tyOKM a = true) (hb : VOk.tyOKM b = true) (hs : a.scalar = b.scalar) (hc : a.count = b.count) : a = b := by
  cases a with
  | sc k =>
    cases b with
    | sc k2 => simp [VTy.scalar] at hs; subst hs; rfl
    | vec k2 n =>
      simp [VTy.count] at hc
      simp [VOk.tyOKM] at hb; omega
  | vec k n =>
    cases b with
    | sc k2 =>
      simp [VTy.count] at hc
      simp [VOk.tyOKM] at ha; omega
    | vec k2 n2 => simp [VTy.scalar] at hs; simp [VTy.count] at hc; subst hs; subst hc; rfl

theorem castOK_self {t : VTy} : VMsl.castOK t t = true := by cases t <;> simp [VMsl.castOK]

/-! Metal's `T(args…)` on arguments of `T`'s element kind whose component counts add up to `T`'s: it has type `T`, and its value
is `T` built from all the components in order (one argument: the conversion, which changes no component). -/

theorem ctor_call {P : Prim} {n : String} {ty : VTy} (htn : VMsl.vtyOfName n = some ty) (hoy : VOk.tyOKM ty = true)
    {tys : List VTy} (hk : ∀ t ∈ tys, t.scalar = ty.scalar ∧ VOk.tyOKM t = true) (hsum : (tys.map VTy.count).sum = ty.count) :
    VMsl.callTy n tys = some ty ∧ ∀ vs, shapedAll tys vs = true → VMsl.callVal P n tys vs = build ty (flat vs) := by
  simp only [VMsl.callTy, VMsl.callVal, typeName_ne_fmod htn, htn, Bool.false_eq_true, if_false]
  match tys, hsum, hk with
  | [ta], hsum, hk =>
    obtain rfl := same_ty (hk ta List.mem_cons_self).2 hoy (hk ta List.mem_cons_self).1 (by simpa using hsum)
    refine ⟨by simp [castOK_self], fun vs hsh => ?_⟩
    match vs, hsh with
    | [v], hsh =>
      simp only [shapedAll, Bool.and_true] at hsh
      cases ta with
      | sc k =>
        obtain ⟨y, rfl⟩ := shaped_sc hsh
        simp [castOK_self, flat, VVal.comps, build]
      | vec k m =>
        obtain ⟨xs, rfl, hl⟩ := shaped_vec hsh
        simp [castOK_self, flat, VVal.comps, build, hl]
    | [], hsh | _ :: _ :: _, hsh => simp [shapedAll] at hsh
  | [], hsum, _ => simp at hsum; have := (count_bounds hoy).1; omega
  | t1 :: t2 :: ts, hsum, hk =>
    exact ⟨by simp only [hsum, if_true], fun vs hsh => by
      simp only [hsum, if_true, ctorComps_same (P := P) (t1 :: t2 :: ts) vs (fun t ht => (hk t ht).1) hsh]⟩

theorem sim_mctor {ty : VTy} {slots : VSlots} {as : VAExprs} {n : String}
    (hn : GenMslVec.vtypeName ty = .ok n) (hoy : VOk.tyOKM ty = true)
    (hs : SlotsSim W M env ρ ty.scalar slots as ty.count) :
    VMsl.typeOf M.msig env (.call n as) = some ty ∧
      ∀ σ, VMsl.eval M env ρ (.call n as) σ = VIr.eval W ρ (.ctor ty slots) σ := by
  obtain ⟨tys, hat, hk, hsum, hev⟩ := hs
  have htn := vtypeName_vtyOfName hn hoy
  have hc := ctor_call (P := M.P) htn hoy hk hsum
  refine ⟨by simp only [VMsl.typeOf, hat, hc.1], fun σ => ?_⟩
  have h := hev σ
  simp only [VMsl.eval, hat, VIr.eval]
  cases hargs : VMsl.evalArgs M env ρ as σ with
  | none => simp only [hargs] at h; simp [h]
  | some r =>
    obtain ⟨vs, σ1⟩ := r
    simp only [hargs] at h
    simp only [h.1, hc.2 vs h.2]
    rfl


end RsslVerif.Lemmas.GenMslVec
