import RsslVerif.Lemmas.RoundtripFullSuffix
import RsslVerif.Lemmas.LevelParser
/-! Round trip for the full expression model (`Model/FormatFull`, `Model/ParseFull`): fuel-free relations, lifting
between levels, inert tokens.  Level 2 also has the cast and `sizeof` alternatives and level 1 the template-argument
attempt of `expr_p1_call`. -/
set_option linter.unusedSimpArgs false
namespace RsslVerif.Lemmas.RoundtripFull
open RsslVerif.Gen.FmtTables RsslVerif.Gen.ParseTables RsslVerif.Gen.SyntaxTables RsslVerif.Model.Format
open RsslVerif.Model.FormatFull RsslVerif.Model.ParseFull RsslVerif.Lemmas.FmtParseTables
open RsslVerif.Lemmas.LevelParser

variable (W : List String)

/-- with enough fuel, level `k` reads `ts` as `out` -/
def Parses (k : Nat) (term : Terminator) (ts : List Tok) (out : XExpr × List Tok) : Prop :=
  ∃ N, ∀ f, N ≤ f → xparseLvl W f k term ts = some out
/-- with enough fuel, level `k` continues from the operand `acc` to `out` -/
def Conts (k : Nat) (term : Terminator) (acc : XExpr) (ts : List Tok) (out : XExpr × List Tok) : Prop :=
  ∃ N, ∀ f, N ≤ f → xcont W f k term acc ts = some out

/-- level `k` does nothing in front of `ts`: `LevelParser.Inert (Conts W)` -/
def Inert (k : Nat) (term : Terminator) (ts : List Tok) : Prop := ∀ acc, Conts W k term acc ts (acc, ts)
/-- no level below `k` does anything in front of `ts`: `LevelParser.NoLow (Conts W)` -/
def NoLow (k : Nat) (term : Terminator) (ts : List Tok) : Prop := ∀ i, 1 ≤ i → i < k → Inert W i term ts

/-- the cast alternative of `expr_p2` fails on the tokens after `(` -/
def CastDead (ts : List Tok) : Prop := ∀ f term, castAlt W f term ts = none

/-- entry condition of level 2 for an operand that is read by `expr_p1`: no prefix operator, no `sizeof`, and after
a `(` the cast alternative fails -/
def P2Ok : List Tok → Prop
  | [] => True
  | t :: rest => prefixOp t = none ∧ t ≠ .p .SizeOf ∧ (t = .p .LeftParen → CastDead W rest)

theorem NoLow.mono {k j term ts} (h : NoLow W k term ts) (hj : j ≤ k) : NoLow W j term ts :=
  fun i h1 h2 => h i h1 (Nat.lt_of_lt_of_le h2 hj)

theorem cont2 (f : Nat) (term : Terminator) (acc : XExpr) (ts : List Tok) :
    xcont W (f + 1) 2 term acc ts = some (acc, ts) := by
  unfold xcont
  rfl

theorem conts2_eq {term acc ts out} (h : Conts W 2 term acc ts out) : out = (acc, ts) := by
  obtain ⟨N, h⟩ := h
  have := h (N + 1) (by omega)
  rw [cont2] at this
  exact (Option.some.inj this).symm

theorem inert2 (term : Terminator) (ts : List Tok) : Inert W 2 term ts :=
  fun acc => ⟨1, fun f hf => by obtain ⟨f', rfl, _⟩ := succ_of_pos hf; exact cont2 W f' term acc ts⟩

theorem xparseLvl_nil (f k : Nat) (term : Terminator) : xparseLvl W f k term [] = none := by
  induction k generalizing f with
  | zero => cases f <;> simp [xparseLvl]
  | succ k ih =>
    cases f with
    | zero => simp [xparseLvl]
    | succ f =>
      unfold xparseLvl
      by_cases hk : k + 1 = 2
      · simp [hk]
      · simp [hk, ih]

/-- one level up: `xparseLvl (k+1)` is `xparseLvl k` followed by `xcont (k+1)` (at level 2: when the operand is one
that `expr_p1` reads) -/
theorem lift {k term ts a r out} (hp : Parses W k term ts (a, r)) (hc : Conts W (k + 1) term a r out)
    (h2 : k + 1 = 2 → P2Ok W ts) : Parses W (k + 1) term ts out := by
  obtain ⟨N1, h1⟩ := hp
  obtain ⟨N2, hc⟩ := hc
  refine ⟨max N1 N2 + 1, fun f hf => ?_⟩
  obtain ⟨f', rfl, hf'⟩ := succ_of_pos hf
  unfold xparseLvl
  by_cases hk : k + 1 = 2
  · have hok := h2 hk
    obtain rfl : k = 1 := by omega
    cases ts with
    | nil =>
      have := h1 f' (by omega)
      rw [xparseLvl_nil] at this
      cases this
    | cons t rest =>
      simp only [P2Ok] at hok
      obtain ⟨hnp, hns, hcd⟩ := hok
      simp only [hk, if_true, hnp, hns, if_false]
      by_cases hlp : t = .p .LeftParen
      · simp [hlp, hcd hlp f' term]
        rw [← hlp, h1 f' (by omega)]
        simp [hc f' (by omega)]
      · simp [hlp, h1 f' (by omega), hc f' (by omega)]
  · simp [hk, h1 f' (by omega), hc f' (by omega)]

/-- `>=` directly after a `>` that closes a template argument list would make `>>=` -/
def shiftAssignHead : List Tok → Bool
  | .gt true :: .p .Equals :: _ => true
  | _ => false

theorem firstArm_rejects {α : Type} : ∀ l : List (Option (Option α)), (∀ a ∈ l, a = none ∨ a = some none) →
    firstArm l = none
  | [], _ => rfl
  | a :: l, h => by
    rcases h a List.mem_cons_self with rfl | rfl
    · exact firstArm_rejects l (fun b hb => h b (List.mem_cons_of_mem _ hb))
    · rfl

/-- under `TypeList` no level takes a `>`: levels 5 and 6 have their `>` arms guarded by the terminator (the `>>=`
arms reject), level 14 needs `>>=` -/
theorem parseOpAt_gt_typelist (b : Bool) (rest : List Tok) (k : Nat) (h : shiftAssignHead rest = false) :
    parseOpAt k .TypeList (.gt b :: rest) = none := by
  by_cases h5 : k = 5
  · subst h5
    apply firstArm_rejects
    simp only [List.mem_cons, List.not_mem_nil, or_false, forall_eq_or_imp, forall_eq]
    refine ⟨?_, ?_, ?_, ?_⟩ <;> split <;> simp_all [matchPrefix, Tok.isLt]
  by_cases h6 : k = 6
  · subst h6
    apply firstArm_rejects
    simp only [List.mem_cons, List.not_mem_nil, or_false, forall_eq_or_imp, forall_eq]
    refine ⟨?_, ?_, ?_, ?_, ?_, ?_⟩ <;> split <;> simp_all [matchPrefix, Tok.isLt]
  by_cases h14 : k = 14
  · subst h14
    cases b with
    | false => rfl
    | true =>
      have hm : matchPrefix [(· == .gt true), (· == .p .Equals)] rest = none := by
        revert h
        fun_cases shiftAssignHead rest <;> intro h
        · cases h
        · rename_i hne
          rcases rest with _ | ⟨t, _ | ⟨u, r⟩⟩ <;> simp [matchPrefix]
          rintro rfl rfl
          exact hne _ rfl
      simp [parseOpAt, parseOp14, firstArm, matchPrefix, hm]
  · apply parseOpAt_of_head
    cases b <;> (revert h5 h6 h14; unfold opensAt; split <;> simp)

/-- `expr_p1_call`'s attempt to read `<…>(` fails on `ts` -/
def TmplDead (ts : List Tok) : Prop :=
  ∀ f, match parseTArgsReq W f ts with
    | some (_, .p .LeftParen :: _) => False
    | _ => True

/-- the head token does not continue a postfix chain -/
def NoPostfix : List Tok → Prop
  | [] => True
  | t :: r => t ≠ .p .PlusPlus ∧ t ≠ .p .MinusMinus ∧ t ≠ .p .Period ∧ t ≠ .p .LeftSquareBracket ∧ t ≠ .p .LeftParen ∧
      (t.isLt = true → TmplDead W (t :: r))

theorem inert_of (k : Nat) (term : Terminator) (ts : List Tok)
    (h1 : k = 1 → NoPostfix W ts) (h13 : k = 13 → NoQuestion ts)
    (hop : k ≠ 1 → k ≠ 2 → k ≠ 13 → parseOpAt k term ts = none) : Inert W k term ts := by
  intro acc
  refine ⟨1, fun f hf => ?_⟩
  fun_cases xcont W f k term acc ts
  case case1 => cases hf
  -- level 1: the head token continues no postfix chain,
  case case2 | case3 | case4 | case5 | case6 | case7 | case8 | case9 => simp [NoPostfix] at h1
  case case10 heq _ _ _ | case11 heq _ =>   -- and after `<` the template-argument attempt is dead
    exact absurd ((h1 rfl).2.2.2.2.2 rfl _) (by rw [heq]; exact id)
  case case15 => exact absurd rfl (h13 rfl)
  -- no operator of the level applies
  case case19 hop' | case22 hop' | case23 hop' => cases (hop ‹_› ‹_› ‹_›).symm.trans hop'
  all_goals rfl

theorem inert_nil (k : Nat) (term : Terminator) : Inert W k term [] :=
  inert_of W k term [] (fun _ => trivial) (fun _ => trivial) (fun _ _ _ => parseOpAt_nil term k)

/-- closing tokens: nothing continues in front of `)`, `]`, `:`, `;`, of `,` under `Sequence` / `TypeList`, and of a `>`
under `TypeList` (unless `>=` follows it) -/
def Closes (term : Terminator) (t : Tok) (rest : List Tok) : Prop :=
  t = .p .RightParen ∨ t = .p .RightSquareBracket ∨ t = .p .Colon ∨ t = .p .Semicolon ∨
  (t = .p .Comma ∧ term = .Sequence) ∨ (t = .p .Comma ∧ term = .TypeList) ∨
  (t.isGt = true ∧ term = .TypeList ∧ shiftAssignHead rest = false)

theorem inert_closes (k : Nat) (term : Terminator) (t : Tok) (rest : List Tok) (h : Closes term t rest) :
    Inert W k term (t :: rest) := by
  apply inert_of
  · intro _; rcases h with rfl | rfl | rfl | rfl | ⟨rfl, _⟩ | ⟨rfl, _⟩ | ⟨h, _⟩ <;> simp [NoPostfix, Tok.isLt]
    cases t <;> simp_all [Tok.isGt, Tok.isLt]
  · intro _; rcases h with rfl | rfl | rfl | rfl | ⟨rfl, _⟩ | ⟨rfl, _⟩ | ⟨h, _⟩ <;> simp [NoQuestion]
    cases t <;> simp_all [Tok.isGt]
  · intro _ _ _
    rcases h with rfl | rfl | rfl | rfl | ⟨rfl, h'⟩ | ⟨rfl, h'⟩ | ⟨h1, h2, h3⟩
    · exact parseOpAt_of_opensAny rfl k term rest
    · exact parseOpAt_of_opensAny rfl k term rest
    · exact parseOpAt_of_opensAny rfl k term rest
    · exact parseOpAt_of_opensAny rfl k term rest
    · subst h'; exact parseOpAt_comma _ (by decide) rest k
    · subst h'; exact parseOpAt_comma _ (by decide) rest k
    · subst h2
      cases t <;> simp [Tok.isGt] at h1
      exact parseOpAt_gt_typelist _ rest k h3

theorem noLow_closes (k : Nat) (term : Terminator) (t : Tok) (rest : List Tok) (h : Closes term t rest) :
    NoLow W k term (t :: rest) := fun i _ _ => inert_closes W i term t rest h

theorem inert_question (k : Nat) (term : Terminator) (rest : List Tok) (hk : k ≠ 13) :
    Inert W k term (.p .QuestionMark :: rest) := by
  apply inert_of
  · intro _; simp [NoPostfix, Tok.isLt]
  · intro h; exact absurd h hk
  · intro _ _ _; exact parseOpAt_of_opensAny rfl k term rest


end RsslVerif.Lemmas.RoundtripFull
