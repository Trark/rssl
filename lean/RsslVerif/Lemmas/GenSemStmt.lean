import RsslVerif.Lemmas.GenSemExpr
/-! Statements: executing the emitted statement equals executing the typed statement, for every fuel and every way of entering
it (`ModeOK`); `bindS` is "and then" for statement lists in the presence of label search, and the facts about lists are
proved for any statement executor (`execsOf`, `Labelled`).  Then functions (`sim_func`) and whole programs at every call depth
(`sim_phi`). -/
namespace RsslVerif.Lemmas.GenSem
open RsslVerif.Gen.HlslGenTables RsslVerif.Model RsslVerif.Model.GenHlsl RsslVerif.Spec.Sem
open RsslVerif.Model.Ir (Ty Var Const Dir)
theorem sim_ok {W : World} {env : Ast.Env} {cx : Ctx} (hag : Agree cx env) {e : Ir.Expr} {a : HlslAst.Expr}
    (hg : genExpr cx e = .ok a) (hok : Ir.okExpr W.sig cx.vty e = true) :
    ∃ t, Sim W env e a t := by
  simp only [Ir.okExpr, Bool.and_eq_true] at hok
  obtain ⟨t, ht⟩ := Option.isSome_iff_exists.mp hok.1
  exact ⟨t, sim_expr hag e a t hg ht hok.2⟩

theorem sim_okT {W : World} {env : Ast.Env} {cx : Ctx} (hag : Agree cx env) {e : Ir.Expr} {a : HlslAst.Expr} {t : Ty}
    (hg : genExpr cx e = .ok a) (hok : Ir.okExprT W.sig cx.vty t e = true) :
    Ir.typeOf W.sig cx.vty e = some t ∧ Sim W env e a t := by
  simp only [Ir.okExprT, Bool.and_eq_true] at hok
  cases ht : Ir.typeOf W.sig cx.vty e with
  | none => simp [ht] at hok
  | some t' =>
    simp [ht] at hok
    obtain ⟨rfl, hl⟩ := hok
    exact ⟨rfl, sim_expr hag e a t' hg ht hl⟩

theorem genOptExpr_some_ok {cx : Ctx} {e : Ir.Expr} {c' : Option HlslAst.Expr} (h : genOptExpr cx (some e) = .ok c') :
    ∃ a, genExpr cx e = .ok a ∧ c' = some a :=
  map_ok_inv h

theorem genVarDef_ok {cx : Ctx} {id : Nat} {init : Option Ir.Expr} {tn name : String} {i : Option HlslAst.Expr}
    (h : genVarDef cx id init = .ok (tn, name, i)) :
    typeName (cx.vty (.loc id)) = .ok tn ∧ name = cx.locName id ∧ genOptExpr cx init = .ok i := by
  revert h
  fun_cases genVarDef cx id init <;> intro h <;> cases h
  next htn hgi => exact ⟨htn, rfl, hgi⟩

theorem cond_eq {W : World} {env : Ast.Env} {cx : Ctx} (hag : Agree cx env) {e : Ir.Expr} {a : HlslAst.Expr}
    (hg : genExpr cx e = .ok a) (hok : Ir.okExpr W.sig cx.vty e = true) :
    Ast.condE W env a = fun σ => condOfB W.P (Ir.eval W e σ) := by
  obtain ⟨t, hs⟩ := sim_ok hag hg hok
  funext σ
  simp [Ast.condE, hs.1, hs.cond σ]

theorem cond_fn_eq {W : World} {env : Ast.Env} {cx : Ctx} (hag : Agree cx env)
    {c : Option Ir.Expr} {c' : Option HlslAst.Expr}
    (hg : genOptExpr cx c = .ok c') (hok : Ir.okOpt W.sig cx.vty c = true) :
    Ast.condFn W env c' = Ir.condFn W c := by
  cases c with
  | none => simp [genOptExpr] at hg; subst hg; rfl
  | some e =>
    obtain ⟨a, hge, rfl⟩ := genOptExpr_some_ok hg
    exact cond_eq hag hge hok

theorem inc_fn_eq {W : World} {env : Ast.Env} {cx : Ctx} (hag : Agree cx env)
    {c : Option Ir.Expr} {c' : Option HlslAst.Expr}
    (hg : genOptExpr cx c = .ok c') (hok : Ir.okOpt W.sig cx.vty c = true) :
    Ast.incFn W env c' = Ir.incFn W c := by
  cases c with
  | none => simp [genOptExpr] at hg; subst hg; rfl
  | some e =>
    obtain ⟨a, hge, rfl⟩ := genOptExpr_some_ok hg
    obtain ⟨t, hs⟩ := sim_ok hag hge (by simpa [Ir.okOpt] using hok)
    funext σ
    simp [Ast.incFn, Ir.incFn, hs.drop σ]

theorem vardef_eq {W : World} {env : Ast.Env} {cx : Ctx} (hag : Agree cx env)
    {id : Nat} {init : Option Ir.Expr} {tn name : String} {i : Option HlslAst.Expr}
    (hg : genVarDef cx id init = .ok (tn, name, i)) (hok : Ir.okVarDef W.sig cx.vty id init = true) :
    Ast.tyOfName tn = some (cx.vty (.loc id)) ∧
    ∀ σ, Ast.execVarDef W env (cx.vty (.loc id)) name i σ = Ir.execVarDef W id init σ := by
  obtain ⟨htn, rfl, hgi⟩ := genVarDef_ok hg
  refine ⟨typeName_tyOfName htn, fun σ => ?_⟩
  have hr := hag.res (.loc id)
  simp only [Ctx.name] at hr
  cases init with
  | none => simp [genOptExpr] at hgi; subst hgi; simp [Ast.execVarDef, Ir.execVarDef, hr]
  | some e =>
    obtain ⟨a, hge, rfl⟩ := genOptExpr_some_ok hgi
    obtain ⟨ht, hs⟩ := sim_okT hag hge (by simpa [Ir.okVarDef] using hok)
    simp [Ast.execVarDef, Ir.execVarDef, hr, hs.1, hs.conv ht σ]

/-- the further definitions of a `for` initialiser: all have the base type `T` the first one was printed with -/
theorem fordefs_eq {W : World} {env : Ast.Env} {cx : Ctx} (hag : Agree cx env) {T : Ty} {tn : String}
    (hT : Ast.tyOfName tn = some T) (ds : List (Nat × Option Ir.Expr)) :
    ∀ ds', genForDefs cx tn ds = .ok ds' → (ds.all fun d => Ir.okVarDef W.sig cx.vty d.1 d.2) = true →
      ∀ σ, Ast.execForDefs W env T ds' σ = Ir.execForDefs W ds σ := by
  fun_induction genForDefs cx tn ds with
  | case1 => intro ds' hg _ σ; cases hg; rfl
  | case5 id init r tn' name i hv hne ds2 hr ih => -- one more definition, of the same type name
    intro ds' hg hok σ
    cases hg
    simp only [List.all_cons, Bool.and_eq_true] at hok
    obtain rfl : tn' = tn := by simpa using hne
    have hvd := vardef_eq (W := W) hag hv hok.1
    obtain rfl : cx.vty (.loc id) = T := Option.some.inj (hvd.1.symm.trans hT)
    simp only [Ast.execForDefs, Ir.execForDefs, hvd.2 σ]
    cases Ir.execVarDef W id init σ with
    | none => rfl
    | some σ1 => exact ih ds2 hr hok.2 σ1
  | _ => intro _ hg; cases hg  -- the generator's failing branches

theorem forinit_eq {W : World} {env : Ast.Env} {cx : Ctx} (hag : Agree cx env)
    {init : Ir.ForInit} {init' : HlslAst.ForInit}
    (hg : genForInit cx init = .ok init') (hok : Ir.okForInit W.sig cx.vty init = true) :
    ∀ σ, Ast.execForInit W env init' σ = Ir.execForInit W init σ := by
  revert hg
  fun_cases genForInit cx init with
  | case1 => intro hg σ; cases hg; rfl
  | case2 e => -- an expression
    intro hg
    obtain ⟨a, hge, rfl⟩ := map_ok_inv hg
    obtain ⟨t, hs⟩ := sim_ok hag hge (by simpa [Ir.okForInit] using hok)
    intro σ
    simp [Ast.execForInit, Ir.execForInit, hs.drop σ]
  | case6 id i0 r tn name i hv ds2 hr => -- definitions
    intro hg σ
    cases hg
    have hT := typeName_tyOfName (genVarDef_ok hv).1
    -- the first definition is a further definition of its own type
    have ih := fordefs_eq (W := W) hag hT ((id, i0) :: r) ((name, i) :: ds2) (by simp [genForDefs, hv, hr])
      (by simpa [Ir.okForInit] using hok)
    simp only [Ast.execForInit, hT, ih, Ir.execForInit]
  | _ => intro hg; cases hg  -- the generator's failing branches


open RsslVerif.Model.HlslAst (pushStmt)

/-- continue after a statement list that was entered in mode `m` -/
def bindS (m : Mode) (r : SR) (k : Mode → Store → SR) : SR :=
  match r with
  | none => none
  | some (.normal, σ1) => k .run σ1
  | some (.seeking, σ1) => k m σ1
  | some (fl, σ1) => some (fl, σ1)

theorem bindS_nil (W : World) (env : Ast.Env) (rt : Ty) (fuel : Nat) (m : Mode) (σ : Store) (k : Mode → Store → SR) :
    bindS m (Ast.execs W env rt fuel m .nil σ) k = k m σ := by
  cases m <;> rfl

/-! Statement lists over an arbitrary statement executor `ex`: label search and the label-filling `push` need two facts
about `ex` (`Labelled`) and one about the statement pushed (executed, it does not come back looking for a label), so they
are proved once for `Ast.exec` and `Msl.exec`. -/

/-- `Ast.execs` / `Msl.execs` with the statement executor left open -/
def execsOf (ex : Mode → HlslAst.Stmt → Store → SR) (m : Mode) : HlslAst.Stmts → Store → SR
  | .nil, σ => endOf m σ
  | .cons s r, σ =>
    match ex m s σ with
    | none => none
    | some (.normal, σ1) => execsOf ex .run r σ1
    | some (.seeking, σ1) => execsOf ex m r σ1
    | some (fl, σ1) => some (fl, σ1)

theorem ast_execs (W : World) (env : Ast.Env) (rt : Ty) (fuel : Nat) :
    ∀ (b : HlslAst.Stmts) (m : Mode) (σ : Store), Ast.execs W env rt fuel m b σ = execsOf (Ast.exec W env rt fuel) m b σ
  | .nil, m, σ => rfl
  | .cons s r, m, σ => by
    simp only [Ast.execs, execsOf]
    cases Ast.exec W env rt fuel m s σ with
    | none => rfl
    | some p => obtain ⟨fl, σ1⟩ := p; cases fl <;> simp only [ast_execs W env rt fuel r]

section
variable {ex : Mode → HlslAst.Stmt → Store → SR}

theorem execs_run_ne_seeking : ∀ (b : HlslAst.Stmts) (σ σ' : Store), execsOf ex .run b σ ≠ some (.seeking, σ')
  | .nil, σ, σ' => by simp [execsOf, endOf]
  | .cons s r, σ, σ' => by
    simp only [execsOf]
    cases h : ex .run s σ with
    | none => simp
    | some p =>
      obtain ⟨fl, σ1⟩ := p
      cases fl <;> simp
      · exact execs_run_ne_seeking r σ1 σ'
      · exact execs_run_ne_seeking r σ1 σ'

theorem bindS_run_of (m : Mode) (b : HlslAst.Stmts) (σ : Store) (k : Mode → Store → SR) :
    bindS m (execsOf ex .run b σ) k = bindS .run (execsOf ex .run b σ) k := by
  cases h : execsOf ex .run b σ with
  | none => rfl
  | some p =>
    obtain ⟨fl, σ1⟩ := p
    cases fl <;> try rfl
    exact absurd h (execs_run_ne_seeking b σ σ1)

theorem execs_single (ex : Mode → HlslAst.Stmt → Store → SR) (m : Mode) (s : HlslAst.Stmt) (σ : Store) :
    execsOf ex m (.cons s .nil) σ =
      (match ex m s σ with
        | none => none
        | some (.normal, σ1) => some (.normal, σ1)
        | some (.seeking, σ1) => endOf m σ1
        | some (fl, σ1) => some (fl, σ1)) := by
  simp only [execsOf]
  cases ex m s σ with
  | none => rfl
  | some p => obtain ⟨fl, σ1⟩ := p; cases fl <;> simp [endOf]

theorem bind_end (m : Mode) (acc : HlslAst.Stmts) (σ : Store) :
    bindS m (execsOf ex m acc σ) (fun m' σ' => endOf m' σ') = execsOf ex m acc σ := by
  cases h : execsOf ex m acc σ with
  | none => rfl
  | some p =>
    obtain ⟨fl, σ1⟩ := p
    cases fl <;> try rfl
    cases m with
    | run => exact absurd h (execs_run_ne_seeking acc σ σ1)
    | _ => rfl

end

/-- a `while` / `for` loop preserves every property of the store that test, body and increment preserve, and ends normally or
with the `return` of one of its bodies -/
theorem loopW_inv {I : Store → Prop} {c : Store → Option (Bool × Store)} {b : Store → SR} {i : Store → Option Store}
    (hc : ∀ σ bv σ', c σ = some (bv, σ') → I σ → I σ') (hb : ∀ σ fl σ', b σ = some (fl, σ') → I σ → I σ')
    (hi : ∀ σ σ', i σ = some σ' → I σ → I σ') :
    ∀ (fuel : Nat) (σ : Store) (fl : Flow) (σ' : Store), loopW fuel c b i σ = some (fl, σ') → I σ →
      I σ' ∧ (fl = .normal ∨ ∃ σ1 v, b σ1 = some (.ret v, σ') ∧ fl = .ret v) := by
  intro fuel σ fl σ'
  fun_induction loopW fuel c b i σ <;> intro h h0
  case case3 hcσ => cases h; exact ⟨hc _ _ _ hcσ h0, .inl rfl⟩ -- the test fails
  case case5 hcσ _ hbσ => cases h; exact ⟨hb _ _ _ hbσ (hc _ _ _ hcσ h0), .inl rfl⟩ -- `break`
  case case6 σ1 hcσ v _ hbσ => cases h; exact ⟨hb _ _ _ hbσ (hc _ _ _ hcσ h0), .inr ⟨σ1, v, hbσ, rfl⟩⟩ -- `return`
  case case8 hcσ _ _ _ _ hbσ _ hiσ ih => -- once more
    exact ih hc hb hi h (hi _ _ hiσ (hb _ _ _ hbσ (hc _ _ _ hcσ h0)))
  all_goals cases h -- out of fuel, or a part of the loop has no value

theorem loopD_inv {I : Store → Prop} {b : Store → SR} {c : Store → Option (Bool × Store)}
    (hb : ∀ σ fl σ', b σ = some (fl, σ') → I σ → I σ') (hc : ∀ σ bv σ', c σ = some (bv, σ') → I σ → I σ') :
    ∀ (fuel : Nat) (σ : Store) (fl : Flow) (σ' : Store), loopD fuel b c σ = some (fl, σ') → I σ →
      I σ' ∧ (fl = .normal ∨ ∃ σ1 v, b σ1 = some (.ret v, σ') ∧ fl = .ret v) := by
  intro fuel σ fl σ'
  fun_induction loopD fuel b c σ <;> intro h h0
  case case3 hbσ => cases h; exact ⟨hb _ _ _ hbσ h0, .inl rfl⟩ -- `break`
  case case4 σ v _ hbσ => cases h; exact ⟨hb _ _ _ hbσ h0, .inr ⟨σ, v, hbσ, rfl⟩⟩ -- `return`
  case case6 hbσ _ hcσ => cases h; exact ⟨hc _ _ _ hcσ (hb _ _ _ hbσ h0), .inl rfl⟩ -- the test fails
  case case7 hbσ _ hcσ ih => exact ih hb hc h (hc _ _ _ hcσ (hb _ _ _ hbσ h0)) -- once more
  all_goals cases h -- out of fuel, or a part of the loop has no value

/-- a `switch` ends in the store of one of its two passes over the body (the second starts where the first stopped looking),
with that pass's flow or normally; never still looking for a label -/
theorem switchOut_flow {r1 : SR} {p2 : Store → SR} {fl : Flow} {σ' : Store} (h : switchOut r1 p2 = some (fl, σ')) :
    fl ≠ .seeking ∧ ∃ fl0, (fl = .normal ∨ fl = fl0) ∧
      (r1 = some (fl0, σ') ∨ ∃ σ2, r1 = some (.seeking, σ2) ∧ p2 σ2 = some (fl0, σ')) := by
  revert h
  fun_cases switchOut r1 p2 <;> intro h <;> cases h
  -- the second pass ends looking for a label or at a `break`: normally; otherwise with its own flow
  case case3 σ2 hp | case4 σ2 hp => exact ⟨by simp, _, .inl rfl, .inr ⟨σ2, rfl, hp⟩⟩
  case case5 σ2 hs _ hp => exact ⟨fun e => hs e, _, .inr rfl, .inr ⟨σ2, rfl, hp⟩⟩
  -- the first pass ends at a `break`: normally; otherwise with its own flow
  case case6 => exact ⟨by simp, _, .inl rfl, .inl rfl⟩
  case case7 hs _ => exact ⟨fun e => hs e, _, .inr rfl, .inl rfl⟩

theorem loopW_flow (c : Store → Option (Bool × Store)) (b : Store → SR) (i : Store → Option Store) :
    ∀ (fuel : Nat) (σ : Store) (fl : Flow) (σ' : Store), loopW fuel c b i σ = some (fl, σ') →
      fl = .normal ∨ ∃ σ1 v, b σ1 = some (.ret v, σ') ∧ fl = .ret v := fun fuel σ fl σ' h =>
  (loopW_inv (I := fun _ => True) (fun _ _ _ _ => id) (fun _ _ _ _ => id) (fun _ _ _ => id) fuel σ fl σ' h trivial).2

theorem loopD_flow (b : Store → SR) (c : Store → Option (Bool × Store)) :
    ∀ (fuel : Nat) (σ : Store) (fl : Flow) (σ' : Store), loopD fuel b c σ = some (fl, σ') →
      fl = .normal ∨ ∃ σ1 v, b σ1 = some (.ret v, σ') ∧ fl = .ret v := fun fuel σ fl σ' h =>
  (loopD_inv (I := fun _ => True) (fun _ _ _ _ => id) (fun _ _ _ _ => id) fuel σ fl σ' h trivial).2

theorem loopW_ne_seeking (fuel : Nat) (c : Store → Option (Bool × Store)) (b : Store → SR) (i : Store → Option Store) :
    ∀ (σ σ' : Store), loopW fuel c b i σ ≠ some (.seeking, σ') := fun σ σ' h => by
  rcases loopW_flow c b i fuel σ _ σ' h with h | ⟨_, _, _, h⟩ <;> cases h

theorem loopD_ne_seeking (fuel : Nat) (b : Store → SR) (c : Store → Option (Bool × Store)) :
    ∀ (σ σ' : Store), loopD fuel b c σ ≠ some (.seeking, σ') := fun σ σ' h => by
  rcases loopD_flow b c fuel σ _ σ' h with h | ⟨_, _, _, h⟩ <;> cases h

theorem switchOut_ne_seeking (r1 : SR) (p2 : Store → SR) (σ' : Store) : switchOut r1 p2 ≠ some (.seeking, σ') :=
  fun h => (switchOut_flow h).1 rfl

theorem exec_run_ne_seeking (W : World) (env : Ast.Env) (rt : Ty) (fuel : Nat) :
    ∀ (s : HlslAst.Stmt) (σ σ' : Store), Ast.exec W env rt fuel .run s σ ≠ some (.seeking, σ')
  | .expr e => fun σ σ' => by
    simp only [Ast.exec, skip]; cases Ast.eval W env e σ <;> simp [dropVal, normalOf]
  | .var ty n i => fun σ σ' => by
    simp only [Ast.exec, skip]
    cases Ast.tyOfName ty with
    | none => simp
    | some T => simp only []; cases Ast.execVarDef W env T n i σ <;> simp [normalOf]
  | .block b => fun σ σ' => by simp only [Ast.exec, skip, ast_execs]; exact execs_run_ne_seeking b σ σ'
  | .ifThen c b => fun σ σ' => by
    simp only [Ast.exec, skip]
    cases Ast.condE W env c σ with
    | none => simp
    | some p => obtain ⟨bv, σ1⟩ := p; cases bv <;> simp; exact exec_run_ne_seeking W env rt fuel b σ1 σ'
  | .ifElse c t f => fun σ σ' => by
    simp only [Ast.exec, skip]
    cases Ast.condE W env c σ with
    | none => simp
    | some p =>
      obtain ⟨bv, σ1⟩ := p
      cases bv <;> simp
      · exact exec_run_ne_seeking W env rt fuel f σ1 σ'
      · exact exec_run_ne_seeking W env rt fuel t σ1 σ'
  | .for i c n b => fun σ σ' => by
    simp only [Ast.exec, skip]
    cases Ast.execForInit W env i σ with
    | none => simp
    | some σ0 => exact loopW_ne_seeking _ _ _ _ _ _
  | .while c b => fun σ σ' => by simp only [Ast.exec, skip]; exact loopW_ne_seeking _ _ _ _ _ _
  | .doWhile b c => fun σ σ' => by simp only [Ast.exec, skip]; exact loopD_ne_seeking _ _ _ _ _
  | .break => fun σ σ' => by simp [Ast.exec, skip]
  | .continue => fun σ σ' => by simp [Ast.exec, skip]
  | .ret none => fun σ σ' => by simp [Ast.exec, skip]
  | .ret (some e) => fun σ σ' => by
    simp only [Ast.exec, skip]
    cases Ast.typeOf W.sig env e with
    | none => simp
    | some te => simp only []; cases Ast.convR W.P te rt (Ast.eval W env e σ) <;> simp [retOf]
  | .empty => fun σ σ' => by simp [Ast.exec, endOf]
  | .switch c body => fun σ σ' => by
    cases body with
    | block b =>
      simp only [Ast.exec, skip]
      cases htc : Ast.typeOf W.sig env c with
      | none => simp
      | some tc =>
        simp only []
        cases hcv : Ast.convR W.P tc (Ast.promote tc) (Ast.eval W env c σ) with
        | none => simp
        | some p => obtain ⟨v, σ1⟩ := p; exact switchOut_ne_seeking _ _ _
    | _ => simp [Ast.exec, skip]
  | .caseLabel e s => fun σ σ' => by simp only [Ast.exec]; exact exec_run_ne_seeking W env rt fuel s σ σ'
  | .defaultLabel s => fun σ σ' => by simp only [Ast.exec]; exact exec_run_ne_seeking W env rt fuel s σ σ'

theorem ir_execs_run_ne_seeking (W : World) (fuel : Nat) :
    ∀ (b : Ir.Stmts) (σ σ' : Store), Ir.execs W fuel .run b σ ≠ some (.seeking, σ')
  | .nil, σ, σ' => by simp [Ir.execs, endOf]
  | .cons s r, σ, σ' => by
    simp only [Ir.execs]
    cases Ir.exec W fuel .run s σ with
    | none => simp
    | some p =>
      obtain ⟨fl, σ1⟩ := p
      cases fl <;> simp <;> exact ir_execs_run_ne_seeking W fuel r σ1 σ'

/-- a typed statement that is executed does not come back looking for a label (its parts are statement lists: no
recursion).  The emitted statement behaves like it, which is all `execs_push` needs of the statement pushed. -/
theorem ir_exec_run_ne_seeking (W : World) (fuel : Nat) (s : Ir.Stmt) (σ σ' : Store) :
    Ir.exec W fuel .run s σ ≠ some (.seeking, σ') := by
  cases s with
  | expr e => simp only [Ir.exec, skip]; cases Ir.eval W e σ <;> simp [dropVal, normalOf]
  | var id i => simp only [Ir.exec, skip]; cases Ir.execVarDef W id i σ <;> simp [normalOf]
  | block b => exact ir_execs_run_ne_seeking W fuel b σ σ'
  | ifThen c b =>
    simp only [Ir.exec, skip]
    cases condOfB W.P (Ir.eval W c σ) with
    | none => simp
    | some p => obtain ⟨bv, σ1⟩ := p; cases bv <;> simp; exact ir_execs_run_ne_seeking W fuel b σ1 σ'
  | ifElse c t f =>
    simp only [Ir.exec, skip]
    cases condOfB W.P (Ir.eval W c σ) with
    | none => simp
    | some p => obtain ⟨bv, σ1⟩ := p; cases bv <;> simp <;> exact ir_execs_run_ne_seeking W fuel _ σ1 σ'
  | «for» i c n b =>
    simp only [Ir.exec, skip]
    cases Ir.execForInit W i σ with
    | none => simp
    | some σ0 => exact loopW_ne_seeking _ _ _ _ _ _
  | «while» c b => exact loopW_ne_seeking _ _ _ _ _ _
  | doWhile b c => exact loopD_ne_seeking _ _ _ _ _
  | «break» => simp [Ir.exec, skip]
  | «continue» => simp [Ir.exec, skip]
  | ret e => cases e with
    | none => simp [Ir.exec, skip]
    | some e => simp only [Ir.exec, skip]; cases Ir.eval W e σ <;> simp [retOf]
  | switch T c b =>
    simp only [Ir.exec, skip]
    cases Ir.eval W c σ with
    | none => simp
    | some p => exact switchOut_ne_seeking _ _ _
  | caseLabel c => simp [Ir.exec]
  | defaultLabel => simp [Ir.exec]

/-- what the list level needs to know of a statement executor -/
structure Labelled (ex : Mode → HlslAst.Stmt → Store → SR) : Prop where
  empty : ∀ m σ, ex m .empty σ = endOf m σ
  /-- a label in front of a statement: nothing happens (a `case` whose constant has no value), or the statement is entered
  executing, or in the mode at hand — whatever the statement is -/
  label : ∀ m σ (l : HlslAst.Stmt → HlslAst.Stmt), ((∃ e, l = HlslAst.Stmt.caseLabel e) ∨ l = HlslAst.Stmt.defaultLabel) →
    (∀ s, ex m (l s) σ = none) ∨ (∀ s, ex m (l s) σ = ex .run s σ) ∨ (∀ s, ex m (l s) σ = ex m s σ)

section
variable {ex : Mode → HlslAst.Stmt → Store → SR} (hL : Labelled ex)
include hL

theorem push_label (s : HlslAst.Stmt) (hs : ∀ σ σ', ex .run s σ ≠ some (.seeking, σ')) (m : Mode) (σ : Store)
    (l : HlslAst.Stmt → HlslAst.Stmt) (hl : (∃ e, l = HlslAst.Stmt.caseLabel e) ∨ l = HlslAst.Stmt.defaultLabel) :
    execsOf ex m (.cons (l s) .nil) σ =
      bindS m (execsOf ex m (.cons (l .empty) .nil) σ) (fun m' σ' => execsOf ex m' (.cons s .nil) σ') := by
  rw [execs_single, execs_single]
  rcases hL.label m σ l hl with h | h | h
  · simp [h, bindS]
  · rw [h s, h .empty]
    simp only [hL.empty, endOf, bindS, execs_single]
    -- entered executing, `s` does not report "still looking for a label"
    cases hr : ex .run s σ with
    | none => rfl
    | some p =>
      obtain ⟨fl, σ1⟩ := p
      cases fl <;> try rfl
      exact absurd hr (hs σ σ1)
  · rw [h s, h .empty]
    cases m <;> simp [hL.empty, endOf, bindS, execs_single]

/-- the label-filling `push` of `generate_scope_block` means "and then this statement" -/
theorem execs_push (s : HlslAst.Stmt) (hs : ∀ σ σ', ex .run s σ ≠ some (.seeking, σ')) :
    ∀ (acc : HlslAst.Stmts) (m : Mode) (σ : Store),
      execsOf ex m (pushStmt acc s) σ = bindS m (execsOf ex m acc σ) (fun m' σ' => execsOf ex m' (.cons s .nil) σ') := by
  intro acc
  fun_induction pushStmt acc s <;> intro m σ
  case case1 => cases m <;> simp [execsOf, endOf, bindS]
  case case2 e => exact push_label hL _ hs m σ (.caseLabel e) (.inl ⟨e, rfl⟩) -- an empty `case` label takes the statement
  case case3 => exact push_label hL _ hs m σ .defaultLabel (.inr rfl) -- an empty `default` label takes it
  case case4 x _ _ _ => -- anything else is followed by it
    rw [execs_single ex m x σ]
    conv => lhs; rw [execsOf]
    cases ex m x σ with
    | none => rfl
    | some p =>
      obtain ⟨fl, σ1⟩ := p
      cases fl <;> try rfl
      cases m <;> simp [endOf, bindS]
  case case5 x y r _ ih =>
    rw [execsOf]
    conv => rhs; rw [execsOf]
    cases ex m x σ with
    | none => rfl
    | some p =>
      obtain ⟨fl, σ1⟩ := p
      cases fl with
      | normal => simp only []; rw [ih hs .run σ1]; exact (bindS_run_of m _ σ1 _).symm
      | seeking => simp only []; rw [ih hs m σ1]
      | _ => rfl

end

theorem ast_labelled (W : World) (env : Ast.Env) (rt : Ty) (fuel : Nat) : Labelled (Ast.exec W env rt fuel) where
  empty m σ := by simp [Ast.exec]
  label m σ l hl := by
    rcases hl with ⟨e, rfl⟩ | rfl
    · cases m with
      | run => exact .inr (.inl fun s => by simp [Ast.exec])
      | seekDefault => exact .inr (.inr fun s => by simp [Ast.exec])
      | seekCase T v =>
        cases hte : Ast.typeOf W.sig env e with
        | none => exact .inl fun s => by simp [Ast.exec, hte]
        | some te =>
          cases hc : Ast.convR W.P te T (Ast.eval W env e σ) with
          | none => exact .inl fun s => by simp [Ast.exec, hte, hc]
          | some q =>
            by_cases hv : q.1 = v
            · exact .inr (.inl fun s => by simp [Ast.exec, hte, hc, hv])
            · exact .inr (.inr fun s => by simp [Ast.exec, hte, hc, hv])
    · cases m with
      | seekCase T v => exact .inr (.inr fun s => by simp [Ast.exec])
      | run => exact .inr (.inl fun s => by simp [Ast.exec])
      | seekDefault => exact .inr (.inl fun s => by simp [Ast.exec])

/-- a mode handed to a statement list whose labels have type `lt` looks for a value of that type -/
def ModeOK (lt : Option Ty) : Mode → Prop
  | .seekCase T _ => lt = some T
  | _ => True

theorem bind_step (m m' : Mode) (hm : m' = .run ∨ m' = m) (X : SR) (K : Mode → Store → SR) :
    bindS m (match X with
        | none => none
        | some (.normal, σ2) => some (Flow.normal, σ2)
        | some (.seeking, σ2) => endOf m' σ2
        | some (fl, σ2) => some (fl, σ2)) K =
      (match X with
        | none => none
        | some (.normal, σ2) => K .run σ2
        | some (.seeking, σ2) => K m' σ2
        | some (fl, σ2) => some (fl, σ2)) := by
  cases X with
  | none => rfl
  | some p =>
    obtain ⟨fl, σ2⟩ := p
    cases fl <;> try rfl
    cases hm with
    | inl h => subst h; rfl
    | inr h => subst h; cases m' <;> rfl

/-- one turn of the loop of `generate_scope_block`, for any statement executor: the statement pushed behaves like `s`
(so, executed, it does not come back looking for a label), what is generated after it like `r` -/
theorem acc_step {ex : Mode → HlslAst.Stmt → Store → SR} (hL : Labelled ex) {W : World} {fuel : Nat} {lt : Option Ty}
    {s : Ir.Stmt} {s' : HlslAst.Stmt} {r : Ir.Stmts} {acc acc' : HlslAst.Stmts}
    (h1 : ∀ m, ModeOK lt m → ∀ σ, ex m s' σ = Ir.exec W fuel m s σ)
    (h2 : ∀ m, ModeOK lt m → ∀ σ, execsOf ex m acc' σ =
      bindS m (execsOf ex m (pushStmt acc s') σ) (fun m' σ' => Ir.execs W fuel m' r σ'))
    (m : Mode) (hm : ModeOK lt m) (σ : Store) :
    execsOf ex m acc' σ = bindS m (execsOf ex m acc σ) (fun m' σ' => Ir.execs W fuel m' (.cons s r) σ') := by
  rw [h2 m hm σ, execs_push hL s' fun σ σ' => by rw [h1 .run trivial σ]; exact ir_exec_run_ne_seeking W fuel s σ σ']
  cases hR : execsOf ex m acc σ with
  | none => rfl
  | some p =>
    obtain ⟨fl, σ1⟩ := p
    cases fl with
    | normal =>
      change bindS m (execsOf ex .run (.cons s' .nil) σ1) (fun m' σ' => Ir.execs W fuel m' r σ') = Ir.execs W fuel .run (.cons s r) σ1
      rw [execs_single, h1 .run trivial σ1, Ir.execs]
      exact bind_step m .run (.inl rfl) _ _
    | seeking =>
      change bindS m (execsOf ex m (.cons s' .nil) σ1) (fun m' σ' => Ir.execs W fuel m' r σ') = Ir.execs W fuel m (.cons s r) σ1
      rw [execs_single, h1 m hm σ1, Ir.execs]
      exact bind_step m m (.inr rfl) _ _
    | _ => rfl

theorem promote_astTy {sig : Sig} {vty : Var → Ty} {e : Ir.Expr} {T : Ty}
    (ht : Ir.typeOf sig vty e = some T) (hT : T ≠ .lit) : Ast.promote (astTy e T) = T := by
  by_cases hl : Ir.litlike e = true
  · have := litlike_ty ht hl; subst this; simp [astTy, hl, Ast.promote]
  · have hl' : Ir.litlike e = false := by simpa using hl
    simp only [astTy, hl']
    cases T <;> simp [Ast.promote] at hT ⊢

theorem execs_of_acc {W : World} {env : Ast.Env} {rt : Ty} {m : Mode} {b : Ir.Stmts} {b' : HlslAst.Stmts}
    (h : ∀ fuel σ, Ast.execs W env rt fuel m b' σ =
      bindS m (Ast.execs W env rt fuel m .nil σ) (fun m' σ' => Ir.execs W fuel m' b σ')) :
    ∀ fuel σ, Ast.execs W env rt fuel m b' σ = Ir.execs W fuel m b σ :=
  fun fuel σ => (h fuel σ).trans (bindS_nil W env rt fuel m σ _)

/-- a `case` label: the emitted constant, converted to the type `T` of the controlling expression, is the IR's constant
converted to `T` -/
theorem sim_label (W : World) (env : Ast.Env) {c : Const} {e : HlslAst.Expr} (hgl : genLiteral c = .ok e)
    {lt : Option Ty} (hwt : lt = some c.ty ∨ (c.ty = .lit ∧ lt.isSome = true)) {T : Ty} (hm : lt = some T) (σ : Store) :
    Ast.typeOf W.sig env e = some (astTy (.lit c) c.ty) ∧
    Ast.convR W.P (astTy (.lit c) c.ty) T (Ast.eval W env e σ) =
      (match castVal W.P T (Ir.constVal c) with | none => none | some x => some (x, σ)) := by
  have hs := sim_lit W env c e hgl
  have ht : Ir.typeOf W.sig (fun _ => Ty.void) (.lit c) = some c.ty := by simp [Ir.typeOf]
  refine ⟨hs.1, ?_⟩
  cases hwt with
  | inl h =>
    obtain rfl : T = c.ty := by rw [h] at hm; exact (Option.some.inj hm).symm
    rw [hs.conv ht σ]
    cases c <;> simp [Ir.eval, Ir.constVal, castVal, Const.ty]
  | inr h =>
    have hl : Ir.litlike (.lit c) = false := by
      cases c <;> simp [Const.ty] at h <;> simp [Ir.litlike]
    rw [(hs.plain hl).2 σ]
    simp only [astTy, hl, h.1, Ir.eval, Ast.convR, Ast.convert]
    by_cases hT : Ty.lit = T
    · subst hT
      cases c <;> simp [Const.ty] at h <;> simp [Ir.constVal, castVal]
    · have hT' : ¬ ((if false = true then Ty.lit else Ty.lit) = T) := by simpa using hT
      simp only [hT', if_false]
      cases castVal W.P T (Ir.constVal c) <;> rfl

/-- what the simulation says of a statement and of what the generator returns for it -/
abbrev SimS (W : World) (env : Ast.Env) (cx : Ctx) (rt : Ty) (s : Ir.Stmt) (r : Except GenErr HlslAst.Stmt) : Prop :=
  ∀ (s' : HlslAst.Stmt) (lt : Option Ty), r = .ok s' → Ir.wtStmt W.sig cx.vty rt lt s = true →
    ∀ m, ModeOK lt m → ∀ fuel σ, Ast.exec W env rt fuel m s' σ = Ir.exec W fuel m s σ

/-- …of a statement list, the statements pushed so far and what the loop of `generate_scope_block` returns for them -/
abbrev SimA (W : World) (env : Ast.Env) (cx : Ctx) (rt : Ty) (b : Ir.Stmts) (acc : HlslAst.Stmts)
    (r : Except GenErr HlslAst.Stmts) : Prop :=
  ∀ (acc' : HlslAst.Stmts) (lt : Option Ty), r = .ok acc' → Ir.wtStmts W.sig cx.vty rt lt b = true →
    ∀ m, ModeOK lt m → ∀ fuel σ,
      Ast.execs W env rt fuel m acc' σ =
        bindS m (Ast.execs W env rt fuel m acc σ) (fun m' σ' => Ir.execs W fuel m' b σ')

/-- By the functional induction principle of the generator: its cases are the branches of `genStmt` / `genStmtsAcc`, each
with the results of the calls made on the way and the value the branch returns. -/
theorem sim_stmt_acc {W : World} {env : Ast.Env} {cx : Ctx} (hag : Agree cx env) (rt : Ty) :
    (∀ s, SimS W env cx rt s (genStmt cx s)) ∧ ∀ b acc, SimA W env cx rt b acc (genStmtsAcc cx b acc) := by
  apply genStmt.mutual_induct_unfolding cx (SimS W env cx rt) (SimA W env cx rt)
  case case1 => -- expression statement
    intro e s' lt hg hwt
    obtain ⟨a, hge, rfl⟩ := map_ok_inv hg
    obtain ⟨t, hs⟩ := sim_ok hag hge (by simpa [Ir.wtStmt] using hwt)
    intro m _ fuel σ
    simp only [Ast.exec, Ir.exec, hs.drop σ]
  case case3 => -- variable definition
    intro id init tn name i hv s' lt hg hwt
    cases hg
    have hvd := vardef_eq (W := W) hag hv (by simpa [Ir.wtStmt] using hwt)
    intro m _ fuel σ
    simp only [Ast.exec, Ir.exec, hvd.1, hvd.2 σ]
  case case4 => -- block
    intro b ih s' lt hg hwt
    obtain ⟨b', hb, rfl⟩ := map_ok_inv hg
    have ih := execs_of_acc (ih b' none hb (by simpa [Ir.wtStmt] using hwt) .run trivial)
    intro m _ fuel σ
    simp only [Ast.exec, Ir.exec, ih]
  case case7 => -- if
    intro c b c' hgc b' hb ih s' lt hg hwt
    cases hg
    simp only [Ir.wtStmt, Bool.and_eq_true] at hwt
    have ih := execs_of_acc (ih b' none hb hwt.2 .run trivial)
    intro m _ fuel σ
    simp only [Ast.exec, Ir.exec, cond_eq hag hgc hwt.1, skip, ih]
  case case11 => -- if / else
    intro c t f c' hgc t' hb f' hb2 ih1 ih2 s' lt hg hwt
    cases hg
    simp only [Ir.wtStmt, Bool.and_eq_true] at hwt
    have ih1 := execs_of_acc (ih1 t' none hb hwt.1.2 .run trivial)
    have ih2 := execs_of_acc (ih2 f' none hb2 hwt.2 .run trivial)
    intro m _ fuel σ
    simp only [Ast.exec, Ir.exec, cond_eq hag hgc hwt.1.1, skip, ih1, ih2]
  case case16 => -- for
    intro init cond inc b init' hgi cond' hgc inc' hgn b' hb ih s' lt hg hwt
    cases hg
    simp only [Ir.wtStmt, Bool.and_eq_true] at hwt
    obtain ⟨⟨⟨hwi, hwc⟩, hwn⟩, hwb⟩ := hwt
    have ih := execs_of_acc (ih b' none hb hwb .run trivial)
    intro m _ fuel σ
    simp only [Ast.exec, Ir.exec, forinit_eq hag hgi hwi σ, cond_fn_eq hag hgc hwc, inc_fn_eq hag hgn hwn, skip, ih]
  case case19 => -- while
    intro c b c' hgc b' hb ih s' lt hg hwt
    cases hg
    simp only [Ir.wtStmt, Bool.and_eq_true] at hwt
    have ih := execs_of_acc (ih b' none hb hwt.2 .run trivial)
    intro m _ fuel σ
    simp only [Ast.exec, Ir.exec, Ast.condFn, Ir.condFn, cond_eq hag hgc hwt.1, skip, ih]
  case case22 => -- do / while
    intro b c b' hb c' hgc ih s' lt hg hwt
    cases hg
    simp only [Ir.wtStmt, Bool.and_eq_true] at hwt
    have ih := execs_of_acc (ih b' none hb hwt.1 .run trivial)
    intro m _ fuel σ
    simp only [Ast.exec, Ir.exec, Ast.condFn, Ir.condFn, cond_eq hag hgc hwt.2, skip, ih]
  case case23 => intro s' lt hg _; cases hg; intro m _ fuel σ; rfl -- break
  case case24 => intro s' lt hg _; cases hg; intro m _ fuel σ; rfl -- continue
  case case25 => -- return
    intro e s' lt hg hwt
    cases e with
    | none => simp [genOptExpr, Except.map] at hg; subst hg; intro m _ fuel σ; rfl
    | some e =>
      obtain ⟨_, ho, rfl⟩ := map_ok_inv hg
      obtain ⟨a, hge, rfl⟩ := map_ok_inv ho
      obtain ⟨ht, hs⟩ := sim_okT hag hge (by simpa [Ir.wtStmt] using hwt)
      intro m _ fuel σ
      simp only [Ast.exec, Ir.exec, hs.1, hs.conv ht σ]
  case case28 => -- switch
    intro T c b c' hgc b' hb ih s' lt hg hwt
    cases hg
    simp only [Ir.wtStmt, Bool.and_eq_true, decide_eq_true_eq] at hwt
    obtain ⟨⟨hwc, hT⟩, hwb⟩ := hwt
    obtain ⟨ht, hs⟩ := sim_okT hag hgc hwc
    have ih := ih b' (some T) hb hwb
    intro m _ fuel σ
    simp only [Ast.exec, Ir.exec, hs.1, promote_astTy ht hT, hs.conv ht σ]
    congr 1; funext _
    cases Ir.eval W c σ with
    | none => rfl
    | some p =>
      obtain ⟨v, σ1⟩ := p
      simp only []
      rw [execs_of_acc (ih (.seekCase T v) rfl) fuel σ1]
      congr 1; funext s
      exact execs_of_acc (ih .seekDefault trivial) fuel s
  case case30 => -- case label
    intro c e hgl s' lt hg hwt
    cases hg
    simp only [Ir.wtStmt, Bool.or_eq_true, Bool.and_eq_true, decide_eq_true_eq] at hwt
    intro m hm fuel σ
    cases m with
    | run => simp [Ast.exec, Ir.exec, endOf]
    | seekDefault => simp [Ast.exec, Ir.exec, endOf]
    | seekCase T v =>
      obtain ⟨hty, key⟩ := sim_label W env hgl hwt (T := T) hm σ
      simp only [Ast.exec, Ir.exec, hty, key, endOf]
      cases hcv : castVal W.P T (Ir.constVal c) with
      | none => rfl
      | some x => by_cases hv : x = v <;> simp [hv]
  case case31 => -- default label
    intro s' lt hg _
    cases hg
    intro m _ fuel σ
    cases m <;> simp [Ast.exec, Ir.exec, endOf]
  case case32 => -- end of the list
    intro acc acc' lt hg _
    cases hg
    intro m _ fuel σ
    simp only [Ir.execs, ast_execs]
    exact (bind_end m acc σ).symm
  case case34 => -- a statement, pushed, and the rest
    intro s r acc s' hs ih1 ih2 acc' lt hg hwt
    simp only [Ir.wtStmts, Bool.and_eq_true] at hwt
    intro m hm fuel σ
    simp only [ast_execs]
    exact acc_step (ast_labelled W env rt fuel) (fun m hm σ => ih1 s' lt hs hwt.1 m hm fuel σ)
      (fun m hm σ => by simpa only [ast_execs] using ih2 acc' lt hg hwt.2 m hm fuel σ) m hm σ
  -- what is left are the generator's failing branches: it returned an error, not `.ok`
  all_goals intros; exact fun _ _ hg => nomatch hg

theorem sim_stmt {W : World} {env : Ast.Env} {cx : Ctx} (hag : Agree cx env) (rt : Ty) :
    ∀ (s : Ir.Stmt) (s' : HlslAst.Stmt) (lt : Option Ty),
      genStmt cx s = .ok s' → Ir.wtStmt W.sig cx.vty rt lt s = true →
      ∀ m, ModeOK lt m → ∀ fuel σ, Ast.exec W env rt fuel m s' σ = Ir.exec W fuel m s σ :=
  (sim_stmt_acc hag rt).1

theorem sim_acc {W : World} {env : Ast.Env} {cx : Ctx} (hag : Agree cx env) (rt : Ty) :
    ∀ (b : Ir.Stmts) (acc acc' : HlslAst.Stmts) (lt : Option Ty),
      genStmtsAcc cx b acc = .ok acc' → Ir.wtStmts W.sig cx.vty rt lt b = true →
      ∀ m, ModeOK lt m → ∀ fuel σ,
        Ast.execs W env rt fuel m acc' σ =
          bindS m (Ast.execs W env rt fuel m acc σ) (fun m' σ' => Ir.execs W fuel m' b σ') :=
  (sim_stmt_acc hag rt).2

theorem params_eq {env : Ast.Env} {cx : Ctx} (hag : Agree cx env) :
    ∀ (ps : List (Nat × Dir × Ty)) (ps' : List (String × Dir × String)), genParams cx ps = .ok ps' →
      ps'.length = ps.length ∧
      (∀ vals σ, Ast.bindParams env ps' vals σ = some (Ir.bindParams ps vals σ)) ∧
      (∀ σ, Ast.finalParams env σ ps' = some (ps.map fun p => σ (.loc p.1))) ∧
      Ast.paramSig ps' = some (ps.map fun p => (p.2.1, p.2.2)) := by
  intro ps
  fun_induction genParams cx ps <;> intro ps' hg <;> cases hg
  · refine ⟨rfl, ?_, ?_, rfl⟩
    · intro vals σ; cases vals <;> simp [Ast.bindParams, Ir.bindParams]
    · intro σ; simp [Ast.finalParams]
  next id d t r tn htn r' hr ih =>
    obtain ⟨h1, h2, h3, h4⟩ := ih r' hr
    have hres := hag.res (.loc id)
    simp only [Ctx.name] at hres
    refine ⟨by simp [h1], ?_, ?_, ?_⟩
    · intro vals σ
      cases vals with
      | nil => simp [Ast.bindParams, Ir.bindParams]
      | cons v vs => simp [Ast.bindParams, Ir.bindParams, hres, h2]
    · intro σ; simp [Ast.finalParams, hres, h3 σ]
    · simp [Ast.paramSig, typeName_tyOfName htn, h4]

theorem genFunc_ok {cx : Ctx} {fn : Ir.Func} {afn : HlslAst.Func} (hg : genFunc cx fn = .ok afn) :
    ∃ rt ps b, typeName fn.ret = .ok rt ∧ genParams cx fn.params = .ok ps ∧ genStmtsAcc cx fn.body .nil = .ok b ∧
      afn = { name := cx.funcName fn.id, ret := rt, params := ps, body := b } := by
  revert hg
  fun_cases genFunc cx fn <;> intro hg <;> cases hg
  next rt hrt ps hps b hb => exact ⟨rt, ps, b, hrt, hps, hb, rfl⟩

/-- **function level**: running the emitted definition equals running the typed function -/
theorem sim_func {W : World} {env : Ast.Env} {cx : Ctx} (hag : Agree cx env)
    {fn : Ir.Func} {afn : HlslAst.Func}
    (hg : genFunc cx fn = .ok afn) (hwt : Ir.wtStmts W.sig cx.vty fn.ret none fn.body = true) :
    ∀ fuel vals σ, Ast.callFunc W env fuel afn vals σ = Ir.callFunc W fuel fn vals σ := by
  obtain ⟨rt, ps', b', hrt, hps, hb, rfl⟩ := genFunc_ok hg
  obtain ⟨h1, h2, h3, _⟩ := params_eq hag fn.params ps' hps
  have ih := execs_of_acc (sim_acc hag fn.ret fn.body .nil b' none hb hwt .run trivial)
  intro fuel vals σ
  simp only [Ast.callFunc, Ir.callFunc, h1, typeName_tyOfName hrt, h2 vals σ, ih]
  by_cases hlen : vals.length ≠ fn.params.length
  · simp [hlen]
  · simp only [hlen, if_false]
    cases Ir.execs W fuel .run fn.body (Ir.bindParams fn.params vals σ) with
    | none => rfl
    | some r => obtain ⟨fl, σ1⟩ := r; simp [h3 σ1]

theorem genFunc_facts {env : Ast.Env} {cx : Ctx} (hag : Agree cx env) {fn : Ir.Func} {afn : HlslAst.Func}
    (hg : genFunc cx fn = .ok afn) :
    afn.name = cx.funcName fn.id ∧ Ast.tyOfName afn.ret = some fn.ret ∧
    Ast.paramSig afn.params = some (fn.params.map fun p => (p.2.1, p.2.2)) := by
  obtain ⟨rt, ps', b', hrt, hps, -, rfl⟩ := genFunc_ok hg
  exact ⟨rfl, typeName_tyOfName hrt, (params_eq hag fn.params ps' hps).2.2.2⟩

theorem find_corr {env : Ast.Env} {cx : Ctx} (hag : Agree cx env) (f : Nat) :
    ∀ (prog : List Ir.Func) (astProg : List HlslAst.Func), genProg cx prog = .ok astProg →
      (prog.find? (fun fn => fn.id == f) = none → astProg.find? (fun a => env.fres a.name == some f) = none) ∧
      ∀ fn, prog.find? (fun fn => fn.id == f) = some fn →
        ∃ afn, astProg.find? (fun a => env.fres a.name == some f) = some afn ∧ genFunc cx fn = .ok afn := by
  intro prog
  fun_induction genProg cx prog <;> intro astProg hg <;> cases hg
  · simp
  next fn r a hf as hr ih =>
    have hn := (genFunc_facts hag hf).1
    have hfr : env.fres a.name = some fn.id := by rw [hn]; exact hag.fres fn.id
    have ih := ih as hr
    by_cases hid : fn.id = f
    · subst hid
      simp [List.find?, hfr, hf]
    · have h1 : (fn.id == f) = false := by simpa using hid
      have h2 : (env.fres a.name == some f) = false := by simp [hfr, hid]
      simp only [List.find?, h1, h2]
      exact ih

theorem sig_eq {env : Ast.Env} {cx : Ctx} (hag : Agree cx env) {prog : List Ir.Func} {astProg : List HlslAst.Func}
    (hg : genProg cx prog = .ok astProg) : Ast.sigOf env astProg = Ir.sigOf prog := by
  funext f
  obtain ⟨hnone, hsome⟩ := find_corr hag f prog astProg hg
  simp only [Ast.sigOf, Ir.sigOf]
  cases hp : prog.find? (fun fn => fn.id == f) with
  | none => rw [hnone hp]
  | some fn =>
    obtain ⟨afn, h1, h2⟩ := hsome fn hp
    obtain ⟨_, h3, h4⟩ := genFunc_facts hag h2
    simp [h1, h3, h4]

/-- **program level**: the callable functions of the emitted program are those of the typed program, at every call depth -/
theorem sim_phi {env : Ast.Env} {cx : Ctx} (hag : Agree cx env) {prog : List Ir.Func} {astProg : List HlslAst.Func}
    (hg : genProg cx prog = .ok astProg)
    (hwt : ∀ fn ∈ prog, Ir.wtStmts (Ir.sigOf prog) cx.vty fn.ret none fn.body = true) (P : Prim) (fuel : Nat) :
    ∀ d, Ast.phi P env astProg fuel d = Ir.phi P prog fuel d
  | 0 => rfl
  | d + 1 => by
    funext f vals σ
    have ih := sim_phi hag hg hwt P fuel d
    obtain ⟨hnone, hsome⟩ := find_corr hag f prog astProg hg
    simp only [Ast.phi, Ir.phi, sig_eq hag hg, ih]
    cases hp : prog.find? (fun fn => fn.id == f) with
    | none => rw [hnone hp]
    | some fn =>
      obtain ⟨afn, h1, h2⟩ := hsome fn hp
      simp only [h1]
      exact sim_func (W := { P := P, phi := Ir.phi P prog fuel d, sig := Ir.sigOf prog }) hag h2
        (hwt fn (List.mem_of_find?_eq_some hp)) fuel vals σ


end RsslVerif.Lemmas.GenSem
