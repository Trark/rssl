import RsslVerif.Lemmas.ConstEvalExpr
/-!
The evaluator model never panics on expressions with admissible operand kinds.

The argument rests on two decidable properties of the *generated* tables (`tableSafe`, `castTableSafe`): no
arm that can be reached with non-enum operands uses a panicking form.  Reverting e.g. `wrapping_add` to `+`
in the Rust source changes `Gen.EvalTable` and makes `tableSafe_ok` (a `decide`) fail.

The file ends with the one induction over expression trees, `eval_sound` / `evalArgs_sound`: a returned value is the
specified one and in range, and under `kindsOk` no node panics.  The two halves go together because panic freedom of a
node needs the operand values to be in range.
-/
namespace RsslVerif.Lemmas.ConstEval
open RsslVerif.Gen.EvalTable RsslVerif.Model.ConstEval
open RsslVerif.Spec.HlslConst (bv sInt uInt fitsLit lit?)

def NoPanic {α : Type} (r : Except Err α) : Prop := ∀ msg, r ≠ .error (.panic msg)

@[simp] theorem noPanic_ok {α : Type} (a : α) : NoPanic (.ok a : Except Err α) := by intro m h; cases h
@[simp] theorem noPanic_notConst {α : Type} : NoPanic (.error .notConst : Except Err α) := by intro m h; cases h
@[simp] theorem noPanic_stuck {α : Type} : NoPanic (.error .stuck : Except Err α) := by intro m h; cases h
@[simp] theorem noPanic_panic {α : Type} (s : String) : NoPanic (.error (.panic s) : Except Err α) ↔ False :=
  ⟨fun h => h s rfl, False.elim⟩
theorem noPanic_ite {α : Type} {c : Prop} [Decidable c] {a b : Except Err α} (ha : NoPanic a) (hb : NoPanic b) :
    NoPanic (if c then a else b) := by split <;> assumption

/-- a stage that fails hands its error on: no panic before, no panic after -/
theorem noPanic_error {α β : Type} {e : Err} (h : NoPanic (.error e : Except Err α)) :
    NoPanic (.error e : Except Err β) := fun m hm => h m (by cases hm; rfl)

/-- an arm of `evaluate_operator` that cannot panic on operands of kind `k` -/
def ruleSafe (k : Kind) (r : Rule) : Bool :=
  match r with
  | .panic _ => false
  | .arith .wrapping .div zg _ | .arith .wrapping .rem zg _ => zg      -- `wrapping_div(0)` panics
  | .arith .wrapping _ _ _ => true
  | .arith .checked _ _ _ => true
  | .arith .plain .rem zg _ => zg && (k == .UInt32 || k == .UInt64)    -- unsigned `%` behind a zero guard
  | .arith .plain _ _ _ => false                                       -- overflow check of the debug build
  | .litShl m _ => m == .checked
  | .litShr m => m != .plain
  | _ => true

theorem deliver_noPanic {t : IntTy} {m : Mode} {a : Arith} {z : Int} (hm : m ≠ .plain) :
    NoPanic (deliver t m a z) := by
  cases m <;> simp [deliver] at hm ⊢
  exact noPanic_ite (by simp) (by simp)

theorem okInt_noPanic {rk : Kind} {r : Except Err Int} (h : NoPanic r) : NoPanic (okInt rk r) := by
  cases r with
  | error e => exact noPanic_error h
  | ok z => simp [okInt]; cases mkInt rk z <;> simp

theorem shiftAmount_noPanic {t : IntTy} {m : Mode} {a : Arith} {y : Int} (hm : m ≠ .plain) :
    NoPanic (shiftAmount t m a y) := by
  cases m <;> simp [shiftAmount] at hm ⊢
  exact noPanic_ite (by simp) (by simp)

theorem evalShl_noPanic {t : IntTy} {m : Mode} {x y : Int} (hm : m ≠ .plain) : NoPanic (evalShl t m x y) := by
  unfold evalShl
  have := shiftAmount_noPanic (t := t) (a := .shl) (y := y) hm
  cases h : shiftAmount t m .shl y with
  | error e => exact noPanic_error (h ▸ this)
  | ok n => simp

theorem evalShr_noPanic {t : IntTy} {m : Mode} {x y : Int} (hm : m ≠ .plain) : NoPanic (evalShr t m x y) := by
  unfold evalShr
  have := shiftAmount_noPanic (t := t) (a := .shr) (y := y) hm
  cases h : shiftAmount t m .shr y with
  | error e => exact noPanic_error (h ▸ this)
  | ok n => simp

theorem evalArith_noPanic (t : IntTy) (k : Kind) (m : Mode) (ar : Arith) (zg one : Bool) (x y : Int)
    (hs : ruleSafe k (.arith m ar zg one) = true) (hu : (k == .UInt32 || k == .UInt64) = true → t.signed = false)
    (hz : zg = true → y ≠ 0) :
    NoPanic (evalArith t m ar x y) := by
  cases m <;> cases ar <;> simp [ruleSafe] at hs <;> simp only [evalArith]
  all_goals first
    | exact deliver_noPanic (by simp)
    | exact evalShl_noPanic (by simp)
    | exact evalShr_noPanic (by simp)
    | skip
  · -- plain `%` on an unsigned type behind a zero guard
    have hy := hz hs.1
    have hsg : t.signed = false := hu (by simpa using hs.2)
    simp [evalRem, hy, hsg]
  · have hy := hz hs
    simp only [evalDiv, hy, if_false]; exact deliver_noPanic (by simp)
  · have hy := hz hs
    simp only [evalRem, hy, if_false]
    exact noPanic_ite (by simp [remOverflow]) (by simp)
  · simp only [evalDiv]
    exact noPanic_ite (by simp [zeroDivisor]) (deliver_noPanic (by simp))
  · simp only [evalRem]
    exact noPanic_ite (by simp [zeroDivisor]) (noPanic_ite (by simp [remOverflow]) (by simp))

theorem evalLitShl_noPanic (rt : Bool) (x y : Int) : NoPanic (evalLitShl .checked rt x y) := by
  unfold evalLitShl
  apply noPanic_ite (by simp)
  simp only [evalArith]
  cases hs : evalShl i128 .checked x y with
  | error e =>
    have := evalShl_noPanic (t := i128) (m := .checked) (x := x) (y := y) (by simp)
    exact noPanic_error (hs ▸ this)
  | ok s =>
    obtain ⟨hy, _⟩ := evalShl_checked.mp hs
    cases rt
    · simp
    · simp only [if_true, evalShr_plain hy]
      exact noPanic_ite (by simp) (by simp)

theorem evalLitShr_noPanic (m : Mode) (hm : m ≠ .plain) (x y : Int) : NoPanic (evalLitShr m x y) := by
  unfold evalLitShr
  exact noPanic_ite (by simp) (by simp only [evalArith]; exact evalShr_noPanic hm)

theorem applyRule_noPanic (r : Rule) (rk : Kind) (a : Constant) (b : Option Constant)
    (hs : ruleSafe a.kind r = true) : NoPanic (applyRule r rk a b) := by
  fun_cases applyRule r rk a b
  case case2 => simp [ruleSafe] at hs
  case case5 m ar zg one t x y hg hx ht hy =>
    apply okInt_noPanic
    apply evalArith_noPanic t a.kind m ar zg one x y hs
    · intro hk
      cases a <;> simp [Constant.kind] at hk <;> simp [Constant.kind, intTyOf] at ht <;> (subst ht; rfl)
    · intro hz hy0; simp [hz, hy0] at hg
  case case7 => simp [ruleSafe] at hs; subst hs; exact okInt_noPanic (evalLitShl_noPanic _ _ _)
  case case9 => simp [ruleSafe] at hs; exact okInt_noPanic (evalLitShr_noPanic _ hs _ _)
  -- the other branches return a value, `notConst` or `stuck`, or deliver an integer that was computed without a check
  all_goals simp [okInt_noPanic]

def armsSafe (arms : List (Kind × Kind × Rule)) : Bool :=
  arms.all fun x => x.1 == .Enum || ruleSafe x.1 x.2.2

def dfltSafe (r : Rule) : Bool :=
  match r with
  | .notConst | .pass | .eq | .ne => true
  | _ => false

/-- the property of the generated table the no-panic theorem rests on: no arm for a non-enum kind uses a
    panicking form (plain overflow-checked arithmetic, unguarded division, `panic!`), and every catch-all arm
    except the one of `BitwiseNot` is harmless -/
def tableSafe : Bool :=
  Op.all.all fun o =>
    match opTable o with
    | none => true
    | some e => armsSafe e.arms && (o == .BitwiseNot || dfltSafe e.dflt)

theorem tableSafe_ok : tableSafe = true := by decide

theorem mem_Op_all (o : Op) : o ∈ Op.all := by cases o <;> decide

theorem ruleSafe_dflt {r : Rule} (h : dfltSafe r = true) (k : Kind) : ruleSafe k r = true := by
  cases r <;> simp [dfltSafe] at h <;> rfl

theorem table_facts {o : Op} {e : OpEntry} (h : opTable o = some e) :
    armsSafe e.arms = true ∧ (o = .BitwiseNot ∨ dfltSafe e.dflt = true) := by
  have := tableSafe_ok
  simp only [tableSafe, List.all_eq_true] at this
  have := this o (mem_Op_all o)
  simpa [h] using this

theorem arm_safe {o : Op} {e : OpEntry} (ho : opTable o = some e) {a : Constant} {rk : Kind} {r : Rule}
    (hne : a.kind ≠ .Enum) (hl : lookupArm e.arms a.kind = some (rk, r)) : ruleSafe a.kind r = true := by
  have harms := (table_facts ho).1
  simp only [armsSafe, List.all_eq_true] at harms
  simpa [hne] using harms _ (lookupArm_mem hl)

theorem dflt_safe {o : Op} {e : OpEntry} (ho : opTable o = some e) (hbn : o ≠ .BitwiseNot) (k : Kind) :
    ruleSafe k e.dflt = true :=
  ruleSafe_dflt ((table_facts ho).2.resolve_left hbn) k

theorem applyOp_noPanic (o : Op) (args : List Constant) (harity : arityOk o args.length = true)
    (hk : ∀ a ∈ args, a.kind ≠ .Enum) (hnot : o = .BitwiseNot → ∀ a ∈ args, intKind a.kind = true) :
    NoPanic (applyOp o args) := by
  fun_cases applyOp o args
  case case1 => simp
  case case3 e ho a _ _ rk r hl => exact applyRule_noPanic _ _ _ _ (arm_safe ho (hk a (by simp)) hl)
  case case4 e ho a _ _ hl =>
    by_cases hbn : o = .BitwiseNot
    · -- `~` has an arm for every integer kind
      subst hbn; cases ho
      have := hnot rfl a (by simp)
      cases a <;> simp [intKind, Constant.kind] at this <;> simp [lookupArm, Constant.kind] at hl
    · exact applyRule_noPanic _ _ _ _ (dflt_safe ho hbn _)
  case case7 e ho a b _ _ rk r hl =>
    have hl' : lookupArm e.arms a.kind = some (rk, r) := by
      split at hl
      · exact hl
      · cases hl
    exact applyRule_noPanic _ _ _ _ (arm_safe ho (hk a (by simp)) hl')
  case case8 e ho a b _ hsh _ => exact applyRule_noPanic _ _ _ _ (dflt_safe ho (by rintro rfl; cases ho; cases hsh) _)
  case case9 e ho a b _ hsh => exact applyRule_noPanic _ _ _ _ (dflt_safe ho (by rintro rfl; cases ho; cases hsh) _)
  -- the index panics: fewer operands than the operator's arity
  all_goals simp [arityOk, *] at harity

def castRowsSafe (rows : List (Kind × Kind × CastRule)) : Bool :=
  rows.all fun x => x.1 == .Enum || x.2.2 != .unreachable

def castTableSafe : Bool :=
  [Scalar.Bool, .IntLiteral, .Int32, .UInt32, .FloatLiteral, .Float16, .Float32, .Float64].all fun s =>
    match castTable s with
    | none => true
    | some rows => castRowsSafe rows

theorem castTableSafe_ok : castTableSafe = true := by decide

theorem cast_facts {s : Scalar} {rows : List (Kind × Kind × CastRule)} (h : castTable s = some rows) :
    castRowsSafe rows = true := by
  have := castTableSafe_ok
  simp only [castTableSafe, List.all_eq_true] at this
  have := this s (by cases s <;> decide)
  simpa [h] using this

theorem mkConst_noPanic (rk : Kind) (z : Option Int) (b : Option Nat) (c : Option Bool) :
    NoPanic (mkConst rk z b c) := by
  unfold mkConst
  split <;> simp <;> split <;> simp

theorem applyCastRule_noPanic (r : CastRule) (rk : Kind) (v : Constant) (h : r ≠ .unreachable) :
    NoPanic (applyCastRule r rk v) := by
  fun_cases applyCastRule r rk v
  case case2 => exact absurd rfl h
  -- the `id` rule on a constant that is no `bool` keeps its inner `match`
  case case4 | case5 | case6 => split <;> first | exact mkConst_noPanic _ _ _ _ | simp
  -- every other branch builds its result with `mkConst` or is `notConst` / `stuck`
  all_goals first | exact mkConst_noPanic _ _ _ _ | simp

theorem castScalar_noPanic (s : Scalar) (v : Constant) (hv : wf v = true) : NoPanic (castScalar s v) := by
  unfold castScalar
  cases hc : castTable s with
  | none => simp
  | some rows =>
    simp only
    have hp := plain_strip hv
    rw [stripEnum_eq]
    cases hl : lookupArm rows (S.strip v).kind with
    | none => simp
    | some p =>
      obtain ⟨rk, r⟩ := p
      have hm := lookupArm_mem hl
      have hs := cast_facts hc
      simp only [castRowsSafe, List.all_eq_true] at hs
      have := hs _ hm
      have hne : (S.strip v).kind ≠ .Enum := by
        simp [plain] at hp; exact hp.2
      simp [hne] at this
      exact applyCastRule_noPanic r rk _ this

theorem evalCast_noPanic (t : Ty) (v : Constant) (hv : wf v = true) : NoPanic (evalCast t v) := by
  cases t with
  | scalar s => exact castScalar_noPanic s v hv
  | enum id u =>
    simp only [evalCast]
    have := castScalar_noPanic u v hv
    cases hc : castScalar u v with
    | ok x => simp
    | error e => exact noPanic_error (hc ▸ this)
  | other => simp [evalCast]


theorem enumIdOf_eq (v : Constant) : enumIdOf v = S.enumId? v := by cases v <;> rfl

def AllSame (l : List Constant) : Prop := ∀ u ∈ l, ∀ w ∈ l, S.enumId? u = S.enumId? w

theorem allSame_of_uniform {vs : List Constant} (h : uniformEnums vs = true) : AllSame vs := by
  cases vs with
  | nil => intro u hu; cases hu
  | cons v r =>
    simp only [uniformEnums, List.all_eq_true, beq_iff_eq, enumIdOf_eq] at h
    have key : ∀ u ∈ v :: r, S.enumId? u = S.enumId? v := by
      intro u hu
      rcases List.mem_cons.mp hu with rfl | hu
      · rfl
      · exact h u hu
    intro u hu w hw
    rw [key u hu, key w hw]

/-- `enum_wrap` always comes from an operand already seen -/
def WrapFrom (acc : Acc) (pre : List Constant) : Prop :=
  ∀ j, acc.wrap = some j → ∃ u ∈ pre, S.enumId? u = some j

theorem pushArg_noPanic {acc : Acc} {pre : List Constant} {v : Constant}
    (hinv : WrapFrom acc pre) (hsame : AllSame (pre ++ [v])) : NoPanic (pushArg acc v) := by
  -- an assertion fails only if an earlier operand set `enum_wrap` to another enum than `v`'s (or to any, `v` being none)
  have key : ∀ j, acc.wrap = some j → some j = S.enumId? v := fun j hw => by
    obtain ⟨x, hx, hxj⟩ := hinv j hw
    rw [← hxj]
    exact hsame x (by simp [hx]) v (by simp)
  fun_cases pushArg acc v
  case case1 id u hc =>
    cases hw : acc.wrap with
    | none => simp [hw] at hc
    | some j => have := key j hw; simp [S.enumId?] at this; simp [hw, this] at hc
  case case3 hc hne =>
    cases hw : acc.wrap with
    | none => simp [hw] at hc
    | some j => have := key j hw; cases v <;> first | exact (hne _ _ rfl).elim | cases this
  all_goals simp

theorem pushArg_wrapFrom {acc acc' : Acc} {pre : List Constant} {v : Constant}
    (hinv : WrapFrom acc pre) (h : pushArg acc v = .ok acc') : WrapFrom acc' (pre ++ [v]) := by
  obtain ⟨_, hw⟩ := pushArg_ok h
  intro j hj
  rw [hw] at hj
  cases hv : S.enumId? v with
  | some i => simp [hv] at hj; subst hj; exact ⟨v, by simp, hv⟩
  | none =>
    simp [hv] at hj
    obtain ⟨u, hu, huj⟩ := hinv j hj
    exact ⟨u, by simp [hu], huj⟩

theorem evalSizeOf_noPanic {t : SizeTy} (hw : wfE (.sizeOf t) = true) : NoPanic (evalSizeOf t) := by
  cases t with
  | scalar s => simp only [evalSizeOf]; split <;> simp
  | other => simp [evalSizeOf]
  | enum u =>
    simp only [wfE] at hw
    simp only [evalSizeOf]
    cases hs : scalarSize u with
    | none => simp [hs] at hw
    | some n => simp

theorem finishOp_noPanic {o : Op} {acc : Acc} (h : NoPanic (applyOp o acc.vals.reverse)) : NoPanic (finishOp o acc) := by
  unfold finishOp
  cases hr : applyOp o acc.vals.reverse with
  | error err => rw [hr] at h; exact noPanic_error h
  | ok r => simp only; split <;> simp

mutual
theorem eval_sound : ∀ (e : Expr), wfE e = true →
    (∀ v, eval e = .ok v → S.eval e = some v ∧ wf v = true) ∧ (kindsOk e = true → NoPanic (eval e))
  | .lit c, hw => ⟨fun v h => by cases h; exact ⟨rfl, hw⟩, fun _ => noPanic_ok c⟩
  | .var none, _ => ⟨nofun, fun _ => noPanic_notConst⟩
  | .var (some c), hw => ⟨fun v h => by cases h; exact ⟨rfl, hw⟩, fun _ => noPanic_ok c⟩
  | .global none, _ => ⟨nofun, fun _ => noPanic_notConst⟩
  | .global (some c), hw => ⟨fun v h => by cases h; exact ⟨rfl, hw⟩, fun _ => noPanic_ok c⟩
  | .enumValue id c, hw => ⟨fun v h => by cases h; exact ⟨rfl, hw⟩, fun _ => noPanic_ok _⟩
  | .other, _ => ⟨nofun, fun _ => noPanic_notConst⟩
  | .sizeOf t, hw => ⟨fun v h => by have := sizeOf_agrees h; exact ⟨this.1, this.2⟩, fun _ => evalSizeOf_noPanic hw⟩
  | .cast t e, hw => by
    obtain ⟨ih, ihp⟩ := eval_sound e hw
    simp only [eval, S.eval, kindsOk]
    cases he : eval e with
    | error err => exact ⟨nofun, fun hk => noPanic_error (he ▸ ihp hk)⟩
    | ok x =>
      obtain ⟨hx, hwx⟩ := ih x he
      refine ⟨fun v h => ?_, fun _ => evalCast_noPanic t x hwx⟩
      have := evalCast_agrees t hwx h
      exact ⟨by simp only [hx, this.1], this.2⟩
  | .op o args, hw => by
    simp only [wfE, Bool.and_eq_true] at hw
    obtain ⟨iha, ihp⟩ := evalArgs_sound args hw.2
    simp only [eval, S.eval, kindsOk, operandsOk, Bool.and_eq_true]
    cases ha : evalArgs args ⟨[], none⟩ with
    | error err =>
      refine ⟨nofun, fun hk => ?_⟩
      have := ihp hk.1 ⟨[], none⟩ [] (by intro j hj; cases hj) (by simpa using allSame_of_uniform hk.2.1)
      exact noPanic_error (ha ▸ this)
    | ok acc =>
      obtain ⟨hvs, hwf, hlen, hvals, hwrap⟩ := iha _ _ ha
      have hrev : acc.vals.reverse = (prefixVals args).map S.strip := by simp [hvals]
      refine ⟨fun v h => ?_, fun hk => finishOp_noPanic ?_⟩
      · have := finishOp_agrees (by rw [hlen]; exact hw.1) hwf hrev (by simp [hwrap]) h
        exact ⟨by simp only [hvs, this.1], this.2⟩
      · rw [hrev]
        refine applyOp_noPanic o _ (by simpa [hlen] using hw.1) (fun a ha' => ?_) (fun hbn a ha' => ?_) <;>
          obtain ⟨v, hv, rfl⟩ := List.mem_map.mp ha'
        · have := plain_strip (hwf v hv)
          simp [plain] at this; exact this.2
        · subst hbn
          have := hk.2.2
          simp [List.all_eq_true, stripEnum_eq] at this
          exact this v hv
/-- the operand loop: it evaluates the operands the specification evaluates (`prefixVals` is all of them when the loop
succeeds), pushes them with enums unwrapped and remembers the last enum seen -/
theorem evalArgs_sound : ∀ (args : Args), wfArgs args = true →
    (∀ acc acc', evalArgs args acc = .ok acc' →
      S.evalArgs args = some (prefixVals args) ∧ (∀ v ∈ prefixVals args, wf v = true) ∧
      (prefixVals args).length = argsLen args ∧
      acc'.vals = ((prefixVals args).map S.strip).reverse ++ acc.vals ∧
      acc'.wrap = (((prefixVals args).filterMap S.enumId?).getLast?).or acc.wrap) ∧
    (kindsOkArgs args = true → ∀ (acc : Acc) (pre : List Constant), WrapFrom acc pre →
      AllSame (pre ++ prefixVals args) → NoPanic (evalArgs args acc))
  | .nil, _ => ⟨fun acc acc' h => by cases h; simp [S.evalArgs, prefixVals, argsLen], fun _ acc _ _ _ => noPanic_ok acc⟩
  | .cons e rest, hw => by
    simp only [wfArgs, Bool.and_eq_true] at hw
    obtain ⟨ih, ihp⟩ := eval_sound e hw.1
    obtain ⟨ihr, ihrp⟩ := evalArgs_sound rest hw.2
    simp only [evalArgs, S.evalArgs, prefixVals, kindsOkArgs, Bool.and_eq_true]
    cases he : eval e with
    | error err => exact ⟨nofun, fun hk _ _ _ _ => noPanic_error (he ▸ ihp hk.1)⟩
    | ok x =>
      obtain ⟨hx, hwx⟩ := ih x he
      refine ⟨fun acc acc' h => ?_, fun hk acc pre hinv hsame => ?_⟩
      · cases hp : pushArg acc x with
        | error err => simp [hp] at h
        | ok acc1 =>
          simp only [hp] at h
          obtain ⟨hv1, hw1⟩ := pushArg_ok hp
          obtain ⟨hvs, hwf, hlen, hvals, hwrap⟩ := ihr _ _ h
          refine ⟨by simp only [hx, hvs], ?_, by simp [argsLen, hlen], by simp [hvals, hv1], ?_⟩
          · intro v hv
            rcases List.mem_cons.mp hv with rfl | hv
            · exact hwx
            · exact hwf v hv
          · rw [hwrap, hw1, ← getLast?_cons_or (S.enumId? x) ((prefixVals rest).filterMap S.enumId?) acc.wrap]
            cases hxe : S.enumId? x <;> simp [hxe]
      · dsimp only
        have hp := pushArg_noPanic hinv (pre := pre) (v := x) fun u hu w hw' =>
          hsame u (by simp at hu ⊢; rcases hu with h | h <;> simp [h]) w
            (by simp at hw' ⊢; rcases hw' with h | h <;> simp [h])
        cases hpa : pushArg acc x with
        | error err => exact noPanic_error (hpa ▸ hp)
        | ok acc1 => exact ihrp hk.2 acc1 (pre ++ [x]) (pushArg_wrapFrom hinv hpa) (by simpa using hsame)
end

theorem eval_agrees (e : Expr) (hw : wfE e = true) (v : Constant) (h : eval e = .ok v) :
    S.eval e = some v ∧ wf v = true := (eval_sound e hw).1 v h

theorem eval_noPanic (e : Expr) (hw : wfE e = true) (hk : kindsOk e = true) : NoPanic (eval e) := (eval_sound e hw).2 hk

theorem evalArgs_agrees : ∀ (args : Args), wfArgs args = true → ∀ acc acc', evalArgs args acc = .ok acc' →
    ∃ vs, S.evalArgs args = some vs ∧ (∀ v ∈ vs, wf v = true) ∧ vs.length = argsLen args ∧
      acc'.vals = (vs.map S.strip).reverse ++ acc.vals ∧
      acc'.wrap = ((vs.filterMap S.enumId?).getLast?).or acc.wrap :=
  fun args hw acc acc' h => ⟨_, (evalArgs_sound args hw).1 acc acc' h⟩

theorem evalArgs_noPanic : ∀ (args : Args), wfArgs args = true → kindsOkArgs args = true →
    ∀ (acc : Acc) (pre : List Constant), WrapFrom acc pre → AllSame (pre ++ prefixVals args) →
    NoPanic (evalArgs args acc) :=
  fun args hw hk => (evalArgs_sound args hw).2 hk

end RsslVerif.Lemmas.ConstEval
