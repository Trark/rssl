import RsslVerif.Lemmas.CondExpr
/-!
# C11: the macro table and `subst`

The macro table of the model is the reference environment; text (`apply_defined = false`) is expanded as the
reference expands it (`subst_false`); a run of tokens that `subst` rewrites whatever follows it is a `Seg`, and such runs
concatenate (`Seg.append`); substitution in a printed well-formed condition prints the resolved condition (`subst_print`),
whose value is the reference value (`eval_resolve`).
-/
namespace RsslVerif.Lemmas.CondSubst
open RsslVerif.Gen.CondTables RsslVerif.Model.CondExpr RsslVerif.Spec.CPre RsslVerif.Lemmas.CondExpr

theorem lookup_eq (m : Macros) (n : String) : Macros.lookup m n = Env.lookup m n := by
  induction m with
  | nil => rfl
  | cons e r ih => simp [Macros.lookup, Env.lookup, ih]

theorem isDefined_eq (m : Macros) (n : String) : Macros.isDefined m n = Env.isDefined m n := by
  induction m with
  | nil => rfl
  | cons e r ih =>
    simp only [Macros.isDefined, Env.isDefined, List.any_cons, Env.lookup] at ih ⊢
    by_cases h : (e.1 == n) = true
    · simp [h]
    · simp only [h, Bool.false_or]; simpa using ih

theorem lookup_append_single (m : Env) (n x : String) (b : List CTok) :
    Env.lookup (m ++ [(n, b)]) x = match Env.lookup m x with
      | some body => some body
      | none => if n = x then some b else none := by
  induction m with
  | nil => simp [Env.lookup]
  | cons e r ih =>
    simp only [List.cons_append, Env.lookup, ih]
    by_cases h : (e.1 == x) = true <;> simp [h]

/-- `#undef n` forgets `n` and nothing else -/
theorem lookup_undef (m : Env) (n x : String) :
    Env.lookup (Env.undef m n) x = if x = n then none else Env.lookup m x := by
  unfold Env.undef
  induction m with
  | nil => simp [Env.lookup]
  | cons e r ih =>
    by_cases hen : e.1 = n
    · simp only [List.filter_cons, hen, bne_self_eq_false, Bool.false_eq_true, if_false, ih, Env.lookup]
      by_cases hx : x = n
      · simp [hx]
      · have : (n == x) = false := by simp [Ne.symm hx]
        simp [hx, this]
    · have : (e.1 != n) = true := by simp [hen]
      simp only [List.filter_cons, this, if_true, Env.lookup, ih]
      by_cases hx : x = n
      · simp [hx, hen]
      · simp [hx]

/-- `#define n b` binds `n` to `b` and nothing else -/
theorem lookup_define (m : Env) (n x : String) (b : List CTok) :
    Env.lookup (Env.define m n b) x = if x = n then some b else Env.lookup m x := by
  rw [Env.define, lookup_append_single, ← Env.undef, lookup_undef]
  by_cases hx : x = n
  · simp [hx]
  · cases Env.lookup m x <;> simp [hx, Ne.symm hx]

theorem define_eq (m : Macros) (n b) : Macros.define m n b = Env.define m n b := rfl
theorem undef_eq (m : Macros) (n) : Macros.undef m n = Env.undef m n := rfl

/-- `subst` takes the run `a` to `a'` whatever follows it: `subst (a ++ X)` is `subst X` with `a'` put in front -/
def Seg (m : Macros) (b : Bool) (a a' : List CTok) : Prop :=
  ∀ X, subst m b (a ++ X) = (subst m b X).map (fun r => a' ++ r)

namespace Seg
variable {m : Macros} {b : Bool}

theorem nil : Seg m b [] [] := fun X => by rw [List.nil_append]; cases subst m b X <;> rfl

theorem append {a a' c c' : List CTok} (h1 : Seg m b a a') (h2 : Seg m b c c') : Seg m b (a ++ c) (a' ++ c') := by
  intro X
  rw [List.append_assoc, h1, h2]
  cases subst m b X <;> simp [Except.map]

theorem run {a a' : List CTok} (h : Seg m b a a') : subst m b a = .ok a' := by
  have := h []
  simpa [subst, Except.map] using this

theorem tok {t : CTok} (ht : ∀ x, t ≠ .Id x) : Seg m b [t] [t] := by
  intro X
  cases t <;> simp_all [subst]

/-- an identifier that is not the operator `defined`: a macro name is replaced by its body -/
theorem ident {x : String} (hx : (b && x == "defined") = false) : Seg m b [.Id x] ((m.lookup x).getD [.Id x]) := by
  intro X
  rw [List.singleton_append, subst.eq_def]; simp only [hx]; cases m.lookup x <;> rfl

theorem definedId (y : String) : Seg m true [.Id "defined", .Id y] [.LiteralInt (b2u (m.isDefined y))] := by
  intro X
  rw [List.cons_append, List.cons_append, List.nil_append, subst.eq_def]; simp [b2u]

theorem definedParen (y : String) :
    Seg m true [.Id "defined", .LeftParen, .Id y, .RightParen] [.LiteralInt (b2u (m.isDefined y))] := by
  intro X
  show subst m true (.Id "defined" :: .LeftParen :: .Id y :: .RightParen :: X) = _
  rw [subst.eq_def]; simp [b2u]

theorem toks (op : Op) : Seg m b op.toks op.toks := by
  cases op with
  | le => exact (tok (t := .LeftAngleBracket .Token) (by simp)).append (tok (t := .Equals) (by simp))
  | ge => exact (tok (t := .RightAngleBracket .Token) (by simp)).append (tok (t := .Equals) (by simp))
  | _ => exact tok (by simp)

/-- one token of ordinary text (`apply_defined = false`) -/
theorem text (m : Macros) (t : CTok) :
    Seg m false [t] (match t with | .Id x => (Env.lookup m x).getD [t] | t => [t]) := by
  cases t with
  | Id x => show Seg m false [.Id x] ((Env.lookup m x).getD [.Id x]); rw [← lookup_eq]; exact ident rfl
  | _ => exact tok (by simp)

end Seg

/-- text goes through `subst` without the `defined` test: the reference expansion -/
theorem subst_false (m : Macros) (toks : List CTok) :
    subst m false toks = .ok (Env.expand m toks) := by
  induction toks with
  | nil => rfl
  | cons t r ih =>
    have hexp : Env.expand m (t :: r) =
        (match t with | .Id x => (Env.lookup m x).getD [t] | t => [t]) ++ Env.expand m r := by
      unfold Env.expand; rw [List.flatMap_cons]; rfl
    rw [hexp, ← List.singleton_append, Seg.text m t, ih]; rfl

/-- replace macro names by their literal and `defined` by 0/1 -/
def resolve (σ : Env) : Expr → Expr
  | .name x => match σ.lookup x with
    | some [.LiteralInt v] => .lit v false
    | some [.LiteralIntUnsigned32 v] => .lit v true
    | some [.True] => .tru
    | some [.False] => .fls
    | _ => .name x
  | .defined x _ => .lit (b2u (σ.isDefined x)) false
  | .not e => .not (resolve σ e)
  | .paren e => .paren (resolve σ e)
  | .bin op l r => .bin op (resolve σ l) (resolve σ r)
  | e => e

theorem tokValue_cases {body : List CTok} {v : UInt64} (h : tokValue body = some v) :
    body = [.LiteralInt v] ∨ body = [.LiteralIntUnsigned32 v] ∨ (body = [.True] ∧ v = 1) ∨
      (body = [.False] ∧ v = 0) := by
  revert h
  fun_cases tokValue body <;> intro h <;> cases h <;> simp

theorem wf_not {σ e} (h : Expr.WellFormedIn σ (.not e)) : Expr.WellFormedIn σ e := h
theorem wf_paren {σ e} (h : Expr.WellFormedIn σ (.paren e)) : Expr.WellFormedIn σ e := h
theorem wf_bin {σ op l r} (h : Expr.WellFormedIn σ (.bin op l r)) :
    Expr.WellFormedIn σ l ∧ Expr.WellFormedIn σ r := by
  obtain ⟨h1, h2⟩ := h
  simp only [Expr.operandNames, Expr.names, List.mem_append] at h1 h2
  exact ⟨⟨fun x hx => h1 x (Or.inl hx), fun x hx => h2 x (Or.inl hx)⟩,
         ⟨fun x hx => h1 x (Or.inr hx), fun x hx => h2 x (Or.inr hx)⟩⟩

theorem resolve_closed (σ : Env) : ∀ e, Closed (resolve σ e) := by
  intro e
  induction e with
  | name x => simp only [resolve]; split <;> simp [Closed]
  | bin op l r ihl ihr => exact ⟨ihl, ihr⟩
  | not e ih => exact ih
  | paren e ih => exact ih
  | _ => simp [resolve, Closed]

theorem eval_resolve (σ : Env) : ∀ e, Expr.WellFormedIn σ e → evalU64 σ e = ev (resolve σ e) := by
  intro e
  induction e with
  | name x =>
    intro h
    have := h.1 x (by simp [Expr.operandNames])
    rcases this with hn | ⟨body, v, hb, hv⟩
    · simp [evalU64, resolve, hn, ev, Env.lookup]
    · rcases tokValue_cases hv with rfl | rfl | ⟨rfl, rfl⟩ | ⟨rfl, rfl⟩ <;>
        simp [evalU64, resolve, hb, ev, tokValue]
  | defined x p => intro _; simp [evalU64, resolve, ev]
  | not e ih => intro h; simp [evalU64, resolve, ev, ih (wf_not h)]
  | paren e ih => intro h; simp [evalU64, resolve, ev, ih (wf_paren h)]
  | bin op l r ihl ihr =>
    intro h
    obtain ⟨hl, hr⟩ := wf_bin h
    simp [evalU64, resolve, ev, ihl hl, ihr hr]
  | _ => intro _; simp [evalU64, resolve, ev]

theorem subst_print (σ : Env) : ∀ e, Expr.WellFormedIn σ e → ∀ k, Seg σ true (print k e) (print k (resolve σ e)) := by
  intro e
  induction e with
  | lit v u => intro _ k; cases u <;> exact Seg.tok (by simp)
  | tru => intro _ k; exact Seg.tok (by simp)
  | fls => intro _ k; exact Seg.tok (by simp)
  | name x =>
    intro h k
    have hx : x ≠ "defined" := h.2 x (by simp [Expr.names])
    have hs := Seg.ident (m := σ) (b := true) (x := x) (by simp [hx])
    rw [lookup_eq] at hs
    rcases h.1 x (by simp [Expr.operandNames]) with hn | ⟨body, v, hb, hv⟩
    · simpa [hn, resolve, print] using hs
    · rcases tokValue_cases hv with rfl | rfl | ⟨rfl, rfl⟩ | ⟨rfl, rfl⟩ <;> simpa [hb, resolve, print] using hs
  | defined x p =>
    intro _ k
    cases p
    · simpa [print, resolve, isDefined_eq] using Seg.definedId (m := σ) x
    · simpa [print, resolve, isDefined_eq] using Seg.definedParen (m := σ) x
  | not e ih => intro h k; exact (Seg.tok (t := .ExclamationPoint) (by simp)).append (ih (wf_not h) 0)
  | paren e ih =>
    intro h k
    exact ((Seg.tok (t := .LeftParen) (by simp)).append (ih (wf_paren h) 4)).append (Seg.tok (t := .RightParen) (by simp))
  | bin op l r ihl ihr =>
    intro h k
    obtain ⟨hl, hr⟩ := wf_bin h
    have body := ((ihl hl op.level).append (Seg.toks op)).append (ihr hr (op.level - 1))
    simp only [print, resolve]
    split
    · exact body
    · exact ((Seg.tok (t := .LeftParen) (by simp)).append body).append (Seg.tok (t := .RightParen) (by simp))

end RsslVerif.Lemmas.CondSubst
