import RsslVerif.Lemmas.FmtParseTables
import RsslVerif.Model.ParseFull
/-! Every function of the full parser model returns a suffix of its input; a successful template-argument attempt ends
with its closing `>`. -/
set_option linter.unusedSimpArgs false
namespace RsslVerif.Lemmas.RoundtripFull
open RsslVerif.Gen.FmtTables RsslVerif.Gen.ParseTables RsslVerif.Gen.SyntaxTables RsslVerif.Model.Format
open RsslVerif.Model.FormatFull RsslVerif.Model.ParseFull RsslVerif.Lemmas.FmtParseTables

variable (W : List String)

theorem suf_cons {r ts : List Tok} (t : Tok) (h : r <:+ ts) : r <:+ t :: ts := h.trans (List.suffix_cons t ts)

theorem takeModsBefore_suffix {ts : List Tok} {ms r} : takeModsBefore ts = (ms, r) → r <:+ ts := by
  fun_induction takeModsBefore ts generalizing ms r <;> intro h
  case case2 heq ih => cases h; exact suf_cons _ (ih heq)
  case case3 ih => exact suf_cons _ (ih h)
  all_goals cases h <;> exact List.suffix_refl _

theorem takeModsAfter_suffix {ts : List Tok} {ms r} : takeModsAfter ts = (ms, r) → r <:+ ts := by
  fun_induction takeModsAfter ts generalizing ms r <;> intro h
  case case2 heq ih => cases h; exact suf_cons _ (ih heq)
  all_goals cases h <;> exact List.suffix_refl _

theorem matchPrefix_suffix : ∀ ps ts r, matchPrefix ps ts = some r → r <:+ ts := by
  intro ps ts r
  fun_induction matchPrefix ps ts <;> intro h
  case case1 => cases h; exact List.suffix_refl _
  case case3 ih => exact suf_cons _ (ih h)
  all_goals cases h

theorem firstArm_mem {α : Type} : ∀ (l : List (Option (Option α))) (x : α), firstArm l = some x → some (some x) ∈ l
  | [], x, h => by simp [firstArm] at h
  | some r :: rest, x, h => by simp [firstArm] at h; subst h; simp
  | none :: rest, x, h => by
    simp only [firstArm] at h
    exact List.mem_cons_of_mem _ (firstArm_mem rest x h)

theorem arm_suffix (ps : List (Tok → Bool)) (ts : List Tok) (g : List Tok → Option (Option (BinOp × List Tok)))
    (op : BinOp) (r : List Tok)
    (hg : ∀ rest, g rest = some (some (op, r)) → r = rest)
    (h : (match matchPrefix ps ts with | some rest => g rest | none => none) = some (some (op, r))) : r <:+ ts := by
  split at h
  · rename_i rest heq
    have := hg rest h
    subst this
    exact matchPrefix_suffix _ _ _ heq
  · cases h

/-- the operator test of a level returns the tokens after the operator: each arm returns what its pattern left over,
or rejects, or does not apply -/
theorem parseOpAt_suffix {k : Nat} {term : Terminator} {ts : List Tok} {op : BinOp} {r : List Tok}
    (h : parseOpAt k term ts = some (op, r)) : r <:+ ts := by
  unfold parseOpAt at h
  split at h
  case h_13 => cases h
  all_goals
    have hmem := firstArm_mem _ _ h
    simp only [List.mem_cons, List.mem_nil_iff, or_false] at hmem
    repeat' (rcases hmem with hmem | hmem)
    all_goals
      apply arm_suffix _ _ _ _ _ _ hmem.symm
      intro rest hr
      simp at hr <;> simp [hr]

theorem suf_of_cons {t : Tok} {r ts : List Tok} (h : (t :: r) <:+ ts) : r <:+ ts := (List.suffix_cons t r).trans h

/-- a result `(x, r)` whose rest `r` is a suffix: so is the rest of what it is equal to -/
theorem suf_some {α : Type} {x e : α} {r r' ts : List Tok} (h : some (x, r) = some (e, r')) (hs : r <:+ ts) : r' <:+ ts := by
  cases h; exact hs

/-- every parser function returns a suffix of its input -/
def SufAll (f : Nat) : Prop :=
  (∀ {k term ts e r}, xparseLvl W f k term ts = some (e, r) → r <:+ ts) ∧
  (∀ {term ts e r}, castAlt W f term ts = some (e, r) → r <:+ ts) ∧
  (∀ {k term acc ts e r}, xcont W f k term acc ts = some (e, r) → r <:+ ts) ∧
  (∀ {ts a r}, xparseArgs W f ts = some (a, r) → r <:+ ts) ∧
  (∀ {ts a r}, xparseArgs1 W f ts = some (a, r) → r <:+ ts) ∧
  (∀ {ts a r}, parseTArgsReq W f ts = some (a, r) → r <:+ ts) ∧
  (∀ {ts a r}, parseTArgList W f ts = some (a, r) → r <:+ ts) ∧
  (∀ {sym ts a r}, parseEOT W f sym ts = some (a, r) → r <:+ ts) ∧
  (∀ {sym ts a r}, parseTyId W f sym ts = some (a, r) → r <:+ ts) ∧
  (∀ {ab ts a r}, parseDecl W f ab ts = some (a, r) → r <:+ ts) ∧
  (∀ {acc ts a r}, parseArrDims W f acc ts = some (a, r) → r <:+ ts)

theorem sufAll_zero : SufAll W 0 := by
  refine ⟨?_, ?_, ?_, ?_, ?_, ?_, ?_, ?_, ?_, ?_, ?_⟩ <;> intros <;> rename_i h <;> cases h

/-- One unit of fuel more. The fuel is the variable `n` so that each function's case principle applies to it; `cases hf`
then puts `f + 1` back (and closes the case of no fuel). -/
theorem sufAll_succ (f n : Nat) (hf : f + 1 = n) (ih : SufAll W f) : SufAll W n := by
  obtain ⟨iL, iC, iK, iA, iA1, iT, iTL, iE, iTy, iD, iAD⟩ := ih
  refine ⟨?_, ?_, ?_, ?_, ?_, ?_, ?_, ?_, ?_, ?_, ?_⟩
  next =>
    intro k term ts e r
    fun_cases xparseLvl W n k term ts <;> intro h <;> cases hf
    case case2 | case3 => exact suf_some h (List.suffix_cons _ _)   -- a name, a literal
    case case4 hx => exact suf_some h (suf_cons _ (suf_of_cons (iL hx)))   -- `(` e `)`
    case case8 hx => exact suf_some h (suf_cons _ (iL hx))   -- prefix operator
    case case10 ha => exact suf_some h (suf_cons _ (suf_cons _ (suf_of_cons (iE ha))))   -- `sizeof (` a `)`
    case case13 hc =>   -- the cast alternative applies
      cases h
      split at hc
      · exact suf_cons _ (iC hc)
      · cases hc
    case case14 hx =>   -- level 1, then the continuation of level 2
      simp only [hx] at h
      exact (iK h).trans (iL hx)
    case case15 hx => simp [hx] at h
    case case16 hx => exact (iK h).trans (iL hx)   -- level k, then the continuation of level k + 1
    all_goals cases h
  next =>
    intro term ts e r
    fun_cases castAlt W n term ts <;> intro h <;> cases hf
    case case2 hx hty => exact suf_some h ((iL hx).trans (suf_of_cons (iTy hty)))
    all_goals cases h
  next =>
    intro k term acc ts e r
    fun_cases xcont W n k term acc ts <;> intro h <;> cases hf
    case case2 | case3 => exact suf_cons _ (iK h)   -- `++`, `--`
    case case4 => exact suf_cons _ (suf_cons _ (iK h))   -- `.` name
    case case6 hx => exact suf_cons _ ((iK h).trans (suf_of_cons (iL hx)))   -- `[` i `]`
    case case8 ha => exact suf_cons _ ((iK h).trans (iA ha))   -- `(` args `)`
    case case10 ht ha => exact (iK h).trans ((iA ha).trans (suf_of_cons (iT ht)))   -- `<` targs `>(` args `)`
    case case15 ha hb => exact suf_some h (suf_cons _ ((iL hb).trans (suf_of_cons (iL ha))))   -- `?` a `:` b
    case case19 hop hx => exact suf_some h ((iL hx).trans (parseOpAt_suffix hop))   -- level 14: op rhs
    case case22 hop hx => exact (iK h).trans ((iL hx).trans (parseOpAt_suffix hop))   -- op rhs, and on
    -- every other branch fails or returns `(acc, ts)`
    all_goals cases h
    all_goals exact List.suffix_refl _
  next =>
    intro ts e r
    fun_cases xparseArgs W n ts <;> intro h <;> cases hf
    · exact suf_some h (List.suffix_cons _ _)
    · exact iA1 h
  next =>
    intro ts e r
    fun_cases xparseArgs1 W n ts <;> intro h <;> cases hf
    case case2 ha hx => exact suf_some h ((iA1 ha).trans (suf_of_cons (iL hx)))
    case case4 hx => exact suf_some h (suf_of_cons (iL hx))
    all_goals cases h
  next =>
    intro ts e r
    fun_cases parseTArgsReq W n ts <;> intro h <;> cases hf
    case case2 => exact suf_some h (suf_cons _ (List.suffix_cons _ _))
    case case3 hl => exact suf_some h (suf_cons _ (suf_of_cons (iTL hl)))
    all_goals cases h
  next =>
    intro ts e r
    fun_cases parseTArgList W n ts <;> intro h <;> cases hf
    case case2 hl ha => exact suf_some h ((iTL hl).trans (suf_of_cons (iE ha)))
    case case4 ha => exact suf_some h (iE ha)
    all_goals cases h
  next =>
    intro sym ts e r
    fun_cases parseEOT W n sym ts <;> intro h <;> cases hf
    case case2 hty | case3 hty | case5 hty => exact suf_some h (iTy hty)
    case case4 hx _ | case6 hx _ => exact suf_some h (iL hx)
    all_goals cases h
  next =>
    intro sym ts e r
    fun_cases parseTyId W n sym ts <;> intro h <;> cases hf
    case case3 ha _ _ _ hb ht hd =>
      have h0 := (iD hd).trans (takeModsAfter_suffix ha)
      have h2 := suf_of_cons (takeModsBefore_suffix hb)
      split at ht   -- template arguments were read, or none
      · rename_i ht'
        cases ht
        exact suf_some h (h0.trans ((iT ht').trans h2))
      · cases ht
        exact suf_some h (h0.trans h2)
    all_goals cases h
  next =>
    intro ab ts e r
    fun_cases parseDecl W n ab ts <;> intro h <;> cases hf
    case case3 ha _ _ hd => exact suf_some h (suf_cons _ ((iD hd).trans (takeModsAfter_suffix ha)))   -- `*` quals inner
    case case6 hd => exact suf_some h (suf_cons _ (iD hd))   -- `&` inner
    case case8 => exact iAD h   -- abstract: the dimensions
    case case9 => exact suf_cons _ (iAD h)   -- a name, then the dimensions
    case case10 =>   -- not a name (the case principle leaves the match on `ts` in place)
      split at h
      · exact suf_cons _ (iAD h)
      · cases h
    all_goals cases h
  next =>
    intro acc ts e r
    fun_cases parseArrDims W n acc ts <;> intro h <;> cases hf
    case case2 hx => exact suf_cons _ ((iAD h).trans (suf_of_cons (iL hx)))
    case case4 => exact suf_cons _ (suf_cons _ (iAD h))
    all_goals cases h
    all_goals exact List.suffix_refl _

theorem sufAll : ∀ f, SufAll W f
  | 0 => sufAll_zero W
  | f + 1 => sufAll_succ W f _ rfl (sufAll f)

/-! ## The template-argument attempt needs a `>` directly followed by `(` -/

/-- no `>` is directly followed by `(` -/
def TmplFree : List Tok → Bool
  | .gt _ :: .p .LeftParen :: _ => false
  | _ :: rest => TmplFree rest
  | [] => true

theorem tmplFree_suffix : ∀ {ts r : List Tok}, r <:+ ts → TmplFree ts = true → TmplFree r = true := by
  intro ts r h
  fun_induction TmplFree ts generalizing r <;> intro hf
  case case1 => cases hf
  case case2 hne ih =>
    rcases List.suffix_cons_iff.mp h with rfl | h'
    · rwa [TmplFree]
      exact hne
    · exact ih h' hf
  case case3 => rw [List.eq_nil_of_suffix_nil h]; rfl

/-- the condition on the `<` operators of a tree (`b` = it has one): nothing in `ts` looks like the end of a template
argument list in front of a call, i.e. no `>` is directly followed by `(` -/
def SafeAt (b : Bool) (ts : List Tok) : Prop := b = true → TmplFree ts = true

theorem SafeAt.cons {b : Bool} {t : Tok} {ts : List Tok} (h : SafeAt b (t :: ts)) : SafeAt b ts :=
  fun hb => tmplFree_suffix (List.suffix_cons _ _) (h hb)

theorem SafeAt.append {b : Bool} {a ts : List Tok} (h : SafeAt b (a ++ ts)) : SafeAt b ts :=
  fun hb => tmplFree_suffix (List.suffix_append _ _) (h hb)

theorem SafeAt.mono {b b' : Bool} {ts : List Tok} (h : SafeAt b ts) (hb : b' = true → b = true) : SafeAt b' ts :=
  fun hb' => h (hb hb')

theorem tmplFree_append_left {a b : List Tok} (h : TmplFree (a ++ b) = true) : TmplFree b = true :=
  tmplFree_suffix (List.suffix_append a b) h

theorem targsReq_shape (f : Nat) (ts : List Tok) (a : TArgs) (r : List Tok) (h : parseTArgsReq W f ts = some (a, r)) :
    ∃ b, (.gt b :: r) <:+ ts := by
  revert h
  fun_cases parseTArgsReq W f ts <;> intro h <;> cases h
  case case2 => exact ⟨_, List.suffix_cons _ _⟩
  case case3 f _ _ _ _ hl => exact ⟨_, suf_cons _ ((sufAll W f).2.2.2.2.2.2.1 hl)⟩

end RsslVerif.Lemmas.RoundtripFull
