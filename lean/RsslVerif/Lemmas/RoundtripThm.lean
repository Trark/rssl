import RsslVerif.Lemmas.Roundtrip
/-! Round trip: the induction over the tree. -/
set_option linter.unusedSimpArgs false
namespace RsslVerif.Lemmas.Roundtrip
open RsslVerif.Gen.FmtTables RsslVerif.Gen.ParseTables RsslVerif.Model.Format RsslVerif.Model.Parse
open RsslVerif.Lemmas.FmtParseTables RsslVerif.Lemmas.LevelParser

theorem rts_self {e : Expr} (hrt : RT e) (outer : Nat) (side : Side) (k : Nat) (term : Terminator) (rest : List Tok)
    (hterm : term ≠ .TypeList)
    (hpos : needParen e.prec outer side = false → e.lvl ≤ k ∧ TermFits e term)
    (hno : NoLow k term rest) (hin : k ≠ 0 → Inert k term rest) :
    Parses k term (toks (fmtSub e outer side) ++ rest) (e, rest) := by
  apply rts hrt outer side k term rest (e, rest) hterm hpos hno
  refine fin_self e ?_ hin
  cases hp : needParen e.prec outer side with
  | true => simp
  | false => simpa using (hpos hp).1

theorem operandStart_fmt (e : Expr) (hwf : WF e) (outer : Nat) (side : Side) (rest : List Tok) :
    OperandStart (toks (fmtSub e outer side) ++ rest) := by
  obtain ⟨t, ts', h1, h2⟩ := head_fmt e hwf outer side
  rw [h1]; exact h2.1

/-- the invariant of a non-empty argument list: after `(`, `parseArgs1` reads the printed list up to `)` -/
def A1 : Args → Prop
  | .nil => True
  | .cons e r => ∀ rest, ∃ N, ∀ f, N ≤ f →
      parseArgs1 f (toks (fmtArgs (.cons e r)) ++ .p .RightParen :: rest) = some (.cons e r, rest)

mutual
theorem rt : (e : Expr) → WF e → RT e
  | .lit n, hwf => by
    intro k term rest out hterm hle htf hno hfin
    rw [toks_lit n hwf]
    have hl0 : (Expr.lit n).lvl = 0 := by simp [Expr.lvl, litOk_not_negative n hwf]
    rw [hl0] at hle hfin
    have hp : Parses 0 term ([.lit n] ++ rest) (.lit n, rest) :=
      ⟨1, fun f hf => by obtain ⟨f', rfl, _⟩ := succ_of_pos hf; simp [parseLvl]⟩
    exact finish_nonloop @lift hp (Or.inl rfl) (Nat.zero_le _) (fun _ => trivial) hno hfin
  | .id n, hwf => by
    intro k term rest out hterm hle htf hno hfin
    rw [toks_id]
    have hp : Parses 0 term ([.id n] ++ rest) (.id n, rest) :=
      ⟨1, fun f hf => by obtain ⟨f', rfl, _⟩ := succ_of_pos hf; simp [parseLvl]⟩
    exact finish_nonloop @lift hp (Or.inl rfl) (Nat.zero_le _) (fun _ => trivial) hno hfin
  | .un op x, hwf => by
    intro k term rest out hterm hle htf hno hfin
    have ihx := rt x hwf
    cases hpost : isPostfix op with
    | false =>
      have hlvl : (Expr.un op x).lvl = 2 := by simp [Expr.lvl, hpost]
      rw [hlvl] at hle hfin
      rw [toks_prefix op x hpost]
      have hx : Parses 2 term (toks (fmtSub x (unPrec op) prefixOperandSide) ++ rest) (x, rest) :=
        rts_self ihx _ _ 2 term rest hterm
          (fun hp => ⟨pos_prefix op hpost x.prec_lvl hp, fun h => by have := pos_prefix op hpost x.prec_lvl hp; omega⟩)
          (hno.mono hle) (fun _ => inert2 term rest)
      have hp : Parses 2 term (unTok op :: toks (fmtSub x (unPrec op) prefixOperandSide) ++ rest) (.un op x, rest) := by
        refine LevelParser.Ev.step hx fun f h => ?_
        have hpre : prefixOp (unTok op) = some op := by cases op <;> simp [isPostfix] at hpost <;> rfl
        unfold parseLvl
        simp [hpre, h]
      exact finish_nonloop @lift hp (Or.inr (Or.inl rfl)) hle (fun h => by omega) hno hfin
    | true =>
      have hlvl : (Expr.un op x).lvl = 1 := by simp [Expr.lvl, hpost]
      rw [hlvl] at hle hfin
      rw [toks_postfix op x hpost]
      simp only [List.append_assoc, List.singleton_append]
      refine finish_loop @lift (lv := 1) ?_ (by decide) hle ?_ hno hfin
      · intro out' hc
        apply rts ihx _ _ 1 term (unTok op :: rest) out' hterm
        · exact fun hp => ⟨pos_postfix op hpost x.prec_lvl hp, fun h => by have := pos_postfix op hpost x.prec_lvl hp; omega⟩
        · exact fun i h1 h2 => by omega
        · apply fin_of_conts _ _ (by decide)
          · obtain ⟨N, h⟩ := hc
            refine ⟨N + 1, fun f hf => ?_⟩
            obtain ⟨f', rfl, hf'⟩ := succ_of_pos hf
            unfold cont
            cases op <;> simp [isPostfix] at hpost <;> simp [unTok, h f' hf']
      · exact fun _ => trivial
  | .bin op l r, hwf => by
    intro k term rest out hterm hle htf hno hfin
    have ihl := rt l hwf.1
    have ihr := rt r hwf.2
    have hlvl : (Expr.bin op l r).lvl = binLevel op := rfl
    rw [hlvl] at hle hfin
    have hp3 := binLevel_ge op
    have hp15 := binLevel_le op
    have hp13 := binLevel_ne13 op
    rw [toks_bin]
    simp only [List.append_assoc]
    have hOS : OperandStart (toks (fmtSub r (binPrec op) binRightSide) ++ rest) := operandStart_fmt r hwf.2 _ _ rest
    have hTermOk : TermOk op term :=
      ⟨fun hseq => htf (by subst hseq; rfl), fun _ => hterm⟩
    by_cases h14 : binLevel op = 14
    · -- assignment: p13 op p14
      have hI14 : Inert 14 term rest := by
        rw [h14] at hle hfin
        exact inert_of_fin (Or.inr rfl) hle hno hfin
      have hR : Parses 14 term (toks (fmtSub r (binPrec op) binRightSide) ++ rest) (r, rest) :=
        rts_self ihr _ _ 14 term rest hterm
          (fun hp => ⟨(pos_binR op r.prec_lvl hp).2 h14, fun h => by have := (pos_binR op r.prec_lvl hp).2 h14; omega⟩)
          (hno.mono (by omega)) (fun _ => hI14)
      have hL : Parses 13 term (toks (fmtSub l (binPrec op) binLeftSide) ++
          (binToks op ++ (toks (fmtSub r (binPrec op) binRightSide) ++ rest)))
          (l, binToks op ++ (toks (fmtSub r (binPrec op) binRightSide) ++ rest)) :=
        rts_self ihl _ _ 13 term _ hterm
          (fun hp => ⟨by have := (pos_binL op l.prec_lvl hp).2 h14; omega, fun h => by have := (pos_binL op l.prec_lvl hp).2 h14; omega⟩)
          (fun i h1 h2 => inert_binToks op i term _ (by omega))
          (fun _ => inert_binToks op 13 term _ (by omega))
      have hC : Conts 14 term l (binToks op ++ (toks (fmtSub r (binPrec op) binRightSide) ++ rest)) (.bin op l r, rest) := by
        refine LevelParser.Ev.step hR fun f h => ?_
        have hown := parseOpAt_own op term _ hOS hTermOk
        rw [h14] at hown
        unfold cont
        simp [hown, h]
      have hp14 : Parses 14 term _ (.bin op l r, rest) := lift hL hC (by omega)
      rw [h14] at hle hfin
      exact finish_nonloop @lift hp14 (Or.inr (Or.inr (Or.inr rfl))) hle (fun h => by omega) hno hfin
    · -- left-associative loop
      have hnoP : NoLow (binLevel op) term rest := hno.mono hle
      refine finish_loop @lift (lv := binLevel op) ?_ (by simp only [NonLoop]; omega) hle (fun h => by omega) hno hfin
      intro out' hc
      have hR : Parses (binLevel op - 1) term (toks (fmtSub r (binPrec op) binRightSide) ++ rest) (r, rest) :=
        rts_self ihr _ _ (binLevel op - 1) term rest hterm
          (fun hp => ⟨(pos_binR op r.prec_lvl hp).1 h14, fun h => by have := (pos_binR op r.prec_lvl hp).1 h14; omega⟩)
          (hnoP.mono (by omega)) (fun _ => hnoP (binLevel op - 1) (by omega) (by omega))
      have hstep : Conts (binLevel op) term l (binToks op ++ (toks (fmtSub r (binPrec op) binRightSide) ++ rest)) out' := by
        refine LevelParser.Ev.step (LevelParser.Ev.and hR hc) fun f ⟨h1, h2⟩ => ?_
        have hown := parseOpAt_own op term _ hOS hTermOk
        unfold cont
        have e1 : binLevel op ≠ 1 := by omega
        have e2 : binLevel op ≠ 2 := by omega
        simp only [e1, e2, hp13, h14, if_false, hown, h1, h2]
      apply rts ihl _ _ (binLevel op) term _ out' hterm
      · intro hp
        have := (pos_binL op l.prec_lvl hp).1 h14
        exact ⟨this.1, fun h15 => htf (by rw [hlvl]; exact this.2 h15)⟩
      · exact fun i h1 h2 => inert_binToks op i term _ h2
      · exact fin_of_conts _ _ (by simp only [NonLoop]; omega) hstep
  | .mem o n, hwf => by
    intro k term rest out hterm hle htf hno hfin
    have iho := rt o hwf
    have hlvl : (Expr.mem o n).lvl = 1 := rfl
    rw [hlvl] at hle hfin
    rw [toks_mem]
    simp only [List.append_assoc, List.cons_append, List.nil_append]
    refine finish_loop @lift (lv := 1) ?_ (by decide) hle (fun _ => trivial) hno hfin
    intro out' hc
    have hfin' : ∀ lv, Fin o lv 1 term (.p .Period :: .id n :: rest) out' := by
      intro lv
      apply fin_of_conts _ _ (by decide)
      refine LevelParser.Ev.step hc fun f h => ?_
      unfold cont
      simp [h]
    cases hmp : memObjParen o with
    | false =>
      rw [wrap_false]
      apply rts iho _ _ 1 term (.p .Period :: .id n :: rest) out' hterm
      · exact fun hp => ⟨pos_postfixLike o.prec_lvl _ (Or.inl rfl) hp, fun h => by have := pos_postfixLike o.prec_lvl _ (Or.inl rfl) hp; omega⟩
      · exact fun i h1 h2 => by omega
      · exact hfin' _
    | true =>
      -- `(1).m`: the object is an integer literal, printed in parentheses of its own
      have hnp : needParen o.prec precMember memObjectSide = false := by
        cases o with
        | lit l =>
          have : LitOk l = true := hwf
          simp only [Expr.prec, litPrec_of_ok l this]; decide
        | _ => simp [memObjParen] at hmp
      rw [fmtSub_eq, hnp, wrap_false]
      exact parses_paren iho (fun i h1 h2 => by omega) (hfin' 0)
  | .sub o i, hwf => by
    intro k term rest out hterm hle htf hno hfin
    have iho := rt o hwf.1
    have ihi := rt i hwf.2
    have hlvl : (Expr.sub o i).lvl = 1 := rfl
    rw [hlvl] at hle hfin
    rw [toks_sub]
    simp only [List.append_assoc, List.cons_append, List.nil_append]
    have hI : Parses 15 .Sequence (toks (fmtSub i precArraySubscript subIndexSide) ++ (.p .RightSquareBracket :: rest))
        (i, .p .RightSquareBracket :: rest) :=
      rts_self ihi _ _ 15 .Sequence _ (by decide)
        (fun hp => ⟨by have := pos_postfixLike i.prec_lvl _ (Or.inr rfl) hp; omega,
                    fun h => by have := pos_postfixLike i.prec_lvl _ (Or.inr rfl) hp; omega⟩)
        (noLow_closes 15 _ _ _ (Or.inr (Or.inl rfl))) (fun _ => inert_closes 15 _ _ _ (Or.inr (Or.inl rfl)))
    refine finish_loop @lift (lv := 1) ?_ (by decide) hle ?_ hno hfin
    · intro out' hc
      apply rts iho _ _ 1 term _ out' hterm
      · exact fun hp => ⟨pos_postfixLike o.prec_lvl _ (Or.inl rfl) hp, fun h => by have := pos_postfixLike o.prec_lvl _ (Or.inl rfl) hp; omega⟩
      · exact fun i h1 h2 => by omega
      · apply fin_of_conts _ _ (by decide)
        refine LevelParser.Ev.step (LevelParser.Ev.and hI hc) fun f ⟨h1, h2⟩ => ?_
        unfold cont
        simp [subscriptTerminator, h1, h2]
    · exact fun _ => trivial
  | .tern c a b, hwf => by
    intro k term rest out hterm hle htf hno hfin
    obtain ⟨wc, wa, wb⟩ := hwf
    have ihc := rt c wc
    have iha := rt a wa
    have ihb := rt b wb
    have hlvl : (Expr.tern c a b).lvl = 13 := rfl
    rw [hlvl] at hle hfin
    have hI13 : Inert 13 term rest := inert_of_fin (Or.inl rfl) hle hno hfin
    have hno13 : NoLow 13 term rest := hno.mono hle
    rw [toks_tern]
    simp only [List.append_assoc, List.cons_append]
    have hB : Parses 13 term (toks (wrap (falseIsAssignment b) (fmtSub b precTernaryConditional ternFalseSide)) ++ rest) (b, rest) := by
      cases hfa : falseIsAssignment b with
      | true =>
        rw [fmtSub_eq, falseIsAssignment_spec b hfa, wrap_false]
        exact parses_paren ihb hno13 (fin_self b (Nat.zero_le _) fun _ => hI13)
      | false =>
        rw [wrap_false]
        exact rts_self ihb _ _ 13 term rest hterm
          (fun hp => by
            have := pos_ternB b.prec_lvl hp
            have h14 : b.lvl ≠ 14 := fun h => by rw [falseIsAssignment_of_lvl b h] at hfa; cases hfa
            exact ⟨by omega, fun h => by omega⟩)
          hno13 (fun _ => hI13)
    -- middle operand: read at the assignment level (delimited by `?` and `:`)
    have hA : Parses 14 term (toks (fmtSub a precTernaryConditional ternTrueSide) ++
        (.p .Colon :: (toks (wrap (falseIsAssignment b) (fmtSub b precTernaryConditional ternFalseSide)) ++ rest)))
        (a, .p .Colon :: (toks (wrap (falseIsAssignment b) (fmtSub b precTernaryConditional ternFalseSide)) ++ rest)) :=
      rts_self iha _ _ 14 term _ hterm
        (fun hp => ⟨pos_ternA a.prec_lvl hp, fun h => by have := pos_ternA a.prec_lvl hp; omega⟩)
        (noLow_closes 14 term _ _ (Or.inr (Or.inr (Or.inl rfl))))
        (fun _ => inert_closes 14 term _ _ (Or.inr (Or.inr (Or.inl rfl))))
    have hC : Parses 12 term (toks (fmtSub c precTernaryConditional ternCondSide) ++
        (.p .QuestionMark :: (toks (fmtSub a precTernaryConditional ternTrueSide) ++
          (.p .Colon :: (toks (wrap (falseIsAssignment b) (fmtSub b precTernaryConditional ternFalseSide)) ++ rest)))))
        (c, .p .QuestionMark :: (toks (fmtSub a precTernaryConditional ternTrueSide) ++
          (.p .Colon :: (toks (wrap (falseIsAssignment b) (fmtSub b precTernaryConditional ternFalseSide)) ++ rest)))) :=
      rts_self ihc _ _ 12 term _ hterm
        (fun hp => ⟨pos_ternC c.prec_lvl hp, fun h => by have := pos_ternC c.prec_lvl hp; omega⟩)
        (fun i h1 h2 => inert_question i term _ (by omega))
        (fun _ => inert_question 12 term _ (by omega))
    have hK : Conts 13 term c (.p .QuestionMark :: (toks (fmtSub a precTernaryConditional ternTrueSide) ++
          (.p .Colon :: (toks (wrap (falseIsAssignment b) (fmtSub b precTernaryConditional ternFalseSide)) ++ rest))))
        (.tern c a b, rest) := by
      refine LevelParser.Ev.step (LevelParser.Ev.and hA hB) fun f ⟨h1, h2⟩ => ?_
      unfold cont
      simp [ternMiddleLevel, ternLastLevel, h1, h2]
    have hp13 : Parses 13 term _ (.tern c a b, rest) := lift hC hK (by omega)
    exact finish_nonloop @lift hp13 (Or.inr (Or.inr (Or.inl rfl))) hle (fun h => by omega) hno hfin
  | .call fn args, hwf => by
    intro k term rest out hterm hle htf hno hfin
    have ihf := rt fn hwf.1
    have iha := rt_args args hwf.2
    have hlvl : (Expr.call fn args).lvl = 1 := rfl
    rw [hlvl] at hle hfin
    rw [toks_call]
    simp only [List.append_assoc, List.cons_append, List.nil_append]
    have hArgs : ∃ N, ∀ f, N ≤ f → parseArgs f (toks (fmtArgs args) ++ .p .RightParen :: rest) = some (args, rest) := by
      match args, hwf.2, iha with
      | .nil, _, _ =>
        exact ⟨1, fun f hf => by obtain ⟨f', rfl, _⟩ := succ_of_pos hf; simp [fmtArgs, parseArgs]⟩
      | .cons e r, hw, ih =>
        obtain ⟨N, h⟩ := ih rest
        refine ⟨N + 1, fun f hf => ?_⟩
        obtain ⟨f', rfl, hf'⟩ := succ_of_pos hf
        -- the list does not start with `)`
        have hne : ∃ t ts', toks (fmtArgs (.cons e r)) ++ .p .RightParen :: rest = t :: ts' ∧ t ≠ .p .RightParen := by
          cases r with
          | nil =>
            obtain ⟨t, ts', h1, h2⟩ := head_fmt e hw.1 callArgPrec callArgSide
            exact ⟨t, ts' ++ .p .RightParen :: rest, by simp [fmtArgs, h1], h2.2⟩
          | cons e' r' =>
            obtain ⟨t, ts', h1, h2⟩ := head_fmt e hw.1 callArgMainPrec callArgMainSide
            exact ⟨t, _, by simp [fmtArgs, h1]; rfl, h2.2⟩
        obtain ⟨t, ts', hts, hne⟩ := hne
        have h' := h f' hf'
        rw [hts] at h' ⊢
        unfold parseArgs
        split
        · rename_i heq; cases heq; exact absurd rfl hne
        · exact h'
    refine finish_loop @lift (lv := 1) ?_ (by decide) hle ?_ hno hfin
    · intro out' hc
      apply rts ihf _ _ 1 term _ out' hterm
      · exact fun hp => ⟨pos_postfixLike fn.prec_lvl _ (Or.inl rfl) hp, fun h => by have := pos_postfixLike fn.prec_lvl _ (Or.inl rfl) hp; omega⟩
      · exact fun i h1 h2 => by omega
      · apply fin_of_conts _ _ (by decide)
        refine LevelParser.Ev.step (LevelParser.Ev.and hArgs hc) fun f ⟨h1, h2⟩ => ?_
        unfold cont
        simp [h1, h2]
    · exact fun _ => trivial
theorem rt_args : (a : Args) → WFA a → A1 a
  | .nil, _ => trivial
  | .cons e .nil, hw => by
    intro rest
    have ihe := rt e hw.1
    have hE : Parses 15 .Sequence (toks (fmtSub e callArgPrec callArgSide) ++ (.p .RightParen :: rest))
        (e, .p .RightParen :: rest) :=
      rts_self ihe _ _ 15 .Sequence _ (by decide)
        (fun hp => ⟨by have := pos_commaList e.prec_lvl hp; omega, fun h => by have := pos_commaList e.prec_lvl hp; omega⟩)
        (noLow_closes 15 _ _ _ (Or.inl rfl)) (fun _ => inert_closes 15 _ _ _ (Or.inl rfl))
    refine LevelParser.Ev.step hE fun f h => ?_
    unfold parseArgs1
    simp [fmtArgs, callArgTerminator, h]
  | .cons e (.cons e' r'), hw => by
    intro rest
    have ihe := rt e hw.1
    have ihr := rt_args (.cons e' r') hw.2 rest
    have hE : Parses 15 .Sequence (toks (fmtSub e callArgMainPrec callArgMainSide) ++
        (.p .Comma :: (toks (fmtArgs (.cons e' r')) ++ .p .RightParen :: rest)))
        (e, .p .Comma :: (toks (fmtArgs (.cons e' r')) ++ .p .RightParen :: rest)) :=
      rts_self ihe _ _ 15 .Sequence _ (by decide)
        (fun hp => ⟨by have := pos_commaList e.prec_lvl hp; omega, fun h => by have := pos_commaList e.prec_lvl hp; omega⟩)
        (noLow_closes 15 _ _ _ (Or.inr (Or.inr (Or.inr (Or.inr ⟨rfl, rfl⟩)))))
        (fun _ => inert_closes 15 _ _ _ (Or.inr (Or.inr (Or.inr (Or.inr ⟨rfl, rfl⟩)))))
    refine LevelParser.Ev.step (LevelParser.Ev.and hE ihr) fun f ⟨h1, h2⟩ => ?_
    unfold parseArgs1
    simp [fmtArgs, callArgTerminator, pp, h1, h2]
end

end RsslVerif.Lemmas.Roundtrip
