import RsslVerif.Lemmas.NamesOrder
/-!
Where the names `NameMap::build` returns come from: a successful `build` is the scope loop followed by the local pass;
a name of the scope loop is given by the run of its scope, to a child namespace or a registry entry of that scope.
-/
namespace RsslVerif.Thm.C15
open RsslVerif.Model.Names RsslVerif.Lemmas.Names RsslVerif.Lemmas.NamesOrder

theorem runScopes_mem {reserved : List String} {inp : Input} :
    ∀ (ss : List (Option Nat)) {out : List (Option Nat × St)}, runScopes reserved inp ss = .ok out →
      ∀ s ∈ ss, ∃ st, (s, st) ∈ out ∧
        scopeRun reserved (groupsOf (scopeSyms inp s)) = .ok st := by
  intro ss out h s hs
  obtain ⟨rfl, hok⟩ := runScopes_eq_map ss h
  obtain ⟨st, hst⟩ := hok s hs
  exact ⟨st, List.mem_map.mpr ⟨s, hs, by rw [stOf_eq hst]⟩, hst⟩

/-- the names the scope loop gives: `x` is one of them iff the run of scope `x.scope` assigns `x.name` to `x.sym` -/
theorem mem_globalsOut {reserved : List String} {inp : Input} {scopes : List (Option Nat × St)}
    (hs : runScopes reserved inp (scopeIds inp) = .ok scopes) {x : Named} :
    x ∈ (scopes.flatMap fun p => p.2.out.map fun q => (⟨q.1, p.1, q.2⟩ : Named)) ↔
      x.scope ∈ scopeIds inp ∧
      ∃ st, scopeRun reserved (groupsOf (scopeSyms inp x.scope)) = .ok st ∧ (x.sym, x.name) ∈ st.out := by
  obtain ⟨rfl, hok⟩ := runScopes_eq_map _ hs
  simp only [List.mem_flatMap, List.mem_map]
  constructor
  · rintro ⟨_, ⟨s, hs', rfl⟩, q, hq, rfl⟩
    obtain ⟨st, hst⟩ := hok s hs'
    exact ⟨hs', st, hst, stOf_eq hst ▸ hq⟩
  · rintro ⟨hs', st, hst, hq⟩
    exact ⟨_, ⟨x.scope, hs', rfl⟩, (x.sym, x.name), (stOf_eq hst).symm ▸ hq, rfl⟩

theorem build_ok {reserved : List String} {inp : Input} {names : List Named}
    (h : build reserved inp = .ok names) :
    ∃ scopes ls,
      runScopes reserved inp (scopeIds inp) = .ok scopes ∧
      assignLocals inp.locals (reserved ++ scopes.flatMap (fun p => p.2.gen) ++
          usedNames inp (scopes.flatMap fun p => p.2.out.map fun q => (⟨q.1, p.1, q.2⟩ : Named))) inp.locals = .ok ls ∧
      names = (scopes.flatMap fun p => p.2.out.map fun q => (⟨q.1, p.1, q.2⟩ : Named)) ++ numberLocals ls 0 := by
  revert h
  fun_cases build reserved inp <;> intro h <;> try cases h
  rename_i scopes hs
  revert h
  fun_cases finish reserved inp scopes <;> intro h <;> cases h
  rename_i ls hl
  exact ⟨scopes, ls, hs, hl, rfl⟩

theorem mem_numberLocals : ∀ (ls : List String) (i : Nat) (n : Named), n ∈ numberLocals ls i →
    n.sym.kind = .localVar ∧ n.scope = none ∧ n.name ∈ ls := by
  intro ls
  induction ls with
  | nil => intro i n h; simp [numberLocals] at h
  | cons x r ih =>
    intro i n h
    simp only [numberLocals, List.mem_cons] at h
    rcases h with h | h
    · subst h; simp
    · obtain ⟨h1, h2, h3⟩ := ih (i + 1) n h
      exact ⟨h1, h2, List.mem_cons_of_mem _ h3⟩

theorem number_kind (ls : List String) (i : Nat) (n : Named) (h : n ∈ numberLocals ls i) :
    n.sym.kind = .localVar ∧ n.name ∈ ls :=
  ⟨(mem_numberLocals ls i n h).1, (mem_numberLocals ls i n h).2.2⟩

/-- where a name that is not a local variable's comes from: the run of the scope it is given in -/
theorem mem_build_global {reserved : List String} {inp : Input} {names : List Named}
    (h : build reserved inp = .ok names) {x : Named} (hx : x ∈ names) (hk : x.sym.kind ≠ .localVar) :
    x.scope ∈ scopeIds inp ∧
      ∃ st, scopeRun reserved (groupsOf (scopeSyms inp x.scope)) = .ok st ∧ (x.sym, x.name) ∈ st.out := by
  obtain ⟨scopes, ls, hs, hl, rfl⟩ := build_ok h
  rcases List.mem_append.mp hx with hx | hx
  · exact (mem_globalsOut hs).mp hx
  · exact absurd (number_kind ls 0 x hx).1 hk

theorem nsFrom_kind (scope : Option Nat) : ∀ (l : List (Option Nat × String)) (i : Nat) (q : String × Sym),
    q ∈ scopeSyms.nsFrom scope l i → q.2.kind = .ns := by
  intro l i q h
  fun_induction scopeSyms.nsFrom scope l i
  case case1 => cases h
  case case2 ih =>
    rcases List.mem_cons.mp h with e | h'
    · subst e; rfl
    · exact ih h'
  case case3 ih => exact ih h

/-- a symbol of a scope is a child namespace or a registry entry of that scope -/
theorem scopeSyms_origin {inp : Input} {s : Option Nat} {q : String × Sym} (h : q ∈ scopeSyms inp s) :
    q.2.kind = .ns ∨ ∃ e ∈ inp.entries, e.sym = q.2 ∧ e.scope = s := by
  unfold scopeSyms at h
  rcases List.mem_append.mp h with h | h
  · exact .inl (nsFrom_kind _ _ _ _ h)
  · obtain ⟨e, he, rfl⟩ := List.mem_map.mp h
    obtain ⟨hmem, hsc⟩ := List.mem_filter.mp he
    exact .inr ⟨e, hmem, rfl, by simpa using hsc⟩

/-- a name given by the scope loop is a namespace's or that of a registry entry, given in the entry's scope -/
theorem globalsOut_origin {reserved : List String} {inp : Input} {scopes : List (Option Nat × St)}
    (hs : runScopes reserved inp (scopeIds inp) = .ok scopes) {x : Named}
    (hx : x ∈ scopes.flatMap fun p => p.2.out.map fun q => (⟨q.1, p.1, q.2⟩ : Named)) :
    x.sym.kind = .ns ∨ ∃ e ∈ inp.entries, e.sym = x.sym ∧ e.scope = x.scope := by
  obtain ⟨_, st, hst, hq⟩ := (mem_globalsOut hs).mp hx
  obtain ⟨r, hr, er⟩ := scopeRun_out_syms hst _ hq
  have := scopeSyms_origin hr
  rwa [er] at this

/-- a struct / enum / enum value / global / function named by `build` is an entry of the registries, in the scope the
name is given in -/
theorem named_entry {reserved : List String} {inp : Input} {names : List Named}
    (h : build reserved inp = .ok names) {x : Named} (hx : x ∈ names)
    (hk : x.sym.kind ≠ .localVar) (hk2 : x.sym.kind ≠ .ns) :
    ∃ e ∈ inp.entries, e.sym = x.sym ∧ e.scope = x.scope := by
  obtain ⟨scopes, ls, hs, hl, rfl⟩ := build_ok h
  rcases List.mem_append.mp hx with h1 | h1
  · exact (globalsOut_origin hs h1).resolve_left hk2
  · exact absurd (number_kind ls 0 x h1).1 hk

/-- without namespaces every name is given in the root scope -/
theorem flat_scope_none {reserved : List String} {inp : Input} {names : List Named}
    (h : build reserved inp = .ok names) (hnss : inp.nss = []) : ∀ x ∈ names, x.scope = none := by
  obtain ⟨scopes, ls, hs, hl, rfl⟩ := build_ok h
  intro x hx
  rcases List.mem_append.mp hx with h1 | h1
  · simpa [scopeIds, hnss] using ((mem_globalsOut hs).mp h1).1
  · exact (mem_numberLocals ls 0 x h1).2.1

end RsslVerif.Thm.C15
