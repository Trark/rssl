import RsslVerif.Lemmas.Dec2Bin
/-!
# `nearestRat` satisfies `IsNearestEven`

Everything is compared in units of `2^emin`, where every value of the format is a whole number.
-/
namespace RsslVerif.Spec.Dec2Bin

/-- `x / 2^emin` against `x / 2^q`: the former is `2^(q-emin)` times the latter -/
theorem scale_rel (f : Fmt) (N M : Nat) (q : Int) (hq : f.emin ≤ q) :
    (scale N M f.emin).1 * (scale N M q).2 =
      (scale N M q).1 * 2 ^ (q - f.emin).toNat * (scale N M f.emin).2 := by
  rw [scale_eq, scale_eq]
  dsimp only
  have e : (-f.emin).toNat + q.toNat = (-q).toNat + (q - f.emin).toNat + f.emin.toNat := by
    -- with the `toNat` terms as atoms `omega` has no case split to make
    have h1 := Int.toNat_sub_toNat_neg q
    have h2 := Int.toNat_sub_toNat_neg f.emin
    have h3 := Int.toNat_of_nonneg (Int.sub_nonneg_of_le hq)
    generalize q.toNat = a, (-q).toNat = b, f.emin.toNat = c, (-f.emin).toNat = d, (q - f.emin).toNat = j at h1 h2 h3 ⊢
    omega
  have h1 : N * 2 ^ (-f.emin).toNat * (M * 2 ^ q.toNat) = N * M * 2 ^ ((-f.emin).toNat + q.toNat) := by
    rw [Nat.pow_add]; ac_rfl
  have h2 : N * 2 ^ (-q).toNat * 2 ^ (q - f.emin).toNat * (M * 2 ^ f.emin.toNat) =
      N * M * 2 ^ ((-q).toNat + (q - f.emin).toNat + f.emin.toNat) := by
    rw [Nat.pow_add, Nat.pow_add]; ac_rfl
  rw [h1, h2, e]

/-- the heart: with `m` the ties-to-even rounding of `A / B` (and `2^(p-1) ≤ ⌊A/B⌋` when a finer grid exists),
no `m' · 2^j'` (`m' < 2^p`) is closer to `A · 2^j / B` than `m · 2^j` -/
theorem core_nearest (p A B m' j j' : Nat) (hB : 0 < B) (hp : 1 ≤ p) (hm' : m' < 2 ^ p)
    (hnorm : 0 < j → 2 ^ (p - 1) ≤ A / B) :
    2 ^ j * absDiff A (roundQuot A B * B) ≤ absDiff (A * 2 ^ j) (m' * 2 ^ j' * B) := by
  by_cases hj : j ≤ j'
  · -- coarser or equal grid: m'·2^j' = k·2^j
    have e : 2 ^ j' = 2 ^ (j' - j) * 2 ^ j := by rw [← Nat.pow_add]; congr 1; omega
    have e2 : m' * 2 ^ j' * B = 2 ^ j * (m' * 2 ^ (j' - j) * B) := by rw [e]; ac_rfl
    rw [e2, Nat.mul_comm A (2 ^ j), absDiff_mul_left]
    exact Nat.mul_le_mul (Nat.le_refl _) (absDiff_roundQuot_le A B _ hB)
  · -- finer grid: m'·2^j' = m'·2^j / T with T = 2^(j-j') ≥ 2
    have e : 2 ^ j = 2 ^ j' * 2 ^ (j - j') := by rw [← Nat.pow_add]; congr 1; omega
    have hT : 2 ≤ 2 ^ (j - j') := by
      have : 2 ^ 1 ≤ 2 ^ (j - j') := Nat.pow_le_pow_right (by omega) (by omega)
      simpa using this
    obtain ⟨h1, h2⟩ := finer_grid_not_closer p A B (roundQuot A B) m' (2 ^ (j - j')) hB hp
      (hnorm (by omega)) hm' hT (roundQuot_half A B hB)
    rw [two_mul_absDiff, Nat.mul_assoc] at h2
    have e3 : A * 2 ^ j = 2 ^ j' * (A * 2 ^ (j - j')) := by rw [e]; ac_rfl
    have e4 : m' * 2 ^ j' * B = 2 ^ j' * (B * m') := by ac_rfl
    have e5 : 2 ^ j * absDiff A (roundQuot A B * B) =
        2 ^ j' * (absDiff A (roundQuot A B * B) * 2 ^ (j - j')) := by rw [e]; ac_rfl
    rw [e3, e4, absDiff_mul_left, e5]
    apply Nat.mul_le_mul (Nat.le_refl _)
    clear e e3 e4 e5 hT
    generalize absDiff A (roundQuot A B * B) * 2 ^ (j - j') = X at h2 ⊢
    unfold absDiff
    omega

/-- arithmetic core of `encode_lt_inf_iff`: `P = 2^(p-1)`, `E = 2^ebits`, `j = q - emin` -/
theorem encode_lt_inf_core (P E j m : Nat) (hP : 0 < P) (hE : 4 ≤ E) (hm : m ≤ 2 * P) (hnorm : 0 < j → P ≤ m) :
    j * P + m < (E - 1) * P ↔ m * 2 ^ j < 2 * P * 2 ^ (E - 3) := by
  by_cases hj0 : j = 0
  · subst hj0
    simp only [Nat.zero_mul, Nat.zero_add, Nat.pow_zero, Nat.mul_one]
    have h1 : m < (E - 1) * P := by
      have : 3 * P ≤ (E - 1) * P := Nat.mul_le_mul (by omega) (Nat.le_refl _)
      omega
    have h2 : m < 2 * P * 2 ^ (E - 3) := by
      have h3 : 2 ^ 1 ≤ 2 ^ (E - 3) := Nat.pow_le_pow_right (by omega) (by omega)
      have h4 : 2 * P * 2 ^ 1 ≤ 2 * P * 2 ^ (E - 3) := Nat.mul_le_mul (Nat.le_refl _) h3
      simp only [Nat.pow_one] at h4
      omega
    exact ⟨fun _ => h2, fun _ => h1⟩
  · have hmn : P ≤ m := hnorm (by omega)
    by_cases hmtop : m = 2 * P
    · -- carry: the value is 2^p · 2^q
      subst hmtop
      constructor
      · intro h
        have hjle : j + 2 < E - 1 := by
          apply Nat.lt_of_mul_lt_mul_right (a := P)
          rw [Nat.add_mul]; omega
        have hpow : 2 ^ j < 2 ^ (E - 3) := Nat.pow_lt_pow_right (by omega) (by omega)
        exact Nat.mul_lt_mul_of_le_of_lt (Nat.le_refl _) hpow (by omega)
      · intro h
        have hlt : 2 ^ j < 2 ^ (E - 3) := Nat.lt_of_mul_lt_mul_left (a := 2 * P) h
        have hjlt : j < E - 3 := by
          apply Nat.lt_of_not_le
          intro hge
          have := Nat.pow_le_pow_right (n := 2) (by omega) hge
          omega
        have h5 : (j + 3) * P ≤ (E - 1) * P := Nat.mul_le_mul (by omega) (Nat.le_refl _)
        rw [Nat.add_mul] at h5
        omega
    · have hmlt : m < 2 * P := by omega
      constructor
      · intro h
        have hjle : j + 1 < E - 1 := by
          apply Nat.lt_of_mul_lt_mul_right (a := P)
          rw [Nat.add_mul, Nat.one_mul]; omega
        have hpow : 2 ^ j ≤ 2 ^ (E - 3) := Nat.pow_le_pow_right (by omega) (by omega)
        calc m * 2 ^ j < 2 * P * 2 ^ j := Nat.mul_lt_mul_of_lt_of_le hmlt (Nat.le_refl _) (Nat.two_pow_pos _)
          _ ≤ 2 * P * 2 ^ (E - 3) := Nat.mul_le_mul (Nat.le_refl _) hpow
      · intro h
        have hjle : j ≤ E - 3 := by
          apply Nat.le_of_not_lt
          intro hgt
          have h1 : 2 ^ (E - 3 + 1) ≤ 2 ^ j := Nat.pow_le_pow_right (by omega) hgt
          rw [Nat.pow_succ] at h1
          have h2 : P * (2 ^ (E - 3) * 2) ≤ m * 2 ^ j := Nat.mul_le_mul hmn h1
          have h3 : P * (2 ^ (E - 3) * 2) = 2 * P * 2 ^ (E - 3) := by ac_rfl
          omega
        have h5 : (j + 2) * P ≤ (E - 1) * P := Nat.mul_le_mul (by omega) (Nat.le_refl _)
        rw [Nat.add_mul] at h5
        omega

/-- `encode` stays below the infinity pattern exactly when the value stays below `2^(emax+1)` -/
theorem encode_lt_inf_iff (f : Fmt) (hp : 2 ≤ f.p) (he : 2 ≤ f.ebits) (m : Nat) (q : Int) (hq : f.emin ≤ q)
    (hm : m ≤ 2 ^ f.p) (hnorm : f.emin < q → 2 ^ (f.p - 1) ≤ m) :
    encode f m q < f.infBits ↔ units f m q < overflowUnits f := by
  unfold encode Fmt.infBits units overflowUnits
  have hE : 4 ≤ 2 ^ f.ebits := by
    have : 2 ^ 2 ≤ 2 ^ f.ebits := Nat.pow_le_pow_right (by omega) he
    simpa using this
  have hpp := two_pow_pred (p := f.p) (by omega)
  have hov : 2 ^ (f.p + 2 ^ f.ebits - 3) = 2 * 2 ^ (f.p - 1) * 2 ^ (2 ^ f.ebits - 3) := by
    have : f.p + 2 ^ f.ebits - 3 = f.p + (2 ^ f.ebits - 3) := by omega
    rw [this, Nat.pow_add, hpp]
  rw [hov]
  rw [hpp] at hm
  exact encode_lt_inf_core (2 ^ (f.p - 1)) (2 ^ f.ebits) (q - f.emin).toNat m (Nat.two_pow_pos _) hE hm
    (fun hj => hnorm (by omega))

/-- `nearestRat` returns what IEEE 754 round-to-nearest-ties-to-even prescribes -/
theorem nearestRat_isNearestEven (f : Fmt) (hp : 2 ≤ f.p) (he : 2 ≤ f.ebits) (N M : Nat) (hN : 0 < N) (hM : 0 < M) :
    IsNearestEven f N M (nearestRat f N M) := by
  obtain ⟨hn1, hn2⟩ := chooseExp_norm f hp N M hN hM
  obtain ⟨hmle, hmnorm⟩ := roundQuot_norm f hp N M hN hM
  have hq := chooseExp_ge f N M
  generalize hqd : chooseExp f N M = q at *
  have hB := scale_pos N M q hM
  have hB0 := scale_pos N M f.emin hM
  have hrel := scale_rel f N M q hq
  generalize hAd : (scale N M q).1 = A at *
  generalize hBd : (scale N M q).2 = B at *
  generalize hA0d : (scale N M f.emin).1 = A0 at *
  generalize hB0d : (scale N M f.emin).2 = B0 at *
  generalize hjd : (q - f.emin).toNat = j at *
  have hquot : quotAt N M q = A / B := by unfold quotAt; rw [hAd, hBd]
  rw [hquot] at hn1 hn2
  have hdist : ∀ G', absDiff A0 (G' * B0) * B = B0 * absDiff (A * 2 ^ j) (G' * B) := by
    intro G'
    rw [← absDiff_mul_right, hrel]
    have e1 : A * 2 ^ j * B0 = B0 * (A * 2 ^ j) := by ac_rfl
    have e2 : G' * B0 * B = B0 * (G' * B) := by ac_rfl
    rw [e1, e2, absDiff_mul_left]
  have hdistm : absDiff A0 (roundQuot A B * 2 ^ j * B0) * B = B0 * (2 ^ j * absDiff A (roundQuot A B * B)) := by
    rw [hdist]
    congr 1
    have e2 : roundQuot A B * 2 ^ j * B = 2 ^ j * (roundQuot A B * B) := by ac_rfl
    rw [Nat.mul_comm A (2 ^ j), e2, absDiff_mul_left]
  refine ⟨roundQuot A B, q, hq, by rw [hquot]; exact hn1, by rw [hquot]; exact hn2, hmle, hmnorm, ?_, ?_, ?_, ?_⟩
  · -- nearest
    intro m' q' hq' hm'
    unfold units
    rw [hjd, hA0d, hB0d]
    apply Nat.le_of_mul_le_mul_right _ hB
    rw [hdistm, hdist]
    apply Nat.mul_le_mul (Nat.le_refl _)
    exact core_nearest f.p A B m' j (q' - f.emin).toNat hB (by omega) hm'
      (fun hj => hn2 (by omega))
  · -- half a unit in the last place
    unfold units
    rw [hjd, hA0d, hB0d]
    apply Nat.le_of_mul_le_mul_right _ hB
    have : 2 * absDiff A0 (roundQuot A B * 2 ^ j * B0) * B = B0 * (2 ^ j * (2 * absDiff A (roundQuot A B * B))) := by
      rw [Nat.mul_assoc, hdistm]; ac_rfl
    rw [this]
    have e : 2 ^ j * B0 * B = B0 * (2 ^ j * B) := by ac_rfl
    rw [e]
    exact Nat.mul_le_mul (Nat.le_refl _) (Nat.mul_le_mul (Nat.le_refl _) (absDiff_roundQuot_le_half A B hB))
  · -- ties to even
    unfold units
    rw [hjd, hA0d, hB0d]
    intro htie
    have h1 : 2 * absDiff A0 (roundQuot A B * 2 ^ j * B0) * B = 2 ^ j * B0 * B := by rw [htie]
    have h2 : 2 * absDiff A0 (roundQuot A B * 2 ^ j * B0) * B =
        (B0 * 2 ^ j) * (2 * absDiff A (roundQuot A B * B)) := by
      rw [Nat.mul_assoc, hdistm]; ac_rfl
    have h3 : 2 ^ j * B0 * B = (B0 * 2 ^ j) * B := by ac_rfl
    rw [h2, h3] at h1
    exact roundQuot_even_of_half A B hB (Nat.eq_of_mul_eq_mul_left (Nat.mul_pos hB0 (Nat.two_pow_pos j)) h1)
  · -- overflow
    rw [nearestRat_pos f M hN, hqd, hAd, hBd]
    have hiff := encode_lt_inf_iff f hp he (roundQuot A B) q hq hmle hmnorm
    by_cases hlt : units f (roundQuot A B) q < overflowUnits f
    · rw [if_pos hlt]
      have := hiff.mpr hlt
      exact Nat.min_eq_left (Nat.le_of_lt this)
    · rw [if_neg hlt]
      have : ¬ encode f (roundQuot A B) q < f.infBits := fun h => hlt (hiff.mp h)
      exact Nat.min_eq_right (by omega)

end RsslVerif.Spec.Dec2Bin
