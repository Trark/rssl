import RsslVerif.Lemmas.Lexer
/-! # Float literals: which digits and exponent the lexer hands to the decimal→binary conversion -/
namespace RsslVerif.Model.Lexer
open RsslVerif.Gen.LexTables RsslVerif.Spec

def digitByte (d : Nat) : UInt8 := UInt8.ofNat (48 + d)

theorem decDigit_byte {b : UInt8} {d : Nat} (h : decDigit? b = some d) : digitByte d = b ∧ d < 10 := by
  revert h
  fun_cases decDigit? b <;> intro h <;> cases h
  refine ⟨?_, by omega⟩
  unfold digitByte
  have : 48 + (b.toNat - 48) = b.toNat := by omega
  rw [this]
  exact UInt8.ofNat_toNat

theorem spanDigits_text (inp : Bytes) :
    inp = (spanDigits inp).1.map digitByte ++ (spanDigits inp).2 ∧ ∀ d ∈ (spanDigits inp).1, d < 10 := by
  fun_induction spanDigits inp
  case case1 => simp
  case case2 b r d hd p ih =>
    obtain ⟨hb, hlt⟩ := decDigit_byte hd
    simp only [List.map_cons, List.cons_append, List.mem_cons]
    refine ⟨by rw [hb, ← ih.1], ?_⟩
    rintro x (hx | hx)
    · omega
    · exact ih.2 x hx
  case case3 => simp

theorem floatMantissa_ok {inp i2 : Bytes} {m : Bool × List Nat × List Nat} (h : floatMantissa inp = .ok (i2, m)) :
    mantissaOf inp = (i2, m) := by
  rw [floatMantissa_eq] at h
  split at h
  · cases h
  · exact Except.ok.inj h

/-- the value bits a float token carries -/
def Token.floatBits? : Token → Option Nat
  | .litFloat v | .litFloat64 v | .litFloat16 v | .litFloat32 v => some v
  | _ => none

/-- "narrowed once to single precision when suffixed f or h" -/
def narrowOnce (ty : Option FloatType) (bits64 : Nat) : Nat :=
  match ty with
  | some .Half | some .Float => Dec2Bin.narrow32 bits64
  | _ => bits64

theorem mkFloatToken_bits (v : Nat) (ty : Option FloatType) :
    (mkFloatToken v ty).floatBits? = some (narrowOnce ty v) := by
  match ty with
  | none => rfl
  | some .Half => rfl
  | some .Float => rfl
  | some .Double => rfl

/-- the digits `float_mantissa` returns are the text it consumed, `<left>[.<right>]`, and they are decimal digits -/
theorem floatMantissa_text {inp i2 : Bytes} {hf : Bool} {l r : List Nat}
    (h : floatMantissa inp = .ok (i2, (hf, l, r))) :
    inp = l.map digitByte ++ ((if hf then 46 :: r.map digitByte else []) ++ i2) ∧ (hf = false → r = []) ∧
    ∀ d ∈ l ++ r, d < 10 := by
  have hm := floatMantissa_ok h
  obtain ⟨t1, l1⟩ := spanDigits_text inp
  -- no point after the left digits (end of input, or another byte), or a point and the right digits
  rcases mantissaOf_cases inp with ⟨h2, e⟩ | ⟨r2, h2, e⟩ | ⟨c, r2, h2, _, e⟩ <;> rw [hm] at e <;> cases e <;>
    rw [h2] at t1
  · exact ⟨by simpa using t1, fun _ => rfl, by simpa using l1⟩
  · obtain ⟨t2, l2⟩ := spanDigits_text r2
    refine ⟨by simpa [← t2] using t1, fun h => Bool.noConfusion h, fun d hd => ?_⟩
    rcases List.mem_append.mp hd with hd | hd
    · exact l1 d hd
    · exact l2 d hd
  · exact ⟨by simpa using t1, fun _ => rfl, by simpa using l1⟩

/-- what `floatInf` lets through, read as the bits of the token built from it -/
theorem floatInf_bits {pre i4 : Bytes} {left right : List Nat} {e : Option Int} {v : Nat} (ty : Option FloatType)
    (h : floatInf pre (float64FromParts left right (e.getD 0)) e.isSome = .ok (i4, v)) :
    (mkFloatToken v ty).floatBits? =
        some (narrowOnce ty (Dec2Bin.nearest64 (left ++ right) (e.getD 0 - right.length))) ∨
      (e = none ∧ Dec2Bin.nearest64 (left ++ right) (0 - right.length) ≠ 0 ∧
        (mkFloatToken v ty).floatBits? = some (narrowOnce ty Dec2Bin.binary64.infBits)) := by
  rw [mkFloatToken_bits]
  revert h
  fun_cases floatInf pre _ e.isSome <;> intro h <;> cases h
  · -- `#INF` after a non-zero literal without exponent
    rename_i hc _
    cases e with
    | some x => simp at hc
    | none => exact .inr ⟨rfl, by simpa [float64FromParts] using hc.1, rfl⟩
  · exact .inl rfl

end RsslVerif.Model.Lexer
