import RsslVerif.Model.GenHlsl
import RsslVerif.Spec.SemWT
/-! The simulation relation `Sim` between a typed expression and the emitted one, and literals: `generate_literal` keeps
value and (contextual) type. -/
namespace RsslVerif.Lemmas.GenSem
open RsslVerif.Gen.HlslGenTables RsslVerif.Model RsslVerif.Model.GenHlsl RsslVerif.Spec.Sem
open RsslVerif.Model.Ir (Ty Var Const)

/-- static type the emitted expression has: an unsuffixed typed constant is a literal int -/
def astTy (e : Ir.Expr) (t : Ty) : Ty := if Ir.litlike e then .lit else t

def astVal (e : Ir.Expr) (v : Val) : Val :=
  if Ir.litlike e then (match v with | .i x => .lit x.toInt | w => w) else v

/-- the emitted names denote the entities the IR referred to, with their declared types (C15's conclusion) -/
structure Agree (cx : Ctx) (env : Ast.Env) : Prop where
  res : ∀ x, env.res (cx.name x) = some x
  vty : env.vty = cx.vty
  fres : ∀ f, env.fres (cx.funcName f) = some f
  /-- no user function is called like a modelled built-in (reserved names, C15) -/
  builtin : ∀ p ∈ Ast.builtins, env.fres p.1 = none

def Sim (W : World) (env : Ast.Env) (e : Ir.Expr) (a : HlslAst.Expr) (t : Ty) : Prop :=
  Ast.typeOf W.sig env a = some (astTy e t) ∧
  ∀ σ, Ast.eval W env a σ = (Ir.eval W e σ).map (fun r => (astVal e r.1, r.2))

theorem map_ok_inv {α β ε : Type} {f : α → β} {x : Except ε α} {b : β} (h : x.map f = .ok b) : ∃ a, x = .ok a ∧ b = f a := by
  cases x with
  | error e => cases h
  | ok a => cases h; exact ⟨a, rfl, rfl⟩

theorem litlike_cases {e : Ir.Expr} (h : Ir.litlike e = true) : ∃ v, e = .lit (.int32 v) := by
  cases e with
  | lit c => cases c <;> simp [Ir.litlike] at h; exact ⟨_, rfl⟩
  | _ => simp [Ir.litlike] at h

theorem toInt_ne_zero (v : BitVec 32) : (v.toInt != 0) = (v != 0#32) := by
  rw [Bool.eq_iff_iff]; simp [← BitVec.toInt_inj]

theorem castVal_lit_int (P : Prim) (T : Ty) (v : BitVec 32) : castVal P T (.lit v.toInt) = castVal P T (.i v) := by
  cases T <;> simp [castVal, BitVec.ofInt_toInt, toInt_ne_zero]

theorem Sim.plain {W : World} {env : Ast.Env} {e : Ir.Expr} {a : HlslAst.Expr} {t : Ty}
    (h : Sim W env e a t) (hl : Ir.litlike e = false) :
    Ast.typeOf W.sig env a = some t ∧ ∀ σ, Ast.eval W env a σ = Ir.eval W e σ := by
  obtain ⟨h1, h2⟩ := h
  refine ⟨by simpa [astTy, hl] using h1, fun σ => ?_⟩
  rw [h2 σ]
  cases Ir.eval W e σ <;> simp [astVal, hl]

/-- the converse of `Sim.plain`: how every expression other than a bare constant is shown to be simulated -/
theorem Sim.of_plain {W : World} {env : Ast.Env} {e : Ir.Expr} {a : HlslAst.Expr} {t : Ty}
    (hl : Ir.litlike e = false) (h1 : Ast.typeOf W.sig env a = some t)
    (h2 : ∀ σ, Ast.eval W env a σ = Ir.eval W e σ) : Sim W env e a t := by
  refine ⟨by simpa [astTy, hl] using h1, fun σ => ?_⟩
  rw [h2 σ]
  cases Ir.eval W e σ <;> simp [astVal, hl]

theorem Sim.lit {W : World} {env : Ast.Env} {a : HlslAst.Expr} {t : Ty} {v : BitVec 32}
    (h : Sim W env (.lit (.int32 v)) a t) :
    Ast.typeOf W.sig env a = some .lit ∧ ∀ σ, Ast.eval W env a σ = some (.lit v.toInt, σ) := by
  obtain ⟨h1, h2⟩ := h
  refine ⟨by simpa [astTy, Ir.litlike] using h1, fun σ => ?_⟩
  rw [h2 σ]
  simp [Ir.eval, Ir.constVal, astVal, Ir.litlike]

theorem convR_self (P : Prim) (t : Ty) (r : R Val) : Ast.convR P t t r = r := by
  cases r <;> simp [Ast.convR, Ast.convert]

/-- the implicit conversion to the IR type recovers the IR value -/
theorem Sim.conv {W : World} {env : Ast.Env} {e : Ir.Expr} {a : HlslAst.Expr} {t : Ty} {vty : Var → Ty}
    (h : Sim W env e a t) (ht : Ir.typeOf W.sig vty e = some t) (σ : Store) :
    Ast.convR W.P (astTy e t) t (Ast.eval W env a σ) = Ir.eval W e σ := by
  by_cases hl : Ir.litlike e = true
  · obtain ⟨v, rfl⟩ := litlike_cases hl
    have := h.lit
    simp [Ir.typeOf, Const.ty] at ht
    subst ht
    simp [this.2 σ, astTy, Ir.litlike, Ast.convR, Ast.convert, castVal, Ir.eval, Ir.constVal, BitVec.ofInt_toInt]
  · have hl' : Ir.litlike e = false := by simpa using hl
    rw [(h.plain hl').2 σ, astTy, if_neg hl, convR_self]

theorem Sim.castR {W : World} {env : Ast.Env} {e : Ir.Expr} {a : HlslAst.Expr} {t : Ty}
    (h : Sim W env e a t) (T : Ty) (σ : Store) :
    castR W.P T (Ast.eval W env a σ) = castR W.P T (Ir.eval W e σ) := by
  by_cases hl : Ir.litlike e = true
  · obtain ⟨v, rfl⟩ := litlike_cases hl
    simp [h.lit.2 σ, Ir.eval, Ir.constVal, castVal_lit_int, Spec.Sem.castR]
  · have hl' : Ir.litlike e = false := by simpa using hl
    rw [(h.plain hl').2 σ]

theorem Sim.drop {W : World} {env : Ast.Env} {e : Ir.Expr} {a : HlslAst.Expr} {t : Ty}
    (h : Sim W env e a t) (σ : Store) : dropVal (Ast.eval W env a σ) = dropVal (Ir.eval W e σ) := by
  rw [h.2 σ]; cases Ir.eval W e σ <;> simp [dropVal]

theorem Sim.cond {W : World} {env : Ast.Env} {e : Ir.Expr} {a : HlslAst.Expr} {t : Ty}
    (h : Sim W env e a t) (σ : Store) :
    condOfB W.P (Ast.eval W env a σ) = condOfB W.P (Ir.eval W e σ) := by
  by_cases hl : Ir.litlike e = true
  · obtain ⟨v, rfl⟩ := litlike_cases hl
    simp [h.lit.2 σ, Ir.eval, Ir.constVal, condOfB, castVal_lit_int]
  · have hl' : Ir.litlike e = false := by simpa using hl
    rw [(h.plain hl').2 σ]

theorem findArm_bool : findArm .Bool 0 = some (.plain .Bool) := rfl
theorem findArm_uint (v : Int) : findArm .UInt32 v = some (.widen .IntUnsigned32) := rfl
theorem findArm_f32 : findArm .Float32 0 = some (.plain .Float32) := rfl
theorem findArm_flit : findArm .FloatLiteral 0 = some (.plain .FloatUntyped) := rfl
theorem findArm_int32_neg (v : Int) (h : v < 0) : findArm .Int32 v = some (.negMinusAbs .IntUntyped) := by
  simp [findArm, literalArms, guardHolds, h]
theorem findArm_int32_nonneg (v : Int) (h : ¬ v < 0) : findArm .Int32 v = some (.widen .IntUntyped) := by
  simp [findArm, literalArms, guardHolds, h]
theorem findArm_intLit_neg (v : Int) (h : v < 0) (h2 : -v ≤ u64Max) : findArm .IntLiteral v = some (.negMinus .IntUntyped) := by
  simp [findArm, literalArms, guardHolds, h, h2]
theorem findArm_intLit_nonneg (v : Int) (h : 0 ≤ v) (h2 : v ≤ u64Max) : findArm .IntLiteral v = some (.widen .IntUntyped) := by
  have : ¬ v < 0 := by omega
  simp [findArm, literalArms, guardHolds, h, h2, this]
theorem findArm_intLit_big (v : Int) (h : ¬ (v < 0 ∧ -v ≤ u64Max)) (h2 : ¬ (0 ≤ v ∧ v ≤ u64Max)) :
    findArm .IntLiteral v = some (.errs "IntLiteralOutOfRange") := by
  simp [findArm, literalArms, guardHolds]
  constructor <;> omega

theorem genLiteral_bool (b : Bool) : genLiteral (.bool b) = .ok (.lit (.bool b)) := by
  simp [genLiteral, Const.kind, Const.intValue, findArm_bool, mkLit, Except.map]

theorem genLiteral_float32 (x : BitVec 32) : genLiteral (.float32 x) = .ok (.lit (.float32 x)) := by
  simp [genLiteral, Const.kind, Const.intValue, findArm_f32, mkLit, Except.map]

theorem genLiteral_floatLit (x : BitVec 64) : genLiteral (.floatLit x) = .ok (.lit (.floatUntyped x)) := by
  simp [genLiteral, Const.kind, Const.intValue, findArm_flit, mkLit, Except.map]

theorem genLiteral_uint32 (v : BitVec 32) : genLiteral (.uint32 v) = .ok (.lit (.intUnsigned32 v.toNat)) := by
  simp [genLiteral, Const.kind, Const.intValue, findArm_uint, mkLit, Except.map]

/-- a negative `Int32` is printed as unary minus applied to its magnitude (total, also on `i32::MIN`) -/
theorem genLiteral_int32 (v : BitVec 32) :
    genLiteral (.int32 v) =
      if v.toInt < 0 then .ok (.un .Minus (.lit (.intUntyped (-v.toInt).toNat))) else .ok (.lit (.intUntyped v.toNat)) := by
  by_cases h : v.toInt < 0
  · simp [genLiteral, Const.kind, Const.intValue, findArm_int32_neg _ h, negMagnitude, h]
  · simp [genLiteral, Const.kind, Const.intValue, findArm_int32_nonneg _ h, mkLit, Except.map, h]

theorem genLiteral_intLit (v : Int) :
    genLiteral (.intLit v) =
      if v < 0 ∧ -v ≤ u64Max then .ok (.un .Minus (.lit (.intUntyped (-v).toNat)))
      else if 0 ≤ v ∧ v ≤ u64Max then .ok (.lit (.intUntyped v.toNat))
      else .error (.diag "IntLiteralOutOfRange") := by
  by_cases h1 : v < 0 ∧ -v ≤ u64Max
  · simp [genLiteral, Const.kind, Const.intValue, findArm_intLit_neg v h1.1 h1.2, negMagnitude, h1]
  · by_cases h2 : 0 ≤ v ∧ v ≤ u64Max
    · simp only [if_neg h1, if_pos h2]
      simp [genLiteral, Const.kind, Const.intValue, findArm_intLit_nonneg v h2.1 h2.2, mkLit, Except.map]
    · simp only [if_neg h1, if_neg h2]
      simp [genLiteral, Const.kind, Const.intValue, findArm_intLit_big v h1 h2]

/-- `generate_literal` output has the same value, and its static type is the constant's type (literal int for an
unsuffixed `Int32`) -/
theorem sim_lit (W : World) (env : Ast.Env) (c : Const) (a : HlslAst.Expr)
    (hg : genLiteral c = .ok a) : Sim W env (.lit c) a c.ty := by
  cases c with
  | bool x | float32 x | floatLit x =>
    simp only [genLiteral_bool, genLiteral_float32, genLiteral_floatLit] at hg; cases hg
    exact .of_plain rfl rfl fun σ => rfl
  | uint32 v =>
    rw [genLiteral_uint32] at hg; cases hg
    exact .of_plain rfl rfl fun σ => by simp [Ast.eval, Ir.eval, Ast.litVal, Ir.constVal]
  | intLit v =>
    rw [genLiteral_intLit] at hg
    split at hg
    · cases hg
      refine .of_plain rfl rfl fun σ => ?_
      simp [Ast.typeOf, Ast.litTy, Ast.eval, Ir.eval, Ast.litVal, Ir.constVal, astUnSem, Ast.convR, Ast.convert, unop]
      omega
    · split at hg
      · cases hg
        have : ((v.toNat : Nat) : Int) = v := by omega
        exact .of_plain rfl rfl fun σ => by simp [Ast.eval, Ir.eval, Ast.litVal, Ir.constVal, this]
      · cases hg
  | int32 v =>
    rw [genLiteral_int32] at hg
    split at hg
    · cases hg
      simp [Sim, Ast.typeOf, Ast.litTy, astTy, Ir.litlike, Ast.eval, Ir.eval, Ast.litVal, Ir.constVal, astVal,
        astUnSem, Ast.convR, Ast.convert, unop]
      omega
    · rename_i h1
      cases hg
      have : ((v.toNat : Nat) : Int) = v.toInt := by
        rw [BitVec.toInt_eq_toNat_cond] at h1 ⊢
        split at h1 <;> split <;> omega
      simp [Sim, Ast.typeOf, Ast.litTy, astTy, Ir.litlike, Ast.eval, Ir.eval, Ast.litVal, Ir.constVal, astVal, this]
end RsslVerif.Lemmas.GenSem
