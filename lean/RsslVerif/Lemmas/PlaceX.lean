import RsslVerif.Lemmas.ProjX
/-! Lemmas for C03, extended language: `check_mutable_place` establishes `Spec.ElabX.MutablePlace`; a place
that projects from a base makes the base a place; projection chains of the source language elaborate to projections of the
elaborated base, and never subscript a resource on the way if the base is const numeric; the target of an accepted assignment
and the operand of an accepted `++` / `--` elaborate to places; what an accepted call went through, and that the source
arguments in its `out` / `inout` positions elaborate to places. Core Lean only. -/
namespace RsslVerif.Lemmas.PlaceX
open RsslVerif.Gen.RankTable RsslVerif.Gen.TypingTables RsslVerif.Model.Conv RsslVerif.Model.Overload
open RsslVerif.Model.IrTyping (FuncSig opReturn boolOf)
open RsslVerif.Model.Elab (Err enforceIncrement isOutputParam)
open RsslVerif.Model.IrTypingX RsslVerif.Model.ElabX RsslVerif.Model.StmtX RsslVerif.Spec.ElabX
open RsslVerif.Lemmas.ElabConv RsslVerif.Lemmas.ElabX RsslVerif.Lemmas.ElabFormsX RsslVerif.Lemmas.ElabExactX
open RsslVerif.Lemmas.ElabReleaseX RsslVerif.Lemmas.ElabNewX RsslVerif.Lemmas.ElabSoundX RsslVerif.Lemmas.ProjX

variable {Γ : Env}

theorem isConstTy_true : ∀ (f : Nat) (t : Ty), isConstTy Γ f t = some true → ConstTy Γ t := by
  intro f t
  fun_induction isConstTy Γ f t <;> intro h <;> try cases h
  case case2 hm => exact .mod (by simpa using h)
  case case3 hm id hl elem len ho ih => exact .array (by simpa using hm) hl ho (ih h)

theorem isConstTy_false : ∀ (f : Nat) (t : Ty), isConstTy Γ f t = some false → ¬ ConstTy Γ t := by
  intro f t
  fun_induction isConstTy Γ f t <;> intro h hc
  case case1 => cases h
  -- a modified type is what its modifier says
  case case2 hm =>
    cases hc with
    | mod h1 => rw [h1] at h; cases h
    | array hm' _ _ _ => exact hm hm'
  -- an unmodified type is const only as an array of const elements
  case case3 t hm id hl elem len ho ih =>
    cases hc with
    | mod h1 => rw [show t.mod = {} by simpa using hm] at h1; cases h1
    | array _ hl' ho' hce =>
      cases hl.symm.trans hl'
      cases ho.symm.trans ho'
      exact ih h hce
  case case4 t hm id hl hna =>
    cases hc with
    | mod h1 => rw [show t.mod = {} by simpa using hm] at h1; cases h1
    | array _ hl' ho' _ => cases hl.symm.trans hl'; exact hna _ _ ho'
  case case5 t hm hno =>
    cases hc with
    | mod h1 => rw [show t.mod = {} by simpa using hm] at h1; cases h1
    | array _ hl' _ _ => exact hno _ hl'

/-- a const type is never reported as non-const, whatever the fuel -/
theorem isConstTy_of_const {f : Nat} {t : Ty} (hc : ConstTy Γ t) : isConstTy Γ f t ≠ some false :=
  fun h => isConstTy_false f t h hc

theorem isObjectTy_iff {l : Layer} : isObjectTy Γ l = true ↔ IsObject Γ l := by
  constructor
  · intro h
    revert h
    fun_cases isObjectTy Γ l <;> intro h <;> cases h
    · rename_i id ho; exact ⟨id, rfl, Or.inl ho⟩
    · rename_i id k e ho; exact ⟨id, rfl, Or.inr ⟨k, e, ho⟩⟩
  · rintro ⟨id, rfl, ho | ⟨k, e, ho⟩⟩ <;> simp [isObjectTy, ho]

theorem hasType_fun {e : IExpr} {τ τ' : ETy} (h : HasType Γ e τ) (h' : HasType Γ e τ') : τ = τ' := by
  have e1 := typeOf_of_hasType e τ h
  have e2 := typeOf_of_hasType e τ' h'
  rw [e1] at e2; simpa using e2

theorem hasType_member_obj {o : IExpr} {sid idx : Nat} {τ : ETy} (h : HasType Γ (.member o sid idx) τ) :
    ∃ τo, HasType Γ o τo := by
  cases h with
  | member ho _ _ _ => exact ⟨_, ho⟩

theorem hasType_swizzle_obj {o : IExpr} {slots : List Nat} {τ : ETy} (h : HasType Γ (.swizzle o slots) τ) :
    ∃ τo, HasType Γ o τo := by
  cases h with
  | swizzleS ho _ _ _ => exact ⟨_, ho⟩
  | swizzleV ho _ _ _ => exact ⟨_, ho⟩

theorem hasType_mswizzle_obj {o : IExpr} {slots : List (Nat × Nat)} {τ : ETy} (h : HasType Γ (.mswizzle o slots) τ) :
    ∃ τo, HasType Γ o τo := by
  cases h with
  | mswizzle ho _ _ _ => exact ⟨_, ho⟩

theorem hasType_index_obj {o i : IExpr} {τ : ETy} (h : HasType Γ (.index o i) τ) : ∃ τo, HasType Γ o τo := by
  cases h with
  | indexV ho _ _ => exact ⟨_, ho⟩
  | indexM ho _ _ => exact ⟨_, ho⟩
  | indexA ho _ _ _ => exact ⟨_, ho⟩
  | indexR ho _ _ _ _ => exact ⟨_, ho⟩

theorem placeStep_ok {e : IExpr} {τ : ETy} {k : Unit → Except Err Unit} (he : HasType Γ e τ)
    (h : placeStep Γ e k = .ok ()) : τ.vt = .lvalue ∧ ¬ ConstTy Γ τ.ty ∧ k () = .ok () := by
  revert h
  fun_cases placeStep Γ e k <;> intro h <;> try cases h
  rename_i τ1 ht hv hc
  cases (typeOf_of_hasType e τ he).symm.trans ht
  exact ⟨by simpa using hv, isConstTy_false _ _ hc, h⟩

/-- a step of the loop never succeeds on an rvalue or on a const type -/
theorem placeStep_fails {e : IExpr} {τ : ETy} {k : Unit → Except Err Unit} (he : HasType Γ e τ)
    (hbad : τ.vt = .rvalue ∨ ConstTy Γ τ.ty) : placeStep Γ e k ≠ .ok () := by
  intro h
  obtain ⟨hv, hc, _⟩ := placeStep_ok he h
  rcases hbad with hr | hcc
  · rw [hr] at hv; simp at hv
  · exact hc hcc

theorem checkMutablePlace_sound (e : IExpr) (τ : ETy) (he : HasType Γ e τ) (h : checkMutablePlace Γ e = .ok ()) :
    MutablePlace Γ e := by
  fun_induction checkMutablePlace Γ e generalizing τ
  case case1 o _ _ ih =>
    obtain ⟨hv, hc, hk⟩ := placeStep_ok he h
    obtain ⟨τo, ho⟩ := hasType_member_obj he
    exact .member he hv hc (ih τo ho hk)
  case case2 o _ ih =>
    obtain ⟨hv, hc, hk⟩ := placeStep_ok he h
    obtain ⟨τo, ho⟩ := hasType_swizzle_obj he
    exact .swizzle he hv hc (ih τo ho hk)
  case case3 o _ ih =>
    obtain ⟨hv, hc, hk⟩ := placeStep_ok he h
    obtain ⟨τo, ho⟩ := hasType_mswizzle_obj he
    exact .mswizzle he hv hc (ih τo ho hk)
  case case4 o _ ih =>
    obtain ⟨hv, hc, hk⟩ := placeStep_ok he h
    obtain ⟨τo, ho⟩ := hasType_index_obj he
    simp only [typeOf_of_hasType o τo ho] at hk
    by_cases hob : isObjectTy Γ τo.ty.layer = true
    · exact .resourceElement he hv hc ho (isObjectTy_iff.mp hob)
    · simp only [hob] at hk
      exact .element he hv hc ho (fun hh => hob (isObjectTy_iff.mpr hh)) (ih τo ho hk)
  -- every other node ends the loop of `check_mutable_place` after one step
  all_goals
    obtain ⟨hv, hc, _⟩ := placeStep_ok he h
    exact .root he hv hc rfl

/-- a place is itself a non-const lvalue -/
theorem place_base {b : IExpr} {τ : ETy} (hp : MutablePlace Γ b) (hb : HasType Γ b τ) :
    τ.vt = .lvalue ∧ ¬ ConstTy Γ τ.ty := by
  cases hp with
  | member h hv hc _ => have := hasType_fun hb h; subst this; exact ⟨hv, hc⟩
  | swizzle h hv hc _ => have := hasType_fun hb h; subst this; exact ⟨hv, hc⟩
  | mswizzle h hv hc _ => have := hasType_fun hb h; subst this; exact ⟨hv, hc⟩
  | element h hv hc _ _ _ => have := hasType_fun hb h; subst this; exact ⟨hv, hc⟩
  | resourceElement h hv hc _ _ => have := hasType_fun hb h; subst this; exact ⟨hv, hc⟩
  | root h hv hc _ => have := hasType_fun hb h; subst this; exact ⟨hv, hc⟩

/-- **every object a place projects from is a place** (as long as no buffer / texture is subscripted on the way) -/
theorem place_of_proj {e b : IExpr} (hp : ProjOf Γ e b) : MutablePlace Γ e → MutablePlace Γ b := by
  induction hp with
  | refl => exact id
  | member _ ih =>
    intro h
    cases h with
    | member _ _ _ ho => exact ih ho
    | root _ _ _ hpj => simp [isProjection] at hpj
  | swizzle _ ih =>
    intro h
    cases h with
    | swizzle _ _ _ ho => exact ih ho
    | root _ _ _ hpj => simp [isProjection] at hpj
  | mswizzle _ ih =>
    intro h
    cases h with
    | mswizzle _ _ _ ho => exact ih ho
    | root _ _ _ hpj => simp [isProjection] at hpj
  | index _ hno ih =>
    intro h
    cases h with
    | element _ _ _ _ _ ho => exact ih ho
    | resourceElement _ _ _ hto hob => exact absurd hob (hno _ hto)
    | root _ _ _ hpj => simp [isProjection] at hpj

theorem projOf_trans {e m b : IExpr} (h1 : ProjOf Γ e m) (h2 : ProjOf Γ m b) : ProjOf Γ e b := by
  induction h1 with
  | refl => exact h2
  | member _ ih => exact .member (ih h2)
  | swizzle _ ih => exact .swizzle (ih h2)
  | mswizzle _ ih => exact .mswizzle (ih h2)
  | index _ hno ih => exact .index (ih h2) hno

/-- a place does not project from an rvalue or from a const object -/
theorem not_place_of_bad_base {e b : IExpr} {τ0 : ETy} (hp : ProjOf Γ e b) (hb : HasType Γ b τ0)
    (hbad : τ0.vt = .rvalue ∨ ConstTy Γ τ0.ty) : ¬ MutablePlace Γ e := by
  intro h
  obtain ⟨hv, hc⟩ := place_base (place_of_proj hp h) hb
  rcases hbad with hr | hcc
  · rw [hr] at hv; simp at hv
  · exact hc hcc

/-- no subscript of the chain is applied to a buffer / texture (whose elements are not part of the value of the variable
    that holds the handle: `RWStructuredBuffer<float4> b; b[i].x = ..` writes through a read-only handle) -/
def NoResourceStep (dbg : Bool) (Γ : Env) : SExpr → List Proj → Prop
  | _, [] => True
  | e, .member n :: ps => NoResourceStep dbg Γ (.member e n) ps
  | e, .index i :: ps =>
    (∀ e' τ, elabE dbg Γ e = .ok (e', τ) → ¬ IsObject Γ τ.ty.layer) ∧ NoResourceStep dbg Γ (.index e i) ps

/-- chains of `.name` steps never subscript anything -/
theorem noResourceStep_members {dbg : Bool} : ∀ (names : List String) (e : SExpr),
    NoResourceStep dbg Γ e (memberChain names)
  | [], _ => trivial
  | n :: names, e => by
    simp only [memberChain, List.map, NoResourceStep]
    exact noResourceStep_members names (.member e n)

/-- numeric values are not objects -/
theorem numeric_not_object {l : Layer} (h : l.isNumeric = true) : ¬ IsObject Γ l := by
  rintro ⟨id, rfl, _⟩
  simp [Layer.isNumeric] at h

theorem elabMember_shape {name : String} {e n : IExpr} {τ τ' : ETy} (h : elabMember Γ name e τ = .ok (n, τ')) :
    ProjOf Γ n e := by
  obtain ⟨_, hk⟩ := elabMember_ok h
  rcases hk with ⟨_, _, _, _, _, _, _, rfl, _⟩ | ⟨_, _, _, _, _, rfl, _⟩ | ⟨_, _, _, _, _, _, rfl, _⟩ |
    ⟨_, _, _, _, _, _, rfl, _⟩
  · exact .member (.refl _)
  · exact .swizzle (.refl _)
  · exact .swizzle (.refl _)
  · exact .mswizzle (.refl _)

/-- if the elaboration of the prefix `e` projects from `b` whenever `e` is accepted, so does that of `e.p₁…pₙ`: the recursion
    goes forward along the chain, so nothing has to be taken off an accepted chain -/
theorem chain_projOf_from {dbg : Bool} (b : IExpr) : ∀ (ps : List Proj) (e : SExpr), NoResourceStep dbg Γ e ps →
    (∀ e0 τ0, elabE dbg Γ e = .ok (e0, τ0) → ProjOf Γ e0 b) →
    ∀ r, elabE dbg Γ (applyChain e ps) = .ok r → ProjOf Γ r.1 b
  | [], _, _, hb, r, h => hb r.1 r.2 h
  | .member n :: ps, e, hn, hb, r, h => chain_projOf_from b ps (.member e n) hn (fun e1 τ1 h1 => by
      obtain ⟨e0, τ0, h0, hm⟩ := elabE_member_ok h1
      exact projOf_trans (elabMember_shape hm) (hb e0 τ0 h0)) r h
  | .index i :: ps, e, hn, hb, r, h => chain_projOf_from b ps (.index e i) hn.2 (fun e1 τ1 h1 => by
      obtain ⟨a0, τa, _, _, ha, _, hx⟩ := elabE_index_ok h1
      obtain ⟨_, _, _, _, _, _, rfl, _⟩ := elabIndex_ok hx
      refine .index (hb a0 τa ha) fun τo hto => ?_
      obtain rfl := hasType_fun hto (elab_sound_any dbg e _ _ ha)
      exact hn.1 _ _ ha) r h

/-- **the elaboration of `base.p₁.p₂…` projects from the elaboration of `base`** -/
theorem chain_projOf {dbg : Bool} : ∀ (ps : List Proj) (e : SExpr) (e0 : IExpr) (τ0 : ETy) (r : IExpr × ETy),
    elabE dbg Γ e = .ok (e0, τ0) → NoResourceStep dbg Γ e ps → elabE dbg Γ (applyChain e ps) = .ok r →
    ProjOf Γ r.1 e0 := fun ps e e0 τ0 r h0 hn h =>
  chain_projOf_from e0 ps e hn (fun _ _ h1 => by rw [h0] at h1; cases h1; exact .refl _) r h

/-- every prefix of a chain on a const scalar / vector / matrix is const numeric again, so no step subscripts a buffer /
    texture -/
theorem noResourceStep_of_constNum {dbg : Bool} : ∀ (ps : List Proj) (e : SExpr),
    (∀ e0 τ0, elabE dbg Γ e = .ok (e0, τ0) → ConstNum τ0) → NoResourceStep dbg Γ e ps
  | [], _, _ => trivial
  | .member n :: ps, e, hc => noResourceStep_of_constNum ps (.member e n) fun e1 τ1 h1 => by
    obtain ⟨e0, τ0, h0, hm⟩ := elabE_member_ok h1
    exact elabMember_constNum (hc e0 τ0 h0) hm
  | .index i :: ps, e, hc =>
    ⟨fun e0 τ0 h0 => numeric_not_object (hc e0 τ0 h0).2,
     noResourceStep_of_constNum ps (.index e i) fun e1 τ1 h1 => by
      obtain ⟨a0, τa, _, _, ha, _, hx⟩ := elabE_index_ok h1
      exact elabIndex_constNum (elab_sound_any dbg e _ _ ha) (hc a0 τa ha) hx⟩

/-- the target of an accepted assignment elaborates to a mutable place (it passed `check_mutable_place`), which is the left
    operand of the node -/
theorem elabE_assign_inv {dbg : Bool} {o : BinOp} {a b : SExpr} {r : IExpr × ETy} (ho : o.cls = .assign)
    (h : elabE dbg Γ (.bin o a b) = .ok r) :
    ∃ a' τa i b', elabE dbg Γ a = .ok (a', τa) ∧ MutablePlace Γ a' ∧ r.1 = .op i (.cons a' (.cons b' .nil)) := by
  obtain ⟨n, τ'⟩ := r
  obtain ⟨a1, τa, b1, τb, ha, hb, hn⟩ := elabE_bin_ok h
  simp only [ho] at hn
  obtain ⟨_, _, hp, _, b', i, _, _, _, _, rfl⟩ := elabAssign_inv hn
  exact ⟨a1, τa, i, b', ha, checkMutablePlace_sound a1 τa (elab_sound_any dbg a a1 τa ha) hp, rfl⟩

/-- the operand of an accepted `++` / `--` elaborates to a mutable place (it passed `check_mutable_place`) -/
theorem elabE_incr_inv {dbg : Bool} {o : UnOp} {e : SExpr} {r : IExpr × ETy}
    (ho : o = .prefixIncrement ∨ o = .prefixDecrement ∨ o = .postfixIncrement ∨ o = .postfixDecrement)
    (h : elabE dbg Γ (.un o e) = .ok r) :
    ∃ e' τ, elabE dbg Γ e = .ok (e', τ) ∧ MutablePlace Γ e' := by
  obtain ⟨n, τ'⟩ := r
  obtain ⟨e1, τ1, h1, hn⟩ := elabE_un_ok h
  refine ⟨e1, τ1, h1, checkMutablePlace_sound e1 τ1 (elab_sound_any dbg e e1 τ1 h1) ?_⟩
  rcases ho with rfl | rfl | rfl | rfl <;>
  · simp only [elabUn] at hn
    split at hn
    · simp at hn
    · split at hn
      · simp at hn
      · rename_i hp; exact hp

theorem checkOutArgs_places : ∀ (ps : List Param) (as : IArgs) (us : List ETy),
    HasArgs Γ as us → checkOutArgs Γ ps as = .ok () → OutArgsPlaces Γ ps as := by
  intro ps as
  fun_induction checkOutArgs Γ ps as <;> intro us hu h
  case case1 => cases h
  case case2 e _ _ _ hp ih =>
    cases hu with
    | cons he hr => exact ⟨fun _ => checkMutablePlace_sound e _ he hp, ih _ hr h⟩
  case case3 hio ih =>
    cases hu with
    | cons he hr => exact ⟨fun hh => absurd (by rw [isOutputParam_eq]; exact hh) hio, ih _ hr h⟩
  -- `zip` has run out of parameters or of arguments
  case case4 hne =>
    unfold OutArgsPlaces
    split
    · exact (hne _ _ _ _ rfl rfl).elim
    · trivial

/-- an accepted call: its arguments were accepted, a function of that name was selected among the candidates, the arguments
    converted to its parameter types have exactly those types, and those for `out` / `inout` parameters are places -/
theorem elabE_call_inv {dbg : Bool} {name : Nat} {args : SArgs} {r : IExpr × ETy} (h : elabE dbg Γ (.call name args) = .ok r) :
    ∃ as1 ts id s as' us, elabArgs dbg Γ args = .ok (as1, ts) ∧ Γ.funcs[id]? = some s ∧ s.name = name ∧
      (⟨id, s.params, s.nonDefault⟩ : Cand) ∈ candidates Γ name ∧ CastArgs s.params as1 ts as' ∧ HasArgs Γ as' us ∧
      ArgsMatch us s.params ∧ OutArgsPlaces Γ s.params as' ∧ r = (.call id as', s.ret.r) := by
  obtain ⟨n, τ⟩ := r
  obtain ⟨as1, ts, ha, hcall⟩ := elabE_call_ok h
  obtain ⟨id, s, as', hsel, hs, hca, hco, rfl, rfl⟩ := elabCall_inv hcall
  obtain ⟨s0, _, hs0, hn, hc, _⟩ := selected_sig hsel
  cases hs.symm.trans hs0
  obtain ⟨us, h1, h2⟩ := castArgs_exact hca (elabArgs_sound_any dbg args as1 ts ha)
  exact ⟨as1, ts, id, s, as', us, ha, hs, hn, hc, hca, h1, h2, checkOutArgs_places _ _ us h1 hco, rfl⟩

def SArgs.toList : SArgs → List SExpr
  | .nil => []
  | .cons e r => e :: SArgs.toList r

/-- a converted argument that is a place is the argument itself: `apply` only ever adds rvalue nodes -/
theorem place_not_converted {e e' : IExpr} {s d : ETy} {c : Conversion} (he : HasType Γ e s)
    (hf : find s d = .ok (some c)) (ha : applyConv c e = .ok e') (hp : MutablePlace Γ e') : e' = e := by
  obtain ⟨τ', h1, _, hor⟩ := applyConv_type he hf ha
  rcases hor with ⟨rfl, _⟩ | hr
  · rfl
  · obtain ⟨hv, _⟩ := place_base hp h1
    rw [hr] at hv; simp at hv

/-- the source argument in an `out` / `inout` position of an accepted call elaborates to a place: the converted argument is a
    place, and a place is not the result of a conversion -/
theorem outArg_place {dbg : Bool} : ∀ (args : SArgs) (ps : List Param) (as1 as' : IArgs) (ts : List ETy) (i : Nat) (p : Param)
    (e : SExpr), elabArgs dbg Γ args = .ok (as1, ts) → CastArgs ps as1 ts as' → OutArgsPlaces Γ ps as' → ps[i]? = some p →
    (SArgs.toList args)[i]? = some e → p.io.needsLvalue = true → ∃ e' τ, elabE dbg Γ e = .ok (e', τ) ∧ MutablePlace Γ e'
  | .nil, _, _, _, _, _, _, _, _, _, _, _, hi, _ => by simp [SArgs.toList] at hi
  | .cons a r, _, _, _, _, i, p, e, h, hca, hpl, hp, hi, hio => by
    obtain ⟨a1, τ1, r1, ts1, h1, hr, rfl, rfl⟩ := elabArgs_cons_ok h
    cases hca with
    | cons hf hc hrest =>
      cases i with
      | zero =>
        simp [SArgs.toList] at hi hp; subst hi hp
        have hm := hpl.1 hio
        obtain rfl := place_not_converted (elab_sound_any dbg _ _ _ h1) hf hc hm
        exact ⟨_, τ1, h1, hm⟩
      | succ j =>
        exact outArg_place r _ r1 _ ts1 j p e hr hrest hpl.2 (by simpa using hp) (by simpa [SArgs.toList] using hi) hio

end RsslVerif.Lemmas.PlaceX
