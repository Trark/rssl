import RsslVerif.Lemmas.StmtRT0
/-! Round trip of local variable definitions: initialisers, init-declarator lists, the shared type. -/
set_option linter.unusedSimpArgs false
namespace RsslVerif.Lemmas.StmtRT
open RsslVerif.Gen.FmtTables RsslVerif.Gen.ParseTables RsslVerif.Gen.SyntaxTables RsslVerif.Model.Format
open RsslVerif.Model.FormatFull RsslVerif.Model.ParseFull RsslVerif.Model.FormatStmt RsslVerif.Model.ParseStmt
open RsslVerif.Lemmas.FmtParseTables RsslVerif.Lemmas.RoundtripFull

variable (W : List String)

/-- the tokens of a declarator do not depend on `single_declaration` (it only places spaces) -/
theorem toks_fmtDecl_single : (d : Decl) → (s : Bool) → toks (fmtDecl d s) = toks (fmtDecl d true)
  | .empty, _ => rfl
  | .name n, s => by cases s <;> simp [fmtDecl]
  | .ptr q i, s => by
    simp only [fmtDecl, toks_cons_t, toks_append, pp, toks_fmtMods_after]
    rw [toks_fmtDecl_single i s]
    cases s <;> simp [toks_fmtMods_before, toks_fmtMods_after]
  | .ref i, s => by simp only [fmtDecl, toks_cons_t, pp]; rw [toks_fmtDecl_single i s]
  | .arr i e, s => by
    simp only [fmtDecl, toks_append]
    rw [toks_fmtDecl_single i (s && !i.needsScope), toks_fmtDecl_single i (true && !i.needsScope)]
    cases s <;> cases i.needsScope <;> simp
  | .arrN i, s => by
    simp only [fmtDecl, toks_append]
    rw [toks_fmtDecl_single i (s && !i.needsScope), toks_fmtDecl_single i (true && !i.needsScope)]
    cases s <;> cases i.needsScope <;> simp

theorem inert_rbrace (k : Nat) (term : Terminator) (rest : List Tok) : Inert W k term (.p .RightBrace :: rest) := by
  apply inert_of
  · intro _; simp [NoPostfix, Tok.isLt]
  · intro _; simp [LevelParser.NoQuestion]
  · intro _ _ _; exact parseOpAt_of_opensAny rfl k term rest

/-- what follows an initialiser: `,`, `}` or `;` -/
def InitRest (rest : List Tok) : Prop :=
  ∃ r, rest = .p .Comma :: r ∨ rest = .p .RightBrace :: r ∨ rest = .p .Semicolon :: r

theorem initRest_inert {rest : List Tok} (h : InitRest rest) (k : Nat) : Inert W k .Sequence rest := by
  obtain ⟨r, rfl | rfl | rfl⟩ := h
  · exact inert_closes W k _ _ _ (Or.inr (Or.inr (Or.inr (Or.inr (Or.inl ⟨rfl, rfl⟩)))))
  · exact inert_rbrace W k _ r
  · exact inert_closes W k _ _ _ (Or.inr (Or.inr (Or.inr (Or.inl rfl))))

theorem initExpr_reads (e : XExpr) (hwf : WF W e) (rest : List Tok) (hr : InitRest rest)
    (hsafe : hasLt e = true → TmplFree (toks (fmtSubX e initPrec initSide) ++ rest) = true) :
    ∃ N, ∀ f, N ≤ f → xparseLvl W f 15 initTerminator (toks (fmtSubX e initPrec initSide) ++ rest) = some (e, rest) := by
  have hpo : PosOk initPrec initSide := Or.inl (by decide)
  exact rts_self W (rt W e hwf) hwf hpo 15 .Sequence rest 14 (by omega) (pos_commaList e.prec_lvl)
    (by omega) nofun hsafe
    (fun i _ _ => initRest_inert W hr i) (fun _ => initRest_inert W hr 15)

mutual
def WFInit : Init → Prop
  | .expr e => WF W e
  | .agg l => WFInits l
def WFInits : Inits → Prop
  | .nil => True
  | .cons i r => WFInit i ∧ WFInits r
end

def RInit (i : Init) : Prop :=
  ∀ rest, InitRest rest → (hasLtInit i = true → TmplFree (toks (fmtInit i) ++ rest) = true) →
    ∃ N, ∀ f, N ≤ f → parseInitAny W f (toks (fmtInit i) ++ rest) = some (i, rest)

/-- the elements of a non-empty aggregate up to (not including) the closing brace -/
def RInits : Inits → Prop
  | .nil => True
  | .cons i r => ∀ rest,
      (hasLtInits (.cons i r) = true → TmplFree (toks (fmtInit i) ++ (toks (fmtInitTail r) ++ .p .RightBrace :: rest)) = true) →
      ∃ N, ∀ f, N ≤ f → parseInitList W f (toks (fmtInit i) ++ (toks (fmtInitTail r) ++ .p .RightBrace :: rest)) =
        some (.cons i r, .p .RightBrace :: rest)

theorem rInit_aggNil : RInit W (.agg .nil) := by
  intro rest hr _
  refine ⟨2, fun f hf => ?_⟩
  obtain ⟨f', rfl, hf'⟩ := LevelParser.succ_of_pos hf
  obtain ⟨f'', rfl, _⟩ := LevelParser.succ_of_pos hf'
  simp [RsslVerif.Model.FormatStmt.fmtInit, pp, parseInitAny, parseInitList]

theorem rInit_agg (i : Init) (r : Inits) (ih : RInits W (.cons i r)) : RInit W (.agg (.cons i r)) := by
  intro rest hr hsafe
  have htoks : toks (fmtInit (.agg (.cons i r))) ++ rest =
      .p .LeftBrace :: (toks (fmtInit i) ++ (toks (fmtInitTail r) ++ .p .RightBrace :: rest)) := by
    simp [RsslVerif.Model.FormatStmt.fmtInit, pp]
  rw [htoks] at hsafe ⊢
  have h := ih rest (SafeAt.mono (SafeAt.cons hsafe) fun hl => by simpa [hasLtInit] using hl)
  refine LevelParser.Ev.step h fun f h => ?_
  unfold parseInitAny
  simp [h]

theorem badHead_lbrace : BadHead (.p .LeftBrace) := badHead_p (by decide) rfl (by decide)
theorem badHead_rbrace : BadHead (.p .RightBrace) := badHead_p (by decide) rfl (by decide)

/-! The arms of `init_any` and of the aggregate list on raw tokens.  That the text does not start with `{` or `}` is read
off what the sub-parser accepted, not off the printed form. -/

theorem parseInitAny_expr {f : Nat} {ts : List Tok} {e : XExpr} {r : List Tok}
    (h : xparseLvl W f 15 initTerminator ts = some (e, r)) : parseInitAny W (f + 1) ts = some (.expr e, r) := by
  unfold parseInitAny
  split
  · rw [xparseLvl_badhead W _ _ badHead_lbrace] at h; cases h
  · rw [h]

theorem parseInitAny_rbrace (f : Nat) (r : List Tok) : parseInitAny W f (.p .RightBrace :: r) = none := by
  cases f with
  | zero => simp [parseInitAny]
  | succ f => simp [parseInitAny, xparseLvl_badhead W _ _ badHead_rbrace]

theorem parseInitList_last {f : Nat} {ts : List Tok} {i : Init} {r : List Tok}
    (h : parseInitAny W f ts = some (i, .p .RightBrace :: r)) :
    parseInitList W (f + 1) ts = some (.cons i .nil, .p .RightBrace :: r) := by
  unfold parseInitList
  split
  · rw [parseInitAny_rbrace] at h; cases h
  · rw [h]

theorem parseInitList_more {f : Nat} {ts ts2 : List Tok} {i j : Init} {l : Inits} {r : List Tok}
    (h1 : parseInitAny W f ts = some (i, .p .Comma :: ts2)) (h2 : parseInitList W f ts2 = some (.cons j l, r)) :
    parseInitList W (f + 1) ts = some (.cons i (.cons j l), r) := by
  -- the list after the comma is not empty: it does not start with `}`
  have hne : ∀ r', ts2 ≠ .p .RightBrace :: r' := by
    intro r' heq; subst heq; cases f <;> simp [parseInitList] at h2
  unfold parseInitList
  split
  · rw [parseInitAny_rbrace] at h1; cases h1
  · rw [h1]
    split
    · rename_i heq; cases heq; exact absurd rfl (hne _)
    · rename_i heq; cases heq; rw [h2]
    · rename_i h3 h4 heq; cases heq; exact (h4 _ rfl).elim
    · rename_i heq; cases heq

theorem rInit_expr (e : XExpr) (hw : WF W e) : RInit W (.expr e) := fun rest hr hsafe =>
  LevelParser.Ev.step (initExpr_reads W e hw rest hr (fun hl => hsafe (by simpa [hasLtInit] using hl))) fun _ h =>
    parseInitAny_expr W h

theorem rInits_single (i : Init) (ih : RInit W i) : RInits W (.cons i .nil) := by
  intro rest hsafe
  simp only [fmtInitTail, toks_nil, List.nil_append] at hsafe ⊢
  exact LevelParser.Ev.step (ih (.p .RightBrace :: rest) ⟨_, .inr (.inl rfl)⟩ (fun hl => hsafe (by simp [hasLtInits, hl]))) fun _ h =>
    parseInitList_last W h

theorem rInits_cons (i j : Init) (r : Inits) (ih : RInit W i) (ihr : RInits W (.cons j r)) :
    RInits W (.cons i (.cons j r)) := by
  intro rest hsafe
  have htail : toks (fmtInitTail (.cons j r)) = .p .Comma :: (toks (RsslVerif.Model.FormatStmt.fmtInit j) ++ toks (fmtInitTail r)) := by
    simp [fmtInitTail, comma, pp]
  rw [htail] at hsafe ⊢
  simp only [List.cons_append, List.append_assoc] at hsafe ⊢
  have h1 := ih (.p .Comma :: (toks (RsslVerif.Model.FormatStmt.fmtInit j) ++ (toks (fmtInitTail r) ++ .p .RightBrace :: rest))) ⟨_, .inl rfl⟩
    (fun hl => hsafe (by simp [hasLtInits, hl]))
  have h2 := ihr rest (SafeAt.mono (SafeAt.cons (SafeAt.append hsafe)) fun hl => by simp only [hasLtInits, Bool.or_eq_true] at hl ⊢; exact Or.inr hl)
  exact LevelParser.Ev.step (LevelParser.Ev.and h1 h2) fun _ ⟨h1, h2⟩ => parseInitList_more W h1 h2

mutual
theorem rIn : (i : Init) → WFInit W i → RInit W i
  | .expr e, h => rInit_expr W e h
  | .agg .nil, _ => rInit_aggNil W
  | .agg (.cons i r), h => rInit_agg W i r (rIns (.cons i r) h)
theorem rIns : (l : Inits) → WFInits W l → RInits W l
  | .nil, _ => trivial
  | .cons i .nil, h => rInits_single W i (rIn i h.1)
  | .cons i (.cons j r), h => rInits_cons W i j r (rIn i h.1) (rIns (.cons j r) h.2)
end
/-- tokens of one init-declarator -/
def idToks (d : InitDecl) : List Tok :=
  toks (fmtDecl d.decl true) ++ (match d.init with
    | none => []
    | some i => .p .Equals :: toks (RsslVerif.Model.FormatStmt.fmtInit i))

theorem toks_fmtInitDecl (d : InitDecl) (single : Bool) : toks (fmtInitDecl d single) = idToks d := by
  unfold fmtInitDecl idToks
  cases hd : d.init <;> cases single <;> simp [toks_fmtDecl_single d.decl false, pp]

/-- `, d` for every further init-declarator -/
def commaAll : List InitDecl → List Tok
  | [] => []
  | d :: r => .p .Comma :: (idToks d ++ commaAll r)

/-- tokens of a non-empty list of init-declarators: separated by commas -/
def idsToks : List InitDecl → List Tok
  | [] => []
  | d :: r => idToks d ++ commaAll r

theorem toks_go_false : ∀ (ds : List InitDecl) (single : Bool), toks (fmtInitDecls.go ds single false) = commaAll ds
  | [], _ => rfl
  | d :: r, single => by
    simp [fmtInitDecls.go, toks_fmtInitDecl, commaAll, toks_go_false r single, comma, pp]

theorem toks_fmtInitDecls (ds : List InitDecl) : toks (fmtInitDecls ds) = idsToks ds := by
  unfold fmtInitDecls
  cases ds with
  | nil => rfl
  | cons d r => simp [fmtInitDecls.go, toks_fmtInitDecl, idsToks, toks_go_false]

/-- an initialiser expression directly after `=` must not start with the name `StaticSampler` -/
def notStaticSampler : List Tok → Bool
  | .id "StaticSampler" :: _ => false
  | _ => true

def WFInitDecl (d : InitDecl) : Prop :=
  d.decl.abstr = false ∧ WFDecl W d.decl ∧
  (match d.init with
   | none => True
   | some i => WFInit W i ∧ notStaticSampler (toks (RsslVerif.Model.FormatStmt.fmtInit i)) = true)

def hasLtID (d : InitDecl) : Bool :=
  hasLtDecl d.decl || (match d.init with | none => false | some i => hasLtInit i)

/-- what follows an init-declarator: `,` or `;` -/
def IdRest (rest : List Tok) : Prop := (∃ r, rest = .p .Comma :: r) ∨ ∃ r, rest = .p .Semicolon :: r

/-- after `=`: an expression is read by the expression parser itself, an aggregate by `init_any` (same fuel) -/
theorem initializer_reads (i : Init) (hw : WFInit W i)
    (hss : notStaticSampler (toks (RsslVerif.Model.FormatStmt.fmtInit i)) = true) (rest : List Tok) (hr : InitRest rest)
    (hsafe : hasLtInit i = true → TmplFree (toks (RsslVerif.Model.FormatStmt.fmtInit i) ++ rest) = true) :
    LevelParser.Ev fun f => parseInitializer W f (.p .Equals :: (toks (RsslVerif.Model.FormatStmt.fmtInit i) ++ rest)) = some (some i, rest) := by
  cases i with
  | expr e =>
    obtain ⟨t, ts', h1, _⟩ := head_fmt W e hw initPrec initSide
    refine LevelParser.Ev.mono (initExpr_reads W e hw rest hr (fun hl => hsafe (by simpa [hasLtInit] using hl))) fun f h => ?_
    simp only [RsslVerif.Model.FormatStmt.fmtInit] at hss ⊢
    rw [h1] at h hss ⊢
    unfold parseInitializer
    split
    · rename_i heq; cases heq
    · rename_i heq; cases heq; simp [notStaticSampler] at hss
    · rename_i heq; cases heq; rw [List.cons_append, xparseLvl_badhead W _ _ badHead_lbrace] at h; cases h
    · rename_i heq; cases heq; rw [h]
    · rename_i h3; exact (h3 _ rfl).elim
  | agg l =>
    obtain ⟨tl, htl⟩ : ∃ tl, toks (RsslVerif.Model.FormatStmt.fmtInit (.agg l)) = .p .LeftBrace :: tl := by
      cases l <;> exact ⟨_, by simp only [RsslVerif.Model.FormatStmt.fmtInit, pp, toks_cons_t] <;> rfl⟩
    refine LevelParser.Ev.mono (rIn W (.agg l) hw rest hr hsafe) fun f h => ?_
    rw [htl] at h ⊢
    simp only [parseInitializer, List.cons_append] at h ⊢
    rw [h]

theorem initDecl_reads (d : InitDecl) (hw : WFInitDecl W d) (rest : List Tok) (hr : IdRest rest)
    (hsafe : hasLtID d = true → TmplFree (idToks d ++ rest) = true) :
    ∃ N, ∀ f, N ≤ f →
      (∃ r, parseDecl W f false (idToks d ++ rest) = some (d.decl, r) ∧ (∀ r', r ≠ .p .Colon :: r') ∧
        parseInitializer W f r = some (d.init, rest)) := by
  obtain ⟨hab, hwd, hwi⟩ := hw
  cases hi : d.init with
  | none =>
    have htoks : idToks d ++ rest = toks (fmtDecl d.decl true) ++ rest := by simp [idToks, hi]
    rw [htoks] at hsafe ⊢
    refine LevelParser.Ev.mono (rtDA W false d.decl hwd hab rest (by rcases hr with ⟨r, rfl⟩ | ⟨r, rfl⟩ <;> nofun)
      (fun hl => hsafe (by simp [hasLtID, hl]))) fun f h => ⟨rest, h, ?_, ?_⟩
    · rcases hr with ⟨r, rfl⟩ | ⟨r, rfl⟩ <;> nofun
    · rcases hr with ⟨r, rfl⟩ | ⟨r, rfl⟩ <;> rfl
  | some i =>
    rw [hi] at hwi
    have htoks : idToks d ++ rest = toks (fmtDecl d.decl true) ++
        (.p .Equals :: (toks (RsslVerif.Model.FormatStmt.fmtInit i) ++ rest)) := by simp [idToks, hi]
    rw [htoks] at hsafe ⊢
    have h1 := rtDA W false d.decl hwd hab (.p .Equals :: (toks (RsslVerif.Model.FormatStmt.fmtInit i) ++ rest))
      (by intro r h; cases h) (fun hl => hsafe (by simp [hasLtID, hl]))
    have h2 := initializer_reads W i hwi.1 hwi.2 rest
      (by rcases hr with ⟨r, rfl⟩ | ⟨r, rfl⟩; exact ⟨_, .inl rfl⟩; exact ⟨_, .inr (.inr rfl)⟩)
      (SafeAt.mono (SafeAt.cons (SafeAt.append hsafe)) fun hl => by simp [hasLtID, hi, hl])
    exact LevelParser.Ev.mono (LevelParser.Ev.and h1 h2) fun f ⟨h1, h2⟩ => ⟨_, h1, nofun, h2⟩

theorem hasLtInitDecls_cons (d : InitDecl) (r : List InitDecl) :
    hasLtInitDecls (d :: r) = (hasLtID d || hasLtInitDecls r) := rfl

theorem initDecls_read : ∀ (ds : List InitDecl), ds ≠ [] → (∀ d, d ∈ ds → WFInitDecl W d) →
    ∀ rest, (∃ r, rest = .p .Semicolon :: r) →
    (hasLtInitDecls ds = true → TmplFree (idsToks ds ++ rest) = true) →
    ∃ N, ∀ f, N ≤ f → parseInitDecls W f (idsToks ds ++ rest) = some (ds, rest)
  | [], h, _, _, _, _ => absurd rfl h
  | [d], _, hw, rest, ⟨r0, hr0⟩, hsafe => by
    subst hr0
    have htoks : idsToks [d] ++ .p .Semicolon :: r0 = idToks d ++ .p .Semicolon :: r0 := by simp [idsToks, commaAll]
    rw [htoks] at hsafe ⊢
    refine LevelParser.Ev.step (initDecl_reads W d (hw d List.mem_cons_self) (.p .Semicolon :: r0) (Or.inr ⟨_, rfl⟩)
      (fun hl => hsafe (by simp [hasLtInitDecls_cons, hl]))) fun f ⟨r, h1, h2, h3⟩ => ?_
    unfold parseInitDecls
    rw [h1]
    split
    · rename_i heq; cases heq; exact absurd rfl (h2 _)
    · rename_i heq; cases heq; rw [h3]
    · rename_i heq; cases heq
  | d :: d' :: r, _, hw, rest, hrest, hsafe => by
    have htoks : idsToks (d :: d' :: r) ++ rest = idToks d ++ (.p .Comma :: (idsToks (d' :: r) ++ rest)) := by
      simp [idsToks, commaAll]
    rw [htoks] at hsafe ⊢
    have h1 := initDecl_reads W d (hw d List.mem_cons_self) (.p .Comma :: (idsToks (d' :: r) ++ rest)) (Or.inl ⟨_, rfl⟩)
      (fun hl => hsafe (by simp [hasLtInitDecls_cons, hl]))
    have h2 := initDecls_read (d' :: r) (by simp) (fun x hx => hw x (List.mem_cons_of_mem _ hx)) rest hrest
      (SafeAt.mono (SafeAt.cons (SafeAt.append hsafe)) fun hl => by simp only [hasLtInitDecls_cons, Bool.or_eq_true] at hl ⊢; exact Or.inr hl)
    refine LevelParser.Ev.step (LevelParser.Ev.and h1 h2) fun f ⟨⟨r1, g1, g2, g3⟩, h2⟩ => ?_
    unfold parseInitDecls
    rw [g1]
    split
    · rename_i heq; cases heq; exact absurd rfl (g2 _)
    · rename_i heq; cases heq; rw [g3]; simp only [h2]
    · rename_i heq; cases heq
def WFVarDef (v : VarDef) : Prop :=
  modBeforeStep (.id v.name) = .stop ∧ WFTArgs W v.targs ∧ v.defs ≠ [] ∧ (∀ d, d ∈ v.defs → WFInitDecl W d)

theorem toks_fmtTy (mods : List TypeMod) (n : String) (targs : TArgs) (fol : Bool) :
    toks (fmtTy mods n targs fol) = mods.map modTok ++ (.id n :: toks (fmtTArgs targs fol)) := by
  simp [fmtTy, toks_fmtMods_before]

theorem ids_head (ds : List InitDecl) (hne : ds ≠ []) (hw : ∀ d, d ∈ ds → WFInitDecl W d) :
    ∃ t r, idsToks ds = t :: r ∧ ((∃ n, t = .id n) ∨ t = .p .Asterix ∨ t = .p .Ampersand) := by
  cases ds with
  | nil => exact absurd rfl hne
  | cons d r =>
    obtain ⟨hab, hwd, _⟩ := hw d List.mem_cons_self
    obtain ⟨t, r0, hr0, ht⟩ := named_head W d.decl hab hwd
    exact ⟨t, _, by simp [idsToks, idToks, hr0]; rfl, ht⟩

theorem ty_reads (mods : List TypeMod) (n : String) (targs : TArgs) (fol : Bool)
    (hstop : modBeforeStep (.id n) = .stop) (hwT : WFTArgs W targs) (t0 : Tok) (r0 : List Tok) (hT0 : AfterTy t0)
    (hsafe : hasLtTArgs targs = true → TmplFree (toks (fmtTArgs targs fol) ++ t0 :: r0) = true) :
    ∃ N, ∀ f, N ≤ f →
      parseTy W f (mods.map modTok ++ (.id n :: (toks (fmtTArgs targs fol) ++ t0 :: r0))) = some ((mods, n, targs), t0 :: r0) :=
  parseTy_reads W mods n targs fol hstop (rtTArgs_of_list W targs (rtL W targs hwT)) _ (tyStop_of_afterTy hT0 r0) hsafe

theorem toks_fmtVarDef (v : VarDef) : toks (fmtVarDef v) = v.mods.map modTok ++ (.id v.name ::
    (toks (fmtTArgs v.targs (startsTok (fmtInitDecls v.defs) false)) ++ idsToks v.defs)) := by
  simp [fmtVarDef, toks_fmtTy, toks_fmtInitDecls]

theorem varDef_reads (v : VarDef) (hw : WFVarDef W v) (rest : List Tok) (hrest : ∃ r, rest = .p .Semicolon :: r)
    (hsafe : hasLtVarDef v = true → TmplFree (toks (fmtVarDef v) ++ rest) = true) :
    ∃ N, ∀ f, N ≤ f → parseVarDef W f (toks (fmtVarDef v) ++ rest) = some (v, rest) := by
  obtain ⟨hstop, hwT, hne, hwD⟩ := hw
  obtain ⟨t0, r0, ht0, hth⟩ := ids_head W v.defs hne hwD
  rw [toks_fmtVarDef] at hsafe ⊢
  simp only [List.append_assoc, List.cons_append] at hsafe ⊢
  have hT0 : AfterTy t0 := by
    rcases hth with ⟨n, rfl⟩ | rfl | rfl
    · exact afterTy_id n
    · exact afterTy_star
    · exact afterTy_amp
  have h2 := initDecls_read W v.defs hne hwD rest hrest (SafeAt.mono (SafeAt.append (SafeAt.cons (SafeAt.append hsafe))) fun hl => by simp [hasLtVarDef, hl])
  rw [ht0, List.cons_append] at hsafe h2 ⊢
  have h1 := ty_reads W v.mods v.name v.targs (startsTok (fmtInitDecls v.defs) false) hstop hwT t0 (r0 ++ rest) hT0
    (SafeAt.mono (SafeAt.cons (SafeAt.append hsafe)) fun hl => by simp [hasLtVarDef, hl])
  refine LevelParser.Ev.mono (LevelParser.Ev.and h1 h2) fun f ⟨h1, h2⟩ => ?_
  unfold parseVarDef
  rw [h1]
  simp only [h2]

end RsslVerif.Lemmas.StmtRT
