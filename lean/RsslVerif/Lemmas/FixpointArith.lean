import RsslVerif.Lemmas.FixpointElab
import RsslVerif.Lemmas.FixpointArithDim
/-!
Lemmas for C04 `reelab_no_new_casts`: the stability of `elabArith` under
re-elaboration (the type-level facts are in `FixpointArithDim`).  Core Lean only.
-/
namespace RsslVerif.Lemmas.FixpointArith
open RsslVerif.Gen.RankTable RsslVerif.Gen.TypingTables
open RsslVerif.Model.Conv RsslVerif.Model.Overload RsslVerif.Model.IrTyping RsslVerif.Model.Elab
open RsslVerif.Model.Fixpoint RsslVerif.Lemmas.ElabConv RsslVerif.Lemmas.Elab
open RsslVerif.Lemmas.ElabInv RsslVerif.Lemmas.FixpointElab RsslVerif.Lemmas.FixpointArithDim

theorem isEnum_false_iff (l : Layer) : isEnum l = false ↔ ∀ id, l ≠ .enum id := by
  cases l <;> simp [isEnum]

theorem DTy_int32 {ts : Scalar} {dim : Dim} (h : DTy ts dim = (scalarTy .int32).r) : ts = .int32 ∧ dim = .scalar := by
  cases dim <;> simp [DTy, scalarTy, Ty.r, Layer.ofDim] at h
  exact ⟨h, rfl⟩

/-- a float literal operand never makes the operator work in `int` -/
theorem DTy_ne_int32_of_floatLit {o : BinOp} {la lb : Layer} {ts : Scalar} {dim : Dim}
    (ht : arithTarget o la lb = .ok (.scalar ts)) (hl : la = .scalar .floatLiteral ∨ lb = .scalar .floatLiteral) :
    DTy (arithScalar ts dim) dim ≠ (scalarTy .int32).r := by
  intro hD
  obtain ⟨h1, rfl⟩ := DTy_int32 hD
  rw [arithScalar_scalar] at h1
  subst h1
  rw [arithTarget_eq] at ht
  rcases hl with rfl | rfl
  · exact (aT_floatLit_not_int32 _ _ _ _).1 ht
  · exact (aT_floatLit_not_int32 _ _ _ _).2 ht

/-- **Arithmetic operators read back**: the exported operands elaborate to one of the `Back` cases, for which the
    working type is the same, so the same conversions are found and the operator node is rebuilt. -/
theorem elabArith_stable {o : BinOp} {a' b' n : IExpr} {τa τb τ : ETy} (hcls : o.cls = .arith)
    (h : elabArith o a' τa b' τb = .ok (n, τ)) (iha : Reads Γ' a' τa) (ihb : Reads Γ' b' τb) : Reads Γ' n τ := by
  intro s' hu
  obtain ⟨ts, dim, ca, cb, a2, b2, i, hna, hnb, hts, hdim, hca, hcb, h3, h4, h5, h6, rfl⟩ := elabArith_iff.1 h
  obtain ⟨x', y', rfl, hx, hy⟩ := unelab_op2 (opSyn_bin o i h5) hu
  obtain ⟨a0, τa0, hela, hba⟩ := reconv iha hca h3 (Or.inl rfl) _ hx
  obtain ⟨b0, τb0, helb, hbb⟩ := reconv ihb hcb h4 (Or.inl rfl) _ hy
  -- the working kind of the re-elaborated operands may differ from `ts` (`bool3 + 1`: `IntLiteral`; `(int3)b + (int3)1`:
  -- `int`), but not after the remap of fix 40c6233: the working type is the same
  obtain ⟨hna0, hnb0, ts0, hts0, hsc0, hdim0⟩ :=
    arith_stable_remap ((isEnum_false_iff _).2 hna) ((isEnum_false_iff _).2 hnb) hts hdim
      (hba.layer fun h => DTy_ne_int32_of_floatLit hts (.inl (h ▸ rfl)))
      (hbb.layer fun h => DTy_ne_int32_of_floatLit hts (.inr (h ▸ rfl)))
  obtain ⟨ca0, hca0, h30⟩ := back_find hca h3 hba
  obtain ⟨cb0, hcb0, h40⟩ := back_find hcb h4 hbb
  rw [← hsc0] at hca0 hcb0 h6
  exact elabE_bin_arith hcls hela helb (elabArith_iff.2 ⟨ts0, dim, ca0, cb0, a2, b2, i, (isEnum_false_iff _).1 hna0,
    (isEnum_false_iff _).1 hnb0, hts0, hdim0, hca0, hcb0, h30, h40, h5, h6, rfl⟩)

end RsslVerif.Lemmas.FixpointArith
