import RsslVerif.Model.FixpointTemplate
/-! lemmas for `Thm.C04` section Template: substitution of a kind-stable constant keeps a tree parser-producible -/
namespace RsslVerif.Lemmas.FixpointTemplate
open RsslVerif.Gen.RankTable RsslVerif.Gen.TypingTables
open RsslVerif.Model.Conv RsslVerif.Model.Overload RsslVerif.Model.IrTyping RsslVerif.Model.Elab RsslVerif.Model.Fixpoint
open RsslVerif.Model.FixpointTemplate

theorem subst_srcOk_both (x : Nat) {k : Scalar} (hk : rereadKind k = k) :
    (∀ e : SExpr, SrcOk e → SrcOk (substValue x k e)) ∧ ∀ a : SArgs, SrcArgsOk a → SrcArgsOk (substArgs x k a) := by
  apply substValue.mutual_induct_unfolding x k (fun e r => SrcOk e → SrcOk r) (fun a r => SrcArgsOk a → SrcArgsOk r)
  case case2 => exact fun _ => hk  -- the parameter becomes the constant
  -- every other node keeps its shape
  all_goals (intros; simp_all [SrcOk, SrcArgsOk])

theorem subst_srcOk (x : Nat) {k : Scalar} (hk : rereadKind k = k) : ∀ e : SExpr, SrcOk e → SrcOk (substValue x k e) :=
  (subst_srcOk_both x hk).1
theorem substArgs_srcOk (x : Nat) {k : Scalar} (hk : rereadKind k = k) : ∀ a : SArgs, SrcArgsOk a → SrcArgsOk (substArgs x k a) :=
  (subst_srcOk_both x hk).2

theorem substStmt_srcOk (x : Nat) {k : Scalar} (hk : rereadKind k = k) : ∀ s : SStmt, SrcStmtOk s → SrcStmtOk (substStmt x k s)
  | .expr e, h | .ret (some e), h | .init _ e, h => subst_srcOk x hk e h
  | .ret none, _ => trivial

end RsslVerif.Lemmas.FixpointTemplate
