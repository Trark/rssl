import RsslVerif.Spec.Layout
/-! `roundUp` arithmetic, the `u32` operations of `layout_checker.rs` in terms of it, and what the extracted op
    programs compute (C19).  -/
namespace RsslVerif.Lemmas.Layout
open RsslVerif.Gen.LayoutTables RsslVerif.Model.Layout RsslVerif.Spec.Layout

theorem roundUp_of_mod_zero {x a : Nat} (ha : 0 < a) (h : x % a = 0) : roundUp x a = x := by
  unfold roundUp
  have hdm := Nat.div_add_mod x a
  generalize hq : x / a = q at hdm
  have e : x + a - 1 = a * q + (a - 1) := by omega
  rw [e, Nat.mul_add_div ha, Nat.div_eq_of_lt (by omega), Nat.add_zero, Nat.mul_comm]
  omega

theorem roundUp_of_mod_pos {x a : Nat} (ha : 0 < a) (h : x % a ≠ 0) :
    roundUp x a = x + (a - x % a) := by
  unfold roundUp
  have hdm := Nat.div_add_mod x a
  have hlt := Nat.mod_lt x ha
  generalize hq : x / a = q at hdm
  generalize hr : x % a = r at *
  have e : x + a - 1 = a * (q + 1) + (r - 1) := by rw [Nat.mul_add]; omega
  rw [e, Nat.mul_add_div ha, Nat.div_eq_of_lt (by omega), Nat.add_zero, Nat.mul_comm, Nat.mul_add]
  omega

theorem roundUp_mod {x a : Nat} : roundUp x a % a = 0 := by
  unfold roundUp; exact Nat.mul_mod_left _ _

theorem le_roundUp {x a : Nat} (ha : 0 < a) : x ≤ roundUp x a := by
  by_cases h : x % a = 0
  · rw [roundUp_of_mod_zero ha h]; exact Nat.le_refl _
  · rw [roundUp_of_mod_pos ha h]; omega

theorem roundUp_eq_self_iff {x a : Nat} (ha : 0 < a) : roundUp x a = x ↔ x % a = 0 := by
  constructor
  · intro h; rw [← h]; exact roundUp_mod
  · exact roundUp_of_mod_zero ha

theorem roundUp_mono {x y a : Nat} (h : x ≤ y) : roundUp x a ≤ roundUp y a := by
  unfold roundUp
  exact Nat.mul_le_mul_right _ (Nat.div_le_div_right (by omega))

/-- the computation does not end in a panic -/
def NoPanic {α : Type} (x : Except Err α) : Prop := ∀ msg, x ≠ .error (.panic msg)

theorem noPanic_ok {α : Type} (a : α) : NoPanic (.ok a : Except Err α) := by intro msg h; cases h
theorem noPanic_unknown {α : Type} : NoPanic (.error .unknown : Except Err α) := by intro msg h; cases h

theorem addU32_ok {a b c : Nat} (h : addU32 a b = .ok c) : c = a + b := by
  unfold addU32 at h; split at h
  · cases h; rfl
  · cases h

theorem mulU32_ok {a b c : Nat} (h : mulU32 a b = .ok c) : c = a * b := by
  unfold mulU32 at h; split at h
  · cases h; rfl
  · cases h

/-- `ha`: for `a % b = 0` the function returns `a` as it is, whatever its size -/
theorem nextMultipleOf_eq {a b : Nat} (hb : 0 < b) (ha : a ≤ u32Max) :
    nextMultipleOf a b =
      if roundUp a b ≤ u32Max then .ok (roundUp a b) else .error (.panic "attempt to add with overflow") := by
  unfold nextMultipleOf
  rw [if_neg (Nat.ne_of_gt hb)]
  by_cases h0 : a % b = 0
  · rw [if_pos h0, roundUp_of_mod_zero hb h0, if_pos ha]
  · rw [if_neg h0, roundUp_of_mod_pos hb h0]; rfl

theorem nextMultipleOf?_eq {a b : Nat} (hb : 0 < b) (ha : a ≤ u32Max) :
    nextMultipleOf? a b = if roundUp a b ≤ u32Max then .ok (roundUp a b) else .error .unknown := by
  unfold nextMultipleOf?
  rw [if_neg (Nat.ne_of_gt hb)]
  by_cases h0 : a % b = 0
  · rw [if_pos h0, roundUp_of_mod_zero hb h0, if_pos ha]
  · rw [if_neg h0, roundUp_of_mod_pos hb h0]; rfl

theorem nextMultipleOf?_ok {a b c : Nat} (h : nextMultipleOf? a b = .ok c) : 0 < b ∧ c = roundUp a b := by
  unfold nextMultipleOf? at h
  split at h
  · cases h
  · rename_i hb
    have hb' : 0 < b := by omega
    refine ⟨hb', ?_⟩
    split at h
    · rename_i h0; cases h; exact (roundUp_of_mod_zero hb' h0).symm
    · rename_i h0
      unfold addU32? at h; split at h
      · cases h; exact (roundUp_of_mod_pos hb' h0).symm
      · cases h

theorem nextMultipleOf?_cases {a b : Nat} (hb : 0 < b) :
    nextMultipleOf? a b = .ok (roundUp a b) ∨ (nextMultipleOf? a b = .error .unknown ∧ u32Max < roundUp a b) := by
  unfold nextMultipleOf?
  rw [if_neg (Nat.ne_of_gt hb)]
  by_cases h0 : a % b = 0
  · rw [if_pos h0, roundUp_of_mod_zero hb h0]; exact Or.inl rfl
  · rw [if_neg h0, roundUp_of_mod_pos hb h0]
    unfold addU32?
    split
    · exact Or.inl rfl
    · exact Or.inr ⟨rfl, by omega⟩

theorem addU32?_cases (a b : Nat) :
    addU32? a b = .ok (a + b) ∨ (addU32? a b = .error .unknown ∧ u32Max < a + b) := by
  unfold addU32?
  split
  · exact Or.inl rfl
  · exact Or.inr ⟨rfl, by omega⟩

theorem nextMultipleOf?_noPanic (a b : Nat) : NoPanic (nextMultipleOf? a b) := by
  intro msg
  unfold nextMultipleOf? addU32?
  split
  · simp
  · split
    · simp
    · split <;> simp

theorem addU32?_noPanic (a b : Nat) : NoPanic (addU32? a b) := by
  intro msg; unfold addU32?; split <;> simp

theorem mulU32?_noPanic (a b : Nat) : NoPanic (mulU32? a b) := by
  intro msg; unfold mulU32?; split <;> simp

/-- the member loop body (`checked_next_multiple_of(..)?`, `checked_add(..)?`, `max`) -/
def memberStep (acc ml : Layout) : Except Err Layout :=
  match nextMultipleOf? acc.size ml.align with
  | .error e => .error e
  | .ok z =>
    match addU32? z ml.size with
    | .error e => .error e
    | .ok z' => .ok ⟨z', max acc.align ml.align⟩

theorem member_ops_pinned (m : Mode) (acc ml : Layout) :
    runLay (structMemberOps m) ⟨acc, 0, ml, 0, 0⟩ = memberStep acc ml := by
  cases m <;>
  · simp only [structMemberOps, runLay, runOps, step]
    fun_cases memberStep acc ml <;> simp only [*]

/-- no bound on the accumulator: a rounded cursor beyond `u32` fails the addition if it passed the rounding -/
theorem memberStep_eq {acc ml : Layout} (hb : 0 < ml.align) :
    memberStep acc ml =
      if roundUp acc.size ml.align + ml.size ≤ u32Max then
        .ok ⟨roundUp acc.size ml.align + ml.size, max acc.align ml.align⟩
      else .error .unknown := by
  unfold memberStep
  rcases nextMultipleOf?_cases (a := acc.size) hb with h | ⟨h, hgt⟩ <;> rw [h]
  · simp only [addU32?]
    by_cases hs : roundUp acc.size ml.align + ml.size ≤ u32Max
    · simp only [if_pos hs]
    · simp only [if_neg hs]
  · rw [if_neg (by omega)]

/-- what the tail of the Struct arm makes of the rounded size `z` of a struct with `k` members -/
def emptyFix (m : Mode) (k z : Nat) : Nat :=
  match m with
  | .hlsl => z
  | .metal => if k = 0 then 1 else z

theorem final_ops_pinned (m : Mode) (l : Layout) (k : Nat) :
    runLay (structFinalOps m) ⟨l, 0, l, 0, k⟩ =
      match nextMultipleOf? l.size l.align with
      | .ok z => .ok ⟨emptyFix m k z, l.align⟩
      | .error e => .error e := by
  cases m
  · simp only [structFinalOps, runLay, runOps, step, emptyFix]
    cases nextMultipleOf? l.size l.align <;> rfl
  · simp only [structFinalOps, runLay, runOps, step, emptyFix]
    cases nextMultipleOf? l.size l.align with
    | error e => rfl
    | ok z =>
      simp only []
      by_cases hk : k = 0
      · simp only [hk, if_true]
      · simp only [hk, if_false]

theorem array_ops_pinned (m : Mode) (l : Layout) (n : Nat) :
    runLay (arrayOps m) ⟨l, 0, l, n, 0⟩ =
      if n ≤ u32Max then
        match mulU32? l.size n with
        | .ok z => .ok ⟨z, l.align⟩
        | .error e => .error e
      else .error .unknown := by
  cases m <;>
  · simp only [arrayOps, runLay, runOps, step]
    by_cases hn : n ≤ u32Max
    · simp only [hn, if_true]; cases mulU32? l.size n <;> rfl
    · simp only [hn, if_false]

theorem top_ops_pinned (m : Mode) (l : Layout) :
    runLay (checkTopOps m) ⟨l, 0, l, 0, 0⟩ =
      match nextMultipleOf l.size l.align with
      | .ok z => .ok ⟨z, l.align⟩
      | .error e => .error e := by
  cases m <;>
  · simp only [checkTopOps, runLay, runOps, step]
    cases nextMultipleOf l.size l.align <;> rfl

/-- the member loop body of `offsets_match` -/
def memberOff (lh lm : Layout) (rec : Except Err Bool) (ch cm : Nat) : Except Err Flow :=
  match nextMultipleOf? ch lh.align with
  | .error e => .error e
  | .ok oh =>
    match nextMultipleOf? cm lm.align with
    | .error e => .error e
    | .ok om =>
      if oh ≠ om then .ok (.ret false) else
      match rec with
      | .error e => .error e
      | .ok false => .ok (.ret false)
      | .ok true =>
        match addU32? oh lh.size with
        | .error e => .error e
        | .ok ch' =>
          match addU32? om lm.size with
          | .error e => .error e
          | .ok cm' => .ok (.next ⟨ch', cm', lh, lm⟩)

theorem member_off_pinned (lh lm d1 d2 : Layout) (rec : Except Err Bool) (ch cm : Nat) :
    runOff (.ok lh) (.ok lm) rec 0 offsetsMemberOps ⟨ch, cm, d1, d2⟩ = memberOff lh lm rec ch cm := by
  simp only [offsetsMemberOps, runOff, offStep]
  fun_cases memberOff lh lm rec ch cm <;> simp [*]

/-- the array arm of `offsets_match` -/
def arrayOff (lh lm : Layout) (rec : Except Err Bool) (n : Nat) : Except Err Bool :=
  if n = 0 then .ok true else
  if n > 1 then
    match nextMultipleOf? lh.size lh.align with
    | .error e => .error e
    | .ok a =>
      match nextMultipleOf? lm.size lm.align with
      | .error e => .error e
      | .ok b => if a ≠ b then .ok false else rec
  else rec

theorem array_off_pinned (lh lm : Layout) (rec : Except Err Bool) (n : Nat) (s0 : OffSt) (hn : n ≠ 0) :
    runOff (.ok lh) (.ok lm) rec n offsetsArrayOps s0 =
      match arrayOff lh lm rec n with
      | .ok b => .ok (.ret b)
      | .error e => .error e := by
  simp only [offsetsArrayOps, runOff, offStep]
  fun_cases arrayOff lh lm rec n <;> simp [*]
  -- left: the arms that hand back the recursive call's result
  all_goals cases rec <;> rfl

theorem array_off_zero (gh gm : Except Err Layout) (rec : Except Err Bool) (s0 : OffSt) :
    runOff gh gm rec 0 offsetsArrayOps s0 = .ok (.ret true) := by
  simp only [offsetsArrayOps, runOff, offStep, if_true]

end RsslVerif.Lemmas.Layout
