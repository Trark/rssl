import RsslVerif.Model.Progress
/-!
# Invariants of the `ConditionChain` model (C08)

Inside a file the chain is `⟨top ++ low, low.length⟩`: `low` are the blocks of the including files (the bottom `self.1`
entries of the vector), `top` the blocks the file itself has open.  In that form `self.1 ≤ self.0.len()` — what keeps the
slice `&mut self.0[self.1..]` of `switch` in range — holds by construction, and `Framed low` says of a result that it is not
the slice panic and that a chain it answers still has this form over the same `low`.  `step_framed` / `run_framed` prove it
for every directive tree by mutual structural recursion; `run_shape` relates a run of a plain file (no `#include`, no
malformed directive line) to the shape specification `shapeSpec`.
-/
namespace RsslVerif.Lemmas.ProgressChain
open RsslVerif.Model.Progress

/-- a result of a step / a run of lines in a file whose including files hold the blocks `low` -/
def Framed (low : List Block) (r : Except PErr (Chain × List Nat)) : Prop :=
  r ≠ .error .panicSlice ∧ ∀ c' o, r = .ok (c', o) → ∃ top, c' = ⟨top ++ low, low.length⟩

theorem Framed.ok (top low : List Block) (o : List Nat) : Framed low (.ok (⟨top ++ low, low.length⟩, o)) :=
  ⟨nofun, fun _ _ h => by cases h; exact ⟨top, rfl⟩⟩

theorem Framed.error {low : List Block} {e : PErr} (he : e ≠ .panicSlice) : Framed low (.error e) :=
  ⟨fun h => he (by cases h; rfl), nofun⟩

/-- `switch` and `pop` on a chain with the blocks `top` of this file: the slice is in range, an empty `top` is the
unmatched error, and otherwise only the head of `top` changes -/
theorem switch_framed (top low : List Block) (a e : Bool) :
    Framed low (match Chain.switch ⟨top ++ low, low.length⟩ a e with | .ok c' => .ok (c', []) | .error e => .error e) := by
  cases top with
  | nil =>
    simp only [Chain.switch, List.nil_append, Nat.lt_irrefl, if_false, if_true]
    exact .error (by simp)
  | cons b t =>
    have h1 : ¬ (b :: (t ++ low)).length < low.length := by simp only [List.length_append, List.length_cons]; omega
    have h2 : ¬ (b :: (t ++ low)).length = low.length := by simp only [List.length_append, List.length_cons]; omega
    by_cases hs : b.seenElse = true
    · simp only [Chain.switch, List.cons_append, if_neg h1, if_neg h2, if_pos hs]
      exact .error (by cases e <;> simp)
    · simp only [Chain.switch, List.cons_append, if_neg h1, if_neg h2, if_neg hs]
      exact .ok (_ :: t) low []

theorem pop_framed (top low : List Block) :
    Framed low (match Chain.pop ⟨top ++ low, low.length⟩ with | .ok c' => .ok (c', []) | .error e => .error e) := by
  cases top with
  | nil =>
    simp only [Chain.pop, List.nil_append, gt_iff_lt, Nat.lt_irrefl, if_false]
    exact .error (by simp)
  | cons b t =>
    have h1 : (b :: (t ++ low)).length > low.length := by simp only [List.length_append, List.length_cons]; omega
    simp only [Chain.pop, List.cons_append, if_pos h1, List.tail_cons]
    exact .ok t low []

/-- an included file whose run is framed by the blocks of the chain it starts from hands that chain back as it was -/
theorem incl_isolated {f : Lines} {c : Chain} (ih : Framed c.blocks (run f ⟨c.blocks, c.blocks.length⟩ [])) :
    step c (.incl f) ≠ .error .panicSlice ∧ ∀ c' o, step c (.incl f) = .ok (c', o) → c' = c := by
  unfold step
  split
  · cases hr : run f { c with base := c.blocks.length } [] with
    | error e => exact ⟨fun h => ih.1 (by rw [hr]; exact h), nofun⟩
    | ok w =>
      obtain ⟨c2, o2⟩ := w
      obtain ⟨top, rfl⟩ := ih.2 c2 o2 hr
      simp only
      split
      · exact ⟨nofun, nofun⟩
      · rename_i hlen
        -- the file closed every block it opened
        have : top = [] := by
          simp only [List.length_append, Decidable.not_not] at hlen
          exact List.eq_nil_of_length_eq_zero (by omega)
        subst this
        exact ⟨nofun, fun c' o hc => by cases hc; rfl⟩
  · exact ⟨nofun, fun c' o hc => by cases hc; rfl⟩

mutual
theorem step_framed : ∀ (d : Dir) (top low : List Block), Framed low (step ⟨top ++ low, low.length⟩ d)
  | .ifD a, top, low => by
    unfold step
    split
    · exact .ok (_ :: top) low []
    · exact .ok (_ :: top) low []
  | .elif a, top, low => switch_framed top low a false
  | .els, top, low => switch_framed top low true true
  | .endif, top, low => pop_framed top low
  | .text id, top, low => .ok top low _
  | .junk, top, low => by
    unfold step
    split
    · exact .error (by simp)
    · exact .ok top low []
  | .incl f, top, low => by
    have hs := incl_isolated (c := ⟨top ++ low, low.length⟩) (run_framed f [] (top ++ low) [])
    exact ⟨hs.1, fun c' o hc => ⟨top, hs.2 c' o hc⟩⟩
theorem run_framed : ∀ (f : Lines) (top low : List Block) (out : List Nat), Framed low (run f ⟨top ++ low, low.length⟩ out)
  | .nil, top, low, out => .ok top low out
  | .cons d ds, top, low, out => by
    unfold run
    have hs := step_framed d top low
    cases hst : step ⟨top ++ low, low.length⟩ d with
    | error e => exact .error (by rw [hst] at hs; simpa using hs.1)
    | ok w =>
      obtain ⟨c1, o1⟩ := w
      obtain ⟨top1, rfl⟩ := hs.2 c1 o1 hst
      exact run_framed ds top1 low (out ++ o1)
end

def elses (c : Chain) : List Bool := c.blocks.map (·.seenElse)

theorem run_shape : ∀ (f : Lines) (bl : List Block) (out : List Nat), f.plain = true →
    (match run f ⟨bl, 0⟩ out with | .ok (c', _) => Except.ok (elses c') | .error e => .error e) =
      shapeSpec f (bl.map (·.seenElse))
  | .nil, bl, out, _ => by simp [run, shapeSpec, elses]
  | .cons d ds, bl, out, hp => by
    simp only [Lines.plain, Bool.and_eq_true] at hp
    cases d with
    | ifD a =>
      simp only [run, step, shapeSpec]
      by_cases hact : Chain.isActive ⟨bl, 0⟩ = true
      · rw [if_pos hact]; exact run_shape ds (_ :: bl) _ hp.2
      · rw [if_neg hact]; exact run_shape ds (_ :: bl) _ hp.2
    | elif a | els =>
      -- both are a `switch` of the innermost block
      cases bl with
      | nil => simp [run, step, shapeSpec, Chain.switch]
      | cons b rest =>
        cases hs : b.seenElse with
        | true => simp [run, step, shapeSpec, Chain.switch, hs]
        | false =>
          simp only [run, step, shapeSpec, Chain.switch, List.length_cons, Nat.not_lt_zero, if_false,
            Nat.add_one_ne_zero, hs, Bool.false_eq_true, List.map_cons]
          exact run_shape ds (_ :: rest) _ hp.2
    | endif =>
      cases bl with
      | nil => simp [run, step, shapeSpec, Chain.pop]
      | cons b rest =>
        simp only [run, step, shapeSpec, Chain.pop, List.length_cons, Nat.zero_lt_succ, if_true,
          List.tail_cons, List.map_cons, gt_iff_lt]
        exact run_shape ds rest _ hp.2
    | text id =>
      simp only [run, step, shapeSpec]
      exact run_shape ds _ _ hp.2
    | junk => simp [Dir.plain] at hp
    | incl f => simp [Dir.plain] at hp

end RsslVerif.Lemmas.ProgressChain
