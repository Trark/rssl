import RsslVerif.Model.SlotsCompile
/-! Lemmas about the driver model (`Model.SlotsCompile`): `select_pipeline` finds the pipeline it was asked for,
    and one `build_pipeline` call is one allocator run with that pipeline's default group. -/
namespace RsslVerif.Lemmas.SlotsCompile
open RsslVerif.Gen.SlotTables RsslVerif.Model.Slots RsslVerif.Model.SlotsCompile

/-- Which results a `compile()` call must return, as the default groups of the pipelines it was asked for
    (the property: "resources without an explicit group go to the pipeline's default group"):
    no-pipeline mode has no pipeline and uses group 0. -/
def requestedDefaults : Mode → List Pipeline → List Nat
  | .noPipeline, _ => [0]
  | .all, ps => ps.map (·.defaultGroup)
  | .named n, ps => (ps.filter (fun p => decide (p.name = n))).map (·.defaultGroup)

/-- the loop of `select_pipeline` from any state: either no pipeline of the list has the name and the selection is
    kept, or nothing was selected before and exactly one pipeline of the list has the name: that one is selected -/
theorem findSelected_ok {name : String} {ps : List Pipeline} {i : Nat} {sel r : Option Nat}
    (h : findSelected name ps i sel = .ok r) :
    (r = sel ∧ ∀ q ∈ ps, q.name ≠ name) ∨
    (sel = none ∧ ∃ k q, r = some (i + k) ∧ ps[k]? = some q ∧ q.name = name ∧ ∀ q' ∈ ps, q'.name = name → q' = q) := by
  revert h
  fun_induction findSelected name ps i sel <;> intro h
  case case1 => exact .inl ⟨(Except.ok.inj h).symm, nofun⟩
  case case2 => cases h
  case case3 p ps i hp ih =>
    -- `p` has the name and nothing was selected: no later pipeline has the name
    rcases ih h with ⟨h1, h2⟩ | ⟨h1, _⟩
    · refine .inr ⟨rfl, 0, p, h1, rfl, hp, fun q' hq' hn => ?_⟩
      rcases List.mem_cons.1 hq' with rfl | hq'
      · rfl
      · exact absurd hn (h2 q' hq')
    · cases h1
  case case4 p ps i sel hp ih =>
    rcases ih h with ⟨h1, h2⟩ | ⟨h1, k, q, h2, h3, h4, h5⟩
    · exact .inl ⟨h1, fun q hq => (List.mem_cons.1 hq).elim (· ▸ hp) (h2 q)⟩
    · refine .inr ⟨h1, k + 1, q, by rw [h2, Nat.add_assoc, Nat.add_comm 1], h3, h4, fun q' hq' hn => ?_⟩
      rcases List.mem_cons.1 hq' with rfl | hq'
      · exact absurd hn hp
      · exact h5 q' hq' hn

/-- a successful `select_pipeline(name)` has selected the one pipeline of that name (`assert_eq!(selected, None)`) -/
theorem selectPipeline_ok {m m' : Module} {name : String} (h : m.selectPipeline name = .ok (some m')) :
    ∃ i q, m' = { m with selected := some i } ∧ m.pipelines[i]? = some q ∧ q.name = name ∧
      ∀ q' ∈ m.pipelines, q'.name = name → q' = q := by
  revert h
  fun_cases Module.selectPipeline m name <;> intro h <;> cases h
  rename_i i hf
  rcases findSelected_ok hf with ⟨h1, _⟩ | ⟨_, k, q, h1, h2, h3, h4⟩
  · cases h1
  · simp only [Nat.zero_add, Option.some.injEq] at h1
    subst h1
    exact ⟨_, q, rfl, h2, h3, h4⟩

/-- a pipeline of the module is always found (no `unwrap` on `None`) -/
theorem selectPipeline_ne_none {m : Module} {p : Pipeline} (hp : p ∈ m.pipelines) :
    m.selectPipeline p.name ≠ .ok none := by
  fun_cases Module.selectPipeline m p.name <;> intro h <;> cases h
  rename_i hf
  rcases findSelected_ok hf with ⟨_, h2⟩ | ⟨_, k, q, h1, _⟩
  · exact absurd rfl (h2 p hp)
  · cases h1

/-- a successful `assign_api_bindings` ran the allocator with the module's default group and wrote its result -/
theorem assignApiBindings_ok {m m' : Module} {params : Params} (h : m.assignApiBindings params = .ok m') :
    ∃ d r, m.defaultSet = some d ∧ assign params d m.decls = .ok r ∧
      m' = { m with assigned := true, slots := some r } := by
  revert h
  fun_cases Module.assignApiBindings m params <;> intro h <;> cases h
  rename_i d hd r hr
  exact ⟨d, r, hd, hr, rfl⟩

/-- a successful `build_pipeline` call selected the pipeline it was given (or kept the module as it was), ran the
    allocator with that module's default group and described the result -/
theorem buildPipeline_ok {t : Target} {ir : Module} {params : Params} {pl : Option Pipeline} {b : Built}
    (h : buildPipeline t ir params pl = .ok b) :
    ∃ m d, (match pl with | some p => ir.selectPipeline p.name = .ok (some m) | none => m = ir) ∧
      m.defaultSet = some d ∧ assign params d m.decls = .ok b.slots ∧
      describe t m.names m.decls b.slots = .ok b.groups := by
  revert h
  fun_cases buildPipeline t ir params pl <;> intro h <;> try cases h
  rename_i sel m hsel _ hb r hr gs hg
  obtain ⟨d, r', hd, ha, rfl⟩ := assignApiBindings_ok hb
  cases hr
  refine ⟨m, d, ?_, hd, ha, hg⟩
  cases pl with
  | none => exact (Except.ok.inj hsel).symm
  | some p =>
    simp only [sel] at hsel
    split at hsel <;> cases hsel
    assumption

/-- One `build_pipeline` call for a pipeline of the module = one allocator run with the parameter
    set of the call and THAT pipeline's default group, described by the exporter. -/
theorem buildPipeline_some {t : Target} {ir : Module} {params : Params} {p : Pipeline} {b : Built}
    (hp : p ∈ ir.pipelines) (h : buildPipeline t ir params (some p) = .ok b) :
    assign params p.defaultGroup ir.decls = .ok b.slots ∧
    describe t ir.names ir.decls b.slots = .ok b.groups := by
  obtain ⟨m, d, hs, hd, hfin⟩ := buildPipeline_ok h
  obtain ⟨i, q, rfl, hi, _, huniq⟩ := selectPipeline_ok hs
  obtain rfl := huniq p hp rfl
  obtain rfl : p.defaultGroup = d := by simpa [Module.defaultSet, hi] using hd
  exact hfin

theorem buildPipeline_none {t : Target} {ir : Module} {params : Params} {b : Built}
    (hsel : ir.selected = none) (h : buildPipeline t ir params none = .ok b) :
    assign params 0 ir.decls = .ok b.slots ∧
    describe t ir.names ir.decls b.slots = .ok b.groups := by
  obtain ⟨m, d, rfl, hd, hfin⟩ := buildPipeline_ok h
  obtain rfl : 0 = d := by simpa [Module.defaultSet, hsel] using hd
  exact hfin

/-- what one returned pipeline is: the allocator's result for default group `d`, and its description -/
def IsBuiltFor (t : Target) (params : Params) (ir : Module) (d : Nat) (b : Built) : Prop :=
  assign params d ir.decls = .ok b.slots ∧ describe t ir.names ir.decls b.slots = .ok b.groups

/-- `Forall₂`-style pairing of results with requested default groups (core has no `List.Forall₂`) -/
def AllBuiltFor (t : Target) (params : Params) (ir : Module) : List Nat → List Built → Prop
  | [], [] => True
  | d :: ds, b :: bs => IsBuiltFor t params ir d b ∧ AllBuiltFor t params ir ds bs
  | _, _ => False

theorem buildLoop_spec {t : Target} {ir : Module} {params : Params} {filter : Option String} :
    ∀ {ps : List Pipeline} {bs : List Built}, (∀ p ∈ ps, p ∈ ir.pipelines) →
      buildLoop t ir params filter ps = .ok bs →
      AllBuiltFor t params ir ((ps.filter (!skipped filter ·)).map (·.defaultGroup)) bs := by
  intro ps
  fun_induction buildLoop t ir params filter ps <;> intro bs hsub h <;> try cases h
  case case1 => simp [AllBuiltFor]
  case case2 p ps hc ih =>
    -- `p` is skipped
    simpa [List.filter_cons, hc] using ih (fun q hq => hsub q (by simp [hq])) h
  case case5 p ps hc b hb bs' hbs ih =>
    -- `p` is built, and so is the rest
    simp only [List.filter_cons, hc, Bool.not_false, if_true, List.map_cons]
    exact ⟨buildPipeline_some (hsub p (by simp)) hb, ih (fun q hq => hsub q (by simp [hq])) hbs⟩

theorem IsBuiltFor.unique {t : Target} {params : Params} {ir : Module} {d : Nat} {b b' : Built}
    (h : IsBuiltFor t params ir d b) (h' : IsBuiltFor t params ir d b') : b = b' := by
  obtain ⟨h1, h2⟩ := h
  obtain ⟨h1', h2'⟩ := h'
  have e1 : b.slots = b'.slots := by
    have := h1.symm.trans h1'
    exact Except.ok.inj this
  rw [e1] at h2
  have e2 : b.groups = b'.groups := Except.ok.inj (h2.symm.trans h2')
  cases b; cases b'; simp_all

theorem AllBuiltFor.length {t : Target} {params : Params} {ir : Module} :
    ∀ {ds : List Nat} {bs : List Built}, AllBuiltFor t params ir ds bs → ds.length = bs.length := by
  intro ds bs
  fun_induction AllBuiltFor t params ir ds bs <;> intro h
  case case1 => rfl
  case case2 ih => simp [ih h.2]
  case case3 => exact h.elim

/-- the pairing as two equations between lists: the slots are the allocator runs, the groups their descriptions -/
theorem AllBuiltFor.maps {t : Target} {params : Params} {ir : Module} :
    ∀ {ds : List Nat} {bs : List Built}, AllBuiltFor t params ir ds bs →
      bs.map (fun b => (Except.ok b.slots : Except String Result)) = ds.map (fun d => assign params d ir.decls) ∧
      ∀ b ∈ bs, describe t ir.names ir.decls b.slots = .ok b.groups := by
  intro ds bs
  fun_induction AllBuiltFor t params ir ds bs <;> intro h
  case case1 => exact ⟨rfl, nofun⟩
  case case2 ih =>
    obtain ⟨e, hd⟩ := ih h.2
    exact ⟨by simp [h.1.1, e], by simpa [h.1.2] using hd⟩
  case case3 => exact h.elim

/-- `compile()` on a module with no pipeline selected: one allocator run per requested pipeline, each with the
    parameter set of the target and that pipeline's own default group.  (That the module is not bound yet need not be
    assumed: a successful `assign_api_bindings` has passed its `assert!(!assigned_api_slots)`.) -/
theorem compile_spec {a : Args} {ir : Module} {outs : List Built}
    (hsel : ir.selected = none) (h : compile a ir = .ok outs) :
    AllBuiltFor a.target (paramsFor a.target a.supportBufferAddress) ir (requestedDefaults a.mode ir.pipelines) outs := by
  revert h
  fun_cases compile a ir <;> intro h <;> try cases h
  -- the three modes, each where its build succeeds
  case case3 hm b hb =>
    rw [hm]
    exact ⟨buildPipeline_none hsel hb, trivial⟩
  case case6 hm hb _ =>
    have hk : ir.pipelines.filter (!skipped none ·) = ir.pipelines := List.filter_eq_self.2 (fun _ _ => rfl)
    simpa [hm, requestedDefaults, hk] using buildLoop_spec (fun p hp => hp) hb
  case case10 n hm hb _ _ =>
    simpa [hm, requestedDefaults, skipped] using buildLoop_spec (fun p hp => hp) hb

/-- by name, `compile()` returns at most one pipeline -/
theorem compile_named_length {a : Args} {ir : Module} {outs : List Built} {n : String} (hm : a.mode = .named n)
    (h : compile a ir = .ok outs) : outs.length ≤ 1 := by
  revert h
  fun_cases compile a ir <;> intro h <;> try cases h
  case case10 hlen _ => exact Nat.le_of_not_gt hlen
  all_goals simp_all

end RsslVerif.Lemmas.SlotsCompile
