import RsslVerif.Model.SourceMap
/-!
# Lemmas about the newline-counting loop of `get_file_location`, about text insertion, and about locations across files
-/
namespace RsslVerif.Lemmas.SourceMap
open RsslVerif.Gen.SourceMapTables RsslVerif.Model.SourceMap

/-- number of line breaks in a byte string -/
def nlCount (bs : Bytes) : Nat := bs.countP isNl

/-- column after scanning `bs` when the column before was `c` (the column never depends on the line) -/
def scanCol (c : Nat) (bs : Bytes) : Nat :=
  bs.foldl (fun c b => if isNl b then firstColumn else c + 1) c

theorem scan_nil (p : Pos) : scan p [] = p := rfl

theorem scan_cons (p : Pos) (c : UInt8) (bs : Bytes) : scan p (c :: bs) = scan (p.step c) bs := rfl

theorem scan_append (p : Pos) (a b : Bytes) : scan p (a ++ b) = scan (scan p a) b := by
  simp [scan, List.foldl_append]

theorem nlCount_append (a b : Bytes) : nlCount (a ++ b) = nlCount a + nlCount b := by
  simp [nlCount, List.countP_append]

theorem nlCount_nil : nlCount [] = 0 := rfl

theorem nlCount_cons (c : UInt8) (bs : Bytes) :
    nlCount (c :: bs) = (if isNl c then 1 else 0) + nlCount bs := by
  simp only [nlCount, List.countP_cons]
  split <;> omega

theorem scanCol_nil (c : Nat) : scanCol c [] = c := rfl

theorem scanCol_cons (c : Nat) (b : UInt8) (bs : Bytes) :
    scanCol c (b :: bs) = scanCol (if isNl b then firstColumn else c + 1) bs := rfl

/-- the loop in closed form: lines are counted, the column is a fold of its own -/
theorem scan_eq (p : Pos) (bs : Bytes) : scan p bs = ⟨p.line + nlCount bs, scanCol p.col bs⟩ := by
  induction bs generalizing p with
  | nil => rfl
  | cons c bs ih =>
    rw [scan_cons, ih, nlCount_cons, scanCol_cons]
    unfold Pos.step
    split <;> simp <;> omega

theorem scan_line (p : Pos) (bs : Bytes) : (scan p bs).line = p.line + nlCount bs := by rw [scan_eq]

theorem scan_col (p : Pos) (bs : Bytes) : (scan p bs).col = scanCol p.col bs := by rw [scan_eq]

theorem scanCol_append (c : Nat) (a b : Bytes) : scanCol c (a ++ b) = scanCol (scanCol c a) b := by
  simp [scanCol, List.foldl_append]

theorem scanCol_noNl (c : Nat) (bs : Bytes) (h : nlCount bs = 0) : scanCol c bs = c + bs.length := by
  induction bs generalizing c with
  | nil => rfl
  | cons b bs ih =>
    rw [nlCount_cons] at h
    have hb : isNl b = false := by
      cases hb : isNl b
      · rfl
      · simp [hb] at h
    rw [scanCol_cons, hb, ih _ (by simpa [hb] using h)]
    simp
    omega

/-- after a line break the column no longer depends on where the scan started -/
theorem scanCol_reset (c c' : Nat) (bs : Bytes) (h : 0 < nlCount bs) : scanCol c bs = scanCol c' bs := by
  induction bs generalizing c c' with
  | nil => simp [nlCount_nil] at h
  | cons b bs ih =>
    rw [scanCol_cons, scanCol_cons]
    cases hb : isNl b
    · rw [nlCount_cons, hb] at h
      exact ih _ _ (by simpa using h)
    · simp

/-- a byte string made of whole lines: empty, or ending in a line break -/
def NlTerminated (ins : Bytes) : Prop := ins = [] ∨ ∃ pre c, ins = pre ++ [c] ∧ isNl c = true

theorem scanCol_lines (ins : Bytes) (h : NlTerminated ins) : scanCol firstColumn ins = firstColumn := by
  rcases h with rfl | ⟨pre, b, rfl, hb⟩
  · rfl
  · rw [scanCol_append]; simp [scanCol_cons, scanCol_nil, hb]

/-- scanning whole lines from the start of a line ends at the start of a line, `nlCount` lines further down -/
theorem scan_lines (p : Pos) (ins : Bytes) (h : NlTerminated ins) (hcol : p.col = firstColumn) :
    scan p ins = ⟨p.line + nlCount ins, p.col⟩ := by
  rw [scan_eq, hcol, scanCol_lines ins h]

theorem take_insertAt_after (s ins : Bytes) (p q : Nat) (hpq : p ≤ q) (hq : q ≤ s.length) :
    (insertAt s p ins).take (q + ins.length) = s.take p ++ ins ++ (s.drop p).take (q - p) := by
  have hp : p ≤ s.length := Nat.le_trans hpq hq
  have hlen : (s.take p ++ ins).length = p + ins.length := by simp [List.length_take, Nat.min_eq_left hp]
  unfold insertAt
  have : q + ins.length = (s.take p ++ ins).length + (q - p) := by rw [hlen]; omega
  rw [this, List.take_length_add_append]

theorem drop_insertAt_after (s ins : Bytes) (p q : Nat) (hpq : p ≤ q) (hq : q ≤ s.length) :
    (insertAt s p ins).drop (q + ins.length) = s.drop q := by
  have hp : p ≤ s.length := Nat.le_trans hpq hq
  have hlen : (s.take p ++ ins).length = p + ins.length := by simp [List.length_take, Nat.min_eq_left hp]
  unfold insertAt
  have : q + ins.length = (s.take p ++ ins).length + (q - p) := by rw [hlen]; omega
  rw [this, List.drop_length_add_append, List.drop_drop]
  congr 1
  omega

theorem take_insertAt_before (s ins : Bytes) (p q : Nat) (hqp : q ≤ p) (hp : p ≤ s.length) :
    (insertAt s p ins).take q = s.take q := by
  unfold insertAt
  rw [List.append_assoc, List.take_append_of_le_length (by simp [List.length_take]; omega), List.take_take]
  congr 1
  omega

theorem take_split (s : Bytes) (p q : Nat) (hpq : p ≤ q) : s.take q = s.take p ++ (s.drop p).take (q - p) := by
  have : q = p + (q - p) := by omega
  rw [this, List.take_add]
  simp

theorem length_insertAt (s ins : Bytes) (p : Nat) : (insertAt s p ins).length = s.length + ins.length := by
  unfold insertAt
  simp [List.length_take, List.length_drop]
  omega

theorem lineCol_insertAt_after (s ins : Bytes) (p q : Nat) (hpq : p ≤ q) (hq : q ≤ s.length) :
    lineCol (insertAt s p ins) (q + ins.length) =
      scan (scan (lineCol s p) ins) ((s.drop p).take (q - p)) := by
  unfold lineCol
  rw [take_insertAt_after s ins p q hpq hq, scan_append, scan_append]

theorem lineCol_split (s : Bytes) (p q : Nat) (hpq : p ≤ q) :
    lineCol s q = scan (lineCol s p) ((s.drop p).take (q - p)) := by
  unfold lineCol
  rw [take_split s p q hpq, scan_append]

theorem lineCol_insertAt_before (s ins : Bytes) (p q : Nat) (hqp : q ≤ p) (hp : p ≤ s.length) :
    lineCol (insertAt s p ins) q = lineCol s q := by
  unfold lineCol
  rw [take_insertAt_before s ins p q hqp hp]

theorem takeWhile_append_of_exists {α : Type} (p : α → Bool) (l r : List α) (h : ∃ x ∈ l, p x = false) :
    (l ++ r).takeWhile p = l.takeWhile p := by
  obtain ⟨x, hx, hp⟩ := h
  rw [List.takeWhile_append, if_neg]
  intro hlen
  have hl : l.takeWhile p = l := (List.prefix_iff_eq_take.1 (List.takeWhile_prefix p)).trans (by rw [hlen, List.take_length])
  have := List.all_eq_true.1 (hl ▸ List.all_takeWhile (l := l) (p := p)) x hx
  simp [hp] at this

theorem lastLine_nil : lastLine [] = [] := rfl

theorem lastLine_append_nl (a : Bytes) (c : UInt8) (h : isNl c = true) : lastLine (a ++ [c]) = [] := by
  simp [lastLine, List.reverse_append, h]

theorem lastLine_append_noNl (a b : Bytes) (h : nlCount b = 0) : lastLine (a ++ b) = lastLine a ++ b := by
  have hall : ∀ x ∈ b.reverse, (!isNl x) = true := by
    intro x hx
    have hx' : x ∈ b := by simpa using hx
    have : b.countP isNl = 0 := h
    rw [List.countP_eq_zero] at this
    simpa using this x hx'
  unfold lastLine
  rw [List.reverse_append, List.takeWhile_append_of_pos hall]
  simp

theorem lastLine_append_hasNl (a b : Bytes) (h : 0 < nlCount b) : lastLine (a ++ b) = lastLine b := by
  have hex : ∃ x ∈ b.reverse, (!isNl x) = false := by
    have : 0 < b.countP isNl := h
    rw [List.countP_pos_iff] at this
    obtain ⟨x, hx, hp⟩ := this
    exact ⟨x, by simpa using hx, by simp [hp]⟩
  unfold lastLine
  rw [List.reverse_append, takeWhile_append_of_exists _ _ _ hex]

theorem lastLine_noNl (b : Bytes) (h : nlCount b = 0) : lastLine b = b := by
  have := lastLine_append_noNl [] b h
  simpa [lastLine_nil] using this

/-- the column after a scan: reset by the last line break, otherwise advanced by the length -/
theorem scanCol_eq (c : Nat) (bs : Bytes) :
    scanCol c bs = if 0 < nlCount bs then firstColumn + (lastLine bs).length else c + bs.length := by
  induction bs generalizing c with
  | nil => simp [scanCol_nil, nlCount_nil]
  | cons b rest ih =>
    rw [scanCol_cons, ih, nlCount_cons]
    by_cases hr : 0 < nlCount rest
    · have : lastLine (b :: rest) = lastLine rest := lastLine_append_hasNl [b] rest hr
      have h2 : 0 < (if isNl b = true then 1 else 0) + nlCount rest := by omega
      simp [hr, h2, this]
    · have hr0 : nlCount rest = 0 := by omega
      have hl : lastLine (b :: rest) = lastLine [b] ++ rest := lastLine_append_noNl [b] rest hr0
      cases hb : isNl b
      · simp [hr0]; omega
      · have : lastLine [b] = [] := lastLine_append_nl [] b hb
        simp [hr0, hl, this]

theorem scanCol_first_eq (bs : Bytes) : scanCol firstColumn bs = firstColumn + (lastLine bs).length := by
  rw [scanCol_eq]
  by_cases h : 0 < nlCount bs
  · simp [h]
  · have h0 : nlCount bs = 0 := by omega
    simp [h0, lastLine_noNl bs h0]

theorem lineCol_col (s : Bytes) (q : Nat) : (lineCol s q).col = firstColumn + (lastLine (s.take q)).length := by
  unfold lineCol
  rw [scan_col]
  exact scanCol_first_eq _

theorem lineCol_line (s : Bytes) (q : Nat) : (lineCol s q).line = firstLine + nlCount (s.take q) := by
  unfold lineCol
  rw [scan_line]
  rfl

/-- inserting whole lines at a line start does not change the text of the line a later offset is on -/
theorem sourceLine_insert_lines (s ins : Bytes) (p q : Nat) (hpq : p ≤ q) (hq : q ≤ s.length)
    (hstart : (lineCol s p).col = firstColumn) (hins : NlTerminated ins) :
    sourceLine (insertAt s p ins) (q + ins.length) = sourceLine s q := by
  unfold sourceLine
  rw [drop_insertAt_after s ins p q hpq hq, take_insertAt_after s ins p q hpq hq, take_split s p q hpq]
  congr 1
  have hp0 : lastLine (s.take p) = [] := by
    have := lineCol_col s p
    rw [hstart] at this
    have hl : (lastLine (s.take p)).length = 0 := by omega
    exact List.eq_nil_of_length_eq_zero hl
  by_cases hr : 0 < nlCount ((s.drop p).take (q - p))
  · rw [lastLine_append_hasNl _ _ hr, lastLine_append_hasNl _ _ hr]
  · have hr0 : nlCount ((s.drop p).take (q - p)) = 0 := by omega
    rw [lastLine_append_noNl _ _ hr0, lastLine_append_noNl _ _ hr0]
    congr 1
    rcases hins with rfl | ⟨pre, c, rfl, hc⟩
    · simp
    · rw [hp0, ← List.append_assoc, lastLine_append_nl _ c hc]

theorem foldl_add_init (l : List (Nat × Bytes)) (a : Nat) :
    l.foldl (fun a e => a + e.2.length) a = a + l.foldl (fun a e => a + e.2.length) 0 := by
  induction l generalizing a with
  | nil => simp
  | cons e l ih => simp only [List.foldl_cons]; rw [ih, ih (0 + e.2.length)]; omega

theorem moveThrough_cons (p : Nat) (ins : Bytes) (rest : List (Nat × Bytes)) (q : Nat) :
    moveThrough ((p, ins) :: rest) q = moveThrough rest q + (if p ≤ q then ins.length else 0) := by
  unfold moveThrough
  simp only [List.filter_cons]
  by_cases h : p ≤ q
  · simp only [h, decide_true, if_true, List.foldl_cons]
    rw [foldl_add_init]; omega
  · simp [h]

theorem moveThrough_ge (es : List (Nat × Bytes)) (q : Nat) : q ≤ moveThrough es q := by
  unfold moveThrough; omega

theorem moveThrough_all_after (es : List (Nat × Bytes)) (q : Nat) (h : ∀ e ∈ es, q < e.1) :
    moveThrough es q = q := by
  unfold moveThrough
  have : es.filter (fun e => decide (e.1 ≤ q)) = [] := by
    rw [List.filter_eq_nil_iff]; intro e he; have := h e he; simp; omega
  rw [this]; rfl

/-- insertion offsets in ascending order (the order the harness and `applyEdits` use) -/
def Ascending : List (Nat × Bytes) → Prop
  | [] => True
  | (p, _) :: rest => (∀ e ∈ rest, p ≤ e.1) ∧ Ascending rest

theorem getElem?_insertAt_after (t ins : Bytes) (p q : Nat) (hpq : p ≤ q) (hp : p ≤ t.length) :
    (insertAt t p ins)[q + ins.length]? = t[q]? := by
  unfold insertAt
  have hl : (t.take p ++ ins).length = p + ins.length := by simp [List.length_take]; omega
  rw [List.getElem?_append_right (by omega), hl, List.getElem?_drop]
  congr 1; omega

theorem getElem?_insertAt_before (t ins : Bytes) (p q : Nat) (hqp : q < p) (hq : q < t.length) :
    (insertAt t p ins)[q]? = t[q]? := by
  unfold insertAt
  rw [List.append_assoc, List.getElem?_append_left (by simp [List.length_take]; omega)]
  simp [hqp]

theorem length_applyEdits_ge (s : Bytes) (es : List (Nat × Bytes)) : s.length ≤ (applyEdits s es).length := by
  induction es with
  | nil => simp [applyEdits]
  | cons e es ih =>
    obtain ⟨p, ins⟩ := e
    simp only [applyEdits, length_insertAt]; omega

theorem totalSlots_append (a b : SourceManager) : totalSlots (a ++ b) = totalSlots a + totalSlots b := by
  induction a with
  | nil => simp [totalSlots, show firstRaw = 0 from rfl]
  | cons f a ih => simp [totalSlots, ih]; omega

theorem getFileLocation_skip (pre rest : SourceManager) (loc : Nat) :
    getFileLocation (pre ++ rest) (totalSlots pre + loc) = getFileLocation rest loc := by
  induction pre with
  | nil => simp [totalSlots, show firstRaw = 0 from rfl]
  | cons f pre ih =>
    have hnot : ¬ (f.slots + totalSlots pre + loc < f.slots) := by omega
    have hsub : f.slots + totalSlots pre + loc - f.slots = totalSlots pre + loc := by omega
    simp only [List.cons_append, getFileLocation, totalSlots, hnot, if_false, hsub]
    exact ih

theorem getFileOffset_skip (pre rest : SourceManager) (loc : Nat) :
    getFileOffset (pre ++ rest) (totalSlots pre + loc) =
      (getFileOffset rest loc).map fun (i, o) => (pre.length + i, o) := by
  induction pre with
  | nil =>
    simp [totalSlots, show firstRaw = 0 from rfl]
  | cons f pre ih =>
    have hnot : ¬ (f.slots + totalSlots pre + loc < f.slots) := by omega
    have hsub : f.slots + totalSlots pre + loc - f.slots = totalSlots pre + loc := by omega
    simp only [List.cons_append, getFileOffset, totalSlots, hnot, if_false, hsub, ih]
    cases getFileOffset rest loc with
    | none => rfl
    | some io => cases io; simp; omega

/-- a location inside a file decodes to that file, at the offset inside it, wherever the file sits among the loaded files -/
theorem decode_in_file (pre post : SourceManager) (f : SourceFile) (off : Nat) (h : off ≤ f.contents.length) :
    getFileLocation (pre ++ f :: post) (totalSlots pre + off) =
      .known f.name (lineCol f.contents off).line (lineCol f.contents off).col ∧
    getFileOffset (pre ++ f :: post) (totalSlots pre + off) = some (pre.length, off) := by
  have hlt : off < f.slots := by unfold SourceFile.slots; have : extraSlots = 1 := rfl; omega
  constructor
  · rw [getFileLocation_skip]; simp [getFileLocation, hlt]
  · rw [getFileOffset_skip]; simp [getFileOffset, hlt]

/-- a raw location lies behind all files, or inside one of them (where `decode_in_file` decodes it) -/
theorem loc_cases (sm : SourceManager) (loc : Nat) :
    (totalSlots sm ≤ loc ∧ getFileLocation sm loc = .unknown ∧ getFileOffset sm loc = none) ∨
    ∃ pre f post off, sm = pre ++ f :: post ∧ off ≤ f.contents.length ∧ loc = totalSlots pre + off := by
  induction sm generalizing loc with
  | nil => exact .inl ⟨Nat.zero_le _, rfl, rfl⟩
  | cons f sm ih =>
    by_cases hlt : loc < f.slots
    · exact .inr ⟨[], f, sm, loc, rfl, Nat.le_of_lt_succ hlt, (Nat.zero_add _).symm⟩
    · rcases ih (loc - f.slots) with ⟨h1, h2, h3⟩ | ⟨pre, g, post, off, rfl, ho, hl⟩
      · refine .inl ⟨?_, ?_, ?_⟩
        · simp only [totalSlots]; omega
        · simp only [getFileLocation, hlt, if_false, h2]
        · simp [getFileOffset, hlt, h3]
      · exact .inr ⟨f :: pre, g, post, off, rfl, ho, by simp only [totalSlots]; omega⟩

end RsslVerif.Lemmas.SourceMap
