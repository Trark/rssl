import RsslVerif.Model.Macro
/-!
# Evaluating `applyLoop` on concrete inputs

`applyLoop` is defined by well-founded recursion, which the kernel does not unfold by `decide`.  `applyLoopF` is the
same function with a fuel argument (structural recursion); `applyLoopF_sound`: whenever it answers, `applyLoop`
returns that answer.  Used for the witnesses in `Thm/C12Boundary.lean`.
-/
deriving instance DecidableEq for Except

namespace RsslVerif.Lemmas.MacroEval
open RsslVerif.Model.Macro

def mapOE (f : List PTok → Option (Except Err (List PTok))) :
    List (List PTok) → Option (Except Err (List (List PTok)))
  | [] => some (.ok [])
  | a :: r =>
    match f a with
    | none => none
    | some (.error e) => some (.error e)
    | some (.ok b) =>
      match mapOE f r with
      | none => none
      | some (.error e) => some (.error e)
      | some (.ok bs) => some (.ok (b :: bs))

def applyLoopF : Nat → List Entry → List PTok → SearchPos → Option (Except Err (List PTok))
  | 0, _, _, _ => none
  | n + 1, env, toks, sp =>
    if sp.next < toks.length then
      match findSingle toks sp env with
      | .error e => some (.error e)
      | .ok .none => some (.ok toks)
      | .ok (.concat l r) =>
        match toks[l]?, toks[r]? with
        | some lt, some rt =>
          if l + 1 < r then
            match pasteTokens lt rt with
            | .error e => some (.error e)
            | .ok merged =>
              if sp.next < r ∧ r < toks.length then
                applyLoopF n env (splice toks l (r + 1) [merged]) ⟨l, l, none⟩
              else some (.error (.guard "concat: right operand not beyond next_pos"))
          else some (.error (.panic "assert left_token_pos + 1 < right_token_pos"))
        | _, _ => some (.error (.panic "index out of bounds: tokens[left/right]"))
      | .ok (.user mi p) =>
        match env[mi]? with
        | none => some (.error (.panic "index out of bounds: macro_defs[macro_index]"))
        | some e =>
          match readArgs e.m (toks.drop (p + 1)) with
          | .error er => some (.error er)
          | .ok (rest, args) =>
            match mapOE (fun a =>
                if a.length < toks.length - sp.next then applyLoopF n env a SearchPos.start
                else some (.error (.guard "argument not shorter than the unscanned suffix"))) args with
            | none => none
            | some (.error er) => some (.error er)
            | some (.ok args') =>
              match substitute e.m.body args' with
              | .error er => some (.error er)
              | .ok output =>
                if e.disabled = false then
                  match applyLoopF n (disable env mi) output SearchPos.start with
                  | none => none
                  | some (.error er) => some (.error er)
                  | some (.ok output') =>
                    if p < toks.length - rest.length then
                      if sp.next < toks.length - rest.length then
                        applyLoopF n env (splice toks p (toks.length - rest.length) output')
                          ⟨p + output'.length, p, if e.m.isFunction then some mi else none⟩
                      else some (.error (.guard "invocation does not reach beyond next_pos"))
                    else some (.error (.panic "assert end > pos"))
                else some (.error (.panic "assert !macro_disabled[macro_index]"))
    else some (.ok toks)

theorem mapOE_sound (f : List PTok → Option (Except Err (List PTok))) (g : List PTok → Except Err (List PTok))
    (l : List (List PTok)) (R : Except Err (List (List PTok)))
    (hfg : ∀ a ∈ l, ∀ r, f a = some r → g a = r) (h : mapOE f l = some R) : mapE g l = R := by
  revert h
  fun_induction mapOE f l generalizing R <;> intro h <;> cases h
  · rfl
  next a r e hfa => simp only [mapE, hfg a (by simp) _ hfa]
  next a r b hfa e hm ih =>
    simp only [mapE, hfg a (by simp) _ hfa, ih _ (fun x hx => hfg x (by simp [hx])) hm]
  next a r b hfa bs hm ih =>
    simp only [mapE, hfg a (by simp) _ hfa, ih _ (fun x hx => hfg x (by simp [hx])) hm]

theorem applyLoopF_sound (n : Nat) : ∀ (env : List Entry) (toks : List PTok) (sp : SearchPos)
    (r : Except Err (List PTok)), applyLoopF n env toks sp = some r → applyLoop env toks sp = r := by
  induction n with
  | zero => intro env toks sp r h; simp [applyLoopF] at h
  | succ n ih =>
    intro env toks sp r
    have hargs : ∀ args R, mapOE (fun a => if a.length < toks.length - sp.next then applyLoopF n env a SearchPos.start
          else some (.error (.guard "argument not shorter than the unscanned suffix"))) args = some R →
        mapE (fun a => if _ha : a.length < toks.length - sp.next then applyLoop env a SearchPos.start
          else .error (.guard "argument not shorter than the unscanned suffix")) args = R := fun args R =>
      mapOE_sound _ _ args R fun a _ ra hfa => by
        split at hfa
        · rw [dif_pos ‹_›]; exact ih _ _ _ _ hfa
        · rw [dif_neg ‹_›]; cases hfa; rfl
    generalize hg : n + 1 = g
    -- one case per branch of `applyLoopF`; `applyLoop` has the same branches, and the case's hypotheses select the branch
    fun_cases applyLoopF g env toks sp <;> cases hg <;> intro h <;> rw [applyLoop]
    -- the fuel ran out in an argument or in the replacement list
    case case11.refl | case14.refl => cases h
    -- (without `ih` and `hargs`: as rewrite rules they are tried at every call of `applyLoop` and never apply)
    all_goals simp only [*, -ih, -hargs, ↓reduceDIte, ↓reduceIte, and_self]
    -- the loop goes on after a paste
    case case5.refl => exact ih _ _ _ _ h
    -- an invocation (`rw`: `simp` does not rewrite the subject of `match _hmi : env[mi]? with`).  The loop goes on:
    case case16.refl hmi _ _ _ _ _ hb hm =>
      rw [hmi]
      simp only [*, hargs _ _ hm, ih _ _ _ _ hb, ↓reduceDIte]
      exact ih _ _ _ _ h
    -- an error in the replacement list, or a guard after it fails
    case case15.refl | case17.refl | case18.refl =>
      rw [‹env[_]? = _›]
      simp only [*, hargs _ _ ‹_›, ih _ _ _ _ ‹_›, ↓reduceDIte]
      exact Option.some.inj h
    -- an error in an argument or in the substitution, or the entry is disabled
    case case12.refl | case13.refl | case19.refl =>
      rw [‹env[_]? = _›]
      simp only [*, hargs _ _ ‹_›]
      exact Option.some.inj h
    -- there is no such entry, or its arguments cannot be read
    case case9.refl | case10.refl =>
      rw [‹env[_]? = _›]
      simp only [*]
      exact Option.some.inj h
    -- no invocation
    all_goals exact Option.some.inj h

end RsslVerif.Lemmas.MacroEval
