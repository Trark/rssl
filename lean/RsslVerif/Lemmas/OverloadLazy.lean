import RsslVerif.Lemmas.Overload
import RsslVerif.Lemmas.Conv
/-! The literal transcription of `find_function_type` (`get_rank` evaluated inside the loops) computes the same outcome
as the form that ranks all casts first, for candidates of any kind (`lazy_eq`).  The proof does not use that `get_rank`
cannot fail on a cast `find` built (`Lemmas.Conv.findRank_total`, a fact about the regenerated rank table): it also shows
that the two agree on *whether* a panic is reached, which is what `winningL_inv`, `winnersL_inv`, `lazy_all_ok` and the
`Nodup` hypothesis are for. -/
namespace RsslVerif.Lemmas.OverloadLazy
open RsslVerif.Gen.RankTable RsslVerif.Model.Conv RsslVerif.Model.Overload RsslVerif.Spec.Overload
open RsslVerif.Lemmas.Overload RsslVerif.Lemmas.Conv

/-- total version of `getRank`, only meaningful where `getRank` succeeds -/
def rk (c : Conversion) : Rank :=
  match getRank c with
  | .ok r => r
  | .error _ => default

def Ok (c : Conversion) : Prop := getRank c = .ok (rk c)

def rmap (x : Nat × List Conversion) : Nat × List Rank := (x.1, x.2.map rk)

/-- `get_rank` of one cast: a rank, which is then `rk`, or a panic -/
theorem getRank_cases (c : Conversion) : (Ok c ∧ getRank c = .ok (rk c)) ∨ (¬ Ok c ∧ ∃ e, getRank c = .error e) := by
  unfold Ok rk
  rcases getRank c with e | r
  · exact Or.inr ⟨nofun, e, rfl⟩
  · exact Or.inl ⟨rfl, rfl⟩

theorem ranksOf_eq_ok : ∀ {cs : List Conversion} {rs : List Rank},
    ranksOf cs = .ok rs ↔ (∀ c ∈ cs, Ok c) ∧ rs = cs.map rk
  | [], rs => by simp [ranksOf, eq_comm]
  | c :: cs, rs => by
    have ih := @ranksOf_eq_ok cs
    simp only [ranksOf, List.forall_mem_cons, List.map_cons]
    rcases hr : ranksOf cs with e | rs'
    · exact ⟨nofun, fun h => by cases hr.symm.trans (ih.mpr ⟨h.1.2, rfl⟩)⟩
    · obtain ⟨h1, rfl⟩ := ih.mp hr
      rcases getRank_cases c with ⟨oc, ec⟩ | ⟨nc, e, ec⟩ <;> rw [ec]
      · exact ⟨fun h => ⟨⟨oc, h1⟩, by cases h; rfl⟩, fun h => by rw [h.2]⟩
      · exact ⟨nofun, fun h => absurd h.1.1 nc⟩

theorem ranksOf_error_inv : ∀ (cs : List Conversion), (∃ e, ranksOf cs = .error e) →
    ∃ c ∈ cs, ∃ e, getRank c = .error e := fun cs ⟨e, h⟩ => by
  have : ¬ ∀ c ∈ cs, Ok c := fun hall => by cases h.symm.trans (ranksOf_eq_ok.mpr ⟨hall, rfl⟩)
  obtain ⟨c, hc, hn⟩ : ∃ c ∈ cs, ¬ Ok c := by simpa using this
  exact ⟨c, hc, ((getRank_cases c).resolve_left fun h => hn h.1).2⟩

/-- the `zip` loop of the tournament succeeds iff `get_rank` does on every pair it meets -/
theorem notWorseL_eq_ok : ∀ {cs as : List Conversion} {b : Bool},
    notWorseL cs as = .ok b ↔ (∀ p ∈ cs.zip as, Ok p.1 ∧ Ok p.2) ∧ b = notWorse (cs.map rk) (as.map rk)
  | [], _, b => by simp [notWorseL, notWorse, eq_comm]
  | _ :: _, [], b => by simp [notWorseL, notWorse, eq_comm]
  | c :: cs, a :: as, b => by
    have ih := @notWorseL_eq_ok cs as
    simp only [notWorseL, List.zip_cons_cons, List.forall_mem_cons, List.map_cons, notWorse]
    rcases getRank_cases c with ⟨oc, ec⟩ | ⟨nc, e, ec⟩ <;> rw [ec]
    · rcases getRank_cases a with ⟨oa, ea⟩ | ⟨na, e, ea⟩ <;> rw [ea]
      · rcases hr : notWorseL cs as with e | rest
        · exact ⟨nofun, fun h => by cases hr.symm.trans (ih.mpr ⟨h.1.2, rfl⟩)⟩
        · obtain ⟨h1, rfl⟩ := ih.mp hr
          exact ⟨fun h => ⟨⟨⟨oc, oa⟩, h1⟩, by cases h; rfl⟩, fun h => by rw [h.2]⟩
      · exact ⟨nofun, fun h => absurd h.1.1.2 na⟩
    · exact ⟨nofun, fun h => absurd h.1.1.1 nc⟩

/-- all ranked: the `against` loop computes the tournament test (the `break` skips only what `all` need not see) -/
theorem winningL_ok (c : Nat × List Conversion) (hc : ∀ x ∈ c.2, Ok x) :
    ∀ (l : List (Nat × List Conversion)), (∀ a ∈ l, ∀ x ∈ a.2, Ok x) →
      winningL c l = .ok (l.all fun a => a.1 == c.1 || notWorse (c.2.map rk) (a.2.map rk))
  | [], _ => rfl
  | a :: as, h => by
    have ih := winningL_ok c hc as (fun b hb => h b (List.mem_cons_of_mem _ hb))
    have hn : notWorseL c.2 a.2 = .ok (notWorse (c.2.map rk) (a.2.map rk)) :=
      notWorseL_eq_ok.mpr ⟨fun p hp => ⟨hc _ (List.of_mem_zip hp).1, h a List.mem_cons_self _ (List.of_mem_zip hp).2⟩, rfl⟩
    simp only [winningL, List.all_cons, hn]
    cases a.1 == c.1 <;> cases notWorse (c.2.map rk) (a.2.map rk) <;> simp [ih]

/-- a candidate that is compared with another one at all has had every cast ranked: the `zip` loop has no early exit -/
theorem winningL_inv (x : Nat × List Conversion) : ∀ (l : List (Nat × List Conversion)) (b : Bool), winningL x l = .ok b →
    (∃ a ∈ l, a.1 ≠ x.1) → (∀ a ∈ l, x.2.length ≤ a.2.length) → ∀ c ∈ x.2, Ok c
  | [], _, _, h, _ => by simp at h
  | a :: as, b, hw, ⟨o, ho, hne⟩, hl => by
    simp only [winningL] at hw
    split at hw
    · rename_i hid
      refine winningL_inv x as b hw ⟨o, ?_, hne⟩ (fun a' h' => hl a' (List.mem_cons_of_mem _ h'))
      rcases List.mem_cons.mp ho with rfl | ho
      · exact absurd (by simpa using hid) hne
      · exact ho
    · rcases hn : notWorseL x.2 a.2 with e | b'
      · rw [hn] at hw; cases hw
      · intro c hc
        rw [← List.map_fst_zip (hl a List.mem_cons_self)] at hc
        obtain ⟨p, hp, rfl⟩ := List.mem_map.mp hc
        exact ((notWorseL_eq_ok.mp hn).1 p hp).1

theorem winnersL_ok (all : List (Nat × List Conversion)) (hall : ∀ a ∈ all, ∀ x ∈ a.2, Ok x) :
    ∀ (l : List (Nat × List Conversion)), (∀ a ∈ l, ∀ x ∈ a.2, Ok x) →
      winnersL all l = .ok (l.filter fun c => all.all fun a => a.1 == c.1 || notWorse (c.2.map rk) (a.2.map rk))
  | [], _ => rfl
  | c :: cs, h => by
    simp only [winnersL, winningL_ok c (h c List.mem_cons_self) all hall,
      winnersL_ok all hall cs (fun b hb => h b (List.mem_cons_of_mem _ hb)), List.filter_cons]

/-- the `candidate` loop runs the `against` loop for every candidate -/
theorem winnersL_inv (all : List (Nat × List Conversion)) : ∀ (l w : List (Nat × List Conversion)), winnersL all l = .ok w →
    ∀ c ∈ l, ∃ b, winningL c all = .ok b
  | [], _, _ => by simp
  | c :: cs, w, h => by
    simp only [winnersL] at h
    rcases hc : winningL c all with e | b <;> rw [hc] at h
    · cases h
    · rcases hr : winnersL all cs with e | rest <;> rw [hr] at h
      · cases h
      · exact List.forall_mem_cons.mpr ⟨⟨b, hc⟩, winnersL_inv all cs rest hr⟩

theorem rankWinners_eq_ok : ∀ {l : List (Nat × List Conversion)} {wr : List (Nat × List Rank)},
    rankWinners l = .ok wr ↔ (∀ x ∈ l, ∀ c ∈ x.2, Ok c) ∧ wr = l.map rmap
  | [], wr => by simp [rankWinners, eq_comm]
  | x :: xs, wr => by
    have ih := @rankWinners_eq_ok xs
    simp only [rankWinners, List.forall_mem_cons, List.map_cons]
    rcases hx : ranksOf x.2 with e | rs
    · exact ⟨nofun, fun h => by cases hx.symm.trans (ranksOf_eq_ok.mpr ⟨h.1.1, rfl⟩)⟩
    · obtain ⟨h1, rfl⟩ := ranksOf_eq_ok.mp hx
      rcases hr : rankWinners xs with e | rest
      · exact ⟨nofun, fun h => by cases hr.symm.trans (ih.mpr ⟨h.1.2, rfl⟩)⟩
      · obtain ⟨h2, rfl⟩ := ih.mp hr
        exact ⟨fun h => ⟨⟨h1, h2⟩, by cases h; rfl⟩, fun h => by rw [h.2]; rfl⟩

/-- with every `get_rank` succeeding, the lazy loops compute `winners` of the ranked list -/
theorem lazy_winners_ok (casts : List (Nat × List Conversion)) (h : ∀ a ∈ casts, ∀ x ∈ a.2, Ok x) :
    ∃ w, winnersL casts casts = .ok w ∧ rankWinners w = .ok (winners (casts.map rmap)) := by
  refine ⟨_, winnersL_ok casts h casts h, ?_⟩
  rw [rankWinners_eq_ok.mpr ⟨fun a ha => h a (List.mem_filter.mp ha).1, rfl⟩]
  congr 1
  unfold winners
  rw [List.filter_map]
  congr 1
  apply List.filter_congr
  intro c _
  simp only [Function.comp, rmap, List.all_map]
  rfl

/-- if the lazy evaluation gets through both loops, every cast of every viable candidate was ranked: with another
    candidate around in the tournament (distinct ids, equal lengths), as the only candidate in `count_by_rank` -/
theorem lazy_all_ok (casts : List (Nat × List Conversion)) (hnd : (casts.map (·.1)).Nodup) {n : Nat}
    (hlen : ∀ a ∈ casts, a.2.length = n) {w : List (Nat × List Conversion)} (hw : winnersL casts casts = .ok w)
    {wr : List (Nat × List Rank)} (hr : rankWinners w = .ok wr) : ∀ x ∈ casts, ∀ c ∈ x.2, Ok c := by
  intro x hx
  by_cases hother : ∃ a ∈ casts, a.1 ≠ x.1
  · obtain ⟨b, hb⟩ := winnersL_inv casts casts w hw x hx
    exact winningL_inv x casts b hb hother (fun a ha => by rw [hlen a ha, hlen x hx]; exact Nat.le_refl _)
  · -- x is the only viable candidate: it wins the empty tournament and is ranked afterwards
    have hsingle : casts = [x] :=
      eq_singleton_of_nodup (List.Pairwise.of_map _ (fun _ _ h e => h (e ▸ rfl)) hnd) hx fun a ha =>
        Basics.eq_of_map_nodup hnd ha hx (Classical.byContradiction fun hne => hother ⟨a, ha, hne⟩)
    subst hsingle
    simp only [winnersL, winningL, beq_self_eq_true, if_true] at hw
    cases hw
    exact (rankWinners_eq_ok.mp hr).1 x List.mem_cons_self

theorem zipFind_no_panic (ps : List Param) (as : List ETy) : ∃ r, zipFind ps as = .ok r := by
  fun_induction zipFind ps as
  case case1 p _ a _ e he => obtain ⟨r, hr⟩ := find_no_panic a p.ety; cases hr.symm.trans he
  case case3 e he ih => obtain ⟨r, hr⟩ := ih; cases hr.symm.trans he
  all_goals exact ⟨_, rfl⟩

/-- the `zip` loop of `find_overload_casts` succeeds on a further pair iff the argument converts and the rest succeeds -/
theorem zipFind_cons_some {p : Param} {ps : List Param} {a : ETy} {as : List ETy} {cs : List Conversion} :
    zipFind (p :: ps) (a :: as) = .ok (some cs) ↔
      ∃ c cs', find a p.ety = .ok (some c) ∧ zipFind ps as = .ok (some cs') ∧ cs = c :: cs' := by
  simp only [zipFind]
  rcases find a p.ety with e | (_ | c) <;> simp
  rcases zipFind ps as with e | (_ | cs') <;> simp [eq_comm]

theorem zipFind_length : ∀ (ps : List Param) (as : List ETy) (cs : List Conversion),
    zipFind ps as = .ok (some cs) → cs.length = min ps.length as.length
  | [], _, cs, h => by
    simp only [zipFind, Except.ok.injEq, Option.some.injEq] at h
    rw [← h]; simp
  | _ :: _, [], cs, h => by
    simp only [zipFind, Except.ok.injEq, Option.some.injEq] at h
    rw [← h]; simp
  | p :: ps, a :: as, cs, h => by
    obtain ⟨_, cs', _, hz, rfl⟩ := zipFind_cons_some.mp h
    simp only [List.length_cons, zipFind_length ps as cs' hz]
    omega

theorem zipRanks_eq (ps : List Param) (as : List ETy) :
    zipRanks ps as =
      (match zipFind ps as with
       | .error e => .error e
       | .ok none => .ok none
       | .ok (some cs) =>
         match ranksOf cs with
         | .error e => .error e
         | .ok rs => .ok (some rs)) := by
  fun_induction zipFind ps as <;> simp only [zipRanks, ranksOf, *]
  -- head and tail convert: `zipRanks` ranks the head after the tail, `ranksOf` before
  rename_i c _ cs _ _
  cases ranksOf cs <;> cases getRank c <;> rfl

/-- what the first loop of the lazy transcription leaves for ordinary candidates, in the terms of `rankCand`: `viable` the
    casts; `panic_iff` a failing `get_rank` of some cast is a panic among the per-candidate results and back; `ranked`
    identifies `rankedList` with the ranked casts when every `get_rank` succeeds; `len` (equal lengths: the `zip` of the
    tournament meets every cast), `ids` and `nodup` (distinct ids: another viable candidate has another id) are what
    `lazy_all_ok` asks of the casts.  `collect_spec` says the same of candidates of any kind. -/
structure Link (args : List ETy) (cands : List Cand) (casts : List (Nat × List Conversion)) : Prop where
  viable : viableCasts args cands = .ok casts
  panic_iff : (cands.map (rankCand args)).any CandResult.isPanic = true ↔ ∃ x ∈ casts, ∃ e, ranksOf x.2 = .error e
  ranked : (∀ x ∈ casts, ∀ c ∈ x.2, Ok c) → rankedList cands args = casts.map rmap
  len : ∀ x ∈ casts, x.2.length = args.length
  ids : ∀ x ∈ casts, x.1 ∈ cands.map (·.id)
  nodup : (cands.map (·.id)).Nodup → (casts.map (·.1)).Nodup

/-! ## lazy = eager, for candidates of any kind

What the first loop of `find_function_type` gets from one candidate is a `CastRes`; `collect` is the loop, `toResult` the
per-candidate result of the form that ranks everything first.  `lazy_eq` needs of a kind of candidate only that the casts
carry the candidate's id and have the length of the argument list. -/

/-- a panic, nothing (not viable), or id and casts -/
abbrev CastRes := Except String (Option (Nat × List Conversion))

/-- the first loop on per-candidate results: the first panic aborts, a candidate that is not viable is dropped -/
def collect : List CastRes → Except String (List (Nat × List Conversion))
  | [] => .ok []
  | .error e :: _ => .error e
  | .ok o :: rs =>
    match collect rs with
    | .error e => .error e
    | .ok rest => .ok (match o with | some x => x :: rest | none => rest)

def toResult : CastRes → CandResult
  | .error e => .panic e
  | .ok none => .notViable
  | .ok (some x) => match ranksOf x.2 with | .error e => .panic e | .ok rs => .ranked x.1 rs

theorem toResult_ok (x : Nat × List Conversion) (h : ∀ c ∈ x.2, Ok c) :
    toResult (.ok (some x)) = .ranked x.1 (x.2.map rk) := by
  simp only [toResult, ranksOf_eq_ok.mpr ⟨h, rfl⟩]

/-- the loops after the first one, on the viable casts -/
theorem resolveCasts_ok (casts : List (Nat × List Conversion)) (hnd : (casts.map (·.1)).Nodup) {n : Nat}
    (hlen : ∀ x ∈ casts, x.2.length = n) :
    resolveCasts (.ok casts) = resolveResults (casts.map fun x => toResult (.ok (some x))) := by
  unfold resolveCasts
  by_cases hall : ∀ x ∈ casts, ∀ c ∈ x.2, Ok c
  · obtain ⟨w, hw, hrw⟩ := lazy_winners_ok casts hall
    rw [List.map_congr_left (fun x hx => toResult_ok x (hall x hx)),
      resolveResults_ranked (any_isPanic_map.mpr fun _ _ => rfl), List.filterMap_map]
    show _ = resolveRanked (List.filterMap (some ∘ rmap) casts)
    rw [List.filterMap_eq_map]
    simp only [hw, hrw]
    rfl
  · -- some cast is not ranked: `resolveResults` sees a panic, and the loops cannot both have got through
    obtain ⟨x, hx, hnx⟩ : ∃ x ∈ casts, ¬ ∀ c ∈ x.2, Ok c := by simpa using hall
    have hp : (toResult (.ok (some x))).isPanic = true := by
      simp only [toResult]
      rcases hr : ranksOf x.2 with e | rs
      · rfl
      · exact absurd (ranksOf_eq_ok.mp hr).1 hnx
    rw [resolveResults_panic (List.any_eq_true.mpr ⟨_, List.mem_map.mpr ⟨x, hx, rfl⟩, hp⟩)]
    rcases hw : winnersL casts casts with e | w
    · simp only [hw]
    · rcases hr : rankWinners w with e | wr
      · simp only [hw, hr]
      · exact absurd (lazy_all_ok casts hnd hlen hw hr) hall

section
variable {α : Type} {id : α → Nat} {cst : α → CastRes}

/-- what the first loop leaves: a panic only if some candidate's result is one; else casts of the candidates' lengths, their
    ids a sublist of the candidates', and the same panics and ranked results -/
theorem collect_spec {n : Nat} : ∀ (l : List α), (∀ a ∈ l, ∀ x, cst a = .ok (some x) → x.1 = id a ∧ x.2.length = n) →
    match collect (l.map cst) with
    | .error _ => (l.map (toResult ∘ cst)).any CandResult.isPanic = true
    | .ok casts => (casts.map (·.1)).Sublist (l.map id) ∧ (∀ x ∈ casts, x.2.length = n) ∧
        (l.map (toResult ∘ cst)).any CandResult.isPanic = (casts.map fun x => toResult (.ok (some x))).any CandResult.isPanic ∧
        (l.map (toResult ∘ cst)).filterMap CandResult.ranked? =
          (casts.map fun x => toResult (.ok (some x))).filterMap CandResult.ranked?
  | [], _ => by simp [collect]
  | a :: t, h => by
    have ih := collect_spec t (fun b hb => h b (List.mem_cons_of_mem _ hb))
    have ha := h a List.mem_cons_self
    simp only [List.map_cons, Function.comp]
    rcases hc : cst a with e | (_ | x)
    · simp [collect, toResult, CandResult.isPanic]
    · simp only [collect]
      rcases hr : collect (t.map cst) with e | rest <;> rw [hr] at ih <;> simp only at ih ⊢
      · simp [ih]
      · obtain ⟨i1, i2, i3, i4⟩ := ih
        exact ⟨i1.cons _, i2, by simpa only [List.any_cons, toResult, CandResult.isPanic, Bool.false_or] using i3,
          by simpa only [List.filterMap_cons, toResult, CandResult.ranked?] using i4⟩
    · simp only [collect]
      rcases hr : collect (t.map cst) with e | rest <;> rw [hr] at ih <;> simp only at ih ⊢
      · simp [ih]
      · obtain ⟨i1, i2, i3, i4⟩ := ih
        obtain ⟨hx1, hx2⟩ := ha x hc
        refine ⟨?_, List.forall_mem_cons.mpr ⟨hx2, i2⟩, ?_, ?_⟩
        · rw [List.map_cons, hx1]; exact i1.cons_cons _
        · simp only [List.map_cons, List.any_cons, i3]
        · simp only [List.map_cons, List.filterMap_cons, i4]

/-- **Refinement**: the source's evaluation order gives the verdict of the form that ranks first, also on *whether* a
    panic is reached -/
theorem lazy_eq {n : Nat} {l : List α} (h : ∀ a ∈ l, ∀ x, cst a = .ok (some x) → x.1 = id a ∧ x.2.length = n)
    (hnd : (l.map id).Nodup) : resolveCasts (collect (l.map cst)) = resolveResults (l.map (toResult ∘ cst)) := by
  have hs := collect_spec (id := id) l h
  rcases hc : collect (l.map cst) with e | casts <;> rw [hc] at hs <;> simp only at hs
  · rw [resolveResults_panic hs]; rfl
  · obtain ⟨i1, i2, i3, i4⟩ := hs
    rw [resolveCasts_ok casts (i1.nodup hnd) i2, resolveResults_congr i3 i4]

end

end RsslVerif.Lemmas.OverloadLazy
