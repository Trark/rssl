import RsslVerif.Model.Names
import RsslVerif.Lemmas.NamesRename
/-!
Order independence of the model of `NameMap::build`: the groups of a scope depend only on the *set* of its keys (the sorted
key vector is canonical, `Names.sortedNames_congr`), the local pass depends on `used_names_all_scopes` only through
membership, and the final collection is a permutation when the scope list is permuted.
-/
namespace RsslVerif.Lemmas.NamesOrder
open RsslVerif.Model.Names RsslVerif.Lemmas.Names

theorem groupsOfKeys_congr {keys : List String} {syms : List (String × Sym)}
    (h : ∀ x, x ∈ keys ↔ x ∈ syms.map (·.1)) : groupsOfKeys keys syms = groupsOf syms := by
  unfold groupsOf groupsOfKeys
  rw [sortedNames_congr h]

/-- the state a scope ends in (junk when the scope fails, which `build = .ok _` excludes) -/
def stOf (reserved : List String) (inp : Input) (s : Option Nat) : St :=
  match scopeRun reserved (groupsOf (scopeSyms inp s)) with
  | .ok st => st
  | .error _ => default

theorem stOf_eq {reserved : List String} {inp : Input} {s : Option Nat} {st : St}
    (h : scopeRun reserved (groupsOf (scopeSyms inp s)) = .ok st) : stOf reserved inp s = st := by
  simp [stOf, h]

/-- the scope loop succeeds exactly when every scope does, and then lists the scopes' end states in the order visited;
the listing `keys s` of the names of a scope does not matter -/
theorem runScopesWith_ok_iff {reserved : List String} {inp : Input} {keys : Option Nat → List String}
    (hkeys : ∀ s x, x ∈ keys s ↔ x ∈ (scopeSyms inp s).map (·.1)) :
    ∀ (ss : List (Option Nat)) {out : List (Option Nat × St)}, runScopesWith reserved inp keys ss = .ok out ↔
      out = ss.map (fun s => (s, stOf reserved inp s)) ∧
      ∀ s, s ∈ ss → ∃ st, scopeRun reserved (groupsOf (scopeSyms inp s)) = .ok st := by
  intro ss out
  fun_induction runScopesWith reserved inp keys ss generalizing out
  case case1 => simp [eq_comm]
  case case2 a r e hst =>  -- scope `a` fails
    rw [groupsOfKeys_congr (hkeys a)] at hst
    refine ⟨(fun h => nomatch h), fun ⟨_, hok⟩ => ?_⟩
    obtain ⟨st, h⟩ := hok a (List.mem_cons_self ..)
    cases hst.symm.trans h
  case case3 a r st hst e hr ih =>  -- a later scope fails
    refine ⟨(fun h => nomatch h), fun ⟨_, hok⟩ => ?_⟩
    cases hr.symm.trans (ih.mpr ⟨rfl, fun s hs => hok s (List.mem_cons_of_mem _ hs)⟩)
  case case4 a r st hst rest hr ih =>
    rw [groupsOfKeys_congr (hkeys a)] at hst
    rw [List.map_cons, stOf_eq hst]
    obtain ⟨rfl, hok⟩ := ih.mp hr
    refine ⟨fun h => ?_, fun ⟨h, _⟩ => h ▸ rfl⟩
    cases h
    exact ⟨rfl, fun s hs => (List.mem_cons.mp hs).elim (fun e => e ▸ ⟨st, hst⟩) (hok s)⟩

/-- the model's `build` is the instance "scopes by id, keys in push order" -/
theorem runScopes_eq_with (reserved : List String) (inp : Input) :
    ∀ (ss : List (Option Nat)),
      runScopes reserved inp ss = runScopesWith reserved inp (fun s => (scopeSyms inp s).map (·.1)) ss := by
  intro ss
  induction ss with
  | nil => simp [runScopes, runScopesWith]
  | cons a r ih =>
    unfold runScopes runScopesWith
    rw [ih]
    rfl

theorem runScopes_eq_map {reserved : List String} {inp : Input} :
    ∀ (ss : List (Option Nat)) {out : List (Option Nat × St)}, runScopes reserved inp ss = .ok out →
      out = ss.map (fun s => (s, stOf reserved inp s)) ∧
      ∀ s, s ∈ ss → ∃ st, scopeRun reserved (groupsOf (scopeSyms inp s)) = .ok st := by
  intro ss out h
  rw [runScopes_eq_with] at h
  exact (runScopesWith_ok_iff (fun _ _ => Iff.rfl) ss).mp h

/-! ## the local pass depends on `used_names_all_scopes` only as a set -/

/-- the local pass reads `used_names_all_scopes` through membership tests and its length (the fuel): the identity renaming
between two listings of one set -/
theorem assignLocals_perm {al : List String} (ls : List String) {ua ua' : List String} (h : ua.Perm ua') :
    assignLocals al ua ls = assignLocals al ua' ls := by
  have hid : NamesRename.Renaming [] id := ⟨fun _ _ h => h, fun _ => Iff.rfl, fun _ _ => rfl, fun _ _ => Iff.rfl⟩
  simpa using (NamesRename.assignLocals_rename hid al ls ⟨h.length_eq.symm, fun x => h.mem_iff.symm⟩).symm

theorem hasDup_eq_false_iff : ∀ {l : List Sym}, hasDup l = false ↔ l.Nodup := by
  intro l
  induction l with
  | nil => simp [hasDup]
  | cons a r ih =>
    simp only [hasDup, Bool.or_eq_false_iff, List.nodup_cons, ih]
    constructor
    · rintro ⟨h1, h2⟩; exact ⟨by simpa using h1, h2⟩
    · rintro ⟨h1, h2⟩; exact ⟨by simpa using h1, h2⟩

theorem hasDup_perm {l l' : List Sym} (h : l.Perm l') : hasDup l = hasDup l' := by
  cases h1 : hasDup l <;> cases h2 : hasDup l' <;> try rfl
  · have := h.nodup_iff.mp (hasDup_eq_false_iff.mp h1)
    rw [← hasDup_eq_false_iff, h2] at this; cases this
  · have := h.nodup_iff.mpr (hasDup_eq_false_iff.mp h2)
    rw [← hasDup_eq_false_iff, h1] at this; cases this

theorem usedNames_perm (inp : Input) {l l' : List Named} (h : l.Perm l') :
    (usedNames inp l).Perm (usedNames inp l') := by
  unfold usedNames
  exact h.filterMap _

/-- permuting the list of finished scopes permutes the result (and changes nothing else) -/
theorem finish_perm {reserved : List String} {inp : Input} {sc sc' : List (Option Nat × St)} (h : sc.Perm sc')
    {names : List Named} (hf : finish reserved inp sc = .ok names) :
    ∃ names', finish reserved inp sc' = .ok names' ∧ names'.Perm names := by
  unfold finish at hf ⊢
  simp only at hf ⊢
  have hg := h.flatMap_right (fun p : Option Nat × St => p.2.out.map fun q => (⟨q.1, p.1, q.2⟩ : Named))
  have hgen := h.flatMap_right (fun p : Option Nat × St => p.2.gen)
  have hua := List.Perm.append (List.Perm.append (List.Perm.refl reserved) hgen) (usedNames_perm inp hg)
  rw [← hasDup_perm (hg.map (·.sym))]
  split at hf
  · cases hf
  · rename_i hd
    rw [if_neg hd]
    rw [← assignLocals_perm inp.locals hua]
    split at hf
    · cases hf
    · rename_i ls hl
      cases hf
      exact ⟨_, rfl, (hg.symm).append_right _⟩

theorem build_eq_buildWith (reserved : List String) (inp : Input) :
    build reserved inp = buildWith reserved inp (scopeIds inp) (fun s => (scopeSyms inp s).map (·.1)) := by
  unfold build buildWith
  rw [runScopes_eq_with]

/-- general form: any two iteration orders (of the scope map and of the per-scope key maps) give the same
assignment up to the order in which the result is listed -/
theorem buildWith_perm {reserved : List String} {inp : Input}
    {o1 o2 : List (Option Nat)} {k1 k2 : Option Nat → List String} (ho : o1.Perm o2)
    (hk1 : ∀ s x, x ∈ k1 s ↔ x ∈ (scopeSyms inp s).map (·.1))
    (hk2 : ∀ s x, x ∈ k2 s ↔ x ∈ (scopeSyms inp s).map (·.1))
    {names : List Named} (h : buildWith reserved inp o1 k1 = .ok names) :
    ∃ names', buildWith reserved inp o2 k2 = .ok names' ∧ names'.Perm names := by
  unfold buildWith at h ⊢
  split at h
  · cases h
  · split at h
    · cases h
    · rename_i sc hsc
      obtain ⟨rfl, hok⟩ := (runScopesWith_ok_iff hk1 o1).mp hsc
      rw [(runScopesWith_ok_iff hk2 o2).mpr ⟨rfl, fun s hs => hok s (ho.mem_iff.mpr hs)⟩]
      exact finish_perm (ho.map _) h

end RsslVerif.Lemmas.NamesOrder
