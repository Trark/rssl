import RsslVerif.Lemmas.LexNumeralInt
import RsslVerif.Lemmas.Dec2BinExact
import RsslVerif.Model.LitFormat
/-!
# Printed literals read back by the lexer (C10, "that value appears unchanged in the output")

The suffixes `format_literal` appends as spellings of the numeral grammar (`printedSuffix`, `printedIntSuffix`);
`Display` of an unsigned integer (`decDigits_spec`) followed by the suffix `format_literal` appends is one integer token
with that value (`tokenInt_printed`).
-/
namespace RsslVerif.Model.Lexer
open RsslVerif.Gen.LexTables RsslVerif.Spec

def floatSuffix : Option FloatType → Bytes
  | none => []
  | some .Half => [104]
  | some .Float => [102]
  | some .Double => [76]

/-- the bytes `format_literal` appends to an integer literal -/
def intSuffix : Option IntType → Bytes
  | none => []
  | some .Unsigned32 => [117]
  | some .Unsigned64 => [117, 108]
  | some .Signed64 => [108]

/-- the spelling `format_literal` uses for a float suffix: lower case `h`, `f`, upper case `L` -/
def printedSuffix : Option FloatType → Option SuffixSpelling
  | none => none
  | some .Half => some ⟨.Half, false⟩
  | some .Float => some ⟨.Float, false⟩
  | some .Double => some ⟨.Double, true⟩

theorem suffixBytes_printed (ty : Option FloatType) : suffixBytes (printedSuffix ty) = floatSuffix ty := by
  match ty with
  | none | some .Half | some .Float | some .Double => rfl

theorem printedSuffix_ty (ty : Option FloatType) : (printedSuffix ty).map (·.ty) = ty := by
  match ty with
  | none | some .Half | some .Float | some .Double => rfl

/-! ## `Display` of an unsigned integer -/
/-- value of a digit list, least significant digit first -/
def valRev : List Nat → Nat
  | [] => 0
  | d :: r => d + 10 * valRev r

open RsslVerif.Model in
theorem valRev_decDigitsRev (fuel n : Nat) (h : n < fuel) : valRev (LitFormat.decDigitsRev fuel n) = n := by
  fun_induction LitFormat.decDigitsRev fuel n
  case case1 => omega
  case case2 => simp [valRev]
  case case3 ih =>
    simp only [valRev]
    rw [ih (by omega)]
    omega

open RsslVerif.Model in
/-- the digits `decDigitsRev` produces, read most significant first: decimal digits whose value is `n`, and only `0`
itself starts with a zero -/
theorem decDigitsRev_spec (fuel n : Nat) (h : n < fuel) :
    ∃ d ds, (LitFormat.decDigitsRev fuel n).reverse = d :: ds ∧ (∀ x ∈ d :: ds, x < 10) ∧
      Dec2Bin.ofDigits 10 (d :: ds) = n ∧ (0 < n → d ≠ 0) ∧ (n = 0 → d = 0 ∧ ds = []) := by
  fun_induction LitFormat.decDigitsRev fuel n
  case case1 => omega
  case case2 n hn =>
    exact ⟨n, [], rfl, by simpa using hn, by simp [Dec2Bin.ofDigits], Nat.ne_of_gt, fun h => ⟨h, rfl⟩⟩
  case case3 f n hn ih =>
    -- the digits of `n / 10` followed by `n % 10`
    obtain ⟨d, ds, hr, hlt, hv, hnz, -⟩ := ih (by omega)
    refine ⟨d, ds ++ [n % 10], by simp [hr], ?_, ?_, fun _ => hnz (by omega), by omega⟩
    · intro x hx
      rcases List.mem_append.mp (List.cons_append ▸ hx) with hx | hx
      · exact hlt x hx
      · simp at hx; omega
    · have : Dec2Bin.ofDigits 10 (d :: ds ++ [n % 10]) = Dec2Bin.ofDigits 10 (d :: ds) * 10 + n % 10 := by
        simp [Dec2Bin.ofDigits, List.foldl_append]
      rw [← List.cons_append, this, hv]; omega

open RsslVerif.Model in
/-- **decDigits_spec**: `Display` of `n` — a non-empty string of decimal digits whose value is `n`, without a leading
zero unless it is `0` itself -/
theorem decDigits_spec (n : Nat) :
    ∃ d ds, LitFormat.decDigits n = d :: ds ∧ (∀ x ∈ d :: ds, x < 10) ∧
      Dec2Bin.ofDigits 10 (d :: ds) = n ∧ (0 < n → d ≠ 0) ∧ (n = 0 → d = 0 ∧ ds = []) :=
  decDigitsRev_spec (n + 1) n (by omega)

/-- the spelling `format_literal` uses for an integer suffix: `u`, `ul`, `l` in lower case -/
def printedIntSuffix : Option IntType → IntSuffixSpelling
  | none => .absent
  | some .Unsigned32 => .u false
  | some .Unsigned64 => .ul false false
  | some .Signed64 => .l false

theorem printedIntSuffix_spec (ity : Option IntType) :
    (printedIntSuffix ity).bytes = intSuffix ity ∧ (printedIntSuffix ity).ty = ity := by
  match ity with
  | none | some .Unsigned32 | some .Unsigned64 | some .Signed64 => exact ⟨rfl, rfl⟩

open RsslVerif.Model in
/-- **tokenInt_printed**: `Display` of `n` followed by the suffix `format_literal` appends and a boundary is one
integer token: the one `mkIntToken?` builds from the value `n` and that suffix. -/
theorem tokenInt_printed (n : Nat) (hn : n < 2 ^ 64) (ity : Option IntType) (tok : Token)
    (hk : mkIntToken? n ity = some tok) (rest : Bytes) (hb : IntBoundary rest) (inc : Bool) :
    tokenIntermediate (LitFormat.decText n ++ (intSuffix ity ++ rest)) inc = .ok (rest, tok) := by
  obtain ⟨d, ds, hdd, hlt, hval, hnz, hz⟩ := decDigits_spec n
  obtain ⟨hbytes, hty⟩ := printedIntSuffix_spec ity
  have hlead : d ≠ 0 ∨ ds = [] := by
    by_cases h0 : n = 0
    · exact .inr (hz h0).2
    · exact .inl (hnz (Nat.pos_of_ne_zero h0))
  have := decimalInt_one_token d ds hlt hlead (printedIntSuffix ity) tok (by rw [hval]; exact hn)
    (by rw [hval, hty]; exact hk) rest hb inc
  rw [hbytes] at this
  rw [show LitFormat.decText n = (d :: ds).map digitByte by unfold LitFormat.decText; rw [hdd]; rfl]
  exact this

end RsslVerif.Model.Lexer
