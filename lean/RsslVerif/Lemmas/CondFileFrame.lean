import RsslVerif.Lemmas.CondFile
/-!
# C11: an `#include` is processed every time it is met

No step of the model reads `FState.out`: every step, run after an output `o`, does what it does after the empty output,
with `o` in front (`Framed`; for a command this is read off `Lemmas.CondFile.Does`).  So what an `#include` contributes is a
function of the file's token stream and of `(chain, base, macros, once, depth)` at that point: no memory of earlier visits
of the same file except the pragma-once set.
-/
namespace RsslVerif.Lemmas.CondFileFrame
set_option linter.unusedSimpArgs false
open RsslVerif.Gen.CondTables RsslVerif.Model.CondExpr RsslVerif.Model.Macro RsslVerif.Model.CondFile
open RsslVerif.Lemmas.CondFile

abbrev E := RsslVerif.Model.CondFile.Err

def reout (o : List PTok) : Except E FState → Except E FState
  | .error e => .error e
  | .ok r => .ok { r with out := o ++ r.out }

def reout2 (o : List PTok) : Except E (FState × List PTok) → Except E (FState × List PTok)
  | .error e => .error e
  | .ok (r, a) => .ok ({ r with out := o ++ r.out }, a)

def clr (st : FState) : FState := { st with out := [] }

/-- `f` after any output = `f` after the empty output, with that output in front -/
def Framed (f : FState → Except E FState) : Prop := ∀ st, f st = reout st.out (f (clr st))

@[simp] theorem clr_chain (st : FState) : (clr st).chain = st.chain := rfl
@[simp] theorem clr_base (st : FState) : (clr st).base = st.base := rfl
@[simp] theorem clr_macros (st : FState) : (clr st).macros = st.macros := rfl
@[simp] theorem clr_once (st : FState) : (clr st).once = st.once := rfl
@[simp] theorem clr_depth (st : FState) : (clr st).depth = st.depth := rfl
@[simp] theorem clr_out (st : FState) : (clr st).out = [] := rfl

theorem reout_reout (a b : List PTok) (r : Except E FState) : reout a (reout b r) = reout (a ++ b) r := by
  cases r <;> simp [reout]

theorem flush_framed (act : List PTok) : Framed (fun st => flush st act) := by
  intro st
  obtain ⟨chain, base, macros, out, once, depth⟩ := st
  by_cases ha : active chain = true
  · cases hm : applyMacros macros act <;> simp [flush, clr, reout, ha, hm]
  · simp [flush, clr, reout, ha]

/-- whatever a command does, it does after any output as after the empty output, with that output in front -/
theorem does_framed {inc : String → FState → Except E FState}
    (hinc : ∀ n, Framed (inc n)) {st : FState} {r r0 : Except E FState} (h : Does inc st r r0) :
    r = reout st.out r0 := by
  cases h with
  | fail e => rfl
  | set ms on _ => simp [reout]
  | incl file =>
    simp only [deeper, hinc file { st with depth := st.depth + 1 }]
    show _ = reout st.out (match inc file (clr { st with depth := st.depth + 1 }) with | .error e => _ | .ok st' => _)
    cases inc file (clr { st with depth := st.depth + 1 }) <;> rfl

theorem framed_bind (g : FState → Except E FState) (hg : Framed g) (k : FState → Except E (FState × List PTok))
    (hk : ∀ s, k s = reout2 s.out (k (clr s))) (st : FState) :
    (match g st with
      | .error e => .error e
      | .ok s1 => k s1) =
    reout2 st.out (match g (clr st) with
      | .error e => .error e
      | .ok s1 => k s1) := by
  rw [hg st]
  cases g (clr st) with
  | error e => rfl
  | ok s1 =>
    simp only [reout]
    rw [hk { s1 with out := st.out ++ s1.out }, hk s1, show clr { s1 with out := st.out ++ s1.out } = clr s1 from rfl]
    cases k (clr s1) with
    | error e => rfl
    | ok p => simp only [reout2, List.append_assoc]

/-- both runs test the same condition -/
theorem ite_both {α β : Type} {f : α → β} {c : Prop} [Decidable c] {a b : β} {a' b' : α} (ht : a = f a')
    (he : b = f b') : (if c then a else b) = f (if c then a' else b') := by
  split <;> assumption

theorem fileLoop_framed (inc : String → FState → Except E FState) (hinc : ∀ n, Framed (inc n)) (cur : String) :
    ∀ (items : List SItem) (st : FState) (ps : PState) (act : List PTok),
      fileLoop inc cur st ps act items = reout2 st.out (fileLoop inc cur (clr st) ps act items)
  | [], st, ps, act => by
    obtain ⟨chain, base, macros, out, once, depth⟩ := st
    simp [fileLoop, reout2, clr]
  | .lexError :: _, st, ps, act => by simp [fileLoop, reout2]
  | .tok t :: rest, st, ps, act => by
    have ih := fun s p a => fileLoop_framed inc hinc cur rest s p a
    -- the tests of the loop read the token and the parse state only; a command and a flush are followed by the rest
    rw [fileLoop, fileLoop]
    exact ite_both
      (ite_both (framed_bind _ (fun s => does_framed hinc (command_does inc cur s act)) _ (fun s => ih s _ _) st) (ih ..))
      (ite_both (framed_bind _ (flush_framed _) _ (fun s => ih s _ _) st) (ite_both (ih ..) (ite_both (ih ..) (ih ..))))

/-- a framed step after more output is the same step with that output in front -/
theorem Framed.pre {f : FState → Except E FState} (hf : Framed f) (o : List PTok) (s : FState) :
    f { s with out := o ++ s.out } = reout o (f s) := by
  rw [hf s, reout_reout]
  exact hf { s with out := o ++ s.out }

theorem runStream_framed (inc : String → FState → Except E FState) (hinc : ∀ n, Framed (inc n)) (cur : String)
    (items : List SItem) : Framed (fun st => runStream inc cur st items) := by
  intro st
  simp only []
  unfold runStream
  rw [fileLoop_framed inc hinc cur items { st with base := st.chain.length } .startOfLine [],
    show clr { st with base := st.chain.length } = { clr st with base := (clr st).chain.length } from rfl]
  cases fileLoop inc cur { clr st with base := (clr st).chain.length } .startOfLine [] items with
  | error e => rfl
  | ok p =>
    obtain ⟨s1, a⟩ := p
    simp only [reout2]
    rw [(flush_framed a).pre st.out s1]
    cases flush s1 a with
    | error e => rfl
    | ok s2 => by_cases hlen : s2.chain.length = s2.base <;> simp [reout, hlen]

theorem includeFile_framed (h : Handler) : ∀ (fuel : Nat) (name : String), Framed (includeFile h fuel name)
  | 0, name => by intro st; simp [includeFile, reout]
  | fuel + 1, name => by
    intro st
    have ih := includeFile_framed h fuel
    simp only [includeFile, clr_once]
    cases h name with
    | none => simp [reout]
    | some items =>
      by_cases ho : st.once.contains name = true
      · simp only [ho, if_true]
        exact runStream_framed _ ih name [] st
      · simp only [ho, if_false]
        exact runStream_framed _ ih name items st

/-- `#ifndef X⏎1⏎#else⏎2⏎#endif⏎` -/
def hdrGuardElse : List SItem :=
  [T (.punct "#"), T (.id "ifndef"), T .ws, T (.id "X"), T .endline, T (.int "1"), T .endline,
   T (.punct "#"), T (.punct "else"), T .endline, T (.int "2"), T .endline,
   T (.punct "#"), T (.id "endif"), T .endline]

/-- **A guard block with an `#else` group, visited in any state.**  Whatever the handler, the fuel, the includer's
    state (chain active, file not marked by `#pragma once`): the file `#ifndef X⏎1⏎#else⏎2⏎#endif⏎` delivers `1`
    when no macro is called `X` and `2` when one is — on the first visit and on every later one. -/
theorem include_guard_else (h : Handler) (fuel : Nat) (name : String) (st : FState)
    (hf : h name = some hdrGuardElse) (ho : st.once.contains name = false)
    (hact : active st.chain = true) :
    includeFile h (fuel + 1) name st =
      .ok { st with out := st.out ++ [⟨.int (if st.macros.any (fun m => m.name == "X") then "2" else "1"), true⟩,
                                      ⟨.endline, true⟩] } := by
  obtain ⟨chain, base, macros, out, once, depth⟩ := st
  simp only at hact ho
  have ho' : name ∉ once := by simpa using ho
  have hA : ∀ s e, active (⟨s, e⟩ :: chain) = decide (s = CS.Enabled) := by
    intro s e
    simp only [active, List.all_cons, activeState] at hact ⊢
    rw [hact]; cases s <;> decide
  have h1 : ¬ (chain.length + 1 < chain.length) := by omega
  have h2 : ¬ (chain.length + 1 = chain.length) := by omega
  have h3 : chain.length < chain.length + 1 := by omega
  by_cases hx : macros.any (fun m => m.name == "X") = true <;>
    simp [includeFile, hf, ho', runStream, hdrGuardElse, T, fileLoop, isHash, dropTrailingBlanks,
      command, commandName, gated, exec, gate_ifndef, CondChain.gate_else, CondChain.gate_endif, trim, trimStart, trimEnd, flush_nil,
      Tok.isWhitespace, Tok.isBlank, List.dropWhile, hact, hx, hA, h1, h2, h3, pushState, flush_noIds, noIds, chainSwitch,
      chainPop, newBlock, Block.switch, CS.switch, elseSwitchArg, elseIsElse]

end RsslVerif.Lemmas.CondFileFrame
