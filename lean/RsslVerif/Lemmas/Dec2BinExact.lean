import RsslVerif.Lemmas.Dec2BinCutoff
import RsslVerif.Lemmas.Dec2BinMono
/-!
# Values that are exactly representable: rounding returns them, and a single read through the double survives
(the step that makes `1.0f`, `255.0h`, … provably stable)
-/
namespace RsslVerif.Spec.Dec2Bin

theorem nearestRat_congr (f : Fmt) (hp : 2 ≤ f.p) (N M N' M' : Nat) (hM : 0 < M) (hM' : 0 < M')
    (h : N * M' = N' * M) : nearestRat f N M = nearestRat f N' M' :=
  Nat.le_antisymm (nearestRat_mono f hp N M N' M' hM hM' (Nat.le_of_eq h))
    (nearestRat_mono f hp N' M' N M hM' hM (Nat.le_of_eq h.symm))

theorem ofDigits_append_zero (ds : List Nat) : ofDigits 10 (ds ++ [0]) = ofDigits 10 ds * 10 := by
  simp [ofDigits, List.foldl_append]

/-- appending `.0` does not change the value: `<L>.0` is the double of `<L>` -/
theorem nearest64_append_zero (ds : List Nat) (hds : ∀ d ∈ ds, d < 10) :
    nearest64 (ds ++ [0]) (-1) = nearest64 ds 0 := by
  have hds' : ∀ d ∈ ds ++ [0], d < 10 := by
    intro d hd
    rcases List.mem_append.mp hd with h | h
    · exact hds d h
    · simp at h; omega
  rw [nearest64_eq_nearestRat _ _ hds', nearest64_eq_nearestRat _ _ hds]
  simp only [show ¬ (0 : Int) ≤ -1 by omega, if_false, Int.le_refl, if_true]
  rw [ofDigits_append_zero]
  apply nearestRat_congr binary64 (by decide) _ _ _ _ (by decide) (by decide)
  simp

/-- decoding a positive finite bit pattern gives its canonical significand / exponent, which encode back to it -/
theorem decode_canon (f : Fmt) (hp : 2 ≤ f.p) (bits : Nat) (h0 : 0 < bits) :
    Canon f (decode f bits).1 (decode f bits).2 ∧ encode f (decode f bits).1 (decode f bits).2 = bits := by
  have hP : 0 < 2 ^ (f.p - 1) := Nat.two_pow_pos _
  have hpp := two_pow_pred (p := f.p) (by omega)
  have hdm := Nat.div_add_mod bits (2 ^ (f.p - 1))
  have hml := Nat.mod_lt bits hP
  unfold decode encode Canon
  dsimp only
  rw [hpp]
  generalize 2 ^ (f.p - 1) = P at *
  generalize bits / P = e at *
  generalize bits % P = fr at *
  by_cases he : e = 0
  · simp only [he, if_true]
    subst he
    simp at hdm
    refine ⟨⟨by omega, Int.le_refl _, by omega, fun h => absurd h (Int.lt_irrefl _)⟩, ?_⟩
    simp
    omega
  · simp only [he, if_false]
    refine ⟨⟨by omega, by omega, by omega, fun _ => by omega⟩, ?_⟩
    have : (f.emin + (e : Int) - 1 - f.emin).toNat = e - 1 := by omega
    rw [this]
    have h1 : (e - 1) * P + (fr + P) = e * P + fr := by
      have : e = (e - 1) + 1 := by omega
      rw [this, Nat.add_mul]; simp; omega
    rw [h1, Nat.mul_comm]
    exact hdm

/-- **nearestRat_of_bits**: rounding the exact value of a positive finite bit pattern gives that bit pattern:
any `N / M` equal to `m · 2^q` (`(m, q)` = the decoded pair) -/
theorem nearestRat_of_bits (f : Fmt) (hp : 2 ≤ f.p) (bits : Nat) (h0 : 0 < bits) (hfin : bits < f.infBits)
    (N M : Nat) (hM : 0 < M)
    (h : N * 2 ^ (-(decode f bits).2).toNat = (decode f bits).1 * 2 ^ (decode f bits).2.toNat * M) :
    nearestRat f N M = bits := by
  obtain ⟨hc, henc⟩ := decode_canon f hp bits h0
  rw [nearestRat_congr f hp N M _ _ hM (Nat.two_pow_pos _) h, nearestRat_exact f hp _ _ hc, henc]
  exact Nat.min_eq_left (Nat.le_of_lt hfin)

theorem decode_encode_normal (f : Fmt) (hp : 2 ≤ f.p) (m : Nat) (q : Int) (hq : f.emin ≤ q)
    (hlo : 2 ^ (f.p - 1) ≤ m) (hhi : m < 2 ^ f.p) : decode f (encode f m q) = (m, q) := by
  have hpp := two_pow_pred (p := f.p) (by omega)
  have hP : 0 < 2 ^ (f.p - 1) := Nat.two_pow_pos _
  unfold decode encode
  dsimp only
  rw [hpp] at hhi
  generalize 2 ^ (f.p - 1) = P at *
  have hj : (q - f.emin).toNat * P + m = ((q - f.emin).toNat + 1) * P + (m - P) := by
    rw [Nat.add_mul]; omega
  have hdiv : ((q - f.emin).toNat * P + m) / P = (q - f.emin).toNat + 1 := by
    rw [hj, Nat.mul_comm, Nat.mul_add_div hP, Nat.div_eq_of_lt (by omega)]
  have hmod : ((q - f.emin).toNat * P + m) % P = m - P := by
    rw [hj, Nat.mul_comm, Nat.mul_add_mod, Nat.mod_eq_of_lt (by omega)]
  rw [hdiv, hmod]
  simp only [Nat.add_one_ne_zero, if_false]
  refine Prod.ext ?_ ?_
  · simp; omega
  · simp; omega

/-- **narrow32_exact**: a rational that is exactly a dyadic `m · 2^q` with at most 53 bits in the normal range of binary64
(in any representation: the double's own significand is `m` shifted up to 53 bits) is read through the double without
loss: narrowing its double once is rounding it to single directly -/
theorem narrow32_exact (N M : Nat) (hM : 0 < M) (m : Nat) (q : Int) (hm0 : 0 < m) (hm : m < 2 ^ 53)
    (hq1 : -1021 ≤ q) (hq2 : q ≤ 104) (h : N * 2 ^ (-q).toNat = m * 2 ^ q.toNat * M) :
    narrow32 (nearestRat binary64 N M) = nearestRat binary32 N M := by
  have hL : m.log2 < 53 := (Nat.log2_lt (by omega)).mpr hm
  -- the double's significand is `m · 2^s` in `[2^52, 2^53)`, its last place `q - s`
  obtain ⟨s, hs⟩ : ∃ s : Nat, m.log2 + s = 52 := ⟨52 - m.log2, by omega⟩
  have hqd : chooseExp binary64 (m * 2 ^ q.toNat) (2 ^ (-q).toNat) = q - s := by
    rw [chooseExp_dyadic binary64 (by decide) m q hm0]
    show (if q + (m.log2 + 1 : Nat) - 53 < -1074 then -1074 else q + (m.log2 + 1 : Nat) - 53) = q - s
    rw [if_neg (by omega)]; omega
  have hlo : 2 ^ 52 ≤ m * 2 ^ s := by
    rw [← hs, Nat.pow_add]
    exact Nat.mul_le_mul_right _ (Nat.log2_self_le (by omega))
  have hhi : m * 2 ^ s < 2 ^ 53 := by
    rw [show 53 = (m.log2 + 1) + s by omega, Nat.pow_add]
    exact Nat.mul_lt_mul_of_pos_right Nat.lt_log2_self (Nat.two_pow_pos _)
  have hfin := encode64_lt_inf hhi (q := q - s) (by omega)
  have h64 : nearestRat binary64 N M = encode binary64 (m * 2 ^ s) (q - s) := by
    rw [nearestRat_congr binary64 (by decide) N M _ _ hM (Nat.two_pow_pos _) h,
      nearestRat_pos _ _ (Nat.mul_pos hm0 (Nat.two_pow_pos _)), hqd, roundQuot_dyadic m (by omega),
      show (q - (q - s)).toNat = s by omega]
    exact Nat.min_eq_left (Nat.le_of_lt hfin)
  unfold narrow32
  rw [h64, if_neg (by omega), decode_encode_normal binary64 (by decide) _ _ (by show (-1074 : Int) ≤ _; omega) hlo hhi,
    nearestRat_branches, nearestRat_congr binary32 (by decide) N M _ _ hM (Nat.two_pow_pos _) h]
  -- `m · 2^s · 2^(q-s)` and `m · 2^q` are the same value
  apply nearestRat_congr binary32 (by decide) _ _ _ _ (Nat.two_pow_pos _) (Nat.two_pow_pos _)
  rw [Nat.mul_assoc, Nat.mul_assoc, ← Nat.pow_add, ← Nat.pow_add, Nat.mul_assoc, ← Nat.pow_add]
  congr 2; omega

/-- the decoded pair of a positive finite single: at most 24 bits, the last place between those of the smallest and of the
largest single -/
theorem decode32_bounds (mag : Nat) (h0 : 0 < mag) (hfin : mag < binary32.infBits) :
    0 < (decode binary32 mag).1 ∧ (decode binary32 mag).1 < 2 ^ 24 ∧
    -149 ≤ (decode binary32 mag).2 ∧ (decode binary32 mag).2 ≤ 104 := by
  have hinf : binary32.infBits = 255 * 2 ^ 23 := by decide
  rw [hinf] at hfin
  unfold decode
  rw [show binary32.p - 1 = 23 from rfl, show binary32.emin = -149 from rfl]
  dsimp only
  have hdm := Nat.div_add_mod mag (2 ^ 23)
  have hml := Nat.mod_lt mag (show 0 < 2 ^ 23 by decide)
  have he : mag / 2 ^ 23 < 255 := (Nat.div_lt_iff_lt_mul (by decide)).mpr (by omega)
  generalize mag / 2 ^ 23 = e at *
  generalize mag % 2 ^ 23 = fr at *
  split <;> refine ⟨?_, ?_, ?_, ?_⟩ <;> dsimp only <;> omega

/-- a rational that is exactly a positive finite single, subnormal or normal, is read through the double and narrowed once
without loss: the result is that single's bit pattern -/
theorem finite_single_through_double (mag : Nat) (h0 : 0 < mag) (hfin : mag < binary32.infBits) (N M : Nat) (hM : 0 < M)
    (h : N * 2 ^ (-(decode binary32 mag).2).toNat = (decode binary32 mag).1 * 2 ^ (decode binary32 mag).2.toNat * M) :
    narrow32 (nearestRat binary64 N M) = mag := by
  obtain ⟨hm0, hm, hq1, hq2⟩ := decode32_bounds mag h0 hfin
  have h32 := nearestRat_of_bits binary32 (by decide) mag h0 hfin N M hM h
  generalize (decode binary32 mag).1 = m at *
  generalize (decode binary32 mag).2 = q at *
  rw [narrow32_exact N M hM m q hm0 (by omega) (by omega) hq2 h, h32]

theorem single_through_double (mag : Nat) (hnorm : 2 ^ 23 ≤ mag) (hfin : mag < binary32.infBits) (N M : Nat) (hM : 0 < M)
    (h : N * 2 ^ (-(decode binary32 mag).2).toNat = (decode binary32 mag).1 * 2 ^ (decode binary32 mag).2.toNat * M) :
    narrow32 (nearestRat binary64 N M) = mag :=
  finite_single_through_double mag (Nat.lt_of_lt_of_le (by decide) hnorm) hfin N M hM h

theorem decode32_subnormal (mag : Nat) (hsub : mag < 2 ^ 23) : decode binary32 mag = (mag, -149) := by
  unfold decode
  have hp : binary32.p - 1 = 23 := rfl
  have hemin : binary32.emin = -149 := rfl
  rw [hp, hemin]
  dsimp only
  rw [Nat.div_eq_of_lt hsub, Nat.mod_eq_of_lt hsub]
  simp

set_option exponentiation.threshold 2000 in
/-- a subnormal single `mag · 2^-149` is a normal double -/
theorem subnormal_through_double (mag : Nat) (h0 : 0 < mag) (hsub : mag < 2 ^ 23) :
    narrow32 (nearestRat binary64 mag (2 ^ 149)) = mag := by
  have hfin : mag < binary32.infBits := Nat.lt_trans hsub (by decide)
  apply finite_single_through_double mag h0 hfin mag (2 ^ 149) (Nat.two_pow_pos _)
  rw [decode32_subnormal mag hsub]
  simp

end RsslVerif.Spec.Dec2Bin
