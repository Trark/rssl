import RsslVerif.Lemmas.MetaReach
import RsslVerif.Lemmas.Basics
/-!
# `GlobalUsageAnalysis::recurse` terminates

Every pass that reports `modified` strictly enlarges, for some key, the set of symbols stored for it, and the
stored sets only ever contain keys (the symbols `calculate_local` inserted): what is stored is reachable (`Sound`),
and the keys are closed under direct mention.  With `n` keys the total number of (key, stored key) pairs is at most
`n * n`, so the loop stops after at most `n * n` modifying passes: `recurse (n * n + 1) keys direct` never runs out
of fuel.  Sets are lists read through membership; the measure counts, for every key, how many keys are members of
its list.
-/
namespace RsslVerif.Lemmas.MetaReachTerm
open RsslVerif.Model.MetaReach RsslVerif.Lemmas.MetaReach RsslVerif.Lemmas.Basics

/-- how many of `keys` are members of `l` -/
def cnt (keys l : List Sym) : Nat := (keys.filter fun s => l.contains s).length

/-- total number of (key, stored key) pairs -/
def mu (keys : List Sym) (req : Sym → List Sym) : Nat := (keys.map fun k => cnt keys (req k)).sum

theorem cnt_le (keys l : List Sym) : cnt keys l ≤ keys.length := List.length_filter_le _ _

theorem mu_le (keys : List Sym) (req : Sym → List Sym) : mu keys req ≤ keys.length * keys.length :=
  sum_map_le_mul (fun k _ => cnt_le keys (req k))

theorem cnt_mono {l l' : List Sym} (h : ∀ s, s ∈ l → s ∈ l') : ∀ keys : List Sym, cnt keys l ≤ cnt keys l' := by
  intro keys
  simp only [cnt, ← List.countP_eq_length_filter]
  exact List.countP_mono_left fun x _ hx => by simpa using h x (by simpa using hx)

theorem cnt_lt {l l' : List Sym} (h : ∀ s, s ∈ l → s ∈ l') {s0 : Sym} (h1 : s0 ∈ l') (h2 : s0 ∉ l) :
    ∀ keys : List Sym, s0 ∈ keys → cnt keys l < cnt keys l' := by
  intro keys hm
  obtain ⟨a, b, rfl⟩ := List.append_of_mem hm
  have ha := cnt_mono h a
  have hb := cnt_mono h b
  have c1 : l'.contains s0 = true := by simpa using h1
  have c2 : l.contains s0 = false := by simpa using h2
  simp only [cnt, List.filter_append, List.filter_cons, List.length_append, c1, c2, if_true, List.length_cons] at ha hb ⊢
  simp only [Bool.false_eq_true, if_false]
  omega

theorem mu_update_le {keys : List Sym} {req : Sym → List Sym} {k : Sym} {v : List Sym}
    (hsub : ∀ s, s ∈ req k → s ∈ v) : mu keys req ≤ mu keys (update req k v) := by
  unfold mu
  apply sum_map_le
  intro x _
  unfold update
  split
  · rename_i hx; subst hx; exact cnt_mono hsub keys
  · exact Nat.le_refl _

theorem mu_update_lt {keys : List Sym} {req : Sym → List Sym} {k : Sym} {v : List Sym}
    (hk : k ∈ keys) (hsub : ∀ s, s ∈ req k → s ∈ v) {s0 : Sym} (hs0 : s0 ∈ keys) (h1 : s0 ∈ v) (h2 : s0 ∉ req k) :
    mu keys req < mu keys (update req k v) := by
  unfold mu
  refine sum_map_lt (a := k) ?_ hk ?_
  · intro x _
    unfold update
    split
    · rename_i hx; subst hx; exact cnt_mono hsub keys
    · exact Nat.le_refl _
  · simp only [update, if_true]
    exact cnt_lt hsub h1 h2 keys hs0

theorem sub_newSet (req : Sym → List Sym) (k : Sym) : ∀ s, s ∈ req k → s ∈ newSet req k :=
  fun _ h => mem_newSet.2 (Or.inl h)

theorem pass_mu_le (keys ks : List Sym) (req : Sym → List Sym) (m : Bool) : mu keys req ≤ mu keys (pass ks req m).1 :=
  pass_inv (P := fun r => mu keys req ≤ mu keys r) (fun r k h => Nat.le_trans h (mu_update_le (sub_newSet r k)))
    ks req m (Nat.le_refl _)

theorem pass_measure {direct : Sym → List Sym} {keys : List Sym} (hk : ∀ k ∈ keys, ∀ s ∈ direct k, s ∈ keys) :
    ∀ (ks : List Sym), (∀ k ∈ ks, k ∈ keys) → ∀ (req : Sym → List Sym) (m : Bool), Sound direct req →
      m = false → (pass ks req m).2 = true → mu keys req < mu keys (pass ks req m).1 := by
  intro ks hsub req m
  fun_induction pass ks req m <;> intro hs hm hflag
  case case1 => simp [hm] at hflag
  case case2 k _ req _ hg _ =>
    have hkk : k ∈ keys := hsub k (List.mem_cons_self ..)
    obtain ⟨s0, h1, h2⟩ := grows_iff.1 hg
    -- the new member is reachable from the key, hence a key
    exact Nat.lt_of_lt_of_le (mu_update_lt hkk (sub_newSet req k) (reach_keys hk (reach_newSet hs h1) hkk) h1 h2)
      (pass_mu_le ..)
  case case3 ih => exact ih (fun x hx => hsub x (List.mem_cons_of_mem _ hx)) hs hm hflag

theorem recurse_some {direct : Sym → List Sym} {keys : List Sym} (hk : ∀ k ∈ keys, ∀ s ∈ direct k, s ∈ keys) :
    ∀ (fuel : Nat) (req : Sym → List Sym), Sound direct req →
      keys.length * keys.length - mu keys req < fuel → ∃ res, recurse fuel keys req = some res := by
  intro fuel
  induction fuel with
  | zero => intro req _ h; omega
  | succ n ih =>
    intro req hs hb
    rw [recurse_succ]
    split
    · rename_i h2
      have hlt := pass_measure hk keys (fun _ h => h) req false hs rfl h2
      have hle := mu_le keys (pass keys req false).1
      exact ih _ (pass_inv sound_update keys req false hs) (by omega)
    · exact ⟨_, rfl⟩

/-- **Termination**: started from the directly mentioned symbols (all of which are keys), the loop of
    `GlobalUsageAnalysis::recurse` ends within `n * n + 1` passes over `n` keys. -/
theorem recurse_terminates {direct : Sym → List Sym} {keys : List Sym}
    (hk : ∀ k ∈ keys, ∀ s ∈ direct k, s ∈ keys) :
    ∃ res, recurse (keys.length * keys.length + 1) keys direct = some res :=
  recurse_some hk _ direct (fun _ _ hd => .base hd) (by omega)

end RsslVerif.Lemmas.MetaReachTerm
