import RsslVerif.Spec.Meta
/-! Reading a printed binding annotation back gives the annotation (character level).
    The lemmas are in the namespace `RsslVerif.Lemmas.Meta`. -/
namespace RsslVerif.Lemmas.Meta
open RsslVerif.Gen.SlotTables RsslVerif.Gen.MetaTables RsslVerif.Model.Slots RsslVerif.Model.Meta RsslVerif.Spec.Meta

theorem expect_append (p s : List Char) : expect p (p ++ s) = some s := by
  induction p with
  | nil => rfl
  | cons c cs ih => simp [expect, ih]

def headNotDigit (s : List Char) : Prop := ∀ c, s.head? = some c → c.isDigit = false

theorem readDigits_append (ds : List Char) (hd : ∀ c ∈ ds, c.isDigit = true) (rest : List Char)
    (hr : headNotDigit rest) (acc : Nat) :
    readDigits (ds ++ rest) acc = (Nat.ofDigitChars 10 ds acc, rest) := by
  induction ds generalizing acc with
  | nil =>
    cases rest with
    | nil => rfl
    | cons c cs =>
      have : c.isDigit = false := hr c rfl
      simp [readDigits, this]
  | cons d ds ih =>
    have h1 : d.isDigit = true := hd d (by simp)
    simp only [List.cons_append, readDigits, h1, if_true, Nat.ofDigitChars_cons]
    exact ih (fun c hc => hd c (by simp [hc])) _

theorem readNat_digits (n : Nat) (rest : List Char) (hr : headNotDigit rest) :
    readNat (digits n ++ rest) = some (n, rest) := by
  have hne : digits n ≠ [] := Nat.toDigits_ne_nil
  have hall : ∀ c ∈ digits n, c.isDigit = true := fun c hc =>
    Nat.isDigit_of_mem_toDigits (by decide) (by decide) hc
  cases hds : digits n with
  | nil => exact absurd hds hne
  | cons d ds =>
    have h1 : d.isDigit = true := hall d (by simp [hds])
    have := readDigits_append (digits n) hall rest hr 0
    rw [hds] at this
    simp only [List.cons_append, readNat, h1, if_true]
    rw [← List.cons_append, this, ← hds]
    simp [digits]

theorem expect_self (p : List Char) : expect p p = some [] := by
  have := expect_append p []; simpa using this

theorem readLetter_regLetter (r : RegT) : readLetter (regLetter r) = some r := by
  cases r <;> decide

theorem hnd_close : headNotDigit regClose.toList := by
  intro c h; simp [regClose] at h; subst h; decide

theorem hnd_sep (s : List Char) : headNotDigit (regSep.toList ++ s) := by
  intro c h; simp [regSep] at h; subst h; decide

theorem expect_close_sep (s : List Char) : expect regClose.toList (regSep.toList ++ s) = none := by
  simp [regClose, regSep, expect]

theorem readReg_printReg (r : RegT) (i s : Nat) : readReg (printReg r i s) = some (.reg r i s) := by
  unfold printReg readReg
  by_cases hs : s = 0
  · subst hs
    simp only [ne_eq, not_true_eq_false, if_false, List.append_nil, List.append_assoc, expect_append,
      List.cons_append, List.nil_append, readLetter_regLetter]
    rw [readNat_digits i _ hnd_close]
    simp [expect_self]
  · simp only [ne_eq, hs, not_false_eq_true, if_true, List.append_assoc, expect_append,
      List.cons_append, List.nil_append, readLetter_regLetter]
    rw [readNat_digits i _ (hnd_sep _)]
    simp only [expect_close_sep]
    rw [← List.append_assoc regSep.toList, expect_append]
    simp only []
    rw [readNat_digits s _ hnd_close]
    simp

theorem hnd_lit (c : Char) (s : List Char) (h : c.isDigit = false) : headNotDigit (c :: s) := by
  intro d hd; simp at hd; subst hd; exact h

theorem hnd_rp (s : List Char) : headNotDigit (")]]".toList ++ s) := by
  intro c h; simp at h; subst h; decide
theorem hnd_rp' : headNotDigit (")]]".toList) := by
  intro c h; simp at h; subst h; decide
theorem hnd_cs (s : List Char) : headNotDigit (", ".toList ++ s) := by
  intro c h; simp at h; subst h; decide

theorem readVk_printVk (i s : Nat) : readVk (printVk i s) = some (.vk i s) := by
  unfold printVk readVk
  by_cases hs : s = 0
  · subst hs
    simp only [ne_eq, not_true_eq_false, if_false, List.append_nil, List.append_assoc, expect_append]
    rw [readNat_digits i _ hnd_rp']
    simp
  · simp only [ne_eq, hs, not_false_eq_true, if_true, List.append_assoc, expect_append]
    rw [readNat_digits i _ (hnd_cs _)]
    have : (", ".toList ++ (digits s ++ ")]]".toList) = ")]]".toList) = False := by simp
    simp only [this, if_false, expect_append]
    rw [readNat_digits s _ hnd_rp']
    simp

theorem readWholeNat_digits (n : Nat) : readWholeNat (digits n) = some n := by
  have := readNat_digits n [] (by intro c h; simp at h)
  simp only [List.append_nil] at this
  simp [readWholeNat, this]

theorem readOffset_print (o s : Nat) : readOffset (inlineStructName s) (printOffset o) = some (.offset o s) := by
  unfold readOffset inlineStructName printOffset
  simp only [List.append_assoc, expect_append, readWholeNat_digits]
  rw [readNat_digits o _ hnd_rp']
  simp

/-- the four argument buffer names: none is empty, none starts like an inline descriptor struct, and each is found at
    its own index -/
theorem argbuf_facts : ∀ g, g < 4 →
    (argumentBufferNames.getD g "").toList ≠ [] ∧
    expect "InlineDescriptor".toList (argumentBufferNames.getD g "").toList = none ∧
    argumentBufferNames.findIdx? (fun n => decide (n.toList = (argumentBufferNames.getD g "").toList)) = some g := by
  decide +kernel

theorem readId_print (i s : Nat) (hs : s < 4) :
    readId ((argumentBufferNames.getD s "").toList) (printId i) = some (.id i s) := by
  unfold readId printId
  simp only [List.append_assoc, expect_append]
  rw [readNat_digits i _ hnd_rp']
  simp only [if_true, (argbuf_facts s hs).2.2]

theorem expect_head_ne (c d : Char) (cs ds : List Char) (h : c ≠ d) : expect (c :: cs) (d :: ds) = none := by
  simp [expect, h]

theorem readReg_printVk (i s : Nat) : readReg (printVk i s) = none := by
  unfold readReg
  rw [show expect regOpen.toList (printVk i s) = none from expect_head_ne ' ' '[' _ _ (by decide)]

theorem inlineStructName_ne (s : Nat) : inlineStructName s ≠ [] := by
  unfold inlineStructName
  have : "InlineDescriptor".toList ++ digits s = 'I' :: ("nlineDescriptor".toList ++ digits s) := by simp
  rw [this]; exact List.cons_ne_nil _ _

/-- Reading the printed form of any annotation gives the annotation back
    (Metal: for the bind groups that have an argument buffer struct name). -/
theorem readAnnot_print (a : Annot) (hid : ∀ i s, a = .id i s → s < argumentBufferNames.length) :
    readAnnot a.print = some a := by
  cases a with
  | reg r i s => simp [Annot.print, readAnnot, readReg_printReg]
  | vk i s => simp [Annot.print, readAnnot, readReg_printVk, readVk_printVk]
  | offset o s => simp [Annot.print, readAnnot, inlineStructName_ne, readOffset_print]
  | id i s =>
    have hs : s < 4 := by simpa [argumentBufferNames] using hid i s rfl
    obtain ⟨h1, h2, _⟩ := argbuf_facts s hs
    have hro : readOffset (argumentBufferNames.getD s "").toList (printId i) = none := by
      unfold readOffset; rw [h2]
    unfold readAnnot Annot.print
    simp only []
    rw [if_neg h1, hro, readId_print i s hs]
    rfl

end RsslVerif.Lemmas.Meta
