import RsslVerif.Lemmas.FixpointArith
import RsslVerif.Lemmas.FixpointPlace
/-!
Lemmas for C04 `reelab_no_new_casts`: the conditional operator, the assignment family and the unary
operators are rebuilt identically from re-elaborated operands.  Core Lean only.
-/
namespace RsslVerif.Lemmas.FixpointForms
open RsslVerif.Gen.RankTable RsslVerif.Gen.TypingTables
open RsslVerif.Model.Conv RsslVerif.Model.Overload RsslVerif.Model.IrTyping RsslVerif.Model.Elab
open RsslVerif.Model.Fixpoint RsslVerif.Lemmas.ElabConv RsslVerif.Lemmas.Elab
open RsslVerif.Lemmas.ElabInv RsslVerif.Lemmas.FixpointElab RsslVerif.Lemmas.FixpointArith RsslVerif.Lemmas.FixpointArithDim
open RsslVerif.Lemmas.FixpointPlace

/-! ## `?:` — the common type of the arms is stable -/

@[simp] theorem mostSig_idem1 : ∀ l r : Scalar, mostSigScalar (mostSigScalar l r) r = mostSigScalar l r :=
  Scalar.forall₂ (by decide)
@[simp] theorem mostSig_idem2 : ∀ l r : Scalar, mostSigScalar l (mostSigScalar l r) = mostSigScalar l r :=
  Scalar.forall₂ (by decide)
@[simp] theorem mostSig_idem3 (l : Scalar) : mostSigScalar l l = l := by
  cases l <;> decide

/-! fix c05bffa: the element kind of `?:` is remapped (`IntLiteral` → `int`, `FloatLiteral` → `float`) unless both
    arms are scalars; the remapped kind is again stable when an arm is replaced by the common type -/
@[simp] theorem ternRemap_idem1 : ∀ l r : Scalar,
    litTernRemap (mostSigScalar (litTernRemap (mostSigScalar l r)) r) = litTernRemap (mostSigScalar l r) :=
  Scalar.forall₂ (by decide)
@[simp] theorem ternRemap_idem2 : ∀ l r : Scalar,
    litTernRemap (mostSigScalar l (litTernRemap (mostSigScalar l r))) = litTernRemap (mostSigScalar l r) :=
  Scalar.forall₂ (by decide)
@[simp] theorem ternRemap_idem3 (l : Scalar) : litTernRemap (litTernRemap l) = litTernRemap l := by
  cases l <;> decide

def vdim (n1 n2 : Nat) : Nat := if n1 = 1 ∨ n2 = 1 then max n1 n2 else min n1 n2

theorem vdim_idem (n1 n2 : Nat) :
    vdim (vdim n1 n2) n2 = vdim n1 n2 ∧ vdim n1 (vdim n1 n2) = vdim n1 n2 ∧ vdim (vdim n1 n2) (vdim n1 n2) = vdim n1 n2 := by
  unfold vdim
  refine ⟨?_, ?_, ?_⟩ <;> (repeat' split) <;> omega

theorem ternTargets_vv (s1 s2 : Scalar) (n1 n2 : Nat) :
    ternTargets (.vector s1 n1) (.vector s2 n2) =
      .ok (.vector (litTernRemap (mostSigScalar s1 s2)) (vdim n1 n2),
           .vector (litTernRemap (mostSigScalar s1 s2)) (vdim n1 n2)) := by
  unfold vdim
  by_cases hc : n1 = 1 ∨ n2 = 1 <;>
    simp [ternTargets, ternScalar, Layer.extractScalar, mostSignificantDimension, Layer.ofDim, hc]

theorem ternTargets_stable {la lb lt la0 lb0 : Layer} (h : ternTargets la lb = .ok (lt, lt))
    (ha : la0 = la ∨ la0 = lt) (hb : lb0 = lb ∨ lb0 = lt) : ternTargets la0 lb0 = .ok (lt, lt) := by
  cases la <;> cases lb
  case vector.vector s1 n1 s2 n2 =>
    rw [ternTargets_vv] at h
    simp at h
    subst h
    obtain ⟨d1, d2, d3⟩ := vdim_idem n1 n2
    rcases ha with rfl | rfl <;> rcases hb with rfl | rfl <;> rw [ternTargets_vv] <;> simp [*]
  all_goals
    simp [ternTargets, ternScalar, Layer.extractScalar, mostSignificantDimension, Layer.transformScalar, Layer.ofDim] at h
  all_goals (try (obtain ⟨h1, h2⟩ := h; subst h1; first | (cases h2; done) | skip))
  all_goals (try subst h)
  all_goals (try (rcases ha with rfl | rfl <;> rcases hb with rfl | rfl <;>
    simp [ternTargets, ternScalar, Layer.extractScalar, mostSignificantDimension, Layer.ofDim] <;> done))
  · injection h2 with h2; subst h2
    rcases ha with rfl | rfl <;> rcases hb with rfl | rfl <;>
      simp [ternTargets, Layer.extractScalar, mostSignificantDimension]
  · injection h2 with h2; subst h2
    rcases ha with rfl | rfl <;> rcases hb with rfl | rfl <;>
      simp [ternTargets, Layer.extractScalar, mostSignificantDimension]

/-- a float literal arm never makes `int` the common type -/
theorem ternTargets_floatLit (l x : Layer) :
    ternTargets (.scalar .floatLiteral) l ≠ .ok (.scalar .int32, x) ∧
      ternTargets l (.scalar .floatLiteral) ≠ .ok (x, .scalar .int32) := by
  cases l with
  | scalar s => cases s <;> simp +decide [ternTargets, ternScalar, Layer.extractScalar, mostSignificantDimension, Layer.ofDim, mostSigScalar]
  | vector s n => cases s <;> simp +decide [ternTargets, ternScalar, litTernRemap, Layer.extractScalar, mostSignificantDimension, Layer.ofDim, mostSigScalar]
  | matrix s p q => cases s <;> simp +decide [ternTargets, ternScalar, litTernRemap, Layer.extractScalar, mostSignificantDimension, Layer.transformScalar, mostSigScalar]
  | enum i => simp [ternTargets, Layer.extractScalar, mostSignificantDimension]
  | other i => simp [ternTargets, Layer.extractScalar, mostSignificantDimension]

theorem and3_idem (m : Nat) : (m &&& 3) &&& 3 = m &&& 3 := by
  rw [Nat.and_assoc]; rfl

theorem boolR_ne_int32 : boolR ≠ (scalarTy .int32).r := by decide

variable {Γ Γ' : Env}

theorem intR_layer : intR.ty.layer = .scalar .int32 := rfl
theorem boolR_layer : boolR.ty.layer = .scalar .bool := rfl

theorem unmod_scalarTy (k : Scalar) : (scalarTy k).r.ty.unmod.r = (scalarTy k).r := rfl

/-- `parse_expr_unaryop` on the same operand in the exported environment: only the `++` / `--` arms read the
    environment (`check_mutable_place`, fix 4575004), and they get the same answer -/
theorem elabUn_renamed (hR : Renamed Γ Γ') {o : UnOp} {e : IExpr} {τ : ETy} {r : IExpr × ETy}
    (h : elabUn Γ o e τ = .ok r) : elabUn Γ' o e τ = .ok r := by
  cases o
  case prefixIncrement | prefixDecrement | postfixIncrement | postfixDecrement =>
    simp only [elabUn] at h ⊢
    split at h
    · simp at h
    · split at h
      · simp at h
      · rename_i hplace
        rw [checkMutablePlace_renamed hR hplace]
        exact h
  all_goals exact h

/-- **Unary operators read back.**  In the folded `-literal` case the node is the operand: a literal that reads back has a kind
    with a spelling and the type of that kind (`lit_kind_of_reads`). -/
theorem elabUn_stable (hR : Renamed Γ Γ') {o : UnOp} {e' n : IExpr} {τ τ' : ETy}
    (h : elabUn Γ o e' τ = .ok (n, τ')) (ih : Reads Γ' e' τ) : Reads Γ' n τ' := by
  intro s' hu
  -- the `++` / `--` arms ask `check_mutable_place` again, in the exported environment: same answer
  have h' := elabUn_renamed hR h
  rcases elabUn_cases h with ⟨i, hi, rfl, _⟩ | ⟨k, rfl, rfl, _, rfl, rfl⟩ | ⟨c, e2, hne, hf, ha, hop⟩
  · obtain ⟨x', rfl, hx⟩ := unelab_op1 (opSyn_un o i hi) hu
    exact elabE_un (ih _ hx) h'
  · -- folded: the node is the literal itself
    have := elabE_unelab_lit hu
    rw [(lit_kind_of_reads ih).1] at this
    rw [this, (lit_kind_of_reads ih).2]
    rfl
  · -- the operand was converted to the input type of `!` / `~`
    have key : ∀ {i : IOp}, opSyn i = some (.un o) → n = .op i (.cons e2 .nil) → τ'.vt = .rvalue →
        (∀ e0 τ0, Back τ τ' e' e2 e0 τ0 → elabUn Γ' o e0 τ0 = .ok (n, τ')) → elabE false Γ' s' = .ok (n, τ') := by
      intro i hi hn hr hk
      subst hn
      obtain ⟨x', rfl, hx⟩ := unelab_op1 hi hu
      obtain ⟨e0, τ0, hel, hb⟩ := reconv ih hf ha (Or.inl hr) _ hx
      exact elabE_un hel (hk e0 τ0 hb)
    rcases hop with ⟨rfl, rfl, hn⟩ | ⟨rfl, rfl, hl, hn⟩
    · refine key (opSyn_un _ _ rfl) hn rfl fun e0 τ0 hb => ?_
      cases hb with
      | same => exact h'
      | exact _ => rw [hn]; simp [elabUn, boolR, scalarTy, Ty.r, Layer.extractScalar, castOperand, Ty.unmod]
      | relit _ hD _ => exact absurd hD boolR_ne_int32
    · refine key (opSyn_un _ _ rfl) hn rfl fun e0 τ0 hb => ?_
      cases hb with
      | same => exact h'
      | exact _ => rw [hn]; simp [elabUn, intR, scalarTy, Ty.r, Ty.unmod]
      | relit _ _ hτ => rcases hτ with rfl | rfl <;> cases hl

theorem elabTern_stable {c' a' b' n : IExpr} {τc τa τb τ : ETy} (h : elabTern c' τc a' τa b' τb = .ok (n, τ))
    (ihc : Reads Γ' c' τc) (iha : Reads Γ' a' τa) (ihb : Reads Γ' b' τb) : Reads Γ' n τ := by
  intro s' hu
  obtain ⟨lt, cc, ca, cb, c2, a2, b2, htt, hca, hcb, ha2, hb2, hvm, hfc, hac, rfl, rfl⟩ := elabTern_iff.1 h
  cases hu with
  | tern huc hua hub =>
  obtain ⟨c0, τc0, helc, hbc⟩ := reconv ihc hfc hac (Or.inl rfl) _ huc
  obtain ⟨a0, τa0, hela, hba⟩ := reconv iha hca ha2 (Or.inl rfl) _ hua
  obtain ⟨b0, τb0, helb, hbb⟩ := reconv ihb hcb hb2 (Or.inl rfl) _ hub
  have hfl : τa = (scalarTy .floatLiteral).r ∨ τb = (scalarTy .floatLiteral).r → TTy τa lt ≠ (scalarTy .int32).r := by
    intro hl hD
    cases (congrArg (fun t : ETy => t.ty.layer) hD : lt = .scalar .int32)
    rcases hl with rfl | rfl
    · exact (ternTargets_floatLit _ _).1 htt
    · exact (ternTargets_floatLit _ _).2 htt
  -- the left arm decides the modifier of the common type
  have hD0 : TTy τa0 lt = TTy τa lt := by
    rcases hba.type (hfl ∘ .inl) with rfl | rfl
    · rfl
    · simp [TTy, Ty.r, and3_idem]
  obtain ⟨ca0, hca0, ha20⟩ := back_find hca ha2 hba
  obtain ⟨cb0, hcb0, hb20⟩ := back_find hcb hb2 hbb
  obtain ⟨cc0, hfc0, hac0⟩ := back_find hfc hac hbc
  have hvm0 : τc0.ty.layer.isVecOrMat = false := by
    cases hbc with
    | same => exact hvm
    | exact _ => rfl
    | relit _ hD _ => exact absurd hD boolR_ne_int32
  rw [← hD0] at hca0 hcb0 ⊢
  exact elabE_tern helc hela helb (elabTern_iff.2 ⟨lt, cc0, ca0, cb0, c2, a2, b2,
    ternTargets_stable htt (hba.layer (hfl ∘ .inl)) (hbb.layer (hfl ∘ .inr)), hca0, hcb0, ha20, hb20, hvm0, hfc0, hac0, rfl, rfl⟩)

/-- **Assignments read back** (the left operand is never converted; fix 4575004: the written operand is asked for its IR
    type again — `check_mutable_place` — in the exported environment: same answer). -/
theorem elabAssign_stable (hR : Renamed Γ Γ') {o : BinOp} {a b' n : IExpr} {τa τb τ : ETy} (hcls : o.cls = .assign)
    (h : elabAssign Γ o a τa b' τb = .ok (n, τ)) (iha : Reads Γ' a τa) (ihb : Reads Γ' b' τb) : Reads Γ' n τ := by
  intro s' hu
  obtain ⟨hconst, hlv, hplace, c, b2, i, hf, ha, hi, hout, rfl⟩ := elabAssign_inv h
  obtain ⟨x', y', rfl, hx, hy⟩ := unelab_op2 (opSyn_bin o i hi) hu
  obtain ⟨b0, τb0, helb, hb⟩ := reconv ihb hf ha (Or.inl rfl) _ hy
  refine elabE_bin_assign hcls (iha _ hx) helb ?_
  simp [elabAssign, hconst, hlv, checkMutablePlace_renamed hR hplace, back_convert hf ha hb, hi, hout]

end RsslVerif.Lemmas.FixpointForms
