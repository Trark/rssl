import RsslVerif.Lemmas.GenMslSim
import RsslVerif.Lemmas.GenSemStmt
/-! Metal exporter, statements: executing the emitted statement equals executing the typed statement, for every fuel
and every way of entering it.  (Same structure as `Lemmas/GenSemStmt` of C01; the statement generator of the Metal exporter
has the same shape — `Gen.MslGenTables.mslStatementArmsAsModelled` — and `Msl.exec` differs from `Ast.exec` in the
expression semantics and in the promotion of the controlling expression of `switch`; what holds of statement lists for any
statement executor is taken from there: `msl_execs`, `msl_labelled`.) -/
namespace RsslVerif.Lemmas.GenMsl
open RsslVerif.Gen.HlslGenTables RsslVerif.Gen.MslGenTables RsslVerif.Model RsslVerif.Model.GenMsl RsslVerif.Spec.Sem
open RsslVerif.Model.Ir (Ty Var Const Dir)
open RsslVerif.Model.GenHlsl (GenErr)
open RsslVerif.Lemmas.GenSem (bindS ModeOK execsOf Labelled acc_step bind_end map_ok_inv)

theorem SimM.drop {W : World} {M : Msl.MWorld} {env : Ast.Env} {e : Ir.Expr} {a : HlslAst.Expr} {t : Ty}
    (h : SimM W M env e a t) (σ : Store) : dropVal (Msl.eval M env a σ) = dropVal (Ir.eval W e σ) := by
  rw [h.2 σ]; cases Ir.eval W e σ <;> simp [dropVal]

theorem SimM.cond {W : World} {M : Msl.MWorld} {env : Ast.Env} {e : Ir.Expr} {a : HlslAst.Expr} {t : Ty}
    (hp : M.P = W.P) (h : SimM W M env e a t) (σ : Store) :
    condOfB M.P (Msl.eval M env a σ) = condOfB W.P (Ir.eval W e σ) := by
  by_cases hl : Ir.isMin e = true
  · have := isMin_cases hl; subst this
    simp [h.min.2 σ, Ir.eval, Ir.constVal, condOfB, castVal]
  · have hl' : Ir.isMin e = false := by simpa using hl
    rw [(h.plain hl').2 σ, hp]

section
variable {W : World} {M : Msl.MWorld} {env : Ast.Env} {cx : Ctx} {vis : Var → Bool} {rsv : Nat → List Var}

theorem sim_okM (hag : AgreeM cx vis env) (hw : Worlds cx rsv W M) {e : Ir.Expr} {a : HlslAst.Expr}
    (hg : genExpr cx e = .ok a) (hok : Ir.okExprM (side cx W vis rsv) e = true) :
    ∃ t, Ir.typeOf W.sig cx.vty e = some t ∧ SimM W M env e a t := by
  simp only [Ir.okExprM, Bool.and_eq_true] at hok
  obtain ⟨t, ht⟩ := Option.isSome_iff_exists.mp hok.1
  exact ⟨t, ht, sim_exprM hag hw e a t hg ht hok.2⟩

theorem sim_okTM (hag : AgreeM cx vis env) (hw : Worlds cx rsv W M) {e : Ir.Expr} {a : HlslAst.Expr} {t : Ty}
    (hg : genExpr cx e = .ok a) (hok : Ir.okExprTM (side cx W vis rsv) t e = true) :
    Ir.typeOf W.sig cx.vty e = some t ∧ SimM W M env e a t := by
  simp only [Ir.okExprTM, Bool.and_eq_true] at hok
  cases ht : Ir.typeOf W.sig cx.vty e with
  | none => simp [side, ht] at hok
  | some t' =>
    simp [side, ht] at hok
    obtain ⟨rfl, hl⟩ := hok
    exact ⟨rfl, sim_exprM hag hw e a t' hg ht hl⟩

theorem genOptExpr_ok {c : Option Ir.Expr} {c' : Option HlslAst.Expr} (h : genOptExpr cx c = .ok c') :
    (c = none ∧ c' = none) ∨ ∃ e a, c = some e ∧ c' = some a ∧ genExpr cx e = .ok a := by
  cases c with
  | none => simp [genOptExpr] at h; exact .inl ⟨rfl, h.symm⟩
  | some e =>
    obtain ⟨a, hge, rfl⟩ := map_ok_inv h
    exact .inr ⟨e, a, rfl, rfl, hge⟩

theorem genVarDef_ok {id : Nat} {init : Option Ir.Expr} {tn name : String} {i : Option HlslAst.Expr}
    (h : genVarDef cx id init = .ok (tn, name, i)) :
    GenMsl.typeName (cx.vty (.loc id)) = .ok tn ∧ name = cx.locName id ∧ genOptExpr cx init = .ok i := by
  revert h
  fun_cases genVarDef cx id init <;> intro h <;> cases h
  next htn hgi => exact ⟨htn, rfl, hgi⟩

theorem cond_fn_eqM (hag : AgreeM cx vis env) (hw : Worlds cx rsv W M)
    {c : Option Ir.Expr} {c' : Option HlslAst.Expr}
    (hg : genOptExpr cx c = .ok c') (hok : Ir.okOptM (side cx W vis rsv) c = true) :
    Msl.condFn M env c' = Ir.condFn W c := by
  rcases genOptExpr_ok hg with ⟨rfl, rfl⟩ | ⟨e, a, rfl, rfl, hge⟩
  · rfl
  · obtain ⟨t, _, hs⟩ := sim_okM hag hw hge (by simpa [Ir.okOptM] using hok)
    funext σ
    simp [Msl.condFn, Ir.condFn, Msl.condE, hs.1, hs.cond hw.prim σ]

theorem inc_fn_eqM (hag : AgreeM cx vis env) (hw : Worlds cx rsv W M)
    {c : Option Ir.Expr} {c' : Option HlslAst.Expr}
    (hg : genOptExpr cx c = .ok c') (hok : Ir.okOptM (side cx W vis rsv) c = true) :
    Msl.incFn M env c' = Ir.incFn W c := by
  rcases genOptExpr_ok hg with ⟨rfl, rfl⟩ | ⟨e, a, rfl, rfl, hge⟩
  · rfl
  · obtain ⟨t, _, hs⟩ := sim_okM hag hw hge (by simpa [Ir.okOptM] using hok)
    funext σ
    simp [Msl.incFn, Ir.incFn, hs.drop σ]

theorem vardef_eqM (hag : AgreeM cx vis env) (hw : Worlds cx rsv W M)
    {id : Nat} {init : Option Ir.Expr} {tn name : String} {i : Option HlslAst.Expr}
    (hg : genVarDef cx id init = .ok (tn, name, i)) (hok : Ir.okVarDefM (side cx W vis rsv) id init = true) :
    Ast.tyOfName tn = some (cx.vty (.loc id)) ∧
    ∀ σ, Msl.execVarDef M env (cx.vty (.loc id)) name i σ = Ir.execVarDef W id init σ := by
  obtain ⟨htn, rfl, hgi⟩ := genVarDef_ok hg
  refine ⟨typeName_tyOfName htn, fun σ => ?_⟩
  rcases genOptExpr_ok hgi with ⟨rfl, rfl⟩ | ⟨e, a, rfl, rfl, hge⟩
  · have hr := hag.res_loc (by simpa [Ir.okVarDefM, side] using hok)
    simp [Msl.execVarDef, Ir.execVarDef, hr]
  · simp only [Ir.okVarDefM, Bool.and_eq_true] at hok
    have hr := hag.res_loc (by simpa [side] using hok.1)
    obtain ⟨ht, hs⟩ := sim_okTM hag hw hge (by simpa [side] using hok.2)
    simp [Msl.execVarDef, Ir.execVarDef, hr, hs.1, hs.conv ht σ]

theorem fordefs_eqM (hag : AgreeM cx vis env) (hw : Worlds cx rsv W M) {T : Ty} {tn : String}
    (hT : Ast.tyOfName tn = some T) (ds : List (Nat × Option Ir.Expr)) :
    ∀ ds', genForDefs cx tn ds = .ok ds' → (ds.all fun d => Ir.okVarDefM (side cx W vis rsv) d.1 d.2) = true →
      ∀ σ, Msl.execForDefs M env T ds' σ = Ir.execForDefs W ds σ := by
  fun_induction genForDefs cx tn ds with
  | case1 => intro ds' hg _ σ; cases hg; rfl
  | case5 id init r tn' name i hv hne ds2 hr ih => -- one more definition, of the same type name
    intro ds' hg hok σ
    cases hg
    simp only [List.all_cons, Bool.and_eq_true] at hok
    obtain rfl : tn' = tn := by simpa using hne
    have hvd := vardef_eqM (W := W) (M := M) hag hw hv hok.1
    obtain rfl : cx.vty (.loc id) = T := Option.some.inj (hvd.1.symm.trans hT)
    simp only [Msl.execForDefs, Ir.execForDefs, hvd.2 σ]
    cases Ir.execVarDef W id init σ with
    | none => rfl
    | some σ1 => exact ih ds2 hr hok.2 σ1
  | _ => intro _ hg; cases hg  -- the generator's failing branches

theorem forinit_eqM (hag : AgreeM cx vis env) (hw : Worlds cx rsv W M)
    {init : Ir.ForInit} {init' : HlslAst.ForInit}
    (hg : genForInit cx init = .ok init') (hok : Ir.okForInitM (side cx W vis rsv) init = true) :
    ∀ σ, Msl.execForInit M env init' σ = Ir.execForInit W init σ := by
  revert hg
  fun_cases genForInit cx init with
  | case1 => intro hg σ; cases hg; rfl
  | case2 e => -- an expression
    intro hg
    obtain ⟨a, hge, rfl⟩ := map_ok_inv hg
    obtain ⟨t, _, hs⟩ := sim_okM hag hw hge (by simpa [Ir.okForInitM] using hok)
    intro σ
    simp [Msl.execForInit, Ir.execForInit, hs.drop σ]
  | case6 id i0 r tn name i hv ds2 hr => -- definitions
    intro hg σ
    cases hg
    have hT := typeName_tyOfName (genVarDef_ok hv).1
    -- the first definition is a further definition of its own type
    have ih := fordefs_eqM (W := W) (M := M) hag hw hT ((id, i0) :: r) ((name, i) :: ds2) (by simp [genForDefs, hv, hr])
      (by simpa [Ir.okForInitM] using hok)
    simp only [Msl.execForInit, hT, ih, Ir.execForInit]
  | _ => intro hg; cases hg  -- the generator's failing branches
end

open RsslVerif.Model.HlslAst (pushStmt)

theorem msl_execs (M : Msl.MWorld) (env : Ast.Env) (rt : Ty) (fuel : Nat) :
    ∀ (b : HlslAst.Stmts) (m : Mode) (σ : Store), Msl.execs M env rt fuel m b σ = execsOf (Msl.exec M env rt fuel) m b σ
  | .nil, m, σ => rfl
  | .cons s r, m, σ => by
    simp only [Msl.execs, execsOf]
    cases Msl.exec M env rt fuel m s σ with
    | none => rfl
    | some p => obtain ⟨fl, σ1⟩ := p; cases fl <;> simp only [msl_execs M env rt fuel r]

theorem msl_labelled (M : Msl.MWorld) (env : Ast.Env) (rt : Ty) (fuel : Nat) : Labelled (Msl.exec M env rt fuel) where
  empty m σ := by simp [Msl.exec]
  label m σ l hl := by
    rcases hl with ⟨e, rfl⟩ | rfl
    · cases m with
      | run => exact .inr (.inl fun s => by simp [Msl.exec])
      | seekDefault => exact .inr (.inr fun s => by simp [Msl.exec])
      | seekCase T v =>
        cases hte : Msl.typeOf M.msig env e with
        | none => exact .inl fun s => by simp [Msl.exec, hte]
        | some te =>
          cases hc : Msl.convR M.P te T (Msl.eval M env e σ) with
          | none => exact .inl fun s => by simp [Msl.exec, hte, hc]
          | some q =>
            by_cases hv : q.1 = v
            · exact .inr (.inl fun s => by simp [Msl.exec, hte, hc, hv])
            · exact .inr (.inr fun s => by simp [Msl.exec, hte, hc, hv])
    · cases m with
      | seekCase T v => exact .inr (.inr fun s => by simp [Msl.exec])
      | run => exact .inr (.inl fun s => by simp [Msl.exec])
      | seekDefault => exact .inr (.inl fun s => by simp [Msl.exec])

theorem wrap64_id {n : Int} (h1 : -9223372036854775808 ≤ n) (h2 : n < 9223372036854775808) : Msl.wrap64 n = n := by
  unfold Msl.wrap64
  rw [BitVec.toInt_ofInt]
  simp only [Int.bmod]
  omega

theorem ofNat_eq_ofInt (v : Int) (h : 0 ≤ v) : BitVec.ofNat 32 v.toNat = BitVec.ofInt 32 v := ofNat_toNat_int v h

/-- a `case` label: the emitted constant, converted to the (promoted) type of the controlling expression, is the IR's
constant converted to that type -/
theorem sim_labelM (W : World) (M : Msl.MWorld) (env : Ast.Env) (T : Ty)
    (c : Const) (a : HlslAst.Expr) (hc : Ir.labelOK T c = true) (hg : GenMsl.genLiteral c = .ok a) :
    ∃ te, Msl.typeOf M.msig env a = some te ∧
      ∀ σ, Msl.convR M.P te T (Msl.eval M env a σ) =
        (match castVal W.P T (Ir.constVal c) with | none => none | some x => some (x, σ)) := by
  simp only [Ir.labelOK, Bool.and_eq_true, Bool.or_eq_true, decide_eq_true_eq] at hc
  obtain ⟨hT, hc⟩ := hc
  cases c with
  | bool b => simp at hc
  | float32 x => simp at hc
  | floatLit x => simp at hc
  | uint32 v =>
    simp at hc; subst hc
    rw [genLiteral_uint32] at hg; cases hg
    have : v.toNat < 4294967296 := v.isLt
    exact ⟨.uint, by simp [Msl.typeOf, Msl.litTy, this],
      fun σ => by simp [Msl.eval, Msl.litTy, Msl.litVal, this, Msl.convR, Msl.convert, Ir.constVal, castVal]⟩
  | int32 v =>
    simp at hc; subst hc
    have hs := sim_litM W M env (.int32 v) a rfl hg
    have ht : Ir.typeOf W.sig (fun _ => Ty.int) (.lit (.int32 v)) = some .int := by simp [Ir.typeOf, Const.ty]
    refine ⟨_, hs.1, fun σ => ?_⟩
    have := hs.conv ht σ
    simpa [Const.ty, Ir.eval, Ir.constVal, castVal] using this
  | intLit v =>
    simp only [Bool.and_eq_true, decide_eq_true_eq] at hc
    -- an `int`, or a `long` (a literal or a negated one); each, converted to `T`, is the IR's conversion of `v`
    by_cases hsmall : -2147483648 < v ∧ v < 2147483648
    · obtain ⟨l, hgl, ht, he⟩ := eval_genIntLit_int M env hsmall.1 hsmall.2
      cases hg.symm.trans hgl
      refine ⟨.int, ht, fun σ => ?_⟩
      rw [he σ]
      rcases hT with rfl | rfl <;> simp [Msl.convR, Msl.convert, Msl.castM, Ir.constVal, castVal]
    · by_cases hn : v < 0
      · rw [genLiteral_intLit_neg v hn (by simp only [GenHlsl.u64Max]; omega)] at hg; cases hg
        obtain ⟨ht, he⟩ := eval_neg_intLit_long M env (n := (-v).toNat) (by omega) (by omega)
        have e3 : Msl.wrap64 (-(((-v).toNat : Nat) : Int)) = v := by
          have e2 : (((-v).toNat : Nat) : Int) = -v := by omega
          rw [e2]; simp; exact wrap64_id (by omega) (by omega)
        refine ⟨.lit, ht, fun σ => ?_⟩
        rw [he σ, e3]
        rcases hT with rfl | rfl <;> simp [Msl.convR, Msl.convert, Msl.castM, Ir.constVal, castVal]
      · rw [genLiteral_intLit_nonneg v (by omega) (by simp only [GenHlsl.u64Max]; omega)] at hg; cases hg
        obtain ⟨ht, he⟩ := eval_intLit_long M env (n := v.toNat) (by omega) (by omega)
        have e2 : ((v.toNat : Nat) : Int) = v := by omega
        refine ⟨.lit, ht, fun σ => ?_⟩
        rw [he σ, e2]
        rcases hT with rfl | rfl <;> simp [Msl.convR, Msl.convert, Msl.castM, Ir.constVal, castVal]

theorem execs_of_accM {W : World} {M : Msl.MWorld} {env : Ast.Env} {rt : Ty} {m : Mode} {b : Ir.Stmts} {b' : HlslAst.Stmts}
    (h : ∀ fuel σ, Msl.execs M env rt fuel m b' σ =
      bindS m (Msl.execs M env rt fuel m .nil σ) (fun m' σ' => Ir.execs W fuel m' b σ')) :
    ∀ fuel σ, Msl.execs M env rt fuel m b' σ = Ir.execs W fuel m b σ :=
  fun fuel σ => (h fuel σ).trans (by cases m <;> rfl)

section
variable {W : World} {M : Msl.MWorld} {env : Ast.Env} {cx : Ctx} {vis : Var → Bool} {rsv : Nat → List Var}

/-- what the simulation says of a statement and of what the generator returns for it -/
abbrev SimSM (W : World) (M : Msl.MWorld) (env : Ast.Env) (cx : Ctx) (vis : Var → Bool) (rsv : Nat → List Var) (rt : Ty)
    (s : Ir.Stmt) (r : Except GenErr HlslAst.Stmt) : Prop :=
  ∀ (s' : HlslAst.Stmt) (lt : Option Ty), r = .ok s' → Ir.wtStmtM (side cx W vis rsv) rt lt s = true →
    ∀ m, ModeOK lt m → ∀ fuel σ, Msl.exec M env rt fuel m s' σ = Ir.exec W fuel m s σ

/-- …of a statement list, the statements pushed so far and what the loop of `generate_scope_block` returns for them -/
abbrev SimAM (W : World) (M : Msl.MWorld) (env : Ast.Env) (cx : Ctx) (vis : Var → Bool) (rsv : Nat → List Var) (rt : Ty)
    (b : Ir.Stmts) (acc : HlslAst.Stmts) (r : Except GenErr HlslAst.Stmts) : Prop :=
  ∀ (acc' : HlslAst.Stmts) (lt : Option Ty), r = .ok acc' → Ir.wtStmtsM (side cx W vis rsv) rt lt b = true →
    ∀ m, ModeOK lt m → ∀ fuel σ,
      Msl.execs M env rt fuel m acc' σ =
        bindS m (Msl.execs M env rt fuel m acc σ) (fun m' σ' => Ir.execs W fuel m' b σ')

/-- By the functional induction principle of the generator, as `GenSem.sim_stmt_acc`; the cases carry the same numbers. -/
theorem sim_stmt_accM (hag : AgreeM cx vis env) (hw : Worlds cx rsv W M) (rt : Ty) :
    (∀ s, SimSM W M env cx vis rsv rt s (genStmt cx s)) ∧
      ∀ b acc, SimAM W M env cx vis rsv rt b acc (genStmtsAcc cx b acc) := by
  apply genStmt.mutual_induct_unfolding cx (SimSM W M env cx vis rsv rt) (SimAM W M env cx vis rsv rt)
  case case1 => -- expression statement
    intro e s' lt hg hwt
    obtain ⟨a, hge, rfl⟩ := map_ok_inv hg
    obtain ⟨t, _, hs⟩ := sim_okM hag hw hge (by simpa [Ir.wtStmtM] using hwt)
    intro m _ fuel σ
    simp [Msl.exec, Ir.exec, hs.drop σ]
  case case3 => -- variable definition
    intro id init tn name i hv s' lt hg hwt
    cases hg
    have hvd := vardef_eqM (W := W) (M := M) hag hw hv (by simpa [Ir.wtStmtM] using hwt)
    intro m _ fuel σ
    simp [Msl.exec, Ir.exec, hvd.1, hvd.2 σ]
  case case4 => -- block
    intro b ih s' lt hg hwt
    obtain ⟨b', hb, rfl⟩ := map_ok_inv hg
    have ih := execs_of_accM (ih b' none hb (by simpa [Ir.wtStmtM] using hwt) .run trivial)
    intro m _ fuel σ
    simp only [Msl.exec, Ir.exec, ih]
  case case7 => -- if
    intro c b c' hgc b' hb ih s' lt hg hwt
    cases hg
    simp only [Ir.wtStmtM, Bool.and_eq_true] at hwt
    obtain ⟨t, _, hs⟩ := sim_okM hag hw hgc hwt.1
    have ih := execs_of_accM (ih b' none hb hwt.2 .run trivial)
    intro m _ fuel σ
    simp only [Msl.exec, Ir.exec, Msl.condE, hs.1, hs.cond hw.prim σ, skip, ih]
    rfl  -- the two sides differ in the names of the `match` auxiliaries of `Msl.exec` and `Ir.exec` only
  case case11 => -- if / else
    intro c t f c' hgc t' hb f' hb2 ih1 ih2 s' lt hg hwt
    cases hg
    simp only [Ir.wtStmtM, Bool.and_eq_true] at hwt
    obtain ⟨ty, _, hs⟩ := sim_okM hag hw hgc hwt.1.1
    have ih1 := execs_of_accM (ih1 t' none hb hwt.1.2 .run trivial)
    have ih2 := execs_of_accM (ih2 f' none hb2 hwt.2 .run trivial)
    intro m _ fuel σ
    simp only [Msl.exec, Ir.exec, Msl.condE, hs.1, hs.cond hw.prim σ, skip, ih1, ih2]
    rfl
  case case16 => -- for
    intro init cond inc b init' hgi cond' hgc inc' hgn b' hb ih s' lt hg hwt
    cases hg
    simp only [Ir.wtStmtM, Bool.and_eq_true] at hwt
    obtain ⟨⟨⟨hwi, hwc⟩, hwn⟩, hwb⟩ := hwt
    have ih := execs_of_accM (ih b' none hb hwb .run trivial)
    intro m _ fuel σ
    simp only [Msl.exec, Ir.exec, forinit_eqM hag hw hgi hwi σ, cond_fn_eqM hag hw hgc hwc, inc_fn_eqM hag hw hgn hwn, skip, ih]
    rfl
  case case19 => -- while
    intro c b c' hgc b' hb ih s' lt hg hwt
    cases hg
    simp only [Ir.wtStmtM, Bool.and_eq_true] at hwt
    have ih := execs_of_accM (ih b' none hb hwt.2 .run trivial)
    have hc : Msl.condFn M env (some c') = Ir.condFn W (some c) :=
      cond_fn_eqM hag hw (by simp [genOptExpr, hgc, Except.map]) (by simpa [Ir.okOptM] using hwt.1)
    intro m _ fuel σ
    simp only [Msl.exec, Ir.exec, hc, skip, ih]
  case case22 => -- do / while
    intro b c b' hb c' hgc ih s' lt hg hwt
    cases hg
    simp only [Ir.wtStmtM, Bool.and_eq_true] at hwt
    have ih := execs_of_accM (ih b' none hb hwt.1 .run trivial)
    have hc : Msl.condFn M env (some c') = Ir.condFn W (some c) :=
      cond_fn_eqM hag hw (by simp [genOptExpr, hgc, Except.map]) (by simpa [Ir.okOptM] using hwt.2)
    intro m _ fuel σ
    simp only [Msl.exec, Ir.exec, hc, skip, ih]
  case case23 => intro s' lt hg _; cases hg; intro m _ fuel σ; rfl -- break
  case case24 => intro s' lt hg _; cases hg; intro m _ fuel σ; rfl -- continue
  case case25 => -- return
    intro e s' lt hg hwt
    cases e with
    | none => simp [genOptExpr, Except.map] at hg; subst hg; intro m _ fuel σ; rfl
    | some e =>
      obtain ⟨_, ho, rfl⟩ := map_ok_inv hg
      obtain ⟨a, hge, rfl⟩ := map_ok_inv ho
      obtain ⟨ht, hs⟩ := sim_okTM hag hw hge (by simpa [Ir.wtStmtM] using hwt)
      intro m _ fuel σ
      simp [Msl.exec, Ir.exec, hs.1, hs.conv ht σ]
  case case28 => -- switch
    intro T c b c' hgc b' hb ih s' lt hg hwt
    cases hg
    simp only [Ir.wtStmtM, Bool.and_eq_true, Bool.not_eq_true', Bool.or_eq_true, decide_eq_true_eq] at hwt
    obtain ⟨⟨⟨hwc, hmin⟩, hT⟩, hwb⟩ := hwt
    obtain ⟨ht, hs⟩ := sim_okTM hag hw hgc hwc
    obtain ⟨tyc, evc⟩ := hs.plain hmin
    have ih := ih b' (some T) hb hwb
    have hprom : Msl.promote T = T ∧ Msl.isInteger T = true := by
      rcases hT with rfl | rfl <;> simp [Msl.promote, Msl.isInteger]
    intro m _ fuel σ
    simp only [Msl.exec, Ir.exec, tyc, hprom.1, hprom.2, if_true, evc σ]
    congr 1; funext _
    cases Ir.eval W c σ with
    | none => simp [Msl.convR]
    | some p =>
      obtain ⟨v, σ1⟩ := p
      simp only [Msl.convR, Msl.convert, if_true]
      rw [execs_of_accM (ih (.seekCase T v) rfl) fuel σ1]
      congr 1; funext s
      exact execs_of_accM (ih .seekDefault trivial) fuel s
  case case30 => -- case label
    intro c e hgl s' lt hg hwt
    cases hg
    intro m hm fuel σ
    cases m with
    | run => simp [Msl.exec, Ir.exec, endOf]
    | seekDefault => simp [Msl.exec, Ir.exec, endOf]
    | seekCase T v =>
      simp only [ModeOK] at hm
      subst hm
      simp only [Ir.wtStmtM] at hwt
      obtain ⟨te, hte, key⟩ := sim_labelM W M env T c e hwt hgl
      simp only [Msl.exec, Ir.exec, hte, key, endOf]
      cases hcv : castVal W.P T (Ir.constVal c) with
      | none => rfl
      | some x => by_cases hv : x = v <;> simp [hv]
  case case31 => -- default label
    intro s' lt hg _
    cases hg
    intro m _ fuel σ
    cases m <;> simp [Msl.exec, Ir.exec, endOf]
  case case32 => -- end of the list
    intro acc acc' lt hg _
    cases hg
    intro m _ fuel σ
    simp only [Ir.execs, msl_execs]
    exact (bind_end m acc σ).symm
  case case34 => -- a statement, pushed, and the rest
    intro s r acc s' hs ih1 ih2 acc' lt hg hwt
    simp only [Ir.wtStmtsM, Bool.and_eq_true] at hwt
    intro m hm fuel σ
    simp only [msl_execs]
    exact acc_step (msl_labelled M env rt fuel) (fun m hm σ => ih1 s' lt hs hwt.1 m hm fuel σ)
      (fun m hm σ => by simpa only [msl_execs] using ih2 acc' lt hg hwt.2 m hm fuel σ) m hm σ
  -- what is left are the generator's failing branches: it returned an error, not `.ok`
  all_goals intros; exact fun _ _ hg => nomatch hg

theorem sim_stmtM (hag : AgreeM cx vis env) (hw : Worlds cx rsv W M) (rt : Ty) :
    ∀ (s : Ir.Stmt) (s' : HlslAst.Stmt) (lt : Option Ty),
      genStmt cx s = .ok s' → Ir.wtStmtM (side cx W vis rsv) rt lt s = true →
      ∀ m, ModeOK lt m → ∀ fuel σ, Msl.exec M env rt fuel m s' σ = Ir.exec W fuel m s σ :=
  (sim_stmt_accM hag hw rt).1

theorem sim_accM (hag : AgreeM cx vis env) (hw : Worlds cx rsv W M) (rt : Ty) :
    ∀ (b : Ir.Stmts) (acc acc' : HlslAst.Stmts) (lt : Option Ty),
      genStmtsAcc cx b acc = .ok acc' → Ir.wtStmtsM (side cx W vis rsv) rt lt b = true →
      ∀ m, ModeOK lt m → ∀ fuel σ,
        Msl.execs M env rt fuel m acc' σ =
          bindS m (Msl.execs M env rt fuel m acc σ) (fun m' σ' => Ir.execs W fuel m' b σ') :=
  (sim_stmt_accM hag hw rt).2
end

end RsslVerif.Lemmas.GenMsl
