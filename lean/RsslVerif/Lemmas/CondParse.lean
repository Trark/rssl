import RsslVerif.Lemmas.CondExpr
/-!
# C11: the condition parser on the token level

`tLvl/tLoop` is the precedence-climbing parser of the model with syntax trees in place of values.  `Run` lists its
successful runs without fuel: every successful run is a derivation (`sound`: each successful arm of the parser ends in a
constructor) and a derivation fixes the result at every fuel that does not run out (`Run.run`).  On derivations: what is accepted is
the printing of the canonical tree returned (`Lvl.spec`), and a printed canonical tree has a derivation
(`tree_roundtrip_gen`), so it parses to itself (`parseTree_print`).  The parser never runs out of the fuel `parseCond`
supplies (`tenough`) and accepts exactly `Spec.CPre.Gram` (`gram_iff_accepts`).  The model parser is its image under
evaluation (`sim`); the facts about `pLvl` at the end of the file are corollaries; they stand in namespace
`Lemmas.CondExpr`, among them `pLvl_fuel_enough`, which `Model/CondExpr.lean` cites.
-/
namespace RsslVerif.Lemmas.CondParse
open RsslVerif.Gen.CondTables RsslVerif.Model.CondExpr RsslVerif.Spec.CPre RsslVerif.Lemmas.CondExpr

inductive TR where
  | oof
  | err
  | ok (e : Expr) (rest : List CTok)
  deriving DecidableEq, Repr

def TR.toPR : TR → PR
  | .oof => .oof
  | .err => .err
  | .ok e r => .ok (ev e) r

def leafExpr : CTok → Option Expr
  | .False => some .fls
  | .True => some .tru
  | .LiteralInt v => some (.lit v false)
  | .LiteralIntUnsigned32 v => some (.lit v true)
  | .Id x => some (.name x)
  | _ => none

def opRel : List CTok → Option (Op × List CTok)
  | .LeftAngleBracket .Token :: .Equals :: rest => some (.le, rest)
  | .RightAngleBracket .Token :: .Equals :: rest => some (.ge, rest)
  | .LeftAngleBracket f :: rest => some (.lt f, rest)
  | .RightAngleBracket f :: rest => some (.gt f, rest)
  | _ => none

def opEq : List CTok → Option (Op × List CTok)
  | .EqualsEquals :: rest => some (.eq, rest)
  | .ExclamationPointEquals :: rest => some (.ne, rest)
  | _ => none

def opAnd : List CTok → Option (Op × List CTok)
  | .AmpersandAmpersand :: rest => some (.land, rest)
  | _ => none

def opOr : List CTok → Option (Op × List CTok)
  | .VerticalBarVerticalBar :: rest => some (.lor, rest)
  | _ => none

/-- the reference operator that starts `ts` at binary level `k` (the C grammar's view of `parse_op`) -/
def opOf (k : Nat) (ts : List CTok) : Option (Op × List CTok) :=
  if k = 1 then opRel ts else if k = 2 then opEq ts else if k = 3 then opAnd ts else if k = 4 then opOr ts
  else none

mutual
def tLvl : Nat → Nat → List CTok → TR
  | 0, _, _ => .oof
  | f + 1, 0, ts =>
    match ts with
    | [] => .err
    | t :: rest =>
      if t = notTok then
        match tLvl f 0 rest with
        | .ok e r => .ok (.not e) r
        | .err => .err
        | .oof => .oof
      else
        match leafKind t with
        | .value _ =>
          match leafExpr t with
          | some e => .ok e rest
          | none => .err
        | .paren =>
          match tLvl f numLevels rest with
          | .ok e (c :: r) => if c = closeTok then .ok (.paren e) r else .err
          | .ok _ [] => .err
          | .err => .err
          | .oof => .oof
        | .fail => .err
  | f + 1, k + 1, ts =>
    match tLvl f k ts with
    | .ok l rest => tLoop f (k + 1) l rest
    | .err => .err
    | .oof => .oof
def tLoop : Nat → Nat → Expr → List CTok → TR
  | 0, _, _, _ => .oof
  | f + 1, k, acc, ts =>
    match opOf k ts with
    | some (op, rest) =>
      match tLvl f (k - 1) rest with
      | .ok r rest' => tLoop f k (.bin op acc r) rest'
      | .err => .err
      | .oof => .oof
    | none => .ok acc ts
end

theorem tLvl_fuel0 (k ts) : tLvl 0 k ts = .oof := by cases k <;> rfl
theorem tLoop_fuel0 (k acc ts) : tLoop 0 k acc ts = .oof := rfl
theorem tLvl_p2_nil (f) : tLvl (f + 1) 0 [] = .err := rfl
theorem tLvl_p2_cons (f t rest) : tLvl (f + 1) 0 (t :: rest) =
      if t = notTok then
        match tLvl f 0 rest with
        | .ok e r => .ok (.not e) r
        | .err => .err
        | .oof => .oof
      else
        match leafKind t with
        | .value _ =>
          match leafExpr t with
          | some e => .ok e rest
          | none => .err
        | .paren =>
          match tLvl f numLevels rest with
          | .ok e (c :: r) => if c = closeTok then .ok (.paren e) r else .err
          | .ok _ [] => .err
          | .err => .err
          | .oof => .oof
        | .fail => .err := rfl
theorem tLvl_bin (f k ts) : tLvl (f + 1) (k + 1) ts =
    match tLvl f k ts with
    | .ok l rest => tLoop f (k + 1) l rest
    | .err => .err
    | .oof => .oof := rfl
theorem tLoop_succ (f k acc ts) : tLoop (f + 1) k acc ts =
    match opOf k ts with
    | some (op, rest) =>
      match tLvl f (k - 1) rest with
      | .ok r rest' => tLoop f k (.bin op acc r) rest'
      | .err => .err
      | .oof => .oof
    | none => .ok acc ts := rfl

/-- `parse_p6::parse_op` against the relational operators: only `<` / `>` directly followed by a token look at
    the second token -/
theorem parseOp6_opRel (ts : List CTok) : parseOp6 ts = (opRel ts).map (fun p => (genOp p.1, p.2)) := by
  cases ts with
  | nil => rfl
  | cons t r =>
    cases t with
    | LeftAngleBracket f =>
      cases f with
      | Whitespace => cases r <;> rfl
      | Token =>
        cases r with
        | nil => rfl
        | cons t' r' => cases t' <;> rfl
    | RightAngleBracket f =>
      cases f with
      | Whitespace => cases r <;> rfl
      | Token =>
        cases r with
        | nil => rfl
        | cons t' r' => cases t' <;> rfl
    | _ => rfl

theorem opsAt_opOf (k : Nat) (ts : List CTok) :
    opsAt k ts = (opOf k ts).map (fun p => (genOp p.1, p.2)) := by
  match k with
  | 0 => cases ts <;> rfl
  | 1 => exact parseOp6_opRel ts
  | 2 =>
    show parseOp7 ts = (opEq ts).map _
    cases ts with
    | nil => rfl
    | cons t r => cases t <;> rfl
  | 3 =>
    show parseOp11 ts = (opAnd ts).map _
    cases ts with
    | nil => rfl
    | cons t r => cases t <;> rfl
  | 4 =>
    show parseOp12 ts = (opOr ts).map _
    cases ts with
    | nil => rfl
    | cons t r => cases t <;> rfl
  | n + 5 => simp [opsAt, levelOps, opOf]

/-- an operator found at level `k` is an operator of level `k`, and its spelling starts the input -/
theorem opOf_spec (k : Nat) (ts : List CTok) (op : Op) (rest : List CTok)
    (h : opOf k ts = some (op, rest)) : op.level = k ∧ ts = op.toks ++ rest := by
  revert h
  fun_cases opOf k ts <;> intro h <;> subst_vars
  · revert h; fun_cases opRel ts <;> intro h <;> cases h <;> exact ⟨rfl, rfl⟩
  · revert h; fun_cases opEq ts <;> intro h <;> cases h <;> exact ⟨rfl, rfl⟩
  · revert h; fun_cases opAnd ts <;> intro h <;> cases h <;> exact ⟨rfl, rfl⟩
  · revert h; fun_cases opOr ts <;> intro h <;> cases h <;> exact ⟨rfl, rfl⟩
  · cases h

/-- an operator is recognised at its own level (the operand that follows never starts with `=`) -/
theorem opOf_own (op : Op) (X : List CTok) (hX : ∀ r, X ≠ .Equals :: r) :
    opOf op.level (op.toks ++ X) = some (op, X) := by
  cases op with
  | lt f =>
    cases f with
    | Whitespace => cases X <;> rfl
    | Token =>
      cases X with
      | nil => rfl
      | cons t r => cases t <;> first | rfl | exact absurd rfl (hX r)
  | gt f =>
    cases f with
    | Whitespace => cases X <;> rfl
    | Token =>
      cases X with
      | nil => rfl
      | cons t r => cases t <;> first | rfl | exact absurd rfl (hX r)
  | _ => rfl

/-- … and at no other level -/
theorem opOf_other (op : Op) (j : Nat) (hj : j ≠ op.level) (X : List CTok) :
    opOf j (op.toks ++ X) = none := by
  match j with
  | 0 | 1 | 2 | 3 | 4 => cases op <;> first | exact absurd rfl hj | rfl
  | n + 5 => simp [opOf]

theorem opOf_nil (j : Nat) : opOf j [] = none := by
  simp only [opOf, opRel, opEq, opAnd, opOr, ite_self]

theorem opOf_rparen (j : Nat) (r : List CTok) : opOf j (.RightParen :: r) = none := by
  simp only [opOf, opRel, opEq, opAnd, opOr, ite_self]

theorem opsAt_own (op : Op) (X : List CTok) (hX : ∀ r, X ≠ .Equals :: r) :
    opsAt op.level (op.toks ++ X) = some (genOp op, X) := by
  rw [opsAt_opOf, opOf_own op X hX]; rfl

theorem opsAt_other (op : Op) (j : Nat) (hj : j ≠ op.level) (X : List CTok) :
    opsAt j (op.toks ++ X) = none := by
  rw [opsAt_opOf, opOf_other op j hj X]; rfl

/-- binding level of the top node (0 = a unary expression) -/
def lvl : Expr → Nat
  | .bin op _ _ => op.level
  | _ => 0

/-- canonical trees: no `defined` (it is resolved before parsing), every explicit parenthesis is a `.paren`
    node, and every operand sits at the level the C grammar gives it (so `print` adds no parentheses) -/
def Canon : Expr → Prop
  | .lit _ _ | .tru | .fls | .name _ => True
  | .defined _ _ => False
  | .not e => Canon e ∧ lvl e = 0
  | .paren e => Canon e
  | .bin op l r => Canon l ∧ Canon r ∧ lvl l ≤ op.level ∧ lvl r < op.level

theorem canon_closed : ∀ e, Canon e → Closed e := by
  intro e
  induction e with
  | defined x p => intro h; exact h
  | not e ih => intro h; exact ih h.1
  | paren e ih => intro h; exact ih h
  | bin op l r ihl ihr => intro h; exact ⟨ihl h.1, ihr h.2.1⟩
  | _ => intro _; trivial

theorem print_of_le {e : Expr} {k j : Nat} (hk : lvl e ≤ k) (hj : lvl e ≤ j) : print k e = print j e := by
  cases e with
  | bin op l r => simp only [lvl] at hk hj; simp [print, hk, hj]
  | lit v u => cases u <;> rfl
  | defined x p => cases p <;> rfl
  | _ => rfl

theorem leaf_spec (t : CTok) (v : UInt64) (h : leafKind t = .value v) :
    ∃ e, leafExpr t = some e ∧ ev e = v ∧ (∀ k, print k e = [t]) ∧ lvl e = 0 ∧ Canon e := by
  cases t <;> first
    | exact absurd h LeafKind.noConfusion
    | exact ⟨_, rfl, LeafKind.value.inj h, fun _ => rfl, rfl, trivial⟩

theorem paren_tok (t : CTok) (h : leafKind t = .paren) : t = .LeftParen := by
  cases t <;> simp_all [leafKind]

/-- **The model parser is the tree parser followed by evaluation.** -/
theorem sim : ∀ f,
    (∀ k ts, pLvl f k ts = (tLvl f k ts).toPR) ∧
    (∀ k acc ts, pLoop f k (ev acc) ts = (tLoop f k acc ts).toPR) := by
  intro f
  induction f with
  | zero =>
    constructor
    · intro k ts; rw [pLvl_fuel0, tLvl_fuel0]; rfl
    · intro k acc ts; rfl
  | succ f ih =>
    obtain ⟨ih1, ih2⟩ := ih
    constructor
    · intro k ts
      cases k with
      | zero =>
        cases ts with
        | nil => rfl
        | cons t rest =>
          rw [pLvl_p2_cons, tLvl_p2_cons]
          by_cases ht : t = notTok
          · simp only [ht, if_true, ih1 0 rest]
            cases tLvl f 0 rest <;> simp [TR.toPR, notApply_eq, ev, evalU64]
          · simp only [ht, if_false]
            cases hl : leafKind t with
            | value v =>
              obtain ⟨e, he, hv, _, _⟩ := leaf_spec t v hl
              simp [he, TR.toPR, hv]
            | fail => rfl
            | paren =>
              simp only [ih1 numLevels rest]
              cases hr : tLvl f numLevels rest with
              | ok e r =>
                cases r with
                | nil => rfl
                | cons c r' =>
                  simp only [TR.toPR]
                  by_cases hc : c = closeTok <;> simp [hc, ev, evalU64]
              | _ => rfl
      | succ k =>
        rw [pLvl_bin, tLvl_bin, ih1 k ts]
        cases hr : tLvl f k ts with
        | ok l rest => simp only [TR.toPR]; exact ih2 (k + 1) l rest
        | _ => rfl
    · intro k acc ts
      rw [pLoop_succ, tLoop_succ, opsAt_opOf]
      cases ho : opOf k ts with
      | none => simp [TR.toPR]
      | some p =>
        obtain ⟨op, rest⟩ := p
        simp only [Option.map_some, ih1 (k - 1) rest]
        cases hr : tLvl f (k - 1) rest with
        | ok r rest' =>
          have := ih2 k (.bin op acc r) rest'
          simp only [ev, evalU64] at this
          simp only [apply_eq_sem, ev]
          exact this
        | _ => rfl

/-- the successful runs of `tLvl` (no accumulator) and `tLoop` (accumulator `some acc`), without fuel -/
inductive Run : Nat → Option Expr → List CTok → Expr → List CTok → Prop
  | leaf {t rest e v} : leafKind t = .value v → leafExpr t = some e → Run 0 none (t :: rest) e rest
  | not {rest e r} : Run 0 none rest e r → Run 0 none (notTok :: rest) (.not e) r
  | paren {t rest e r} : leafKind t = .paren → Run numLevels none rest e (closeTok :: r) →
      Run 0 none (t :: rest) (.paren e) r
  | bin {k ts l rest e r} : Run k none ts l rest → Run (k + 1) (some l) rest e r → Run (k + 1) none ts e r
  | stop {k acc ts} : opOf k ts = none → Run k (some acc) ts acc ts
  | step {k acc ts op rest r rest' e r'} : opOf k ts = some (op, rest) → Run (k - 1) none rest r rest' →
      Run k (some (.bin op acc r)) rest' e r' → Run k (some acc) ts e r'

abbrev Lvl (k : Nat) (ts : List CTok) (e : Expr) (r : List CTok) : Prop := Run k none ts e r
abbrev Loop (k : Nat) (acc : Expr) (ts : List CTok) (e : Expr) (r : List CTok) : Prop := Run k (some acc) ts e r

def tRun (f k : Nat) : Option Expr → List CTok → TR
  | none, ts => tLvl f k ts
  | some acc, ts => tLoop f k acc ts

theorem tRun_fuel0 (k a ts) : tRun 0 k a ts = .oof := by cases a <;> simp [tRun, tLvl_fuel0, tLoop_fuel0]

/-- The successful arms of the parser, one by one: each ends in a constructor of `Run`. -/
theorem sound : ∀ f,
    (∀ k ts e r, tLvl f k ts = .ok e r → Lvl k ts e r) ∧
    (∀ k acc ts e r, tLoop f k acc ts = .ok e r → Loop k acc ts e r) := by
  intro f
  induction f with
  | zero =>
    constructor
    · intro k ts e r h; rw [tLvl_fuel0] at h; cases h
    · intro k acc ts e r h; rw [tLoop_fuel0] at h; cases h
  | succ f ih =>
    obtain ⟨ih1, ih2⟩ := ih
    constructor
    · intro k ts e r h
      cases k with
      | zero =>
        cases ts with
        | nil => rw [tLvl_p2_nil] at h; cases h
        | cons t r0 =>
          rw [tLvl_p2_cons] at h
          by_cases ht : t = notTok
          · simp only [ht, if_true] at h
            cases hr : tLvl f 0 r0 with
            | ok e' r' =>
              simp only [hr, TR.ok.injEq] at h
              obtain ⟨rfl, rfl⟩ := h
              rw [ht]; exact .not (ih1 _ _ _ _ hr)
            | _ => simp [hr] at h
          · simp only [ht, if_false] at h
            cases hl : leafKind t with
            | value v =>
              simp only [hl] at h
              cases he : leafExpr t with
              | some e' =>
                simp only [he, TR.ok.injEq] at h
                obtain ⟨rfl, rfl⟩ := h
                exact .leaf hl he
              | none => simp [he] at h
            | fail => simp [hl] at h
            | paren =>
              simp only [hl] at h
              cases hr : tLvl f numLevels r0 with
              | ok e' r' =>
                cases r' with
                | nil => simp [hr] at h
                | cons c r'' =>
                  simp only [hr] at h
                  by_cases hc : c = closeTok
                  · simp only [hc, if_true, TR.ok.injEq] at h
                    obtain ⟨rfl, rfl⟩ := h
                    exact .paren hl (hc ▸ ih1 _ _ _ _ hr)
                  · simp [hc] at h
              | _ => simp [hr] at h
      | succ k =>
        rw [tLvl_bin] at h
        cases hr : tLvl f k ts with
        | ok l r1 => simp only [hr] at h; exact .bin (ih1 _ _ _ _ hr) (ih2 _ _ _ _ _ h)
        | _ => simp [hr] at h
    · intro k acc ts e r h
      rw [tLoop_succ] at h
      cases ho : opOf k ts with
      | none =>
        simp only [ho, TR.ok.injEq] at h
        obtain ⟨rfl, rfl⟩ := h
        exact .stop ho
      | some p =>
        obtain ⟨op, r0⟩ := p
        simp only [ho] at h
        cases hr : tLvl f (k - 1) r0 with
        | ok x r1 => simp only [hr] at h; exact .step ho (ih1 _ _ _ _ hr) (ih2 _ _ _ _ _ h)
        | _ => simp [hr] at h

/-- what a derivation accepts is a printed canonical tree followed by the unconsumed rest; for the loop: it extends
    the printing of a canonical accumulator -/
def Spec (k : Nat) (ts : List CTok) (e : Expr) (r : List CTok) : Option Expr → Prop
  | none => lvl e ≤ k ∧ Canon e ∧ ts = print k e ++ r
  | some acc => lvl acc ≤ k → Canon acc → lvl e ≤ k ∧ Canon e ∧ print k acc ++ ts = print k e ++ r

namespace Run

/-- a derivation fixes the result at every fuel that does not run out -/
theorem run {k a ts e r} (d : Run k a ts e r) : ∀ f, tRun f k a ts ≠ .oof → tRun f k a ts = .ok e r := by
  induction d with
  | @leaf t _ _ _ hl he =>
    intro f h
    have hn : t ≠ notTok := by rintro rfl; cases hl
    cases f with
    | zero => exact absurd (tRun_fuel0 _ _ _) h
    | succ f => simp only [tRun]; rw [tLvl_p2_cons]; simp [hn, hl, he]
  | not _ ih =>
    intro f h
    cases f with
    | zero => exact absurd (tRun_fuel0 _ _ _) h
    | succ f =>
      simp only [tRun] at h ih ⊢
      rw [tLvl_p2_cons] at h ⊢
      simp only [if_true] at h ⊢
      rw [ih f (fun hc => by simp [hc] at h)]
  | @paren t _ _ _ hl _ ih =>
    intro f h
    have hn : t ≠ notTok := by rintro rfl; cases hl
    cases f with
    | zero => exact absurd (tRun_fuel0 _ _ _) h
    | succ f =>
      simp only [tRun] at h ih ⊢
      rw [tLvl_p2_cons] at h ⊢
      simp only [hn, if_false, hl] at h ⊢
      rw [ih f (fun hc => by simp [hc] at h)]
      simp
  | bin _ _ ih1 ih2 =>
    intro f h
    cases f with
    | zero => exact absurd (tRun_fuel0 _ _ _) h
    | succ f =>
      simp only [tRun] at h ih1 ih2 ⊢
      rw [tLvl_bin] at h ⊢
      have h1 := ih1 f (fun hc => by simp [hc] at h)
      rw [h1] at h ⊢
      exact ih2 f h
  | stop ho =>
    intro f h
    cases f with
    | zero => exact absurd (tRun_fuel0 _ _ _) h
    | succ f => simp only [tRun]; rw [tLoop_succ]; simp [ho]
  | step ho _ _ ih1 ih2 =>
    intro f h
    cases f with
    | zero => exact absurd (tRun_fuel0 _ _ _) h
    | succ f =>
      simp only [tRun] at h ih1 ih2 ⊢
      rw [tLoop_succ] at h ⊢
      simp only [ho] at h ⊢
      have h1 := ih1 f (fun hc => by simp [hc] at h)
      rw [h1] at h ⊢
      exact ih2 f h

theorem spec {k a ts e r} (d : Run k a ts e r) : Spec k ts e r a := by
  induction d with
  | @leaf t _ _ v hl he =>
    obtain ⟨e', he', _, hp, hl0, hc⟩ := leaf_spec t v hl
    rw [he] at he'; cases he'
    exact ⟨by omega, hc, by simp [hp]⟩
  | not _ ih =>
    obtain ⟨h1, h2, h3⟩ := ih
    refine ⟨by simp [lvl], ⟨h2, by omega⟩, ?_⟩
    rw [h3]; simp [print, notTok]
  | @paren t _ _ _ hl _ ih =>
    obtain ⟨_, h2, h3⟩ := ih
    refine ⟨by simp [lvl], h2, ?_⟩
    rw [paren_tok t hl, h3, numLevels_eq]; simp [print, closeTok]
  | bin _ _ ih1 ih2 =>
    obtain ⟨h1, h2, h3⟩ := ih1
    obtain ⟨g1, g2, g3⟩ := ih2 (by omega) h2
    refine ⟨g1, g2, ?_⟩
    rw [h3, ← g3, print_of_le h1 (Nat.le_succ_of_le h1)]
  | stop _ => exact fun hacc hcan => ⟨hacc, hcan, rfl⟩
  | @step k acc _ op _ r _ _ _ ho _ _ ih1 ih2 =>
    intro hacc hcan
    obtain ⟨hlev, hts⟩ := opOf_spec _ _ _ _ ho
    have hpos := level_pos op
    obtain ⟨h1, h2, h3⟩ := ih1
    have hcan' : Canon (.bin op acc r) := ⟨hcan, h2, by omega, by omega⟩
    have hl' : lvl (.bin op acc r) ≤ k := by simp [lvl, hlev]
    obtain ⟨g1, g2, g3⟩ := ih2 hl' hcan'
    refine ⟨g1, g2, ?_⟩
    rw [← g3, hts, h3]
    subst hlev
    simp [print, List.append_assoc]

end Run

theorem Lvl.run {k ts e r} (d : Lvl k ts e r) : ∀ f, tLvl f k ts ≠ .oof → tLvl f k ts = .ok e r := Run.run d
theorem Lvl.spec {k ts e r} (d : Lvl k ts e r) : lvl e ≤ k ∧ Canon e ∧ ts = print k e ++ r := Run.spec d
theorem Loop.spec {k acc ts e r} (d : Loop k acc ts e r) : lvl acc ≤ k → Canon acc →
    lvl e ≤ k ∧ Canon e ∧ print k acc ++ ts = print k e ++ r := Run.spec d

theorem toks_pos (op : Op) : 0 < op.toks.length := by cases op <;> simp [Op.toks]

theorem print_pos (k : Nat) (e : Expr) : 0 < (print k e).length := by
  cases e with
  | lit v u => cases u <;> simp [print]
  | defined x p => cases p <;> simp [print]
  | bin op l r =>
    have := toks_pos op
    simp only [print]; split <;> simp <;> omega
  | _ => simp [print]

/-- a successful parse consumes at least one token: the printing of the tree it returns -/
theorem tconsumes {f k ts e r} (h : tLvl f k ts = .ok e r) : r.length < ts.length := by
  have hp := print_pos k e
  rw [((sound f).1 k ts e r h).spec.2.2, List.length_append]
  omega

theorem opOf_shorter {k ts op rest} (h : opOf k ts = some (op, rest)) : rest.length < ts.length := by
  rw [(opOf_spec k ts op rest h).2, List.length_append]
  have := toks_pos op
  omega

theorem tenough : ∀ f,
    (∀ k ts, k ≤ 4 → 6 * ts.length + k + 2 ≤ f → tLvl f k ts ≠ .oof) ∧
    (∀ k acc ts, k ≤ 4 → 6 * ts.length + 1 ≤ f → tLoop f k acc ts ≠ .oof) := by
  intro f
  induction f with
  | zero =>
    constructor
    · intro k ts _ h; omega
    · intro k acc ts _ h; omega
  | succ f ih =>
    obtain ⟨ih1, ih2⟩ := ih
    constructor
    · intro k ts hk hf
      cases k with
      | zero =>
        cases ts with
        | nil => rw [tLvl_p2_nil]; simp
        | cons t rest =>
          rw [tLvl_p2_cons]
          simp only [List.length_cons] at hf
          by_cases ht : t = notTok
          · simp only [ht, if_true]
            have := ih1 0 rest (by omega) (by omega)
            cases hr : tLvl f 0 rest with
            | oof => exact absurd hr this
            | err => simp
            | ok v' r' => simp
          · simp only [ht, if_false]
            cases hl : leafKind t with
            | value v' => cases leafExpr t <;> simp
            | fail => simp
            | paren =>
              simp only []
              have hn := numLevels_eq
              have := ih1 numLevels rest (by omega) (by omega)
              cases hr : tLvl f numLevels rest with
              | oof => exact absurd hr this
              | err => simp
              | ok v' r' =>
                cases r' with
                | nil => simp
                | cons c r'' => by_cases hc : c = closeTok <;> simp [hc]
      | succ k =>
        rw [tLvl_bin]
        have h1 := ih1 k ts (by omega) (by omega)
        cases hr : tLvl f k ts with
        | oof => exact absurd hr h1
        | err => simp
        | ok l rest =>
          simp only []
          have := tconsumes hr
          exact ih2 (k + 1) l rest hk (by omega)
    · intro k acc ts hk hf
      rw [tLoop_succ]
      cases ho : opOf k ts with
      | none => simp
      | some p =>
        obtain ⟨op, rest⟩ := p
        simp only []
        have h0 := opOf_shorter ho
        have h1 := ih1 (k - 1) rest (by omega) (by omega)
        cases hr : tLvl f (k - 1) rest with
        | oof => exact absurd hr h1
        | err => simp
        | ok x rest' =>
          simp only []
          have := tconsumes hr
          exact ih2 k _ rest' hk (by omega)

theorem fuelFor_eq (ts : List CTok) : fuelFor ts = 6 * ts.length + 4 + 2 := by simp [fuelFor, numLevels_eq]

theorem tLvl_fuel_enough (ts : List CTok) : tLvl (fuelFor ts) numLevels ts ≠ .oof := by
  rw [fuelFor_eq, numLevels_eq]
  exact (tenough _).1 4 ts (Nat.le_refl _) (Nat.le_refl _)

def parseTree (ts : List CTok) : Option Expr :=
  match tLvl (fuelFor ts) numLevels ts with
  | .ok e [] => some e
  | _ => none

theorem parseTree_eq_some (ts : List CTok) (e : Expr) :
    parseTree ts = some e ↔ tLvl (fuelFor ts) numLevels ts = .ok e [] := by
  unfold parseTree
  cases tLvl (fuelFor ts) numLevels ts with
  | ok e' r => cases r <;> simp
  | _ => simp

theorem parseCond_parseTree (ts : List CTok) :
    parseCond ts = (parseTree ts).map (fun e => ev e != 0) := by
  unfold parseCond parseTree
  rw [(sim _).1]
  cases h : tLvl (fuelFor ts) numLevels ts with
  | ok e r =>
    cases r with
    | nil => exact congrArg some (truthy_eq _)
    | cons _ _ => rfl
  | _ => rfl

theorem parseTree_spec (ts : List CTok) (e : Expr) (h : parseTree ts = some e) :
    Canon e ∧ print 4 e = ts := by
  obtain ⟨_, h2, h3⟩ := ((sound _).1 _ _ _ _ ((parseTree_eq_some ts e).1 h)).spec
  rw [numLevels_eq] at h3
  exact ⟨h2, by simpa using h3.symm⟩

def TStops (k : Nat) (ts : List CTok) : Prop := ∀ j, j < k → opOf j ts = none

theorem TStops.mono {k j ts} (h : TStops k ts) (hj : j ≤ k) : TStops j ts :=
  fun i hi => h i (Nat.lt_of_lt_of_le hi hj)

theorem lvl_le4 (e : Expr) : lvl e ≤ 4 := by cases e <;> simp [lvl, level_le]

theorem traise {j ts v rest} (hp : Lvl j ts v rest) :
    ∀ d v' r', TStops (j + d + 1) rest → Loop (j + d + 1) v rest v' r' → Lvl (j + d + 1) ts v' r' := by
  intro d
  induction d with
  | zero => intro v' r' _ hl; exact .bin hp hl
  | succ d ih =>
    intro v' r' hno hl
    exact .bin (ih v rest (hno.mono (by omega)) (.stop (hno _ (by omega)))) hl

/-- level 0 has no operators: its loop returns the accumulator -/
theorem Loop.zero {acc ts e r} (d : Loop 0 acc ts e r) : e = acc ∧ r = ts := by
  cases d with
  | stop _ => exact ⟨rfl, rfl⟩
  | step ho _ _ => cases ho

theorem tfrom0 {ts v rest} (hp0 : Lvl 0 ts v rest) (k : Nat) (v' : Expr) (r' : List CTok)
    (hno : TStops k rest) (hl : Loop k v rest v' r') : Lvl k ts v' r' := by
  cases k with
  | zero => obtain ⟨rfl, rfl⟩ := hl.zero; exact hp0
  | succ k =>
    have := traise hp0 k v' r' (by simpa using hno) (by simpa using hl)
    simpa using this

/-- the invariant of the round trip, in continuation style: if the loop of level `k` takes `e` and the rest of the
    input to `v'`, then level `k` takes the printing of `e` followed by that rest to `v'` -/
def TRT (e : Expr) : Prop :=
  ∀ k rest v' r', lvl e ≤ k → TStops k rest → Loop k e rest v' r' → Lvl k (print k e ++ rest) v' r'

theorem tbin_body (op : Op) (l r : Expr) (hl : TRT l) (hr : TRT r)
    (hll : lvl l ≤ op.level) (hlr : lvl r < op.level) :
    ∀ k rest v' r', op.level ≤ k → TStops k rest → Loop k (.bin op l r) rest v' r' →
      Lvl k (print op.level l ++ (op.toks ++ (print (op.level - 1) r ++ rest))) v' r' := by
  intro k rest v' r' hpk hno hloops
  have hp1 := level_pos op
  have hR : Lvl (op.level - 1) (print (op.level - 1) r ++ rest) r rest :=
    hr (op.level - 1) rest r rest (by omega) (hno.mono (by omega)) (.stop (hno _ (by omega)))
  have hnoL : TStops op.level (op.toks ++ (print (op.level - 1) r ++ rest)) :=
    fun j hj => opOf_other op j (by omega) _
  have hL : ∀ X Y, Loop op.level (.bin op l r) rest X Y →
      Lvl op.level (print op.level l ++ (op.toks ++ (print (op.level - 1) r ++ rest))) X Y :=
    fun X Y hXY => hl op.level _ X Y hll hnoL (.step (opOf_own op _ (print_head _ _ _)) hR hXY)
  rcases Nat.lt_or_ge op.level k with hlt | hge
  · have hP := hL _ _ (.stop (hno _ hlt))
    obtain ⟨d, hd⟩ : ∃ d, k = op.level + d + 1 := ⟨k - op.level - 1, by omega⟩
    subst hd
    exact traise hP d v' r' hno hloops
  · have : k = op.level := by omega
    subst this
    exact hL v' r' hloops

theorem tree_roundtrip_gen : ∀ e, Canon e → TRT e := by
  intro e
  induction e with
  | lit v u =>
    intro _ k rest v' r' _ hno hl
    cases u
    · exact tfrom0 (.leaf (t := .LiteralInt v) (v := v) rfl rfl) k v' r' hno hl
    · exact tfrom0 (.leaf (t := .LiteralIntUnsigned32 v) (v := v) rfl rfl) k v' r' hno hl
  | tru =>
    intro _ k rest v' r' _ hno hl
    exact tfrom0 (.leaf (t := .True) (v := 1) rfl rfl) k v' r' hno hl
  | fls =>
    intro _ k rest v' r' _ hno hl
    exact tfrom0 (.leaf (t := .False) (v := 0) rfl rfl) k v' r' hno hl
  | name x =>
    intro _ k rest v' r' _ hno hl
    exact tfrom0 (.leaf (t := .Id x) (v := 0) rfl rfl) k v' r' hno hl
  | defined x p => intro hc; exact absurd hc (by simp [Canon])
  | not e ih =>
    intro hc k rest v' r' _ hno hl
    obtain ⟨hce, hl0⟩ := hc
    have he : Lvl 0 (print 0 e ++ rest) e rest :=
      ih hce 0 rest e rest (by omega) (fun j hj => by omega) (.stop rfl)
    exact tfrom0 (.not he) k v' r' hno hl
  | paren e ih =>
    intro hc k rest v' r' _ hno hl
    have he : Lvl numLevels (print 4 e ++ (closeTok :: rest)) e (closeTok :: rest) :=
      ih hc 4 _ e _ (lvl_le4 e) (fun j _ => opOf_rparen j rest) (.stop (opOf_rparen 4 rest))
    have hp0 : Lvl 0 (print 0 (.paren e) ++ rest) (.paren e) rest := by
      have := Run.paren (t := .LeftParen) rfl he
      simpa [print, closeTok] using this
    exact tfrom0 hp0 k v' r' hno hl
  | bin op l r ihl ihr =>
    intro hc k rest v' r' hlk hno hl
    obtain ⟨hcl, hcr, hll, hlr⟩ := hc
    have := tbin_body op l r (ihl hcl) (ihr hcr) hll hlr k rest v' r' hlk hno hl
    simpa [print, show op.level ≤ k from hlk, List.append_assoc] using this

/-- **Tree round trip**: printing a canonical tree and parsing the tokens returns that very tree. -/
theorem parseTree_print (e : Expr) (hc : Canon e) : parseTree (print 4 e) = some e := by
  have := tree_roundtrip_gen e hc 4 [] e [] (lvl_le4 e) (fun j _ => opOf_nil j) (.stop (opOf_nil 4))
  rw [List.append_nil] at this
  rw [parseTree_eq_some]
  exact this.run _ (tLvl_fuel_enough _)

/-- a canonical tree is determined by its printing: both trees are the parse of the same tokens -/
theorem print_inj {e₁ e₂ : Expr} (h1 : Canon e₁) (h2 : Canon e₂) (hp : print 4 e₁ = print 4 e₂) : e₁ = e₂ :=
  Option.some.inj ((parseTree_print e₁ h1).symm.trans (hp ▸ parseTree_print e₂ h2))

/-- make the parentheses `print` would add explicit -/
def wrap (k : Nat) (e : Expr) : Expr := if lvl e ≤ k then e else .paren e

def canon : Expr → Expr
  | .not e => .not (wrap 0 (canon e))
  | .paren e => .paren (canon e)
  | .bin op l r => .bin op (wrap op.level (canon l)) (wrap (op.level - 1) (canon r))
  | e => e

theorem lvl_wrap (k : Nat) (e : Expr) : lvl (wrap k e) ≤ k := by
  unfold wrap; split
  · assumption
  · simp [lvl]

theorem print_wrap (k : Nat) (e : Expr) : print k (wrap k e) = print k e := by
  unfold wrap
  split
  · rfl
  · rename_i h
    cases e with
    | bin op l r =>
      simp only [lvl] at h
      have h4 := level_le op
      simp [print, h, h4]
    | _ => simp [lvl] at h

theorem canon_wrap {k : Nat} {e : Expr} (h : Canon e) : Canon (wrap k e) := by
  unfold wrap; split
  · exact h
  · exact h

theorem ev_wrap (k : Nat) (e : Expr) : ev (wrap k e) = ev e := by
  unfold wrap; split <;> simp [ev, evalU64]

theorem print_canon : ∀ (e : Expr) (k : Nat), print k (canon e) = print k e := by
  intro e
  induction e with
  | not e ih => intro k; simp [canon, print, print_wrap, ih]
  | paren e ih => intro k; simp [canon, print, ih]
  | bin op l r ihl ihr => intro k; simp [canon, print, print_wrap, ihl, ihr]
  | _ => intro k; rfl

theorem canon_canon : ∀ e, Closed e → Canon (canon e) := by
  intro e
  induction e with
  | defined x p => intro h; exact absurd h (by simp [Closed])
  | not e ih =>
    intro h
    have := lvl_wrap 0 (canon e)
    exact ⟨canon_wrap (ih h), by omega⟩
  | paren e ih => intro h; exact ih h
  | bin op l r ihl ihr =>
    intro h
    have h1 := lvl_wrap op.level (canon l)
    have h2 := lvl_wrap (op.level - 1) (canon r)
    have := level_pos op
    exact ⟨canon_wrap (ihl h.1), canon_wrap (ihr h.2), h1, by omega⟩
  | _ => intro _; trivial

theorem ev_canon : ∀ e, ev (canon e) = ev e := by
  intro e
  induction e with
  | not e ih => simp only [canon, ev, evalU64] at ih ⊢; rw [← ih]; have := ev_wrap 0 (canon e); simp only [ev] at this; rw [this]
  | paren e ih => simp only [canon, ev, evalU64] at ih ⊢; exact ih
  | bin op l r ihl ihr =>
    have h1 := ev_wrap op.level (canon l)
    have h2 := ev_wrap (op.level - 1) (canon r)
    simp only [canon, ev, evalU64] at ihl ihr h1 h2 ⊢
    rw [h1, h2, ihl, ihr]
  | _ => rfl

theorem gram_upTo {j k : Nat} {ts : List CTok} (h : Gram j ts) (hjk : j ≤ k) : Gram k ts := by
  induction hjk with
  | refl => exact h
  | step _ ih => exact .up ih

theorem gram_of_canon : ∀ e, Canon e → ∀ k, lvl e ≤ k → Gram k (print k e) := by
  intro e
  induction e with
  | lit v u => intro _ k _; cases u <;> exact gram_upTo (by first | exact .int v | exact .uint v) (Nat.zero_le k)
  | tru => intro _ k _; exact gram_upTo .tru (Nat.zero_le k)
  | fls => intro _ k _; exact gram_upTo .fls (Nat.zero_le k)
  | name x => intro _ k _; exact gram_upTo (.name x) (Nat.zero_le k)
  | defined x p => intro h; exact absurd h (by simp [Canon])
  | not e ih =>
    intro h k _
    have := ih h.1 0 (Nat.le_of_eq h.2)
    exact gram_upTo (.not this) (Nat.zero_le k)
  | paren e ih =>
    intro h k _
    have := ih h 4 (lvl_le4 e)
    have g : Gram 0 (.LeftParen :: print 4 e ++ [.RightParen]) := .paren this
    exact gram_upTo (by simpa [print] using g) (Nat.zero_le k)
  | bin op l r ihl ihr =>
    intro h k hk
    obtain ⟨hcl, hcr, hll, hlr⟩ := h
    simp only [lvl] at hk
    have g := Gram.bin op (ihl hcl op.level hll) (ihr hcr (op.level - 1) (by omega))
    have : print k (.bin op l r) = print op.level l ++ op.toks ++ print (op.level - 1) r := by
      simp [print, hk]
    rw [this]
    exact gram_upTo g hk

theorem canon_of_gram {k : Nat} {ts : List CTok} (h : Gram k ts) :
    ∃ e, lvl e ≤ k ∧ Canon e ∧ print k e = ts := by
  induction h with
  | int v => exact ⟨.lit v false, by simp [lvl], trivial, rfl⟩
  | uint v => exact ⟨.lit v true, by simp [lvl], trivial, rfl⟩
  | tru => exact ⟨.tru, by simp [lvl], trivial, rfl⟩
  | fls => exact ⟨.fls, by simp [lvl], trivial, rfl⟩
  | name x => exact ⟨.name x, by simp [lvl], trivial, rfl⟩
  | not _ ih =>
    obtain ⟨e, h1, h2, h3⟩ := ih
    exact ⟨.not e, by simp [lvl], ⟨h2, by omega⟩, by simp [print, h3]⟩
  | paren _ ih =>
    obtain ⟨e, _, h2, h3⟩ := ih
    exact ⟨.paren e, by simp [lvl], h2, by simp [print, h3]⟩
  | up _ ih =>
    obtain ⟨e, h1, h2, h3⟩ := ih
    exact ⟨e, by omega, h2, by rw [← h3]; exact print_of_le (by omega) h1⟩
  | bin op _ _ ihl ihr =>
    obtain ⟨l, l1, l2, l3⟩ := ihl
    obtain ⟨r, r1, r2, r3⟩ := ihr
    have := level_pos op
    refine ⟨.bin op l r, by simp [lvl], ⟨l2, r2, l1, by omega⟩, ?_⟩
    simp [print, l3, r3]

/-- a token sequence is a well-formed condition iff the parser accepts it -/
theorem gram_iff_accepts (ts : List CTok) : Gram 4 ts ↔ ∃ e, parseTree ts = some e := by
  constructor
  · intro h
    obtain ⟨e, _, h2, h3⟩ := canon_of_gram h
    exact ⟨e, by rw [← h3]; exact parseTree_print e h2⟩
  · intro ⟨e, h⟩
    obtain ⟨h1, h2⟩ := parseTree_spec ts e h
    rw [← h2]
    exact gram_of_canon e h1 4 (lvl_le4 e)

theorem not_gram_of_none (ts : List CTok) (h : parseTree ts = none) : ¬ Gram 4 ts := by
  rw [gram_iff_accepts]; rintro ⟨e, he⟩; rw [h] at he; cases he

theorem parseCond_print (e : Expr) (hc : Closed e) : parseCond (print 4 e) = some (ev e != 0) := by
  rw [parseCond_parseTree, ← print_canon e 4, parseTree_print _ (canon_canon e hc), Option.map_some, ev_canon]

end RsslVerif.Lemmas.CondParse

namespace RsslVerif.Lemmas.CondExpr
open RsslVerif.Gen.CondTables RsslVerif.Model.CondExpr RsslVerif.Spec.CPre RsslVerif.Lemmas.CondParse

theorem consumes : ∀ f,
    (∀ k ts v r, pLvl f k ts = .ok v r → r.length < ts.length) ∧
    (∀ k acc ts v r, pLoop f k acc ts = .ok v r → r.length ≤ ts.length) := by
  refine fun f => ⟨fun k ts v r h => ?_, fun k acc ts v r h => ?_⟩
  · rw [(sim f).1] at h
    cases ht : tLvl f k ts with
    | ok e r' => rw [ht] at h; cases h; exact tconsumes ht
    | _ => rw [ht] at h; cases h
  · -- the accumulator is the value of a literal, and the loop extends the printing of that literal
    rw [show acc = ev (.lit acc false) from rfl, (sim f).2] at h
    cases ht : tLoop f k (.lit acc false) ts with
    | ok e r' =>
      rw [ht] at h; cases h
      have h3 := congrArg List.length (((sound f).2 k _ ts e _ ht).spec (Nat.zero_le k) trivial).2.2
      have hp := print_pos k e
      simp only [print, List.length_append, List.length_cons, List.length_nil] at h3
      omega
    | _ => rw [ht] at h; cases h

theorem enough : ∀ f,
    (∀ k ts, k ≤ 4 → 6 * ts.length + k + 2 ≤ f → pLvl f k ts ≠ .oof) ∧
    (∀ k acc ts, k ≤ 4 → 6 * ts.length + 1 ≤ f → pLoop f k acc ts ≠ .oof) := by
  have hne : ∀ t : TR, t ≠ .oof → t.toPR ≠ .oof := fun t h => by cases t <;> simp_all [TR.toPR]
  refine fun f => ⟨fun k ts hk hf => ?_, fun k acc ts hk hf => ?_⟩
  · rw [(sim f).1]; exact hne _ ((tenough f).1 k ts hk hf)
  · rw [show acc = ev (.lit acc false) from rfl, (sim f).2]; exact hne _ ((tenough f).2 k _ ts hk hf)

/-- **Totality of the model parser**: at the fuel `parseCond` uses, "out of fuel" is impossible. -/
theorem pLvl_fuel_enough (ts : List CTok) : pLvl (fuelFor ts) numLevels ts ≠ .oof := by
  rw [fuelFor_eq, numLevels_eq]
  exact (enough _).1 4 ts (Nat.le_refl _) (Nat.le_refl _)

theorem roundtrip_top (e : Expr) (hc : Closed e) : ∃ f, pLvl f 4 (print 4 e) = .ok (ev e) [] := by
  have h := parseTree_print (canon e) (canon_canon e hc)
  rw [print_canon, parseTree_eq_some, numLevels_eq] at h
  exact ⟨_, by rw [(sim _).1, h, TR.toPR, ev_canon]⟩

end RsslVerif.Lemmas.CondExpr
