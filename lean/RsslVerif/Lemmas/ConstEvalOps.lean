import RsslVerif.Lemmas.ConstEvalArith
import RsslVerif.Lemmas.ConstEvalSimp
import RsslVerif.Model.ConstEvalWf
/-!
Each binary arm of `evaluate_operator` (as tabulated in `Gen.EvalTable`) computes the value the specification
defines, and its result is again in range.
-/
namespace RsslVerif.Lemmas.ConstEval
open RsslVerif.Gen.EvalTable RsslVerif.Model.ConstEval
open RsslVerif.Spec.HlslConst (bv sInt uInt fitsLit lit?)
namespace S
export RsslVerif.Spec.HlslConst (unop binop litArith sArith uArith bitArith relOf valueOrd valueEq sameType castScalar cast strip enumId? applyOp opValue eval evalArgs sizeOfTy sizeOfScalar isComparison)
end S

theorem okInt_ok {rk : Kind} {r : Except Err Int} {c : Constant} :
    okInt rk r = .ok c ↔ ∃ z, r = .ok z ∧ mkInt rk z = some c := by
  unfold okInt
  cases r with
  | error e => simp
  | ok z => cases h : mkInt rk z <;> simp [h]

@[c13] theorem okInt_error (rk : Kind) (e : Err) : okInt rk (.error e) = .error e := rfl

theorem deliver_checked {t : IntTy} {a : Arith} {z z' : Int} :
    deliver t .checked a z = .ok z' ↔ t.inRange z = true ∧ z' = z := by
  unfold deliver
  by_cases h : t.inRange z = true <;> simp [h, eq_comm]

theorem deliver_wrapping {t : IntTy} {a : Arith} {z : Int} : deliver t .wrapping a z = .ok (t.wrap z) := rfl

theorem int32_wrap (z : Int) : Constant.int32 (i32.wrap z) = sInt (bv z) := by rw [wrap_i32]; rfl
theorem uint32_wrap (z : Int) : Constant.uint32 (u32.wrap z) = uInt (bv z) := by rw [wrap_u32]; rfl
@[simp, c13] theorem plain_sInt (b : BitVec 32) : plain (sInt b) = true := by simp [plain, wf, sInt, inRange_sInt, Constant.kind]
@[simp, c13] theorem plain_uInt (b : BitVec 32) : plain (uInt b) = true := by simp [plain, wf, uInt, inRange_uInt, Constant.kind]
@[simp, c13] theorem plain_intLit (v : Int) : plain (.intLit v) = i128.inRange v := by simp [plain, wf, Constant.kind]
@[simp, c13] theorem plain_int32 (v : Int) : plain (.int32 v) = i32.inRange v := by simp [plain, wf, Constant.kind]
@[simp, c13] theorem plain_uint32 (v : Int) : plain (.uint32 v) = u32.inRange v := by simp [plain, wf, Constant.kind]
@[simp, c13] theorem plain_bool (v : Bool) : plain (.bool v) = true := by simp [plain, wf, Constant.kind]
@[simp, c13] theorem plain_enum (i : Nat) (c : Constant) : plain (.enum i c) = false := by simp [plain, Constant.kind]

attribute [c13] applyOp opTable lookupArm applyRule Constant.kind intTyOf Constant.intVal? evalArith
  mkInt evalDiv evalRem evalShl evalShr zeroDivisor remOverflow shiftAmount okInt_ok deliver_checked deliver_wrapping
  S.binop S.unop S.relOf S.litArith S.sArith S.uArith S.bitArith lit? fitsLit_iff
  int32_wrap uint32_wrap bv_add bv_sub bv_mul bv_neg bv_not

theorem kind_bool {a : Constant} (h : a.kind = .Bool) : ∃ x, a = .bool x := by
  cases a <;> first | exact ⟨_, rfl⟩ | cases h
theorem kind_intLit {a : Constant} (h : a.kind = .IntLiteral) : ∃ x, a = .intLit x := by
  cases a <;> first | exact ⟨_, rfl⟩ | cases h
theorem kind_int32 {a : Constant} (h : a.kind = .Int32) : ∃ x, a = .int32 x := by
  cases a <;> first | exact ⟨_, rfl⟩ | cases h
theorem kind_uint32 {a : Constant} (h : a.kind = .UInt32) : ∃ x, a = .uint32 x := by
  cases a <;> first | exact ⟨_, rfl⟩ | cases h

theorem lookupArm_mem {ρ : Type} {arms : List (Kind × Kind × ρ)} {k rk : Kind} {r : ρ}
    (h : lookupArm arms k = some (rk, r)) : (k, rk, r) ∈ arms := by
  revert h
  fun_induction lookupArm arms k <;> intro h
  · cases h
  · cases h; exact List.mem_cons_self
  · rename_i ih; exact List.mem_cons_of_mem _ (ih h)

/-- a binary operator whose catch-all arm is `Err(())` returns a value only through the arm listed for the common kind
of its two operands -/
theorem applyOp_binary_ok {o : Op} {e : OpEntry} {a b r : Constant} (ho : opTable o = some e)
    (hs : e.shape = .binary) (hd : e.dflt = .notConst) (h : applyOp o [a, b] = .ok r) :
    ∃ rk rule, b.kind = a.kind ∧ lookupArm e.arms a.kind = some (rk, rule) ∧ applyRule rule rk a (some b) = .ok r := by
  simp only [applyOp, ho, hs, hd] at h
  split at h
  · rename_i rk rule hl
    split at hl
    · rename_i hk; exact ⟨rk, rule, hk.symm, hl, h⟩
    · cases hl
  · cases h

/-- the operators with an arm for untyped literals, `int` and `uint` each (arithmetic, shifts, bit operators) -/
theorem intArms {o : Op} {r1 r2 r3 : Rule} {a b r : Constant}
    (ho : opTable o = some ⟨.binary, [(.IntLiteral, .IntLiteral, r1), (.Int32, .Int32, r2), (.UInt32, .UInt32, r3)], .notConst⟩)
    (h : applyOp o [a, b] = .ok r) :
    (∃ x y, a = .intLit x ∧ b = .intLit y ∧ applyRule r1 .IntLiteral (.intLit x) (some (.intLit y)) = .ok r) ∨
    (∃ x y, a = .int32 x ∧ b = .int32 y ∧ applyRule r2 .Int32 (.int32 x) (some (.int32 y)) = .ok r) ∨
    (∃ x y, a = .uint32 x ∧ b = .uint32 y ∧ applyRule r3 .UInt32 (.uint32 x) (some (.uint32 y)) = .ok r) := by
  obtain ⟨rk, rule, hk, hl, h⟩ := applyOp_binary_ok ho rfl rfl h
  have hm := lookupArm_mem hl
  simp only [List.mem_cons, Prod.mk.injEq, List.not_mem_nil, or_false] at hm
  rcases hm with ⟨ha, rfl, rfl⟩ | ⟨ha, rfl, rfl⟩ | ⟨ha, rfl, rfl⟩
  · obtain ⟨x, rfl⟩ := kind_intLit ha; obtain ⟨y, rfl⟩ := kind_intLit hk
    exact .inl ⟨x, y, rfl, rfl, h⟩
  · obtain ⟨x, rfl⟩ := kind_int32 ha; obtain ⟨y, rfl⟩ := kind_int32 hk
    exact .inr (.inl ⟨x, y, rfl, rfl, h⟩)
  · obtain ⟨x, rfl⟩ := kind_uint32 ha; obtain ⟨y, rfl⟩ := kind_uint32 hk
    exact .inr (.inr ⟨x, y, rfl, rfl, h⟩)

/-- a `checked_*` literal arm returns the exact result `z`, and only when it fits -/
theorem lit_checked {ar : Arith} {x y z : Int} {r : Constant}
    (h : okInt .IntLiteral (evalArith i128 .checked ar x y) = .ok r)
    (hz : evalArith i128 .checked ar x y = deliver i128 .checked ar z) : r = .intLit z ∧ i128.inRange z = true := by
  rw [hz] at h
  obtain ⟨z', hz', hr⟩ := okInt_ok.1 h
  obtain ⟨hin, rfl⟩ := deliver_checked.1 hz'
  cases hr
  exact ⟨rfl, hin⟩

theorem lit?_of_inRange {z : Int} (h : i128.inRange z = true) : lit? z = some (.intLit z) := by
  simp [lit?, fitsLit_iff, h]

theorem binop_ring {o : Op} (ho : o = .Add ∨ o = .Subtract ∨ o = .Multiply) {a b r : Constant}
    (h : applyOp o [a, b] = .ok r) : S.binop o a b = some r ∧ plain r = true := by
  rcases ho with rfl | rfl | rfl <;>
    rcases intArms rfl h with ⟨x, y, rfl, rfl, h⟩ | ⟨x, y, rfl, rfl, h⟩ | ⟨x, y, rfl, rfl, h⟩
  -- literals: `checked_*`; `int`, `uint`: `wrapping_*`
  all_goals first
    | (obtain ⟨rfl, hin⟩ := lit_checked h rfl; exact ⟨lit?_of_inRange hin, by simpa using hin⟩)
    | (cases h; exact ⟨by simp only [int32_wrap, bv_add, bv_sub, bv_mul]; rfl, by rw [int32_wrap]; exact plain_sInt _⟩)
    | (cases h; exact ⟨by simp only [uint32_wrap, bv_add, bv_sub, bv_mul]; rfl, by rw [uint32_wrap]; exact plain_uInt _⟩)

theorem binop_Divide {a b r : Constant} (ha : plain a = true) (hb : plain b = true)
    (h : applyOp .Divide [a, b] = .ok r) : S.binop .Divide a b = some r ∧ plain r = true := by
  rcases intArms rfl h with ⟨x, y, rfl, rfl, h⟩ | ⟨x, y, rfl, rfl, h⟩ | ⟨x, y, rfl, rfl, h⟩ <;>
    simp [c13] at h ha hb ⊢
  · by_cases hz : y = 0 <;> simp [c13, hz] at h ⊢
    obtain ⟨z, ⟨h1, rfl⟩, rfl⟩ := h; simp [c13, h1]
  · by_cases hz : y = 0 <;> simp [c13, hz] at h ⊢
    subst h; simp [c13, sdiv_i32 ha hb, bv_eq_zero_i32 hb, hz]
  · by_cases hz : y = 0 <;> simp [c13, hz] at h ⊢
    obtain ⟨z, ⟨h1, rfl⟩, rfl⟩ := h
    simp [c13, udiv_u32 ha hb, bv_eq_zero_u32 hb, hz]

/-- `z` lies between 0 and `x`, on either side (where `x.tmod y` and `x / 2 ^ n` land) -/
def Between (x z : Int) : Prop := (0 ≤ z ∧ z ≤ x) ∨ (x ≤ z ∧ z ≤ 0)

/-- the range of a Rust integer type is an interval around 0 -/
theorem inRange_of_between {t : IntTy} {x z : Int} (hx : t.inRange x = true) (h : Between x z) : t.inRange z = true := by
  have := lo_nonpos t
  have := hi_nonneg t
  simp only [IntTy.inRange, Bool.and_eq_true, decide_eq_true_eq] at hx ⊢
  unfold Between at h
  omega

theorem tmod_between (x y : Int) : Between x (x.tmod y) := by
  have h := Int.natAbs_tmod x y
  have hle : x.natAbs % y.natAbs ≤ x.natAbs := Nat.mod_le _ _
  by_cases hx : 0 ≤ x
  · have := Int.tmod_nonneg y hx; exact .inl (by omega)
  · have h2 : 0 ≤ (-x).tmod y := Int.tmod_nonneg y (by omega)
    rw [Int.neg_tmod] at h2
    exact .inr (by omega)

theorem ediv_pow_between (x : Int) (n : Nat) : Between x (x / 2 ^ n) := by
  have hpos : (0 : Int) < 2 ^ n := Int.pow_pos (by decide)
  by_cases hx : 0 ≤ x
  · exact .inl ⟨Int.ediv_nonneg hx (Int.le_of_lt hpos), Int.ediv_le_self _ hx⟩
  · have h1 : x * 2 ^ n ≤ x * 1 := Int.mul_le_mul_of_nonpos_left (by omega) hpos
    exact .inr ⟨Int.le_ediv_of_mul_le hpos (by omega), Int.le_of_lt (Int.ediv_neg_of_neg_of_pos (by omega) hpos)⟩

theorem binop_Modulus {a b r : Constant} (ha : plain a = true) (hb : plain b = true)
    (h : applyOp .Modulus [a, b] = .ok r) : S.binop .Modulus a b = some r ∧ plain r = true := by
  rcases intArms rfl h with ⟨x, y, rfl, rfl, h⟩ | ⟨x, y, rfl, rfl, h⟩ | ⟨x, y, rfl, rfl, h⟩ <;>
    simp [c13] at h ha hb ⊢
  · by_cases hz : y = 0 <;> simp [c13, hz] at h ⊢
    split at h
    · simp [c13] at h
    · simp [c13] at h; subst h; simp [c13, inRange_of_between ha (tmod_between x y)]
  · by_cases hz : y = 0 <;> simp [c13, hz] at h ⊢
    split at h
    · -- `INT_MIN % -1`: `wrapping_rem` gives 0, and so does `srem`
      rename_i hov
      simp [c13] at h; subst h
      obtain ⟨_, rfl, rfl⟩ := hov
      refine ⟨⟨_, ⟨?_, rfl⟩, ?_⟩, ?_⟩
      · rw [bv_eq_zero_i32 hb]; omega
      · rw [← srem_i32 ha hb]; simp [c13]
      · simp [c13, IntTy.inRange, IntTy.lo, IntTy.hi, i32]
    · simp [c13] at h; subst h; simp [c13, srem_i32 ha hb, bv_eq_zero_i32 hb, hz]
  · by_cases hz : y = 0 <;> simp [c13, hz] at h ⊢
    split at h
    · rename_i hov; simp [c13, u32] at hov
    · simp [c13] at h; subst h; simp [c13, umod_u32 ha hb, bv_eq_zero_u32 hb, hz]

@[c13] theorem bv_mul_pow (x : Int) (n : Nat) : bv x * bv ((2 : Int) ^ n) = bv x <<< n := by
  rw [show (2 : Int) ^ n = ((2 ^ n : Nat) : Int) by simp, bv_pow, BitVec.shiftLeft_eq_mul_twoPow]
@[c13] theorem shamt_i32 (y : Int) : (y % ((i32.bits : Nat) : Int)).toNat = (bv y).toNat % 32 := shamt y
@[c13] theorem shamt_u32 (y : Int) : (y % ((u32.bits : Nat) : Int)).toNat = (bv y).toNat % 32 := shamt y

theorem inRange_wrap_signed (w : Nat) (z : Int) : (IntTy.mk true w).inRange ((IntTy.mk true w).wrap z) = true := by
  rw [wrap_signed]; exact inRange_toInt _

theorem evalShl_checked {t : IntTy} {x y s : Int} :
    evalShl t .checked x y = .ok s ↔ (0 ≤ y ∧ y < (t.bits : Int)) ∧ s = t.wrap (x * ((2 ^ y.toNat : Nat) : Int)) := by
  by_cases hy : 0 ≤ y ∧ y < (t.bits : Int) <;> simp [evalShl, shiftAmount, hy, eq_comm]

theorem evalShr_checked {t : IntTy} {x y s : Int} :
    evalShr t .checked x y = .ok s ↔ (0 ≤ y ∧ y < (t.bits : Int)) ∧ s = x / ((2 ^ y.toNat : Nat) : Int) := by
  by_cases hy : 0 ≤ y ∧ y < (t.bits : Int) <;> simp [evalShr, shiftAmount, hy, eq_comm]

theorem evalShr_plain {t : IntTy} {x y : Int} (hy : 0 ≤ y ∧ y < (t.bits : Int)) :
    evalShr t .plain x y = .ok (x / ((2 ^ y.toNat : Nat) : Int)) := by
  simp [evalShr, shiftAmount, hy]

/-- `s ≡ x·2^n (mod 2^128)` and `⌊s / 2^n⌋ = x` with `n < 128` force `s = x·2^n`: the difference is the remainder of
`s` by `2^n`, a multiple of `2^128` below `2^127` -/
theorem shl_roundtrip {x s : Int} {n : Nat} (hn : n < 128)
    (hs : s = i128.wrap (x * ((2 ^ n : Nat) : Int))) (hback : s / ((2 ^ n : Nat) : Int) = x) :
    s = x * 2 ^ n := by
  have hpos : (0 : Int) < ((2 ^ n : Nat) : Int) := Int.natCast_pos.2 (Nat.pow_pos (by decide))
  have hle : ((2 ^ n : Nat) : Int) ≤ 2 ^ 127 := by
    exact_mod_cast Nat.pow_le_pow_right (by decide : 0 < 2) (by omega : n ≤ 127)
  obtain ⟨k, hk⟩ : (2 ^ 128 : Int) ∣ s - x * ((2 ^ n : Nat) : Int) := by
    rw [hs]; exact Int.dvd_bmod_sub_self
  have hdm := Int.mul_ediv_add_emod s ((2 ^ n : Nat) : Int)
  have hm0 := Int.emod_nonneg s (Int.ne_of_gt hpos)
  have hm1 := Int.emod_lt_of_pos s hpos
  rw [hback, Int.mul_comm] at hdm
  rw [show (2 : Int) ^ n = ((2 ^ n : Nat) : Int) by simp]
  omega

/-- the literal `<<` arm returns a value only when it is the exact product -/
theorem evalLitShl_exact {x y z : Int} (h : evalLitShl .checked true x y = .ok z) :
    0 ≤ y ∧ z = x * 2 ^ y.toNat ∧ i128.inRange z = true := by
  unfold evalLitShl at h
  split at h
  · simp at h
  simp only [evalArith] at h
  cases hs : evalShl i128 .checked x y with
  | error e => rw [hs] at h; simp at h
  | ok s =>
    rw [hs] at h
    obtain ⟨hy, hsv⟩ := evalShl_checked.mp hs
    simp only [if_true, evalShr_plain hy] at h
    split at h
    · simp at h
    rename_i hback
    simp only [Decidable.not_not] at hback
    simp at h; subst h
    have hn : y.toNat < 128 := by have := hy.2; simp [i128] at this; omega
    refine ⟨hy.1, shl_roundtrip hn hsv hback, ?_⟩
    rw [hsv]; exact inRange_wrap_signed 128 _

theorem evalLitShr_exact {x y z : Int} (h : evalLitShr .checked x y = .ok z) :
    0 ≤ y ∧ z = x / 2 ^ y.toNat := by
  unfold evalLitShr at h
  split at h
  · simp at h
  simp only [evalArith] at h
  obtain ⟨hy, hz⟩ := evalShr_checked.mp h
  refine ⟨hy.1, ?_⟩
  rw [hz]; simp

theorem binop_LeftShift {a b r : Constant} (h : applyOp .LeftShift [a, b] = .ok r) :
    S.binop .LeftShift a b = some r ∧ plain r = true := by
  rcases intArms rfl h with ⟨x, y, rfl, rfl, h⟩ | ⟨x, y, rfl, rfl, h⟩ | ⟨x, y, rfl, rfl, h⟩ <;>
    simp [c13] at h ⊢
  · obtain ⟨z, hz, rfl⟩ := h
    obtain ⟨h0, rfl, hr⟩ := evalLitShl_exact hz
    simp [c13, h0, hr]
  · subst h; simp [c13]
  · subst h; simp [c13]

theorem binop_RightShift {a b r : Constant} (ha : plain a = true)
    (h : applyOp .RightShift [a, b] = .ok r) : S.binop .RightShift a b = some r ∧ plain r = true := by
  rcases intArms rfl h with ⟨x, y, rfl, rfl, h⟩ | ⟨x, y, rfl, rfl, h⟩ | ⟨x, y, rfl, rfl, h⟩ <;>
    simp [c13] at h ha ⊢
  · obtain ⟨z, hz, rfl⟩ := h
    obtain ⟨h0, rfl⟩ := evalLitShr_exact hz
    simp [c13, h0, inRange_of_between ha (ediv_pow_between x _)]
  · subst h; simp [c13, shr_i32 ha]
  · subst h; simp [c13, shr_u32 ha]

theorem bits_lit (f : Nat → Nat → Nat) (g : BitVec 128 → BitVec 128 → BitVec 128)
    (hfg : ∀ a b : BitVec 128, f a.toNat b.toNat = (g a b).toNat) (x y : Int) :
    some (Constant.intLit (g (BitVec.ofInt 128 x) (BitVec.ofInt 128 y)).toInt) = some (.intLit (bitOp i128 f x y)) ∧
      plain (.intLit (bitOp i128 f x y)) = true := by
  rw [show bitOp i128 f x y = _ from bitOp_signed 128 f g hfg x y, plain_intLit]
  exact ⟨rfl, inRange_toInt _⟩
theorem bits_i32 (f : Nat → Nat → Nat) (g : BitVec 32 → BitVec 32 → BitVec 32)
    (hfg : ∀ a b : BitVec 32, f a.toNat b.toNat = (g a b).toNat) (x y : Int) :
    some (sInt (g (bv x) (bv y))) = some (.int32 (bitOp i32 f x y)) ∧ plain (.int32 (bitOp i32 f x y)) = true := by
  rw [show bitOp i32 f x y = _ from bitOp_signed 32 f g hfg x y]
  exact ⟨rfl, plain_sInt _⟩
theorem bits_u32 (f : Nat → Nat → Nat) (g : BitVec 32 → BitVec 32 → BitVec 32)
    (hfg : ∀ a b : BitVec 32, f a.toNat b.toNat = (g a b).toNat) (x y : Int) :
    some (uInt (g (bv x) (bv y))) = some (.uint32 (bitOp u32 f x y)) ∧ plain (.uint32 (bitOp u32 f x y)) = true := by
  have : bitOp u32 f x y = ((g (bv x) (bv y)).toNat : Int) := by
    rw [bitOp, wrap_u32, toBits_eq, toBits_eq]
    change ((bv ((f (bv x).toNat (bv y).toNat : Nat) : Int)).toNat : Int) = _
    rw [hfg, bv_natCast_toNat]
  rw [this]
  exact ⟨rfl, plain_uInt _⟩

theorem binop_bits {o : Op} (ho : o = .BitwiseAnd ∨ o = .BitwiseOr ∨ o = .BitwiseXor) {a b r : Constant}
    (h : applyOp o [a, b] = .ok r) : S.binop o a b = some r ∧ plain r = true := by
  rcases ho with rfl | rfl | rfl <;>
    rcases intArms rfl h with ⟨x, y, rfl, rfl, h⟩ | ⟨x, y, rfl, rfl, h⟩ | ⟨x, y, rfl, rfl, h⟩ <;> cases h <;>
    first
      | exact bits_lit _ _ land_toNat x y | exact bits_lit _ _ lor_toNat x y | exact bits_lit _ _ xor_toNat x y
      | exact bits_i32 _ _ land_toNat x y | exact bits_i32 _ _ lor_toNat x y | exact bits_i32 _ _ xor_toNat x y
      | exact bits_u32 _ _ land_toNat x y | exact bits_u32 _ _ lor_toNat x y | exact bits_u32 _ _ xor_toNat x y

theorem binop_logic {o : Op} (ho : o = .BooleanAnd ∨ o = .BooleanOr) {a b r : Constant}
    (h : applyOp o [a, b] = .ok r) : S.binop o a b = some r ∧ plain r = true := by
  rcases ho with rfl | rfl <;>
  · obtain ⟨rk, rule, hk, hl, h⟩ := applyOp_binary_ok rfl rfl rfl h
    have hm := lookupArm_mem hl
    simp only [List.mem_singleton, Prod.mk.injEq] at hm
    obtain ⟨hb, rfl, rfl⟩ := hm
    obtain ⟨x, rfl⟩ := kind_bool hb
    obtain ⟨y, rfl⟩ := kind_bool hk
    cases h; exact ⟨rfl, rfl⟩

theorem cmpOrd_lt (o : Option Ordering) : cmpOrd .lt o = (o == some .lt) := by
  cases o with | none => rfl | some o => cases o <;> rfl
theorem cmpOrd_le (o : Option Ordering) : cmpOrd .le o = (o == some .lt || o == some .eq) := by
  cases o with | none => rfl | some o => cases o <;> rfl
theorem cmpOrd_gt (o : Option Ordering) : cmpOrd .gt o = (o == some .gt) := by
  cases o with | none => rfl | some o => cases o <;> rfl
theorem cmpOrd_ge (o : Option Ordering) : cmpOrd .ge o = (o == some .gt || o == some .eq) := by
  cases o with | none => rfl | some o => cases o <;> rfl

/-- the model orders constants by the very definition the specification uses -/
theorem ordOf_eq : ordOf = S.valueOrd := rfl

theorem sameType_eq (a b : Constant) :
    S.sameType a b = (a.kind == b.kind && a.kind != .String && a.kind != .Enum) := by
  cases a <;> cases b <;> rfl

theorem sameType_of_kind {a b : Constant} (hk : b.kind = a.kind) (hs : a.kind ≠ .String) (he : a.kind ≠ .Enum) :
    S.sameType a b = true := by
  simp [sameType_eq, hk, hs, he]

/-- the four relational operators: every arm is the comparison `c` with a `bool` result -/
theorem binop_cmp (c : Cmp) {o : Op} {arms : List (Kind × Kind × Rule)} {a b r : Constant}
    (ho : opTable o = some ⟨.binary, arms, .notConst⟩)
    (harms : ∀ x ∈ arms, x.2 = (.Bool, .cmp c) ∧ x.1 ≠ .String ∧ x.1 ≠ .Enum)
    (hspec : ∀ a b, S.binop o a b = if S.sameType a b then some (.bool (cmpOrd c (S.valueOrd a b))) else none)
    (h : applyOp o [a, b] = .ok r) : S.binop o a b = some r ∧ plain r = true := by
  obtain ⟨rk, rule, hk, hl, h⟩ := applyOp_binary_ok ho rfl rfl h
  obtain ⟨hr, hs, he⟩ := harms _ (lookupArm_mem hl)
  cases hr
  cases h
  rw [hspec, sameType_of_kind hk hs he, ordOf_eq]
  exact ⟨rfl, rfl⟩

theorem bool_beq_toNat (a b : Bool) : (a.toNat == b.toNat) = (a == b) := by cases a <;> cases b <;> rfl

theorem constEq_eq_valueEq : ∀ a b : Constant, constEq a b = S.valueEq a b := by
  intro a
  induction a with
  | enum i c ih =>
    intro b
    cases b <;> first | rfl | simp [constEq, S.valueEq, ih]
  | _ =>
    intro b
    cases b <;> first
      | rfl
      | simp [constEq, S.valueEq, S.sameType, S.valueOrd, Std.compare_beq_eq_beq, bool_beq_toNat]

theorem binop_Equality {a b r : Constant} (h : applyOp .Equality [a, b] = .ok r) :
    S.binop .Equality a b = some r ∧ plain r = true := by
  cases h; exact ⟨by rw [constEq_eq_valueEq]; rfl, rfl⟩
theorem binop_Inequality {a b r : Constant} (h : applyOp .Inequality [a, b] = .ok r) :
    S.binop .Inequality a b = some r ∧ plain r = true := by
  cases h; exact ⟨by rw [constEq_eq_valueEq]; rfl, rfl⟩

/-- every binary arm of `evaluate_operator`: a returned value is the specified one and is in range -/
theorem binop_agrees (o : Op) {a b r : Constant} (hn : arityOk o 2 = true) (ha : plain a = true) (hb : plain b = true)
    (h : applyOp o [a, b] = .ok r) : S.binop o a b = some r ∧ plain r = true := by
  cases o
  case Add => exact binop_ring (.inl rfl) h
  case Subtract => exact binop_ring (.inr (.inl rfl)) h
  case Multiply => exact binop_ring (.inr (.inr rfl)) h
  case Divide => exact binop_Divide ha hb h
  case Modulus => exact binop_Modulus ha hb h
  case LeftShift => exact binop_LeftShift h
  case RightShift => exact binop_RightShift ha h
  case BitwiseAnd => exact binop_bits (.inl rfl) h
  case BitwiseOr => exact binop_bits (.inr (.inl rfl)) h
  case BitwiseXor => exact binop_bits (.inr (.inr rfl)) h
  case BooleanAnd => exact binop_logic (.inl rfl) h
  case BooleanOr => exact binop_logic (.inr rfl) h
  case LessThan => exact binop_cmp .lt rfl (by decide) (fun a b => by rw [cmpOrd_lt]; rfl) h
  case LessEqual => exact binop_cmp .le rfl (by decide) (fun a b => by rw [cmpOrd_le]; rfl) h
  case GreaterThan => exact binop_cmp .gt rfl (by decide) (fun a b => by rw [cmpOrd_gt]; rfl) h
  case GreaterEqual => exact binop_cmp .ge rfl (by decide) (fun a b => by rw [cmpOrd_ge]; rfl) h
  case Equality => exact binop_Equality h
  case Inequality => exact binop_Inequality h
  -- no arm at all: not constant; a unary arm: excluded by the arity
  all_goals first | cases h | cases hn

end RsslVerif.Lemmas.ConstEval
