import RsslVerif.Spec.Slots
/-! Helper lemmas for C06 (the property theorems are in `Thm/C06.lean`): the generated tables against the
    specification, one allocator step as a placement (`step_eq`, `place_spec`), a run over the declarations as the
    relation `Alloc` (`run_alloc`, under `ParamsOk`: where `run` meets the specification; tiling, agreement, the key lists
    and the inline locations are inductions on `Alloc`).  What holds for every parameter set (`run_total`, `run_length`,
    `Lemmas.Meta.run_good`) goes over `run` itself, through `run_cons_ok` and `step_eq`. -/
namespace RsslVerif.Lemmas.Slots
open RsslVerif.Gen.SlotTables RsslVerif.Model.Slots RsslVerif.Spec.Slots

/-- The generated `slice_cost` table is the specified one (finite: 2 × 29 cases). -/
theorem sliceCost_spec (metal : Bool) (k : ObjKind) :
    sliceCost metal (some k) = if metal && doubled k then 2 else 1 := by
  cases metal <;> cases k <;> decide

theorem isBufferAddress_spec (k : ObjKind) :
    isBufferAddress k = (k == .BufferAddress || k == .RWBufferAddress) := by
  cases k <;> decide

/-- The extracted `get_register_type` table has a register class exactly for the kinds the spec calls resources
    (finite: 29 cases). -/
theorem registerType_isSome_spec (k : ObjKind) : (registerType k).isSome = resource k := by
  cases k <;> decide

theorem registerType_none_iff {k : ObjKind} : registerType k = none ↔ resource k = false := by
  rw [← registerType_isSome_spec]; cases registerType k <;> simp

/-- The parameter sets `compile()` uses never combine buffer addresses with the Metal layout. -/
def ParamsOk (p : Params) : Prop := p.supportBufferAddress = true → p.metalSlotLayout = false

theorem paramsFor_ok (t : Target) (sba : Bool) : ParamsOk (paramsFor t sba) := by
  cases t <;> cases sba <;> simp [ParamsOk, paramsFor, paramsDefault]

def setLoc (b : Binding) : Nat × Loc := (b.set, b.loc)

/-- what `process_definition` decides about a declaration, before it touches the counters: nothing, `n` index slots of
    register class `r`, or `n` bytes of inline constants -/
inductive Place where
  | none
  | index (n : Nat) (r : RegT)
  | inline (n : Nat)

def place (p : Params) : Decl → Place
  | .other => .none
  | .cbuffer _ => .index 1 .B
  | .global _ ss kind len =>
    if ss && !p.staticSamplersHaveSlots then .none else
    match kind with
    | none => .none
    | some k =>
      match registerType k with
      | none => .none
      | some r =>
        if p.supportBufferAddress && isBufferAddress k && len.isNone then .inline (8 * slotCount p (some k) len)
        else .index (slotCount p (some k) len) r

def placed (p : Params) (g : Nat) (st : State) : Place → State × Option Binding
  | .none => (st, none)
  | .index n r =>
    ({ st with used := (st.used.bump g n).2 },
     some { set := g, loc := .index (st.used.get g), slotType := if p.requireSlotType then some r else none })
  | .inline n =>
    ({ st with inline := (st.inline.bump g n).2 }, some { set := g, loc := .inline (st.inline.get g), slotType := none })

theorem step_eq (p : Params) (dflt : Nat) (st : State) (d : Decl) :
    step p dflt st d = .ok (placed p (group dflt d) st (place p d)) := by
  fun_cases place p d <;> simp only [step, group, *] <;> rfl

theorem place_inline {p : Params} {d : Decl} {n : Nat} (h : place p d = .inline n) :
    p.supportBufferAddress = true ∧ ∃ s ss k l, d = .global s ss (some k) l := by
  revert h
  fun_cases place p d <;> intro h <;> cases h
  rename_i hc
  simp only [Bool.and_eq_true] at hc
  exact ⟨hc.1.1, _, _, _, _, rfl⟩

/-- **the placement is the specified one**: nothing for what need not be bound, otherwise the required number of index
    slots, or the 8 bytes of a buffer address -/
theorem place_spec {p : Params} (hp : ParamsOk p) (d : Decl) :
    match place p d with
    | .none => bound p d = false ∧ indexCount p d = 0 ∧ inlineBytes p d = 0
    | .index n _ => bound p d = true ∧ indexCount p d = n ∧ inlineBytes p d = 0
    | .inline n => bound p d = true ∧ indexCount p d = 0 ∧ inlineBytes p d = 8 ∧ n = 8 := by
  cases d with
  | other => exact ⟨rfl, rfl, rfl⟩
  | cbuffer s => exact ⟨rfl, rfl, rfl⟩
  | global s ss kind len =>
    cases kind with
    | none =>
      simp only [place]
      cases (ss && !p.staticSamplersHaveSlots) <;> exact ⟨rfl, rfl, rfl⟩
    | some k =>
      simp only [place, bound, indexCount, inlineBytes]
      by_cases h1 : (ss && !p.staticSamplersHaveSlots) = true
      · simp [h1]
      · simp only [h1]
        cases hreg : registerType k with
        | none =>
          have hres : resource k = false := registerType_none_iff.1 hreg
          simp [hres]
        | some r =>
          have hres : resource k = true := by rw [← registerType_isSome_spec, hreg]; rfl
          have hinl : (p.supportBufferAddress && isBufferAddress k && len.isNone) = isInline p k len := by
            simp [isInline, isBufferAddress_spec]
          simp only [hinl]
          cases hi : isInline p k len with
          | true =>
            have hsba : p.supportBufferAddress = true := by simp [isInline] at hi; exact hi.1.1
            have hlen : len = none := by simp [isInline] at hi; exact hi.2
            simp [hres, hlen, slotCount, sliceCost_spec, hp hsba]
          | false => simp [hres, slotCount, sliceCost_spec]

theorem bump_get (c : Counter) (s n g : Nat) :
    (c.bump s n).2.get g = c.get g + (if s = g then n else 0) := by
  simp only [Counter.bump]
  by_cases h : s = g
  · subst h; simp
  · have h' : ¬ g = s := fun e => h e.symm
    simp [h, h']

theorem run_cons_ok {p : Params} {dflt : Nat} {st st' : State} {d : Decl} {ds : List Decl}
    {bs : List (Option Binding)} :
    run p dflt st (d :: ds) = .ok (st', bs) ↔
      ∃ st1 ob bs', step p dflt st d = .ok (st1, ob) ∧ run p dflt st1 ds = .ok (st', bs') ∧ bs = ob :: bs' := by
  constructor
  · intro h
    simp only [run] at h
    split at h
    · cases h
    · rename_i st1 ob hstep
      split at h
      · cases h
      · rename_i st2 bs' hrun
        cases h
        exact ⟨st1, ob, bs', hstep, hrun, rfl⟩
  · rintro ⟨st1, ob, bs', h1, h2, rfl⟩
    simp only [run, h1, h2]

theorem run_total (p : Params) (dflt : Nat) : ∀ (ds : List Decl) (st : State), ∃ r, run p dflt st ds = .ok r
  | [], st => ⟨_, rfl⟩
  | d :: ds, st => by
    obtain ⟨⟨st', bs⟩, h⟩ := run_total p dflt ds (placed p (group dflt d) st (place p d)).1
    exact ⟨(st', (placed p (group dflt d) st (place p d)).2 :: bs), run_cons_ok.2 ⟨_, _, _, step_eq .., h, rfl⟩⟩

theorem run_length {p : Params} {dflt : Nat} : ∀ {ds : List Decl} {st st' : State} {bs : List (Option Binding)},
    run p dflt st ds = .ok (st', bs) → bs.length = ds.length
  | [], _, _, _, h => by simp [run] at h; obtain ⟨_, rfl⟩ := h; rfl
  | _ :: _, _, _, _, h => by
    obtain ⟨_, _, _, _, hrun, rfl⟩ := run_cons_ok.1 h
    simp [run_length hrun]

theorem assign_ok_iff {p : Params} {dflt : Nat} {ds : List Decl} {res : Result} :
    assign p dflt ds = .ok res ↔
      ∃ st, run p dflt State.init ds = .ok (st, res.bindings) ∧ res.inlineBufs = inlineBuffers st := by
  unfold assign
  cases hr : run p dflt State.init ds with
  | error e => simp
  | ok r =>
    obtain ⟨st, bs⟩ := r
    simp only [Except.ok.injEq, Prod.mk.injEq]
    constructor
    · rintro rfl; exact ⟨st, ⟨rfl, rfl⟩, rfl⟩
    · rintro ⟨st', ⟨rfl, h2⟩, h3⟩
      cases res; simp_all

theorem assign_total (p : Params) (dflt : Nat) (ds : List Decl) : ∃ res, assign p dflt ds = .ok res := by
  obtain ⟨⟨st, bs⟩, hr⟩ := run_total p dflt ds State.init
  exact ⟨{ bindings := bs, inlineBufs := inlineBuffers st }, assign_ok_iff.2 ⟨st, hr, rfl⟩⟩

theorem TilesTo.append {s m e : Nat} {a b : List (Nat × Nat)} (ha : TilesTo s a m) (hb : TilesTo m b e) :
    TilesTo s (a ++ b) e := by
  induction ha with
  | nil s => simpa using hb
  | cons s c e' r _ ih => exact TilesTo.cons s c _ _ (ih hb)

theorem TilesTo.cons_inv {s a c e : Nat} {r : List (Nat × Nat)} (h : TilesTo s ((a, c) :: r) e) :
    a = s ∧ TilesTo (s + c) r e := by
  cases h with
  | cons _ _ _ _ hr => exact ⟨rfl, hr⟩

/-- a run of `process_definition` over `ds` from `st`, in the terms of the specification: a declaration that need not be
    bound is passed over, one that needs index slots gets the group's next `indexCount` slots, a buffer address the
    group's next 8 inline bytes -/
inductive Alloc (p : Params) (dflt : Nat) : State → List Decl → State → List (Option Binding) → Prop
  | nil (st : State) : Alloc p dflt st [] st []
  | skip {st st' : State} {d : Decl} {ds : List Decl} {bs : List (Option Binding)} :
      bound p d = false → indexCount p d = 0 → inlineBytes p d = 0 →
      Alloc p dflt st ds st' bs → Alloc p dflt st (d :: ds) st' (none :: bs)
  | index {st st' : State} {d : Decl} {ds : List Decl} {bs : List (Option Binding)} (r : RegT) :
      bound p d = true → inlineBytes p d = 0 →
      Alloc p dflt { st with used := (st.used.bump (group dflt d) (indexCount p d)).2 } ds st' bs →
      Alloc p dflt st (d :: ds) st'
        (some { set := group dflt d, loc := .index (st.used.get (group dflt d)),
                slotType := if p.requireSlotType then some r else none } :: bs)
  | inline {st st' : State} {d : Decl} {ds : List Decl} {bs : List (Option Binding)} :
      bound p d = true → indexCount p d = 0 → inlineBytes p d = 8 →
      Alloc p dflt { st with inline := (st.inline.bump (group dflt d) 8).2 } ds st' bs →
      Alloc p dflt st (d :: ds) st'
        (some { set := group dflt d, loc := .inline (st.inline.get (group dflt d)), slotType := none } :: bs)

theorem run_alloc {p : Params} (hp : ParamsOk p) {dflt : Nat} :
    ∀ {ds : List Decl} {st st' : State} {bs : List (Option Binding)},
      run p dflt st ds = .ok (st', bs) → Alloc p dflt st ds st' bs
  | [], st, st', bs, h => by
    simp only [run, Except.ok.injEq, Prod.mk.injEq] at h
    obtain ⟨rfl, rfl⟩ := h
    exact .nil _
  | d :: ds, st, st', bs, h => by
    obtain ⟨st1, ob, bs', hstep, hrun, rfl⟩ := run_cons_ok.1 h
    have ih := run_alloc hp hrun
    have hs := place_spec hp d
    rw [step_eq] at hstep
    cases hpl : place p d with
    | none =>
      rw [hpl] at hstep hs
      cases hstep
      exact .skip hs.1 hs.2.1 hs.2.2 ih
    | index n r =>
      rw [hpl] at hstep hs
      cases hstep
      obtain ⟨h1, rfl, h3⟩ := hs
      exact .index r h1 h3 ih
    | inline n =>
      rw [hpl] at hstep hs
      cases hstep
      obtain ⟨h1, h2, h3, rfl⟩ := hs
      exact .inline h1 h2 h3 ih

/-- from any state, the observed ranges of group `g` tile `[used g, used' g)` and `[inline g, inline' g)`, and the totals are
    the specified sums -/
theorem alloc_spec {p : Params} {dflt : Nat} (g : Nat) {ds : List Decl} {st st' : State} {bs : List (Option Binding)}
    (h : Alloc p dflt st ds st' bs) :
    TilesTo (st.used.get g) (indexRanges p g ds bs) (st'.used.get g) ∧
    TilesTo (st.inline.get g) (inlineRanges p g ds bs) (st'.inline.get g) ∧
    st'.used.get g = st.used.get g + totalIndex p dflt g ds ∧
    st'.inline.get g = st.inline.get g + totalInline p dflt g ds := by
  induction h with
  | nil st => exact ⟨.nil _, .nil _, by simp [totalIndex], by simp [totalInline]⟩
  | skip hb hi hn _ ih =>
    obtain ⟨t1, t2, e1, e2⟩ := ih
    exact ⟨t1, t2, by simp [totalIndex, hi, e1], by simp [totalInline, hn, e2]⟩
  | @index st st' d ds bs r hb hn _ ih =>
    obtain ⟨t1, t2, e1, e2⟩ := ih
    simp only [bump_get] at t1 e1
    refine ⟨?_, by simpa only [inlineRanges, List.nil_append] using t2,
      by rw [e1]; simp only [totalIndex, List.map_cons, List.sum_cons, Nat.add_assoc],
      by rw [e2]; simp [totalInline, hn]⟩
    simp only [indexRanges]
    by_cases hg : group dflt d = g
    · subst hg
      simp only [if_true, List.singleton_append] at t1 ⊢
      exact .cons _ _ _ _ t1
    · simpa only [hg, if_false, Nat.add_zero, List.nil_append] using t1
  | @inline st st' d ds bs hb hi hn _ ih =>
    obtain ⟨t1, t2, e1, e2⟩ := ih
    simp only [bump_get] at t2 e2
    refine ⟨by simpa only [indexRanges, List.nil_append] using t1, ?_,
      by rw [e1]; simp [totalIndex, hi],
      by rw [e2]; simp only [totalInline, hn, List.map_cons, List.sum_cons, Nat.add_assoc]⟩
    simp only [inlineRanges, hn]
    by_cases hg : group dflt d = g
    · subst hg
      simp only [if_true, List.singleton_append] at t2 ⊢
      exact .cons _ _ _ _ t2
    · simpa only [hg, if_false, Nat.add_zero, List.nil_append] using t2

end RsslVerif.Lemmas.Slots

namespace RsslVerif.Thm.C06
open RsslVerif.Gen.SlotTables RsslVerif.Model.Slots RsslVerif.Spec.Slots RsslVerif.Lemmas.Slots

/-- per-declaration completeness: which declarations are bound, to which group, and by which
    mechanism (index vs inline constant). -/
def Agrees (p : Params) (dflt : Nat) : List Decl → List (Option Binding) → Prop
  | [], [] => True
  | d :: ds, ob :: bs =>
    (match ob with
     | none => bound p d = false
     | some b => bound p d = true ∧ b.set = group dflt d ∧
        (match b.loc with
         | .index _ => inlineBytes p d = 0
         | .inline _ => inlineBytes p d = 8)) ∧ Agrees p dflt ds bs
  | _, _ => False

theorem Agrees.cons_iff {p : Params} {dflt : Nat} {d : Decl} {ds : List Decl} {ob : Option Binding}
    {bs : List (Option Binding)} :
    Agrees p dflt (d :: ds) (ob :: bs) ↔
      (match ob with
       | none => bound p d = false
       | some b => bound p d = true ∧ b.set = group dflt d ∧
          (match b.loc with
           | .index _ => inlineBytes p d = 0
           | .inline _ => inlineBytes p d = 8)) ∧ Agrees p dflt ds bs :=
  Iff.rfl

theorem Agrees.length_eq {p : Params} {dflt : Nat} : ∀ {ds : List Decl} {bs : List (Option Binding)},
    Agrees p dflt ds bs → ds.length = bs.length := by
  intro ds bs
  fun_induction Agrees p dflt ds bs <;> intro h
  case case1 => rfl
  case case2 ih => simp [ih h.2]
  case case3 => exact h.elim

end RsslVerif.Thm.C06

namespace RsslVerif.Lemmas.Slots
open RsslVerif.Gen.SlotTables RsslVerif.Model.Slots RsslVerif.Spec.Slots RsslVerif.Thm.C06

theorem alloc_agrees {p : Params} {dflt : Nat} {ds : List Decl} {st st' : State} {bs : List (Option Binding)}
    (h : Alloc p dflt st ds st' bs) : Agrees p dflt ds bs := by
  induction h with
  | nil => trivial
  | skip hb _ _ _ ih => exact ⟨hb, ih⟩
  | index r hb hn _ ih => exact ⟨⟨hb, rfl, hn⟩, ih⟩
  | inline hb _ hn _ ih => exact ⟨⟨hb, rfl, hn⟩, ih⟩

theorem inlineBytes_zero_of_no_buffer_address {p : Params} (h : p.supportBufferAddress = false) (d : Decl) :
    inlineBytes p d = 0 := by
  cases d with
  | other => rfl
  | cbuffer _ => rfl
  | global s ss k l =>
    cases k with
    | none => rfl
    | some k => simp [inlineBytes, isInline, h]

theorem agrees_all_index {p : Params} {dflt : Nat} (h : p.supportBufferAddress = false)
    {ds : List Decl} {bs : List (Option Binding)} (ha : Agrees p dflt ds bs) :
    ∀ ob ∈ bs, ∀ b, ob = some b → ∃ i, b.loc = .index i := by
  revert ha
  fun_induction Agrees p dflt ds bs <;> intro ha ob hob b hb
  case case1 => cases hob
  case case2 d ds ob0 bs ih =>
    rcases List.mem_cons.1 hob with rfl | hob
    · subst hb
      have h0 := ha.1.2.2
      cases hl : b.loc with
      | index i => exact ⟨i, rfl⟩
      | inline o =>
        rw [hl] at h0
        have := inlineBytes_zero_of_no_buffer_address h d
        omega
    · exact ih ha.2 ob hob b hb
  case case3 => exact ha.elim

end RsslVerif.Lemmas.Slots
