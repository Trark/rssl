import RsslVerif.Spec.CPreMacro
import RsslVerif.Lemmas.Fuel
import RsslVerif.Lemmas.MacroTerm
/-!
# The reference algorithm without fuel

`SExp ms l r` is the big-step reading of `Spec.CPreMacro.expand` (Prosser's algorithm): one rule per branch of the
function.  `sexp_complete`: whatever `SExp` derives, `expand` computes with enough fuel -- so a statement
"`∃ fuel, expand ms fuel l = .ok r`" can be proved by exhibiting a derivation.  `sexp_context`: how the expansion of a
list continues when more source follows it (only the last token, if it was looked at with nothing after it, is looked
at again).  Last: tokens that name no macro are kept (`sexp_inert_append`), and `subst` on an object-like macro without `##`
returns its replacement list, painted with its name (`subst_object`).
-/
namespace RsslVerif.Lemmas.SpecExpand
open RsslVerif.Model.Macro RsslVerif.Spec.CPreMacro RsslVerif.Lemmas.Fuel RsslVerif.Lemmas.MacroTerm

/-- `expand` keeps the token `t` when `rest` follows: not an identifier, painted, not a macro name, or the name of a
function-like macro that is not followed by `(` -/
def KeepS (ms : List SMacro) (t : HTok) (rest : List HTok) : Prop :=
  ∀ n, t.tok = .id n →
    t.hide.contains n = true ∨ find ms n = none ∨
      (∃ m ps, find ms n = some m ∧ m.params = some ps ∧ ∀ h rest', rest ≠ ⟨.lparen, h⟩ :: rest')

/-- the arguments as `expand` passes them to `subst` -/
def fixArgs (ps : List String) (args : List (List HTok)) : List (List HTok) :=
  if ps.isEmpty ∧ args = [[]] then [] else args

inductive SExp (ms : List SMacro) : List HTok → List HTok → Prop
  | nil : SExp ms [] []
  | keep (t : HTok) (rest r : List HTok) : KeepS ms t rest → SExp ms rest r → SExp ms (t :: rest) (t :: r)
  | obj (t : HTok) (n : String) (m : SMacro) (rest b r : List HTok) :
      t.tok = .id n → t.hide.contains n = false → find ms n = some m → m.params = none →
      (∀ ex, subst ex m [] (n :: t.hide) = .ok b) →
      SExp ms (b ++ rest) r → SExp ms (t :: rest) r
  | fn (t : HTok) (n : String) (m : SMacro) (ps : List String) (h0 : List String) (rest' : List HTok)
      (args eargs : List (List HTok)) (hs' : List String) (rest'' b r : List HTok) :
      t.tok = .id n → t.hide.contains n = false → find ms n = some m → m.params = some ps →
      collectArgs rest' 0 [] [] = some (args, hs', rest'') →
      (fixArgs ps args).length = ps.length →
      eargs.length = (fixArgs ps args).length →
      (∀ (i : Nat) (a ea : List HTok), (fixArgs ps args)[i]? = some a → eargs[i]? = some ea → SExp ms a ea) →
      (∀ ex, (∀ (i : Nat) (a ea : List HTok), (fixArgs ps args)[i]? = some a → eargs[i]? = some ea → ex a = .ok ea) →
        subst ex m (fixArgs ps args) (n :: t.hide.filter (hs'.contains ·)) = .ok b) →
      SExp ms (b ++ rest'') r → SExp ms (t :: ⟨.lparen, h0⟩ :: rest') r

theorem expand_succ_nil (ms : List SMacro) (f : Nat) : expand ms (f + 1) [] = .ok [] := by
  rw [expand]

theorem expand_keep (ms : List SMacro) (f : Nat) (t : HTok) (rest : List HTok) (h : KeepS ms t rest) :
    expand ms (f + 1) (t :: rest) =
      match expand ms f rest with
      | .ok r => .ok (t :: r)
      | .error e => .error e := by
  rw [expand]
  split
  · rename_i n hn
    -- in each of the three ways to keep an identifier both arms of the test for paint are `keep`
    rcases h n hn with h1 | h1 | ⟨m, ps, h1, h2, h3⟩
    · simp only [h1, if_true]; rfl
    · simp only [h1, ite_self]; rfl
    · -- `simp` takes the default arm of the match on `rest` because `h3` is at hand
      simp only [h1, h2, ite_self]; rfl
  · rfl

theorem expand_obj (ms : List SMacro) (f : Nat) (t : HTok) (n : String) (m : SMacro) (rest : List HTok)
    (htk : t.tok = .id n) (hp : t.hide.contains n = false) (hf : find ms n = some m) (hpar : m.params = none) :
    expand ms (f + 1) (t :: rest) =
      match subst (expand ms f) m [] (n :: t.hide) with
      | .ok b => expand ms f (b ++ rest)
      | .error e => .error e := by
  rw [expand]
  simp only [htk, hp, hf, hpar]
  rfl

theorem expand_fn (ms : List SMacro) (f : Nat) (t : HTok) (n : String) (m : SMacro) (ps : List String)
    (h0 : List String) (rest' : List HTok) (args : List (List HTok)) (hs' : List String) (rest'' : List HTok)
    (htk : t.tok = .id n) (hp : t.hide.contains n = false) (hf : find ms n = some m) (hpar : m.params = some ps)
    (hc : collectArgs rest' 0 [] [] = some (args, hs', rest'')) (hlen : (fixArgs ps args).length = ps.length) :
    expand ms (f + 1) (t :: ⟨.lparen, h0⟩ :: rest') =
      match subst (expand ms f) m (fixArgs ps args) (n :: t.hide.filter (hs'.contains ·)) with
      | .ok b => expand ms f (b ++ rest'')
      | .error e => .error e := by
  rw [expand]
  simp only [htk, hp, hf, hpar, hc]
  unfold fixArgs at hlen
  simp only [Bool.false_eq_true, if_false, hlen, ne_eq, not_true_eq_false]
  rfl

theorem sexp_complete {ms : List SMacro} {l r : List HTok} (h : SExp ms l r) :
    ∃ f, ∀ f', f ≤ f' → expand ms f' l = .ok r := by
  induction h with
  | nil => exact Ev.succ fun g => expand_succ_nil ms g
  | keep t rest r hk _ ih => exact Ev.step ih fun g hg => by rw [expand_keep ms g t rest hk, hg]
  | obj t n m rest b r htk hp hf hpar hsub _ ih =>
    exact Ev.step ih fun g hg => by rw [expand_obj ms g t n m rest htk hp hf hpar, hsub (expand ms g)]; exact hg
  | fn t n m ps h0 rest' args eargs hs' rest'' b r htk hp hf hpar hc hlen helen _ hsub _ ihargs ih =>
    exact ((Ev.zip _ eargs ihargs).and ih).step fun g ⟨hF, hg⟩ => by
      rw [expand_fn ms g t n m ps h0 rest' args hs' rest'' htk hp hf hpar hc hlen, hsub (expand ms g) (hF)]
      exact hg

/-! One token of `collectArgs`, in the three cases of `scanArgs_cases`. -/

theorem collectArgs_close (t : HTok) (more cur : List HTok) (acc : List (List HTok)) (htk : t.tok = .rparen) :
    collectArgs (t :: more) 0 cur acc = some (acc ++ [cur], t.hide, more) := by
  rw [collectArgs]; simp [htk]

theorem collectArgs_comma (t : HTok) (more cur : List HTok) (acc : List (List HTok)) (htk : t.tok = .comma) :
    collectArgs (t :: more) 0 cur acc = collectArgs more 0 [] (acc ++ [cur]) := by
  rw [collectArgs]; simp [htk]

theorem collectArgs_push (t : HTok) (more cur : List HTok) (acc : List (List HTok)) (d : Nat)
    (h : d = 0 → t.tok ≠ .rparen ∧ t.tok ≠ .comma) :
    collectArgs (t :: more) d cur acc = collectArgs more (depthAfter t.tok d) (cur ++ [t]) acc := by
  rw [collectArgs]
  unfold depthAfter
  split <;> simp_all

theorem collectArgs_append (l : List HTok) (d : Nat) (cur : List HTok) (acc args : List (List HTok))
    (hs : List String) (rest more : List HTok) (h : collectArgs l d cur acc = some (args, hs, rest)) :
    collectArgs (l ++ more) d cur acc = some (args, hs, rest ++ more) := by
  induction l generalizing d cur acc with
  | nil => simp [collectArgs] at h
  | cons t ts ih =>
    rw [List.cons_append]
    rcases scanArgs_cases t.tok d with ⟨htk, rfl⟩ | ⟨htk, rfl⟩ | hne
    · rw [collectArgs_close t _ cur acc htk] at h ⊢; cases h; rfl
    · rw [collectArgs_comma t _ cur acc htk] at h ⊢; exact ih _ _ _ h
    · rw [collectArgs_push t _ cur acc d hne] at h ⊢; exact ih _ _ _ h

theorem sexp_nil_inv {ms : List SMacro} {r : List HTok} (h : SExp ms [] r) : r = [] := by
  cases h; rfl

theorem keepS_append (ms : List SMacro) (t x : HTok) (xs more : List HTok) (h : KeepS ms t (x :: xs)) :
    KeepS ms t (x :: xs ++ more) := by
  intro n hn
  rcases h n hn with h1 | h1 | ⟨m, ps, h1, h2, h3⟩
  · exact Or.inl h1
  · exact Or.inr (Or.inl h1)
  · refine Or.inr (Or.inr ⟨m, ps, h1, h2, ?_⟩)
    intro hh rest' heq
    simp only [List.cons_append, List.cons.injEq] at heq
    exact h3 hh xs (by rw [heq.1])

/-- **the expansion of a list in front of more source.**  Of what `l` expands to on its own, all but at most one
last token `tail` is final; that token was kept with nothing after it, and it is looked at again with the source that
follows. -/
theorem sexp_context {ms : List SMacro} {l r : List HTok} (h : SExp ms l r) :
    ∃ r0 tail, r = r0 ++ tail ∧ tail.length ≤ 1 ∧ (∀ g ∈ tail, KeepS ms g []) ∧
      ∀ more rr, SExp ms (tail ++ more) rr → SExp ms (l ++ more) (r0 ++ rr) := by
  induction h with
  | nil => exact ⟨[], [], rfl, by simp, fun g hg => (by cases hg), fun more rr h => h⟩
  | keep t rest r hk hs ih =>
    obtain ⟨r0, tail, hr, hl, hkeep, hctx⟩ := ih
    cases rest with
    | nil =>
      have hr' := sexp_nil_inv hs
      subst hr'
      refine ⟨[], [t], rfl, by simp, ?_, fun more rr h => by simpa using h⟩
      intro g hg
      simp only [List.mem_singleton] at hg
      subst hg
      exact hk
    | cons x xs =>
      refine ⟨t :: r0, tail, by simp [hr], hl, hkeep, fun more rr h => ?_⟩
      have := hctx more rr h
      exact SExp.keep t _ _ (keepS_append ms t x xs more hk) this
  | obj t n m rest b r htk hp hf hpar hsub _ ih =>
    obtain ⟨r0, tail, hr, hl, hkeep, hctx⟩ := ih
    refine ⟨r0, tail, hr, hl, hkeep, fun more rr h => ?_⟩
    have := hctx more rr h
    rw [List.append_assoc] at this
    exact SExp.obj t n m (rest ++ more) b (r0 ++ rr) htk hp hf hpar hsub this
  | fn t n m ps h0 rest' args eargs hs' rest'' b r htk hp hf hpar hc hlen helen hargs hsub _ _ ih =>
    obtain ⟨r0, tail, hr, hl, hkeep, hctx⟩ := ih
    refine ⟨r0, tail, hr, hl, hkeep, fun more rr h => ?_⟩
    have := hctx more rr h
    rw [List.append_assoc] at this
    exact SExp.fn t n m ps h0 (rest' ++ more) args eargs hs' (rest'' ++ more) b (r0 ++ rr) htk hp hf hpar
      (collectArgs_append _ _ _ _ _ _ _ _ hc) hlen helen hargs hsub this


theorem replaceParams_mono (ex ex' : List HTok → Except SErr (List HTok))
    (hex : ∀ a r, ex a = .ok r → ex' a = .ok r) (ps : List String) (args : List (List HTok)) (prev : Option Tok)
    (body : List Tok) (items : List Item) (h : replaceParams ex ps args prev body = .ok items) :
    replaceParams ex' ps args prev body = .ok items := by
  revert h
  fun_induction replaceParams ex ps args prev body generalizing items <;> intro h <;> cases h
  case case1 => rw [replaceParams]
  case case2 prev t rest ntp here a b hb hhere ih =>
    rw [replaceParams, ih b hb]
    -- `here` asks `ex` only where it answers, and there `ex'` answers the same
    simp only [here, ntp] at hhere
    split at hhere
    · rename_i ht; simp only [ht, if_true]; cases hhere; rfl
    · rename_i ht
      simp only [ht, if_false]
      split at hhere
      · split at hhere
        · rename_i hntp; simp only [hntp, if_true]; cases hhere; rfl
        · rename_i hntp
          simp only [hntp]
          split at hhere
          · rename_i ea hexa; simp only [hex _ _ hexa]; cases hhere; rfl
          · cases hhere
      · cases hhere; rfl

theorem subst_mono (ex ex' : List HTok → Except SErr (List HTok))
    (hex : ∀ a r, ex a = .ok r → ex' a = .ok r) (m : SMacro) (args : List (List HTok)) (hs : List String)
    (b : List HTok) (h : subst ex m args hs = .ok b) : subst ex' m args hs = .ok b := by
  unfold subst at h ⊢
  cases hr : replaceParams ex (m.params.getD []) args none m.body with
  | error e => simp [hr] at h
  | ok items =>
    rw [replaceParams_mono ex ex' hex _ _ _ _ _ hr]
    simpa [hr] using h

theorem expand_mono (ms : List SMacro) (f : Nat) : ∀ (l r : List HTok), expand ms f l = .ok r →
    expand ms (f + 1) l = .ok r := by
  induction f with
  | zero => intro l r h; simp [expand] at h
  | succ f ih =>
    intro l r
    have hsub : ∀ m args hs b, subst (expand ms f) m args hs = .ok b → subst (expand ms (f + 1)) m args hs = .ok b :=
      fun m args hs b => subst_mono _ _ ih m args hs b
    have keepCase : ∀ t rest, (match expand ms f rest with
          | .ok r => Except.ok (t :: r)
          | .error e => .error e) = .ok r →
        (match expand ms (f + 1) rest with
          | .ok r => Except.ok (t :: r)
          | .error e => .error e) = .ok r := by
      intro t rest hk
      cases hr : expand ms f rest with
      | error e => simp [hr] at hk
      | ok r' => rw [ih rest r' hr]; simpa [hr] using hk
    -- the case principle wants a variable for the fuel; `cases hg` turns it back into `f + 1` in every case
    generalize hg : f + 1 = g
    fun_cases expand ms g l <;> cases hg <;> intro h <;> try cases h
    all_goals rw [expand]
    -- `t` is kept: painted, no macro name, the name of a function-like macro without `(`, no identifier
    case case3.refl t rest n htk hc _ => simp only [htk, hc, if_true]; exact keepCase _ _ h
    case case4.refl t rest n htk hc hfind _ => simp only [htk, hc, hfind]; exact keepCase _ _ h
    case case11.refl t rest n htk hc m hfind ps hpar hnp _ =>
      simp only [htk, hc, hfind, hpar, Bool.false_eq_true, if_false]
      exact keepCase _ _ h
    case case12.refl t rest hnid _ =>
      simp only
      exact keepCase _ _ h
    -- an object-like macro
    case case5.refl t rest n htk hc m hfind hpar b hb =>
      simp only [htk, hc, hfind, hpar, hsub _ _ _ _ hb]
      exact ih _ _ h
    -- a function-like macro with its arguments
    case case9.refl t n htk hc m hfind ps hpar xh rest' args1 hs' rest'' hca args hlen b hb =>
      simp only [htk, hc, hfind, hpar, hca]
      simp only [args] at hlen hb
      simp only [hlen, if_false, hsub _ _ _ _ hb]
      exact ih _ _ h

theorem expand_mono_le (ms : List SMacro) {f f' : Nat} (hle : f ≤ f') (l r : List HTok)
    (h : expand ms f l = .ok r) : expand ms f' l = .ok r := by
  induction hle with
  | refl => exact h
  | step _ ih => exact expand_mono ms _ l r ih

theorem expand_det (ms : List SMacro) (f f' : Nat) (l r r' : List HTok) (h : expand ms f l = .ok r)
    (h' : expand ms f' l = .ok r') : r = r' := by
  have h1 := expand_mono_le ms (Nat.le_max_left f f') l r h
  have h2 := expand_mono_le ms (Nat.le_max_right f f') l r' h'
  rw [h1] at h2
  cases h2; rfl

/-- a reference token that `expand` keeps: not an identifier naming a macro -/
def SInertTok (ms : List SMacro) (t : HTok) : Prop :=
  match t.tok with
  | .id n => find ms n = none
  | _ => True

def SInert (ms : List SMacro) (ts : List HTok) : Prop := ∀ t ∈ ts, SInertTok ms t

/-- tokens that name no macro, in front of a list: kept -/
theorem sexp_inert_append {ms : List SMacro} {pre l r : List HTok} (hp : SInert ms pre) (h : SExp ms l r) :
    SExp ms (pre ++ l) (pre ++ r) := by
  induction pre with
  | nil => exact h
  | cons t ts ih =>
    refine SExp.keep t _ _ (fun n hn => Or.inr (Or.inl ?_)) (ih (fun x hx => hp x (by simp [hx])))
    have := hp t (by simp)
    unfold SInertTok at this
    simpa [hn] using this

theorem doPastes_nopaste (done items : List Item) (h : Item.paste ∉ items) :
    doPastes done items = .ok (done.reverse ++ items) := by
  induction items generalizing done with
  | nil => simp [doPastes]
  | cons x xs ih =>
    have hx : x ≠ .paste := fun hh => h (by simp [hh])
    have := ih (x :: done) (fun hh => h (by simp [hh]))
    cases x with
    | paste => exact absurd rfl hx
    | tok t => rw [doPastes]; simp [this]; exact fun hh => by cases hh
    | placemarker => rw [doPastes]; simp [this]; exact fun hh => by cases hh

theorem replaceParams_plain (ex : List HTok → Except SErr (List HTok)) (prev : Option Tok) (body : List Tok)
    (h : Tok.hashhash ∉ body) (hid : ∀ t ∈ body, paramIndex [] t = none) :
    replaceParams ex [] [] prev body = .ok (body.map fun t => .tok ⟨t, []⟩) := by
  induction body generalizing prev with
  | nil => rfl
  | cons t ts ih =>
    have ht : t ≠ .hashhash := fun hh => h (by simp [hh])
    have := ih (some t) (fun hh => h (by simp [hh])) (fun x hx => hid x (by simp [hx]))
    unfold replaceParams
    simp only [ht, if_false, hid t (by simp), this]
    rfl

theorem paramIndex_nil (t : Tok) : paramIndex [] t = none := by
  unfold paramIndex
  split <;> simp [indexOfName]

/-- an object-like macro without `##`: `subst` returns the replacement list, painted -/
theorem subst_object (ex : List HTok → Except SErr (List HTok)) (m : SMacro) (hs : List String)
    (hp : m.params = none) (h : Tok.hashhash ∉ m.body) :
    subst ex m [] hs = .ok (m.body.map fun t => ⟨t, hs⟩) := by
  unfold subst
  simp only [hp, Option.getD_none]
  rw [replaceParams_plain ex none m.body h (fun t _ => paramIndex_nil t)]
  simp only
  rw [doPastes_nopaste]
  · simp [List.filterMap_map, Function.comp_def]
  · simp

end RsslVerif.Lemmas.SpecExpand
