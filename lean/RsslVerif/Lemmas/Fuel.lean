/-!
Facts that hold for every large enough amount of fuel.  The fuelled models (`Model/Parse`, `Model/ParseFull`,
`Model/CondExpr`, `Model/Macro`, `Model/Include`, …) signal an exhausted budget each in its own way, so what they share is
only this: a completeness proof shows, construct by construct, that some amount of fuel suffices and every larger amount
gives the same result, and `Ev.and` / `Ev.step` / `Ev.zip` combine such facts without naming the amounts.
-/
namespace RsslVerif.Lemmas.Fuel

/-- "for every large enough amount of fuel" -/
def Ev (p : Nat → Prop) : Prop := ∃ N, ∀ f, N ≤ f → p f

theorem Ev.of_all {p : Nat → Prop} (h : ∀ f, p f) : Ev p := ⟨0, fun f _ => h f⟩

theorem Ev.mono {p q : Nat → Prop} (h : Ev p) (H : ∀ f, p f → q f) : Ev q :=
  let ⟨N, hN⟩ := h; ⟨N, fun f hf => H f (hN f hf)⟩

theorem Ev.and {p q : Nat → Prop} (hp : Ev p) (hq : Ev q) : Ev fun f => p f ∧ q f :=
  let ⟨N, hN⟩ := hp; let ⟨M, hM⟩ := hq
  ⟨max N M, fun f hf => ⟨hN f (by omega), hM f (by omega)⟩⟩

/-- one more unit of fuel: the step of a fuelled function that calls itself with the fuel it has left -/
theorem Ev.step {p q : Nat → Prop} (h : Ev p) (H : ∀ f, p f → q (f + 1)) : Ev q :=
  let ⟨N, hN⟩ := h
  ⟨N + 1, fun f hf => by
    obtain ⟨f', rfl⟩ : ∃ f', f = f' + 1 := ⟨f - 1, by omega⟩
    exact H f' (hN f' (by omega))⟩

theorem Ev.exists {p : Nat → Prop} (h : Ev p) : ∃ f, p f :=
  let ⟨N, hN⟩ := h; ⟨N, hN N (Nat.le_refl _)⟩

theorem Ev.succ {q : Nat → Prop} (H : ∀ f, q (f + 1)) : Ev q := (Ev.of_all (p := fun _ => True) fun _ => trivial).step fun f _ => H f

/-- finitely many facts, one for each pair of corresponding elements of two lists, hold together -/
theorem Ev.zip {α β : Type _} {p : α → β → Nat → Prop} : ∀ (as : List α) (bs : List β),
    (∀ (i : Nat) (a : α) (b : β), as[i]? = some a → bs[i]? = some b → Ev (p a b)) →
    Ev fun f => ∀ (i : Nat) (a : α) (b : β), as[i]? = some a → bs[i]? = some b → p a b f
  | [], _, _ => .of_all fun _ i a b ha => by simp at ha
  | _ :: _, [], _ => .of_all fun _ i a b _ hb => by simp at hb
  | a0 :: as, b0 :: bs, h =>
    ((h 0 a0 b0 rfl rfl).and (Ev.zip as bs fun i a b ha hb => h (i + 1) a b (by simpa using ha) (by simpa using hb))).mono
      fun f ⟨h0, hr⟩ i a b ha hb => by
        cases i with
        | zero => simp at ha hb; subst ha; subst hb; exact h0
        | succ j => exact hr j a b (by simpa using ha) (by simpa using hb)

end RsslVerif.Lemmas.Fuel
