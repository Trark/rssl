import RsslVerif.Lemmas.ElabReleaseX
/-! Lemmas for C03, extended language: the nodes built for member access / swizzles, subscripts and numeric constructors
are well typed under the (strengthened) judgment of `Model/IrTypingX`, with exactly the type the type checker computes.
Core Lean only. -/
namespace RsslVerif.Lemmas.ElabNewX
open RsslVerif.Gen.RankTable RsslVerif.Gen.TypingTables RsslVerif.Gen.ElabTables RsslVerif.Model.Conv RsslVerif.Model.Overload
open RsslVerif.Model.IrTyping (FuncSig opReturn boolOf)
open RsslVerif.Model.Elab (Err)
open RsslVerif.Model.IrTypingX RsslVerif.Model.ElabX RsslVerif.Lemmas.ElabConv RsslVerif.Lemmas.ElabX
open RsslVerif.Lemmas.ElabExactX RsslVerif.Lemmas.ElabReleaseX

variable {Γ : Env}

/-- the arm of the reader that fired -/
theorem lookupSlot_row : ∀ (tab : List (List Char × Nat × Nat)) (l : Nat) (c : Char) (k : Nat),
    lookupSlot tab l c = some k → ∃ row ∈ tab, row.2.2 = k ∧ row.2.1 ≤ l := by
  intro tab l c k
  fun_induction lookupSlot tab l c <;> intro h
  case case1 => cases h
  case case2 hc => cases h; exact ⟨_, List.mem_cons_self, rfl, hc.2⟩
  case case3 ih => obtain ⟨row, hr, h1⟩ := ih h; exact ⟨row, List.mem_cons_of_mem _ hr, h1⟩

theorem lookupSlot_lt (tab : List (List Char × Nat × Nat)) (l : Nat) (c : Char) (k : Nat)
    (hp : ∀ row ∈ tab, row.2.2 < row.2.1) (h : lookupSlot tab l c = some k) : k < l := by
  obtain ⟨row, hr, rfl, hl⟩ := lookupSlot_row tab l c k h
  exact Nat.lt_of_lt_of_le (hp row hr) hl

/-- the swizzle loop pushes one slot per character, each looked up in the table -/
theorem slotsOf_ok {tab : List (List Char × Nat × Nat)} {l : Nat} :
    ∀ (cs : List Char) (ks : List Nat), slotsOf tab l cs = some ks →
      ks.length = cs.length ∧ ∀ k ∈ ks, ∃ c, lookupSlot tab l c = some k := by
  intro cs
  fun_induction slotsOf tab l cs <;> intro ks h <;> cases h
  case case1 => simp
  case case4 c r k0 hk0 ks0 hks0 ih =>
    obtain ⟨hlen, hall⟩ := ih ks0 hks0
    refine ⟨by simp [hlen], fun k hk => ?_⟩
    rcases List.mem_cons.mp hk with rfl | hk
    · exact ⟨c, hk0⟩
    · exact hall k hk

/-- table fact (re-checked against the regenerated `Gen.ElabTables`): a scalar only has slot `X` -/
theorem scalarSwizzle_rows : ∀ row ∈ scalarSwizzle, row.2.2 < 1 := by decide

/-- table facts: every arm of the vector / matrix readers selects a component below the width its guard demands -/
theorem vectorSwizzle_rows : ∀ row ∈ vectorSwizzle, row.2.2 < row.2.1 := by decide

/-- re-decided against the regenerated tables: the three slot-count limits of the `Member` arm (scalar and vector arms since
    fix c805c03, `read_matrix_subscript`) are the number of components the largest vector type has -/
theorem maxSlots_rows : scalarMaxSlots ≤ 4 ∧ vectorMaxSlots ≤ 4 ∧ matrixMaxSlots ≤ 4 := by decide
theorem matrixDigitsM_rows : ∀ row ∈ matrixDigitsM, row.2.2 < row.2.1 := by decide
theorem matrixDigits_rows : ∀ row ∈ matrixDigits, row.2.2 < row.2.1 := by decide

theorem matrixComponent_lt {isM : Bool} {c : Char} {l k : Nat} (h : matrixComponent isM c l = some k) : k < l := by
  unfold matrixComponent at h
  cases isM
  · exact lookupSlot_lt _ _ _ _ matrixDigits_rows h
  · exact lookupSlot_lt _ _ _ _ matrixDigitsM_rows h

/-- invariant of the character loop of `read_matrix_subscript` -/
def MInv (x y : Nat) (st : MState) (acc : List (Nat × Nat)) : Prop :=
  (∀ p ∈ acc, p.1 < x ∧ p.2 < y) ∧ (∀ isM fc, st = .opened isM (some fc) → fc < x)

/-- what `read_matrix_subscript` returns: at least one and at most `matrixMaxSlots` slots, all inside the matrix -/
theorem readMatrix_ok (x y : Nat) : ∀ (cs : List Char) (st : MState) (a b : Bool) (acc : List (Nat × Nat))
    (slots : List (Nat × Nat)), MInv x y st acc → readMatrix x y cs st a b acc = some slots →
    slots ≠ [] ∧ slots.length ≤ matrixMaxSlots ∧ ∀ p ∈ slots, p.1 < x ∧ p.2 < y := by
  intro cs st a b acc
  fun_induction readMatrix x y cs st a b acc <;> intro slots hi h
  -- the end of the name
  case case2 acc hc =>
    cases h
    have hne : acc ≠ [] := fun he => hc (Or.inr (Or.inl he))
    have hlen : acc.length ≤ matrixMaxSlots := Nat.le_of_not_lt fun hlt => hc (Or.inr (Or.inr hlt))
    exact ⟨by simpa using hne, by simpa using hlen, fun p hp => hi.1 p (by simpa using hp)⟩
  -- `_` and `m`
  case case3 ih | case5 ih => exact ih slots ⟨hi.1, by intro _ _ he; simp at he⟩ h
  -- the row digit
  case case7 k _ hk ih =>
    exact ih slots ⟨hi.1, by intro _ _ he; simp at he; obtain ⟨_, rfl⟩ := he; simpa using matrixComponent_lt hk⟩ h
  -- the column digit: the slot is pushed
  case case9 k fc _ _ hk ih | case11 k fc _ _ _ hk ih =>
    refine ih slots ⟨fun p hp => ?_, by intro _ _ he; simp at he⟩ h
    rcases List.mem_cons.mp hp with rfl | hp
    · exact ⟨hi.2 _ fc rfl, by simpa using matrixComponent_lt hk⟩
    · exact hi.1 p hp
  all_goals cases h

/-- the invariant holds when `read_matrix_subscript` starts -/
theorem minv_start (x y : Nat) : MInv x y .start [] :=
  ⟨by intro p hp; simp at hp, by intro _ _ he; simp at he⟩

theorem memberLookup_get (name : String) : ∀ (ms : List (String × Ty)) (i j : Nat) (t : Ty),
    memberLookup name ms i = some (j, t) → ∃ m, ms[j - i]? = some m ∧ m.2 = t ∧ i ≤ j := by
  intro ms i
  fun_induction memberLookup name ms i <;> intro j t h
  case case1 => cases h
  case case2 m _ _ _ => cases h; exact ⟨m, by simp, rfl, Nat.le_refl _⟩
  case case3 i _ ih =>
    obtain ⟨m', h1, h2, h3⟩ := ih j t h
    refine ⟨m', ?_, h2, by omega⟩
    have : j - i = (j - (i + 1)) + 1 := by omega
    rw [this]; simpa using h1

/-- what an accepted member access is, by the kind of its operand: a struct member, a swizzle of a scalar or of a vector
    within the slot limit, or a matrix swizzle -/
theorem elabMember_ok {name : String} {e n : IExpr} {τ τ' : ETy} (h : elabMember Γ name e τ = .ok (n, τ')) :
    name.toList ≠ [] ∧
    ((∃ id ms idx t, τ.ty.layer = .other id ∧ Γ.others[id]? = some (.struct ms) ∧ memberLookup name ms 0 = some (idx, t) ∧
        n = .member e id idx ∧ τ' = ⟨t, τ.vt⟩) ∨
     (∃ s slots, τ.ty.layer = .scalar s ∧ slotsOf scalarSwizzle 1 name.toList = some slots ∧
        slots.length ≤ scalarMaxSlots ∧ n = .swizzle e slots ∧
        τ' = ⟨⟨τ.ty.mod, swizzleLayer s slots.length⟩, swizzleVT slots τ.vt⟩) ∨
     (∃ s x slots, τ.ty.layer = .vector s x ∧ slotsOf vectorSwizzle x name.toList = some slots ∧
        slots.length ≤ vectorMaxSlots ∧ n = .swizzle e slots ∧
        τ' = ⟨⟨τ.ty.mod, swizzleLayer s slots.length⟩, swizzleVT slots τ.vt⟩) ∨
     (∃ s x y slots, τ.ty.layer = .matrix s x y ∧ readMatrix x y name.toList .start false false [] = some slots ∧
        n = .mswizzle e slots ∧ τ' = ⟨⟨τ.ty.mod, swizzleLayer s slots.length⟩, swizzleVT slots τ.vt⟩)) := by
  revert h
  fun_cases elabMember Γ name e τ <;> intro h <;> cases h
  case case2 hname id hl ms ho idx t hm => exact ⟨hname, .inl ⟨id, ms, idx, t, hl, ho, hm, rfl, rfl⟩⟩
  case case9 hname s hl slots hs hlen => exact ⟨hname, .inr (.inl ⟨s, slots, hl, hs, Nat.le_of_not_lt hlen, rfl, rfl⟩)⟩
  case case12 hname s x hl slots hs hlen =>
    exact ⟨hname, .inr (.inr (.inl ⟨s, x, slots, hl, hs, Nat.le_of_not_lt hlen, rfl, rfl⟩))⟩
  case case14 hname s x y hl slots hs => exact ⟨hname, .inr (.inr (.inr ⟨s, x, y, slots, hl, hs, rfl, rfl⟩))⟩

theorem elabMember_sound {name : String} {e n : IExpr} {τ τ' : ETy} (he : HasType Γ e τ)
    (h : elabMember Γ name e τ = .ok (n, τ')) : HasType Γ n τ' := by
  obtain ⟨hname, hk⟩ := elabMember_ok h
  rcases hk with ⟨id, ms, idx, t, hl, ho, hm, rfl, rfl⟩ | ⟨s, slots, hl, hs, hlen, rfl, rfl⟩ |
    ⟨s, x, slots, hl, hs, hlen, rfl, rfl⟩ | ⟨s, x, y, slots, hl, hs, rfl, rfl⟩
  · obtain ⟨m, h1, rfl, _⟩ := memberLookup_get name ms 0 idx t hm
    exact .member he hl ho (by simpa using h1)
  · obtain ⟨hn, hall⟩ := slotsOf_ok _ _ hs
    refine .swizzleS he hl (List.ne_nil_of_length_pos (hn ▸ List.length_pos_iff.mpr hname)) (Nat.le_trans hlen maxSlots_rows.1) fun k hk => ?_
    obtain ⟨c, hc⟩ := hall k hk
    obtain ⟨row, hr, rfl, _⟩ := lookupSlot_row _ _ _ _ hc
    exact scalarSwizzle_rows row hr
  · obtain ⟨hn, hall⟩ := slotsOf_ok _ _ hs
    refine .swizzleV he hl (List.ne_nil_of_length_pos (hn ▸ List.length_pos_iff.mpr hname)) (Nat.le_trans hlen maxSlots_rows.2.1) fun k hk => ?_
    obtain ⟨c, hc⟩ := hall k hk
    exact lookupSlot_lt _ _ _ _ vectorSwizzle_rows hc
  · obtain ⟨hne, hlen, hb⟩ := readMatrix_ok x y _ _ _ _ _ slots (minv_start x y) hs
    exact .mswizzle he hl hne (Nat.le_trans hlen maxSlots_rows.2.2) hb

theorem elabMember_rvalue {name : String} {e n : IExpr} {τ τ' : ETy} (hv : τ.vt = .rvalue)
    (h : elabMember Γ name e τ = .ok (n, τ')) : τ'.vt = .rvalue := by
  obtain ⟨_, hk⟩ := elabMember_ok h
  rcases hk with ⟨_, _, _, _, _, _, _, _, rfl⟩ | ⟨_, _, _, _, _, _, rfl⟩ | ⟨_, _, _, _, _, _, _, rfl⟩ |
    ⟨_, _, _, _, _, _, _, rfl⟩
  · exact hv
  all_goals (simp only [swizzleVT, hv]; split <;> rfl)

/-- what an accepted subscript went through: the index operand was converted to the index type of the subscripted value
    (`uint` for arrays, vectors, matrices and buffers, `uint2` / `uint3` for textures), and the type of the node is what
    `Expression::get_type` says -/
theorem elabIndex_ok {a i n : IExpr} {τa τi τ : ETy} (h : elabIndex Γ a τa i τi = .ok (n, τ)) :
    ∃ it c i', indexTy Γ τa.ty.layer = .ok it ∧ find τi it = .ok (some c) ∧ applyConv c i = .ok i' ∧
      n = .index a i' ∧ typeOf Γ (.index a i') = .ok τ := by
  revert h
  fun_cases elabIndex Γ a τa i τi <;> intro h <;> cases h
  rename_i it hit c hf i' hi' hty
  exact ⟨it, c, i', hit, hf, hi', rfl, hty⟩

theorem elabIndex_index_exact {a i n : IExpr} {τa τi τ : ETy} (hi : HasType Γ i τi)
    (h : elabIndex Γ a τa i τi = .ok (n, τ)) :
    ∃ i' ti it, n = .index a i' ∧ HasType Γ i' ti ∧ indexTy Γ τa.ty.layer = .ok it ∧ ti.ty = it.ty := by
  obtain ⟨it, c, i', hit, hf, hi', rfl, _⟩ := elabIndex_ok h
  obtain ⟨ti, h1, h2, _⟩ := applyConv_type hi hf hi'
  exact ⟨i', ti, it, rfl, h1, hit, h2⟩

theorem elabIndex_sound {a i n : IExpr} {τa τi τ : ETy} (ha : HasType Γ a τa) (hi : HasType Γ i τi)
    (h : elabIndex Γ a τa i τi = .ok (n, τ)) : HasType Γ n τ := by
  obtain ⟨_, c, i', _, hf, hi', rfl, hty⟩ := elabIndex_ok h
  obtain ⟨ti', hti', _⟩ := applyConv_type hi hf hi'
  simp only [typeOf, typeOf_of_hasType a τa ha] at hty
  split at hty
  · rename_i s n hl
    simp at hty; subst hty
    exact .indexV ha hti' hl
  · rename_i s x y hl
    simp at hty; subst hty
    exact .indexM ha hti' hl
  · rename_i id hl
    split at hty
    · rename_i elem len ho
      simp at hty; subst hty
      exact .indexA ha hti' hl ho
    · rename_i kind elem ho
      split at hty
      · rename_i te hr
        simp at hty; subst hty
        exact .indexR ha hti' hl ho hr
      · simp at hty
    · simp at hty
  · simp at hty

/-- arrays, vectors and matrices are indexed by `uint` -/
theorem indexTy_numeric {l : Layer} (hn : l.isNumeric = true) {it : ETy} (h : indexTy Γ l = .ok it) : it = uintR := by
  unfold indexTy at h
  cases l <;> simp [Layer.isNumeric] at hn <;> simp at h <;> exact h.symm

theorem ofDim_extractScalar (s : Scalar) (d : Dim) : (Layer.ofDim s d).extractScalar = some s := by
  cases d <;> rfl

theorem ofDim_numElements {l : Layer} {s : Scalar} {d : Dim} (h : l.dim = some d) :
    (Layer.ofDim s d).numElements = l.numElements := by
  cases l <;> simp [Layer.dim] at h <;> subst h <;> rfl

theorem ctorSlot_sound {s : Scalar} {e e' : IExpr} {τ : ETy} {ar : Nat} (he : HasType Γ e τ)
    (h : ctorSlot s e τ = .ok (e', ar)) : ∃ τ', HasType Γ e' τ' ∧ SlotOk s ar τ' := by
  revert h
  fun_cases ctorSlot s e τ <;> intro h <;> cases h
  rename_i d hd c hf ha
  obtain ⟨τ', h1, h2, _⟩ := applyConv_type he hf ha
  refine ⟨τ', h1, ?_, ?_, ?_⟩
  · rw [h2]; rfl
  · rw [h2]; exact ofDim_extractScalar s d
  · rw [h2]; exact ofDim_numElements hd

end RsslVerif.Lemmas.ElabNewX
