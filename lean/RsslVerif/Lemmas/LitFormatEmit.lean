import RsslVerif.Lemmas.LitFormat
/-!
# `format_literal` followed by the lexer (C10 `emit_value_exact`)

What `Thm.C10.emit_*` rest on: the closed form of `fmtFloat` on a finite value (`fmtFloat_finite`, `fmtFloat_negative`),
a plain decimal with its suffix read back as one token (`plainDec_token`), and the values that need no assumption about
`Display` (`whole_roundtrip`, `narrow32_widen`).
-/
namespace RsslVerif.Model.LitFormat
open RsslVerif.Model.Lexer RsslVerif.Spec RsslVerif.Gen.LexTables

/-- **narrow32_widen**: `(v as f64) as f32 = v` for every finite single (zero, subnormal, normal): the double with the
same value narrows back to the single -/
theorem narrow32_widen (mag : Nat) (hfin : mag < Dec2Bin.binary32.infBits) : Dec2Bin.narrow32 (widen32 mag) = mag := by
  by_cases h0 : mag = 0
  · subst h0; decide
  · unfold widen32
    dsimp only
    split
    · rename_i hq
      apply Dec2Bin.finite_single_through_double mag (by omega) hfin _ 1 (by omega)
      have : (-(Dec2Bin.decode Dec2Bin.binary32 mag).2).toNat = 0 := by omega
      rw [this]
    · rename_i hq
      apply Dec2Bin.finite_single_through_double mag (by omega) hfin _ _ (Nat.two_pow_pos _)
      have : (Dec2Bin.decode Dec2Bin.binary32 mag).2.toNat = 0 := by omega
      rw [this]; simp

/-- the suffix type the lexer reads back from the suffix `format_literal` writes (`none` for an integer kind) -/
def Kind.floatType? : Kind → Option (Option FloatType)
  | .float => some none
  | .f16 => some (some .Half)
  | .f32 => some (some .Float)
  | .f64 => some (some .Double)
  | _ => none

def Kind.intType? : Kind → Option (Option IntType)
  | .int => some none
  | .u32 => some (some .Unsigned32)
  | .u64 => some (some .Unsigned64)
  | .s64 => some (some .Signed64)
  | _ => none

/-- the token that carries a float of kind `k` with the (non-negative) bit pattern `mag` -/
def floatTok : Kind → Nat → Token
  | .f16, b => .litFloat16 b
  | .f32, b => .litFloat32 b
  | .f64, b => .litFloat64 b
  | _, b => .litFloat b

theorem digitByte_eq : @LitFormat.digitByte = @Lexer.digitByte := rfl

theorem kind_facts (k : Kind) (ty : Option FloatType) (hk : k.floatType? = some ty) :
    k.suffix = floatSuffix ty ∧ (k.fmt = Dec2Bin.binary64 ∨ k.fmt = Dec2Bin.binary32) ∧
    (∀ v, mkFloatToken v ty = floatTok k (narrowOnce ty v)) ∧
    (k.fmt = Dec2Bin.binary64 → ∀ v, narrowOnce ty v = v) ∧
    (k.fmt = Dec2Bin.binary32 → ∀ v, narrowOnce ty v = Dec2Bin.narrow32 v) := by
  cases k <;> simp [Kind.floatType?] at hk <;> subst hk <;>
    simp [Kind.suffix, floatSuffix, Kind.fmt, mkFloatToken, floatTok, narrowOnce, Dec2Bin.binary64, Dec2Bin.binary32]

/-- the only failure of `write_infinity_*`: the double kind on Metal -/
theorem infText_error {k : Kind} {msl : Bool} {e : String} (h : infText k msl = .error e) :
    e = "panic: invalid msl" ∧ k = .f64 ∧ msl = true := by
  revert h
  fun_cases infText k msl <;> intro h <;> cases h
  exact ⟨rfl, ‹_›, ‹_›⟩

/-- `format_literal` fails only on a NaN, at the `invalid msl` panic site (an infinite double printed for Metal), or —
the model leaving its subset — when the `Display` text of a single is not a plain decimal -/
theorem fmtFloat_error {k : Kind} {msl : Bool} {bits : Nat} {disp disp64 : Bytes} {e : String}
    (h : fmtFloat k msl bits disp disp64 = .error e) :
    (e = "NaN" ∧ k.fmt.infBits < bits % signBit k.fmt) ∨
    (e = "panic: invalid msl" ∧ k = .f64 ∧ msl = true ∧ bits % signBit k.fmt = k.fmt.infBits) ∨
    (e = notPlain ∧ (k = .f16 ∨ k = .f32) ∧
      roundTwice? (decide (signBit k.fmt ≤ bits)) (bits % signBit k.fmt) disp = none) := by
  revert h
  fun_cases fmtFloat k msl bits disp disp64 <;> intro h <;> cases h
  case case1 hnan => exact .inl ⟨rfl, hnan⟩
  case case3 _ hinf hi =>
    obtain ⟨he, hk, hm⟩ := infText_error hi
    exact .inr (.inl ⟨he, hk, hm, hinf⟩)
  case case10 hs hr => exact .inr (.inr ⟨rfl, hs, hr⟩)

theorem wholeValue?_zero (f : Dec2Bin.Fmt) : wholeValue? f 0 = some 0 := by
  simp [wholeValue?, Dec2Bin.decode]

theorem whole_rational (f : Dec2Bin.Fmt) (mag n : Nat) (hw : wholeValue? f mag = some n) :
    n * 2 ^ (-(Dec2Bin.decode f mag).2).toNat =
      (Dec2Bin.decode f mag).1 * 2 ^ (Dec2Bin.decode f mag).2.toNat * 1 := by
  revert hw
  fun_cases wholeValue? f mag <;> intro hw <;> cases hw
  · have hq : 0 ≤ (Dec2Bin.decode f mag).2 := ‹_›
    rw [show (-(Dec2Bin.decode f mag).2).toNat = 0 by omega]
  · have hq : ¬ 0 ≤ (Dec2Bin.decode f mag).2 := ‹_›
    have hmod : (Dec2Bin.decode f mag).1 % 2 ^ (-(Dec2Bin.decode f mag).2).toNat = 0 := ‹_›
    rw [show (Dec2Bin.decode f mag).2.toNat = 0 by omega]
    simp
    exact Nat.div_mul_cancel (Nat.dvd_of_mod_eq_zero hmod)

theorem nearest64_int (L : List Nat) (hL : ∀ d ∈ L, d < 10) :
    Dec2Bin.nearest64 L 0 = Dec2Bin.nearestRat Dec2Bin.binary64 (Dec2Bin.ofDigits 10 L) 1 := by
  rw [Dec2Bin.nearest64_eq_nearestRat L 0 hL]; simp

/-- **whole_roundtrip**: a whole finite value, read as the nearest double and narrowed once for a single, is itself -/
theorem whole_roundtrip (k : Kind) (ty : Option FloatType) (hk : k.floatType? = some ty) (mag n : Nat)
    (hfin : mag < k.fmt.infBits) (hw : wholeValue? k.fmt mag = some n) :
    narrowOnce ty (Dec2Bin.nearestRat Dec2Bin.binary64 n 1) = mag := by
  obtain ⟨_, hfmt, _, h64, h32⟩ := kind_facts k ty hk
  by_cases h0 : mag = 0
  · subst h0
    rw [wholeValue?_zero] at hw
    cases hw
    rcases hfmt with hf | hf
    · rw [h64 hf]; simp [Dec2Bin.nearestRat]
    · rw [h32 hf]; simp [Dec2Bin.nearestRat, Dec2Bin.narrow32, Dec2Bin.decode, Dec2Bin.binary64, Dec2Bin.Fmt.infBits]
  · have hpos : 0 < mag := Nat.pos_of_ne_zero h0
    have hr := whole_rational k.fmt mag n hw
    rcases hfmt with hf | hf
    · rw [h64 hf]
      rw [hf] at hr hfin
      exact Dec2Bin.nearestRat_of_bits Dec2Bin.binary64 (by decide) mag hpos hfin n 1 (by omega) hr
    · rw [h32 hf]
      rw [hf] at hr hfin
      exact Dec2Bin.finite_single_through_double mag hpos hfin n 1 (by omega) hr

theorem signBit_gt (f : Dec2Bin.Fmt) (hf : f = Dec2Bin.binary64 ∨ f = Dec2Bin.binary32) : f.infBits < signBit f := by
  rcases hf with h | h <;> subst h <;> decide

/-- a plain decimal text: the digits `L`, and `.` followed by the digits `R` when there are any -/
def plainDec (L R : List Nat) : Bytes := L.map Lexer.digitByte ++ (if R = [] then [] else 46 :: R.map Lexer.digitByte)

theorem plainDec_dotZero (L : List Nat) : plainDec L [0] = L.map Lexer.digitByte ++ dotZero := rfl

/-- the text `<digits>.<digits><suffix>` of digit runs whose reading is the value -/
theorem plainDec_token (k : Kind) (ty : Option FloatType) (hk : k.floatType? = some ty) (mag : Nat)
    (rest : Bytes) (hb : Boundary rest) (inc : Bool) (A B : List Nat) (hA : A ≠ []) (hB : B ≠ [])
    (hAB : ∀ d ∈ A ++ B, d < 10)
    (hval : narrowOnce ty (Dec2Bin.nearest64 (A ++ B) (0 - (B.length : Nat))) = mag) :
    tokenIntermediate ((plainDec A B ++ k.suffix) ++ rest) inc = .ok (rest, floatTok k mag) := by
  obtain ⟨hsfx, _, htok, _, _⟩ := kind_facts k ty hk
  subst hval
  cases A with
  | nil => exact absurd rfl hA
  | cons a A' =>
    cases B with
    | nil => exact absurd rfl hB
    | cons b B' =>
      -- the numeral `A.B` with the printed suffix and no exponent
      have h := numeral_one_token (.point a A' (b :: B') none (printedSuffix ty))
        ⟨fun d hd => hAB d (List.mem_append_left _ hd), fun d hd => hAB d (List.mem_append_right _ hd), nofun⟩
        rest hb inc
      simpa [Numeral.bytes, Numeral.token, Numeral.digits, Numeral.expValue, Numeral.fracLen, Numeral.suffixType,
        expBytes, suffixBytes_printed, printedSuffix_ty, plainDec, hsfx, htok] using h

theorem noDigitHead_nil : NoDigitHead [] := fun _ _ h => by cases h

theorem noDigitHead_dot (r : Bytes) : NoDigitHead (46 :: r) := by
  intro b r' h
  simp at h
  rw [← h.1]; decide

theorem parsePlain_plainDec (L R : List Nat) (hL : L ≠ []) (hdig : ∀ d ∈ L ++ R, d < 10) :
    parsePlain (plainDec L R) = some (L, R) := by
  have hLd : ∀ d ∈ L, d < 10 := fun d hd => hdig d (List.mem_append_left _ hd)
  have hRd : ∀ d ∈ R, d < 10 := fun d hd => hdig d (List.mem_append_right _ hd)
  unfold parsePlain plainDec
  by_cases hR : R = []
  · subst hR
    rw [if_pos rfl, spanDigits_digits L hLd [] noDigitHead_nil]
    cases L with
    | nil => exact absurd rfl hL
    | cons l L' => rfl
  · rw [if_neg hR, spanDigits_digits L hLd _ (noDigitHead_dot _)]
    have h2 : spanDigits (R.map Lexer.digitByte) = (R, []) := by
      have := spanDigits_digits R hRd [] noDigitHead_nil
      simpa using this
    cases L with
    | nil => exact absurd rfl hL
    | cons l L' =>
      cases R with
      | nil => exact absurd rfl hR
      | cons r R' =>
        simp only []
        rw [h2]

theorem kind_single (k : Kind) (ty : Option FloatType) (hk : k.floatType? = some ty) :
    (k = .f16 ∨ k = .f32) ↔ k.fmt = Dec2Bin.binary32 := by
  cases k <;> simp [Kind.floatType?] at hk <;> simp [Kind.fmt, Dec2Bin.binary64, Dec2Bin.binary32]

/-- how `fmtFloat` continues for a finite non-negative value that is not printed by name -/
theorem fmtFloat_finite (k : Kind) (ty : Option FloatType) (hk : k.floatType? = some ty) (msl : Bool)
    (mag : Nat) (hfin : mag < k.fmt.infBits) (hmax : ¬ (k = .f32 ∧ msl = true ∧ mag = k.fmt.infBits - 1))
    (disp disp64 : Bytes) :
    fmtFloat k msl mag disp disp64 =
      (match wholeValue? k.fmt mag with
       | some n =>
         if n ≤ 2 ^ 63 then .ok (decText (Nat.min n (2 ^ 63 - 1)) ++ dotZero ++ k.suffix)
         else .ok (disp ++ dotZero ++ k.suffix)
       | none =>
         if k = .f16 ∨ k = .f32 then
           (match roundTwice? false mag disp with
            | some true => .ok (disp64 ++ k.suffix)
            | some false => .ok (disp ++ k.suffix)
            | none => .error notPlain)
         else .ok (disp ++ k.suffix)) := by
  obtain ⟨_, hfmt, _, _, _⟩ := kind_facts k ty hk
  have hsb := signBit_gt k.fmt hfmt
  have hmod : mag % signBit k.fmt = mag := Nat.mod_eq_of_lt (by omega)
  have hnneg : ¬ signBit k.fmt ≤ mag := by omega
  unfold fmtFloat
  simp only [hmod, hnneg, decide_false, Nat.not_lt.mpr (Nat.le_of_lt hfin), Nat.ne_of_lt hfin, if_false]
  simp only [true_and, Bool.false_eq_true, and_false, if_false]
  rw [if_neg hmax]
  cases wholeValue? k.fmt mag with
  | none => rfl
  | some n => by_cases hn : n ≤ 2 ^ 63 <;> simp [hn]

/-- **fmtFloat_negative**: a finite negative value (sign bit set, magnitude `mag`; `Display` writes `-` followed by the
digits of the magnitude) is printed as `-` followed by exactly the text of the magnitude — except `-2^63`, whose
magnitude is printed exactly (`-9223372036854775808.0`) while `+2^63` saturates. -/
theorem fmtFloat_negative (k : Kind) (ty : Option FloatType) (hk : k.floatType? = some ty) (msl : Bool)
    (mag : Nat) (hfin : mag < k.fmt.infBits) (hmax : ¬ (k = .f32 ∧ msl = true ∧ mag = k.fmt.infBits - 1))
    (h63 : wholeValue? k.fmt mag ≠ some (2 ^ 63)) (disp disp64 : Bytes) :
    fmtFloat k msl (signBit k.fmt + mag) (45 :: disp) (45 :: disp64) =
      (match fmtFloat k msl mag disp disp64 with
       | .ok t => .ok (45 :: t)
       | .error e => .error e) := by
  obtain ⟨_, hfmt, _, _, _⟩ := kind_facts k ty hk
  have hsb := signBit_gt k.fmt hfmt
  have hmod : (signBit k.fmt + mag) % signBit k.fmt = mag := by
    rw [Nat.add_mod_left]; exact Nat.mod_eq_of_lt (by omega)
  have hneg : signBit k.fmt ≤ signBit k.fmt + mag := by omega
  rw [fmtFloat_finite k ty hk msl mag hfin hmax disp disp64]
  unfold fmtFloat
  simp only [hmod, hneg, decide_true, Nat.not_lt.mpr (Nat.le_of_lt hfin), Nat.ne_of_lt hfin, if_false]
  simp only [Bool.true_eq_false, false_and, and_false, if_false, and_true]
  by_cases h0 : mag = 0
  · subst h0
    rw [wholeValue?_zero]
    simp [decText, decDigits, decDigitsRev, digitByte, dotZero]
  · rw [if_neg h0]
    cases hw : wholeValue? k.fmt mag with
    | none =>
      have hrt : roundTwice? true mag (45 :: disp) = roundTwice? false mag disp := by
        simp [roundTwice?]
      simp only [List.cons_append, hrt]
      by_cases hs : k = .f16 ∨ k = .f32
      · simp only [if_pos hs]
        cases roundTwice? false mag disp with
        | none => rfl
        | some b => cases b <;> rfl
      · simp only [if_neg hs]
    | some n =>
      have hn63 : n ≠ 2 ^ 63 := by intro h; subst h; exact h63 hw
      by_cases hn : n ≤ 2 ^ 63
      · have hmin : Nat.min n (2 ^ 63 - 1) = n := Nat.min_eq_left (by omega)
        simp [hn, hmin]
      · simp [hn]

end RsslVerif.Model.LitFormat
