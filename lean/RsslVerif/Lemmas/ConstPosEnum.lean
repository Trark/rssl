import RsslVerif.Lemmas.ConstEvalNoPanic
import RsslVerif.Lemmas.ConstPos
/-!
# Enum definitions: the enumerator sequence has C semantics and the underlying type is deduced from the range (C13)

Model: `Model.ConstPos.defineEnum` (`parse_rootdefinition_enum` + `end_enum`).  Specification: `EnumSeq` — an
enumerator with an initialiser has the value of the initialiser (as `Spec.HlslConst.eval` defines it; an enum-typed
initialiser through its underlying type), the first enumerator without initialiser is 0, every other one is its
predecessor plus one — and the underlying type is `int` when 0 and all values fit `int`, else `uint`.
-/
namespace RsslVerif.Lemmas.ConstPos
open RsslVerif.Gen.EvalTable RsslVerif.Gen.PosTable RsslVerif.Model.ConstEval RsslVerif.Model.ConstPos
open RsslVerif.Lemmas.ConstEval

/-- **C semantics of an enumerator list.**  `EnumSeq prev ms vs`: `vs` are the values of the enumerators `ms` when
the previous enumerator (if any) has the value `prev`. -/
inductive EnumSeq : Option Int → List Member → List Int → Prop
  | nil (p : Option Int) : EnumSeq p [] []
  | explicit (p : Option Int) (cls : Cls) (e e' : Expr) (c : Constant) (v : Int) (rest : List Member) (vs : List Int) :
      memberExpr cls e = some e' → S.eval e' = some c → intValue c = some v →
      EnumSeq (some v) rest vs → EnumSeq p (some (cls, e) :: rest) (v :: vs)
  | first (rest : List Member) (vs : List Int) : EnumSeq (some 0) rest vs → EnumSeq none (none :: rest) (0 :: vs)
  | next (p : Int) (rest : List Member) (vs : List Int) :
      EnumSeq (some (p + 1)) rest vs → EnumSeq (some p) (none :: rest) ((p + 1) :: vs)

/-- `end_enum` widens exactly the constants that have an integer value, and panics on the others -/
theorem widen_eq (c : Constant) :
    widen c = match intValue c with | some v => .ok v | none => .error (.panic enumRangePanic) := by
  cases c <;> rfl

theorem widen_ok {c : Constant} {v : Int} (h : widen c = .ok v) : intValue c = some v := by
  rw [widen_eq] at h
  split at h <;> cases h
  assumption

/-- the explicit branch of `memberValue`, with the table lookups resolved -/
theorem memberValue_some (i : Nat) (last : Option Constant) (cls : Cls) (e : Expr) :
    memberValue i last (some (cls, e)) =
      (match memberExpr cls e with
       | none => .error (.mustBeInteger i)
       | some e' =>
         match eval e' with
         | .ok c => .ok c
         | .error .notConst => .error (.notConstant i)
         | .error (.panic msg) => .error (.panic msg)
         | .error .stuck => .error .stuck) := by
  cases cls with
  | scalar s =>
    cases s <;> simp [memberValue, memberExpr, enumAllowed] <;>
      (cases eval e with | ok c => rfl | error err => cases err <;> rfl)
  | enum id u =>
    simp [memberValue, memberExpr, enumCastsEnumTyped]
    cases eval (Expr.cast (Ty.scalar u) e) with | ok c => rfl | error err => cases err <;> rfl
  | other => simp [memberValue, memberExpr]

theorem memberExpr_wf {cls : Cls} {e e' : Expr} (h : memberExpr cls e = some e') (hw : wfE e = true) : wfE e' = true := by
  cases cls with
  | scalar s => simp only [memberExpr] at h; split at h <;> cases h; exact hw
  | enum i u => simp only [memberExpr] at h; cases h; simpa [wfE] using hw
  | other => simp [memberExpr] at h

theorem memberValue_explicit {i : Nat} {last : Option Constant} {cls : Cls} {e : Expr} {c : Constant}
    (hw : wfE e = true) (h : memberValue i last (some (cls, e)) = .ok c) :
    ∃ e', memberExpr cls e = some e' ∧ S.eval e' = some c := by
  rw [memberValue_some] at h
  cases he : memberExpr cls e with
  | none => simp [he] at h
  | some e' =>
    simp only [he] at h
    cases hev : eval e' with
    | error err => cases err <;> simp [hev] at h
    | ok c' =>
      simp only [hev] at h
      cases h
      exact ⟨e', rfl, (eval_agrees e' (memberExpr_wf he hw) _ hev).1⟩

/-- `nextValue` with the table looked up: the three integer kinds take the checked successor, `bool` continues as `int` -/
theorem nextValue_eq (i : Nat) (l : Constant) :
    nextValue i l = match l with
      | .bool b => .ok (.int32 ((if b then 1 else 0) + 1))
      | .intLit v => if v + 1 ≤ 2 ^ 127 - 1 then .ok (.intLit (v + 1)) else .error (.overflow i)
      | .int32 v => if v + 1 ≤ 2 ^ 31 - 1 then .ok (.int32 (v + 1)) else .error (.overflow i)
      | .uint32 v => if v + 1 ≤ 2 ^ 32 - 1 then .ok (.uint32 (v + 1)) else .error (.overflow i)
      | _ => .error (.panic enumNextPanic) := by
  cases l <;> rfl

/-- the enumerator after `l` when it exists: one more -/
theorem nextValue_ok {i : Nat} {l c : Constant} (h : nextValue i l = .ok c) :
    ∃ p, intValue l = some p ∧ intValue c = some (p + 1) := by
  rw [nextValue_eq] at h
  cases l with
  | bool b => cases h; exact ⟨_, rfl, rfl⟩
  | intLit v | int32 v | uint32 v => dsimp only at h; split at h <;> cases h; exact ⟨v, rfl, rfl⟩
  | _ => cases h

theorem widenAll_cons {c : Constant} {cs : List Constant} {vs : List Int} (h : widenAll (c :: cs) = .ok vs) :
    ∃ v vs', vs = v :: vs' ∧ widen c = .ok v ∧ widenAll cs = .ok vs' := by
  simp only [widenAll] at h
  cases hw : widen c with
  | error e => simp [hw] at h
  | ok v =>
    simp only [hw] at h
    cases hr : widenAll cs with
    | error e => simp [hr] at h
    | ok vs' => simp only [hr] at h; cases h; exact ⟨v, vs', rfl, rfl, rfl⟩

theorem collect_cons {i : Nat} {last : Option Constant} {m : Member} {rest : List Member} {cs : List Constant}
    (h : collect i last (m :: rest) = .ok cs) :
    ∃ c cs', cs = c :: cs' ∧ memberValue i last m = .ok c ∧ collect (i + 1) (some c) rest = .ok cs' := by
  simp only [collect] at h
  cases hm : memberValue i last m with
  | error e => simp [hm] at h
  | ok c =>
    simp only [hm] at h
    cases hr : collect (i + 1) (some c) rest with
    | error e => simp [hr] at h
    | ok cs' => simp only [hr] at h; cases h; exact ⟨c, cs', rfl, rfl, hr⟩

/-- **the enumerator sequence has C semantics** (before the underlying type is chosen) -/
theorem collect_seq : ∀ (ms : List Member) (i : Nat) (last : Option Constant) (cs : List Constant) (vs : List Int),
    membersWf ms = true → collect i last ms = .ok cs → widenAll cs = .ok vs →
    EnumSeq (last.bind intValue) ms vs := by
  intro ms
  induction ms with
  | nil =>
    intro i last cs vs _ hc hw
    cases hc
    cases hw
    exact .nil _
  | cons m rest ih =>
    intro i last cs vs hmw hc hw
    obtain ⟨c, cs', rfl, hmv, hrest⟩ := collect_cons hc
    obtain ⟨v, vs', rfl, hwc, hwr⟩ := widenAll_cons hw
    have hiv := widen_ok hwc
    cases m with
    | some ce =>
      obtain ⟨cls, e⟩ := ce
      have hwe : wfE e = true ∧ membersWf rest = true := by simpa [membersWf] using hmw
      obtain ⟨e', he', hs⟩ := memberValue_explicit hwe.1 hmv
      have := ih (i + 1) (some c) cs' vs' hwe.2 hrest hwr
      simp only [Option.bind, hiv] at this
      exact .explicit _ cls e e' c v rest vs' he' hs hiv this
    | none =>
      have := ih (i + 1) (some c) cs' vs' hmw hrest hwr
      simp only [Option.bind, hiv] at this
      cases last with
      | none =>
        cases hmv
        cases hiv
        exact .first rest vs' this
      | some l =>
        obtain ⟨p, hp, hc1⟩ := nextValue_ok (i := i) hmv
        cases hiv.symm.trans hc1
        simp only [Option.bind, hp]
        exact .next p rest vs' this

/-- a fold that keeps one of its two arguments satisfies `P` exactly when everything it saw does -/
theorem foldl_all {α : Type} {P : α → Prop} {f : α → α → α} (hf : ∀ a v, P (f a v) ↔ P a ∧ P v) (vs : List α) (a : α) :
    P (vs.foldl f a) ↔ P a ∧ ∀ v ∈ vs, P v := by
  induction vs generalizing a with
  | nil => simp
  | cons x r ih => simp only [List.foldl, ih, hf, List.mem_cons, forall_eq_or_imp, and_assoc]

/-- all of `0 :: vs` lie in `[lo, hi]` -/
def AllIn (lo hi : Int) (vs : List Int) : Prop := lo ≤ 0 ∧ 0 ≤ hi ∧ ∀ v ∈ vs, lo ≤ v ∧ v ≤ hi

theorem allIn_iff (lo hi : Int) (vs : List Int) : AllIn lo hi vs ↔ (lo ≤ minOf vs ∧ maxOf vs ≤ hi) := by
  unfold AllIn minOf maxOf
  rw [foldl_all (P := (lo ≤ ·)) (fun a v => by split <;> omega), foldl_all (P := (· ≤ hi)) (fun a v => by split <;> omega)]
  exact ⟨fun ⟨a, b, c⟩ => ⟨⟨a, fun v hv => (c v hv).1⟩, b, fun v hv => (c v hv).2⟩,
    fun ⟨⟨a, c⟩, b, d⟩ => ⟨a, b, fun v hv => ⟨c v hv, d v hv⟩⟩⟩

/-- the candidates are `int`, then `uint` -/
theorem pickUnderlying_eq (lo hi : Int) :
    pickUnderlying lo hi enumCandidates =
      if -(2 ^ 31) ≤ lo ∧ hi ≤ 2 ^ 31 - 1 then .ok .Int32
      else if 0 ≤ lo ∧ hi ≤ 2 ^ 32 - 1 then .ok .UInt32 else .error (.cannotDeduce lo hi) := rfl

/-- the final constant of an enumerator: its value in the underlying type -/
def mk (s : Scalar) (v : Int) : Constant := if s = .UInt32 then .uint32 v else .int32 v

theorem convertAll_eq {s : Scalar} {vs : List Int} (h : ∀ v ∈ vs, convertTo s v = .ok (mk s v)) :
    convertAll s vs = .ok (vs.map (mk s)) := by
  induction vs with
  | nil => rfl
  | cons v r ih =>
    simp only [convertAll, h v (.head _), ih fun x hx => h x (.tail _ hx), List.map]

theorem convertTo_int {v : Int} (h : -(2 ^ 31) ≤ v ∧ v ≤ 2 ^ 31 - 1) : convertTo .Int32 v = .ok (mk .Int32 v) := by
  have hr : i32.inRange v = true := inRange_iff.2 h
  simp [convertTo, wrap_i32, toInt_bv hr, mk]

theorem convertTo_uint {v : Int} (h : 0 ≤ v ∧ v ≤ 2 ^ 32 - 1) : convertTo .UInt32 v = .ok (mk .UInt32 v) := by
  have hr : u32.inRange v = true := inRange_iff.2 h
  simp [convertTo, wrap_u32, toNat_bv hr, mk]

/-- what `defineEnum ms` can return: the error of the stage that fails, or what the range of the values `vs` decides -/
inductive Outcome (ms : List Member) : Except EnumErr (Scalar × List Constant) → Prop
  | member (e : EnumErr) : collect 0 none ms = .error e → Outcome ms (.error e)
  | widen (cs : List Constant) (e : EnumErr) : collect 0 none ms = .ok cs → widenAll cs = .error e → Outcome ms (.error e)
  | int (cs : List Constant) (vs : List Int) : collect 0 none ms = .ok cs → widenAll cs = .ok vs →
      AllIn (-(2 ^ 31)) (2 ^ 31 - 1) vs → Outcome ms (.ok (.Int32, vs.map (mk .Int32)))
  | uint (cs : List Constant) (vs : List Int) : collect 0 none ms = .ok cs → widenAll cs = .ok vs →
      ¬ AllIn (-(2 ^ 31)) (2 ^ 31 - 1) vs → AllIn 0 (2 ^ 32 - 1) vs → Outcome ms (.ok (.UInt32, vs.map (mk .UInt32)))
  | range (cs : List Constant) (vs : List Int) : collect 0 none ms = .ok cs → widenAll cs = .ok vs →
      ¬ AllIn (-(2 ^ 31)) (2 ^ 31 - 1) vs → ¬ AllIn 0 (2 ^ 32 - 1) vs →
      Outcome ms (.error (.cannotDeduce (minOf vs) (maxOf vs)))

theorem defineEnum_outcome (ms : List Member) : Outcome ms (defineEnum ms) := by
  unfold defineEnum
  cases hc : collect 0 none ms with
  | error e => exact .member e hc
  | ok cs =>
    dsimp only
    cases hw : widenAll cs with
    | error e => exact .widen cs e hc hw
    | ok vs =>
      dsimp only
      rw [pickUnderlying_eq]
      by_cases h1 : AllIn (-(2 ^ 31)) (2 ^ 31 - 1) vs
      · rw [if_pos ((allIn_iff ..).1 h1)]
        dsimp only
        rw [convertAll_eq fun v hv => convertTo_int (h1.2.2 v hv)]
        exact .int cs vs hc hw h1
      · rw [if_neg (mt (allIn_iff ..).2 h1)]
        by_cases h2 : AllIn 0 (2 ^ 32 - 1) vs
        · rw [if_pos ((allIn_iff ..).1 h2)]
          dsimp only
          rw [convertAll_eq fun v hv => convertTo_uint (h2.2.2 v hv)]
          exact .uint cs vs hc hw h1 h2
        · rw [if_neg (mt (allIn_iff ..).2 h2)]
          exact .range cs vs hc hw h1 h2

theorem collect_error {ms : List Member} {i : Nat} {last : Option Constant} {e : EnumErr}
    (h : collect i last ms = .error e) : ∃ i' last' m, memberValue i' last' m = .error e := by
  revert h
  fun_induction collect i last ms <;> intro h <;> cases h
  · exact ⟨_, _, _, ‹_›⟩
  · rename_i ih hr; exact ih hr

theorem widenAll_error {cs : List Constant} {e : EnumErr} (h : widenAll cs = .error e) : ∃ c ∈ cs, widen c = .error e := by
  revert h
  fun_induction widenAll cs <;> intro h <;> cases h
  · exact ⟨_, .head _, ‹_›⟩
  · rename_i ih hr
    obtain ⟨c', hc', hw'⟩ := ih hr
    exact ⟨c', .tail _ hc', hw'⟩

theorem memberValue_ne_cannotDeduce (i : Nat) (last : Option Constant) (m : Member) (lo hi : Int) :
    memberValue i last m ≠ .error (.cannotDeduce lo hi) := by
  intro hm
  cases m with
  | none =>
    cases last with
    | none => simp [memberValue, enumFirst, mkInt] at hm
    | some l =>
      have hm : nextValue i l = _ := hm
      rw [nextValue_eq] at hm
      cases l with
      | intLit v | int32 v | uint32 v => dsimp only at hm; split at hm <;> cases hm
      | _ => cases hm
  | some ce =>
    obtain ⟨cls, e⟩ := ce
    rw [memberValue_some] at hm
    split at hm
    · cases hm
    · split at hm <;> cases hm

theorem widen_ne_cannotDeduce (c : Constant) (lo hi : Int) : widen c ≠ .error (.cannotDeduce lo hi) := by
  rw [widen_eq]
  split <;> nofun

theorem memberExpr_kindsOk {cls : Cls} {e e' : Expr} (h : memberExpr cls e = some e') (hk : kindsOk e = true) :
    kindsOk e' = true := by
  cases cls with
  | scalar s => simp only [memberExpr] at h; split at h <;> cases h; exact hk
  | enum i u => simp only [memberExpr] at h; cases h; simpa [kindsOk] using hk
  | other => simp [memberExpr] at h

/-- after an integer-like enumerator: no panic, and the next one is integer-like again -/
theorem nextValue_safe {i : Nat} {l : Constant} (hl : intLike l = true) :
    (∀ msg, nextValue i l ≠ .error (.panic msg)) ∧ ∀ c, nextValue i l = .ok c → intLike c = true := by
  rw [nextValue_eq]
  cases l with
  | bool b => exact ⟨nofun, fun c h => by cases h; rfl⟩
  | intLit v | int32 v | uint32 v =>
    dsimp only
    split
    · exact ⟨nofun, fun c h => by cases h; rfl⟩
    · exact ⟨nofun, nofun⟩
  | _ => cases hl

/-- one member under `membersOk`: no panic, and a value is integer-like -/
theorem memberValue_safe {i : Nat} {last : Option Constant} {m : Member} {rest : List Member}
    (hok : membersOk (m :: rest) = true) (hl : ∀ l, last = some l → intLike l = true) :
    (∀ msg, memberValue i last m ≠ .error (.panic msg)) ∧
    (∀ c, memberValue i last m = .ok c → intLike c = true) ∧ membersOk rest = true := by
  cases m with
  | none =>
    cases last with
    | none => exact ⟨nofun, fun c h => by cases h; rfl, hok⟩
    | some l => exact ⟨(nextValue_safe (hl l rfl)).1, (nextValue_safe (hl l rfl)).2, hok⟩
  | some ce =>
    obtain ⟨cls, e⟩ := ce
    simp only [membersOk, Bool.and_eq_true] at hok
    obtain ⟨⟨⟨hwe, hke⟩, hkind⟩, hr⟩ := hok
    rw [memberValue_some]
    cases he : memberExpr cls e with
    | none => exact ⟨nofun, nofun, hr⟩
    | some e' =>
      simp only [he] at hkind ⊢
      cases hev : eval e' with
      | ok c =>
        simp only [hev] at hkind
        exact ⟨nofun, fun c' h => by cases h; exact hkind, hr⟩
      | error err =>
        cases err with
        | panic m => exact absurd hev (eval_noPanic e' (memberExpr_wf he hwe) (memberExpr_kindsOk he hke) m)
        | _ => exact ⟨nofun, nofun, hr⟩

theorem collect_noPanic : ∀ (ms : List Member) (i : Nat) (last : Option Constant),
    membersOk ms = true → (∀ l, last = some l → intLike l = true) →
    (∀ msg, collect i last ms ≠ .error (.panic msg)) ∧
    (∀ cs, collect i last ms = .ok cs → ∀ c ∈ cs, intLike c = true)
  | [], _, _, _, _ => by simp [collect]
  | m :: rest, i, last, hok, hl => by
    obtain ⟨hm1, hm2, hr⟩ := memberValue_safe (i := i) hok hl
    have ih := fun c (hc : memberValue i last m = .ok c) =>
      collect_noPanic rest (i + 1) (some c) hr (by intro l hl'; cases hl'; exact hm2 c hc)
    constructor
    · intro msg h
      simp only [collect] at h
      split at h
      · rename_i hm; cases h; exact hm1 msg hm
      · rename_i c hm
        split at h
        · rename_i hc; cases h; exact (ih c hm).1 msg hc
        · cases h
    · intro cs h x hx
      obtain ⟨c, cs', rfl, hmv, hrest⟩ := collect_cons h
      rcases List.mem_cons.mp hx with rfl | hx
      · exact hm2 _ hmv
      · exact (ih c hmv).2 cs' hrest x hx

theorem widenAll_noPanic (cs : List Constant) (h : ∀ c ∈ cs, intLike c = true) (msg : String) :
    widenAll cs ≠ .error (.panic msg) := by
  intro hh
  obtain ⟨c, hc, hw⟩ := widenAll_error hh
  have hi := h c hc
  rw [widen_eq] at hw
  cases c <;> cases hi <;> cases hw

theorem defineEnum_noPanic (ms : List Member) (hok : membersOk ms = true) (msg : String) :
    defineEnum ms ≠ .error (.panic msg) := by
  intro h
  obtain ⟨c1, c2⟩ := collect_noPanic ms 0 none hok nofun
  have o := defineEnum_outcome ms
  rw [h] at o
  cases o with
  | member _ hc => exact c1 msg hc
  | widen cs _ hc hw => exact widenAll_noPanic cs (c2 cs hc) msg hw

end RsslVerif.Lemmas.ConstPos
