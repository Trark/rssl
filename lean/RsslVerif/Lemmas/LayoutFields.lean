import RsslVerif.Lemmas.Layout
/-!
# Structural agreement = equal flattened field offsets (C19)

`Spec.Layout.Agree` is structural (same relative offsets at every level, same strides).  The property speaks
about "the same byte offset for every field, recursively": the flattened list `fieldsAt`.  `agree_fields`
(Lemmas/Layout) is one direction; this file proves the converse for types of the grid, so that soundness,
completeness and "a rejection is never spurious" can all be stated in the property's own words.
-/
namespace RsslVerif.Lemmas.LayoutFields
open RsslVerif.Gen.LayoutTables RsslVerif.Model.Layout RsslVerif.Spec.Layout RsslVerif.Lemmas.Layout

theorem length_flatMap_range (f : Nat → List Nat) (c : Nat) (hf : ∀ k, (f k).length = c) :
    ∀ n, ((List.range n).flatMap f).length = n * c
  | 0 => by simp
  | n + 1 => by
    rw [List.range_succ, List.flatMap_append, List.length_append, length_flatMap_range f c hf n]
    simp [hf, Nat.succ_mul]

mutual
theorem fields_length : ∀ (t : Ty) (m m' : Mode) (b b' : Nat),
    (fieldsAt m t b).length = (fieldsAt m' t b').length
  | .scalar _, _, _, _, _ => rfl
  | .vec _ _, _, _, _, _ => rfl
  | .enum _, _, _, _, _ => rfl
  | .other _, _, _, _, _ => rfl
  | .struct ms, m, m', b, b' => by
    simp only [fieldsAt]; exact members_length ms m m' b b' 0 0
  | .arr t n, m, m', b, b' => by
    simp only [fieldsAt]
    rw [length_flatMap_range _ (1 + (fieldsAt m t 0).length) (fun k => by
          simp only [List.length_cons]; rw [fields_length t m m _ 0]; omega) n,
        length_flatMap_range _ (1 + (fieldsAt m t 0).length) (fun k => by
          simp only [List.length_cons]; rw [fields_length t m' m _ 0]; omega) n]
theorem members_length : ∀ (ts : Tys) (m m' : Mode) (b b' c c' : Nat),
    (membersAt m ts b c).length = (membersAt m' ts b' c').length
  | .nil, _, _, _, _, _, _ => rfl
  | .cons t ts, m, m', b, b', c, c' => by
    simp only [membersAt, List.length_cons, List.length_append]
    rw [fields_length t m m' _ (b' + roundUp c' (align m' t)), members_length ts m m' b b' _ _]
end

theorem flatMap_range_inj (f g : Nat → List Nat) (c : Nat) (hf : ∀ k, (f k).length = c) (hg : ∀ k, (g k).length = c) :
    ∀ n, (List.range n).flatMap f = (List.range n).flatMap g → ∀ k, k < n → f k = g k
  | 0, _, k, hk => by omega
  | n + 1, h, k, hk => by
    rw [List.range_succ, List.flatMap_append, List.flatMap_append] at h
    have hl : ((List.range n).flatMap f).length = ((List.range n).flatMap g).length := by
      rw [length_flatMap_range f c hf, length_flatMap_range g c hg]
    obtain ⟨h1, h2⟩ := List.append_inj h hl
    by_cases hkn : k < n
    · exact flatMap_range_inj f g c hf hg n h1 k hkn
    · have : k = n := by omega
      subst this
      simpa using h2

mutual
theorem fields_agree : ∀ (t : Ty), wf t = true → ∀ b, fieldsAt .hlsl t b = fieldsAt .metal t b → agreeIn t = true
  | .scalar _, _, _, _ => rfl
  | .vec _ _, _, _, _ => rfl
  | .enum _, _, _, _ => rfl
  | .other _, h, _, _ => by simp [wf] at h
  | .struct ms, hw, b, h => by
    simp only [wf] at hw
    simp only [fieldsAt] at h
    obtain ⟨h1, h2⟩ := members_agree ms hw b 0 0 h
    simp only [agreeIn, Bool.and_eq_true, beq_iff_eq]
    exact ⟨h1, h2⟩
  | .arr t n, hw, b, h => by
    simp only [wf, Bool.and_eq_true, decide_eq_true_eq] at hw
    simp only [fieldsAt] at h
    have hc := flatMap_range_inj
      (fun k => (b + k * stride .hlsl t) :: fieldsAt .hlsl t (b + k * stride .hlsl t))
      (fun k => (b + k * stride .metal t) :: fieldsAt .metal t (b + k * stride .metal t))
      (1 + (fieldsAt .hlsl t 0).length)
      (fun k => by simp only [List.length_cons]; rw [fields_length t .hlsl .hlsl _ 0]; omega)
      (fun k => by simp only [List.length_cons]; rw [fields_length t .metal .hlsl _ 0]; omega)
      n h
    have h0 := hc 0 (by omega)
    simp only [Nat.zero_mul, Nat.add_zero, List.cons.injEq, true_and] at h0
    have ih := fields_agree t hw.2 b h0
    simp only [agreeIn, Bool.or_eq_true, Bool.and_eq_true, beq_iff_eq, decide_eq_true_eq]
    refine Or.inr ⟨?_, ih⟩
    by_cases h1 : n ≤ 1
    · exact Or.inl h1
    · have := hc 1 (by omega)
      simp only [Nat.one_mul, List.cons.injEq] at this
      exact Or.inr (by omega)
theorem members_agree : ∀ (ts : Tys), wfAll ts = true → ∀ b cH cM,
    membersAt .hlsl ts b cH = membersAt .metal ts b cM →
    offsets .hlsl ts cH = offsets .metal ts cM ∧ agreeInAll ts = true
  | .nil, _, _, _, _, _ => ⟨rfl, rfl⟩
  | .cons t ts, hw, b, cH, cM, h => by
    simp only [wfAll, Bool.and_eq_true] at hw
    simp only [membersAt, List.cons.injEq] at h
    obtain ⟨ho, hrest⟩ := h
    have ho' : roundUp cH (align .hlsl t) = roundUp cM (align .metal t) := by omega
    rw [ho'] at hrest
    obtain ⟨hf, hm⟩ := List.append_inj hrest (fields_length t .hlsl .metal _ _)
    have iht := fields_agree t hw.1 _ hf
    obtain ⟨io, ia⟩ := members_agree ts hw.2 b
      (roundUp cM (align .metal t) + size .hlsl t) (roundUp cM (align .metal t) + size .metal t) hm
    refine ⟨?_, by simp only [agreeInAll, iht, ia, Bool.and_self]⟩
    simp only [offsets, List.cons.injEq]
    rw [ho']
    exact ⟨rfl, io⟩
end

end RsslVerif.Lemmas.LayoutFields
