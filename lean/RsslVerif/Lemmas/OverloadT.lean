import RsslVerif.Model.OverloadT
import RsslVerif.Lemmas.OverloadLazy
/-!
# Candidates of any kind (`GCand`) and the generator's function templates (`TCand`)

`GCand` is a kind of candidate in the sense of `Lemmas.Overload.Kind` (`kind_G`), and `castsG` is what the first loop of
`find_function_type` gets from one of them, so `Lemmas.OverloadLazy.lazy_eq` gives `resolveGLazy = resolveG`; ordinary
functions are the candidates whose template step does nothing (`Cand.toG`).  The template half of `find_overload_casts`
on declared overloads reaches no panic site (`scoped_template_never_panics`).
-/
namespace RsslVerif.Lemmas.OverloadT
open RsslVerif.Gen.RankTable RsslVerif.Model.Conv RsslVerif.Model.Overload RsslVerif.Spec.Overload
open RsslVerif.Lemmas.Overload RsslVerif.Lemmas.Conv RsslVerif.Lemmas.OverloadLazy

/-- an instantiated signature has as many parameters as the declared one -/
def WF (g : GCand) : Prop := ∀ args ps, g.inst args = .ok (some ps) → ps.length = g.arity

theorem resolveLazy_eq_resolveCasts (cands : List Cand) (args : List ETy) :
    resolveLazy cands args = resolveCasts (viableCasts args cands) := by
  unfold resolveLazy resolveCasts
  cases viableCasts args cands <;> rfl

theorem rankG_ranked {args : List ETy} {g : GCand} {j : Nat} {rs : List Rank} (h : rankG args g = .ranked j rs) :
    j = g.id ∧ (WF g → rs.length = args.length) := by
  revert h
  fun_cases rankG args g <;> intro h <;> try cases h
  rename_i ps hps hz
  refine ⟨rfl, fun hwf => ?_⟩
  rw [zipRanks_length _ _ _ hz, hwf args ps hps]
  omega

theorem kind_G {cands : List GCand} (args : List ETy) (hwf : ∀ g ∈ cands, WF g) (hid : (cands.map (·.id)).Nodup) :
    Kind GCand.id (rankG args) cands args.length :=
  ⟨fun _ _ _ h => (rankG_ranked h).1, fun g hg _ _ h => (rankG_ranked h).2 (hwf g hg), hid⟩

/-- arity guard, template step and `zip` loop of `find_overload_casts` for one candidate -/
def castsG (args : List ETy) (g : GCand) : CastRes :=
  if args.length ≤ g.arity ∧ g.nonDefault ≤ args.length then
    match g.inst args with
    | .error e => .error e
    | .ok none => .ok none
    | .ok (some ps) =>
      match zipFind ps args with
      | .error e => .error e
      | .ok r => .ok (r.map fun cs => (g.id, cs))
  else .ok none

theorem viableCastsG_eq_collect (args : List ETy) : ∀ cands : List GCand,
    viableCastsG args cands = collect (cands.map (castsG args))
  | [] => rfl
  | g :: t => by
    rw [viableCastsG, viableCastsG_eq_collect args t, List.map_cons]
    fun_cases castsG args g <;> simp only [collect, *, and_self, ↓reduceIte]
    case case4 r _ => cases r <;> rfl
    all_goals cases collect (t.map (castsG args)) <;> rfl

theorem rankG_eq_toResult (args : List ETy) (g : GCand) : rankG args g = toResult (castsG args g) := by
  fun_cases castsG args g <;> simp only [rankG, toResult, zipRanks_eq, *, and_self, ↓reduceIte]
  rename_i r _
  rcases r with _ | cs
  · rfl
  · simp only [Option.map_some]; cases ranksOf cs <;> rfl

theorem castsG_some {args : List ETy} {g : GCand} (hwf : WF g) {x : Nat × List Conversion}
    (h : castsG args g = .ok (some x)) : x.1 = g.id ∧ x.2.length = args.length := by
  revert h
  fun_cases castsG args g <;> intro h <;> try cases h
  rename_i ps hps r hz
  cases r with
  | none => cases h
  | some cs =>
    cases h
    refine ⟨rfl, ?_⟩
    simp only [zipFind_length _ _ _ hz, hwf args ps hps]
    omega

theorem resolveGLazy_eq (cands : List GCand) (args : List ETy) (hwf : ∀ g ∈ cands, WF g)
    (hid : (cands.map (·.id)).Nodup) : resolveGLazy cands args = resolveG cands args := by
  unfold resolveGLazy resolveG
  rw [viableCastsG_eq_collect, lazy_eq (id := GCand.id) (fun g hg x => castsG_some (hwf g hg)) hid]
  congr 1
  exact List.map_congr_left fun g _ => (rankG_eq_toResult args g).symm

theorem toG_wf (c : Cand) : WF c.toG := by
  unfold WF
  intro args ps h
  simp only [Cand.toG, Except.ok.injEq, Option.some.injEq] at h
  rw [← h]
  rfl

theorem substParams_length (targs : List TArg) (ps : List TParam) (out : List Param)
    (h : substParams targs ps = .ok (some out)) : out.length = ps.length := by
  revert out
  fun_induction substParams targs ps <;> intro out h <;> cases h
  · rfl
  · rename_i rest hrest ih
    simp only [List.length_cons, ih rest hrest]

theorem tcand_wf (explicit : List TArg) (c : TCand) : WF (c.toG explicit) := by
  intro args ps
  simp only [TCand.toG]
  fun_cases TCand.inst c explicit args <;> intro h <;> try cases h
  all_goals exact substParams_length _ _ _ h

theorem rankG_toG (args : List ETy) (c : Cand) : rankG args c.toG = rankCand args c := by
  unfold rankG rankCand
  simp only [Cand.toG]
  rfl

theorem resolveG_plain (cands : List Cand) (args : List ETy) :
    resolveG (cands.map Cand.toG) args = resolve cands args := by
  simp only [resolveG, resolveResults, resolve, List.map_map]
  have : (rankG args ∘ Cand.toG) = rankCand args := by
    funext c; exact rankG_toG args c
  rw [this]

theorem viableCastsG_plain (args : List ETy) : ∀ cands : List Cand,
    viableCastsG args (cands.map Cand.toG) = viableCasts args cands
  | [] => rfl
  | c :: t => by
    simp only [List.map_cons, viableCastsG, viableCasts, viableCastsG_plain args t]
    rfl

/-- ordinary functions are the candidates whose template step does nothing -/
theorem resolveLazy_eq (cands : List Cand) (args : List ETy) (hid : (cands.map (·.id)).Nodup) :
    resolveLazy cands args = resolve cands args := by
  rw [resolveLazy_eq_resolveCasts, ← viableCastsG_plain, ← resolveG_plain]
  exact resolveGLazy_eq _ args (fun g hg => by obtain ⟨c, _, rfl⟩ := List.mem_map.mp hg; exact toG_wf c)
    (by simpa [List.map_map, Function.comp_def, Cand.toG] using hid)

theorem normScalar_id {s : Scalar} (h : s ≠ .intLiteral ∧ s ≠ .floatLiteral) : normScalar s = s := by
  cases s <;> simp_all [normScalar]

theorem normalizeTy_nonLiteral (t : Ty) (h : NonLiteral t.layer) : normalizeTy t = ⟨{}, t.layer⟩ := by
  unfold normalizeTy
  cases hl : t.layer with
  | scalar s => rw [hl] at h; simp [normScalar_id h]
  | vector s n => rw [hl] at h; simp [normScalar_id h]
  | matrix s x y => rw [hl] at h; simp [normScalar_id h]
  | enum i => rfl
  | other i => rfl

theorem find_same_layer_rvalue (a : ETy) :
    ∃ c, find a ⟨⟨{}, a.ty.layer⟩, .rvalue⟩ = .ok (some c) ∧ c.dimCast = none ∧ c.primary = none := by
  unfold find
  simp only [dimensionCast, primaryCast, modifierCast, if_true]
  simp
  by_cases hm : a.ty.mod = {} <;> simp [hm, sharedModifierCast]

theorem tvar_in_param_matches_exactly (id : Nat) (a : ETy) (h : NonLiteral a.ty.layer) :
    rankG [a] ((TCand.mk id [.type] [⟨.tvar 0, .in⟩] 1).toG []) = .ranked id [⟨.exact, .exact⟩] := by
  obtain ⟨c, hc, hd, hp⟩ := find_same_layer_rvalue a
  have hr : getRank c = .ok ⟨.exact, .exact⟩ := by
    unfold getRank; rw [hd, hp]; rfl
  simp [rankG, TCand.toG, TCand.inst, TCand.targs, gatherArgs, firstInfer, tryInfer, TArg.normalize, kindsAgree,
    substParams, substPTy, normalizeTy_nonLiteral a.ty h, zipRanks, Param.ety, InputModifier.needsLvalue, hc, hr]

theorem gatherArgs_length (params : List TParam) (explicit : List TArg) (args : List ETy) (ks : List TKind) (i : Nat)
    (ts : List TArg) (h : gatherArgs params explicit args i ks = some ts) : ts.length = ks.length := by
  revert ts
  fun_induction gatherArgs params explicit args i ks <;> intro ts h <;> cases h
  · rfl
  · rename_i rest hrest ih
    simp only [List.length_cons, ih rest hrest]

theorem targs_length {c : TCand} {explicit : List TArg} {args : List ETy} {ts : List TArg}
    (h : c.targs explicit args = some ts) : ts.length = c.tkinds.length := by
  revert h
  fun_cases TCand.targs c explicit args <;> intro h <;> cases h
  rename_i hts _
  exact gatherArgs_length _ _ _ _ _ _ hts

/-- with every mentioned template parameter declared, substituting into one parameter type reaches no panic site -/
theorem substPTy_scoped (ts : List TArg) (pat : PTy)
    (h : match pat with
      | .conc _ => True
      | .tvar k => k < ts.length
      | .tvec k _ => k < ts.length
      | .tmat k _ _ => k < ts.length
      | .tarr _ _ => False) :
    ∃ r, substPTy ts pat = .ok r := by
  cases pat with
  | conc t => exact ⟨_, rfl⟩
  | tvar k =>
    simp only at h
    simp only [substPTy, List.getElem?_eq_getElem h]
    cases ts[k] <;> exact ⟨_, rfl⟩
  | tvec k n =>
    simp only at h
    simp only [substPTy, List.getElem?_eq_getElem h]
    cases ts[k] with
    | const => exact ⟨_, rfl⟩
    | type t => simp only; cases isPlainScalar t <;> exact ⟨_, rfl⟩
  | tmat k x y =>
    simp only at h
    simp only [substPTy, List.getElem?_eq_getElem h]
    cases ts[k] with
    | const => exact ⟨_, rfl⟩
    | type t => simp only; cases isPlainScalar t <;> exact ⟨_, rfl⟩
  | tarr k n => exact absurd h (by simp)

theorem substParams_scoped (ts : List TArg) :
    ∀ (ps : List TParam), (∀ p ∈ ps, match p.pat with
      | .conc _ => True
      | .tvar k => k < ts.length
      | .tvec k _ => k < ts.length
      | .tmat k _ _ => k < ts.length
      | .tarr _ _ => False) →
      ∃ r, substParams ts ps = .ok r
  | [], _ => ⟨_, rfl⟩
  | p :: ps, h => by
    obtain ⟨rest, hrest⟩ := substParams_scoped ts ps (fun q hq => h q (List.mem_cons_of_mem _ hq))
    obtain ⟨r, hr⟩ := substPTy_scoped ts p.pat (h p List.mem_cons_self)
    simp only [substParams, hr, hrest]
    cases r with
    | none => exact ⟨_, rfl⟩
    | some t => cases rest <;> exact ⟨_, rfl⟩

theorem inst_scoped (c : TCand) (h : ScopedTemplate c) (explicit : List TArg) (args : List ETy) :
    ∃ r, c.inst explicit args = .ok r := by
  fun_cases TCand.inst c explicit args
  case case1 he _ =>
    refine substParams_scoped _ _ fun p hp => ?_
    have := h p hp
    rwa [List.isEmpty_iff.mp he] at this
  case case4 ts ht =>
    refine substParams_scoped _ _ fun p hp => ?_
    rw [targs_length ht]
    exact h p hp
  all_goals exact ⟨_, rfl⟩

/-- **no panic site is left in the template half** (since /repo 5dca4fc): a declared overload — ordinary function or
    function template with `T`, `vector<T, n>`, `matrix<T, x, y>` parameters, any template parameter kinds, any explicit
    template arguments, any call — is ranked or not viable, never a panic -/
theorem scoped_template_never_panics (c : TCand) (h : ScopedTemplate c) (explicit : List TArg) (args : List ETy) :
    (rankG args (c.toG explicit)).isPanic = false := by
  fun_cases rankG args (c.toG explicit)
  case case1 e he =>
    obtain ⟨r, hr⟩ := inst_scoped c h explicit args
    cases hr.symm.trans he
  case case3 ps _ e he =>
    obtain ⟨r, hr⟩ := zipRanks_total ps args
    cases hr.symm.trans he
  all_goals rfl

end RsslVerif.Lemmas.OverloadT
