import RsslVerif.Spec.SemMslVec
import RsslVerif.Lemmas.IrTypeInv
/-! Vector layer of C02: the typed semantics `VIr.eval` produces values of the shape the type checker computed
(`shape_sound`) — what the Metal reading's *static* decisions (is the operand a vector? how long?) rely on. -/
namespace RsslVerif.Lemmas.GenMslVec
open RsslVerif.Gen.HlslGenTables RsslVerif.Gen.HlslVecTables RsslVerif.Model RsslVerif.Model.IrVec
open RsslVerif.Spec.Sem RsslVerif.Spec.SemVec RsslVerif.Spec.SemMslVec
open RsslVerif.Model.Ir (Ty Var)

abbrev shaped := VOk.shaped

theorem mapOpt_length {α β : Type} (f : α → Option β) : ∀ (xs : List α) (ys : List β), mapOpt f xs = some ys → ys.length = xs.length := by
  intro xs
  fun_induction mapOpt f xs <;> intro ys h <;> cases h
  · rfl
  next hr ih => simp [ih _ hr]

theorem zipOpt_length (f : Val → Val → Option Val) : ∀ (xs ys zs : List Val), zipOpt f xs ys = some zs → zs.length = xs.length := by
  intro xs ys
  fun_induction zipOpt f xs ys <;> intro zs h <;> cases h
  · rfl
  next hr ih => simp [ih _ hr]

theorem shaped_withScalar {t : VTy} {v : VVal} (k : Ty) (h : shaped t v = true) : shaped (t.withScalar k) v = true := by
  cases t <;> cases v <;> simp_all [VOk.shaped, VTy.withScalar]

theorem lift1_shaped {f : Val → Option Val} {t : VTy} {v r : VVal} (h : shaped t v = true) (hl : lift1 f v = some r) :
    shaped t r = true := by
  revert hl
  fun_cases lift1 f v <;> simp only [Option.map_eq_some_iff] <;> rintro ⟨y, hy, rfl⟩
  · cases t <;> trivial
  · rw [← h]
    cases t <;> simp [VOk.shaped, mapOpt_length f _ y hy]

theorem lift2_shaped {f : Val → Val → Option Val} {t : VTy} {a b r : VVal} (h : shaped t a = true) (hl : lift2 f a b = some r) :
    shaped t r = true := by
  revert hl
  fun_cases lift2 f a b <;> simp only [Option.map_eq_some_iff, reduceCtorEq, false_imp_iff] <;> rintro ⟨z, hz, rfl⟩
  · cases t <;> trivial
  · rw [← h]
    cases t <;> simp [VOk.shaped, zipOpt_length f _ _ z hz]

theorem castShape_shaped {P : Prim} {ty : VTy} {v r : VVal} (h : castShape P ty v = some r) : shaped ty r = true := by
  revert h
  fun_cases castShape P ty v
  case case6 hn _ => -- a vector of at least `n` components: the first `n`, converted
    simp only [hn, if_true, Option.map_eq_some_iff]
    rintro ⟨ys, hm, rfl⟩
    have := mapOpt_length _ _ _ hm
    simp [VOk.shaped, this, List.length_take]
    omega
  case case7 hn _ => simp [hn]
  all_goals simp only [Option.map_eq_some_iff, reduceCtorEq, false_imp_iff]
  all_goals rintro ⟨y, _, rfl⟩; simp [VOk.shaped]

theorem select_shaped {idx : List Nat} {v r : VVal} (k : Ty) (h : select idx v = some r) : shaped (swzTy k idx.length) r = true := by
  revert h
  fun_cases select idx v <;> simp only [Option.some.injEq, reduceCtorEq, false_imp_iff] <;> rintro rfl
  next x hm =>
    have := mapOpt_length _ _ _ hm
    simp [swzTy, ← this, VOk.shaped]
  next ys hne hm =>
    have := mapOpt_length _ _ _ hm
    have h1 : idx.length ≠ 1 := fun h1 => by
      obtain ⟨x, hx⟩ := List.length_eq_one_iff.1 (this.trans h1)
      exact hne x hx
    simp [swzTy, h1, VOk.shaped, this]

theorem build_shaped {ty : VTy} {vals : List Val} {r : VVal} (h : build ty vals = some r) : shaped ty r = true := by
  revert h
  fun_cases build ty vals <;> simp only [Option.some.injEq, reduceCtorEq, false_imp_iff] <;> rintro rfl
  · rfl
  · simp [VOk.shaped]

theorem logical_shaped {sig : Sig} {vty : Var → Ty} {vvty : Var → VTy} {o : IntrinsicOp} {x y : VExpr} {t : VTy}
    (ht : VIr.typeOf sig vty vvty (.op o (.cons x (.cons y .nil))) = some t) (hm : irOpSem o = .land ∨ irOpSem o = .lor)
    (b : Bool) : shaped t (.sc (.b b)) = true := by
  obtain ⟨_, _, _, ⟨m, hm', _⟩ | ⟨_, _, rfl⟩⟩ := VIr.typeOf_op2 ht
  · rcases hm with hm | hm <;> simp [hm] at hm'
  · rfl

/-- **shape soundness of the typed semantics**: from a vector store whose values have the shapes of their declared types,
an accepted expression evaluates to a value of the shape of its type -/
theorem shape_sound {W : World} {ρ : VStore} {vty : Var → Ty} {vvty : Var → VTy} (hρ : ∀ x, shaped (vvty x) (ρ x) = true) :
    ∀ (e : VExpr) (t : VTy) (σ σ1 : Store) (v : VVal),
      VIr.typeOf W.sig vty vvty e = some t → VIr.eval W ρ e σ = some (v, σ1) → shaped t v = true := by
  intro e t σ σ1 v
  revert t σ1 v
  -- by the functional induction principle of `VIr.eval`: one case per branch, with the sub-results that lead to it
  apply VIr.eval.induct_unfolding W ρ
    (fun e σ r => ∀ t σ1 v, VIr.typeOf W.sig vty vvty e = some t → r = some (v, σ1) → shaped t v = true)
    (fun _ _ _ => True)
  case case2 => -- a scalar
    intro e σ v σ1 _ t _ _ ht hv
    obtain ⟨k, _, rfl⟩ := VIr.typeOf_sc ht
    cases hv; rfl
  case case3 =>
    intro id σ t _ _ ht hv
    cases ht; cases hv; exact hρ _
  case case4 =>
    intro id σ t _ _ ht hv
    cases ht; cases hv; exact hρ _
  case case5 => -- cast
    intro ty x σ _ t _ _ ht hv
    obtain ⟨_, _, rfl, _⟩ := VIr.typeOf_cast ht
    revert hv
    fun_cases castShapeR W.P t (VIr.eval W ρ x σ) <;> intro hv <;> cases hv
    exact castShape_shaped ‹_›
  case case8 => -- swizzle
    intro x sl σ vx _ _ r hsel _ t _ _ ht hv
    obtain ⟨tx, _, rfl, _⟩ := VIr.typeOf_swz ht
    cases hv
    simpa using select_shaped tx.scalar hsel
  case case11 => -- constructor
    intro ty slots σ vals _ _ r hb _ t _ _ ht hv
    obtain ⟨rfl, _⟩ := VIr.typeOf_ctor ht
    cases hv
    exact build_shaped hb
  case case12 => -- `c ? f : g`, `c` true
    intro c f g σ σc _ _ ih t _ _ ht hv
    exact ih t _ _ (VIr.typeOf_tern ht).2.1 hv
  case case13 =>
    intro c f g σ σc _ _ ih t _ _ ht hv
    exact ih t _ _ (VIr.typeOf_tern ht).2.2.1 hv
  case case17 => -- unary operator
    intro o σ x m hm vx _ hx r hl ih t _ _ ht hv
    obtain ⟨_, _, htx, _⟩ := VIr.typeOf_op1 ht
    cases hv
    exact lift1_shaped (ih t _ _ htx hx) hl
  case case22 => -- component-wise binary operator
    intro o σ x y m hm vx σx hx vy _ _ r hl ih _ t _ _ ht hv
    obtain ⟨tx, htx, _, hsem⟩ := VIr.typeOf_op2 ht
    cases hv
    rcases hsem with ⟨m', hm', _, rfl⟩ | ⟨hm', _⟩
    · obtain rfl : m = m' := by simpa [hm] using hm'
      have hs := lift2_shaped (ih tx _ _ htx hx) hl
      cases m.isCmp
      · exact hs
      · exact shaped_withScalar _ hs
    · simp [hm] at hm'
  case case23 => -- `&&`, `||`: a scalar `bool` on each of their two successful paths
    intro o σ x y hm _ _ _ t _ _ ht hv
    cases hv; exact logical_shaped ht (.inl hm) _
  case case24 =>
    intro o σ x y hm _ _ _ _ _ _ _ t _ _ ht hv
    cases hv; exact logical_shaped ht (.inl hm) _
  case case27 =>
    intro o σ x y hm _ _ _ t _ _ ht hv
    cases hv; exact logical_shaped ht (.inr hm) _
  case case28 =>
    intro o σ x y hm _ _ _ _ _ _ _ t _ _ ht hv
    cases hv; exact logical_shaped ht (.inr hm) _
  -- the other branches of `eval` return `none`, and nothing is claimed of `evalSlots`
  all_goals (intros; trivial)

end RsslVerif.Lemmas.GenMslVec
