import RsslVerif.Model.CondExpr
import RsslVerif.Spec.CPre
/-!
# C11: the model of the condition parser

The equations of `pLvl`/`pLoop` and the extracted operator semantics against the reference (`apply_eq_sem`,
`notApply_eq`, `truthy_eq`).  What the parser accepts, with which value and at what fuel is proved on syntax trees
in `Lemmas.CondParse` and carried over to this parser there.
-/
namespace RsslVerif.Lemmas.CondExpr
open RsslVerif.Gen.CondTables RsslVerif.Model.CondExpr RsslVerif.Spec.CPre

theorem pLvl_fuel0 (k ts) : pLvl 0 k ts = .oof := by cases k <;> rfl
theorem pLoop_fuel0 (k acc ts) : pLoop 0 k acc ts = .oof := rfl
theorem pLvl_p2_nil (f) : pLvl (f + 1) 0 [] = .err := rfl
theorem pLvl_p2_cons (f t rest) : pLvl (f + 1) 0 (t :: rest) =
      if t = notTok then
        match pLvl f 0 rest with
        | .ok v r => .ok (notApply v) r
        | .err => .err
        | .oof => .oof
      else
        match leafKind t with
        | .value v => .ok v rest
        | .paren =>
          match pLvl f numLevels rest with
          | .ok v (c :: r) => if c = closeTok then .ok v r else .err
          | .ok _ [] => .err
          | .err => .err
          | .oof => .oof
        | .fail => .err := rfl
theorem pLvl_bin (f k ts) : pLvl (f + 1) (k + 1) ts =
    match pLvl f k ts with
    | .ok l rest => pLoop f (k + 1) l rest
    | .err => .err
    | .oof => .oof := rfl
theorem pLoop_succ (f k acc ts) : pLoop (f + 1) k acc ts =
    match opsAt k ts with
    | some (op, rest) =>
      match pLvl f (k - 1) rest with
      | .ok r rest' => pLoop f k (op.apply acc r) rest'
      | .err => .err
      | .oof => .oof
    | none => .ok acc ts := rfl

theorem numLevels_eq : numLevels = 4 := rfl

/-- the operator of the code that a reference operator corresponds to -/
def genOp : Op → BinOp
  | .lor => .BooleanOr
  | .land => .BooleanAnd
  | .eq => .Equality
  | .ne => .Inequality
  | .lt _ => .LessThan
  | .le => .LessEqual
  | .gt _ => .GreaterThan
  | .ge => .GreaterEqual

/-- `BinOp::apply` computes the C semantics -/
theorem apply_eq_sem (op : Op) (a b : UInt64) : (genOp op).apply a b = op.sem a b := by
  cases op <;> simp [genOp, BinOp.apply, Op.sem, b2u]

theorem notApply_eq (v : UInt64) : notApply v = b2u (v == 0) := by
  simp [notApply, b2u]

theorem truthy_eq (v : UInt64) : truthy v = (v != 0) := by
  unfold truthy; by_cases h : v = 0 <;> simp [h]

theorem level_pos (op : Op) : 1 ≤ op.level := by cases op <;> simp [Op.level]
theorem level_le (op : Op) : op.level ≤ 4 := by cases op <;> simp [Op.level]

/-- conditions without `defined` (what is left after macro substitution) -/
def Closed : Expr → Prop
  | .defined _ _ => False
  | .not e | .paren e => Closed e
  | .bin _ l r => Closed l ∧ Closed r
  | _ => True

abbrev ev (e : Expr) : UInt64 := evalU64 [] e

/-- a printed condition never starts with `=` -/
theorem print_head (k : Nat) (e : Expr) (rest : List CTok) : ∀ r, print k e ++ rest ≠ .Equals :: r := by
  induction e generalizing k rest with
  | lit v u => cases u <;> simp [print]
  | tru => simp [print]
  | fls => simp [print]
  | name x => simp [print]
  | defined x p => cases p <;> simp [print]
  | not e _ => simp [print]
  | paren e _ => simp [print]
  | bin op l r ihl _ =>
    intro r'
    simp only [print]
    split
    · simp only [List.append_assoc]; exact ihl _ _ r'
    · simp

end RsslVerif.Lemmas.CondExpr
