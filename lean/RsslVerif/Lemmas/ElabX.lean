import RsslVerif.Lemmas.ElabConv
import RsslVerif.Model.ElabX
/-! Lemmas for C03, extended language (`Model/IrTypingX`, `Model/ElabX`): the typing judgment is functional and agrees with
`typeOf`; a core node whose children are typed and on which `get_type` succeeds is typed (`hasType_node`, and `selfCheck_sound`
for the debug query; the soundness induction does not go through them); one inversion per elaboration helper of the old
fragment (`*_inv`, `elabUn_cases`: what the helper did when it succeeded, no typing hypothesis), from which follow that the node
it builds has typed children whatever type the helper was told the operand has (`*_children`) and, in `Lemmas/ElabReleaseX`,
its exact type; what an accepted expression of each source form went through. Core Lean only. -/
namespace RsslVerif.Lemmas.ElabX
open RsslVerif.Gen.RankTable RsslVerif.Gen.TypingTables RsslVerif.Model.Conv RsslVerif.Model.Overload
open RsslVerif.Model.IrTyping (FuncSig opReturn boolOf)
open RsslVerif.Model.Elab (Err boolR intR minusFolds enforceIncrement unwrapPanic nvRank nvIsInteger arithTarget
  arithScalar mostSigScalar ternTargets candsFrom)
open RsslVerif.Model.IrTypingX RsslVerif.Model.ElabX RsslVerif.Lemmas.ElabConv

variable {Γ : Env}

/-- the judgment is functional and agrees with `Expression::get_type`.  The recursor of the mutual judgment is applied by hand,
    one minor premise per rule: the equation compiler takes five times as long on it. -/
theorem typeOf_of_hasType : ∀ (e : IExpr) (τ : ETy), HasType Γ e τ → typeOf Γ e = .ok τ := fun _ _ h =>
  HasType.rec (motive_1 := fun e τ _ => typeOf Γ e = .ok τ) (motive_2 := fun as ts _ => typesOf Γ as = .ok ts)
    (lit := fun _ => rfl)
    (var := fun hv => by simp [typeOf, hv])
    (tern := fun _ _ _ hl _ iha ihb => by simp [typeOf, iha, ihb, hl])
    (seq := fun _ _ _ ihb => by simp [typeOf, ihb])
    (call := fun hf _ _ => by simp [typeOf, hf])
    (cast := fun _ _ => rfl)
    (op := fun _ hr iha => by simp [typeOf, iha, hr])
    (swizzleS := fun _ hl _ _ _ ih => by simp [typeOf, ih, hl])
    (swizzleV := fun _ hl _ _ _ ih => by simp [typeOf, ih, hl])
    (mswizzle := fun _ hl _ _ _ ih => by simp [typeOf, ih, hl])
    (indexV := fun _ _ hl ih _ => by simp [typeOf, ih, hl])
    (indexM := fun _ _ hl ih _ => by simp [typeOf, ih, hl])
    (indexA := fun _ _ hl ho ih _ => by simp [typeOf, ih, hl, ho])
    (indexR := fun _ _ hl ho hr ih _ => by simp [typeOf, ih, hl, ho, hr])
    (member := fun _ _ ho hm ih => by simp [typeOf, ih, ho, hm])
    (ctor := fun _ _ _ _ _ => rfl)
    (nil := rfl)
    (cons := fun _ _ ihe ihr => by simp [typesOf, ihe, ihr])
    h

theorem typesOf_of_hasArgs : ∀ (as : IArgs) (ts : List ETy), HasArgs Γ as ts → typesOf Γ as = .ok ts
  | .nil, _, .nil => rfl
  | .cons e r, _, .cons he hr => by simp [typesOf, typeOf_of_hasType e _ he, typesOf_of_hasArgs r _ hr]

/-- the node is one of the core kinds (literal, variable, `?:`, sequence, call, cast, operator) and every immediate
    sub-expression has a type -/
def ChildrenTyped (Γ : Env) : IExpr → Prop
  | .lit _ => True
  | .var _ => True
  | .tern c a b => (∃ t, HasType Γ c t) ∧ (∃ t, HasType Γ a t) ∧ (∃ t, HasType Γ b t)
  | .seq a b => (∃ t, HasType Γ a t) ∧ (∃ t, HasType Γ b t)
  | .call _ args => ∃ ts, HasArgs Γ args ts
  | .cast _ e => ∃ t, HasType Γ e t
  | .op _ args => ∃ ts, HasArgs Γ args ts
  -- the new node kinds are typed by their own lemmas (`Lemmas/ElabNewX`), never through `hasType_node`
  | .swizzle _ _ => False
  | .mswizzle _ _ => False
  | .index _ _ => False
  | .member _ _ _ => False
  | .ctor _ _ _ => False

/-- a node whose children are typed and on which `get_type` succeeds is typed -/
theorem hasType_node {e : IExpr} {τ : ETy} (hc : ChildrenTyped Γ e) (h : typeOf Γ e = .ok τ) : HasType Γ e τ := by
  cases e with
  | lit k => simp [typeOf] at h; subst h; exact .lit k
  | var i =>
    simp only [typeOf] at h
    split at h
    · rename_i t ht; simp at h; subst h; exact .var ht
    · simp at h
  | tern c a b =>
    obtain ⟨⟨tc, hc'⟩, ⟨ta, ha⟩, ⟨tb, hb⟩⟩ := hc
    simp only [typeOf, typeOf_of_hasType a _ ha, typeOf_of_hasType b _ hb] at h
    split at h
    · rename_i hl; simp at h; subst h; exact .tern hc' ha hb hl
    · simp at h
  | seq a b =>
    obtain ⟨⟨ta, ha⟩, ⟨tb, hb⟩⟩ := hc
    simp only [typeOf, typeOf_of_hasType b _ hb] at h
    simp at h; subst h; exact .seq ha hb
  | call f args =>
    obtain ⟨ts, ha⟩ := hc
    simp only [typeOf] at h
    split at h
    · rename_i s hs; simp at h; subst h; exact .call hs ha
    · simp at h
  | cast t e =>
    obtain ⟨te, he⟩ := hc
    simp [typeOf] at h; subst h; exact .cast he
  | op o args =>
    obtain ⟨ts, ha⟩ := hc
    simp only [typeOf, typesOf_of_hasArgs args _ ha] at h
    exact .op ha h
  | swizzle _ _ => exact hc.elim
  | mswizzle _ _ => exact hc.elim
  | index _ _ => exact hc.elim
  | member _ _ _ => exact hc.elim
  | ctor _ _ _ => exact hc.elim

theorem selfCheck_true {e e' : IExpr} {τ τ' : ETy} (h : selfCheck true Γ e τ = .ok (e', τ')) :
    e' = e ∧ τ' = τ ∧ typeOf Γ e = .ok τ := by
  generalize hd : true = dbg at h
  revert h
  fun_cases selfCheck dbg Γ e τ <;> intro h <;> cases h
  · rename_i ht; exact ⟨rfl, rfl, ht⟩
  · rename_i hf; exact absurd hd.symm hf

theorem selfCheck_sound {e e' : IExpr} {τ τ' : ETy} (h : selfCheck true Γ e τ = .ok (e', τ'))
    (hc : ChildrenTyped Γ e) : HasType Γ e' τ' := by
  obtain ⟨rfl, rfl, ht⟩ := selfCheck_true h
  exact hasType_node hc ht

theorem selfCheck_type {dbg : Bool} {e e' : IExpr} {τ τ' : ETy} (h : selfCheck dbg Γ e τ = .ok (e', τ')) :
    e' = e ∧ τ' = τ := by
  revert h
  fun_cases selfCheck dbg Γ e τ <;> intro h <;> cases h
  all_goals exact ⟨rfl, rfl⟩

/-- what `ImplicitConversion::apply` returns: the operand itself when only the value category changes, otherwise a cast to
    the target type, or — for an untyped literal and an unmodified scalar target — the literal of the target kind -/
theorem applyConv_cases {c : Conversion} {e e' : IExpr} (h : applyConv c e = .ok e') :
    (e' = e ∧ c.dimCast = none ∧ c.primary = none ∧ c.modCast = none) ∨
    ∃ t, targetType c = .ok t ∧
      (e' = .cast t.ty e ∨ ∃ k0 k, e = .lit k0 ∧ (k0 = .intLiteral ∨ k0 = .floatLiteral) ∧ t.ty.mod = {} ∧
        t.ty.layer = .scalar k ∧ e' = .lit k) := by
  -- the literal shortcut is taken for unmodified targets only
  have unmod : ∀ t : ETy, ¬(retagRequiresUnmodified && decide (t.ty.mod ≠ {})) = true → t.ty.mod = {} :=
    fun t hg => Decidable.by_contra fun h0 => hg (by simp [h0]; decide)
  revert h
  fun_cases applyConv c e <;> intro h <;> cases h
  case case1 hc => exact .inl ⟨rfl, hc⟩
  -- an untyped integer / float literal re-tagged
  case case4 t ht hg k hk k' hk' =>
    exact .inr ⟨t, ht, .inr ⟨_, k', rfl, .inl rfl, unmod t hg, by rw [hk, (retag_same k k').1 hk'], rfl⟩⟩
  case case6 t ht hg k hk k' hk' =>
    exact .inr ⟨t, ht, .inr ⟨_, k', rfl, .inr rfl, unmod t hg, by rw [hk, (retag_same k k').2 hk'], rfl⟩⟩
  -- a cast in every other branch
  all_goals exact .inr ⟨_, ‹targetType c = .ok _›, .inl rfl⟩

/-- `apply` keeps the expression typed -/
theorem applyConv_typed {c : Conversion} {e e' : IExpr} (he : ∃ t, HasType Γ e t) (h : applyConv c e = .ok e') :
    ∃ t, HasType Γ e' t := by
  obtain ⟨t, he⟩ := he
  rcases applyConv_cases h with ⟨rfl, _⟩ | ⟨_, _, rfl | ⟨_, _, _, _, _, _, rfl⟩⟩
  · exact ⟨t, he⟩
  · exact ⟨_, .cast he⟩
  · exact ⟨_, .lit _⟩

/-! ## what each helper did when it succeeded (no typing hypothesis; the `*_children` lemmas below and the exact-type lemmas of
`Lemmas/ElabReleaseX` read these) -/

theorem convert_inv {e e' : IExpr} {s d t : ETy} (h : convert e s d = .ok (some (e', t))) :
    ∃ c, find s d = .ok (some c) ∧ applyConv c e = .ok e' ∧ t = d := by
  revert h
  fun_cases convert e s d <;> intro h <;> cases h
  rename_i c hf ha ht
  exact ⟨c, hf, ha, Except.ok.inj (ht.symm.trans (targetType_ok hf))⟩

theorem castOperand_inv {f : Err} {e e' : IExpr} {τ inp : ETy} (h : castOperand f e τ inp = .ok e') :
    (τ = inp ∧ e' = e) ∨ (τ ≠ inp ∧ ∃ c, find τ inp = .ok (some c) ∧ applyConv c e = .ok e') := by
  revert h
  fun_cases castOperand f e τ inp <;> intro h
  case case1 he => cases h; exact .inl ⟨he, rfl⟩
  case case4 hne c hf => exact .inr ⟨hne, c, hf, h⟩
  all_goals cases h

/-- the operand under the operator as it is; or a folded `-literal`; or the operand of `!` / `~` converted to `bool` / `int` -/
theorem elabUn_cases {o : UnOp} {e n : IExpr} {τ τ' : ETy} (h : elabUn Γ o e τ = .ok (n, τ')) :
    (∃ i, n = .op i (.cons e .nil) ∧ opReturn i [τ] = .ok τ' ∧
      (o ≠ .prefixIncrement → o ≠ .prefixDecrement → τ'.vt = .rvalue)) ∨
    (∃ k, e = .lit k ∧ n = .lit k ∧ τ' = τ.ty.unmod.r) ∨
    (∃ c e2, find τ τ' = .ok (some c) ∧ applyConv c e = .ok e2 ∧
      (τ' = boolR ∧ n = .op .logicalNot (.cons e2 .nil) ∨ τ' = intR ∧ n = .op .bitwiseNot (.cons e2 .nil))) := by
  revert n τ'
  fun_cases elabUn Γ o e τ <;> intro n τ' h <;> cases h
  -- `-` on a literal that folds
  case case18 k _ _ _ => exact .inr (.inl ⟨k, rfl, rfl, rfl⟩)
  -- `!`: `(out, inp)` is the operand's own type, or `bool` when the operand's scalar kind is not `bool`
  case case24 out inp e2 _ _ hoi hco =>
    split at hoi <;> cases hoi
    · -- a bool operand is used as it is
      rename_i hb
      rcases castOperand_inv hco with ⟨_, rfl⟩ | ⟨hne, _⟩
      · refine .inl ⟨_, rfl, ?_, fun _ _ => rfl⟩
        cases hl : τ.ty.layer <;> simp [hl, Layer.extractScalar] at hb <;>
          simp +zetaDelta [opReturn, IOp.rule, hl, hb, Ty.unmod, scalarTy, Ty.r, logicalNotHasMatrixArm]
      · exact absurd rfl hne
    · rename_i hb
      rcases castOperand_inv hco with ⟨he, _⟩ | ⟨_, c, hf, ha⟩
      · exact absurd (by rw [he]; rfl) hb
      · exact .inr (.inr ⟨c, e2, hf, ha, .inl ⟨rfl, rfl⟩⟩)
  -- `~` on `bool`
  case case30 hl e2 hco =>
    rcases castOperand_inv hco with ⟨he, _⟩ | ⟨_, c, hf, ha⟩
    · rw [he] at hl; cases hl
    · exact .inr (.inr ⟨c, e2, hf, ha, .inr ⟨rfl, rfl⟩⟩)
  -- the operand under the operator as it is (`++ --`, `+`, `-`, `~` on an integer); prefix `++ --` keep its type
  case case3 | case6 => exact .inl ⟨_, rfl, rfl, by simp⟩
  all_goals exact .inl ⟨_, rfl, rfl, fun _ _ => rfl⟩

/-- both operands convert to the unmodified type `d` of kind `arithScalar ts dim` and dimension `dim`; the node is the
    operator over the converted operands, its type what `get_return_type` gives for `[d, d]` -/
theorem elabArith_inv {o : BinOp} {a b n : IExpr} {τa τb τ' : ETy} (h : elabArith o a τa b τb = .ok (n, τ')) :
    ∃ ts dim d ca cb a' b' i, d = (Ty.mk {} (Layer.ofDim (arithScalar ts dim) dim)).r ∧
      find τa d = .ok (some ca) ∧ find τb d = .ok (some cb) ∧ applyConv ca a = .ok a' ∧ applyConv cb b = .ok b' ∧
      o.toIOp = some i ∧ opReturn i [d, d] = .ok τ' ∧ n = .op i (.cons a' (.cons b' .nil)) := by
  revert h
  fun_cases elabArith o a τa b τb <;> intro h <;> try cases h
  rename_i ts dim ca hfa cb hfb _ _ _ _
  revert h
  fun_cases arithBuild o ca cb a b <;> intro h <;> cases h
  rename_i ta hta tb htb _ a' haa b' hbb i hi hout
  cases (targetType_ok hfa).symm.trans hta
  cases (targetType_ok hfb).symm.trans htb
  exact ⟨ts, dim, _, ca, cb, a', b', i, rfl, hfa, hfb, haa, hbb, hi, hout, rfl⟩

theorem elabAssign_inv {o : BinOp} {a b n : IExpr} {τa τb τ' : ETy} (h : elabAssign Γ o a τa b τb = .ok (n, τ')) :
    τa.ty.mod.isConst = false ∧ τa.vt = .lvalue ∧ checkMutablePlace Γ a = .ok () ∧
    ∃ c b' i, find τb τa.ty.r = .ok (some c) ∧ applyConv c b = .ok b' ∧ o.toIOp = some i ∧
      opReturn i [τa, τa.ty.r] = .ok τ' ∧ n = .op i (.cons a (.cons b' .nil)) := by
  revert h
  fun_cases elabAssign Γ o a τa b τb <;> intro h <;> cases h
  rename_i hconst hlv _ hplace b' tb hcv i hi hout
  obtain ⟨c, hf, ha, rfl⟩ := convert_inv hcv
  exact ⟨by simpa using hconst, by simpa using hlv, hplace, c, b', i, hf, ha, hi, hout, rfl⟩

/-- the arms have a common layer `lt` and convert to it (with the left arm's matrix-order modifiers), the condition is no
    vector / matrix and converts to `bool`; the node is `?:` over the converted operands -/
theorem elabTern_inv {c a b n : IExpr} {τc τa τb τ' : ETy} (h : elabTern c τc a τa b τb = .ok (n, τ')) :
    ∃ lt cc ca cb c' a' b', ternTargets τa.ty.layer τb.ty.layer = .ok (lt, lt) ∧
      τ' = (Ty.mk { rest := τa.ty.mod.rest &&& 3 } lt).r ∧ find τa τ' = .ok (some ca) ∧ find τb τ' = .ok (some cb) ∧
      applyConv ca a = .ok a' ∧ applyConv cb b = .ok b' ∧ τc.ty.layer.isVecOrMat = false ∧
      find τc boolR = .ok (some cc) ∧ applyConv cc c = .ok c' ∧ n = .tern c' a' b' := by
  revert h
  fun_cases elabTern c τc a τa b τb <;> intro h <;> try cases h
  rename_i lt rt htt heq ca hca cb hcb
  cases (by simpa using heq : lt = rt)
  revert h
  fun_cases ternBuild c τc ca cb a b <;> intro h <;> cases h
  rename_i a' haa b' hbb _ _ hvm c' _ hcv hta _
  obtain ⟨cc, hfc, hac, _⟩ := convert_inv hcv
  cases (targetType_ok hca).symm.trans hta
  exact ⟨lt, cc, ca, cb, c', a', b', htt, rfl, hca, hcb, haa, hbb, by simpa using hvm, hfc, hac, rfl⟩

/-- the graph of `castArgs`: argument by argument the conversion to the parameter's type was found and applied -/
inductive CastArgs : List Param → IArgs → List ETy → IArgs → Prop
  | nil (ps : List Param) : CastArgs ps .nil [] .nil
  | cons {p : Param} {ps : List Param} {e e' : IExpr} {r r' : IArgs} {t : ETy} {ts : List ETy} {c : Conversion} :
      find t p.ety = .ok (some c) → applyConv c e = .ok e' → CastArgs ps r ts r' →
      CastArgs (p :: ps) (.cons e r) (t :: ts) (.cons e' r')

theorem castArgs_ok : ∀ (ps : List Param) (as : IArgs) (ts : List ETy) (as' : IArgs),
    castArgs ps as ts = .ok as' → CastArgs ps as ts as' := by
  intro ps as ts
  fun_induction castArgs ps as ts <;> intro as' h <;> cases h
  case case4 hc r' hr ih =>
    obtain ⟨c, hf, ha, _⟩ := convert_inv hc
    exact .cons hf ha (ih r' hr)
  case case5 ps => exact .nil ps

theorem elabCall_inv {name : Nat} {args : IArgs} {ts : List ETy} {n : IExpr} {τ : ETy}
    (h : elabCall Γ name args ts = .ok (n, τ)) :
    ∃ id s as', resolve (candidates Γ name) ts = .selected id ∧ Γ.funcs[id]? = some s ∧
      CastArgs s.params args ts as' ∧ checkOutArgs Γ s.params as' = .ok () ∧ n = .call id as' ∧ τ = s.ret.r := by
  revert h
  fun_cases elabCall Γ name args ts <;> intro h <;> cases h
  rename_i id hsel s hs as' hca _ hco
  exact ⟨id, s, as', hsel, hs, castArgs_ok _ _ _ _ hca, hco, rfl, rfl⟩

/-! ## the nodes the helpers build have typed children, whatever type the helper was told its operands have -/

theorem args_one {a : IExpr} (ha : ∃ t, HasType Γ a t) : ∃ ts, HasArgs Γ (.cons a .nil) ts := by
  obtain ⟨t, ha⟩ := ha; exact ⟨_, .cons ha .nil⟩

theorem args_two {a b : IExpr} (ha : ∃ t, HasType Γ a t) (hb : ∃ t, HasType Γ b t) :
    ∃ ts, HasArgs Γ (.cons a (.cons b .nil)) ts := by
  obtain ⟨_, ha⟩ := ha; obtain ⟨_, hb⟩ := hb; exact ⟨_, .cons ha (.cons hb .nil)⟩

theorem elabUn_children {o : UnOp} {e n : IExpr} {τ τ' : ETy} (he : ∃ t, HasType Γ e t)
    (h : elabUn Γ o e τ = .ok (n, τ')) : ChildrenTyped Γ n := by
  rcases elabUn_cases h with ⟨_, rfl, _⟩ | ⟨_, _, rfl, _⟩ | ⟨_, _, _, ha, ⟨_, rfl⟩ | ⟨_, rfl⟩⟩
  · exact args_one he
  · trivial
  · exact args_one (applyConv_typed he ha)
  · exact args_one (applyConv_typed he ha)

theorem elabArith_children {o : BinOp} {a b n : IExpr} {τa τb τ' : ETy} (ha : ∃ t, HasType Γ a t)
    (hb : ∃ t, HasType Γ b t) (h : elabArith o a τa b τb = .ok (n, τ')) : ChildrenTyped Γ n := by
  obtain ⟨_, _, _, _, _, _, _, _, _, _, _, haa, hbb, _, _, rfl⟩ := elabArith_inv h
  exact args_two (applyConv_typed ha haa) (applyConv_typed hb hbb)

theorem elabAssign_children {o : BinOp} {a b n : IExpr} {τa τb τ' : ETy} (ha : ∃ t, HasType Γ a t)
    (hb : ∃ t, HasType Γ b t) (h : elabAssign Γ o a τa b τb = .ok (n, τ')) : ChildrenTyped Γ n := by
  obtain ⟨_, _, _, _, _, _, _, hbb, _, _, rfl⟩ := elabAssign_inv h
  exact args_two ha (applyConv_typed hb hbb)

theorem elabTern_children {c a b n : IExpr} {τc τa τb τ' : ETy} (hc : ∃ t, HasType Γ c t) (ha : ∃ t, HasType Γ a t)
    (hb : ∃ t, HasType Γ b t) (h : elabTern c τc a τa b τb = .ok (n, τ')) : ChildrenTyped Γ n := by
  obtain ⟨_, _, _, _, _, _, _, _, _, _, _, haa, hbb, _, _, hcc, rfl⟩ := elabTern_inv h
  exact ⟨applyConv_typed hc hcc, applyConv_typed ha haa, applyConv_typed hb hbb⟩

theorem castArgs_typed {ps : List Param} {as as' : IArgs} {ts : List ETy} (h : CastArgs ps as ts as')
    (hu : ∃ us, HasArgs Γ as us) : ∃ us, HasArgs Γ as' us := by
  induction h with
  | nil => exact ⟨_, .nil⟩
  | cons _ ha _ ih =>
    obtain ⟨_, hu⟩ := hu
    cases hu with
    | cons he hr =>
      obtain ⟨_, h1⟩ := applyConv_typed ⟨_, he⟩ ha
      obtain ⟨_, h2⟩ := ih ⟨_, hr⟩
      exact ⟨_, .cons h1 h2⟩

theorem elabCall_children {name : Nat} {args : IArgs} {ts : List ETy} {n : IExpr} {τ' : ETy}
    (ha : ∃ us, HasArgs Γ args us) (h : elabCall Γ name args ts = .ok (n, τ')) : ChildrenTyped Γ n := by
  obtain ⟨_, _, _, _, _, hca, _, rfl, _⟩ := elabCall_inv h
  exact castArgs_typed hca ha

theorem elabE_un_ok {dbg : Bool} {o : UnOp} {e : SExpr} {n : IExpr} {τ' : ETy}
    (h : elabE dbg Γ (.un o e) = .ok (n, τ')) :
    ∃ e1 τ1, elabE dbg Γ e = .ok (e1, τ1) ∧ elabUn Γ o e1 τ1 = .ok (n, τ') := by
  simp only [elabE] at h
  split at h
  · cases h
  · rename_i e1 τ1 h1
    split at h
    · cases h
    · rename_i hn
      obtain ⟨rfl, rfl⟩ := selfCheck_type h
      exact ⟨e1, τ1, h1, hn⟩

theorem elabE_bin_ok {dbg : Bool} {o : BinOp} {a b : SExpr} {n : IExpr} {τ' : ETy}
    (h : elabE dbg Γ (.bin o a b) = .ok (n, τ')) :
    ∃ a1 τa b1 τb, elabE dbg Γ a = .ok (a1, τa) ∧ elabE dbg Γ b = .ok (b1, τb) ∧
      match o.cls with
      | .arith => elabArith o a1 τa b1 τb = .ok (n, τ')
      | .assign => elabAssign Γ o a1 τa b1 τb = .ok (n, τ')
      | .sequence => n = .seq a1 b1 ∧ τ' = τb := by
  simp only [elabE] at h
  split at h
  · cases h
  · rename_i a1 τa ha
    split at h
    · cases h
    · rename_i b1 τb hb
      refine ⟨a1, τa, b1, τb, ha, hb, ?_⟩
      cases hc : o.cls <;> simp only [hc] at h ⊢
      · split at h
        · cases h
        · rename_i hn; obtain ⟨rfl, rfl⟩ := selfCheck_type h; exact hn
      · split at h
        · cases h
        · rename_i hn; obtain ⟨rfl, rfl⟩ := selfCheck_type h; exact hn
      · exact selfCheck_type h

theorem elabE_tern_ok {dbg : Bool} {c a b : SExpr} {n : IExpr} {τ' : ETy}
    (h : elabE dbg Γ (.tern c a b) = .ok (n, τ')) :
    ∃ c1 τc a1 τa b1 τb, elabE dbg Γ c = .ok (c1, τc) ∧ elabE dbg Γ a = .ok (a1, τa) ∧ elabE dbg Γ b = .ok (b1, τb) ∧
      elabTern c1 τc a1 τa b1 τb = .ok (n, τ') := by
  simp only [elabE] at h
  split at h
  · cases h
  · rename_i c1 τc hc
    split at h
    · cases h
    · rename_i a1 τa ha
      split at h
      · cases h
      · rename_i b1 τb hb
        split at h
        · cases h
        · rename_i hn
          obtain ⟨rfl, rfl⟩ := selfCheck_type h
          exact ⟨c1, τc, a1, τa, b1, τb, hc, ha, hb, hn⟩

theorem elabE_call_ok {dbg : Bool} {name : Nat} {args : SArgs} {r : IExpr × ETy}
    (h : elabE dbg Γ (.call name args) = .ok r) :
    ∃ as1 ts, elabArgs dbg Γ args = .ok (as1, ts) ∧ elabCall Γ name as1 ts = .ok r := by
  obtain ⟨n, τ'⟩ := r
  simp only [elabE] at h
  split at h
  · cases h
  · split at h
    · cases h
    · split at h
      · cases h
      · rename_i as1 ts ha
        split at h
        · cases h
        · rename_i hn
          obtain ⟨rfl, rfl⟩ := selfCheck_type h
          exact ⟨as1, ts, ha, hn⟩

theorem elabE_cast_ok {dbg : Bool} {t : Ty} {e : SExpr} {n : IExpr} {τ' : ETy}
    (h : elabE dbg Γ (.cast t e) = .ok (n, τ')) :
    ∃ e1 τ1, elabE dbg Γ e = .ok (e1, τ1) ∧ n = .cast t e1 ∧ τ' = t.r := by
  simp only [elabE] at h
  split at h
  · cases h
  · rename_i e1 τ1 h1
    exact ⟨e1, τ1, h1, selfCheck_type h⟩

theorem elabE_member_ok {dbg : Bool} {e : SExpr} {name : String} {r : IExpr × ETy}
    (h : elabE dbg Γ (.member e name) = .ok r) :
    ∃ e0 τ0, elabE dbg Γ e = .ok (e0, τ0) ∧ elabMember Γ name e0 τ0 = .ok r := by
  obtain ⟨n, τ'⟩ := r
  simp only [elabE] at h
  split at h
  · cases h
  · rename_i e0 τ0 h0
    split at h
    · cases h
    · rename_i hn
      obtain ⟨rfl, rfl⟩ := selfCheck_type h
      exact ⟨e0, τ0, h0, hn⟩

theorem elabE_index_ok {dbg : Bool} {a i : SExpr} {r : IExpr × ETy}
    (h : elabE dbg Γ (.index a i) = .ok r) :
    ∃ a0 τa i0 τi, elabE dbg Γ a = .ok (a0, τa) ∧ elabE dbg Γ i = .ok (i0, τi) ∧
      elabIndex Γ a0 τa i0 τi = .ok r := by
  obtain ⟨n, τ'⟩ := r
  simp only [elabE] at h
  split at h
  · cases h
  · rename_i a0 τa ha
    split at h
    · cases h
    · rename_i i0 τi hi
      split at h
      · cases h
      · rename_i hn
        obtain ⟨rfl, rfl⟩ := selfCheck_type h
        exact ⟨a0, τa, i0, τi, ha, hi, hn⟩

theorem elabArgs_cons_ok {dbg : Bool} {e : SExpr} {r : SArgs} {as : IArgs} {ts : List ETy}
    (h : elabArgs dbg Γ (.cons e r) = .ok (as, ts)) :
    ∃ e1 τ1 r1 ts1, elabE dbg Γ e = .ok (e1, τ1) ∧ elabArgs dbg Γ r = .ok (r1, ts1) ∧ as = .cons e1 r1 ∧ ts = τ1 :: ts1 := by
  simp only [elabArgs] at h
  split at h
  · cases h
  · rename_i e1 τ1 h1
    split at h
    · cases h
    · rename_i r1 ts1 hr; cases h; exact ⟨e1, τ1, r1, ts1, h1, hr, rfl, rfl⟩

theorem elabE_ctor_ok {dbg : Bool} {t : Ty} {args : SArgs} {n : IExpr} {τ' : ETy}
    (h : elabE dbg Γ (.ctor t args) = .ok (n, τ')) :
    ∃ s as' ars, t.layer.extractScalar = some s ∧ elabSlots dbg Γ s args = .ok (as', ars) ∧
      ars.sum = t.layer.numElements ∧ n = .ctor t ars as' ∧ τ' = t.r := by
  simp only [elabE] at h
  split at h
  · cases h
  · rename_i s hs
    split at h
    · cases h
    · rename_i as' ars ha
      split at h
      · rename_i hsum; exact ⟨s, as', ars, hs, ha, hsum, selfCheck_type h⟩
      · cases h

end RsslVerif.Lemmas.ElabX
