import RsslVerif.Model.FixpointBridge
import RsslVerif.Lemmas.IrTypeInv
/-!
The graph `Erased` of `erase`; an expression of the C01 subset is determined by its C03 skeleton (`erase`) and its constants
(`leaves`), so a second generation with the same skeleton and the same constants is the same expression and prints the same
text; the two enumerations of `ir::IntrinsicOp` are matched by name (`iopOf_name`, `iopOf_inj`).
-/
namespace RsslVerif.Lemmas.FixpointText
open RsslVerif.Gen.RankTable RsslVerif.Gen.TypingTables
open RsslVerif.Model RsslVerif.Model.Conv RsslVerif.Model.Overload RsslVerif.Model.IrTyping RsslVerif.Model.Elab
open RsslVerif.Model.Fixpoint RsslVerif.Model.FixpointBridge

variable {ix : Idx}

mutual
/-- `Erased ix e i`: `erase ix e = some i`, as a derivation — so that a proof about an erased expression is a recursion
    on the derivation and an assumption about the shape of `i` is taken apart by `cases` -/
inductive Erased (ix : Idx) : Ir.Expr → IExpr → Prop where
  | lit (c : Ir.Const) {k : Scalar} : constScalar c = k → Erased ix (.lit c) (.lit k)
  | var {id j : Nat} : ix.var (.loc id) = some j → Erased ix (.var id) (.var j)
  | global {id j : Nat} : ix.var (.glob id) = some j → Erased ix (.global id) (.var j)
  | op {o : RsslVerif.Gen.HlslGenTables.IntrinsicOp} {i : IOp} {args : Ir.Exprs} {as : IArgs} :
      iopOf o = some i → ErasedArgs ix args as → Erased ix (.op o args) (.op i as)
  | tern {c t f : Ir.Expr} {c' t' f' : IExpr} :
      Erased ix c c' → Erased ix t t' → Erased ix f f' → Erased ix (.tern c t f) (.tern c' t' f')
  | seq {a b : Ir.Expr} {a' b' : IExpr} :
      Erased ix a a' → Erased ix b b' → Erased ix (.seq (.cons a (.cons b .nil))) (.seq a' b')
  | cast {ty : Ir.Ty} {t : Ty} {e : Ir.Expr} {e' : IExpr} :
      eraseTy ty = t → Erased ix e e' → Erased ix (.cast ty e) (.cast t e')
  | call {f j : Nat} {args : Ir.Exprs} {as : IArgs} :
      ix.func f = some j → ErasedArgs ix args as → Erased ix (.call f args) (.call j as)
inductive ErasedArgs (ix : Idx) : Ir.Exprs → IArgs → Prop where
  | nil : ErasedArgs ix .nil .nil
  | cons {e : Ir.Expr} {r : Ir.Exprs} {e' : IExpr} {r' : IArgs} :
      Erased ix e e' → ErasedArgs ix r r' → ErasedArgs ix (.cons e r) (.cons e' r')
end

/-- by the recursion of `erase` / `eraseArgs` themselves: each branch that returns a skeleton is one constructor of the
    graph, with the branch's sub-results as premises -/
theorem erased_of_erase_both :
    (∀ (e : Ir.Expr) (i : IExpr), erase ix e = some i → Erased ix e i) ∧
      ∀ (es : Ir.Exprs) (is : IArgs), eraseArgs ix es = some is → ErasedArgs ix es is := by
  apply erase.mutual_induct_unfolding ix (fun e r => ∀ i, r = some i → Erased ix e i)
    (fun es r => ∀ is, r = some is → ErasedArgs ix es is)
  case case1 =>
    intro c i h
    cases h
    exact .lit c rfl
  case case2 =>
    intro id i h
    obtain ⟨j, hj, rfl⟩ := Option.map_eq_some_iff.mp h
    exact .var hj
  case case3 =>
    intro id i h
    obtain ⟨j, hj, rfl⟩ := Option.map_eq_some_iff.mp h
    exact .global hj
  case case4 =>
    intro o args i as has hio ih _ h
    cases h
    exact .op hio (ih as has)
  case case6 =>
    intro c t f c' t' f' hf ht hc ihc iht ihf _ h
    cases h
    exact .tern (ihc c' hc) (iht t' ht) (ihf f' hf)
  case case8 =>
    intro a b a' b' hb ha iha ihb _ h
    cases h
    exact .seq (iha a' ha) (ihb b' hb)
  case case11 =>
    intro ty e ih i h
    obtain ⟨e', he, rfl⟩ := Option.map_eq_some_iff.mp h
    exact .cast rfl (ih e' he)
  case case12 =>
    intro f args j as has hj ih _ h
    cases h
    exact .call hj (ih as has)
  case case15 =>
    intro _ h
    cases h
    exact .nil
  case case16 =>
    intro e r e' r' hr he ihe ihr _ h
    cases h
    exact .cons (ihe e' he) (ihr r' hr)
  -- the branches that return `none`
  all_goals (intros; contradiction)

theorem erased_of_erase : ∀ (e : Ir.Expr) (i : IExpr), erase ix e = some i → Erased ix e i :=
  erased_of_erase_both.1
theorem erasedArgs_of_eraseArgs : ∀ (es : Ir.Exprs) (is : IArgs), eraseArgs ix es = some is → ErasedArgs ix es is :=
  erased_of_erase_both.2

/-! ## skeleton + constants determine the expression -/

mutual
/-- number of constants of a skeleton -/
def leafCount : IExpr → Nat
  | .lit _ => 1
  | .var _ => 0
  | .tern c a b => leafCount c + (leafCount a + leafCount b)
  | .seq a b => leafCount a + (leafCount b + 0)
  | .call _ args => leafCountArgs args
  | .cast _ e => leafCount e
  | .op _ args => leafCountArgs args
def leafCountArgs : IArgs → Nat
  | .nil => 0
  | .cons e r => leafCount e + leafCountArgs r
end

/-- the list statement carries the induction (the recursor of `ErasedArgs` proves the claim about `Erased` beside it);
    the statement about one expression is its singleton case -/
theorem ErasedArgs.leaves_length : ∀ {es : Ir.Exprs} {is : IArgs}, ErasedArgs ix es is →
    (leavesArgs es).length = leafCountArgs is := by
  intro es is h
  induction h using ErasedArgs.rec (motive_1 := fun e i _ => (leaves e).length = leafCount i) with
  | lit _ _ | var _ | global _ | nil => rfl
  | op _ _ h | call _ _ h | cast _ _ h => simpa only [leaves, leafCount] using h
  | tern _ _ _ hc ht hf => simp only [leaves, leafCount, List.length_append, hc, ht, hf]
  | seq _ _ ha hb => simp only [leaves, leavesArgs, leafCount, List.length_append, List.length_nil, ha, hb]
  | cons _ _ he hr => simp only [leavesArgs, leafCountArgs, List.length_append, he, hr]

theorem Erased.leaves_length : ∀ {e : Ir.Expr} {i : IExpr}, Erased ix e i → (leaves e).length = leafCount i := by
  intro e i h
  simpa [leavesArgs, leafCountArgs] using (ErasedArgs.cons h .nil).leaves_length

theorem leavesArgs_length : ∀ (es : Ir.Exprs) (is : IArgs), eraseArgs ix es = some is →
    (leavesArgs es).length = leafCountArgs is :=
  fun es is h => (erasedArgs_of_eraseArgs es is h).leaves_length

theorem eraseTy_inj : ∀ a b : Ir.Ty, eraseTy a = eraseTy b → a = b := by
  intro a b; cases a <;> cases b <;> decide

section
open RsslVerif.Gen.HlslGenTables (IntrinsicOp)

/-- the names of `ir::IntrinsicOp` are distinct: looking the name of an operator up gives the operator -/
theorem IntrinsicOp.ofName?_name (g : IntrinsicOp) : IntrinsicOp.ofName? g.name = some g :=
  (by decide +kernel : ∀ g ∈ IntrinsicOp.all, IntrinsicOp.ofName? g.name = some g) g (IntrinsicOp.mem_all g)

/-- `iopOf` matches the two enumerations of `ir::IntrinsicOp` by name -/
theorem iopOf_name {g : IntrinsicOp} {i : IOp} (h : iopOf g = some i) : i.name = g.name := by
  simpa using List.find?_some h

theorem iopOf_inj (a b : IntrinsicOp) (i : IOp) (ha : iopOf a = some i) (hb : iopOf b = some i) : a = b := by
  have h := IntrinsicOp.ofName?_name a
  rw [← iopOf_name ha, iopOf_name hb, IntrinsicOp.ofName?_name] at h
  exact (Option.some.inj h).symm

end

/-- two expressions with the same skeleton have as many constants, part by part: an equation between their constants
    splits at the parts -/
theorem leaves_split {e e2 : Ir.Expr} {i : IExpr} {r r2 : List Ir.Const} (h1 : Erased ix e i) (h2 : Erased ix e2 i)
    (hl : leaves e ++ r = leaves e2 ++ r2) : leaves e = leaves e2 ∧ r = r2 :=
  List.append_inj hl (by rw [h1.leaves_length, h2.leaves_length])

theorem ErasedArgs.inj (hI : IdxInj ix) : ∀ {es es2 : Ir.Exprs} {is : IArgs}, ErasedArgs ix es is → ErasedArgs ix es2 is →
    leavesArgs es = leavesArgs es2 → es = es2 := by
  intro es es2 is h h2 hl
  induction h using ErasedArgs.rec
    (motive_1 := fun e i _ => ∀ e2, Erased ix e2 i → leaves e = leaves e2 → e = e2) generalizing es2 with
  | lit c _ =>
    rename_i h2 hl
    cases h2
    simp only [leaves, List.cons.injEq, and_true] at hl
    rw [hl]
  | var hv =>
    rename_i h2 _
    cases h2 with
    | var hv2 => cases hI.var _ _ _ hv hv2; rfl
    | global hv2 => cases hI.var _ _ _ hv hv2
  | global hv =>
    rename_i h2 _
    cases h2 with
    | var hv2 => cases hI.var _ _ _ hv hv2
    | global hv2 => cases hI.var _ _ _ hv hv2; rfl
  | op hio _ ih =>
    rename_i h2 hl
    cases h2 with
    | op hio2 has2 => rw [iopOf_inj _ _ _ hio hio2, ih has2 hl]
  | tern hc ht hf ihc iht ihf =>
    rename_i h2 hl
    cases h2 with
    | tern hc2 ht2 hf2 =>
      simp only [leaves] at hl
      obtain ⟨l1, hl⟩ := leaves_split hc hc2 hl
      obtain ⟨l2, l3⟩ := leaves_split ht ht2 hl
      rw [ihc _ hc2 l1, iht _ ht2 l2, ihf _ hf2 l3]
  | seq ha hb iha ihb =>
    rename_i h2 hl
    cases h2 with
    | seq ha2 hb2 =>
      simp only [leaves, leavesArgs, List.append_nil] at hl
      obtain ⟨l1, l2⟩ := leaves_split ha ha2 hl
      rw [iha _ ha2 l1, ihb _ hb2 l2]
  | cast hty _ ih =>
    rename_i h2 hl
    cases h2 with
    | cast hty2 he2 => rw [eraseTy_inj _ _ (hty.trans hty2.symm), ih _ he2 hl]
  | call hj _ ih =>
    rename_i h2 hl
    cases h2 with
    | call hj2 has2 => rw [hI.func _ _ _ hj hj2, ih has2 hl]
  | nil =>
    cases h2
    rfl
  | cons he _ ihe ihr =>
    cases h2 with
    | cons he2 hr2 =>
      simp only [leavesArgs] at hl
      obtain ⟨l1, l2⟩ := leaves_split he he2 hl
      rw [ihe _ he2 l1, ihr hr2 l2]

theorem Erased.inj (hI : IdxInj ix) : ∀ {e e2 : Ir.Expr} {i : IExpr}, Erased ix e i → Erased ix e2 i →
    leaves e = leaves e2 → e = e2 :=
  fun h h2 hl =>
    (Ir.Exprs.cons.inj ((ErasedArgs.cons h .nil).inj hI (.cons h2 .nil) (by simp only [leavesArgs, hl]))).1

theorem erase_inj (hI : IdxInj ix) (e e2 : Ir.Expr) (i : IExpr) (h1 : erase ix e = some i) (h2 : erase ix e2 = some i)
    (hl : leaves e = leaves e2) : e = e2 :=
  (erased_of_erase e i h1).inj hI (erased_of_erase e2 i h2) hl

theorem eraseArgs_inj (hI : IdxInj ix) : ∀ (es es2 : Ir.Exprs) (is : IArgs), eraseArgs ix es = some is →
    eraseArgs ix es2 = some is → leavesArgs es = leavesArgs es2 → es = es2 :=
  fun es es2 is h1 h2 hl => (erasedArgs_of_eraseArgs es is h1).inj hI (erasedArgs_of_eraseArgs es2 is h2) hl

end RsslVerif.Lemmas.FixpointText
