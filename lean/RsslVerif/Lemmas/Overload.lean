import RsslVerif.Spec.Overload
import RsslVerif.Lemmas.Basics
/-! C16: the stages of `resolveRanked` (tournament, minimal count vector) are invariant under permutation and select
what the reference notions of `Spec.Overload` say; `rankCand` and `resolveResults` characterised. -/
namespace RsslVerif.Lemmas.Overload
open RsslVerif.Gen.RankTable RsslVerif.Model.Conv RsslVerif.Model.Overload RsslVerif.Spec.Overload

theorem isWorse_iff (c a : NumRank) : isWorse c a = true ↔ a.order < c.order := by
  cases c <;> cases a <;> decide

theorem isWorse_false_iff (c a : NumRank) : isWorse c a = false ↔ c.order ≤ a.order := by
  cases c <;> cases a <;> decide

theorem order_eq_badness (r : NumRank) : r.order = numBadness r := by
  cases r <;> rfl

/-- the order of the count vectors is `<` of `List Nat`; its order facts are core's -/
theorem lexLt_iff : ∀ a b : List Nat, lexLt a b = true ↔ a < b
  | [], [] => by simp [lexLt]
  | [], _ :: _ => by simp [lexLt]
  | _ :: _, [] => by simp [lexLt]
  | x :: xs, y :: ys => by simp [lexLt, List.cons_lt_cons_iff, lexLt_iff xs ys]

theorem lexLt_false_iff {a b : List Nat} : lexLt a b = false ↔ b ≤ a := by
  rw [← List.not_lt, ← lexLt_iff, Bool.not_eq_true]

theorem lexLt_irrefl : ∀ a, lexLt a a = false :=
  fun a => lexLt_false_iff.mpr (List.le_refl a)

theorem lexLt_antisymm (a b : List Nat) (h1 : lexLt a b = false) (h2 : lexLt b a = false) : a = b :=
  List.le_antisymm (lexLt_false_iff.mp h2) (lexLt_false_iff.mp h1)

theorem lexLt_asymm {a b : List Nat} (h : lexLt a b = true) : lexLt b a = false :=
  lexLt_false_iff.mpr (List.le_of_lt ((lexLt_iff a b).mp h))

/-- `≤` of the count vectors (`a ≤ b` is `lexLt b a = false`) is transitive -/
theorem lexLe_trans {a b c : List Nat} (hab : lexLt b a = false) (hbc : lexLt c b = false) : lexLt c a = false :=
  lexLt_false_iff.mpr (List.le_trans (lexLt_false_iff.mp hab) (lexLt_false_iff.mp hbc))

theorem bestOrder_spec (first : List Nat) (os : List (List Nat)) :
    (bestOrder first os = first ∨ bestOrder first os ∈ os) ∧
    lexLt first (bestOrder first os) = false ∧ ∀ o ∈ os, lexLt o (bestOrder first os) = false := by
  induction os generalizing first with
  | nil => simp [bestOrder, lexLt_irrefl]
  | cons o os ih =>
    simp only [bestOrder, List.foldl_cons, List.mem_cons, forall_eq_or_imp]
    cases h : lexLt o first with
    | true =>
      have ⟨hm, hf, ha⟩ := ih o
      exact ⟨Or.inr (hm.imp id id), lexLe_trans hf (lexLt_asymm h), hf, ha⟩
    | false =>
      have ⟨hm, hf, ha⟩ := ih first
      exact ⟨hm.imp id Or.inr, hf, lexLe_trans hf h, ha⟩

/-- the minimum is characterised by membership + lower bound, hence independent of the order -/
theorem min_unique (os : List (List Nat)) (a b : List Nat)
    (ha : a ∈ os) (hb : b ∈ os) (la : ∀ o ∈ os, lexLt o a = false) (lb : ∀ o ∈ os, lexLt o b = false) : a = b :=
  lexLt_antisymm a b (lb a ha) (la b hb)

theorem mem_winners {l : List (Nat × List Rank)} {x : Nat × List Rank} :
    x ∈ winners l ↔ x ∈ l ∧ ∀ a ∈ l, a.1 = x.1 ∨ notWorse x.2 a.2 = true := by
  simp [winners, List.mem_filter, List.all_eq_true]

theorem winners_perm {l l' : List (Nat × List Rank)} (h : List.Perm l l') :
    List.Perm (winners l) (winners l') := by
  unfold winners
  rw [show (fun c : Nat × List Rank => l.all fun a => a.1 == c.1 || notWorse c.2 a.2) = _ from
    funext fun c => h.all_eq]
  exact h.filter _

theorem finals_eq (w : List (Nat × List Rank)) :
    finals w = w.filter fun x => w.all fun y => !lexLt (order y.2) (order x.2) := by
  cases w with
  | nil => rfl
  | cons c t =>
    simp only [finals]
    apply List.filter_congr
    intro x hx
    have ⟨hm, _, hlow⟩ := bestOrder_spec (order c.2) (List.map (fun x => order x.2) (c :: t))
    have hmem : bestOrder (order c.2) (List.map (fun x => order x.2) (c :: t)) ∈
        List.map (fun x => order x.2) (c :: t) := by
      rcases hm with hm | hm
      · rw [hm]; exact List.mem_map.mpr ⟨c, List.mem_cons_self, rfl⟩
      · exact hm
    rw [Bool.eq_iff_iff]
    simp only [beq_iff_eq, List.all_eq_true, Bool.not_eq_true']
    constructor
    · intro e y hy
      rw [e]
      exact hlow _ (List.mem_map.mpr ⟨y, hy, rfl⟩)
    · intro hmin
      apply min_unique (List.map (fun x => order x.2) (c :: t)) _ _
        (List.mem_map.mpr ⟨x, hx, rfl⟩) hmem
      · intro o ho
        obtain ⟨y, hy, rfl⟩ := List.mem_map.mp ho
        exact hmin y hy
      · exact hlow

theorem mem_finals {w : List (Nat × List Rank)} {x : Nat × List Rank} :
    x ∈ finals w ↔ x ∈ w ∧ ∀ y ∈ w, lexLt (order y.2) (order x.2) = false := by
  rw [finals_eq]
  simp [List.mem_filter, List.all_eq_true]

theorem finals_perm {w w' : List (Nat × List Rank)} (h : List.Perm w w') :
    List.Perm (finals w) (finals w') := by
  rw [finals_eq, finals_eq,
    show (fun x : Nat × List Rank => w.all fun y => !lexLt (order y.2) (order x.2)) = _ from funext fun x => h.all_eq]
  exact h.filter _

theorem resolveRanked_perm {l l' : List (Nat × List Rank)} (h : List.Perm l l') :
    Outcome.Equiv (resolveRanked l) (resolveRanked l') := by
  have hf := finals_perm (winners_perm h)
  unfold resolveRanked
  generalize finals (winners l) = f at hf
  generalize finals (winners l') = f' at hf
  match f, f', hf with
  | [], f', hf =>
    have := hf.nil_eq; subst this; simp [Outcome.Equiv]
  | [c], f', hf =>
    have : [c] = f' := List.singleton_perm.mp hf
    subst this; simp [Outcome.Equiv]
  | c :: d :: t, [], hf => exact absurd hf.eq_nil (by simp)
  | c :: d :: t, [x], hf => exact absurd (List.perm_singleton.mp hf) (by simp)
  | c :: d :: t, x :: y :: u, hf =>
    simp only [Outcome.Equiv]
    exact hf.map _

theorem countByRank_nil (v : VecRank) : countByRank [] v = 0 := rfl

theorem countByRank_cons (r : Rank) (rs : List Rank) (v : VecRank) :
    countByRank (r :: rs) v = (if r.vec = v then 1 else 0) + countByRank rs v := by
  unfold countByRank
  by_cases h : r.vec = v
  · simp [h]; omega
  · simp [h]

theorem order_eq (rs : List Rank) :
    order rs = [countByRank rs .contract, countByRank rs .expand, countByRank rs .exact] := rfl

theorem count_sum (rs : List Rank) :
    countByRank rs .contract + countByRank rs .expand + countByRank rs .exact = rs.length := by
  induction rs with
  | nil => rfl
  | cons r rs ih =>
    simp only [countByRank_cons, List.length_cons]
    cases hv : r.vec <;> simp <;> omega

theorem notWorse_of_numExact : ∀ (c a : List Rank), (∀ r ∈ c, r.num = .exact) → notWorse c a = true
  | [], _, _ => by simp [notWorse]
  | _ :: _, [], _ => by simp [notWorse]
  | c :: cs, a :: as, h => by
    have hc : c.num = .exact := h c List.mem_cons_self
    have : isWorse c.num a.num = false := by
      rw [isWorse_false_iff, hc]; exact Nat.zero_le _
    simp only [notWorse, this, Bool.not_false, Bool.true_and]
    exact notWorse_of_numExact cs as (fun r hr => h r (List.mem_cons_of_mem _ hr))

/-- one position of `tie`: a vector rank at least as good, in terms of the summands of `countByRank_cons` (table fact) -/
theorem vec_step (d c : VecRank) (h : vecBadness d ≤ vecBadness c) :
    (if d = .contract then 1 else 0) ≤ (if c = .contract then 1 else 0) ∧
    (if d = .contract then 1 else 0) + (if d = .expand then 1 else 0) ≤
      (if c = .contract then 1 else 0) + (if c = .expand then 1 else 0) ∧
    (vecBadness d < vecBadness c →
      (if d = .contract then 1 else 0) < (if c = .contract then 1 else 0) ∨
      (if d = .contract then 1 else 0) + (if d = .expand then 1 else 0) <
        (if c = .contract then 1 else 0) + (if c = .expand then 1 else 0)) := by
  revert h; cases d <;> cases c <;> decide

/-- `d` converts every argument at least as well as `c`, and `c` is numerically not worse than `d` anywhere.  Then the two
    have the same numeric ranks — they fare alike in the tournament, against anyone and against each other — and `d` has
    no more truncations, and no more truncations and splats together, than `c`; fewer if some argument is strictly better. -/
theorem tie : ∀ (d c : List Rank), AllLe d c → notWorse c d = true →
    (∀ a, notWorse d a = notWorse c a) ∧ notWorse d c = true ∧ d.length = c.length ∧
    countByRank d .contract ≤ countByRank c .contract ∧
    countByRank d .contract + countByRank d .expand ≤ countByRank c .contract + countByRank c .expand ∧
    (SomeLt d c → countByRank d .contract < countByRank c .contract ∨
      countByRank d .contract + countByRank d .expand < countByRank c .contract + countByRank c .expand)
  | [], [], _, _ => by simp [notWorse, SomeLt]
  | [], _ :: _, h, _ => by simp [AllLe] at h
  | _ :: _, [], h, _ => by simp [AllLe] at h
  | d :: ds, c :: cs, h, hn => by
    simp only [AllLe, Rank.le, ← order_eq_badness] at h
    simp only [notWorse, Bool.and_eq_true, Bool.not_eq_true', isWorse_false_iff] at hn
    obtain ⟨i1, i2, i3, i4, i5, i6⟩ := tie ds cs h.2 hn.2
    -- the head: same numeric rank, vector rank at least as good
    obtain ⟨he, hv⟩ : d.num.order = c.num.order ∧ vecBadness d.vec ≤ vecBadness c.vec := by omega
    have ⟨j1, j2, j3⟩ := vec_step d.vec c.vec hv
    refine ⟨fun a => ?_, ?_, by simp [i3], ?_, ?_, fun hs => ?_⟩
    · cases a with
      | nil => rfl
      | cons a as =>
        have e : isWorse d.num a.num = isWorse c.num a.num := by rw [Bool.eq_iff_iff, isWorse_iff, isWorse_iff, he]
        simp only [notWorse, e, i1 as]
    · have : isWorse d.num c.num = false := by rw [isWorse_false_iff]; omega
      simp only [notWorse, this, i2, Bool.not_false, Bool.and_self]
    · simp only [countByRank_cons]; omega
    · simp only [countByRank_cons]; omega
    · simp only [SomeLt, Rank.lt, ← order_eq_badness] at hs
      simp only [countByRank_cons]
      rcases hs with (hs | ⟨_, hs⟩) | hs
      · omega
      · have := j3 hs; omega
      · have := i6 hs; omega

/-- a strictly better tie has a smaller count vector -/
theorem order_lt_of_tie {d c : List Rank} (h : AllLe d c) (hn : notWorse c d = true) (hs : SomeLt d c) :
    lexLt (order d) (order c) = true := by
  obtain ⟨_, _, hl, i1, i2, i3⟩ := tie d c h hn
  have i3 := i3 hs
  have s1 := count_sum d
  have s2 := count_sum c
  rw [order_eq, order_eq]
  simp only [lexLt, Bool.or_eq_true, Bool.and_eq_true, decide_eq_true_eq, beq_iff_eq, Bool.or_false, Bool.and_false]
  omega

theorem notWorse_refl : ∀ rs : List Rank, notWorse rs rs = true
  | [] => rfl
  | r :: rs => by
    have : isWorse r.num r.num = false := by rw [isWorse_false_iff]; exact Nat.le_refl _
    simp only [notWorse, this, notWorse_refl rs, Bool.not_false, Bool.and_self]

theorem counts_of_exact (rs : List Rank) (h : ∀ r ∈ rs, r.vec = .exact) :
    countByRank rs .contract = 0 ∧ countByRank rs .expand = 0 ∧ countByRank rs .exact = rs.length := by
  induction rs with
  | nil => simp [countByRank_nil]
  | cons r rs ih =>
    have ⟨a, b, c⟩ := ih (fun x hx => h x (List.mem_cons_of_mem _ hx))
    have hr : r.vec = .exact := h r List.mem_cons_self
    simp [countByRank_cons, hr, a, b, c]; omega

theorem eq_of_id_eq {l : List (Nat × List Rank)} (hnd : (l.map (·.1)).Nodup) {x y : Nat × List Rank}
    (hx : x ∈ l) (hy : y ∈ l) (h : x.1 = y.1) : x = y :=
  Basics.eq_of_map_nodup hnd hx hy h

theorem nodup_of_ids {l : List (Nat × List Rank)} (hnd : (l.map (·.1)).Nodup) : l.Nodup :=
  List.Pairwise.of_map _ (fun _ _ h e => h (e ▸ rfl)) hnd

theorem finals_subset {w : List (Nat × List Rank)} {x : Nat × List Rank} (h : x ∈ finals w) : x ∈ w :=
  (mem_finals.mp h).1

theorem winners_subset {l : List (Nat × List Rank)} {x : Nat × List Rank} (h : x ∈ winners l) : x ∈ l :=
  (mem_winners.mp h).1

theorem finals_winners_nodup {l : List (Nat × List Rank)} (hnd : l.Nodup) : (finals (winners l)).Nodup := by
  rw [finals_eq]
  unfold winners
  exact (hnd.filter _).filter _

theorem eq_singleton_of_nodup {α : Type} {l : List α} {x : α} (hnd : l.Nodup) (hx : x ∈ l)
    (hall : ∀ y ∈ l, y = x) : l = [x] := by
  match l, hnd, hx, hall with
  | [], _, hx, _ => simp at hx
  | [a], _, _, hall => rw [hall a List.mem_cons_self]
  | a :: b :: t, hnd, _, hall =>
    have ha := hall a List.mem_cons_self
    have hb := hall b (List.mem_cons_of_mem _ List.mem_cons_self)
    rw [List.nodup_cons] at hnd
    exact absurd (by rw [ha, hb]; exact List.mem_cons_self) hnd.1

theorem resolveRanked_selected {l : List (Nat × List Rank)} {i : Nat} (h : resolveRanked l = .selected i) :
    ∃ rc, finals (winners l) = [(i, rc)] := by
  revert h
  fun_cases resolveRanked l <;> intro h <;> cases h
  rename_i c hf
  exact ⟨c.2, hf⟩

theorem resolveRanked_ne_panic (l : List (Nat × List Rank)) : resolveRanked l ≠ .panic := by
  unfold resolveRanked
  split <;> simp

theorem resolveRanked_of_singleton {l : List (Nat × List Rank)} {x : Nat × List Rank}
    (h : finals (winners l) = [x]) : resolveRanked l = .selected x.1 := by
  unfold resolveRanked; rw [h]

theorem resolveRanked_ambiguous_of_two {l : List (Nat × List Rank)} {x y : Nat × List Rank}
    (hx : x ∈ finals (winners l)) (hy : y ∈ finals (winners l)) (hne : x ≠ y) :
    resolveRanked l = .ambiguous ((finals (winners l)).map (·.1)) := by
  fun_cases resolveRanked l
  case case1 hf => rw [hf] at hx; cases hx
  case case2 c hf =>
    simp only [hf, List.mem_singleton] at hx hy
    exact absurd (hx.trans hy.symm) hne
  case case3 => rfl

/-- componentwise comparison of two rank lists implies the lexicographic one -/
theorem allLe_of_allLeBoth : ∀ {x y : List Rank}, AllLeBoth x y → AllLe x y
  | [], [], _ => trivial
  | [], _ :: _, h => h.elim
  | _ :: _, [], h => h.elim
  | _ :: _, _ :: _, ⟨h, hs⟩ => ⟨by unfold Rank.leBoth at h; unfold Rank.le; omega, allLe_of_allLeBoth hs⟩

/-- no candidate left at the end is dominated by any ranked candidate -/
theorem final_not_dominated {l : List (Nat × List Rank)} (hnd : (l.map (·.1)).Nodup) {y : Nat × List Rank}
    (hyf : y ∈ finals (winners l)) : ∀ d ∈ l, ¬ Dominates d.2 y.2 := by
  have hyw := finals_subset hyf
  have hyl := winners_subset hyw
  intro d hd ⟨hall, hsome⟩
  -- `y` is not numerically worse than `d` (or `d` is `y` itself)
  have hnw : notWorse y.2 d.2 = true := by
    rcases (mem_winners.mp hyw).2 d hd with hid | hnw
    · rw [eq_of_id_eq hnd hd hyl hid]; exact notWorse_refl y.2
    · exact hnw
  obtain ⟨same, hdc, -⟩ := tie d.2 y.2 hall hnw
  -- so `d` wins the tournament too, with a smaller count vector: `y` is not minimal
  have hdw : d ∈ winners l := by
    refine mem_winners.mpr ⟨hd, fun a ha => Or.inr ?_⟩
    rcases (mem_winners.mp hyw).2 a ha with hid | hnwa
    · rw [eq_of_id_eq hnd ha hyl hid]; exact hdc
    · rw [same]; exact hnwa
  have := (mem_finals.mp hyf).2 d hdw
  rw [order_lt_of_tie hall hnw hsome] at this
  cases this

theorem ranked_not_dominated {l : List (Nat × List Rank)} (hnd : (l.map (·.1)).Nodup) {i : Nat}
    (h : resolveRanked l = .selected i) :
    ∃ rc, (i, rc) ∈ l ∧ ∀ d ∈ l, ¬ Dominates d.2 rc := by
  obtain ⟨rc, hf⟩ := resolveRanked_selected h
  have hxf : (i, rc) ∈ finals (winners l) := by rw [hf]; exact List.mem_cons_self
  exact ⟨rc, winners_subset (finals_subset hxf), final_not_dominated hnd hxf⟩

/-- one position of `exact_dominates` (table fact) -/
theorem exact_step (b : Rank) : Rank.le ⟨.exact, .exact⟩ b ∧ (b ≠ ⟨.exact, .exact⟩ → Rank.lt ⟨.exact, .exact⟩ b) := by
  obtain ⟨bn, bv⟩ := b
  unfold Rank.le Rank.lt
  cases bn <;> cases bv <;> decide

/-- an exact match converts every argument at least as well as anything of its length, and some argument better than
    anything that is not exact itself -/
theorem exact_dominates : ∀ (x y : List Rank), RankExact x → x.length = y.length →
    AllLe x y ∧ (¬ RankExact y → SomeLt x y)
  | [], [], _, _ => ⟨trivial, fun h => absurd (fun _ hr => nomatch hr) h⟩
  | [], _ :: _, _, h => by simp at h
  | _ :: _, [], _, h => by simp at h
  | a :: x, b :: y, hx, hl => by
    obtain ⟨i1, i2⟩ := exact_dominates x y (fun r hr => hx r (List.mem_cons_of_mem _ hr)) (by simpa using hl)
    rw [hx a List.mem_cons_self]
    refine ⟨⟨(exact_step b).1, i1⟩, fun hn => ?_⟩
    by_cases hb : b = ⟨.exact, .exact⟩
    · exact Or.inr (i2 fun hy => hn (List.forall_mem_cons.mpr ⟨hb, hy⟩))
    · exact Or.inl ((exact_step b).2 hb)

/-- if an exactly matching candidate exists, the final list consists of exactly the exactly matching candidates -/
theorem mem_finals_winners_iff_exact {l : List (Nat × List Rank)} (hnd : (l.map (·.1)).Nodup) {n : Nat}
    (hlen : ∀ y ∈ l, y.2.length = n) {x : Nat × List Rank} (hx : x ∈ l) (hex : RankExact x.2)
    (y : Nat × List Rank) : y ∈ finals (winners l) ↔ y ∈ l ∧ RankExact y.2 := by
  constructor
  · -- a final candidate that is not exact would be dominated by `x`
    intro hy
    have hyl := winners_subset (finals_subset hy)
    obtain ⟨h1, h2⟩ := exact_dominates x.2 y.2 hex (by rw [hlen x hx, hlen y hyl])
    exact ⟨hyl, Classical.byContradiction fun hn => final_not_dominated hnd hy x hx ⟨h1, h2 hn⟩⟩
  · intro ⟨hyl, hye⟩
    have hyw : y ∈ winners l :=
      mem_winners.mpr ⟨hyl, fun a _ => Or.inr (notWorse_of_numExact y.2 a.2 fun r hr => by rw [hye r hr])⟩
    refine mem_finals.mpr ⟨hyw, fun w hw => ?_⟩
    -- the count vector of an exact match is `[0, 0, n]`, the least one of its length
    have ⟨c1, c2, c3⟩ := counts_of_exact y.2 fun r hr => by rw [hye r hr]
    have s := count_sum w.2
    have lw := hlen w (winners_subset hw)
    have ly := hlen y hyl
    rw [order_eq, order_eq, c1, c2, c3]
    simp only [lexLt, Bool.or_eq_false_iff, Bool.and_eq_false_iff, decide_eq_false_iff_not, beq_eq_false_iff_ne,
      Bool.or_false, Bool.and_false]
    omega

/-- the viable candidates with their ranks, in declaration order -/
def rankedList (cands : List Cand) (args : List ETy) : List (Nat × List Rank) :=
  (cands.map (rankCand args)).filterMap CandResult.ranked?

theorem ranked?_eq_some {r : CandResult} {x : Nat × List Rank} : r.ranked? = some x ↔ r = .ranked x.1 x.2 := by
  cases r <;> simp [CandResult.ranked?, Prod.ext_iff]

theorem rankCand_ranked {args : List ETy} {c : Cand} {j : Nat} {rs : List Rank} (h : rankCand args c = .ranked j rs) :
    (args.length ≤ c.params.length ∧ c.nonDefault ≤ args.length) ∧ zipRanks c.params args = .ok (some rs) ∧ j = c.id := by
  revert h
  fun_cases rankCand args c <;> intro h <;> cases h
  rename_i hg hz
  exact ⟨hg, hz, rfl⟩

theorem resolveResults_panic {rs : List CandResult} (h : rs.any CandResult.isPanic = true) :
    resolveResults rs = .panic := by
  simp [resolveResults, h]

theorem resolveResults_ranked {rs : List CandResult} (h : rs.any CandResult.isPanic = false) :
    resolveResults rs = resolveRanked (rs.filterMap CandResult.ranked?) := by
  simp [resolveResults, h]

theorem any_isPanic_map {α : Type} {f : α → CandResult} {l : List α} :
    (l.map f).any CandResult.isPanic = false ↔ ∀ a ∈ l, (f a).isPanic = false := by
  simp [List.any_eq_false]

theorem any_perm {α : Type} {l l' : List α} (h : List.Perm l l') (f : α → Bool) : l.any f = l'.any f :=
  h.any_eq

theorem resolveResults_perm {rs rs' : List CandResult} (h : List.Perm rs rs') :
    Outcome.Equiv (resolveResults rs) (resolveResults rs') := by
  cases hp : rs'.any CandResult.isPanic with
  | true => rw [resolveResults_panic hp, resolveResults_panic (h.any_eq.trans hp)]; trivial
  | false =>
    rw [resolveResults_ranked hp, resolveResults_ranked (h.any_eq.trans hp)]
    exact resolveRanked_perm (h.filterMap _)

/-- `resolveResults` reads the panics and the ranked results, nothing else -/
theorem resolveResults_congr {rs rs' : List CandResult} (h1 : rs.any CandResult.isPanic = rs'.any CandResult.isPanic)
    (h2 : rs.filterMap CandResult.ranked? = rs'.filterMap CandResult.ranked?) : resolveResults rs = resolveResults rs' := by
  simp only [resolveResults, h1, h2]

/-! ## what `resolveResults` selects, for candidates of any kind

`α` is the kind of candidate (`Cand`, `GCand`, …), `id a` its `FunctionId`, `rk a` its per-candidate result.  All the
theorems need of a kind is that a ranked result carries the id of its candidate and, for the exact-match family, that
all rank lists have one length (`Kind`). -/
section Results
variable {α : Type} {id : α → Nat} {rk : α → CandResult} {l : List α}

/-- the viable candidates with their ranks, in declaration order -/
def ranked (rk : α → CandResult) (l : List α) : List (Nat × List Rank) := (l.map rk).filterMap CandResult.ranked?

theorem mem_ranked {j : Nat} {rd : List Rank} : (j, rd) ∈ ranked rk l ↔ ∃ a ∈ l, rk a = .ranked j rd := by
  simp only [ranked, List.mem_filterMap, List.mem_map, ranked?_eq_some]
  constructor
  · rintro ⟨r, ⟨c, hc, rfl⟩, hr⟩; exact ⟨c, hc, hr⟩
  · rintro ⟨c, hc, hr⟩; exact ⟨_, ⟨c, hc, rfl⟩, hr⟩

theorem ranked_ids_nodup (hn : ∀ a j rs, rk a = .ranked j rs → j = id a) (h : (l.map id).Nodup) :
    ((ranked rk l).map (·.1)).Nodup := by
  rw [ranked, List.filterMap_map]
  -- a ranked result carries the id of its candidate, so distinct ids survive the `filterMap`
  refine List.pairwise_map.mpr ((List.pairwise_map.mp h).filterMap _ fun a a' hne b hb b' hb' e => hne ?_)
  rw [← hn a _ _ (ranked?_eq_some.mp hb), e, hn a' _ _ (ranked?_eq_some.mp hb')]

theorem results_cases (rk : α → CandResult) (l : List α) :
    resolveResults (l.map rk) = .panic ∨ resolveResults (l.map rk) = resolveRanked (ranked rk l) := by
  cases hp : (l.map rk).any CandResult.isPanic with
  | true => exact Or.inl (resolveResults_panic hp)
  | false => exact Or.inr (resolveResults_ranked hp)

theorem results_of_noPanic (h : ∀ a ∈ l, (rk a).isPanic = false) :
    resolveResults (l.map rk) = resolveRanked (ranked rk l) :=
  resolveResults_ranked (any_isPanic_map.mpr h)

theorem results_ne_panic (h : ∀ a ∈ l, (rk a).isPanic = false) : resolveResults (l.map rk) ≠ .panic := by
  rw [results_of_noPanic h]; exact resolveRanked_ne_panic _

/-- a selected candidate is one of the candidates and was ranked -/
theorem results_selected (hn : ∀ a j rs, rk a = .ranked j rs → j = id a) {i : Nat}
    (h : resolveResults (l.map rk) = .selected i) : ∃ a ∈ l, id a = i ∧ ∃ rc, rk a = .ranked (id a) rc := by
  rcases results_cases rk l with hp | hr
  · rw [hp] at h; cases h
  · rw [hr] at h
    obtain ⟨rc, hf⟩ := resolveRanked_selected h
    obtain ⟨a, ha, hra⟩ := mem_ranked.mp (winners_subset (finals_subset (by rw [hf]; exact List.mem_cons_self)))
    have hi := hn a _ _ hra
    exact ⟨a, ha, hi.symm, rc, by rw [hra, hi]⟩

/-- **Not dominated**: no candidate converts every argument at least as well as the selected one and one better -/
theorem results_not_dominated (hn : ∀ a j rs, rk a = .ranked j rs → j = id a) (hnd : (l.map id).Nodup) {i : Nat}
    (h : resolveResults (l.map rk) = .selected i) :
    ∃ a ∈ l, id a = i ∧ ∃ rc, rk a = .ranked (id a) rc ∧
      ∀ d ∈ l, ∀ rd, rk d = .ranked (id d) rd → ¬ Dominates rd rc := by
  rcases results_cases rk l with hp | hr
  · rw [hp] at h; cases h
  · rw [hr] at h
    obtain ⟨rc, hm, hdom⟩ := ranked_not_dominated (ranked_ids_nodup hn hnd) h
    obtain ⟨a, ha, hra⟩ := mem_ranked.mp hm
    have hi := hn a _ _ hra
    exact ⟨a, ha, hi.symm, rc, by rw [hra, hi], fun d hd rd hv => hdom (id d, rd) (mem_ranked.mpr ⟨d, hd, hv⟩)⟩

/-- what the exact-match family needs of a kind of candidate, for one call with `n` arguments -/
structure Kind (id : α → Nat) (rk : α → CandResult) (l : List α) (n : Nat) : Prop where
  named : ∀ a j rs, rk a = .ranked j rs → j = id a
  len : ∀ a ∈ l, ∀ j rs, rk a = .ranked j rs → rs.length = n
  nodup : (l.map id).Nodup

/-- the candidate is viable and no argument needs a numeric or a dimension conversion -/
def Exact (id : α → Nat) (rk : α → CandResult) (a : α) : Prop := ∃ rs, rk a = .ranked (id a) rs ∧ RankExact rs

/-- **Exact matches decide the call**: with an exact candidate, the final list is the exact candidates -/
theorem results_finals_exact {n : Nat} (K : Kind id rk l n) {a : α} (ha : a ∈ l) (hex : Exact id rk a)
    (y : Nat × List Rank) : y ∈ finals (winners (ranked rk l)) ↔ y ∈ ranked rk l ∧ RankExact y.2 := by
  obtain ⟨rs, hv, hre⟩ := hex
  exact mem_finals_winners_iff_exact (ranked_ids_nodup K.named K.nodup) (n := n)
    (fun z hz => by
      obtain ⟨d, hd, hr⟩ := mem_ranked.mp (show (z.1, z.2) ∈ _ from hz)
      exact K.len d hd _ _ hr)
    (mem_ranked.mpr ⟨a, ha, hv⟩) hre y

theorem exact_of_final {n : Nat} (K : Kind id rk l n) {a : α} (ha : a ∈ l) (hex : Exact id rk a)
    {y : Nat × List Rank} (hy : y ∈ finals (winners (ranked rk l))) :
    ∃ d ∈ l, id d = y.1 ∧ rk d = .ranked (id d) y.2 ∧ RankExact y.2 := by
  obtain ⟨hyl, hye⟩ := (results_finals_exact K ha hex y).mp hy
  obtain ⟨d, hd, hr⟩ := mem_ranked.mp (show (y.1, y.2) ∈ _ from hyl)
  have hi := K.named d _ _ hr
  exact ⟨d, hd, hi.symm, by rw [hr, hi], hye⟩

theorem final_of_exact {n : Nat} (K : Kind id rk l n) {a : α} (ha : a ∈ l) {rs : List Rank}
    (hv : rk a = .ranked (id a) rs) (hre : RankExact rs) : (id a, rs) ∈ finals (winners (ranked rk l)) :=
  (results_finals_exact K ha ⟨rs, hv, hre⟩ _).mpr ⟨mem_ranked.mpr ⟨a, ha, hv⟩, hre⟩

/-- **A unique exact match is selected** -/
theorem results_unique_exact {n : Nat} (K : Kind id rk l n) (hnp : ∀ a ∈ l, (rk a).isPanic = false) {a : α} (ha : a ∈ l)
    (hex : Exact id rk a) (huniq : ∀ d ∈ l, Exact id rk d → id d = id a) :
    resolveResults (l.map rk) = .selected (id a) := by
  rw [results_of_noPanic hnp]
  obtain ⟨rs, hv, hre⟩ := hex
  have hnd := ranked_ids_nodup K.named K.nodup
  have hx := final_of_exact K ha hv hre
  apply resolveRanked_of_singleton (x := (id a, rs))
  apply eq_singleton_of_nodup (finals_winners_nodup (nodup_of_ids hnd)) hx
  intro y hy
  obtain ⟨d, hd, hdi, hrd, hye⟩ := exact_of_final K ha ⟨rs, hv, hre⟩ hy
  exact eq_of_id_eq hnd (winners_subset (finals_subset hy)) (winners_subset (finals_subset hx))
    (by rw [← hdi]; exact huniq d hd ⟨y.2, hrd, hye⟩)

/-- **Two exact matches are ambiguous**; the reported set holds both and exact candidates only -/
theorem results_twin_exact {n : Nat} (K : Kind id rk l n) (hnp : ∀ a ∈ l, (rk a).isPanic = false) {a b : α} (ha : a ∈ l)
    (hb : b ∈ l) (hne : id a ≠ id b) (hexa : Exact id rk a) (hexb : Exact id rk b) :
    ∃ ids, resolveResults (l.map rk) = .ambiguous ids ∧ id a ∈ ids ∧ id b ∈ ids ∧
      ∀ i ∈ ids, ∃ e ∈ l, id e = i ∧ Exact id rk e := by
  rw [results_of_noPanic hnp]
  obtain ⟨ra, hva, hrea⟩ := hexa
  obtain ⟨rb, hvb, hreb⟩ := hexb
  have hxa := final_of_exact K ha hva hrea
  have hxb := final_of_exact K hb hvb hreb
  refine ⟨_, resolveRanked_ambiguous_of_two hxa hxb (fun e => hne (congrArg Prod.fst e)),
    List.mem_map.mpr ⟨_, hxa, rfl⟩, List.mem_map.mpr ⟨_, hxb, rfl⟩, ?_⟩
  intro i hi
  obtain ⟨y, hy, rfl⟩ := List.mem_map.mp hi
  obtain ⟨d, hd, hdi, hrd, hye⟩ := exact_of_final K ha ⟨ra, hva, hrea⟩ hy
  exact ⟨d, hd, hdi, y.2, hrd, hye⟩

end Results

/-! ## ordinary functions: `resolve` is `resolveResults` on `rankCand`, `rankedList` is `ranked` -/

theorem resolve_of_noPanic {cands : List Cand} {args : List ETy} (h : NoPanic cands args) :
    resolve cands args = resolveRanked (rankedList cands args) :=
  results_of_noPanic h

theorem resolve_cases (cands : List Cand) (args : List ETy) :
    resolve cands args = .panic ∨ resolve cands args = resolveRanked (rankedList cands args) :=
  results_cases _ _

theorem mem_rankedList {cands : List Cand} {args : List ETy} {j : Nat} {rd : List Rank} :
    (j, rd) ∈ rankedList cands args ↔ ∃ c ∈ cands, rankCand args c = .ranked j rd :=
  mem_ranked

theorem rankCand_id {args : List ETy} {c : Cand} {j : Nat} {rd : List Rank}
    (h : rankCand args c = .ranked j rd) : j = c.id :=
  (rankCand_ranked h).2.2

/-- a selected overload is one of the candidates and was ranked, i.e. every argument converts to its parameter -/
theorem resolve_selected {cands : List Cand} {args : List ETy} {i : Nat}
    (h : resolve cands args = .selected i) : ∃ c ∈ cands, c.id = i ∧ ∃ rc, rankCand args c = .ranked c.id rc :=
  results_selected (fun _ _ _ => rankCand_id) h

/-- a candidate cannot be called with these argument types: wrong number of arguments, or some argument has no
    implicit conversion to its parameter -/
def NotCallable (c : Cand) (ts : List ETy) : Prop :=
  c.params.length < ts.length ∨ ts.length < c.nonDefault ∨
  ∃ (i : Nat) (p : Param) (a : ETy), c.params[i]? = some p ∧ ts[i]? = some a ∧ find a p.ety = .ok none

/-- the `zip` loop succeeds on a further pair iff the argument converts, the rest succeeds and the cast is ranked
    (`Lemmas.Conv.zipRanks_cons` is the forward direction with `findRank` for `find` followed by `getRank`) -/
theorem zipRanks_cons_some {p : Param} {ps : List Param} {a : ETy} {as : List ETy} {rs : List Rank} :
    zipRanks (p :: ps) (a :: as) = .ok (some rs) ↔
      ∃ c r rs', find a p.ety = .ok (some c) ∧ zipRanks ps as = .ok (some rs') ∧ getRank c = .ok r ∧ rs = r :: rs' := by
  simp only [zipRanks]
  rcases find a p.ety with e | (_ | c) <;> simp
  rcases zipRanks ps as with e | (_ | rs') <;> simp
  rcases getRank c with e | r <;> simp [eq_comm]

theorem zipRanks_not_some : ∀ (ps : List Param) (as : List ETy) (i : Nat) (p : Param) (a : ETy),
    ps[i]? = some p → as[i]? = some a → find a p.ety = .ok none → ∀ rs, zipRanks ps as ≠ .ok (some rs)
  | [], _, i, p, a, hp, _, _, _ => by simp at hp
  | _ :: _, [], i, p, a, _, ha, _, _ => by simp at ha
  | q :: ps, b :: as, 0, p, a, hp, ha, hf, rs => by
    simp at hp ha; subst hp ha
    simp [zipRanks, hf]
  | q :: ps, b :: as, i + 1, p, a, hp, ha, hf, rs => by
    simp at hp ha
    intro h
    obtain ⟨_, _, rs', _, hz, _, _⟩ := zipRanks_cons_some.mp h
    exact zipRanks_not_some ps as i p a hp ha hf rs' hz

theorem rankCand_not_ranked {c : Cand} {ts : List ETy} (h : NotCallable c ts) (id : Nat) (rs : List Rank) :
    rankCand ts c ≠ .ranked id rs := by
  intro hr
  obtain ⟨hg, hz, _⟩ := rankCand_ranked hr
  rcases h with h | h | ⟨i, p, a, hp, ha, hf⟩
  · omega
  · omega
  · exact zipRanks_not_some c.params ts i p a hp ha hf rs hz

theorem resolve_not_selected {cands : List Cand} {args : List ETy} (hn : ∀ c ∈ cands, NotCallable c args) (i : Nat) :
    resolve cands args ≠ .selected i := by
  intro h
  obtain ⟨c, hc, _, rc, hv⟩ := resolve_selected h
  exact rankCand_not_ranked (hn c hc) _ _ hv

theorem zipRanks_length : ∀ (ps : List Param) (as : List ETy) (rs : List Rank),
    zipRanks ps as = .ok (some rs) → rs.length = min ps.length as.length
  | [], _, rs, h => by
    simp only [zipRanks, Except.ok.injEq, Option.some.injEq] at h
    rw [← h]; simp
  | _ :: _, [], rs, h => by
    simp only [zipRanks, Except.ok.injEq, Option.some.injEq] at h
    rw [← h]; simp
  | p :: ps, a :: as, rs, h => by
    obtain ⟨_, _, rs', _, hz, _, rfl⟩ := zipRanks_cons_some.mp h
    simp only [List.length_cons, zipRanks_length ps as rs' hz]
    omega

theorem rankCand_length {args : List ETy} {c : Cand} {j : Nat} {rd : List Rank}
    (h : rankCand args c = .ranked j rd) : rd.length = args.length := by
  obtain ⟨hg, hz, _⟩ := rankCand_ranked h
  rw [zipRanks_length _ _ _ hz]
  omega

theorem rankedList_cons (c : Cand) (t : List Cand) (args : List ETy) :
    rankedList (c :: t) args =
      (match (rankCand args c).ranked? with | some x => [x] | none => []) ++ rankedList t args := by
  simp only [rankedList, List.map_cons, List.filterMap_cons]
  cases (rankCand args c).ranked? <;> rfl

theorem rankedList_ids_nodup {cands : List Cand} {args : List ETy} (h : (cands.map (·.id)).Nodup) :
    ((rankedList cands args).map (·.1)).Nodup :=
  ranked_ids_nodup (fun _ _ _ => rankCand_id) h

/-- ordinary functions as a kind of candidate -/
theorem kind_plain {cands : List Cand} (args : List ETy) (hid : (cands.map (·.id)).Nodup) :
    Kind Cand.id (rankCand args) cands args.length :=
  ⟨fun _ _ _ => rankCand_id, fun _ _ _ _ => rankCand_length, hid⟩

/-- insertion is core's `merge` with a one-element list -/
theorem insertSorted_eq_merge (x : Nat) : ∀ l, insertSorted x l = List.merge [x] l (fun a b => a ≤ b)
  | [] => (List.merge_right _).symm
  | y :: ys => by
    simp only [insertSorted, List.cons_merge_cons, insertSorted_eq_merge x ys, List.nil_merge, decide_eq_true_eq]

/-- `sortIds` sorts -/
theorem sortIds_sorted : ∀ l, (sortIds l).Pairwise (fun a b => decide (a ≤ b) = true) ∧ (sortIds l).Perm l
  | [] => ⟨.nil, .refl _⟩
  | x :: l => by
    obtain ⟨hs, hp⟩ := sortIds_sorted l
    rw [sortIds, List.foldr_cons, insertSorted_eq_merge]
    exact ⟨List.pairwise_merge (fun _ _ _ h1 h2 => by simp only [decide_eq_true_eq] at *; omega)
        (fun _ _ => by simp only [Bool.or_eq_true, decide_eq_true_eq]; omega) _ _ (List.pairwise_singleton _ _) hs,
      (List.merge_perm_append _).trans (hp.cons _)⟩

/-- two sorted lists with the same elements are equal -/
theorem sortIds_perm {l l' : List Nat} (h : List.Perm l l') : sortIds l = sortIds l' :=
  List.Perm.eq_of_pairwise (fun _ _ _ _ h1 h2 => Nat.le_antisymm (of_decide_eq_true h1) (of_decide_eq_true h2))
    (sortIds_sorted l).1 (sortIds_sorted l').1 ((sortIds_sorted l).2.trans (h.trans (sortIds_sorted l').2.symm))

theorem normalize_eq_of_equiv {o o' : Outcome} (h : Outcome.Equiv o o') : o.normalize = o'.normalize := by
  cases o <;> cases o' <;> simp_all [Outcome.Equiv, Outcome.normalize]
  exact sortIds_perm h

end RsslVerif.Lemmas.Overload
