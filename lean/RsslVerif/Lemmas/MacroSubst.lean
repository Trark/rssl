import RsslVerif.Lemmas.MacroTerm
/-!
Lemmas for the substitution theorems: tokens that cannot start any operation are left alone (`Inert`),
`split_macro_args` splits exactly at the commas outside nested parentheses (`IsArg`), which entry of the macro list
an identifier selects.  Last, the loop itself: `At env toks sp k` says where it stands, and `At.skip`, `At.done`, `At.invoke`,
`At.paste` say what one iteration does there (the refinement proof of Lemmas/MacroTameP.lean and the one-step theorems of
Thm/C12.lean use the loop through these only).
-/
namespace RsslVerif.Lemmas.MacroSubst
open RsslVerif.Model.Macro RsslVerif.Lemmas.MacroTerm

/-- a token on which `find_single_macro` never stops: not the name of any macro of the list, not `Concat` -/
def InertTok (env : List Entry) (t : PTok) : Prop :=
  match t.tok with
  | .id n => ∀ e ∈ env, e.m.name ≠ n
  | .concat => False
  | _ => True

def Inert (env : List Entry) (ts : List PTok) : Prop := ∀ t ∈ ts, InertTok env t

/-- `Inert`, decided (for concrete token lists) -/
def inertB (env : List Entry) (ts : List PTok) : Bool :=
  ts.all fun t =>
    match t.tok with
    | .id n => env.all (fun e => e.m.name != n)
    | .concat => false
    | _ => true

theorem inert_of_inertB {env : List Entry} {ts : List PTok} (h : inertB env ts = true) : Inert env ts := by
  intro t ht
  have := List.all_eq_true.mp h t ht
  unfold InertTok
  split
  · rename_i n hn
    simp only [hn, List.all_eq_true, bne_iff_ne, ne_eq] at this
    exact this
  · rename_i hn
    simp [hn] at this
  · trivial

theorem matchMacro_none (toks : List PTok) (i : Nat) (name : String) (sp : SearchPos) (k : Nat)
    (env : List Entry) (h : ∀ e ∈ env, e.m.name ≠ name) : matchMacro toks i name sp k env = none :=
  matchMacro_none_of toks i name sp k env (fun _ e hj hn => absurd hn.symm (h e (List.mem_of_getElem? hj)))

theorem skips_of_inertTok (toks : List PTok) (sp : SearchPos) (env : List Entry) (i : Nat) (t : PTok)
    (h : InertTok env t) : Skips toks sp env i t := by
  unfold InertTok at h
  refine ⟨fun hc => by simp [hc] at h, fun n hn => ?_⟩
  simp only [hn] at h
  exact matchMacro_none _ _ _ _ _ _ h

theorem scanFrom_inert (toks : List PTok) (sp : SearchPos) (env : List Entry) (suffix : List PTok) (i : Nat)
    (h : Inert env suffix) : scanFrom toks sp env suffix i = .ok .none := by
  have := scanFrom_append_skip toks sp env suffix [] i
    (fun _ t hj => skips_of_inertTok toks sp env _ t (h t (List.mem_of_getElem? hj)))
  simpa [scanFrom] using this

theorem applyLoop_inert (env : List Entry) (toks : List PTok) (sp : SearchPos) (he : sp.early ≤ sp.next)
    (h : Inert env (toks.drop sp.early)) : applyLoop env toks sp = .ok toks := by
  have hf : findSingle toks sp env = .ok .none := by
    simp only [findSingle, he, if_true, scanFrom_inert _ _ _ _ _ h]
  by_cases hlt : sp.next < toks.length
  · rw [applyLoop, dif_pos hlt, hf]
  · rw [applyLoop, dif_neg hlt]

theorem inert_append {env : List Entry} {a b : List PTok} (ha : Inert env a) (hb : Inert env b) :
    Inert env (a ++ b) := by
  intro t ht
  rcases List.mem_append.mp ht with h | h
  · exact ha t h
  · exact hb t h

theorem inert_of_sublist {env : List Entry} {a b : List PTok} (hs : a.Sublist b) (hb : Inert env b) :
    Inert env a := fun t ht => hb t (hs.subset ht)

theorem inert_trim {env : List Entry} {a : List PTok} (h : Inert env a) : Inert env (trim a) :=
  inert_of_sublist (trim_sublist a) h

theorem inert_disable {env : List Entry} {a : List PTok} (mi : Nat) (h : Inert env a) :
    Inert (disable env mi) a := by
  intro t ht
  have := h t ht
  unfold InertTok at this ⊢
  split
  · rename_i n hn
    simp only [hn] at this
    intro e he
    unfold disable at he
    rw [List.mem_iff_getElem?] at he
    obtain ⟨j, hj⟩ := he
    rw [List.getElem?_modify] at hj
    cases hget : env[j]? with
    | none => simp [hget] at hj
    | some e0 =>
      simp only [hget, Option.map_eq_map, Option.map_some, Option.some.injEq] at hj
      have hmem : e0 ∈ env := List.mem_of_getElem? hget
      have := this e0 hmem
      rw [← hj]
      split <;> exact this
  · rename_i hn
    simp only [hn] at this
  · trivial

/-- parenthesis depth after reading `a` from depth `d`; `none` if `a` contains a comma or a closing parenthesis
at depth 0 (a delimiter of the enclosing argument list) -/
def argDepth : Nat → List PTok → Option Nat
  | d, [] => some d
  | d, t :: r =>
    match t.tok with
    | .lparen => argDepth (d + 1) r
    | .rparen => if d = 0 then none else argDepth (d - 1) r
    | .comma => if d = 0 then none else argDepth d r
    | _ => argDepth d r

/-- one macro argument: parentheses balanced, commas only inside them -/
def IsArg (a : List PTok) : Prop := argDepth 0 a = some 0

theorem scanArgs_through (a rest cur : List PTok) (args : List (List PTok)) (d d' : Nat)
    (h : argDepth d a = some d') :
    scanArgs (a ++ rest) cur args d = scanArgs rest (cur ++ a) args d' := by
  induction a generalizing cur d with
  | nil => simp only [argDepth, Option.some.injEq] at h; subst h; simp
  | cons t ts ih =>
    have hne : d = 0 → t.tok ≠ .rparen ∧ t.tok ≠ .comma := by
      intro hd
      subst hd
      constructor <;> intro htk <;> simp [argDepth, htk] at h
    have h' : argDepth (depthAfter t.tok d) ts = some d' := by
      unfold argDepth at h
      unfold depthAfter
      split at h <;> simp_all
    rw [List.cons_append, scanArgs_push t _ cur args d hne, ih _ _ h']
    simp

/-- the argument list `a₁ , a₂ , … , aₙ )` -/
def joinArgs : List (List PTok) → List PTok
  | [] => []
  | [a] => a
  | a :: b :: r => a ++ ⟨.comma, true⟩ :: joinArgs (b :: r)

theorem scanArgs_join (as : List (List PTok)) (hne : as ≠ []) (hargs : ∀ a ∈ as, IsArg a) (b : Bool)
    (after : List PTok) (acc : List (List PTok)) :
    scanArgs (joinArgs as ++ ⟨.rparen, b⟩ :: after) [] acc 0 = .ok (after, acc ++ as.map trim) := by
  induction as generalizing acc with
  | nil => exact absurd rfl hne
  | cons a r ih =>
    have ha : IsArg a := hargs a (by simp)
    cases r with
    | nil =>
      simp only [joinArgs]
      rw [scanArgs_through a _ [] acc 0 0 ha]
      simp [scanArgs]
    | cons a2 r2 =>
      simp only [joinArgs, List.append_assoc, List.cons_append]
      rw [scanArgs_through a _ [] acc 0 0 ha]
      simp only [scanArgs, List.nil_append, if_true]
      have := ih (by simp) (fun x hx => hargs x (by simp [hx])) (acc ++ [trim a])
      simp only [List.append_assoc] at this
      rw [this]
      simp

theorem matchMacro_object (toks : List PTok) (i : Nat) (sp : SearchPos) (k : Nat) (pre post : List Entry)
    (m : Macro) (hpre : ∀ e ∈ pre, e.m.name ≠ m.name) (hobj : m.isFunction = false) (hi : sp.next ≤ i) :
    matchMacro toks i m.name sp k (pre ++ ⟨m, false⟩ :: post) = some (k + pre.length) :=
  matchMacro_first toks i sp k pre post ⟨m, false⟩ hpre
    ⟨rfl, fun h => Nat.not_lt.mpr hi h.2, by simpa [hobj] using hi⟩

theorem substitute_inert {env : List Entry} (body : List PTok) (args : List (List PTok)) (out : List PTok)
    (hb : ∀ t ∈ body, (∃ i, t.tok = .arg i) ∨ InertTok env t) (ha : ∀ a ∈ args, Inert env a)
    (h : substitute body args = .ok out) : Inert env out := by
  revert h
  fun_induction substitute body args generalizing out <;> intro h <;> cases h
  · intro t ht; cases ht
  next a hget r hs ih =>
    exact inert_append (ha a (List.mem_of_getElem? hget)) (ih r (fun x hx => hb x (by simp [hx])) ha hs)
  next t _ _ r hs hnarg ih =>
    intro x hx
    rcases List.mem_cons.mp hx with rfl | hx
    · rcases hb x (by simp) with ⟨i, hi⟩ | hin
      · exact absurd hi (hnarg i)
      · exact hin
    · exact ih r (fun x hx => hb x (by simp [hx])) ha hs x hx

theorem mapE_congr {α β : Type} (f g : α → Except Err β) (l : List α) (h : ∀ a ∈ l, f a = g a) :
    mapE f l = mapE g l := by
  induction l with
  | nil => rfl
  | cons a as ih =>
    simp only [mapE, h a (by simp), ih (fun x hx => h x (by simp [hx]))]

/-- one successful iteration of the loop on a macro invocation, with the guards discharged -/
theorem applyLoop_user_step (env : List Entry) (toks : List PTok) (sp : SearchPos) (mi p : Nat) (e : Entry)
    (rest : List PTok) (args args' : List (List PTok)) (output output' : List PTok)
    (hlt : sp.next < toks.length)
    (hf : findSingle toks sp env = .ok (.user mi p)) (hmi : env[mi]? = some e)
    (hra : readArgs e.m (toks.drop (p + 1)) = .ok (rest, args))
    (hm : mapE (fun a => applyLoop env a SearchPos.start) args = .ok args')
    (hsub : substitute e.m.body args' = .ok output)
    (hbody : applyLoop (disable env mi) output SearchPos.start = .ok output') :
    applyLoop env toks sp =
      applyLoop env (splice toks p (toks.length - rest.length) output')
        ⟨p + output'.length, p, if e.m.isFunction then some mi else none⟩ := by
  obtain ⟨hb1, hb2, hb3⟩ := user_bounds env toks sp mi p e rest args hf hmi hra
  have hd : e.disabled = false := by
    obtain ⟨_, e', hget, hd, _⟩ := (hf ▸ findSingle_ok toks sp env).1
    rw [hmi] at hget; cases hget; exact hd
  have hm' : mapE (fun a =>
      if _ha : a.length < toks.length - sp.next then applyLoop env a SearchPos.start
      else .error (.guard "argument not shorter than the unscanned suffix")) args = .ok args' := by
    rw [← hm]
    apply mapE_congr
    intro a ha
    simp [hb3 a ha]
  rw [applyLoop, dif_pos hlt, hf]
  simp only []
  split
  · rename_i heq; rw [hmi] at heq; cases heq
  · rename_i e' heq
    rw [hmi] at heq
    cases heq
    simp only [hra, hm', hsub, hd, dite_true, hbody, hb1, hb2]

/-- a token of the replacement list that is no parameter is a token of the result -/
theorem substitute_mem (body : List PTok) (args : List (List PTok)) (out : List PTok)
    (h : substitute body args = .ok out) (t : PTok) (ht : t ∈ body) (hna : ∀ i, t.tok ≠ .arg i) : t ∈ out := by
  revert h
  fun_induction substitute body args generalizing out <;> intro h <;> cases h
  · cases ht
  next i hi _ _ r' hs ih =>
    rcases List.mem_cons.mp ht with rfl | ht
    · exact absurd hi (hna i)
    · exact List.mem_append_right _ (ih r' ht hs)
  next r' hs _ ih =>
    rcases List.mem_cons.mp ht with rfl | ht
    · simp
    · exact List.mem_cons_of_mem _ (ih r' ht hs)

theorem substitute_noargs (body : List PTok) (args : List (List PTok))
    (h : ∀ t ∈ body, ∀ i, t.tok ≠ .arg i) : substitute body args = .ok body := by
  induction body with
  | nil => rfl
  | cons t ts ih =>
    have iht := ih (fun x hx => h x (by simp [hx]))
    unfold substitute
    split
    · rename_i i hi; exact absurd hi (h t (by simp) i)
    · simp [iht]

theorem substitute_ok (body : List PTok) (args : List (List PTok))
    (h : ∀ t ∈ body, ∀ i, t.tok = .arg i → i < args.length) : ∃ out, substitute body args = .ok out := by
  induction body with
  | nil => exact ⟨[], rfl⟩
  | cons t ts ih =>
    obtain ⟨r, hr⟩ := ih (fun x hx => h x (by simp [hx]))
    unfold substitute
    split
    · rename_i i hi
      have hlt := h t (by simp) i hi
      have : args[i]? = some args[i] := List.getElem?_eq_getElem hlt
      simp only [this, hr]
      exact ⟨_, rfl⟩
    · simp only [hr]
      exact ⟨_, rfl⟩

theorem mapE_inert (env : List Entry) (l : List (List PTok)) (h : ∀ a ∈ l, Inert env a) :
    mapE (fun a => applyLoop env a SearchPos.start) l = .ok l := by
  induction l with
  | nil => rfl
  | cons a as ih =>
    have ha : applyLoop env a SearchPos.start = .ok a :=
      applyLoop_inert env a SearchPos.start (Nat.le_refl _) (by simpa [SearchPos.start] using h a (by simp))
    simp only [mapE, ha, ih (fun x hx => h x (by simp [hx]))]

theorem trimStart_blanks (blanks rest : List PTok) (h : ∀ t ∈ blanks, t.tok = .ws) (t : PTok)
    (ht : t.tok.isBlank = false) : trimStart (blanks ++ t :: rest) = t :: rest := by
  induction blanks with
  | nil => simp [trimStart, List.dropWhile, ht]
  | cons x xs ih =>
    have hx : x.tok = .ws := h x (by simp)
    have := ih (fun y hy => h y (by simp [hy]))
    unfold trimStart at this ⊢
    have hb : x.tok.isBlank = true := by rw [hx]; rfl
    rw [List.cons_append, List.dropWhile_cons]
    simp only [hb, if_true]
    exact this

/-- `trim_whitespace_and_endlines_start`: white space of every kind (blanks, comments, line ends) in front of a token
that is not white space is removed, the token stays -/
theorem trimStartAll_whitespace (blanks rest : List PTok) (h : ∀ t ∈ blanks, t.tok.isWhitespace = true) (t : PTok)
    (ht : t.tok.isWhitespace = false) : trimStartAll (blanks ++ t :: rest) = t :: rest := by
  rw [trimStartAll_ws _ _ h, trimStartAll_nonws t rest ht]

theorem trimStartAll_blanks (blanks rest : List PTok) (h : ∀ t ∈ blanks, t.tok = .ws) (t : PTok)
    (ht : t.tok.isWhitespace = false) : trimStartAll (blanks ++ t :: rest) = t :: rest :=
  trimStartAll_whitespace blanks rest (fun x hx => by rw [h x hx]; rfl) t ht

theorem splice_middle (before mid after out : List PTok) :
    splice (before ++ mid ++ after) before.length ((before ++ mid ++ after).length - after.length) out =
      before ++ out ++ after := by
  unfold splice
  have h1 : (before ++ mid ++ after).take before.length = before := by simp [List.append_assoc]
  have h2 : (before ++ mid ++ after).length - after.length = (before ++ mid).length := by
    simp only [List.length_append]; omega
  rw [h1, h2, List.drop_left]

theorem lastNonWs_acc (l : List PTok) (i : Nat) (acc : Option Nat) (h : ∀ t ∈ l, t.tok.isWhitespace = true) :
    lastNonWs l i acc = acc := by
  induction l generalizing i acc with
  | nil => rfl
  | cons t r ih =>
    simp only [lastNonWs, h t (by simp), if_true]
    exact ih (i + 1) acc (fun x hx => h x (by simp [hx]))

theorem lastNonWs_append (a b : List PTok) (i : Nat) (acc : Option Nat) :
    lastNonWs (a ++ b) i acc = lastNonWs b (i + a.length) (lastNonWs a i acc) := by
  induction a generalizing i acc with
  | nil => rfl
  | cons t r ih =>
    simp only [List.cons_append, lastNonWs, List.length_cons]
    rw [ih]
    congr 1; omega

theorem firstNonWs_ws (w rest : List PTok) (i : Nat) (h : ∀ t ∈ w, t.tok.isWhitespace = true) :
    firstNonWs (w ++ rest) i = firstNonWs rest (i + w.length) := by
  induction w generalizing i with
  | nil => rfl
  | cons t r ih =>
    simp only [List.cons_append, firstNonWs, h t (by simp), if_true, List.length_cons]
    rw [ih (i + 1) (fun x hx => h x (by simp [hx]))]
    congr 1; omega

/-- the scan that stands at a token it passes, followed -- white space aside -- by `##` and a right operand, reports
the paste of the two -/
theorem scanFrom_paste (toks : List PTok) (sp : SearchPos) (env : List Entry) (P W1 W2 rest2 : List PTok) (t1 c t2 : PTok)
    (hT : toks = P ++ t1 :: (W1 ++ c :: (W2 ++ t2 :: rest2))) (hc : c.tok = .concat)
    (hw1 : ∀ t ∈ W1, t.tok.isWhitespace = true) (hw2 : ∀ t ∈ W2, t.tok.isWhitespace = true)
    (hnw1 : t1.tok.isWhitespace = false) (hnw2 : t2.tok.isWhitespace = false)
    (hskip : Skips toks sp env P.length t1) (hnext : sp.next ≤ P.length) :
    scanFrom toks sp env (t1 :: (W1 ++ c :: (W2 ++ t2 :: rest2))) P.length =
      .ok (.concat P.length (P.length + 1 + W1.length + 1 + W2.length)) := by
  have htake : toks.take (P.length + 1 + W1.length) = P ++ t1 :: W1 := by
    have h1 : toks = (P ++ t1 :: W1) ++ c :: (W2 ++ t2 :: rest2) := by rw [hT]; simp
    have h2 : (P ++ t1 :: W1).length = P.length + 1 + W1.length := by simp; omega
    rw [h1, ← h2, List.take_left]
  have hl : lastNonWs (toks.take (P.length + 1 + W1.length)) 0 none = some P.length := by
    rw [htake, lastNonWs_append]
    simp only [lastNonWs, hnw1, Nat.zero_add]
    exact lastNonWs_acc W1 _ _ hw1
  have hr : firstNonWs (W2 ++ t2 :: rest2) (P.length + 1 + W1.length + 1) =
      some (P.length + 1 + W1.length + 1 + W2.length) := by
    rw [firstNonWs_ws W2 _ _ hw2]
    simp [firstNonWs, hnw2]
  rw [scanFrom_cons_skip toks sp env t1 _ _ hskip,
    scanFrom_append_skip toks sp env W1 _ _ (fun j t hj => skips_of_whitespace toks sp env _ t (hw1 t (List.mem_of_getElem? hj))),
    scanFrom_cons_concat toks sp env c _ _ hc, if_neg (by omega), hl, hr]

/-- one successful iteration of the loop on a `##` whose operands are `t1` and `t2` -/
theorem applyLoop_paste (env : List Entry) (toks : List PTok) (sp : SearchPos) (P W1 W2 rest2 : List PTok)
    (t1 c t2 m : PTok) (hT : toks = P ++ t1 :: (W1 ++ c :: (W2 ++ t2 :: rest2)))
    (hf : findSingle toks sp env = .ok (.concat P.length (P.length + 1 + W1.length + 1 + W2.length)))
    (hnext : sp.next ≤ P.length) (hpaste : pasteTokens t1 t2 = .ok m) :
    applyLoop env toks sp = applyLoop env (P ++ m :: rest2) ⟨P.length, P.length, none⟩ := by
  have hlen : toks.length = P.length + 1 + W1.length + 1 + W2.length + 1 + rest2.length := by
    rw [hT]; simp; omega
  have hgl : toks[P.length]? = some t1 := by rw [hT]; simp
  have hgr : toks[P.length + 1 + W1.length + 1 + W2.length]? = some t2 := by
    have h1 : toks = (P ++ t1 :: (W1 ++ c :: W2)) ++ t2 :: rest2 := by rw [hT]; simp
    have h2 : (P ++ t1 :: (W1 ++ c :: W2)).length = P.length + 1 + W1.length + 1 + W2.length := by simp; omega
    rw [h1, ← h2, List.getElem?_append_right (Nat.le_refl _)]
    simp
  have hspl : splice toks P.length (P.length + 1 + W1.length + 1 + W2.length + 1) [m] = P ++ m :: rest2 := by
    unfold splice
    have e1 : toks.take P.length = P := by rw [hT, List.take_left]
    have e2 : toks.drop (P.length + 1 + W1.length + 1 + W2.length + 1) = rest2 := by
      have hh : toks = (P ++ t1 :: (W1 ++ c :: (W2 ++ [t2]))) ++ rest2 := by rw [hT]; simp
      have hl2 : (P ++ t1 :: (W1 ++ c :: (W2 ++ [t2]))).length = P.length + 1 + W1.length + 1 + W2.length + 1 := by
        simp; omega
      rw [hh, ← hl2, List.drop_left]
    rw [e1, e2]; simp
  have hlt0 : sp.next < toks.length := by omega
  have h1 : P.length + 1 < P.length + 1 + W1.length + 1 + W2.length := by omega
  have h2 : sp.next < P.length + 1 + W1.length + 1 + W2.length ∧
      P.length + 1 + W1.length + 1 + W2.length < toks.length := by omega
  rw [applyLoop, dif_pos hlt0, hf]
  simp only [hgl, hgr, hpaste, h1, if_true, h2, and_self, dite_true, hspl]

theorem drop_cons_facts (toks : List PTok) (i : Nat) (t : PTok) (rest : List PTok) (hs : toks.drop i = t :: rest) :
    toks[i]? = some t ∧ toks.drop (i + 1) = rest ∧ i < toks.length := by
  obtain ⟨h1, h2, _, h4⟩ := suffix_facts toks i t rest hs.symm
  exact ⟨h4, h2.symm, h1⟩

theorem take_drop_eq {toks l : List PTok} {k : Nat} (hl : toks.drop k = l) (hne : l ≠ []) :
    toks = toks.take k ++ l ∧ (toks.take k).length = k := by
  refine ⟨by rw [← hl, List.take_append_drop], ?_⟩
  have : k < toks.length := by
    apply Nat.lt_of_not_le; intro hle; exact hne (by rw [← hl, List.drop_eq_nil_of_le hle])
  simp; omega

/-- what `split_macro_args` consumes: the consumed part ends in the closing parenthesis, scanning it alone gives the same
arguments, and a `Concat` token of it (or of the current argument) lies in one of the arguments -/
theorem scanArgs_region (ts : List PTok) : ∀ (cur : List PTok) (acc : List (List PTok)) (d : Nat) (rest' : List PTok)
    (out : List (List PTok)), scanArgs ts cur acc d = .ok (rest', out) →
    ∃ init b, ts = (init ++ [⟨.rparen, b⟩]) ++ rest' ∧ scanArgs (init ++ [⟨.rparen, b⟩]) cur acc d = .ok ([], out) ∧
      ∀ t, t.tok = .concat → (t ∈ cur ∨ t ∈ init) → ∃ a ∈ out, t ∈ a := by
  intro cur acc d rest' out h
  obtain ⟨init, b, news, h1, rfl, h3, _, h5⟩ := scanArgs_ok ts cur acc d rest' out h
  refine ⟨init, b, h1, h3, fun t ht hm => ?_⟩
  obtain ⟨a, ha, hta⟩ := h5 t ht hm
  exact ⟨a, List.mem_append_right _ ha, hta⟩

theorem readArgs_suffix (m : Macro) (remaining rest : List PTok) (args : List (List PTok))
    (h : readArgs m remaining = .ok (rest, args)) : ∃ mid, remaining = mid ++ rest := by
  cases hf : m.isFunction with
  | true =>
    obtain ⟨b, tail, htrim, hs, _⟩ := readArgs_function m remaining rest args hf h
    obtain ⟨init, br, _, hm, _⟩ := scanArgs_ok _ _ _ _ _ _ hs
    obtain ⟨pre, hp, _⟩ := ws_split remaining
    refine ⟨pre ++ ⟨.lparen, b⟩ :: (init ++ [⟨.rparen, br⟩]), ?_⟩
    rw [hp, htrim, hm]; simp
  | false =>
    unfold readArgs at h
    simp only [hf] at h
    cases h; exact ⟨[], rfl⟩

/-- the loop stands at `k`: the scan of `find_single_macro`, which starts at `early_function_pos`, passes everything
before `k`, and `next_pos` is not beyond `k` -/
structure At (env : List Entry) (toks : List PTok) (sp : SearchPos) (k : Nat) : Prop where
  early : sp.early ≤ sp.next
  next : sp.next ≤ k
  passes : scanFrom toks sp env (toks.drop sp.early) sp.early = scanFrom toks sp env (toks.drop k) k

theorem At.start (env : List Entry) (toks : List PTok) : At env toks SearchPos.start 0 :=
  ⟨Nat.le_refl _, Nat.le_refl _, rfl⟩

theorem At.find {env : List Entry} {toks : List PTok} {sp : SearchPos} {k : Nat} (h : At env toks sp k) :
    findSingle toks sp env = scanFrom toks sp env (toks.drop k) k := by
  simp only [findSingle, h.early, if_true]; exact h.passes

/-- over a run of tokens the scan passes -/
theorem At.skip {env : List Entry} {toks : List PTok} {sp : SearchPos} {k : Nat} (h : At env toks sp k)
    (a rest : List PTok) (hl : toks.drop k = a ++ rest)
    (hs : ∀ (j : Nat) t, a[j]? = some t → Skips toks sp env (k + j) t) : At env toks sp (k + a.length) := by
  refine ⟨h.early, Nat.le_trans h.next (Nat.le_add_right _ _), ?_⟩
  have : toks.drop (k + a.length) = rest := by rw [← List.drop_drop, hl, List.drop_left]
  rw [h.passes, hl, scanFrom_append_skip toks sp env a rest k hs, this]

theorem At.ofInert (env : List Entry) (before rest : List PTok) (h : Inert env before) :
    At env (before ++ rest) SearchPos.start before.length := by
  have := (At.start env (before ++ rest)).skip before rest rfl
    (fun _ t hj => skips_of_inertTok _ _ env _ t (h t (List.mem_of_getElem? hj)))
  simpa using this

theorem At.done {env : List Entry} {toks : List PTok} {sp : SearchPos} {k : Nat} (h : At env toks sp k)
    (hk : toks.length ≤ k) : applyLoop env toks sp = .ok toks := by
  have hf : findSingle toks sp env = .ok .none := by
    rw [h.find, List.drop_eq_nil_of_le hk, scanFrom]
  by_cases hlt : sp.next < toks.length
  · rw [applyLoop, dif_pos hlt, hf]
  · rw [applyLoop, dif_neg hlt]

/-- **one invocation**: the identifier at `k` selects entry `mi` (`matchMacro`: the first entry that fires), its
arguments are read and expanded, the replacement list is substituted and expanded with the entry disabled; the loop goes
on behind the result, with the result as early region -/
theorem At.invoke {env : List Entry} {toks : List PTok} {sp : SearchPos} {k : Nat} (h : At env toks sp k)
    {n : String} {b : Bool} {rest rest' : List PTok} {mi : Nat} {e : Entry} {args args' : List (List PTok)}
    {body' R : List PTok} (hl : toks.drop k = ⟨.id n, b⟩ :: rest)
    (hm : matchMacro toks k n sp 0 env = some mi) (hmi : env[mi]? = some e)
    (hra : readArgs e.m rest = .ok (rest', args))
    (hargs : mapE (fun a => applyLoop env a SearchPos.start) args = .ok args')
    (hsub : substitute e.m.body args' = .ok body')
    (hbody : applyLoop (disable env mi) body' SearchPos.start = .ok R) :
    applyLoop env toks sp = applyLoop env (toks.take k ++ R ++ rest')
      ⟨k + R.length, k, if e.m.isFunction then some mi else none⟩ := by
  obtain ⟨_, hdrop, hlt⟩ := drop_cons_facts toks k _ rest hl
  have hf : findSingle toks sp env = .ok (.user mi k) := by
    rw [h.find, hl]; exact scanFrom_cons_hit toks sp env _ rest k n mi rfl hm
  obtain ⟨mid, hmid⟩ := readArgs_suffix _ _ _ _ hra
  obtain ⟨htoks, hklen⟩ := take_drop_eq hl (by simp)
  rw [hmid] at htoks
  have hspl := splice_middle (toks.take k) (⟨.id n, b⟩ :: mid) rest' R
  rw [show toks.take k ++ ⟨.id n, b⟩ :: mid ++ rest' = toks by simpa using htoks.symm, hklen] at hspl
  rw [applyLoop_user_step env toks sp mi k e rest' args args' body' R (Nat.lt_of_le_of_lt h.next hlt) hf hmi
    (by rw [hdrop]; exact hra) hargs hsub hbody, hspl]

/-- **one `##`**: the token at `k`, which the scan passes, is pasted with the operand behind the operator -/
theorem At.paste {env : List Entry} {toks : List PTok} {sp : SearchPos} {k : Nat} (h : At env toks sp k)
    {t1 c t2 m : PTok} {W1 W2 rest2 : List PTok} (hl : toks.drop k = t1 :: (W1 ++ c :: (W2 ++ t2 :: rest2)))
    (hc : c.tok = .concat) (hw1 : ∀ t ∈ W1, t.tok.isWhitespace = true) (hw2 : ∀ t ∈ W2, t.tok.isWhitespace = true)
    (hnw1 : t1.tok.isWhitespace = false) (hnw2 : t2.tok.isWhitespace = false)
    (hskip : Skips toks sp env k t1) (hpaste : pasteTokens t1 t2 = .ok m) :
    applyLoop env toks sp = applyLoop env (toks.take k ++ m :: rest2) ⟨k, k, none⟩ := by
  obtain ⟨hT, hklen⟩ := take_drop_eq hl (by simp)
  have hscan := scanFrom_paste toks sp env (toks.take k) W1 W2 rest2 t1 c t2 hT hc hw1 hw2 hnw1 hnw2
    (by rw [hklen]; exact hskip) (by rw [hklen]; exact h.next)
  have hf : findSingle toks sp env =
      .ok (.concat (toks.take k).length ((toks.take k).length + 1 + W1.length + 1 + W2.length)) := by
    rw [h.find, hl, ← hscan, hklen]
  rw [applyLoop_paste env toks sp (toks.take k) W1 W2 rest2 t1 c t2 m hT hf (by rw [hklen]; exact h.next) hpaste, hklen]

end RsslVerif.Lemmas.MacroSubst
