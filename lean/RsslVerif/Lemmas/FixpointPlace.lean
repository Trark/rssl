import RsslVerif.Model.Fixpoint
import RsslVerif.Lemmas.ElabInv
/-!
`Expression::get_type` of a first-generation node is the same in the environment of the exported program (same variables,
same signatures, other function names).  The type checker asks it of the written operand of `=` / `++` / `--` and of every
argument given for an `out` / `inout` parameter (`check_mutable_place`; fixes 4575004, b359800, 3758fdd); the second
generation asks the same question about the same node.
-/
namespace RsslVerif.Lemmas.FixpointPlace
open RsslVerif.Gen.RankTable RsslVerif.Gen.TypingTables
open RsslVerif.Model.Conv RsslVerif.Model.Overload RsslVerif.Model.IrTyping RsslVerif.Model.Elab
open RsslVerif.Model.Fixpoint RsslVerif.Lemmas.ElabConv RsslVerif.Lemmas.ElabInv

variable {Γ Γ' : Env}

/-- a node that has a type in the first generation has the same type in the exported environment: by the recursion of
    `typeOf` / `typesOf`, each branch that returns reads `Γ` through `vars`, a signature's `ret` or its sub-results -/
theorem typeOf_renamed_both (hR : Renamed Γ Γ') :
    (∀ (e : IExpr) (τ : ETy), typeOf Γ e = .ok τ → typeOf Γ' e = .ok τ) ∧
      ∀ (as : IArgs) (ts : List ETy), typesOf Γ as = .ok ts → typesOf Γ' as = .ok ts := by
  apply typeOf.mutual_induct_unfolding Γ (fun e r => ∀ τ, r = .ok τ → typeOf Γ' e = .ok τ)
    (fun as r => ∀ ts, r = .ok ts → typesOf Γ' as = .ok ts)
  case case1 =>
    intro k τ h
    simpa only [typeOf] using h
  case case2 =>
    intro i t ht τ h
    simpa only [typeOf, hR.vars, ht] using h
  case case6 =>
    intro _ a b ta ha tb hb hl iha ihb τ h
    simpa only [typeOf, iha ta ha, ihb tb hb, if_pos hl] using h
  case case8 =>
    intro _ b ih τ h
    simpa only [typeOf] using ih τ h
  case case9 =>  -- a call: the signature at the same position of `Γ'` has the same return type
    intro f _ s hs τ h
    obtain ⟨s', hs', _, _, hret⟩ := hR.sig f s hs
    simpa only [typeOf, hs', hret] using h
  case case11 =>
    intro t e τ h
    simpa only [typeOf] using h
  case case13 =>
    intro o args ts hts ih τ h
    simpa only [typeOf, ih ts hts] using h
  case case14 =>
    intro ts h
    simpa only [typesOf] using h
  case case17 =>
    intro e r t ht tr hr ihe ihr ts h
    simpa only [typesOf, ihe t ht, ihr tr hr] using h
  -- the branches that fail
  all_goals (intros; contradiction)

theorem typeOf_renamed (hR : Renamed Γ Γ') : ∀ (e : IExpr) (τ : ETy), typeOf Γ e = .ok τ → typeOf Γ' e = .ok τ :=
  (typeOf_renamed_both hR).1
theorem typesOf_renamed (hR : Renamed Γ Γ') : ∀ (as : IArgs) (ts : List ETy), typesOf Γ as = .ok ts →
    typesOf Γ' as = .ok ts :=
  (typeOf_renamed_both hR).2

/-- `Cast` nodes are rvalues: `get_type` answers `ExpressionType(ty, Rvalue)` -/
theorem typeOf_cast (t : Ty) (e : IExpr) : typeOf Γ (.cast t e) = .ok t.r := by simp [typeOf]

/-! ## `check_mutable_place` / `check_output_arguments` in the exported environment -/

theorem checkMutablePlace_renamed (hR : Renamed Γ Γ') {e : IExpr} (h : checkMutablePlace Γ e = .ok ()) :
    checkMutablePlace Γ' e = .ok () :=
  have ⟨τ, ht, hv⟩ := checkMutablePlace_iff.1 h
  checkMutablePlace_iff.2 ⟨τ, typeOf_renamed hR e τ ht, hv⟩

theorem checkOutArgs_renamed (hR : Renamed Γ Γ') : ∀ (ps : List Param) (as : IArgs),
    checkOutArgs Γ ps as = .ok () → checkOutArgs Γ' ps as = .ok ()
  | p :: ps, .cons e r, h =>
    have ⟨h1, h2⟩ := checkOutArgs_cons.1 h
    checkOutArgs_cons.2 ⟨fun hio => checkMutablePlace_renamed hR (h1 hio), checkOutArgs_renamed hR ps r h2⟩
  | [], _, _ => by simp [checkOutArgs]
  | _ :: _, .nil, _ => by simp [checkOutArgs]

/-- a `Cast` node is never a mutable place: its type is an rvalue (`LvalueRequired`) -/
theorem checkMutablePlace_not_cast {e : IExpr} (h : checkMutablePlace Γ e = .ok ()) : isCast e = false := by
  cases e <;> simp [isCast]
  simp [checkMutablePlace, typeOf, Ty.r] at h

/-- **no accepted call passes a `Cast` for an `out` / `inout` parameter** (fix 3758fdd) -/
theorem outArgsPlain_of_checkOutArgs : ∀ (ps : List Param) (as : IArgs),
    checkOutArgs Γ ps as = .ok () → outArgsPlain ps as = true
  | p :: ps, .cons e r, h => by
    obtain ⟨h1, h2⟩ := checkOutArgs_cons.1 h
    simp only [outArgsPlain, Bool.and_eq_true, Bool.not_eq_true', Bool.and_eq_false_iff, ← isOutputParam_eq]
    refine ⟨?_, outArgsPlain_of_checkOutArgs ps r h2⟩
    cases hio : isOutputParam p.io
    · exact .inl rfl
    · exact .inr (checkMutablePlace_not_cast (h1 hio))
  | [], _, _ => by simp [outArgsPlain]
  | _ :: _, .nil, _ => by simp [outArgsPlain]

end RsslVerif.Lemmas.FixpointPlace
