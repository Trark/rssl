import RsslVerif.Lemmas.GenMslVecShape
import RsslVerif.Lemmas.GenMslExpr
import RsslVerif.Lemmas.GenSemVec
import RsslVerif.Model.GenMslVec
/-! Vector layer of C02: names, conversions, `get_type` — what the per-constructor lemmas share. -/
namespace RsslVerif.Lemmas.GenMslVec
open RsslVerif.Gen.HlslGenTables RsslVerif.Gen.HlslVecTables RsslVerif.Gen.MslGenTables RsslVerif.Gen.MslVecTables
open RsslVerif.Model RsslVerif.Model.IrVec RsslVerif.Model.GenMsl RsslVerif.Model.GenMslVec
open RsslVerif.Spec.Sem RsslVerif.Spec.SemVec RsslVerif.Spec.SemMslVec RsslVerif.Lemmas.GenMsl
open RsslVerif.Model.Ir (Ty Var Const Dir)

/-- the emitted names denote the entities the IR referred to (C15's conclusion), for the variables in scope, also the
vector-typed ones -/
structure VAgreeM (cx : Ctx) (vis : Var → Bool) (env : VAst.VEnv) (vvty : Var → VTy) : Prop where
  base : AgreeM cx vis env.base
  vres : ∀ x, vis x = true → env.vres (cx.name x) = some x
  vvty : env.vvty = vvty

/-- emitted vector expression `a` simulates `e` of type `t`: same static type, same value and store from every store -/
def VSimM (W : World) (M : Msl.MWorld) (env : VAst.VEnv) (ρ : VStore) (e : VExpr) (a : VAExpr) (t : VTy) : Prop :=
  VMsl.typeOf M.msig env a = some t ∧ ∀ σ, VMsl.eval M env ρ a σ = VIr.eval W ρ e σ

theorem mslSwizzleChar_eq : mslSwizzleChar = swizzleChar := by
  funext s; cases s <;> rfl

theorem swizzleName_eq (sl : List SwizzleSlot) : GenMslVec.swizzleName sl = GenHlslVec.swizzleName sl := by
  simp [GenMslVec.swizzleName, GenHlslVec.swizzleName, mslSwizzleChar_eq]

theorem parse_mslSwizzleName (sl : List SwizzleSlot) : VAst.parseSwizzle (GenMslVec.swizzleName sl) = some (sl.map slotIdx) := by
  rw [swizzleName_eq]; exact GenSemVec.parse_swizzleName sl

theorem swzTy_eq (t : Ty) (k : Nat) : GenMslVec.swzTy t k = Spec.SemVec.swzTy t k := rfl

theorem basicK_cases {k : Ty} (h : VOk.basicK k = true) : k = .bool ∨ k = .int ∨ k = .uint ∨ k = .float := by
  cases k <;> simp [VOk.basicK] at h <;> simp

/-- the types Metal can name: four kinds, as a scalar or with two to four components -/
def nameable : List VTy :=
  [Ty.bool, .int, .uint, .float].flatMap fun k => [.sc k, .vec k 2, .vec k 3, .vec k 4]

theorem mem_nameable {ty : VTy} (hok : VOk.tyOKM ty = true) : ty ∈ nameable := by
  cases ty with
  | sc t => rcases basicK_cases (by simpa [VOk.tyOKM] using hok) with rfl | rfl | rfl | rfl <;> decide
  | vec t k =>
    simp only [VOk.tyOKM, Bool.and_eq_true, decide_eq_true_eq] at hok
    have hk' : k = 2 ∨ k = 3 ∨ k = 4 := by omega
    rcases basicK_cases hok.1.1 with rfl | rfl | rfl | rfl <;> rcases hk' with rfl | rfl | rfl <;> decide

/-- `generate_type_impl` names a Metal-nameable type by the name Metal reads back as that type (one evaluation over the
sixteen types) -/
theorem vtypeName_vtyOfName {ty : VTy} {n : String} (h : GenMslVec.vtypeName ty = .ok n) (hok : VOk.tyOKM ty = true) :
    VMsl.vtyOfName n = some ty := by
  have tab : nameable.all (fun ty => match GenMslVec.vtypeName ty with
      | .ok n => VMsl.vtyOfName n == some ty
      | .error _ => false) = true := by decide +kernel
  have := List.all_eq_true.mp tab ty (mem_nameable hok)
  rw [h] at this
  simpa using this

theorem castM_eq {P : Prim} {f t : Ty} (hf : VOk.basicK f = true) (ht : VOk.basicK t = true) (v : Val) :
    Msl.castM P f t v = castVal P t v := by
  rcases basicK_cases hf with rfl | rfl | rfl | rfl <;> rcases basicK_cases ht with rfl | rfl | rfl | rfl <;> simp [Msl.castM]

theorem mapOpt_congr {α β : Type} {f g : α → Option β} (h : ∀ x, f x = g x) (xs : List α) : mapOpt f xs = mapOpt g xs := by
  induction xs with
  | nil => rfl
  | cons x r ih => simp [mapOpt, h x, ih]

theorem shaped_sc {k : Ty} {v : VVal} (h : VOk.shaped (.sc k) v = true) : ∃ x, v = .sc x := by
  cases v with
  | sc x => exact ⟨x, rfl⟩
  | vec xs => simp [VOk.shaped] at h

theorem shaped_vec {k : Ty} {n : Nat} {v : VVal} (h : VOk.shaped (.vec k n) v = true) : ∃ xs, v = .vec xs ∧ xs.length = n := by
  cases v with
  | sc x => simp [VOk.shaped] at h
  | vec xs => exact ⟨xs, rfl, by simpa [VOk.shaped] using h⟩

/-- `Expression::get_type` agrees with the type checker's type -/
theorem getTy_ok {W : World} {cx : Ctx} {vvty : Var → VTy}
    (hret : ∀ f rt ps, W.sig f = some (rt, ps) → cx.retTy f = some rt) :
    ∀ (e : VExpr) (t : VTy), VIr.typeOf W.sig cx.vty vvty e = some t → getTy cx vvty e = some t
  | .sc e, t, h => by
    obtain ⟨k, hk, rfl⟩ := VIr.typeOf_sc h
    simp [getTy, exprTy_ok hret e k hk]
  | .vvar id, t, h => by simpa [VIr.typeOf, getTy] using h
  | .vglobal id, t, h => by simpa [VIr.typeOf, getTy] using h
  | .cast ty x, t, h => by
    obtain ⟨_, _, rfl, _⟩ := VIr.typeOf_cast h
    simp [getTy]
  | .swz x sl, t, h => by
    obtain ⟨tx, htx, rfl, _⟩ := VIr.typeOf_swz h
    simp [getTy, getTy_ok hret x tx htx, swzTy_eq]
  | .ctor ty slots, t, h => by
    obtain ⟨rfl, _⟩ := VIr.typeOf_ctor h
    simp [getTy]
  | .tern c f g, t, h => by simpa [getTy] using getTy_ok hret f t (VIr.typeOf_tern h).2.1
  | .op o .nil, t, h => by rw [VIr.typeOf_op_nil] at h; cases h
  | .op o (.cons x .nil), t, h => by
    obtain ⟨m, hs, hx, _, hb⟩ := VIr.typeOf_op1 h
    simp only [getTy, getTyFirst, getTy_ok hret x t hx, Option.map, opRetTy_sem, hs]
    congr 1
    by_cases hm : m = .lnot
    · subst hm; exact GenSemVec.withScalar_self (hb rfl)
    · cases m <;> first | exact absurd rfl hm | exact GenSemVec.withScalar_self rfl
  | .op o (.cons x (.cons y .nil)), t, h => by
    obtain ⟨ta, ha, _, hsem⟩ := VIr.typeOf_op2 h
    simp only [getTy, getTyFirst, getTy_ok hret x ta ha, Option.map, opRetTy_sem]
    rcases hsem with ⟨m, hs, _, rfl⟩ | ⟨hs | hs, rfl, rfl⟩
    · rw [hs]
      cases hc : m.isCmp <;> simp [hc, GenSemVec.withScalar_self]
    · rw [hs]; rfl
    · rw [hs]; rfl
  | .op o (.cons x (.cons y (.cons z r))), t, h => by rw [VIr.typeOf_op_many] at h; cases h

/-- an operator node is typed on one operand of a unary operator, or on two of a binary one -/
theorem op_args {sig : Sig} {vty : Var → Ty} {vvty : Var → VTy} {o : IntrinsicOp} {es : VExprs} {t : VTy}
    (ht : VIr.typeOf sig vty vvty (.op o es) = some t) :
    (∃ x m, es = .cons x .nil ∧ irOpSem o = .un m) ∨
      ∃ x y, es = .cons x (.cons y .nil) ∧ ((∃ m, irOpSem o = .bin m) ∨ irOpSem o = .land ∨ irOpSem o = .lor) := by
  match es, ht with
  | .nil, ht => rw [VIr.typeOf_op_nil] at ht; cases ht
  | .cons x .nil, ht =>
    obtain ⟨m, hs, -⟩ := VIr.typeOf_op1 ht
    exact .inl ⟨x, m, rfl, hs⟩
  | .cons x (.cons y .nil), ht =>
    obtain ⟨-, -, -, ⟨m, hs, -⟩ | ⟨hs, -⟩⟩ := VIr.typeOf_op2 ht
    · exact .inr ⟨x, y, rfl, .inl ⟨m, hs⟩⟩
    · exact .inr ⟨x, y, rfl, .inr hs⟩
  | .cons x (.cons y (.cons z r)), ht => rw [VIr.typeOf_op_many] at ht; cases ht

end RsslVerif.Lemmas.GenMslVec
