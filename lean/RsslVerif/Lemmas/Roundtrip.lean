import RsslVerif.Lemmas.FmtParseTables
import RsslVerif.Lemmas.LevelParser
/-! Round trip `parse (toks (fmt e)) = e` for `Model/Parse.lean`: fuel-free relations, inert tokens, the invariant `RT` of
one node, well-formed trees, first token of a printed sub-expression. -/
set_option linter.unusedSimpArgs false
namespace RsslVerif.Lemmas.Roundtrip
open RsslVerif.Gen.FmtTables RsslVerif.Gen.ParseTables RsslVerif.Model.Format RsslVerif.Model.Parse
open RsslVerif.Lemmas.FmtParseTables RsslVerif.Lemmas.LevelParser

/-- with enough fuel, level `k` reads `ts` as `out` -/
def Parses (k : Nat) (term : Terminator) (ts : List Tok) (out : Expr × List Tok) : Prop :=
  ∃ N, ∀ f, N ≤ f → parseLvl f k term ts = some out

/-- with enough fuel, level `k` continues from the operand `acc` to `out` -/
def Conts (k : Nat) (term : Terminator) (acc : Expr) (ts : List Tok) (out : Expr × List Tok) : Prop :=
  ∃ N, ∀ f, N ≤ f → cont f k term acc ts = some out

/-- level `k` does nothing in front of `ts`: `LevelParser.Inert Conts` -/
def Inert (k : Nat) (term : Terminator) (ts : List Tok) : Prop := ∀ acc, Conts k term acc ts (acc, ts)

/-- no level below `k` does anything in front of `ts`: `LevelParser.NoLow Conts` -/
def NoLow (k : Nat) (term : Terminator) (ts : List Tok) : Prop := ∀ i, 1 ≤ i → i < k → Inert i term ts

theorem NoLow.mono {k j term ts} (h : NoLow k term ts) (hj : j ≤ k) : NoLow j term ts :=
  fun i h1 h2 => h i h1 (Nat.lt_of_lt_of_le h2 hj)

theorem cont2 (f : Nat) (term : Terminator) (acc : Expr) (ts : List Tok) :
    cont (f + 1) 2 term acc ts = some (acc, ts) := by
  unfold cont
  rfl

theorem conts2_eq {term acc ts out} (h : Conts 2 term acc ts out) : out = (acc, ts) := by
  obtain ⟨N, h⟩ := h
  have := h (N + 1) (by omega)
  rw [cont2] at this
  exact (Option.some.inj this).symm

theorem inert2 (term : Terminator) (ts : List Tok) : Inert 2 term ts :=
  fun acc => ⟨1, fun f hf => by obtain ⟨f', rfl, _⟩ := succ_of_pos hf; exact cont2 f' term acc ts⟩

/-- what level 1 reads starts with a name, a literal or `(`, not with a prefix operator -/
theorem prefixOp_of_level1 {f : Nat} {term : Terminator} {t : Tok} {rest : List Tok} {out : Expr × List Tok}
    (h : parseLvl f 1 term (t :: rest) = some out) : prefixOp t = none := by
  match f, h with
  | 1, h => simp [parseLvl] at h
  | f + 2, h =>
    unfold parseLvl at h
    simp only [Nat.zero_add, Nat.reduceEqDiff, if_false] at h
    unfold parseLvl at h
    split at h
    · rename_i heq
      split at heq
      all_goals first
        | (rename_i he; cases he; rfl)
        | cases heq
    · cases h

/-- one level up: `parseLvl (k+1)` is `parseLvl k` followed by `cont (k+1)`; at level 2 the prefix-operator alternative does
not apply, because level 1 has read the stream (`prefixOp_of_level1`).  The last argument is the (empty) entry condition of
`LevelParser`. -/
theorem lift {k term ts a r out} (hp : Parses k term ts (a, r)) (hc : Conts (k + 1) term a r out)
    (_ : k + 1 = 2 → True) : Parses (k + 1) term ts out := by
  obtain ⟨N1, h1⟩ := hp
  obtain ⟨N2, hc⟩ := hc
  refine ⟨max N1 N2 + 1, fun f hf => ?_⟩
  obtain ⟨f', rfl, hf'⟩ := succ_of_pos hf
  unfold parseLvl
  by_cases hk : k + 1 = 2
  · obtain rfl : k = 1 := by omega
    cases ts with
    | nil => simp [hk, h1 f' (by omega), hc f' (by omega)]
    | cons t rest => simp [hk, prefixOp_of_level1 (h1 f' (by omega)), h1 f' (by omega), hc f' (by omega)]
  · simp [hk, h1 f' (by omega), hc f' (by omega)]

/-- the head token does not continue a postfix chain -/
def NoPostfix : List Tok → Prop
  | [] => True
  | t :: _ => t ≠ .p .PlusPlus ∧ t ≠ .p .MinusMinus ∧ t ≠ .p .Period ∧ t ≠ .p .LeftSquareBracket ∧ t ≠ .p .LeftParen

theorem inert_of (k : Nat) (term : Terminator) (ts : List Tok)
    (h1 : k = 1 → NoPostfix ts) (h13 : k = 13 → NoQuestion ts)
    (hop : k ≠ 1 → k ≠ 2 → k ≠ 13 → parseOpAt k term ts = none) : Inert k term ts := by
  intro acc
  refine ⟨1, fun f hf => ?_⟩
  fun_cases cont f k term acc ts
  case case1 => cases hf
  -- level 1: the head token continues no postfix chain
  case case2 | case3 | case4 | case5 | case6 | case7 | case8 | case9 => simp [NoPostfix] at h1
  case case12 => exact absurd rfl (h13 rfl)
  -- no operator of the level applies
  case case16 hop' | case19 hop' | case20 hop' => cases (hop ‹_› ‹_› ‹_›).symm.trans hop'
  all_goals rfl

theorem inert_nil (k : Nat) (term : Terminator) : Inert k term [] :=
  inert_of k term [] (fun _ => trivial) (fun _ => trivial) (fun _ _ _ => parseOpAt_nil term k)

/-- closing tokens: nothing continues in front of `)`, `]`, `:`, `;`, and `,` under `Sequence` -/
def Closes (term : Terminator) (t : Tok) : Prop :=
  t = .p .RightParen ∨ t = .p .RightSquareBracket ∨ t = .p .Colon ∨ t = .p .Semicolon ∨
  (t = .p .Comma ∧ term = .Sequence)

theorem inert_closes (k : Nat) (term : Terminator) (t : Tok) (rest : List Tok) (h : Closes term t) :
    Inert k term (t :: rest) := by
  apply inert_of
  · intro _; rcases h with rfl | rfl | rfl | rfl | ⟨rfl, _⟩ <;> simp [NoPostfix]
  · intro _; rcases h with rfl | rfl | rfl | rfl | ⟨rfl, _⟩ <;> simp [NoQuestion]
  · intro _ _ _
    rcases h with rfl | rfl | rfl | rfl | ⟨rfl, rfl⟩
    · exact parseOpAt_of_opensAny rfl k term rest
    · exact parseOpAt_of_opensAny rfl k term rest
    · exact parseOpAt_of_opensAny rfl k term rest
    · exact parseOpAt_of_opensAny rfl k term rest
    · exact parseOpAt_comma _ (by decide) rest k

theorem noLow_closes (k : Nat) (term : Terminator) (t : Tok) (rest : List Tok) (h : Closes term t) :
    NoLow k term (t :: rest) := fun i _ _ => inert_closes i term t rest h

theorem inert_question (k : Nat) (term : Terminator) (rest : List Tok) (hk : k ≠ 13) :
    Inert k term (.p .QuestionMark :: rest) := by
  apply inert_of
  · intro _; simp [NoPostfix]
  · intro h; exact absurd h hk
  · intro _ _ _; exact parseOpAt_of_opensAny rfl k term rest

theorem inert_binToks (op : BinOp) (k : Nat) (term : Terminator) (rest : List Tok)
    (hk : k < binLevel op) : Inert k term (binToks op ++ rest) := by
  apply inert_of
  · intro _; cases op <;> simp [binToks, NoPostfix]
  · intro _; cases op <;> simp [binToks, NoQuestion]
  · intro _ _ _; exact parseOpAt_lower op term rest k hk

/-- parser level of the production that builds the node (a negative literal is printed as a sign and a literal: what
reads that text is the prefix production) -/
def _root_.RsslVerif.Model.Format.Expr.lvl : Expr → Nat
  | .lit l => if litNegative l then 2 else 0
  | .id _ => 0
  | .un op _ => if isPostfix op then 1 else 2
  | .bin op _ _ => binLevel op
  | .tern _ _ _ => 13
  | .sub _ _ => 1
  | .mem _ _ => 1
  | .call _ _ => 1

/-- the printed form without the outer parenthesis decision -/
def fmtBody (e : Expr) : List Piece := fmtSub e topPrec topSide

theorem fmtSub_eq (e : Expr) (outer : Nat) (side : Side) :
    fmtSub e outer side = wrap (needParen e.prec outer side) (fmtBody e) := by
  cases e with
  | lit l => simp only [fmtBody, fmtSub, Expr.prec, needParen_top_lit, wrap_false]
  | un op x => simp only [fmtBody, fmtSub, Expr.prec, needParen_top_un, wrap_false]
  | bin op l r => simp only [fmtBody, fmtSub, Expr.prec, needParen_top_bin, wrap_false]
  | _ => simp only [fmtBody, fmtSub, Expr.prec]; rfl

theorem toks_lit (n : Lit) (h : LitOk n = true) : toks (fmtBody (.lit n)) = [.lit n] := by
  simp only [fmtBody, fmtSub]
  rw [needParen_top_lit, wrap_false, litOk_toks n h]

theorem toks_id (n : String) : toks (fmtBody (.id n)) = [.id n] := by
  simp only [fmtBody, fmtSub]
  rw [show needParen precIdentifier topPrec topSide = false by decide, wrap_false]; rfl

theorem toks_prefix (op : UnOp) (x : Expr) (h : isPostfix op = false) :
    toks (fmtBody (.un op x)) = unTok op :: toks (fmtSub x (unPrec op) prefixOperandSide) := by
  simp only [fmtBody, fmtSub, needParen_top_un, wrap_false, h, if_false, Bool.false_eq_true, toks_un_prefix]

theorem toks_postfix (op : UnOp) (x : Expr) (h : isPostfix op = true) :
    toks (fmtBody (.un op x)) = toks (fmtSub x (unPrec op) postfixOperandSide) ++ [unTok op] := by
  simp only [fmtBody, fmtSub, needParen_top_un, wrap_false, h, if_true, toks_append]
  simp [unPiece]

theorem toks_bin (op : BinOp) (l r : Expr) :
    toks (fmtBody (.bin op l r)) =
      toks (fmtSub l (binPrec op) binLeftSide) ++ (binToks op ++ toks (fmtSub r (binPrec op) binRightSide)) := by
  simp only [fmtBody, fmtSub, needParen_top_bin, wrap_false, toks_append, toks_binPieces, toks_cons_sp]
  split <;> simp

theorem toks_tern (c a b : Expr) :
    toks (fmtBody (.tern c a b)) = toks (fmtSub c precTernaryConditional ternCondSide) ++
      (.p .QuestionMark :: (toks (fmtSub a precTernaryConditional ternTrueSide) ++
        (.p .Colon :: toks (wrap (falseIsAssignment b) (fmtSub b precTernaryConditional ternFalseSide))))) := by
  simp only [fmtBody, fmtSub]
  rw [show needParen precTernaryConditional topPrec topSide = false by decide, wrap_false]
  simp [pp]

theorem toks_sub (o i : Expr) :
    toks (fmtBody (.sub o i)) = toks (fmtSub o precArraySubscript subObjectSide) ++
      (.p .LeftSquareBracket :: (toks (fmtSub i precArraySubscript subIndexSide) ++ [.p .RightSquareBracket])) := by
  simp only [fmtBody, fmtSub]
  rw [show needParen precArraySubscript topPrec topSide = false by decide, wrap_false]
  simp [pp]

theorem toks_mem (o : Expr) (n : String) :
    toks (fmtBody (.mem o n)) = toks (wrap (memObjParen o) (fmtSub o precMember memObjectSide)) ++ [.p .Period, .id n] := by
  simp only [fmtBody, fmtSub]
  rw [show needParen precMember topPrec topSide = false by decide, wrap_false]
  simp [pp]

theorem toks_call (f : Expr) (args : Args) :
    toks (fmtBody (.call f args)) = toks (fmtSub f callObjectPrec callObjectSide) ++
      (.p .LeftParen :: (toks (fmtArgs args) ++ [.p .RightParen])) := by
  simp only [fmtBody, fmtSub]
  rw [show needParen precCall topPrec topSide = false by decide, wrap_false]
  simp [pp]

theorem _root_.RsslVerif.Model.Format.Expr.prec_lvl (x : Expr) : (x.prec, x.lvl) ∈ precLevels := by
  cases x with
  | lit l => simp only [Expr.prec, Expr.lvl, litPrec]; cases litNegative l <;> decide
  | un op _ => simp only [Expr.prec, Expr.lvl]; cases op <;> decide
  | bin op _ _ => exact binPrec_level_mem op
  | _ => simp only [Expr.prec, Expr.lvl]; decide

theorem lvl_le (e : Expr) : e.lvl ≤ 15 := level_le e.prec_lvl

/-- what the caller knows about the result of reading a node of level `lv` at level `k` in front of `rest` -/
abbrev Fin := @LevelParser.Fin Expr Conts

/-- a comma expression needs the `Standard` terminator to be read back -/
def TermFits (e : Expr) (term : Terminator) : Prop := e.lvl = 15 → term = .Standard

/-- the round-trip invariant of one node, printed without outer parentheses -/
def RT (e : Expr) : Prop :=
  ∀ k term rest out, term ≠ .TypeList → e.lvl ≤ k → TermFits e term → NoLow k term rest →
    Fin e e.lvl k term rest out → Parses k term (toks (fmtBody e) ++ rest) out

/-- a parenthesised expression is a leaf: level 0 reads it, and the caller's level goes on from there -/
theorem parses_paren {e : Expr} (hrt : RT e) {k : Nat} {term : Terminator} {rest : List Tok} {out : Expr × List Tok}
    (hno : NoLow k term rest) (hfin : Fin e 0 k term rest out) :
    Parses k term (toks (wrap true (fmtBody e)) ++ rest) out := by
  have hin : Parses 15 .Standard (toks (fmtBody e) ++ .p .RightParen :: rest) (e, .p .RightParen :: rest) := by
    exact hrt 15 .Standard _ _ (by decide) (lvl_le e) (fun _ => rfl)
      (noLow_closes 15 _ _ _ (Or.inl rfl)) (fin_self e (lvl_le e) fun _ => inert_closes 15 _ _ _ (Or.inl rfl))
  have h0 : Parses 0 term (.p .LeftParen :: (toks (fmtBody e) ++ .p .RightParen :: rest)) (e, rest) := by
    refine LevelParser.Ev.step hin fun f h => ?_
    unfold parseLvl
    simp [parenTerminator, h]
  rw [toks_wrap_true]
  simp only [List.cons_append, List.append_assoc, List.nil_append]
  exact finish_nonloop @lift h0 (Or.inl rfl) (Nat.zero_le _) (fun _ => trivial) hno hfin

theorem rts {e : Expr} (hrt : RT e) (outer : Nat) (side : Side) (k : Nat) (term : Terminator) (rest : List Tok)
    (out : Expr × List Tok) (hterm : term ≠ .TypeList)
    (hpos : needParen e.prec outer side = false → e.lvl ≤ k ∧ TermFits e term)
    (hno : NoLow k term rest)
    (hfin : Fin e (if needParen e.prec outer side then 0 else e.lvl) k term rest out) :
    Parses k term (toks (fmtSub e outer side) ++ rest) out := by
  rw [fmtSub_eq]
  cases hp : needParen e.prec outer side with
  | true =>
    rw [hp] at hfin
    exact parses_paren hrt hno hfin
  | false =>
    rw [hp] at hfin
    obtain ⟨h1, h2⟩ := hpos hp
    exact hrt k term rest out hterm h1 h2 hno hfin

/-- an assignment after `:` gets parentheses from `falseIsAssignment` alone, not from the position -/
theorem falseIsAssignment_spec (x : Expr) (h : falseIsAssignment x = true) :
    needParen x.prec precTernaryConditional ternFalseSide = false := by
  cases x with
  | bin o _ _ => cases o <;> simp only [Expr.prec, falseIsAssignment] at h ⊢ <;> revert h <;> decide
  | _ => simp [falseIsAssignment] at h

theorem falseIsAssignment_of_lvl (x : Expr) (h : x.lvl = 14) : falseIsAssignment x = true := by
  cases x with
  | lit l => simp only [Expr.lvl] at h; split at h <;> cases h
  | un o _ => simp only [Expr.lvl] at h; split at h <;> cases h
  | bin o _ _ => simp only [Expr.lvl, falseIsAssignment] at h ⊢; revert h; cases o <;> decide
  | _ => cases h

-- `WF`: every literal prints as one token that reads back as itself
-- (calls are calls without template arguments — the model has no others)
mutual
def WF : Expr → Prop
  | .lit n => LitOk n = true
  | .id _ => True
  | .un _ x => WF x
  | .bin _ l r => WF l ∧ WF r
  | .tern c a b => WF c ∧ WF a ∧ WF b
  | .sub o i => WF o ∧ WF i
  | .mem o _ => WF o
  | .call f args => WF f ∧ WFA args
def WFA : Args → Prop
  | .nil => True
  | .cons e r => WF e ∧ WFA r
end

/-- tokens an operand can start with -/
def GoodStart (t : Tok) : Prop := (t ≠ .p .Equals ∧ t.isLt = false ∧ t.isGt = false) ∧ t ≠ .p .RightParen

theorem operandStart_of {t : Tok} {ts : List Tok} (h : GoodStart t) : OperandStart (t :: ts) := h.1

theorem head_fmt : (e : Expr) → WF e → ∀ outer side, ∃ t ts', toks (fmtSub e outer side) = t :: ts' ∧ GoodStart t
  | e, hwf, outer, side => by
    rw [fmtSub_eq]
    cases hp : needParen e.prec outer side with
    | true => exact ⟨.p .LeftParen, _, toks_wrap_true _, by simp [GoodStart, Tok.isLt, Tok.isGt]⟩
    | false =>
      simp only [wrap_false]
      match e, hwf with
      | .lit n, hwf => exact ⟨.lit n, [], toks_lit n hwf, by simp [GoodStart, Tok.isLt, Tok.isGt]⟩
      | .id n, _ => exact ⟨.id n, [], toks_id n, by simp [GoodStart, Tok.isLt, Tok.isGt]⟩
      | .un op x, hwf =>
        cases hpost : isPostfix op with
        | true =>
          obtain ⟨t, ts', h1, h2⟩ := head_fmt x hwf (unPrec op) postfixOperandSide
          rw [toks_postfix op x hpost, h1]
          exact ⟨t, _, rfl, h2⟩
        | false =>
          rw [toks_prefix op x hpost]
          exact ⟨unTok op, _, rfl, by cases op <;> simp [unTok, GoodStart, Tok.isLt, Tok.isGt]⟩
      | .bin op l r, hwf =>
        obtain ⟨t, ts', h1, h2⟩ := head_fmt l hwf.1 (binPrec op) binLeftSide
        rw [toks_bin, h1]
        exact ⟨t, _, rfl, h2⟩
      | .sub o i, hwf =>
        obtain ⟨t, ts', h1, h2⟩ := head_fmt o hwf.1 precArraySubscript subObjectSide
        rw [toks_sub, h1]
        exact ⟨t, _, rfl, h2⟩
      | .call f args, hwf =>
        obtain ⟨t, ts', h1, h2⟩ := head_fmt f hwf.1 callObjectPrec callObjectSide
        rw [toks_call, h1]
        exact ⟨t, _, rfl, h2⟩
      | .mem o n, hwf =>
        rw [toks_mem]
        cases hmp : memObjParen o with
        | true => exact ⟨.p .LeftParen, _, by rw [toks_wrap_true]; rfl, by simp [GoodStart, Tok.isLt, Tok.isGt]⟩
        | false =>
          obtain ⟨t, ts', h1, h2⟩ := head_fmt o hwf precMember memObjectSide
          rw [wrap_false, h1]
          exact ⟨t, _, rfl, h2⟩
      | .tern c a b, hwf =>
        obtain ⟨t, ts', h1, h2⟩ := head_fmt c hwf.1 precTernaryConditional ternCondSide
        rw [toks_tern, h1]
        exact ⟨t, _, rfl, h2⟩

end RsslVerif.Lemmas.Roundtrip
