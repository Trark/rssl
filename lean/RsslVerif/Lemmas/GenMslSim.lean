import RsslVerif.Lemmas.GenMslArgs
import RsslVerif.Lemmas.GenMslRem
/-! Metal exporter, expressions: the main induction. -/
namespace RsslVerif.Lemmas.GenMsl
open RsslVerif.Gen.HlslGenTables RsslVerif.Gen.MslGenTables RsslVerif.Model RsslVerif.Model.GenMsl RsslVerif.Spec.Sem
open RsslVerif.Model.Ir (Ty Var Const Dir)
open RsslVerif.Model.GenHlsl (GenErr)

/-- what the induction proves about the user arguments of a call, followed by an already evaluated tail -/
def SimArgsM (W : World) (M : Msl.MWorld) (env : Ast.Env) (es : Ir.Exprs) (as : HlslAst.Exprs) (ps : List (Dir × Ty))
    (tailA : HlslAst.Exprs) (tailP : List (Msl.PK × Ty)) (tailM : List Msl.MArg) : Prop :=
  ∀ σ, Msl.evalArgs M env (appendArgs as tailA) (mParams ps ++ tailP) σ =
    match Ir.evalArgs W es ps σ with
    | none => none
    | some (l, σ1) => some (l.map toMArg ++ tailM, σ1)

theorem mod_arith {S : Ir.Side} {o : IntrinsicOp} {x y : Ir.Expr} {tx : Ty} (htx : Ir.typeOf S.sig S.vty x = some tx)
    (hsem : irOpSem o = .bin .mod)
    (hok : Ir.okM S (.op o (.cons x (.cons y .nil))) = true) : Ir.arithTy (some tx) = true := by
  simp only [Ir.okM, Bool.and_eq_true, htx] at hok
  simpa [hsem, Ir.isShiftM] using hok.2

theorem okM_op2 {S : Ir.Side} {o : IntrinsicOp} {x y : Ir.Expr} (hok : Ir.okM S (.op o (.cons x (.cons y .nil))) = true) :
    Ir.okM S x = true ∧ Ir.okM S y = true := by
  simp only [Ir.okM, Bool.and_eq_true] at hok
  exact ⟨hok.1.1.1.1, hok.1.1.1.2⟩

/-- the operators that mean `%` or `%=` are typed on two operands -/
theorem mod_args {sig : Sig} {vty : Var → Ty} {o : IntrinsicOp} {es : Ir.Exprs} {t : Ty}
    (hsem : irOpSem o = .bin .mod ∨ irOpSem o = .compound .mod) (ht : Ir.typeOf sig vty (.op o es) = some t) :
    ∃ x y, es = .cons x (.cons y .nil) := by
  match es, ht with
  | .nil, ht => rw [Ir.typeOf_op_nil] at ht; cases ht
  | .cons x .nil, ht =>
    obtain ⟨-, ⟨m, hs, -⟩ | ⟨_, _, hs, -⟩⟩ := Ir.typeOf_op1 ht <;> rcases hsem with h | h <;> rw [h] at hs <;> cases hs
  | .cons x (.cons y .nil), _ => exact ⟨x, y, rfl⟩
  | .cons x (.cons y (.cons z r)), ht => rw [Ir.typeOf_op_many] at ht; cases ht

/-- element by element -/
inductive Elems (P : Ir.Expr → HlslAst.Expr → Prop) : Ir.Exprs → HlslAst.Exprs → Prop
  | nil : Elems P .nil .nil
  | cons {e r a ar} : P e a → Elems P r ar → Elems P (.cons e r) (.cons a ar)

/-- a scalar type routed by a list of kinds is routed by every longer one -/
theorem scalarIn_mono {l l' : List String} (h : ∀ k ∈ l, k ∈ l') {t : Ty} (ht : scalarIn l t = true) : scalarIn l' t = true := by
  unfold scalarIn at ht ⊢
  split at ht
  · simpa using h _ (by simpa using ht)
  · cases ht

section induction
variable (W : World) (M : Msl.MWorld) (env : Ast.Env) (cx : Ctx) (vis : Var → Bool) (rsv : Nat → List Var)

/-- `a` simulates `e`, whatever type the type checker gave it -/
abbrev SimX (e : Ir.Expr) (a : HlslAst.Expr) : Prop :=
  ∀ t, Ir.typeOf W.sig cx.vty e = some t → Ir.okM (side cx W vis rsv) e = true → SimM W M env e a t
/-- what the induction proves of an expression and of what `genExpr` returns for it -/
abbrev SimEM (e : Ir.Expr) (r : Except GenErr HlslAst.Expr) : Prop := ∀ a, r = .ok a → SimX W M env cx vis rsv e a
/-- … of `genHead`: the first operand, generated as an expression -/
abbrev SimHd (es : Ir.Exprs) (r : Except GenErr HlslAst.Expr) : Prop :=
  ∀ x rest, es = .cons x rest → genExpr cx x = r ∧ SimEM W M env cx vis rsv x r
/-- … of `genBinary`: the node `x op y` over these operands, whatever row of the table the syntax operator comes from -/
abbrev SimBin (b : BinOp) (es : Ir.Exprs) (r : Except GenErr HlslAst.Expr) : Prop :=
  ∀ o a t, r = .ok a → astBinSem b = irOpSem o → Ir.typeOf W.sig cx.vty (.op o es) = some t →
    Ir.okM (side cx W vis rsv) (.op o es) = true →
    (∀ x rest, es = .cons x rest → (irOpSem o = .bin .mod ∨ irOpSem o = .compound .mod) → Ir.typeOf W.sig cx.vty x ≠ some .float) →
    SimM W M env (.op o es) a t
/-- … of `genArgs`: as the user arguments of a call, and element by element (the operands of `metal::fmod`) -/
abbrev SimAsM (es : Ir.Exprs) (r : Except GenErr HlslAst.Exprs) : Prop :=
  ∀ as, r = .ok as →
    (∀ ps tailA tailP tailM, Ir.argsOK W.sig cx.vty es ps = true → Ir.okMArgs (side cx W vis rsv) es = true →
      (∀ σ, Msl.evalArgs M env tailA tailP σ = some (tailM, σ)) → SimArgsM W M env es as ps tailA tailP tailM) ∧
    Elems (fun e a => genExpr cx e = .ok a ∧ SimX W M env cx vis rsv e a) es as
/-- … of `genSeq` -/
abbrev SimSqM (es : Ir.Exprs) (r : Except GenErr HlslAst.Expr) : Prop :=
  ∀ a t, r = .ok a → Ir.typeOfSeq W.sig cx.vty es = some t → Ir.okMSeq (side cx W vis rsv) es = true → SimSeqM W M env es a t
end induction

/-- by the functional induction principle of the generator: its cases are the generator's branches, each with the results of the
calls made on the way; a branch that ends in an error leaves nothing to prove -/
theorem sim_genM {W : World} {M : Msl.MWorld} {env : Ast.Env} {cx : Ctx} {vis : Var → Bool} {rsv : Nat → List Var}
    (hag : AgreeM cx vis env) (hw : Worlds cx rsv W M) :
    (∀ e, SimEM W M env cx vis rsv e (genExpr cx e)) ∧ (∀ es, SimHd W M env cx vis rsv es (genHead cx es)) ∧
    (∀ b es, SimBin W M env cx vis rsv b es (genBinary cx b es)) ∧ (∀ es, SimAsM W M env cx vis rsv es (genArgs cx es)) ∧
    ∀ es, SimSqM W M env cx vis rsv es (genSeq cx es) := by
  apply genExpr.mutual_induct_unfolding cx (SimEM W M env cx vis rsv) (SimHd W M env cx vis rsv) (SimBin W M env cx vis rsv)
    (SimAsM W M env cx vis rsv) (SimSqM W M env cx vis rsv)
  -- a constant: `generate_literal`
  case case1 =>
    intro c a hg t ht hok
    simp [Ir.typeOf] at ht; subst ht
    exact sim_litM W M env c a (by cases c <;> first | rfl | cases hok) hg
  -- a local
  case case2 =>
    intro id a hg t ht hok
    cases hg
    simp [Ir.typeOf] at ht; subst ht
    exact sim_identM hag (v := .loc id) (by simpa [Ir.okM, side] using hok) (fun σ => by simp [Ir.eval]) rfl
  -- a global
  case case3 =>
    intro id a hg t ht hok
    cases hg
    simp [Ir.typeOf] at ht; subst ht
    exact sim_identM hag (v := .glob id) (by simpa [Ir.okM, side] using hok) (fun σ => by simp [Ir.eval]) rfl
  -- `c ? f : g`, the three parts generated
  case case7 =>
    intro c f g c' hgc f' hgf g' hgg ihc ihf ihg a hg t ht hok
    cases hg
    simp only [Ir.okM, Bool.and_eq_true, Bool.not_eq_true'] at hok
    obtain ⟨⟨⟨⟨oc, of⟩, og⟩, mf⟩, mg⟩ := hok
    obtain ⟨htc, htf, htg⟩ := Ir.typeOf_tern ht
    exact sim_ternM (ihc c' hgc _ htc oc) htc (ihf f' hgf _ htf of) (ihg g' hgg _ htg og) mf mg
  -- a `Sequence` of two or more: `genSeq`
  case case10 =>
    intro e e2 r ih a hg t ht hok
    have := ih a t hg (by simpa [Ir.typeOf] using ht) (by simpa [Ir.okM] using hok)
    constructor
    · simpa [mTy, Ir.isMin] using this.1
    · intro σ
      rw [this.2 σ]
      simp only [Ir.eval]
      cases Ir.evalSeq W (.cons e (.cons e2 r)) σ <;> simp [mVal, Ir.isMin]
  -- a cast to a literal type is dropped: the type checker builds none
  case case12 =>
    intro ty x x' _ hty _ a _ t ht _
    obtain ⟨_, _, _, h1, h2⟩ := Ir.typeOf_cast ht
    exact (hty.elim h1 h2).elim
  -- a cast, its type name found
  case case14 =>
    intro ty x x' hgx _ n hn ih a hg t ht hok
    cases hg
    obtain ⟨tx, htx, _⟩ := Ir.typeOf_cast ht
    have hokx : Ir.okM (side cx W vis rsv) x = true := by
      simp only [Ir.okM, Bool.and_eq_true] at hok; exact hok.1.1
    exact sim_castM hw.prim rfl rfl hn (ih x' hgx tx htx hokx) htx ht hok
  -- `generate_user_call`: the user arguments, then the callee's statics
  case case17 =>
    intro f args as hga gs hreq ih a hg t ht hok
    cases hg
    obtain ⟨ps, hsig, hargsok⟩ := Ir.typeOf_call ht
    simp only [Ir.okM, side, hsig, hreq, Bool.and_eq_true] at hok
    obtain ⟨⟨hokargs, hcalled⟩, href, hvis⟩ := hok
    have htail := globalArgs_eval (M := M) hag gs hvis
    have hargs := (ih as hga).1 ps (globalArgs cx gs) (globParams cx gs) (globMArgs gs) hargsok hokargs htail
    have hnotfmod : (cx.funcName f == Msl.fmodName) = false := by simpa using (hag.notLib f).1
    have hsigM := hw.sig f t ps gs hsig hreq hcalled
    have htag : Msl.hasTagArg (appendArgs as (globalArgs cx gs)) = false := by
      rw [hasTag_append, hasTag_globalArgs, Bool.or_false]
      exact genArgs_not_tag (fun f => (hag.notLib f).2) args as hga
    constructor
    · simp [Msl.typeOf, hnotfmod, hag.fres, htag, hsigM, mTy, Ir.isMin]
    · intro σ
      simp only [Msl.eval, hnotfmod, Bool.false_eq_true, if_false, hag.fres, htag, hsigM, Ir.eval, hsig, hargs σ]
      cases hev : Ir.evalArgs W args ps σ with
      | none => simp
      | some r =>
        obtain ⟨l, σ1⟩ := r
        obtain ⟨hfit, hrsv, hvals, _⟩ := evalArgs_facts W cx.vty (rsv f) args ps σ l σ1 hev href hargsok
        have hcall := hw.call f t ps gs l σ1 hsig hreq hcalled hfit hrsv
        simp only [hcall, hvals]
        cases W.phi f (List.map (fun x => x.fst) l) σ1 <;> simp [mVal, Ir.isMin]
  -- `Form::Unary` on one operand
  case case23 =>
    intro o u hf x x' hgx ih a hg t ht hok
    cases hg
    obtain ⟨htx, -⟩ := Ir.typeOf_op1 ht
    have hokx : Ir.okM (side cx W vis rsv) x = true := by
      simp only [Ir.okM, Bool.and_eq_true] at hok; exact hok.1.1
    exact sim_unM hag hw.prim rfl rfl rfl hf hgx (ih x' hgx t htx hokx) htx ht hok
  -- `Form::Binary`: `%` and `%=` have rows of their own
  case case25 =>
    intro o args b hf ih a hg t ht hok
    exact ih o a t hg (op_binaryM hf) ht hok
      (fun _ _ _ h => (h.elim (op_binary_not_mod hf).1 (op_binary_not_mod hf).2).elim)
  -- `%` on a floating-point first operand: `metal::fmod`
  case case29 =>
    intro o name s b hf x r t0 hty0 hin as has ih a hg t ht hok
    obtain ⟨rfl, rfl, rfl, rfl⟩ := mslOpForm_floatCall hf
    simp only [has] at hg; cases hg
    obtain ⟨_, y, h⟩ := mod_args (.inl rfl) ht
    cases h
    obtain ⟨tx, htx, hty, _⟩ := Ir.typeOf_op2 ht
    obtain rfl : tx = t0 := Option.some.inj ((exprTy_ok hw.ret x tx htx).symm.trans hty0)
    rw [scalarIn_float4 (mod_arith (S := side cx W vis rsv) htx rfl hok)] at hin
    obtain rfl : tx = .float := by simpa using hin
    have hokxy := okM_op2 hok
    obtain _ | ⟨⟨_, hx⟩, _ | ⟨⟨_, hy⟩, _ | _⟩⟩ := (ih as has).2
    rw [metalLib_fmod]
    exact sim_fmodM hw.prim rfl rfl rfl (hx _ htx hokxy.1) htx (hy _ hty hokxy.2) hty ht hok
  -- `%` on any other first operand stays `%`
  case case30 =>
    intro o name s b hf x r t0 hty0 hin ih a hg t ht hok
    obtain ⟨rfl, rfl, rfl, rfl⟩ := mslOpForm_floatCall hf
    refine ih .Modulus a t hg rfl ht hok (fun x' _ he _ hfl => hin ?_)
    cases he
    rw [exprTy_ok hw.ret _ _ hfl] at hty0
    cases hty0; decide
  -- `%=` on a floating-point target is generated as `x = x % y`, and means the same: the target is a variable, `y` writes nothing
  case case36 =>
    intro o args s err outer inner b hf t0 hth hin hro bo hbo x' hgh name sc bi hfi _ as has ihh iha a hg t ht hok
    obtain ⟨rfl, rfl, rfl, rfl, rfl, rfl⟩ := mslOpForm_floatAssign hf
    cases hbo; cases hfi; cases hg
    obtain ⟨x, y, rfl⟩ := mod_args (.inr rfl) ht
    obtain ⟨tx, htx, hty, _⟩ := Ir.typeOf_op2 ht
    simp only [exprTyHead, exprTy_ok hw.ret x tx htx, Except.ok.injEq] at hth
    subst hth
    rw [scalarIn_float3] at hin
    obtain rfl : tx = .float := by simpa using hin
    have hokxy := okM_op2 hok
    have hpo : plainPlace x = true ∧ freeOfWrites y = true := by simpa [remOperandsOK] using hro
    obtain ⟨hgx, ihx⟩ := ihh x _ rfl
    have hsem : irOpSem .RemainderAssignment = .compound .mod := rfl
    simp only [Ir.typeOf, htx, hty, hsem] at ht
    simp at ht
    obtain ⟨⟨hlv, -⟩, rfl⟩ := ht
    obtain ⟨xv, hxv⟩ := Option.isSome_iff_exists.mp hlv
    have htm : Ir.typeOf W.sig cx.vty (.op .Modulus (.cons x (.cons y .nil))) = some .float := by
      simp [Ir.typeOf, htx, hty, irOpSem, MBin.isCmp]
    obtain ⟨hvx, hminx⟩ := lval_tyM htx hxv
    have hsx := (ihx x' hgh _ htx hokxy.1).plain hminx
    obtain _ | ⟨⟨hgx', hx⟩, _ | ⟨⟨_, hy⟩, _ | _⟩⟩ := (iha as has).2
    obtain rfl := Except.ok.inj (hgx'.symm.trans (hgx.trans hgh))
    rw [metalLib_fmod]
    have hv := sim_fmodM hw.prim (o := .Modulus) rfl rfl rfl (hx _ htx hokxy.1) htx (hy _ hty hokxy.2) hty htm
      (by simpa [Ir.okM, irOpSem] using hok)
    obtain ⟨h1, h2⟩ := (sim_assignM (cx := cx) (o := .Assignment) (b := .Assignment) rfl rfl hxv
      (lval_genM hag (S := side cx W vis rsv) rfl hxv hgx' hokxy.1) ((congrFun hag.vty _).trans hvx) hsx.1 hv htm).plain rfl
    exact .of_plain rfl h1 fun σ => (h2 σ).trans
      (eval_remAssign rfl rfl rfl hxv (fun σ v σ' h => pure_eval W y σ v σ' (freeOfWrites_pure y hpo.2) h) σ)
  -- the `%` inside that assignment is `metal::fmod` whenever the target is floating-point
  case case38 =>
    intro o args s err outer inner b hf t0 _ hin _ bo _ x' _ name sc bi hfi hin2
    obtain ⟨rfl, rfl, rfl, rfl, rfl, rfl⟩ := mslOpForm_floatAssign hf
    cases hfi
    exact (hin2 (scalarIn_mono (by simp) hin)).elim
  -- … and the row of `%` is not a `Form::Binary`
  case case40 =>
    intro o args s err outer inner b hf t0 _ _ _ bo _ x' _ bi hfi
    obtain ⟨rfl, rfl, rfl, rfl, rfl, rfl⟩ := mslOpForm_floatAssign hf
    cases hfi
  -- `%=` on any other target stays `%=`
  case case43 =>
    intro o args s err outer inner b hf t0 hth hin ih a hg t ht hok
    obtain ⟨rfl, rfl, rfl, rfl, rfl, rfl⟩ := mslOpForm_floatAssign hf
    refine ih .RemainderAssignment a t hg rfl ht hok (fun x' _ he _ hfl => hin ?_)
    cases he
    simp only [exprTyHead, exprTy_ok hw.ret _ _ hfl, Except.ok.injEq] at hth
    subst hth; decide
  -- `genHead`: the first operand
  case case45 =>
    intro x r ih x0 rest he
    cases he
    exact ⟨rfl, ih⟩
  -- `genBinary` on two operands, both generated
  case case48 =>
    intro b x y x' hgx y' hgy ihx ihy o a t hg hb ht hok hrem
    simp only [genBinary, hgx, hgy] at hg; cases hg
    obtain ⟨tx, htx, hty, _⟩ := Ir.typeOf_op2 ht
    have hokxy := okM_op2 hok
    exact sim_binM hag hw.prim rfl rfl rfl hb hgx (ihx x' hgx tx htx hokxy.1) htx (ihy y' hgy tx hty hokxy.2) hty ht hok
      (fun h e => hrem x _ rfl h (e ▸ htx))
  -- no arguments
  case case50 =>
    intro as hg
    simp [genArgs] at hg; subst hg
    refine ⟨fun ps tailA tailP tailM hok _ htail σ => ?_, .nil⟩
    rw [Ir.argsOK_nil hok]
    simp [appendArgs, mParams, Ir.evalArgs, htail σ]
  -- an argument and the rest, both generated
  case case53 =>
    intro e r a1 hge ar hgr ih1 ih2 as hg
    simp only [genArgs, hge, hgr] at hg; cases hg
    refine ⟨fun ps tailA tailP tailM hok hokm htail => ?_, .cons ⟨hge, ih1 a1 hge⟩ (ih2 ar hgr).2⟩
    cases ps with
    | nil => simp [Ir.argsOK_cons_ne_nil] at hok
    | cons p ps' =>
      obtain ⟨d, T⟩ := p
      simp only [Ir.okMArgs, Bool.and_eq_true] at hokm
      obtain ⟨hte, hd, hrest⟩ := Ir.argsOK_cons hok
      have h1 := ih1 a1 hge T hte hokm.1
      have h2 := (ih2 ar hgr).1 ps' tailA tailP tailM hrest hokm.2 htail
      intro σ
      by_cases hin : d = .in_
      · subst hin
        simp only [appendArgs, mParams, List.map_cons, List.cons_append, pkOf, Msl.evalArgs, Ir.evalArgs, h1.1, h1.conv hte]
        cases Ir.eval W e σ with
        | none => simp
        | some r1 =>
          have := h2 r1.2
          simp only [mParams, pkOf] at this
          simp only [this]
          cases Ir.evalArgs W r ps' r1.2 <;> simp [toMArg]
      · obtain ⟨xv, hxv⟩ := Option.isSome_iff_exists.mp (hd.resolve_left hin)
        have hlv := lval_genM hag (S := side cx W vis rsv) rfl hxv hge hokm.1
        have hvt := (lval_tyM hte hxv).1
        have hpk : pkOf d = Msl.PK.ref := by cases d <;> simp_all [pkOf]
        have := h2 σ
        simp only [mParams] at this
        simp only [appendArgs, mParams, List.map_cons, List.cons_append, hpk, Msl.evalArgs, evalArgs_ref W hin, hlv, hxv, hag.vty, hvt,
          if_true, this]
        cases Ir.evalArgs W r ps' σ <;> simp [toMArg]
  -- `genSeq` on the last element
  case case55 =>
    intro e ih a t hg ht hok
    simp only [Ir.okMSeq, Bool.and_eq_true, Bool.not_eq_true'] at hok
    rw [Ir.typeOfSeq_single] at ht
    rw [genSeq] at hg
    have := (ih a hg t ht hok.1).plain hok.2
    exact ⟨this.1, fun σ => by simp [Ir.evalSeq, this.2 σ]⟩
  -- `genSeq`: the tail, then the head in front of it
  case case58 =>
    intro e e2 r tail a1 hge hgt ih2 ih1 a t hg ht hok
    rw [genSeq] at hg; simp only [hgt, hge] at hg; cases hg
    rw [okMSeq_cons2] at hok
    simp only [Bool.and_eq_true] at hok
    obtain ⟨⟨te, hte⟩, ht2⟩ := Ir.typeOfSeq_cons_cons ht
    have h1 := ih1 a1 hge te hte hok.1
    have h2 := ih2 tail t hgt ht2 hok.2
    constructor
    · simp [Msl.typeOf, astBinSem, h1.1, h2.1]
    · intro σ
      rw [RsslVerif.Lemmas.GenSem.evalSeq_cons2]
      simp only [Msl.eval, astBinSem, h1.1, h1.2 σ]
      cases Ir.eval W e σ with
      | none => simp
      | some r1 => simp [h2.2]
  -- the branches that end in an error return nothing (`genHead`, `genBinary`, `genArgs`, `genSeq` are left folded by the principle)
  case case28 => intros; intro a hg; simp [*] at hg
  case case44 => intro x rest he; cases he
  case case46 | case47 => intros; intro o a t hg; simp [genBinary, *] at hg
  case case49 =>
    intro es b hne o a t hg
    unfold genBinary at hg
    split at hg
    · exact (hne _ _ rfl).elim
    · cases hg
  case case51 | case52 => intros; intro as hg; simp [genArgs, *] at hg
  case case54 | case56 | case57 => intros; intro a t hg; simp_all [genSeq]
  all_goals (intros; intro _ hg; cases hg)

theorem sim_exprM {W : World} {M : Msl.MWorld} {env : Ast.Env} {cx : Ctx} {vis : Var → Bool} {rsv : Nat → List Var}
    (hag : AgreeM cx vis env) (hw : Worlds cx rsv W M) :
    ∀ (e : Ir.Expr) (a : HlslAst.Expr) (t : Ty),
      genExpr cx e = .ok a → Ir.typeOf W.sig cx.vty e = some t → Ir.okM (side cx W vis rsv) e = true → SimM W M env e a t :=
  fun e a t hg => (sim_genM hag hw).1 e a hg t
theorem sim_seqM {W : World} {M : Msl.MWorld} {env : Ast.Env} {cx : Ctx} {vis : Var → Bool} {rsv : Nat → List Var}
    (hag : AgreeM cx vis env) (hw : Worlds cx rsv W M) :
    ∀ (es : Ir.Exprs) (a : HlslAst.Expr) (t : Ty),
      genSeq cx es = .ok a → Ir.typeOfSeq W.sig cx.vty es = some t → Ir.okMSeq (side cx W vis rsv) es = true →
      SimSeqM W M env es a t :=
  fun es => (sim_genM hag hw).2.2.2.2 es
theorem sim_argsM {W : World} {M : Msl.MWorld} {env : Ast.Env} {cx : Ctx} {vis : Var → Bool} {rsv : Nat → List Var}
    (hag : AgreeM cx vis env) (hw : Worlds cx rsv W M) :
    ∀ (es : Ir.Exprs) (as : HlslAst.Exprs) (ps : List (Dir × Ty))
      (tailA : HlslAst.Exprs) (tailP : List (Msl.PK × Ty)) (tailM : List Msl.MArg),
      genArgs cx es = .ok as → Ir.argsOK W.sig cx.vty es ps = true → Ir.okMArgs (side cx W vis rsv) es = true →
      (∀ σ, Msl.evalArgs M env tailA tailP σ = some (tailM, σ)) → SimArgsM W M env es as ps tailA tailP tailM :=
  fun es as ps tailA tailP tailM hg => ((sim_genM hag hw).2.2.2.1 es as hg).1 ps tailA tailP tailM

end RsslVerif.Lemmas.GenMsl
