import RsslVerif.Lemmas.ElabConv
/-! Lemmas for C03: the typing judgment is functional and agrees with `typeOf`; conversions keep an expression typed; what an
accepted expression of each source form went through. Core Lean only. -/
namespace RsslVerif.Lemmas.Elab
open RsslVerif.Gen.RankTable RsslVerif.Gen.TypingTables RsslVerif.Model.Conv RsslVerif.Model.Overload
open RsslVerif.Model.IrTyping RsslVerif.Model.Elab RsslVerif.Lemmas.ElabConv

variable {Γ : Env}

mutual
/-- the judgment is functional and agrees with `Expression::get_type` -/
theorem typeOf_of_hasType : ∀ (e : IExpr) (τ : ETy), HasType Γ e τ → typeOf Γ e = .ok τ
  | .lit k, _, h => by cases h; simp [typeOf]
  | .var i, _, h => by cases h with | var hv => simp [typeOf, hv]
  | .tern c a b, _, h => by
    cases h with
    | tern hc ha hb hl => simp [typeOf, typeOf_of_hasType a _ ha, typeOf_of_hasType b _ hb, hl]
  | .seq a b, _, h => by
    cases h with
    | seq ha hb => simp [typeOf, typeOf_of_hasType b _ hb]
  | .call f args, _, h => by cases h with | call hf _ => simp [typeOf, hf]
  | .cast t e, _, h => by cases h; simp [typeOf]
  | .op o args, _, h => by
    cases h with
    | op ha hr => simp [typeOf, typesOf_of_hasArgs args _ ha, hr]
theorem typesOf_of_hasArgs : ∀ (as : IArgs) (ts : List ETy), HasArgs Γ as ts → typesOf Γ as = .ok ts
  | .nil, _, h => by cases h; simp [typesOf]
  | .cons e r, _, h => by
    cases h with
    | cons he hr => simp [typesOf, typeOf_of_hasType e _ he, typesOf_of_hasArgs r _ hr]
end

theorem selfCheck_type {dbg : Bool} {e e' : IExpr} {τ τ' : ETy} (h : selfCheck dbg Γ e τ = .ok (e', τ')) :
    e' = e ∧ τ' = τ := by
  revert h
  fun_cases selfCheck dbg Γ e τ <;> intro h <;> cases h <;> exact ⟨rfl, rfl⟩

/-- what `ImplicitConversion::apply` returns: the operand itself when only the value category changes, otherwise a cast to
    the target type, or — for an untyped literal and an unmodified scalar target — the literal of the target kind -/
theorem applyConv_cases {c : Conversion} {e e' : IExpr} (h : applyConv c e = .ok e') :
    (e' = e ∧ c.dimCast = none ∧ c.primary = none ∧ c.modCast = none) ∨
    ∃ t, targetType c = .ok t ∧
      (e' = .cast t.ty e ∨ ∃ k0 k, e = .lit k0 ∧ (k0 = .intLiteral ∨ k0 = .floatLiteral) ∧ t.ty.mod = {} ∧
        t.ty.layer = .scalar k ∧ e' = .lit k) := by
  -- the guard of the re-tagging shortcut lets only unmodified targets through
  have unmod {t : ETy} (hg : ¬(retagRequiresUnmodified && decide (t.ty.mod ≠ {})) = true) : t.ty.mod = {} := by
    by_cases h0 : t.ty.mod = {}
    · exact h0
    · exfalso; apply hg; simp [h0]; decide
  revert h
  fun_cases applyConv c e <;> intro h <;> try cases h
  case case1 hc => exact .inl ⟨rfl, hc⟩
  -- an untyped literal re-tagged
  case case4 t ht hg k hk k' hk' =>
    exact .inr ⟨t, ht, .inr ⟨_, k', rfl, .inl rfl, unmod hg, by rw [hk, (retag_same k k').1 hk'], rfl⟩⟩
  case case6 t ht hg k hk k' hk' =>
    exact .inr ⟨t, ht, .inr ⟨_, k', rfl, .inr rfl, unmod hg, by rw [hk, (retag_same k k').2 hk'], rfl⟩⟩
  -- every other branch builds the cast
  all_goals exact .inr ⟨_, by assumption, .inl rfl⟩

/-- `apply` keeps the expression typed -/
theorem applyConv_typed {c : Conversion} {e e' : IExpr} (he : ∃ t, HasType Γ e t) (h : applyConv c e = .ok e') :
    ∃ t, HasType Γ e' t := by
  obtain ⟨t, he⟩ := he
  rcases applyConv_cases h with ⟨rfl, _⟩ | ⟨_, _, rfl | ⟨_, _, _, _, _, _, rfl⟩⟩
  · exact ⟨t, he⟩
  · exact ⟨_, .cast he⟩
  · exact ⟨_, .lit _⟩

/-- `convert` is `find`, then `apply`; its target is the requested type -/
theorem convert_inv {e e' : IExpr} {s d t : ETy} (h : convert e s d = .ok (some (e', t))) :
    ∃ c, find s d = .ok (some c) ∧ applyConv c e = .ok e' ∧ t = d := by
  revert h
  fun_cases convert e s d <;> intro h <;> try cases h
  rename_i c hf ha ht
  exact ⟨c, hf, ha, Except.ok.inj (ht.symm.trans (targetType_ok hf))⟩

theorem convert_iff {e e' : IExpr} {s d t : ETy} :
    convert e s d = .ok (some (e', t)) ↔ ∃ c, find s d = .ok (some c) ∧ applyConv c e = .ok e' ∧ t = d :=
  ⟨convert_inv, fun ⟨c, hf, ha, ht⟩ => by simp only [convert, hf, ha, targetType_ok hf, ht]⟩

theorem convert_typed {e e' : IExpr} {s d t : ETy} (he : ∃ t, HasType Γ e t) (h : convert e s d = .ok (some (e', t))) :
    ∃ t, HasType Γ e' t := by
  obtain ⟨c, _, ha, _⟩ := convert_inv h
  exact applyConv_typed he ha

/-! ## what an accepted expression of each source form went through (`parse_expr_internal`, arm by arm) -/

theorem elabE_un_ok {dbg : Bool} {o : UnOp} {e : SExpr} {n : IExpr} {τ' : ETy}
    (h : elabE dbg Γ (.un o e) = .ok (n, τ')) :
    ∃ e1 τ1, elabE dbg Γ e = .ok (e1, τ1) ∧ elabUn Γ o e1 τ1 = .ok (n, τ') := by
  simp only [elabE] at h
  split at h
  · cases h
  · rename_i e1 τ1 h1
    split at h
    · cases h
    · rename_i hn
      obtain ⟨rfl, rfl⟩ := selfCheck_type h
      exact ⟨e1, τ1, h1, hn⟩

theorem elabE_bin_ok {dbg : Bool} {o : BinOp} {a b : SExpr} {n : IExpr} {τ' : ETy}
    (h : elabE dbg Γ (.bin o a b) = .ok (n, τ')) :
    ∃ a1 τa b1 τb, elabE dbg Γ a = .ok (a1, τa) ∧ elabE dbg Γ b = .ok (b1, τb) ∧
      match o.cls with
      | .arith => elabArith o a1 τa b1 τb = .ok (n, τ')
      | .assign => elabAssign Γ o a1 τa b1 τb = .ok (n, τ')
      | .sequence => n = .seq a1 b1 ∧ τ' = τb := by
  simp only [elabE] at h
  split at h
  · cases h
  · rename_i a1 τa ha
    split at h
    · cases h
    · rename_i b1 τb hb
      refine ⟨a1, τa, b1, τb, ha, hb, ?_⟩
      cases hc : o.cls <;> simp only [hc] at h ⊢
      · split at h
        · cases h
        · rename_i hn; obtain ⟨rfl, rfl⟩ := selfCheck_type h; exact hn
      · split at h
        · cases h
        · rename_i hn; obtain ⟨rfl, rfl⟩ := selfCheck_type h; exact hn
      · exact selfCheck_type h

theorem elabE_tern_ok {dbg : Bool} {c a b : SExpr} {n : IExpr} {τ' : ETy}
    (h : elabE dbg Γ (.tern c a b) = .ok (n, τ')) :
    ∃ c1 τc a1 τa b1 τb, elabE dbg Γ c = .ok (c1, τc) ∧ elabE dbg Γ a = .ok (a1, τa) ∧ elabE dbg Γ b = .ok (b1, τb) ∧
      elabTern c1 τc a1 τa b1 τb = .ok (n, τ') := by
  simp only [elabE] at h
  split at h
  · cases h
  · rename_i c1 τc hc
    split at h
    · cases h
    · rename_i a1 τa ha
      split at h
      · cases h
      · rename_i b1 τb hb
        split at h
        · cases h
        · rename_i hn
          obtain ⟨rfl, rfl⟩ := selfCheck_type h
          exact ⟨c1, τc, a1, τa, b1, τb, hc, ha, hb, hn⟩

theorem elabE_call_ok {dbg : Bool} {name : Nat} {args : SArgs} {n : IExpr} {τ' : ETy}
    (h : elabE dbg Γ (.call name args) = .ok (n, τ')) :
    ∃ as1 ts, elabArgs dbg Γ args = .ok (as1, ts) ∧ elabCall Γ name as1 ts = .ok (n, τ') := by
  simp only [elabE] at h
  split at h
  · cases h
  · split at h
    · cases h
    · rename_i as1 ts ha
      split at h
      · cases h
      · rename_i hn
        obtain ⟨rfl, rfl⟩ := selfCheck_type h
        exact ⟨as1, ts, ha, hn⟩

theorem elabE_cast_ok {dbg : Bool} {t : Ty} {e : SExpr} {n : IExpr} {τ' : ETy}
    (h : elabE dbg Γ (.cast t e) = .ok (n, τ')) :
    ∃ e1 τ1, elabE dbg Γ e = .ok (e1, τ1) ∧ n = .cast t e1 ∧ τ' = t.r := by
  simp only [elabE] at h
  split at h
  · cases h
  · rename_i e1 τ1 h1
    exact ⟨e1, τ1, h1, selfCheck_type h⟩

/-! ## induction over successful elaborations -/

/-- the cases of an induction over successful elaborations, one for each form of `parse_expr_internal`: the claim for the node
    from the claim for the operands and the equation of the helper that built the node (`elabUn`, `elabArith`, `elabAssign`,
    `elabTern`, `elabCall`); `Q` is the claim for argument lists -/
structure ElabCases (dbg : Bool) (Γ : Env) (P : SExpr → IExpr → ETy → Prop) (Q : SArgs → IArgs → List ETy → Prop) : Prop where
  lit : ∀ k, P (.lit k) (.lit k) (scalarTy k).r
  var : ∀ i t, Γ.vars[i]? = some t → P (.var i) (.var i) t.l
  un : ∀ o e e' τ n τ', elabE dbg Γ e = .ok (e', τ) → P e e' τ → elabUn Γ o e' τ = .ok (n, τ') → P (.un o e) n τ'
  arith : ∀ o a b a' τa b' τb n τ, o.cls = .arith → elabE dbg Γ a = .ok (a', τa) → P a a' τa →
    elabE dbg Γ b = .ok (b', τb) → P b b' τb → elabArith o a' τa b' τb = .ok (n, τ) → P (.bin o a b) n τ
  assign : ∀ o a b a' τa b' τb n τ, o.cls = .assign → elabE dbg Γ a = .ok (a', τa) → P a a' τa →
    elabE dbg Γ b = .ok (b', τb) → P b b' τb → elabAssign Γ o a' τa b' τb = .ok (n, τ) → P (.bin o a b) n τ
  seq : ∀ o a b a' τa b' τb, o.cls = .sequence → elabE dbg Γ a = .ok (a', τa) → P a a' τa →
    elabE dbg Γ b = .ok (b', τb) → P b b' τb → P (.bin o a b) (.seq a' b') τb
  tern : ∀ c a b c' τc a' τa b' τb n τ, elabE dbg Γ c = .ok (c', τc) → P c c' τc →
    elabE dbg Γ a = .ok (a', τa) → P a a' τa → elabE dbg Γ b = .ok (b', τb) → P b b' τb →
    elabTern c' τc a' τa b' τb = .ok (n, τ) → P (.tern c a b) n τ
  call : ∀ name args args' ts n τ, elabArgs dbg Γ args = .ok (args', ts) → Q args args' ts →
    elabCall Γ name args' ts = .ok (n, τ) → P (.call name args) n τ
  cast : ∀ t e e' τ, elabE dbg Γ e = .ok (e', τ) → P e e' τ → P (.cast t e) (.cast t e') t.r
  nil : Q .nil .nil []
  cons : ∀ e r e' τ r' ts, elabE dbg Γ e = .ok (e', τ) → P e e' τ → elabArgs dbg Γ r = .ok (r', ts) → Q r r' ts →
    Q (.cons e r) (.cons e' r') (τ :: ts)

section
variable {dbg : Bool} {P : SExpr → IExpr → ETy → Prop} {Q : SArgs → IArgs → List ETy → Prop}

/-- by the induction principle of `elabE` / `elabArgs`: every field of `C` is one accepting branch of the principle, up to the
    query at the end of the branch (`selfCheck_type`) -/
theorem elab_ok_rec (C : ElabCases dbg Γ P Q) :
    (∀ (s : SExpr) (i : IExpr) (τ : ETy), elabE dbg Γ s = .ok (i, τ) → P s i τ) ∧
    ∀ (as : SArgs) (args : IArgs) (ts : List ETy), elabArgs dbg Γ as = .ok (args, ts) → Q as args ts := by
  apply elabE.mutual_induct_unfolding dbg Γ (fun s r => ∀ i τ, r = .ok (i, τ) → P s i τ)
    (fun as r => ∀ args ts, r = .ok (args, ts) → Q as args ts)
  case case1 =>
    intro k i τ h
    obtain ⟨rfl, rfl⟩ := selfCheck_type h
    exact C.lit k
  case case2 =>
    intro v t ht i τ h
    obtain ⟨rfl, rfl⟩ := selfCheck_type h
    exact C.var v t ht
  case case6 =>
    intro o e e' τe he n τn hn ih i τ h
    obtain ⟨rfl, rfl⟩ := selfCheck_type h
    exact C.un o e e' τe _ _ he (ih _ _ he) hn
  case case10 =>
    intro o a b a' τa ha b' τb hb hc n τn hn iha ihb i τ h
    obtain ⟨rfl, rfl⟩ := selfCheck_type h
    exact C.arith o a b a' τa b' τb _ _ hc ha (iha _ _ ha) hb (ihb _ _ hb) hn
  case case12 =>
    intro o a b a' τa ha b' τb hb hc n τn hn iha ihb i τ h
    obtain ⟨rfl, rfl⟩ := selfCheck_type h
    exact C.assign o a b a' τa b' τb _ _ hc ha (iha _ _ ha) hb (ihb _ _ hb) hn
  case case13 =>
    intro o a b a' τa ha b' τb hb hc iha ihb i τ h
    obtain ⟨rfl, rfl⟩ := selfCheck_type h
    exact C.seq o a b a' τa b' _ hc ha (iha _ _ ha) hb (ihb _ _ hb)
  case case18 =>
    intro c a b c' τc hc a' τa ha b' τb hb n τn hn ihc iha ihb i τ h
    obtain ⟨rfl, rfl⟩ := selfCheck_type h
    exact C.tern c a b c' τc a' τa b' τb _ _ hc (ihc _ _ hc) ha (iha _ _ ha) hb (ihb _ _ hb) hn
  case case22 =>
    intro name args _ args' ts hargs n τn hn ih i τ h
    obtain ⟨rfl, rfl⟩ := selfCheck_type h
    exact C.call name args args' ts _ _ hargs (ih _ _ hargs) hn
  case case24 =>
    intro t e e' τe he ih i τ h
    obtain ⟨rfl, rfl⟩ := selfCheck_type h
    exact C.cast t e e' τe he (ih _ _ he)
  case case25 =>
    intro args ts h
    cases h
    exact C.nil
  case case28 =>
    intro e r e' τe he r' tr hr ihe ihr args ts h
    cases h
    exact C.cons e r e' τe r' tr he (ihe _ _ he) hr (ihr _ _ hr)
  all_goals
    intros
    contradiction

theorem elabE_ok_rec (C : ElabCases dbg Γ P Q) : ∀ (s : SExpr) (i : IExpr) (τ : ETy), elabE dbg Γ s = .ok (i, τ) → P s i τ :=
  (elab_ok_rec C).1

theorem elabArgs_ok_rec (C : ElabCases dbg Γ P Q) : ∀ (as : SArgs) (args : IArgs) (ts : List ETy),
    elabArgs dbg Γ as = .ok (args, ts) → Q as args ts :=
  (elab_ok_rec C).2
end

mutual
/-- every variable and function id of the expression is allocated in the environment -/
def IdsInRange (Γ : Env) : IExpr → Prop
  | .lit _ => True
  | .var i => i < Γ.vars.length
  | .tern c a b => IdsInRange Γ c ∧ IdsInRange Γ a ∧ IdsInRange Γ b
  | .seq a b => IdsInRange Γ a ∧ IdsInRange Γ b
  | .call f args => f < Γ.funcs.length ∧ ArgsInRange Γ args
  | .cast _ e => IdsInRange Γ e
  | .op _ args => ArgsInRange Γ args
def ArgsInRange (Γ : Env) : IArgs → Prop
  | .nil => True
  | .cons e r => IdsInRange Γ e ∧ ArgsInRange Γ r
end

mutual
theorem ids_of_hasType : ∀ (e : IExpr) (τ : ETy), HasType Γ e τ → IdsInRange Γ e
  | .lit _, _, _ => by simp [IdsInRange]
  | .var i, _, h => by
    cases h with
    | var hv =>
      simp only [IdsInRange]
      exact (List.getElem?_eq_some_iff.mp hv).1
  | .tern c a b, _, h => by
    cases h with
    | tern hc ha hb _ => exact ⟨ids_of_hasType c _ hc, ids_of_hasType a _ ha, ids_of_hasType b _ hb⟩
  | .seq a b, _, h => by
    cases h with
    | seq ha hb => exact ⟨ids_of_hasType a _ ha, ids_of_hasType b _ hb⟩
  | .call f args, _, h => by
    cases h with
    | call hf ha => exact ⟨(List.getElem?_eq_some_iff.mp hf).1, ids_of_hasArgs args _ ha⟩
  | .cast _ e, _, h => by
    cases h with
    | cast he => exact ids_of_hasType e _ he
  | .op _ args, _, h => by
    cases h with
    | op ha _ => exact ids_of_hasArgs args _ ha
theorem ids_of_hasArgs : ∀ (as : IArgs) (ts : List ETy), HasArgs Γ as ts → ArgsInRange Γ as
  | .nil, _, _ => by simp [ArgsInRange]
  | .cons e r, _, h => by
    cases h with
    | cons he hr => exact ⟨ids_of_hasType e _ he, ids_of_hasArgs r _ hr⟩
end

end RsslVerif.Lemmas.Elab
