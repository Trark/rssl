import RsslVerif.Lemmas.FormatFullFacts
/-!
# A printed template argument is closed (C09, seeded mutant C09-6)

`format_expression_or_type` prints an expression inside `<` … `>` (template arguments of types and calls) or inside
`sizeof( … )`.  The reader of such a list (`Terminator::TypeList`) ends the entry at the first `>` or `,` it sees outside
brackets, and `expr_p1_call` takes a `<` for the start of a nested list.  The text of an entry therefore has to be
**closed**: scanning its tokens with a bracket counter, every `>` outside `( )` / `[ ]` closes a `<` of the entry itself
(nested template argument lists), no `,` stands outside all brackets, and every `<` outside `( )` / `[ ]` is closed again.

`scan a p ts` is that scanner (`a` = open angle brackets, `p` = open parentheses / square brackets / braces; inside
parentheses the angle brackets and commas are ordinary operators).  `Neu .n ts` says `ts` is invisible to the scanner in
every state; the main result `pArg` is `Neu .n (toks (fmtEOT a fol))` for every tree — proved by induction from the
generated `(eotExprPrec, eotExprSide)` through `eot_bare_prec` (what is printed bare binds tighter than the shift
operators) and the fact that every operand printed bare binds at least as tightly as its parent.
-/
set_option linter.unusedSimpArgs false
namespace RsslVerif.Lemmas.TArgClosed
open RsslVerif.Gen.FmtTables RsslVerif.Gen.ParseTables RsslVerif.Gen.SyntaxTables RsslVerif.Model.Format
open RsslVerif.Model.FormatFull RsslVerif.Lemmas.FmtParseTables RsslVerif.Lemmas.RoundtripFull

inductive Cls where
  | opn | cls | lt | gt | comma | other
  deriving DecidableEq, Repr

/-- what a token is for the bracket scanner -/
def cls : Tok → Cls
  | .p .LeftParen => .opn
  | .p .LeftSquareBracket => .opn
  | .p .LeftBrace => .opn
  | .p .RightParen => .cls
  | .p .RightSquareBracket => .cls
  | .p .RightBrace => .cls
  | .p .Comma => .comma
  | .lt _ => .lt
  | .gt _ => .gt
  | _ => .other

/-- the bracket scanner: `a` open angle brackets (counted outside parentheses only), `p` open parentheses / square brackets /
braces.  `none`: a closing bracket without an opening one, a `>` outside all brackets that closes nothing, a `,` outside
all brackets, or an unclosed parenthesis at the end.  `some a`: the number of angle brackets still open. -/
def scan : Nat → Nat → List Tok → Option Nat
  | a, p, [] => if p = 0 then some a else none
  | a, p, t :: ts =>
    match cls t with
    | .opn => scan a (p + 1) ts
    | .cls => if p = 0 then none else scan a (p - 1) ts
    | .lt => if p = 0 then scan (a + 1) 0 ts else scan a p ts
    | .gt => if p = 0 then (if a = 0 then none else scan (a - 1) 0 ts) else scan a p ts
    | .comma => if p = 0 ∧ a = 0 then none else scan a p ts
    | .other => scan a p ts

/-- in which scanner states a token list has to be invisible: all / all but "outside every bracket" / inside parentheses -/
inductive Mode where
  | n | a | p

def Mode.ok : Mode → Nat → Nat → Prop
  | .n, _, _ => True
  | .a, na, np => np = 0 → 0 < na
  | .p, _, np => 0 < np

/-- the scanner leaves `ts` in the state it entered it -/
def Neu (m : Mode) (ts : List Tok) : Prop := ∀ a p rest, m.ok a p → scan a p (ts ++ rest) = scan a p rest

theorem neu_nil (m : Mode) : Neu m [] := fun _ _ _ _ => rfl

theorem neu_append {m : Mode} {x y : List Tok} (hx : Neu m x) (hy : Neu m y) : Neu m (x ++ y) := by
  intro a p rest h
  rw [List.append_assoc, hx a p _ h, hy a p _ h]

theorem neu_of_n {m : Mode} {x : List Tok} (h : Neu .n x) : Neu m x :=
  fun a p rest _ => h a p rest (by simp [Mode.ok])

theorem neu_p_of_a {x : List Tok} (h : Neu .a x) : Neu .p x := by
  intro a p rest hp
  exact h a p rest (by simp only [Mode.ok] at hp ⊢; omega)

theorem neu_other {m : Mode} {t : Tok} (h : cls t = .other) : Neu m [t] := by
  intro a p rest _
  simp [scan, h]

theorem neu_cons {m : Mode} {t : Tok} {x : List Tok} (ht : Neu m [t]) (hx : Neu m x) : Neu m (t :: x) :=
  neu_append (x := [t]) ht hx

/-- inside parentheses every token that is not a bracket is skipped -/
theorem neu_p_single {t : Tok} (h1 : cls t ≠ .opn) (h2 : cls t ≠ .cls) : Neu .p [t] := by
  intro a p rest hp
  have hp' : p ≠ 0 := by simp only [Mode.ok] at hp; omega
  cases hc : cls t <;> simp_all [scan]

theorem neu_of_all_other (m : Mode) : (ts : List Tok) → ts.all (fun t => cls t == .other) = true → Neu m ts
  | [], _ => neu_nil m
  | t :: ts, h => by
    simp only [List.all_cons, Bool.and_eq_true, beq_iff_eq] at h
    exact neu_cons (neu_other h.1) (neu_of_all_other m ts h.2)

theorem neu_p_of_all : (ts : List Tok) → ts.all (fun t => cls t != .opn && cls t != .cls) = true → Neu .p ts
  | [], _ => neu_nil _
  | t :: ts, h => by
    simp only [List.all_cons, Bool.and_eq_true, bne_iff_ne, ne_eq] at h
    exact neu_cons (neu_p_single h.1.1 h.1.2) (neu_p_of_all ts h.2)

theorem neu_a_comma : Neu .a [.p .Comma] := by
  intro a p rest h
  simp only [Mode.ok] at h
  simp only [List.cons_append, List.nil_append, scan, cls]
  split
  · rename_i hh; omega
  · simp

/-- a bracketed group is invisible when its content is invisible inside brackets -/
theorem neu_group {m : Mode} {o c : Tok} {x : List Tok} (ho : cls o = .opn) (hc : cls c = .cls) (hx : Neu .p x) :
    Neu m (o :: (x ++ [c])) := by
  intro a p rest _
  have h1 := hx a (p + 1) (c :: rest) (by simp only [Mode.ok]; omega)
  simp only [List.cons_append, List.append_assoc, List.nil_append, scan, ho]
  rw [h1]
  simp [scan, hc]

/-- `<` entries `>`: invisible when the entries are invisible inside angle brackets -/
theorem neu_angle {m : Mode} {b b' : Bool} {x : List Tok} (hx : Neu .a x) : Neu m (.lt b :: (x ++ [.gt b'])) := by
  intro a p rest _
  simp only [List.cons_append, List.append_assoc, List.nil_append, scan, cls]
  by_cases hp : p = 0
  · subst hp
    have h1 := hx (a + 1) 0 (.gt b' :: rest) (by simp only [Mode.ok]; omega)
    simp only [if_true]
    rw [h1]
    simp [scan, cls]
  · have h1 := hx a p (.gt b' :: rest) (by simp only [Mode.ok]; omega)
    simp only [hp, if_false]
    rw [h1]
    simp [scan, cls, hp]

def NeuP (m : Mode) (ps : List Piece) : Prop := Neu m (toks ps)

theorem np_p_of_a {x : List Piece} (h : NeuP .a x) : NeuP .p x := neu_p_of_a h

/-- `o X c Y` -/
theorem neu_group_then {m : Mode} {o c : Tok} {x y : List Tok} (ho : cls o = .opn) (hc : cls c = .cls)
    (hx : Neu .p x) (hy : Neu m y) : Neu m (o :: (x ++ c :: y)) := by
  simpa using neu_append (neu_group (m := m) ho hc hx) hy

theorem neu_wrap_true {m : Mode} {x : List Piece} (hx : Neu .p (toks x)) : Neu m (toks (wrap true x)) := by
  rw [toks_wrap_true]
  exact neu_group rfl rfl hx

theorem neu_mods (m : Mode) (sb : Bool) (mods : List TypeMod) : Neu m (toks (fmtMods mods sb)) := by
  rw [toks_fmtMods]
  apply neu_of_all_other
  simp only [List.all_map, List.all_eq_true]
  intro q _
  cases q <;> rfl

theorem floatPieces_other {l : Lit} {e mb : Nat} {s : String} {ps : List Piece} (h : floatPieces l e mb s = some ps) :
    (toks ps).all (fun t => cls t == .other) = true := by
  unfold floatPieces at h
  split at h
  · cases h; cases l.neg <;> rfl
  · cases h

theorem neu_lit (m : Mode) (l : Lit) : Neu m (toks (litPiecesT l)) := by
  apply neu_of_all_other
  unfold litPiecesT
  cases h : litPieces l with
  | none => rfl
  | some ps =>
    unfold litPieces at h
    split at h
    any_goals exact floatPieces_other h
    all_goals (repeat' split at h) <;> cases h <;> rfl

theorem neu_unTok (m : Mode) (op : UnOp) : Neu m [unTok op] := by
  apply neu_other; cases op <;> rfl

/-- which statement about a node is asked for: inside brackets anything goes, outside the node has to bind tighter than
the shift operators (`outer ≤ 6`) -/
def Fits (m : Mode) (outer : Nat) : Prop := m = .p ∨ (m = .n ∧ outer ≤ 6)

theorem fits_le {m : Mode} {o o' : Nat} (h : Fits m o) (ho : o' ≤ 6) : Fits m o' := by
  rcases h with h | ⟨h, _⟩
  · exact Or.inl h
  · exact Or.inr ⟨h, ho⟩

theorem fits_p_only {m : Mode} {o : Nat} (h : Fits m o) (ho : 6 < o) : m = .p := by
  rcases h with h | ⟨_, h⟩
  · exact h
  · omega

theorem neu_binToks (m : Mode) (op : BinOp) (h : Fits m (binPrec op)) : Neu m (binToks op) := by
  rcases h with h | ⟨h, hp⟩
  · subst h; cases op <;> exact neu_p_of_all _ (by decide)
  · subst h
    cases op <;> first
      | exact neu_of_all_other _ _ (by decide)
      | (exfalso; revert hp; decide)

/-- the node printed without parentheses of its own is invisible inside brackets, and everywhere when it binds tighter
than the shift operators -/
def P (e : XExpr) : Prop := NeuP .p (fmtBodyX e) ∧ (e.prec ≤ 6 → NeuP .n (fmtBodyX e))

theorem sub_p {e : XExpr} (h : P e) (o : Nat) (s : Side) : Neu .p (toks (fmtSubX e o s)) := by
  rw [fmtSubX_eq]
  cases needParen e.prec o s
  · exact h.1
  · exact neu_wrap_true h.1

theorem sub_m {m : Mode} {e : XExpr} (h : P e) {o : Nat} (s : Side) (hf : Fits m o) : Neu m (toks (fmtSubX e o s)) := by
  rcases hf with hm | ⟨hm, ho⟩
  · subst hm; exact sub_p h o s
  · subst hm
    rw [fmtSubX_eq]
    cases hp : needParen e.prec o s
    · exact h.2 (by have := needParen_false_le hp; omega)
    · exact neu_wrap_true h.1

/-- from a statement for both modes to the invariant -/
theorem P_of {e : XExpr} (h : ∀ m, Fits m e.prec → Neu m (toks (fmtBodyX e))) : P e :=
  ⟨h .p (Or.inl rfl), fun hp => h .n (Or.inr ⟨rfl, hp⟩)⟩

theorem p_lit (l : Lit) : P (.lit l) := by
  apply P_of; intro m _
  simp only [fmtBodyX, fmtSubX, needParen_top_lit, wrap_false]
  exact neu_lit m l

theorem p_id (n : String) : P (.id n) := by
  apply P_of; intro m _
  rw [toks_id]
  exact neu_other rfl

theorem unPrec_le (op : UnOp) : unPrec op ≤ 6 := by cases op <;> decide

theorem p_un (op : UnOp) (x : XExpr) (hx : P x) : P (.un op x) := by
  apply P_of; intro m hm
  have hf : Fits m (unPrec op) := fits_le hm (unPrec_le op)
  cases hpost : isPostfix op
  · rw [toks_prefix op x hpost]
    exact neu_cons (neu_unTok m op) (sub_m hx _ hf)
  · rw [toks_postfix op x hpost]
    exact neu_append (sub_m hx _ hf) (neu_unTok m op)

theorem p_bin (op : BinOp) (l r : XExpr) (hl : P l) (hr : P r) : P (.bin op l r) := by
  apply P_of; intro m hm
  rw [toks_bin]
  exact neu_append (sub_m hl _ hm) (neu_append (neu_binToks m op hm) (sub_m hr _ hm))

theorem p_tern (c a b : XExpr) (hc : P c) (ha : P a) (hb : P b) : P (.tern c a b) := by
  apply P_of; intro m hm
  obtain rfl : m = .p := fits_p_only hm (show 6 < precTernaryConditional by decide)
  rw [toks_tern]
  refine neu_append (sub_p hc _ _) (neu_cons (neu_other rfl) (neu_append (sub_p ha _ _) (neu_cons (neu_other rfl) ?_)))
  cases falseIsAssignmentX b
  · exact sub_p hb _ _
  · exact neu_wrap_true (sub_p hb _ _)

theorem p_sub (o i : XExpr) (ho : P o) (hi : P i) : P (.sub o i) := by
  apply P_of; intro m hm
  rw [toks_sub]
  exact neu_append (sub_m ho _ (fits_le hm (by decide))) (neu_group rfl rfl (sub_p hi _ _))

theorem p_mem (o : XExpr) (n : String) (ho : P o) : P (.mem o n) := by
  apply P_of; intro m hm
  rw [toks_mem]
  refine neu_append ?_ (neu_cons (neu_other rfl) (neu_other rfl))
  cases memObjParenX o
  · exact sub_m ho _ (fits_le hm (by decide))
  · exact neu_wrap_true (sub_p ho _ _)

theorem p_call (f : XExpr) (targs : TArgs) (args : XArgs) (hf : P f) (ht : NeuP .n (fmtTArgs targs true))
    (ha : NeuP .p (fmtArgsX args)) : P (.call f targs args) := by
  apply P_of; intro m hm
  rw [toks_call]
  exact neu_append (sub_m hf _ (fits_le hm (by decide))) (neu_append (neu_of_n ht) (neu_group rfl rfl ha))

theorem p_cast (t : TyId) (x : XExpr) (ht : NeuP .n (fmtTyId t true)) (hx : P x) : P (.cast t x) := by
  apply P_of; intro m hm
  rw [toks_cast]
  exact neu_group_then rfl rfl (neu_of_n ht) (sub_m hx _ (fits_le hm (by decide)))

theorem p_sizeof (a : TArg) (ha : NeuP .n (fmtEOT a true)) : P (.sizeof a) := by
  apply P_of; intro m hm
  rw [toks_sizeof]
  exact neu_cons (neu_other rfl) (neu_group rfl rfl (neu_of_n ha))

/-- **the place where the code's threshold enters**: what `format_expression_or_type` prints bare binds tighter than the
shift operators (`eot_bare_prec`, decided on the generated `(eotExprPrec, eotExprSide)`), everything else is wrapped -/
theorem np_eot_expr (x : XExpr) (hx : P x) : NeuP .n (fmtSubX x eotExprPrec eotExprSide) := by
  unfold NeuP
  rw [fmtSubX_eq]
  cases hp : needParen x.prec eotExprPrec eotExprSide
  · exact hx.2 (eot_bare_prec hp)
  · exact neu_wrap_true hx.1

theorem np_targs_cons (a : TArg) (rest : TArgs) (fol : Bool) (ha : NeuP .n (fmtEOT a true))
    (hr : NeuP .a (fmtTArgTail rest)) : NeuP .n (fmtTArgs (.cons a rest) fol) := by
  have : toks (fmtTArgs (.cons a rest) fol) =
      .lt true :: ((toks (fmtEOT a true) ++ toks (fmtTArgTail rest)) ++ [.gt fol]) := by
    simp [fmtTArgs, ltT, gtP, toks]
  unfold NeuP
  rw [this]
  exact neu_angle (neu_append (neu_of_n ha) hr)

theorem np_tail_cons (b : TArg) (rest : TArgs) (hb : NeuP .n (fmtEOT b true)) (hr : NeuP .a (fmtTArgTail rest)) :
    NeuP .a (fmtTArgTail (.cons b rest)) := by
  have : toks (fmtTArgTail (.cons b rest)) = .p .Comma :: (toks (fmtEOT b true) ++ toks (fmtTArgTail rest)) := by
    simp [fmtTArgTail, comma, pp, toks]
  unfold NeuP
  rw [this]
  exact neu_cons neu_a_comma (neu_append (neu_of_n hb) hr)

theorem np_tyid (mods : List TypeMod) (name : String) (targs : TArgs) (decl : Decl) (fol : Bool)
    (ht : ∀ f, NeuP .n (fmtTArgs targs f)) (hd : NeuP .n (fmtDecl decl true)) :
    NeuP .n (fmtTyId (.mk mods name targs decl) fol) := by
  unfold NeuP
  simp only [fmtTyId, toks_append, toks_cons_t]
  exact neu_append (neu_mods _ _ mods) (neu_cons (neu_other rfl) (neu_append (ht _) hd))

theorem neu_wrap (b : Bool) {x : List Piece} (hx : Neu .n (toks x)) : Neu .n (toks (wrap b x)) := by
  cases b
  · exact hx
  · exact neu_wrap_true (neu_of_n hx)

mutual
theorem pX : (e : XExpr) → P e
  | .lit l => p_lit l
  | .id n => p_id n
  | .un op x => p_un op x (pX x)
  | .bin op l r => p_bin op l r (pX l) (pX r)
  | .tern c a b => p_tern c a b (pX c) (pX a) (pX b)
  | .sub o i => p_sub o i (pX o) (pX i)
  | .mem o n => p_mem o n (pX o)
  | .call f t a => p_call f t a (pX f) (pTArgs t true) (pArgs a)
  | .cast t x => p_cast t x (pTy t true) (pX x)
  | .sizeof a => p_sizeof a (pArg a true)
theorem pArgs : (a : XArgs) → NeuP .p (fmtArgsX a)
  | .nil => neu_nil _
  | .cons e .nil => sub_p (pX e) _ _
  | .cons e (.cons e' r) => by
    have : toks (fmtArgsX (.cons e (.cons e' r))) =
        toks (fmtSubX e callArgMainPrec callArgMainSide) ++ (.p .Comma :: toks (fmtArgsX (.cons e' r))) := by
      simp [fmtArgsX, comma, pp, toks]
    unfold NeuP
    rw [this]
    exact neu_append (sub_p (pX e) _ _) (neu_cons (neu_p_single (by decide) (by decide)) (pArgs (.cons e' r)))
theorem pArg : (a : TArg) → (fol : Bool) → NeuP .n (fmtEOT a fol)
  | .e x, _ => np_eot_expr x (pX x)
  | .both x _, _ => np_eot_expr x (pX x)
  | .t ty, fol => pTy ty fol
theorem pTArgs : (l : TArgs) → (fol : Bool) → NeuP .n (fmtTArgs l fol)
  | .nil, _ => neu_nil _
  | .cons a rest, fol => np_targs_cons a rest fol (pArg a true) (pTail rest)
theorem pTail : (l : TArgs) → NeuP .a (fmtTArgTail l)
  | .nil => neu_nil _
  | .cons b rest => np_tail_cons b rest (pArg b true) (pTail rest)
theorem pTy : (t : TyId) → (fol : Bool) → NeuP .n (fmtTyId t fol)
  | .mk mods name targs decl, fol => np_tyid mods name targs decl fol (fun f => pTArgs targs f) (pDecl decl true)
theorem pDecl : (d : Decl) → (single : Bool) → NeuP .n (fmtDecl d single)
  | .empty, _ => neu_nil _
  | .name n, single => by
    unfold NeuP
    rw [toks_fmtDecl_name]
    exact neu_other rfl
  | .ptr quals inner, single => by
    unfold NeuP
    rw [toks_fmtDecl_ptr]
    exact neu_cons (neu_other rfl) (neu_append (neu_mods _ _ quals) (pDecl inner single))
  | .ref inner, single => by
    unfold NeuP
    rw [toks_fmtDecl_ref]
    exact neu_cons (neu_other rfl) (pDecl inner single)
  | .arr inner size, single => by
    unfold NeuP
    rw [toks_fmtDecl_arr]
    exact neu_append (neu_wrap _ (pDecl inner _)) (neu_group rfl rfl (sub_p (pX size) _ _))
  | .arrN inner, single => by
    unfold NeuP
    rw [toks_fmtDecl_arrN]
    exact neu_append (neu_wrap _ (pDecl inner _)) (neu_group (x := []) rfl rfl (neu_nil _))
end

end RsslVerif.Lemmas.TArgClosed
