import RsslVerif.Lemmas.LexStable
import RsslVerif.Spec.Lexer
/-! # `TokenStream` bookkeeping: every `next` advances, spans chain, errors stay inside the file -/
namespace RsslVerif.Model.Lexer
open RsslVerif.Gen.LexTables RsslVerif.Spec.Lexer

theorem chain_append {a b c : Nat} {xs : List PTok} {t : PTok}
    (h : Chain a xs b) (ht : t.start = b) (hle : t.start ≤ t.stop) (hc : t.stop = c) :
    Chain a (xs ++ [t]) c := by
  induction xs generalizing a with
  | nil => simp only [Chain] at h; subst h; simp [Chain, ht, hc]; omega
  | cons x xs ih => simp only [Chain, List.cons_append] at h ⊢; exact ⟨h.1, h.2.1, ih h.2.2⟩

theorem chain_bounds {a b : Nat} {ts : List PTok} (h : Chain a ts b) :
    a ≤ b ∧ ∀ t ∈ ts, a ≤ t.start ∧ t.start ≤ t.stop ∧ t.stop ≤ b := by
  induction ts generalizing a with
  | nil => simp [Chain] at h; subst h; simp
  | cons t ts ih =>
    obtain ⟨h1, h2, h3⟩ := h
    obtain ⟨h4, h5⟩ := ih h3
    refine ⟨by omega, ?_⟩
    intro x hx
    rcases List.mem_cons.mp hx with hx | hx
    · subst hx; omega
    · have := h5 x hx; omega

/-- re-emitting a chain of spans gives exactly the bytes between its ends -/
theorem reemit_chain (s : Bytes) {a b : Nat} {ts : List PTok} (h : Chain a ts b) :
    reemit s ts = (s.drop a).take (b - a) := by
  induction ts generalizing a with
  | nil => simp only [Chain] at h; subst h; simp [reemit]
  | cons t ts ih =>
    simp only [Chain] at h
    obtain ⟨h1, h2, h3⟩ := h
    have hle := (chain_bounds h3).1
    have := ih h3
    simp only [reemit, List.flatMap_cons] at this ⊢
    rw [this, slice, h1]
    subst h1
    have e : b - t.start = (t.stop - t.start) + (b - t.stop) := by omega
    rw [e, List.take_add, List.drop_drop]
    congr 3
    omega

/-- what `next` answers from a state whose offset is inside the file: a token that starts at the offset and advances it
(or the synthetic final endline), or a diagnostic positioned in the rest of the file; of the panic sites only the
`assert!(!self.last_was_endline)`, which `read_to_end` never reaches -/
def NextPost (s : Stream) : Except StreamErr (PTok × Stream) → Prop
  | .ok (t, s') =>
    s'.input = s.input ∧ t.start = s.offset ∧ t.stop = s'.offset ∧ s'.offset ≤ s.input.length ∧
    ((s.offset < s'.offset ∧ s'.lastWasEndline = decide (t.tok = .simple .Endline)) ∨
     (t.tok = .simple .Endline ∧ s.offset = s.input.length ∧ s'.offset = s.input.length ∧
      s'.lastWasEndline = true))
  | .error e =>
    (∃ k off, e = .lexer k off ∧ s.offset ≤ off ∧ off ≤ s.input.length) ∨
    (e = .panic "last-was-endline" ∧ s.addTrailingEndline = true ∧ s.offset = s.input.length ∧
      s.lastWasEndline = true)

theorem next_spec {s : Stream} {inc : Bool} (hinv : s.offset ≤ s.input.length) : NextPost s (s.next inc) := by
  unfold Stream.next
  by_cases hc : s.addTrailingEndline = true ∧ s.offset = s.input.length
  · rw [if_pos hc]
    by_cases hl : s.lastWasEndline = true
    · rw [if_pos hl]; exact .inr ⟨rfl, hc.1, hc.2, hl⟩
    · rw [if_neg hl]; simp [NextPost, hc.2]
  · rw [if_neg hc, if_neg (Nat.not_lt.mpr hinv)]
    have hg := tokenIntermediate_good (s.input.drop s.offset) inc
    have hs := tokenIntermediate_strict (s.input.drop s.offset) inc
    split
    · rename_i remaining tok hti
      rw [hti] at hg hs
      have hl := (show remaining <:+ _ from hg).length_le
      simp only [Strict, List.length_drop] at hs hl
      -- neither the subtraction nor the progress assertion can fail
      rw [if_neg (by omega)]; dsimp only; rw [if_neg (by omega)]
      simp [NextPost]; omega
    · rename_i rest kind hti
      rw [hti] at hg
      have hl := (show rest <:+ _ from hg).length_le
      simp only [List.length_drop] at hl
      rw [if_neg (by omega)]; dsimp only; rw [if_neg (by omega)]
      exact .inl ⟨kind, _, rfl, by omega, by omega⟩
    · rename_i kind hti
      rw [if_neg (by omega)]
      exact .inl ⟨kind, _, rfl, hinv, Nat.le_refl _⟩
    · rename_i site hti
      rw [hti] at hg
      exact absurd hg (by simp [Good])

/-- how a run of the `read_to_end` loop with enough fuel can end, given what was read before -/
def LoopPost (input : Bytes) (a : Nat) (r : List PTok × Except StreamErr Unit) : Prop :=
  (∀ t ∈ r.1, t.start < t.stop ∨ IsSyntheticEndline input t) ∧
  (match r.2 with
   | .ok () => Chain a r.1 input.length
   | .error (.lexer _ off) => ∃ p, Chain a r.1 p ∧ p ≤ off ∧ off ≤ input.length
   | .error _ => False)

/-- every iteration but the last consumes a byte, and the last one adds the synthetic endline: fuel for the bytes
left and two more never runs out -/
theorem readLoop_spec (inc : Bool) (fuel : Nat) (s : Stream) (acc : List PTok) (a : Nat)
    (hinv : s.offset ≤ s.input.length)
    (hf : s.input.length - s.offset + 2 ≤ fuel ∨ (1 ≤ fuel ∧ s.endOfStream = true))
    (hchain : Chain a acc.reverse s.offset)
    (hne : ∀ t ∈ acc, t.start < t.stop ∨ IsSyntheticEndline s.input t) :
    LoopPost s.input a (readLoop inc fuel s acc) := by
  fun_induction readLoop inc fuel s acc
  case case1 => rcases hf with hf | hf <;> omega
  case case2 s acc hend =>
    refine ⟨fun t ht => hne t (List.mem_reverse.mp ht), ?_⟩
    simp only [Stream.endOfStream, Bool.and_eq_true, decide_eq_true_eq] at hend
    have : s.offset = s.input.length := by omega
    simpa [this] using hchain
  case case3 s acc hend e he =>
    refine ⟨fun t ht => hne t (List.mem_reverse.mp ht), ?_⟩
    have hp := next_spec (inc := inc) hinv
    rw [he] at hp
    rcases hp with ⟨k, off, h1, h2, h3⟩ | ⟨h1, h2, h3, h4⟩
    · subst h1; exact ⟨_, hchain, h2, h3⟩
    · exfalso; apply hend
      simp [Stream.endOfStream, h3, h4]
  case case4 fuel s acc hend t s' hn ih =>
    have hf : s.input.length - s.offset + 2 ≤ fuel + 1 := hf.resolve_right fun h => hend h.2
    have hp := next_spec (inc := inc) hinv
    rw [hn] at hp
    obtain ⟨h1, h4, h5, h6, h7⟩ := hp
    rw [← h1]
    refine ih (by rw [h1]; exact h6) ?_ ?_ ?_
    · rw [h1]
      rcases h7 with h7 | h7
      · left; omega
      · right; exact ⟨by omega, by simp [Stream.endOfStream, h1, h7.2.2.1, h7.2.2.2]⟩
    · simp only [List.reverse_cons]
      refine chain_append hchain h4 ?_ h5
      rcases h7 with h7 | h7 <;> omega
    · intro x hx
      rw [h1]
      rcases List.mem_cons.mp hx with hx | hx
      · subst hx
        rcases h7 with h7 | h7
        · left; omega
        · right; exact ⟨h7.1, by omega, by omega⟩
      · exact hne x hx

theorem readAll_post (s : Bytes) (trailing debug inc : Bool) :
    LoopPost s 0 (readAll s trailing debug inc) :=
  readLoop_spec inc (s.length + 2) (Stream.new s trailing debug) [] 0 (Nat.zero_le _) (.inl (by simp [Stream.new])) rfl
    (fun _ h => absurd h (List.not_mem_nil))

/-- what `read_to_end` answers: tokens that tile the file, or a diagnostic positioned inside it -/
theorem readToEnd_post (s : Bytes) (trailing debug : Bool) :
    match readToEnd s trailing debug with
    | .ok ts => Tiles s ts
    | .error (.lexer _ off) => off ≤ s.length
    | .error _ => False := by
  have hp := readAll_post s trailing debug false
  fun_cases readToEnd s trailing debug <;> rename_i hr <;> rw [hr] at hp
  · exact ⟨hp.2, hp.1⟩
  · rename_i e
    cases e with
    | lexer k off => obtain ⟨_, _, _, h⟩ := hp.2; exact h
    | _ => exact hp.2
