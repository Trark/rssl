import RsslVerif.Lemmas.GenSemExpr
import RsslVerif.Model.GenHlslVec
import RsslVerif.Spec.SemVec
/-! Vector layer: the emitted vector expression simulates the typed one (`VSim`), by induction, re-using the scalar
`sim_expr` at the scalar leaves. -/
namespace RsslVerif.Lemmas.GenSemVec
open RsslVerif.Gen.HlslGenTables RsslVerif.Gen.HlslVecTables RsslVerif.Model RsslVerif.Model.IrVec
open RsslVerif.Model.GenHlsl RsslVerif.Model.GenHlslVec RsslVerif.Spec.Sem RsslVerif.Spec.SemVec RsslVerif.Lemmas.GenSem
open RsslVerif.Model.Ir (Ty Var Const Dir)

/-- static type of the emitted expression: an unsuffixed typed constant is a literal int -/
def vastTy (e : VExpr) (t : VTy) : VTy := if e.litlike then .sc .lit else t

def vastVal (e : VExpr) (v : VVal) : VVal :=
  if e.litlike then (match v with | .sc (.i x) => .sc (.lit x.toInt) | w => w) else v

/-- the emitted names denote the entities the IR referred to (C15's conclusion), also for vector-typed ones -/
structure VAgree (cx : Ctx) (env : VAst.VEnv) (vvty : Var → VTy) : Prop where
  base : Agree cx env.base
  vres : ∀ x, env.vres (cx.name x) = some x
  vvty : env.vvty = vvty

def VSim (W : World) (env : VAst.VEnv) (e : VExpr) (a : VAExpr) (t : VTy) : Prop :=
  VAst.typeOf W.sig env a = some (vastTy e t) ∧
  ∀ ρ σ, VAst.eval W env ρ a σ = (VIr.eval W ρ e σ).map (fun r => (vastVal e r.1, r.2))

theorem vlitlike_cases {e : VExpr} (h : e.litlike = true) : ∃ v, e = .sc (.lit (.int32 v)) := by
  cases e with
  | sc x =>
    cases x with
    | lit c => cases c <;> simp [VExpr.litlike] at h; exact ⟨_, rfl⟩
    | _ => simp [VExpr.litlike] at h
  | _ => simp [VExpr.litlike] at h

theorem VSim.plain {W : World} {env : VAst.VEnv} {e : VExpr} {a : VAExpr} {t : VTy}
    (h : VSim W env e a t) (hl : e.litlike = false) :
    VAst.typeOf W.sig env a = some t ∧ ∀ ρ σ, VAst.eval W env ρ a σ = VIr.eval W ρ e σ := by
  obtain ⟨h1, h2⟩ := h
  refine ⟨by simpa [vastTy, hl] using h1, fun ρ σ => ?_⟩
  rw [h2 ρ σ]
  cases VIr.eval W ρ e σ <;> simp [vastVal, hl]

theorem VSim.of_plain {W : World} {env : VAst.VEnv} {e : VExpr} {a : VAExpr} {t : VTy}
    (hl : e.litlike = false) (h1 : VAst.typeOf W.sig env a = some t)
    (h2 : ∀ ρ σ, VAst.eval W env ρ a σ = VIr.eval W ρ e σ) : VSim W env e a t := by
  refine ⟨by simpa [vastTy, hl] using h1, fun ρ σ => ?_⟩
  rw [h2 ρ σ]
  cases VIr.eval W ρ e σ <;> simp [vastVal, hl]

theorem VSim.lit {W : World} {env : VAst.VEnv} {a : VAExpr} {t : VTy} {v : BitVec 32}
    (h : VSim W env (.sc (.lit (.int32 v))) a t) :
    VAst.typeOf W.sig env a = some (.sc .lit) ∧ ∀ ρ σ, VAst.eval W env ρ a σ = some (.sc (.lit v.toInt), σ) := by
  obtain ⟨h1, h2⟩ := h
  refine ⟨by simpa [vastTy, VExpr.litlike] using h1, fun ρ σ => ?_⟩
  rw [h2 ρ σ]
  simp [VIr.eval, Ir.eval, Ir.constVal, vastVal, VExpr.litlike]

theorem vlitlike_ty {sig : Sig} {vty : Var → Ty} {vvty : Var → VTy} {e : VExpr} {t : VTy}
    (ht : VIr.typeOf sig vty vvty e = some t) (hl : e.litlike = true) : t = .sc .int := by
  obtain ⟨v, rfl⟩ := vlitlike_cases hl
  simp [VIr.typeOf, Ir.typeOf, Const.ty] at ht
  exact ht.symm

theorem castShape_lit_int (P : Prim) (T : VTy) (v : BitVec 32) :
    castShape P T (.sc (.lit v.toInt)) = castShape P T (.sc (.i v)) := by
  cases T <;> simp [castShape, castVal_lit_int]

theorem VSim.conv {W : World} {env : VAst.VEnv} {e : VExpr} {a : VAExpr} {t : VTy}
    {vty : Var → Ty} {vvty : Var → VTy}
    (h : VSim W env e a t) (ht : VIr.typeOf W.sig vty vvty e = some t) (ρ : VStore) (σ : Store) :
    VAst.vconvR W.P (vastTy e t) t (VAst.eval W env ρ a σ) = VIr.eval W ρ e σ := by
  by_cases hl : e.litlike = true
  · have htt := vlitlike_ty ht hl
    obtain ⟨v, rfl⟩ := vlitlike_cases hl
    subst htt
    simp [h.lit.2 ρ σ, vastTy, VExpr.litlike, VAst.vconvR, VAst.vconvert, castShape, castVal, VIr.eval, Ir.eval,
      Ir.constVal, BitVec.ofInt_toInt]
  · have hl' : e.litlike = false := by simpa using hl
    rw [(h.plain hl').2 ρ σ]
    cases hr : VIr.eval W ρ e σ with
    | none => simp [VAst.vconvR]
    | some r => simp [VAst.vconvR, VAst.vconvert, vastTy, hl']

theorem VSim.castShapeR {W : World} {env : VAst.VEnv} {e : VExpr} {a : VAExpr} {t : VTy}
    (h : VSim W env e a t) (T : VTy) (ρ : VStore) (σ : Store) :
    castShapeR W.P T (VAst.eval W env ρ a σ) = castShapeR W.P T (VIr.eval W ρ e σ) := by
  by_cases hl : e.litlike = true
  · obtain ⟨v, rfl⟩ := vlitlike_cases hl
    simp [h.lit.2 ρ σ, VIr.eval, Ir.eval, Ir.constVal, castShape_lit_int, Spec.SemVec.castShapeR]
  · have hl' : e.litlike = false := by simpa using hl
    rw [(h.plain hl').2 ρ σ]

/-- the numeric types `generate_type` has a name for -/
def nameable : List VTy :=
  [Ty.bool, .int, .uint, .float].flatMap fun t => [.sc t, .vec t 1, .vec t 2, .vec t 3, .vec t 4]

theorem nameable_roundtrip : ∀ ty ∈ nameable, (vtypeName ty).toOption.bind VAst.vtyOfName = some ty := by
  decide +kernel

theorem dimSuffix_cases {k : Nat} {d : String} (h : dimSuffix k = some d) : k = 1 ∨ k = 2 ∨ k = 3 ∨ k = 4 := by
  match k, h with
  | 1, _ | 2, _ | 3, _ | 4, _ => simp
  | 0, h | k + 5, h => simp [dimSuffix] at h

theorem mem_nameable {ty : VTy} {n : String} (h : vtypeName ty = .ok n)
    (h1 : ty.scalar ≠ .lit) (h2 : ty.scalar ≠ .flit) (h3 : ty.scalar ≠ .void) : ty ∈ nameable := by
  revert h
  fun_cases vtypeName ty <;> intro h <;> try cases h
  next t => cases t <;> simp [VTy.scalar] at h1 h2 h3 <;> decide +kernel
  next t k _ _ _ hd =>
    cases t <;> simp [VTy.scalar] at h1 h2 h3 <;> rcases dimSuffix_cases hd with rfl | rfl | rfl | rfl <;> decide +kernel

theorem vtypeName_vtyOfName {ty : VTy} {n : String} (h : vtypeName ty = .ok n)
    (h1 : ty.scalar ≠ .lit) (h2 : ty.scalar ≠ .flit) (h3 : ty.scalar ≠ .void) :
    VAst.vtyOfName n = some ty := by
  have := nameable_roundtrip ty (mem_nameable h h1 h2 h3)
  rwa [h] at this

theorem charIdx_swizzleChar (s : SwizzleSlot) : VAst.charIdx (swizzleChar s) = some (slotIdx s) := by
  cases s <;> rfl

theorem parse_swizzleName (sl : List SwizzleSlot) : VAst.parseSwizzle (swizzleName sl) = some (sl.map slotIdx) := by
  simp only [VAst.parseSwizzle, swizzleName, String.toList_ofList]
  induction sl with
  | nil => rfl
  | cons s r ih => simp [mapOpt, charIdx_swizzleChar, ih]

theorem withScalar_self {t : VTy} {k : Ty} (h : t.scalar = k) : t.withScalar k = t := by
  cases t <;> simp [VTy.scalar] at h <;> subst h <;> rfl

theorem vcommon_self (t : VTy) : VAst.vcommon t t = some t := by
  cases t with
  | sc k => simp [VAst.vcommon, VTy.scalar, common_self]
  | vec k n => simp [VAst.vcommon, VTy.scalar, common_self]

theorem vconvR_self (P : Prim) (t : VTy) (r : VR) : VAst.vconvR P t t r = r := by
  cases r with
  | none => rfl
  | some p => simp [VAst.vconvR, VAst.vconvert]

/-- the common type of the two emitted operands of a typed binary node is the node's operand type -/
theorem vcommon_vastTy {sig : Sig} {vty : Var → Ty} {vvty : Var → VTy} {x y : VExpr} {t : VTy}
    (hx : VIr.typeOf sig vty vvty x = some t) (hy : VIr.typeOf sig vty vvty y = some t)
    (hl : (x.litlike && y.litlike) = false) :
    VAst.vcommon (vastTy x t) (vastTy y t) = some t := by
  by_cases lx : x.litlike = true
  · have ly : y.litlike = false := by simpa [lx] using hl
    have := vlitlike_ty hx lx; subst this
    simp [vastTy, lx, ly, VAst.vcommon, VTy.scalar, Ast.common]
  · have lx' : x.litlike = false := by simpa using lx
    by_cases ly : y.litlike = true
    · have := vlitlike_ty hy ly; subst this
      simp [vastTy, lx', ly, VAst.vcommon, VTy.scalar, Ast.common]
    · have ly' : y.litlike = false := by simpa using ly
      simp [vastTy, lx', ly', vcommon_self]

variable {W : World} {env : VAst.VEnv} {ρ : VStore} {cx : Ctx} {vvty : Var → VTy}

theorem vnot_litlike {x : VExpr} {t : VTy} (ht : VIr.typeOf W.sig cx.vty vvty x = some t) (hne : t ≠ .sc .int) :
    x.litlike = false := by
  cases h : x.litlike
  · rfl
  · exact absurd (vlitlike_ty ht h) hne

/-! what `generate_expression` returned on the vector layer, read backwards -/

theorem genV_op2_ok {o : IntrinsicOp} {x y : VExpr} {a : VAExpr} (h : genV cx (.op o (.cons x (.cons y .nil))) = .ok a) :
    ∃ b x' y', opForm o = .binary b ∧ genV cx x = .ok x' ∧ genV cx y = .ok y' ∧ a = .bin b x' y' := by
  simp only [genV] at h
  cases hf : opForm o with
  | unexpected => simp [hf] at h
  | unary u => simp [hf] at h
  | binary b =>
    cases hx : genV cx x with
    | error err => simp [hf, hx] at h
    | ok x' =>
      cases hy : genV cx y with
      | error err => simp [hf, hx, hy] at h
      | ok y' => simp [hf, hx, hy] at h; exact ⟨b, x', y', rfl, rfl, rfl, h.symm⟩

theorem sim_vcast {ty : VTy} {n : String} {x : VExpr} {x' : VAExpr} {tx : VTy} (hn : vtypeName ty = .ok n)
    (h1 : ty.scalar ≠ .lit) (h2 : ty.scalar ≠ .flit) (h3 : ty.scalar ≠ .void) (hx : VSim W env x x' tx) :
    VSim W env (.cast ty x) (.cast n x') ty := by
  have htn := vtypeName_vtyOfName hn h1 h2 h3
  refine .of_plain rfl ?_ fun ρ σ => ?_
  · simp only [VAst.typeOf, hx.1, htn]
  · simp only [VAst.eval, htn, hx.castShapeR, VIr.eval]

theorem all_map_slotIdx (sl : List SwizzleSlot) (n : Nat) :
    (sl.map slotIdx).all (fun i => decide (i < n)) = sl.all (fun s => decide (slotIdx s < n)) := by
  induction sl with
  | nil => rfl
  | cons s r ih => simp [List.all_cons, ih]

theorem sim_vswz {x : VExpr} {sl : List SwizzleSlot} {x' : VAExpr} {tx : VTy} (hx : VSim W env x x' tx)
    (hne : sl ≠ []) (hall : sl.all (fun s => decide (slotIdx s < tx.count)) = true) (hlx : x.litlike = false) :
    VSim W env (.swz x sl) (.member x' (swizzleName sl)) (swzTy tx.scalar sl.length) := by
  have hp := hx.plain hlx
  have hmt : VAst.memberTy tx (swizzleName sl) = some (swzTy tx.scalar sl.length) := by
    have hne' : sl.map slotIdx ≠ [] := by simpa using hne
    simp only [VAst.memberTy, parse_swizzleName, all_map_slotIdx, hall, List.length_map]
    simp [hne']
  refine .of_plain rfl ?_ fun ρ σ => ?_
  · simp only [VAst.typeOf, hp.1, hmt]
  · simp only [VAst.eval, hp.1, hmt, parse_swizzleName, hp.2, VIr.eval]

theorem sim_vun {o : IntrinsicOp} {u : UnaryOp} {x : VExpr} {x' : VAExpr} {t : VTy}
    (hf : opForm o = .unary u) (hx : VSim W env x x' t)
    (ht : VIr.typeOf W.sig cx.vty vvty (.op o (.cons x .nil)) = some t) :
    VSim W env (.op o (.cons x .nil)) (.un u x') t := by
  have hs := op_unary hf
  obtain ⟨m, hsem, -, hlx, hb⟩ := VIr.typeOf_op1 ht
  rw [hsem] at hs
  have hp := hx.plain hlx
  have hconv : (if m = MUn.lnot then t.withScalar .bool else t) = t := by
    by_cases hmm : m = .lnot
    · rw [if_pos hmm, withScalar_self (hb hmm)]
    · rw [if_neg hmm]
  refine .of_plain rfl ?_ fun ρ σ => ?_
  · simp only [VAst.typeOf, hs, hp.1]
    cases m <;> simp
    exact withScalar_self (hb rfl)
  · simp only [VAst.eval, hs, hp.1, hconv, vconvR_self, hp.2, VIr.eval, hsem]

theorem sim_varith {o : IntrinsicOp} {b : BinOp} {m : MBin} {x y : VExpr} {x' y' : VAExpr} {ta : VTy}
    (hs : astBinSem b = .bin m) (hsem : irOpSem o = .bin m)
    (hx : VSim W env x x' ta) (htx : VIr.typeOf W.sig cx.vty vvty x = some ta)
    (hy : VSim W env y y' ta) (hty : VIr.typeOf W.sig cx.vty vvty y = some ta)
    (hl : (x.litlike && y.litlike) = false) :
    VSim W env (.op o (.cons x (.cons y .nil))) (.bin b x' y') (if m.isCmp then ta.withScalar .bool else ta) := by
  have hcm := vcommon_vastTy htx hty hl
  refine .of_plain rfl ?_ fun ρ σ => ?_
  · simp only [VAst.typeOf, hs, hx.1, hy.1, hcm]
    cases m.isCmp <;> rfl
  · simp only [VAst.eval, hs, hx.1, hy.1, hcm, hx.conv htx, hy.conv hty, VIr.eval, hsem]

/-- `&&`, `||` take scalar `bool`s: neither operand is an unsuffixed constant and no conversion happens -/
theorem sim_vlogic {o : IntrinsicOp} {b : BinOp} {x y : VExpr} {x' y' : VAExpr}
    (hs : astBinSem b = irOpSem o) (hsem : irOpSem o = .land ∨ irOpSem o = .lor)
    (hx : VSim W env x x' (.sc .bool)) (htx : VIr.typeOf W.sig cx.vty vvty x = some (.sc .bool))
    (hy : VSim W env y y' (.sc .bool)) (hty : VIr.typeOf W.sig cx.vty vvty y = some (.sc .bool)) :
    VSim W env (.op o (.cons x (.cons y .nil))) (.bin b x' y') (.sc .bool) := by
  have hpx := hx.plain (vnot_litlike htx (by decide))
  have hpy := hy.plain (vnot_litlike hty (by decide))
  refine .of_plain rfl ?_ fun ρ σ => ?_
  · rcases hsem with hsem | hsem <;> simp only [VAst.typeOf, hs, hsem, hpx.1, hpy.1]
  · rcases hsem with hsem | hsem <;>
      simp only [VAst.eval, hs, hsem, hpx.1, hpy.1, vconvR_self, hpx.2, hpy.2, VIr.eval]

theorem sim_vtern {c f g : VExpr} {c' f' g' : VAExpr} {t : VTy}
    (hc : VSim W env c c' (.sc .bool)) (htc : VIr.typeOf W.sig cx.vty vvty c = some (.sc .bool))
    (hf : VSim W env f f' t) (htf : VIr.typeOf W.sig cx.vty vvty f = some t)
    (hg : VSim W env g g' t) (htg : VIr.typeOf W.sig cx.vty vvty g = some t)
    (hlit : (f.litlike && g.litlike) = false) :
    VSim W env (.tern c f g) (.tern c' f' g') t := by
  have hcm := vcommon_vastTy htf htg hlit
  have hpc := hc.plain (vnot_litlike htc (by decide))
  refine .of_plain rfl ?_ fun ρ σ => ?_
  · simp only [VAst.typeOf, hc.1, hf.1, hg.1, hcm]
  · simp only [VAst.eval, hpc.1, hf.1, hg.1, hcm, vconvR_self, hpc.2, hf.conv htf, hg.conv htg, VIr.eval]

/-- what the induction proves about a constructor's slots -/
def VSimSlots (W : World) (env : VAst.VEnv) (ρ : VStore) (k : Ty) (slots : VSlots) (as : VAExprs) : Prop :=
  VAst.argsTyped W.sig env as = true ∧ ∀ σ, VAst.evalCtorArgs W env ρ k as σ = VIr.evalSlots W ρ slots σ

theorem litlike_sc (e : Ir.Expr) : (VExpr.sc e).litlike = Ir.litlike e := by
  cases e with
  | lit c => cases c <;> rfl
  | _ => rfl

theorem sim_vsc (hs : Sim W env.base e a t) : VSim W env (.sc e) (.sc a) (.sc t) := by
  constructor
  · simp only [VAst.typeOf, hs.1, vastTy, litlike_sc, astTy]
    cases Ir.litlike e <;> simp
  · intro ρ σ
    simp only [VAst.eval, hs.2 σ, VIr.eval]
    cases Ir.eval W e σ with
    | none => rfl
    | some r =>
      obtain ⟨v, σ1⟩ := r
      simp only [Option.map, vastVal, litlike_sc, astVal]
      cases Ir.litlike e <;> simp
      cases v <;> simp

/-- the static type of an emitted slot, with the constructor's scalar kind, is the slot's IR type -/
theorem slot_conv_ty {sig : Sig} {vty : Var → Ty} {e : VExpr} {te : VTy} {k : Ty}
    (ht : VIr.typeOf sig vty vvty e = some te) (hk : te.scalar = k) : (vastTy e te).withScalar k = te := by
  by_cases hl : e.litlike = true
  · have := vlitlike_ty ht hl; subst this
    simp [VTy.scalar] at hk; subst hk
    simp [vastTy, hl, VTy.withScalar]
  · have hl' : e.litlike = false := by simpa using hl
    simp [vastTy, hl', withScalar_self hk]

theorem sim_vvar (hag : VAgree cx env vvty) {e : VExpr} {a : VAExpr} {x : Var}
    (hp : VIr.placeOf e = some (x, none)) (hg : genV cx e = .ok a) : VSim W env e a (vvty x) := by
  have hr := hag.vres x
  cases e with
  | vvar id | vglobal id =>
    simp only [VIr.placeOf, Option.some.injEq, Prod.mk.injEq, and_true] at hp; subst hp
    simp [genV] at hg; subst hg
    simp only [Ctx.name] at hr
    exact .of_plain rfl (by simp [VAst.typeOf, hr, hag.vvty]) fun ρ σ => by simp [VAst.eval, hr, VIr.eval]
  | swz e l => cases e <;> simp [VIr.placeOf] at hp
  | _ => simp [VIr.placeOf] at hp

/-- By the functional induction principle of the generator: its cases are the branches of `genV` / `genSlots`, each with the
results of the calls made on the way and the value the branch returns. -/
theorem sim_v_slots (hag : VAgree cx env vvty) :
    (∀ e a t, genV cx e = .ok a → VIr.typeOf W.sig cx.vty vvty e = some t → VIr.litOK e = true → VSim W env e a t) ∧
    ∀ slots as k total, genSlots cx slots = .ok as → VIr.slotsOK W.sig cx.vty vvty k slots = some total →
      VIr.litOKSlots slots = true →
      VAst.argsTyped W.sig env as = true ∧ ∀ ρ σ, VAst.evalCtorArgs W env ρ k as σ = VIr.evalSlots W ρ slots σ := by
  apply genV.mutual_induct_unfolding cx
    (fun e r => ∀ a t, r = .ok a → VIr.typeOf W.sig cx.vty vvty e = some t → VIr.litOK e = true → VSim W env e a t)
    (fun slots r => ∀ as k total, r = .ok as → VIr.slotsOK W.sig cx.vty vvty k slots = some total →
      VIr.litOKSlots slots = true →
      VAst.argsTyped W.sig env as = true ∧ ∀ ρ σ, VAst.evalCtorArgs W env ρ k as σ = VIr.evalSlots W ρ slots σ)
  case case2 => -- a scalar
    intro e a' hge a t hg ht hl
    cases hg
    obtain ⟨k, hte, rfl⟩ := VIr.typeOf_sc ht
    exact sim_vsc (sim_expr hag.base e a' k hge hte (by simpa [VIr.litOK] using hl))
  case case3 | case4 =>
    intro id a t hg ht _
    simp [VIr.typeOf] at ht; subst ht
    exact sim_vvar hag rfl (by simpa [genV] using hg)
  case case6 => -- a cast to a literal type is not typed
    intro ty x x' _ hty _ a t _ ht _
    obtain ⟨_, _, rfl, h1, h2, _⟩ := VIr.typeOf_cast ht
    rcases hty with rfl | rfl <;> simp [VTy.scalar] at h1 h2
  case case8 => -- cast
    intro ty x x' hgx _ n hn ih a t hg ht hl
    cases hg
    obtain ⟨tx, htx, rfl, h1, h2, h3⟩ := VIr.typeOf_cast ht
    exact sim_vcast hn h1 h2 h3 (ih x' tx hgx htx (by simpa [VIr.litOK] using hl))
  case case10 => -- swizzle
    intro x sl x' hgx ih a t hg ht hl
    cases hg
    obtain ⟨tx, htx, rfl, hne, hall, hlx⟩ := VIr.typeOf_swz ht
    exact sim_vswz (ih x' tx hgx htx (by simpa [VIr.litOK] using hl)) hne hall hlx
  case case13 => -- constructor
    intro ty slots n hn as hgs ih a t hg ht hl
    cases hg
    obtain ⟨rfl, hso, h1, h2, h3⟩ := VIr.typeOf_ctor ht
    have htn := vtypeName_vtyOfName hn h1 h2 h3
    have hs := ih as t.scalar t.count hgs hso (by simpa [VIr.litOK] using hl)
    refine .of_plain rfl ?_ fun ρ σ => ?_
    · simp only [VAst.typeOf, htn, hs.1, if_true]
    · simp only [VAst.eval, htn, hs.2, VIr.eval]
  case case17 => -- `c ? f : g`
    intro c f g c' hgc f' hgf g' hgg ihc ihf ihg a t hg ht hl
    cases hg
    simp only [VIr.litOK, Bool.and_eq_true] at hl
    obtain ⟨⟨lc, lf⟩, lg⟩ := hl
    obtain ⟨htc, htf, htg, lfg⟩ := VIr.typeOf_tern ht
    exact sim_vtern (ihc c' _ hgc htc lc) htc (ihf f' t hgf htf lf) htf (ihg g' t hgg htg lg) htg lfg
  case case20 => -- unary operator
    intro o u hf x x' hgx ih a t hg ht hl
    cases hg
    simp only [VIr.litOK, VIr.litOKs, Bool.and_true] at hl
    obtain ⟨m, -, htx, -⟩ := VIr.typeOf_op1 ht
    exact sim_vun hf (ih x' t hgx htx hl) ht
  case case24 => -- binary operator: by the kind of operator the type checker saw
    intro o b hf x y x' hgx y' hgy ihx ihy a t hg ht hl
    cases hg
    simp only [VIr.litOK, VIr.litOKs, Bool.and_eq_true, Bool.and_true] at hl
    have hs := op_binary hf
    obtain ⟨ta, htx, hty, hk⟩ := VIr.typeOf_op2 ht
    have hx := ihx x' ta hgx htx hl.1
    have hy := ihy y' ta hgy hty hl.2
    rcases hk with ⟨m, hsem, hlit, rfl⟩ | ⟨hsem, rfl, rfl⟩
    · exact sim_varith (hs.trans hsem) hsem hx htx hy hty hlit
    · exact sim_vlogic hs hsem hx htx hy hty
  case case26 =>
    intro as k total hg _ _
    cases hg
    exact ⟨rfl, fun ρ σ => by simp [VAst.evalCtorArgs, VIr.evalSlots]⟩
  case case29 => -- a slot and the rest
    intro n e r a1 hge ar hgr ihe ihr as k total hg hso hl
    cases hg
    simp only [VIr.litOKSlots, Bool.and_eq_true] at hl
    obtain ⟨te, m, hte, hsr, hk, -, -⟩ := VIr.slotsOK_cons hso
    have h1 := ihe a1 te hge hte hl.1
    have h2 := ihr ar k m hgr hsr hl.2
    refine ⟨by simp [VAst.argsTyped, h1.1, h2.1], fun ρ σ => ?_⟩
    simp only [VAst.evalCtorArgs, h1.1, slot_conv_ty hte hk, h1.conv hte, h2.2, VIr.evalSlots]
  -- the generator's failing branches
  all_goals (intros; rename_i hg _ _; cases hg)

theorem sim_v (hag : VAgree cx env vvty) :
    ∀ (e : VExpr) (a : VAExpr) (t : VTy),
      genV cx e = .ok a → VIr.typeOf W.sig cx.vty vvty e = some t → VIr.litOK e = true → VSim W env e a t :=
  (sim_v_slots hag).1
theorem sim_slots (hag : VAgree cx env vvty) :
    ∀ (slots : VSlots) (as : VAExprs) (k : Ty) (total : Nat),
      genSlots cx slots = .ok as → VIr.slotsOK W.sig cx.vty vvty k slots = some total → VIr.litOKSlots slots = true →
      VSimSlots W env ρ k slots as :=
  fun slots as k total hg hs hl => ((sim_v_slots hag).2 slots as k total hg hs hl).imp_right (· ρ)


/-- the emitted assignment target denotes the variable and components of the IR's place -/
theorem lval_genV (hag : VAgree cx env vvty) {lhs : VExpr} {lhs' : VAExpr} {x : Var} {sl : Option (List SwizzleSlot)}
    (hp : VIr.placeOf lhs = some (x, sl)) (hg : genV cx lhs = .ok lhs') :
    VAst.lvalOfV env lhs' = some (x, sl.map (·.map slotIdx)) ∧ lhs.litlike = false ∧ VIr.litOK lhs = true := by
  have hl := fun id => hag.vres (.loc id)
  have hgl := fun id => hag.vres (.glob id)
  simp only [Ctx.name] at hl hgl
  revert hp
  -- a place is a vector variable or a swizzle of one: the generator prints its name, followed by the letters
  fun_cases VIr.placeOf lhs <;> intro hp <;> cases hp
  all_goals
    simp [genV] at hg; subst hg
    simp [VAst.lvalOfV, hl, hgl, parse_swizzleName, VExpr.litlike, VIr.litOK]

theorem vconvert_self (P : Prim) (t : VTy) (v : VVal) : VAst.vconvert P t t v = some v := by simp [VAst.vconvert]

/-- statement-level assignment / compound assignment to a vector variable or a swizzle of one -/
theorem sim_vassign (hag : VAgree cx env vvty) {o : IntrinsicOp} {b : BinOp} {lhs rhs : VExpr} {lhs' rhs' : VAExpr} {T : VTy}
    (hf : opForm o = .binary b) (hgl : genV cx lhs = .ok lhs') (hgr : genV cx rhs = .ok rhs')
    (hok : VIr.assignOK W.sig cx.vty vvty lhs rhs = some T) (hlr : VIr.litOK rhs = true)
    (hsem : irOpSem o = .assign ∨ ∃ m, irOpSem o = .compound m) :
    ∀ ρ σ, VAst.evalTop W env ρ (.bin b lhs' rhs') σ = VIr.evalTop W ρ (.op o (.cons lhs (.cons rhs .nil))) σ := by
  intro ρ σ
  have hbs := op_binary hf
  revert hok
  fun_cases VIr.assignOK W.sig cx.vty vvty lhs rhs <;> intro hok <;> cases hok
  rename_i pl hp htr htl
  obtain ⟨x, sl⟩ := pl
  obtain ⟨hlv, hll, hlol⟩ := lval_genV hag hp hgl
  have hL := (sim_v hag lhs lhs' T hgl htl hlol).plain hll
  have hR := sim_v hag rhs rhs' T hgr htr hlr
  have hRc := hR.conv htr ρ σ
  rcases hsem with ha | ⟨m, hc⟩
  · simp only [VAst.evalTop, hbs, ha, hlv, hL.1, hR.1, hRc, VIr.evalTop, hp]
  · have hcm : VAst.vcommon T (vastTy rhs T) = some T := by
      have := vcommon_vastTy htl htr (by simp [hll])
      simpa [vastTy, hll] using this
    simp only [VAst.evalTop, hbs, hc, hlv, hL.1, hR.1, hcm, hRc, VIr.evalTop, hp]
    cases VIr.eval W ρ rhs σ with
    | none => rfl
    | some r =>
      obtain ⟨v, σ1⟩ := r
      simp only []
      cases readPlace (ρ x) (Option.map (List.map slotIdx) sl) with
      | none => rfl
      | some cur =>
        simp only [vconvert_self]

end RsslVerif.Lemmas.GenSemVec
