import RsslVerif.Model.LayoutCollect
import RsslVerif.Lemmas.LayoutCollect
import RsslVerif.Lemmas.Basics
/-!
Globals and functions the two collection loops of `check_layout` pass over (`continue` / `_ => {}`) have no
influence at all on what is collected — resources of other kinds, plain variables, intrinsics that are not typed
loads / stores, user functions and their instantiations.
-/

namespace RsslVerif.Lemmas.LayoutIgnored
open RsslVerif.Gen.LayoutTables RsslVerif.Model.Layout RsslVerif.Model.LayoutCollect RsslVerif.Lemmas.LayoutCollect

/-- the global loop reaches its `types_seen.insert`: below the peeled layers there is an object of a matched kind -/
def globalMatters (g : Global) : Bool :=
  match peel globalPeelOps g.ty with
  | .object k (some _) => checkedObjects.contains k
  | _ => false

/-- the function loop gets past its three `continue`s: a matched intrinsic with template instantiation data -/
def fnMatters (f : Fn) : Bool :=
  match f.intrinsic with
  | none => false
  | some i => checkedIntrinsics.contains i && f.template.isSome

theorem globalRef_of_ignored {g : Global} (h : globalMatters g = false) : globalRef g = none := by
  unfold globalMatters at h
  unfold globalRef
  split <;> simp_all

theorem fnAct_of_ignored {f : Fn} (h : fnMatters f = false) : fnAct f = .pass := by
  unfold fnMatters at h
  unfold fnAct
  split
  · rfl
  · rename_i i hi
    rw [hi] at h
    cases hc : checkedIntrinsics.contains i
    · rfl
    · cases ht : f.template
      · rfl
      · simp only [hc, ht, Option.isSome_some, Bool.and_self] at h; cases h

theorem collect_filter (m : Module) :
    collect ⟨m.globals.filter globalMatters, m.fns.filter fnMatters⟩ = collect m := by
  have hg : ∀ g, globalMatters g = false → (globalRef g).map (·, g.loc) = none := fun g h => by
    rw [globalRef_of_ignored h]; rfl
  have hf : ∀ f, fnMatters f = false → fItem f = none := fun f h => by unfold fItem; rw [fnAct_of_ignored h]
  have hb : ∀ f, fnMatters f = false → isBad f = none := fun f h => by unfold isBad; rw [fnAct_of_ignored h]
  rw [collect_eq, collect_eq]
  -- the first bad function is the head of `filterMap isBad`
  simp only [gItems, ← List.head?_filterMap, Basics.filterMap_filter_of_none hg, Basics.filterMap_filter_of_none hf,
    Basics.filterMap_filter_of_none hb]

end RsslVerif.Lemmas.LayoutIgnored
