import RsslVerif.Model.FixpointNames
/-!
The outward walk of `find_identifier` (`Model.FixpointNames.find`), followed by induction along the parent chain
(`TableWF.chain_rec`): when no scope between the use and the root resolves the path, the walk answers what the root resolves
it to; when none of them declares the first name of the path, this holds under the code's discipline and under that of seeded
mutant C04-3 (`findStop`) alike.
-/
namespace RsslVerif.Lemmas.FixpointNames
open RsslVerif.Model.FixpointNames

/-- the table is one `make_scope` can have built -/
structure TableWF (T : Table) : Prop where
  root : ∃ sc, T[0]? = some sc ∧ sc.parent = none
  parent_lt : ∀ (i : Nat) (sc : Scope) (p : Nat), T[i]? = some sc → sc.parent = some p → p < i
  nonroot : ∀ (i : Nat) (sc : Scope), T[i]? = some sc → i ≠ 0 → ∃ p, sc.parent = some p

/-- `v` is `u` or one of the scopes enclosing `u` -/
inductive OnChain (T : Table) : Nat → Nat → Prop
  | refl (i : Nat) : OnChain T i i
  | step {i p v : Nat} {sc : Scope} : T[i]? = some sc → sc.parent = some p → OnChain T p v → OnChain T i v

theorem valid_of_lt {T : Table} {i : Nat} (h : i < T.length) : ∃ sc, T[i]? = some sc :=
  ⟨T[i], List.getElem?_eq_getElem h⟩

theorem lt_of_valid {T : Table} {i : Nat} {sc : Scope} (h : T[i]? = some sc) : i < T.length := by
  rcases Nat.lt_or_ge i T.length with hlt | hge
  · exact hlt
  · rw [List.getElem?_eq_none hge] at h; cases h

theorem onChain_valid {T : Table} (wf : TableWF T) {u v : Nat} (h : OnChain T u v) (hu : u < T.length) : v < T.length := by
  induction h with
  | refl i => exact hu
  | step hs hp _ ih =>
    exact ih (Nat.lt_trans (wf.parent_lt _ _ _ hs hp) (lt_of_valid hs))

/-- induction along the parent chain, from the root inwards -/
theorem TableWF.chain_rec {T : Table} (wf : TableWF T) {P : Nat → Prop} (h0 : P 0)
    (hstep : ∀ u sc p, T[u]? = some sc → sc.parent = some p → u ≠ 0 → P p → P u) : ∀ u, u < T.length → P u := by
  intro u
  induction u using Nat.strongRecOn with
  | _ u ih =>
    intro hu
    rcases Nat.eq_zero_or_pos u with rfl | hpos
    · exact h0
    · obtain ⟨sc, hs⟩ := valid_of_lt hu
      obtain ⟨p, hp⟩ := wf.nonroot u sc hs (by omega)
      have hlt : p < u := wf.parent_lt u sc p hs hp
      exact hstep u sc p hs hp (by omega) (ih p hlt (by omega))

/-- `find_identifier` on a relative path whose whole path resolves, on the chain of the use, only from the root: the loop
    passes every scope below the root and answers at the root, at most `u` steps away -/
theorem find_of_root_only {T : Table} (wf : TableWF T) {u : Nat} (hu : u < T.length) {p : Path} {r : Res}
    (hrel : p.abs = false) (hroot : resolveAt T 0 p.quals p.leaf = .ok (some r))
    (hclear : ∀ v, OnChain T u v → v ≠ 0 → resolveAt T v p.quals p.leaf = .ok none) :
    find T u p = .ok (some r) := by
  simp only [find, hrel, Bool.false_eq_true, if_false]
  refine wf.chain_rec (P := fun u => ∀ fuel, u < fuel → (∀ v, OnChain T u v → v ≠ 0 → resolveAt T v p.quals p.leaf = .ok none) →
    findFrom T p.quals p.leaf fuel u = .ok (some r)) ?_ ?_ u hu (T.length + 1) (by omega) hclear
  · intro fuel hf _
    obtain ⟨f, rfl⟩ := Nat.exists_eq_add_one_of_ne_zero (Nat.ne_of_gt hf)
    simp [findFrom, hroot]
  · intro u sc q hs hq hu0 ih fuel hf hclear
    obtain ⟨f, rfl⟩ := Nat.exists_eq_add_one_of_ne_zero (Nat.ne_zero_of_lt hf)
    simp only [findFrom, hclear u (.refl u) hu0, hs, hq]
    exact ih f (by have := wf.parent_lt u sc q hs hq; omega) fun v hv => hclear v (.step hs hq hv)

/-- the first name of a path: its first qualifier, or the leaf of an unqualified name -/
def headName (q : List String) (l : String) : String :=
  match q with
  | [] => l
  | h :: _ => h

/-- the scope declares nothing called `h`: no local, no symbol of any kind, no struct member (decidable form) -/
def undeclared (sc : Scope) (h : String) : Bool :=
  (assoc h sc.vars).isNone && (sc.symsOf h).isEmpty &&
    !(match sc.members with | some ms => ms.contains h | none => false)

/-- the scope declares nothing called `h`: no local, no symbol of any kind, no struct member -/
def Undeclared (sc : Scope) (h : String) : Prop :=
  assoc h sc.vars = none ∧ sc.symsOf h = [] ∧ ∀ ms, sc.members = some ms → ms.contains h = false

theorem undeclared_iff {sc : Scope} {h : String} : undeclared sc h = true ↔ Undeclared sc h := by
  unfold undeclared Undeclared
  cases hm : sc.members with
  | none => simp [Option.isNone_iff_eq_none, List.isEmpty_iff]
  | some ms => simp [Option.isNone_iff_eq_none, List.isEmpty_iff, and_assoc]

/-- the enclosing scopes of `i`, innermost first -/
def chain (T : Table) : Nat → Nat → List Nat
  | 0, _ => []
  | fuel + 1, i => i :: match T[i]?.bind (·.parent) with
    | some p => chain T fuel p
    | none => []

theorem findInScope_none_of_undeclared {sc : Scope} {l : String} (h : Undeclared sc l) : findInScope sc l = none := by
  obtain ⟨hv, hs, hm⟩ := h
  unfold findInScope
  rw [hv, hs]
  simp only [scanSyms, firstTy]
  cases hmem : sc.members with
  | none => rfl
  | some ms =>
    have h := hm ms hmem
    simp at h
    simp [h]

theorem walkInto_head_none {T : Table} {v : Nat} {sc : Scope} {h : String} {q : List String} (hs : T[v]? = some sc)
    (hu : sc.symsOf h = []) : walkInto T v (h :: q) = .ok none := by
  simp [walkInto, hs, hu, stepFold]

theorem resolveAt_none_of_undeclared {T : Table} {v : Nat} {sc : Scope} {q : List String} {l : String}
    (hs : T[v]? = some sc) (hu : Undeclared sc (headName q l)) : resolveAt T v q l = .ok none := by
  cases q with
  | nil =>
    simp only [headName] at hu
    simp [resolveAt, walkInto, hs, findInScope_none_of_undeclared hu]
  | cons h q' =>
    simp only [headName] at hu
    simp [resolveAt, walkInto_head_none hs hu.2.1]

theorem clear_of_undeclared {T : Table} (wf : TableWF T) {u : Nat} (hu : u < T.length) {q : List String} {l : String}
    (hno : ∀ v sc, OnChain T u v → v ≠ 0 → T[v]? = some sc → Undeclared sc (headName q l)) :
    ∀ v, OnChain T u v → v ≠ 0 → resolveAt T v q l = .ok none := by
  intro v hv hv0
  obtain ⟨sc, hs⟩ := valid_of_lt (onChain_valid wf hv hu)
  exact resolveAt_none_of_undeclared hs (hno v sc hv hv0 hs)

/-- the discipline of seeded mutant C04-3: the scopes that are passed declare nothing under the first name of the path, so
    the first qualifier alone does not resolve there either and the mutant's loop goes on like the code's -/
theorem findStop_of_undeclared {T : Table} (wf : TableWF T) {u : Nat} (hu : u < T.length) {p : Path} {r : Res}
    (hrel : p.abs = false) (hroot : resolveAt T 0 p.quals p.leaf = .ok (some r))
    (hno : ∀ v sc, OnChain T u v → v ≠ 0 → T[v]? = some sc → Undeclared sc (headName p.quals p.leaf)) :
    findStop T u p = .ok (some r) := by
  simp only [findStop, hrel, Bool.false_eq_true, if_false]
  refine wf.chain_rec (P := fun u => ∀ fuel, u < fuel →
    (∀ v sc, OnChain T u v → v ≠ 0 → T[v]? = some sc → Undeclared sc (headName p.quals p.leaf)) →
    findStopFrom T p.quals p.leaf fuel u = .ok (some r)) ?_ ?_ u hu (T.length + 1) (by omega) hno
  · intro fuel hf _
    obtain ⟨f, rfl⟩ := Nat.exists_eq_add_one_of_ne_zero (Nat.ne_of_gt hf)
    simp [findStopFrom, hroot]
  · intro u sc q hs hq hu0 ih fuel hf hno
    obtain ⟨f, rfl⟩ := Nat.exists_eq_add_one_of_ne_zero (Nat.ne_zero_of_lt hf)
    have hund := hno u sc (.refl u) hu0 hs
    -- the first qualifier alone: nothing to walk into for a bare name, no symbol of that name otherwise
    have hw : ∃ w, walkInto T u (p.quals.take 1) = .ok w ∧ ¬ (p.quals ≠ [] ∧ w.isSome = true) := by
      cases hq' : p.quals with
      | nil => exact ⟨some u, by simp [walkInto], by simp⟩
      | cons h q' =>
        rw [hq'] at hund
        exact ⟨none, walkInto_head_none (h := h) (q := []) hs hund.2.1, by simp⟩
    obtain ⟨w, hw, hgo⟩ := hw
    simp only [findStopFrom, resolveAt_none_of_undeclared hs hund, hw, hs, hq]
    rw [if_neg hgo]
    exact ih f (by have := wf.parent_lt u sc q hs hq; omega) fun v sc' hv => hno v sc' (.step hs hq hv)

theorem mem_chain_of_onChain {T : Table} (wf : TableWF T) {u v : Nat} (h : OnChain T u v) :
    ∀ fuel, u < fuel → v ∈ chain T fuel u := by
  induction h with
  | refl i =>
    intro fuel hf
    cases fuel with
    | zero => omega
    | succ f => simp [chain]
  | step hs hp _ ih =>
    intro fuel hf
    cases fuel with
    | zero => omega
    | succ f =>
      have := wf.parent_lt _ _ _ hs hp
      simp only [chain, hs, hp, Option.bind_some, List.mem_cons]
      exact Or.inr (ih f (by omega))

/-- decidable form of "no scope on the chain of `u` below the root declares `h`" -/
def noInnerHomonymB (T : Table) (u : Nat) (h : String) : Bool :=
  (chain T (u + 1) u).all fun v => v == 0 || match T[v]? with
    | some sc => undeclared sc h
    | none => true

theorem undeclared_of_noInnerHomonymB {T : Table} (wf : TableWF T) {u : Nat} {h : String}
    (hb : noInnerHomonymB T u h = true) :
    ∀ v sc, OnChain T u v → v ≠ 0 → T[v]? = some sc → Undeclared sc h := by
  intro v sc hv hv0 hs
  have hm := mem_chain_of_onChain wf hv (u + 1) (by omega)
  have := (List.all_eq_true.mp hb) v hm
  simp only [hs, Bool.or_eq_true, beq_iff_eq] at this
  rcases this with h0 | hu
  · exact absurd h0 hv0
  · exact undeclared_iff.mp hu

end RsslVerif.Lemmas.FixpointNames
