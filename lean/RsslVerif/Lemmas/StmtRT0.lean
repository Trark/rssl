import RsslVerif.Lemmas.RoundtripFull4
import RsslVerif.Model.ParseStmt
/-! Round trip of statements: a whole expression in front of a closing token, the statements a following `else` would
attach to, the invariants. -/
set_option linter.unusedSimpArgs false
namespace RsslVerif.Lemmas.StmtRT
open RsslVerif.Gen.FmtTables RsslVerif.Gen.ParseTables RsslVerif.Gen.SyntaxTables RsslVerif.Model.Format
open RsslVerif.Model.FormatFull RsslVerif.Model.ParseFull RsslVerif.Model.FormatStmt RsslVerif.Model.ParseStmt
open RsslVerif.Lemmas.FmtParseTables RsslVerif.Lemmas.RoundtripFull

variable (W : List String)

/-- a whole expression in front of one of `)`, `;`, `:`, `]` -/
def StdCloser (t : Tok) : Prop :=
  t = .p .RightParen ∨ t = .p .RightSquareBracket ∨ t = .p .Colon ∨ t = .p .Semicolon

/-- a whole expression in front of a stream no level continues into -/
theorem expr_reads_inert (e : XExpr) (hwf : WF W e) (rest : List Tok) (hin : ∀ k, Inert W k .Standard rest)
    (hsafe : hasLt e = true → TmplFree (toks (fmtExprX e) ++ rest) = true) :
    LevelParser.Ev fun f => xparseLvl W f 15 .Standard (toks (fmtExprX e) ++ rest) = some (e, rest) :=
  rt W e hwf 15 .Standard rest (e, rest) nofun (lvl_le e) (fun _ => rfl) (fun i _ _ => hin i) hsafe
    (LevelParser.fin_self e (lvl_le e) fun _ => hin 15)

theorem expr_reads (e : XExpr) (hwf : WF W e) (c : Tok) (hc : StdCloser c) (rest : List Tok)
    (hsafe : hasLt e = true → TmplFree (toks (fmtExprX e) ++ c :: rest) = true) :
    ∃ N, ∀ f, N ≤ f → xparseLvl W f 15 .Standard (toks (fmtExprX e) ++ c :: rest) = some (e, c :: rest) :=
  expr_reads_inert W e hwf _ (fun k => inert_closes W k _ _ _ (by rcases hc with h | h | h | h <;> simp [Closes, h])) hsafe

theorem inert_id (k : Nat) (term : Terminator) (n : String) (rest : List Tok) : Inert W k term (.id n :: rest) := by
  apply inert_of
  · intro _; simp [NoPostfix, Tok.isLt]
  · intro _; simp [LevelParser.NoQuestion]
  · intro _ _ _; exact parseOpAt_of_opensAny rfl k term rest

/-- a punctuation token that is not `(`, not `sizeof` and no prefix operator starts no expression -/
theorem badHead_p {k : Punct} (h1 : k ≠ .LeftParen) (h2 : prefixOp (.p k) = none) (h3 : k ≠ .SizeOf) : BadHead (.p k) :=
  ⟨(by intro n h; cases h), (by intro l h; cases h), fun h => h1 (Tok.p.inj h), h2, fun h => h3 (Tok.p.inj h)⟩

-- `openIf`: the statement ends with an `if` that has no `else` (a following `else` would attach to it)
mutual
def openIf : Stmt → Bool
  | .mk _ k => openIfK k
def openIfK : Kind → Bool
  | .ifS _ _ => true
  | .ifElse _ _ e => openIf e
  | .forS _ _ _ b => openIf b
  | .whileS _ b => openIf b
  | .switchS _ b => openIf b
  | .caseS _ n => openIf n
  | .defaultS n => openIf n
  | _ => false
end

def hasLtOpt : Option XExpr → Bool
  | none => false
  | some e => hasLt e

def hasLtAttrs : List Attr → Bool
  | [] => false
  | a :: r => hasLtArgs a.args || hasLtAttrs r

mutual
def hasLtInit : Init → Bool
  | .expr e => hasLt e
  | .agg l => hasLtInits l
def hasLtInits : Inits → Bool
  | .nil => false
  | .cons i r => hasLtInit i || hasLtInits r
end

def hasLtInitDecls : List InitDecl → Bool
  | [] => false
  | d :: r => hasLtDecl d.decl || (match d.init with | none => false | some i => hasLtInit i) || hasLtInitDecls r

def hasLtVarDef (v : VarDef) : Bool := hasLtTArgs v.targs || hasLtInitDecls v.defs

def hasLtForInit : ForInit → Bool
  | .empty => false
  | .expr e => hasLt e
  | .decl v => hasLtVarDef v

mutual
def hasLtS : Stmt → Bool
  | .mk attrs k => hasLtAttrs attrs || hasLtK k
def hasLtK : Kind → Bool
  | .empty => false
  | .expr e => hasLt e
  | .var v => hasLtVarDef v
  | .block b => hasLtSs b
  | .ifS c t => hasLt c || hasLtS t
  | .ifElse c t e => hasLt c || hasLtS t || hasLtS e
  | .forS i c n b => hasLtForInit i || hasLtOpt c || hasLtOpt n || hasLtS b
  | .whileS c b => hasLt c || hasLtS b
  | .doWhile b c => hasLtS b || hasLt c
  | .switchS c b => hasLt c || hasLtS b
  | .breakS => false
  | .continueS => false
  | .discardS => false
  | .ret e => hasLtOpt e
  | .caseS v n => hasLt v || hasLtS n
  | .defaultS n => hasLtS n
def hasLtSs : Stmts → Bool
  | .nil => false
  | .cons s r => hasLtS s || hasLtSs r
end

/-- a statement reads back in front of `rest` -/
def RS (s : Stmt) : Prop :=
  ∀ rest, rest ≠ [] → (openIf s = true → ∀ r, rest ≠ .p .Else :: r) →
    (hasLtS s = true → TmplFree (toks (fmtStmt s) ++ rest) = true) →
    ∃ N, ∀ f, N ≤ f → parseStmt W f (toks (fmtStmt s) ++ rest) = .ok s rest

def RK (k : Kind) : Prop :=
  ∀ rest, rest ≠ [] → (openIfK k = true → ∀ r, rest ≠ .p .Else :: r) →
    (hasLtK k = true → TmplFree (toks (fmtKind k) ++ rest) = true) →
    ∃ N, ∀ f, N ≤ f → parseKind W f (toks (fmtKind k) ++ rest) = .ok k rest

/-- the statements of a block up to and including the closing brace -/
def RSs (b : Stmts) : Prop :=
  ∀ rest, (hasLtSs b = true → TmplFree (toks (fmtStmts b) ++ .p .RightBrace :: rest) = true) →
    ∃ N, ∀ f, N ≤ f → parseStmts W f (toks (fmtStmts b) ++ .p .RightBrace :: rest) = .ok b rest

end RsslVerif.Lemmas.StmtRT
