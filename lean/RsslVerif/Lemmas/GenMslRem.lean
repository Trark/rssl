import RsslVerif.Lemmas.GenMslExpr
import RsslVerif.Lemmas.MslDup
/-! The floating-point `%=` of the Metal exporter (fixes 92d66eb + 35faaaa): `a %= b` is emitted as `a = metal::fmod(a, b)`
behind `is_plain_place(a)` and `is_free_of_writes(b)`.  The emitted form reads the target BEFORE `b` is evaluated, the typed
`%=` after: what makes them agree is that a sound chain of tests accepts only pure expressions (`sound_test_pure`: the accepted trees
are `Quiet`, and on the image of the IR quiet means `Ir.pureExpr`). -/
namespace RsslVerif.Lemmas.GenMsl
open RsslVerif.Gen.HlslGenTables RsslVerif.Gen.MslGenTables RsslVerif.Model RsslVerif.Model.GenMsl RsslVerif.Model.MslDup
open RsslVerif.Spec.Sem
open RsslVerif.Model.Ir (Ty Var Const Dir)

theorem plainPlace_cases {x : Ir.Expr} (h : plainPlace x = true) : (∃ id, x = .var id) ∨ (∃ id, x = .global id) := by
  cases x with
  | var id => exact .inl ⟨id, rfl⟩
  | global id => exact .inr ⟨id, rfl⟩
  | _ => simp [plainPlace, plainPlaceD, toD, testD, findPlaceRow, remAssignPlaceGuard, opOK] at h


/-- `Ir.pureExpr`'s test on the operator -/
def pureOp (o : IntrinsicOp) : Bool :=
  match irOpSem o with
  | .un _ | .bin _ | .land | .lor => true
  | _ => false

/-- the operators `Spec.MslDup.pureOps` names are the ones `Ir.pureExpr` admits (one evaluation over the table of operators) -/
theorem pureOpIdx_sem (o : IntrinsicOp) : Spec.MslDup.pureOpIdx (intrinsicOpIdx o) = pureOp o := by
  have tab : IntrinsicOp.all.all (fun o => Spec.MslDup.pureOpIdx (intrinsicOpIdx o) == pureOp o) = true := by decide +kernel
  simpa using List.all_eq_true.mp tab o (IntrinsicOp.mem_all o)

section
open RsslVerif.Spec.MslDup (SoundTabs)
open RsslVerif.Lemmas.MslDup (Quiet DExprs.toList DFields.exprs testD_quiet testDAll_quiet)
open RsslVerif.Thm.C02Dup (wf_toD wfs_toDs)

mutual
/-- on the image of the scalar IR, quiet trees are the pure expressions -/
theorem quiet_toD_pure : ∀ (e : Ir.Expr), Quiet (toD e) → Ir.pureExpr e = true
  | .lit _, _ | .var _, _ | .global _, _ => rfl
  | .cast ty e, h => by
    rw [toD] at h
    rw [Ir.pureExpr]
    cases h with
    | strict _ hq => exact quiet_toD_pure e (hq _ (by simp [DFields.exprs]))
  | .tern c t f, h => by
    rw [toD] at h
    simp only [Ir.pureExpr, Bool.and_eq_true]
    cases h with
    | strict hp _ => exact absurd hp (by decide)
    | tern _ ha ht hf => exact ⟨⟨quiet_toD_pure c ha, quiet_toD_pure t ht⟩, quiet_toD_pure f hf⟩
  | .seq _, h | .call _ _, h | .intr _ _ _ _, h => by
    rw [toD] at h
    cases h with
    | strict hp _ => exact absurd hp (by decide)
  | .op o args, h => by
    rw [toD] at h
    simp only [Ir.pureExpr, Bool.and_eq_true]
    cases h with
    | strict hp _ => exact absurd hp (by decide)
    | op _ hp hq => exact ⟨by rw [pureOpIdx_sem] at hp; exact hp, quiet_toDs_pure args hq⟩
theorem quiet_toDs_pure : ∀ (es : Ir.Exprs), (∀ e ∈ DExprs.toList (toDs es), Quiet e) → Ir.pureExprs es = true
  | .nil, _ => rfl
  | .cons e r, h => by
    simp only [toDs, DExprs.toList, List.mem_cons, forall_eq_or_imp] at h
    simp [Ir.pureExprs, quiet_toD_pure e h.1, quiet_toDs_pure r h.2]
end

/-- **on the scalar IR a sound chain of tests accepts only expressions without side effects**: whatever tables the exporter's
local tests are re-extracted as, as long as they are sound (`Spec.MslDup.SoundTabs`), an accepted operand is pure in the sense
of `Ir.pureExpr` -/
theorem sound_test_pure (e : Ir.Expr) (tabs : List (List PlaceRow)) (hs : SoundTabs tabs = true)
    (hg : testD tabs (toD e) = true) : Ir.pureExpr e = true :=
  quiet_toD_pure e (testD_quiet _ tabs hs (wf_toD e) hg)

theorem sound_tests_pure (es : Ir.Exprs) (rows : List PlaceRow) (more : List (List PlaceRow))
    (hs : SoundTabs (rows :: more) = true) (hg : testDAll rows more (toDs es) = true) : Ir.pureExprs es = true :=
  quiet_toDs_pure es (testDAll_quiet _ rows more hs (wfs_toDs es) hg)

end

theorem placeGuards_sound : Spec.MslDup.SoundTabs [remAssignPlaceGuard, remAssignIndexGuard] = true := by decide +kernel

theorem writesGuard_sound : Spec.MslDup.SoundTabs [remAssignWritesGuard] = true := by decide +kernel

/-- the code's own guard on the right operand gives what the typed semantics needs -/
theorem freeOfWrites_pure : ∀ (e : Ir.Expr), freeOfWrites e = true → Ir.pureExpr e = true
  | e, h => sound_test_pure e _ writesGuard_sound h

theorem freeOfWritesAll_pure : ∀ (es : Ir.Exprs), testDAll remAssignWritesGuard [] (toDs es) = true → Ir.pureExprs es = true
  | es, h => sound_tests_pure es _ _ writesGuard_sound h

/-- on a variable and a right operand that leaves the store alone, `x %= y` is `x = x % y` -/
theorem eval_remAssign {W : World} {o oa om : IntrinsicOp} (hsem : irOpSem o = .compound .mod) (ha : irOpSem oa = .assign)
    (hm : irOpSem om = .bin .mod) {x y : Ir.Expr} {xv : Var} (hxv : Ir.lvalOf x = some xv)
    (hpure : ∀ σ v σ', Ir.eval W y σ = some (v, σ') → σ' = σ) (σ : Store) :
    Ir.eval W (.op oa (.cons x (.cons (.op om (.cons x (.cons y .nil))) .nil))) σ = Ir.eval W (.op o (.cons x (.cons y .nil))) σ := by
  have hx : Ir.eval W x σ = some (σ xv, σ) := by
    cases x <;> simp [Ir.lvalOf] at hxv <;> subst hxv <;> simp [Ir.eval]
  simp only [Ir.eval, hsem, ha, hm, hxv, hx]
  cases h : Ir.eval W y σ with
  | none => rfl
  | some r =>
    obtain ⟨vb, σ1⟩ := r
    obtain rfl := hpure σ vb σ1 h
    cases hb : binop W.P .mod (σ1 xv) vb <;> simp [hb]
end RsslVerif.Lemmas.GenMsl
