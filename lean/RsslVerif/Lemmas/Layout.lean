import RsslVerif.Lemmas.LayoutOps
/-! The model of `get_type_layout`, `offsets_match` and the loop body of `check_layout` against the reference
    layouts (C19): on a type of the grid each of them is given by one equation.  -/
namespace RsslVerif.Lemmas.Layout
open RsslVerif.Gen.LayoutTables RsslVerif.Model.Layout RsslVerif.Spec.Layout

theorem bytes_pos {s : Scalar} (h : sized s = true) : 0 < bytes s := by
  cases s <;> first | (exact absurd h (by decide)) | decide

theorem bytes_le (s : Scalar) : bytes s ≤ 8 := by
  cases s <;> decide

theorem metalLanes_ge (n : Nat) : n ≤ metalLanes n := by
  unfold metalLanes; split <;> omega

theorem metalLanes_le {n : Nat} (h : n ≤ 4) : metalLanes n ≤ 4 := by
  unfold metalLanes; split <;> omega

theorem metalLanes_small {n : Nat} (h : n ≤ 1) : metalLanes n = n := by
  have : n = 0 ∨ n = 1 := by omega
  rcases this with rfl | rfl <;> rfl

theorem vecSize_le (m : Mode) (s : Scalar) {n : Nat} (h : n ≤ 4) : vecSize m s n ≤ 32 := by
  cases m
  · exact Nat.mul_le_mul h (bytes_le s)
  · exact Nat.mul_le_mul (metalLanes_le h) (bytes_le s)

theorem vecAlign_pos {m : Mode} {s : Scalar} {n : Nat} (hs : sized s = true) (hn : 1 ≤ n) :
    0 < vecAlign m s n := by
  have hb := bytes_pos hs
  cases m
  · exact hb
  · have := metalLanes_ge n
    exact Nat.mul_pos (by omega) hb

mutual
theorem align_pos (m : Mode) : ∀ t : Ty, wf t = true → 0 < align m t
  | .scalar s, h => by simp only [wf] at h; simpa [align] using bytes_pos h
  | .vec s n, h => by
    simp only [wf, Bool.and_eq_true, decide_eq_true_eq] at h
    simpa [align] using vecAlign_pos h.1 h.2.1
  | .arr t n, h => by simp only [wf, Bool.and_eq_true, decide_eq_true_eq] at h; replace h := h.2; simpa [align] using align_pos m t h
  | .struct ms, _ => by simp only [align]; exact alignMax_pos m ms
  | .enum u, h => by
    simp only [wf] at h
    cases u <;> first | (exact absurd h (by decide)) | (simp [align, bytes])
  | .other _, h => by simp [wf] at h
theorem alignMax_pos (m : Mode) : ∀ ts : Tys, 0 < alignMax m ts
  | .nil => by simp [alignMax]
  | .cons t ts => by
    simp only [alignMax]
    have := alignMax_pos m ts
    omega
end

theorem size_mod_align (m : Mode) : ∀ t : Ty, size m t % align m t = 0
  | .scalar s => by simp [size, align]
  | .vec s n => by
    cases m <;> simp [size, align, vecSize, vecAlign, Nat.mul_mod_left]
  | .arr t n => by
    simp only [size, align]
    rw [Nat.mul_mod, roundUp_mod]; simp
  | .struct ms => by
    cases ms with
    | nil => simp only [size, align, alignMax]; exact Nat.mod_one _
    | cons t ts => simp only [size, align]; exact roundUp_mod
  | .enum u => by simp [size, align]
  | .other _ => by simp [size, align]

theorem roundUp_size (m : Mode) {t : Ty} (hw : wf t = true) : roundUp (size m t) (align m t) = size m t :=
  roundUp_of_mod_zero (align_pos m t hw) (size_mod_align m t)

mutual
theorem leaf_le_size (m : Mode) : ∀ t : Ty, wf t = true → leaf t ≤ size m t
  | .scalar _, _ => by simp [leaf, size]
  | .enum _, _ => by simp [leaf, size]
  | .other _, h => by simp [wf] at h
  | .vec s n, _ => by
    cases m
    · simp [leaf, size, vecSize]
    · simp only [leaf, size, vecSize]
      exact Nat.mul_le_mul_right _ (metalLanes_ge n)
  | .arr t n, h => by
    simp only [wf, Bool.and_eq_true, decide_eq_true_eq] at h; replace h := h.2
    simp only [leaf, size]
    exact Nat.mul_le_mul_left _ (Nat.le_trans (leaf_le_size m t h) (le_roundUp (align_pos m t h)))
  | .struct ms, h => by
    simp only [wf] at h
    cases ms with
    | nil => simp [leaf, leafAll]
    | cons t ts =>
      simp only [leaf, size]
      have := leafAll_le_endOf m (.cons t ts) 0 h
      have := @le_roundUp (endOf m (.cons t ts) 0) (alignMax m (.cons t ts)) (alignMax_pos m _)
      omega
theorem leafAll_le_endOf (m : Mode) : ∀ (ts : Tys) (c : Nat), wfAll ts = true →
    c + leafAll ts ≤ endOf m ts c
  | .nil, c, _ => by simp [leafAll, endOf]
  | .cons t ts, c, h => by
    simp only [wfAll, Bool.and_eq_true] at h
    simp only [leafAll, endOf]
    have h1 := leaf_le_size m t h.1
    have h2 := @le_roundUp c (align m t) (align_pos m t h.1)
    have h3 := leafAll_le_endOf m ts (roundUp c (align m t) + size m t) h.2
    omega
end

theorem le_endOf (m : Mode) (ts : Tys) (c : Nat) (h : wfAll ts = true) : c ≤ endOf m ts c := by
  have := leafAll_le_endOf m ts c h; omega

theorem endOf_le_size (m : Mode) (ms : Tys) : endOf m ms 0 ≤ size m (.struct ms) := by
  cases ms with
  | nil => simp [endOf]
  | cons t ts => simp only [size]; exact le_roundUp (alignMax_pos m _)

mutual
/-- without vectors the two rule sets coincide -/
theorem vectorFree_same : ∀ t : Ty, vectorFree t = true →
    align .hlsl t = align .metal t ∧ size .hlsl t = size .metal t ∧ agreeIn t = true
  | .scalar _, _ => ⟨rfl, rfl, rfl⟩
  | .enum _, _ => ⟨rfl, rfl, rfl⟩
  | .other _, _ => ⟨rfl, rfl, rfl⟩
  | .vec s n, h => by
    simp only [vectorFree, beq_iff_eq] at h
    subst h
    simp [align, size, vecAlign, vecSize, metalLanes, agreeIn]
  | .arr t n, h => by
    simp only [vectorFree] at h
    obtain ⟨a, s, g⟩ := vectorFree_same t h
    simp only [align, size, agreeIn, stride, a, s, g]
    simp
  | .struct ms, h => by
    cases ms with
    | nil => simp [vectorFree] at h
    | cons t ts =>
      simp only [vectorFree, Bool.true_and] at h
      obtain ⟨a, e, o, g⟩ := vectorFreeAll_same (.cons t ts) h
      simp only [align, size, agreeIn, a, e 0, o 0, g]
      simp
theorem vectorFreeAll_same : ∀ ts : Tys, vectorFreeAll ts = true →
    alignMax .hlsl ts = alignMax .metal ts ∧ (∀ c, endOf .hlsl ts c = endOf .metal ts c) ∧
    (∀ c, offsets .hlsl ts c = offsets .metal ts c) ∧ agreeInAll ts = true
  | .nil, _ => ⟨rfl, fun _ => rfl, fun _ => rfl, rfl⟩
  | .cons t ts, h => by
    simp only [vectorFreeAll, Bool.and_eq_true] at h
    obtain ⟨a, s, g⟩ := vectorFree_same t h.1
    obtain ⟨a', e', o', g'⟩ := vectorFreeAll_same ts h.2
    refine ⟨by simp only [alignMax, a, a'], fun c => by simp only [endOf, a, s, e'],
      fun c => by simp only [offsets, a, s, o'], by simp only [agreeInAll, g, g', Bool.and_self]⟩
end

mutual
theorem agree_fields : ∀ (t : Ty), agreeIn t = true → ∀ b, fieldsAt .hlsl t b = fieldsAt .metal t b
  | .scalar _, _, _ => rfl
  | .vec _ _, _, _ => rfl
  | .enum _, _, _ => rfl
  | .other _, _, _ => rfl
  | .struct ms, h, b => by
    simp only [agreeIn, Bool.and_eq_true, beq_iff_eq] at h
    simp only [fieldsAt]
    exact agree_members ms h.2 b 0 0 h.1
  | .arr t n, h, b => by
    simp only [agreeIn, Bool.or_eq_true, Bool.and_eq_true, beq_iff_eq, decide_eq_true_eq] at h
    simp only [fieldsAt]
    rcases h with h0 | ⟨h1, h2⟩
    · subst h0; rfl
    · have ih := agree_fields t h2
      rcases h1 with h1 | h1
      · have : n = 0 ∨ n = 1 := by omega
        rcases this with rfl | rfl
        · rfl
        · simp [List.range_succ, ih]
      · simp only [h1, ih]
theorem agree_members : ∀ (ts : Tys), agreeInAll ts = true → ∀ b cH cM,
    offsets .hlsl ts cH = offsets .metal ts cM → membersAt .hlsl ts b cH = membersAt .metal ts b cM
  | .nil, _, _, _, _, _ => rfl
  | .cons t ts, h, b, cH, cM, ho => by
    simp only [agreeInAll, Bool.and_eq_true] at h
    simp only [offsets, List.cons.injEq] at ho
    simp only [membersAt]
    have ht := agree_members ts h.2 b _ _ ho.2
    rw [ho.1] at ht ⊢
    rw [agree_fields t h.1, ht]
end

/-- the reference size and every array length are `u32` values -/
abbrev Fits (m : Mode) (t : Ty) : Prop := lengthsFit t = true ∧ size m t ≤ u32Max

abbrev FitsAll (m : Mode) (ts : Tys) (c : Nat) : Prop := lengthsFitAll ts = true ∧ endOf m ts c ≤ u32Max

theorem fits_arr (m : Mode) {t : Ty} (hw : wf t = true) {n : Nat} (hn : 1 ≤ n) :
    Fits m (.arr t n) ↔ n ≤ u32Max ∧ Fits m t ∧ n * size m t ≤ u32Max := by
  have h1 : 1 * size m t ≤ n * size m t := Nat.mul_le_mul_right _ hn
  have e : size m (.arr t n) = n * size m t := by simp only [size, roundUp_size m hw]
  simp only [Fits, lengthsFit, Bool.and_eq_true, decide_eq_true_eq, e]
  constructor
  · rintro ⟨⟨a, b⟩, c⟩; exact ⟨a, ⟨b, by omega⟩, c⟩
  · rintro ⟨a, ⟨b, _⟩, c⟩; exact ⟨⟨a, b⟩, c⟩

theorem fitsAll_cons (m : Mode) (t : Ty) {ts : Tys} (hws : wfAll ts = true) (c : Nat) :
    FitsAll m (.cons t ts) c ↔
      Fits m t ∧ roundUp c (align m t) + size m t ≤ u32Max ∧ FitsAll m ts (roundUp c (align m t) + size m t) := by
  have h1 := le_endOf m ts (roundUp c (align m t) + size m t) hws
  simp only [FitsAll, Fits, lengthsFitAll, endOf, Bool.and_eq_true]
  constructor
  · rintro ⟨⟨a, b⟩, e⟩; exact ⟨⟨a, by omega⟩, by omega, b, e⟩
  · rintro ⟨⟨a, _⟩, _, b, e⟩; exact ⟨⟨a, b⟩, e⟩

theorem fits_struct (m : Mode) (ms : Tys) :
    Fits m (.struct ms) → FitsAll m ms 0 := by
  intro ⟨a, b⟩
  have := endOf_le_size m ms
  exact ⟨by simpa only [lengthsFit] using a, by omega⟩

theorem metal_size_pos : ∀ t : Ty, wf t = true → 0 < size .metal t
  | .scalar s, h => by simp only [wf] at h; simpa [size] using bytes_pos h
  | .enum u, h => by
    simp only [wf] at h
    cases u <;> first | (exact absurd h (by decide)) | (simp [size, bytes])
  | .other _, h => by simp [wf] at h
  | .vec s n, h => by
    simp only [wf, Bool.and_eq_true, decide_eq_true_eq] at h
    simp only [size, vecSize]
    have := metalLanes_ge n
    exact Nat.mul_pos (by omega) (bytes_pos h.1)
  | .arr t n, h => by
    simp only [wf, Bool.and_eq_true, decide_eq_true_eq] at h
    simp only [size]
    have h1 := metal_size_pos t h.2
    have h2 := @le_roundUp (size .metal t) (align .metal t) (align_pos .metal t h.2)
    exact Nat.mul_pos (by omega) (by omega)
  | .struct ms, h => by
    simp only [wf] at h
    cases ms with
    | nil => simp [size, emptySize]
    | cons t ts =>
      simp only [wfAll, Bool.and_eq_true] at h
      simp only [size]
      have h1 := metal_size_pos t h.1
      have h2 := le_endOf .metal ts (roundUp 0 (align .metal t) + size .metal t) h.2
      have h3 := @le_roundUp (endOf .metal (.cons t ts) 0) (alignMax .metal (.cons t ts)) (alignMax_pos _ _)
      simp only [endOf] at h3 ⊢
      omega

mutual
/-- a type whose Metal size fits `u32` has array lengths that fit `u32` (every element occupies a byte there) -/
theorem lengthsFit_of_metal : ∀ t : Ty, wf t = true → size .metal t ≤ u32Max → lengthsFit t = true
  | .scalar _, _, _ => rfl
  | .vec _ _, _, _ => rfl
  | .enum _, _, _ => rfl
  | .other _, _, _ => rfl
  | .arr t n, hw, hb => by
    simp only [wf, Bool.and_eq_true, decide_eq_true_eq] at hw
    simp only [size] at hb
    have h1 := metal_size_pos t hw.2
    have h2 := @le_roundUp (size .metal t) (align .metal t) (align_pos .metal t hw.2)
    have h3 : n * 1 ≤ n * roundUp (size .metal t) (align .metal t) := Nat.mul_le_mul_left _ (by omega)
    have h4 : 1 * roundUp (size .metal t) (align .metal t) ≤ n * roundUp (size .metal t) (align .metal t) :=
      Nat.mul_le_mul_right _ hw.1
    simp only [lengthsFit, Bool.and_eq_true, decide_eq_true_eq]
    exact ⟨by omega, lengthsFit_of_metal t hw.2 (by omega)⟩
  | .struct ms, hw, hb => by
    simp only [wf] at hw
    simp only [lengthsFit]
    have h3 := endOf_le_size .metal ms
    exact lengthsFitAll_of_metal ms 0 hw (by omega)
theorem lengthsFitAll_of_metal : ∀ (ts : Tys) (c : Nat), wfAll ts = true → endOf .metal ts c ≤ u32Max →
    lengthsFitAll ts = true
  | .nil, _, _, _ => rfl
  | .cons t ts, c, hw, hb => by
    simp only [wfAll, Bool.and_eq_true] at hw
    simp only [endOf] at hb
    have h1 := le_endOf .metal ts (roundUp c (align .metal t) + size .metal t) hw.2
    simp only [lengthsFitAll, Bool.and_eq_true]
    exact ⟨lengthsFit_of_metal t hw.1 (by omega), lengthsFitAll_of_metal ts _ hw.2 hb⟩
end

theorem get_vec (m : Mode) (s : Scalar) (n : Nat) (hs : sized s = true) (hn : 1 ≤ n ∧ n ≤ 4) :
    get m (.vec s n) = .ok ⟨vecSize m s n, vecAlign m s n⟩ := by
  have : n = 1 ∨ n = 2 ∨ n = 3 ∨ n = 4 := by omega
  rcases this with rfl | rfl | rfl | rfl <;> cases m <;> cases s <;> first | (exact absurd hs (by decide)) | rfl

theorem get_scalar (m : Mode) (s : Scalar) (hs : sized s = true) :
    get m (.scalar s) = .ok ⟨bytes s, bytes s⟩ := by
  cases s <;> first | (exact absurd hs (by decide)) | (cases m <;> rfl)

theorem get_enum (m : Mode) (u : Scalar) (hu : (u == .Int32 || u == .UInt32) = true) :
    get m (.enum u) = .ok ⟨bytes u, bytes u⟩ := by
  cases u <;> first | (exact absurd hu (by decide)) | (cases m <;> rfl)

theorem get_empty (m : Mode) : get m (.struct .nil) = .ok ⟨emptySize m, 1⟩ := by
  cases m <;> rfl

theorem emptyFix_cons (m : Mode) (t : Ty) (ts : Tys) (z : Nat) : emptyFix m (Tys.cons t ts).length z = z := by
  cases m
  · rfl
  · simp only [emptyFix, Tys.length, Nat.add_one_ne_zero, if_false]

mutual
/-- **`get_type_layout` on a type of the grid**: the reference size and alignment when the size and the array
    lengths are `u32` values, `None` otherwise; never a panic -/
theorem get_eq (m : Mode) : ∀ t : Ty, wf t = true →
    get m t = if Fits m t then .ok ⟨size m t, align m t⟩ else .error .unknown
  | .scalar s, hw => by
    simp only [wf] at hw
    rw [get_scalar m s hw, if_pos ⟨rfl, Nat.le_trans (by simpa only [size] using bytes_le s) (by decide)⟩]
    simp only [size, align]
  | .vec s n, hw => by
    simp only [wf, Bool.and_eq_true, decide_eq_true_eq] at hw
    rw [get_vec m s n hw.1 hw.2,
      if_pos ⟨rfl, Nat.le_trans (by simpa only [size] using vecSize_le m s hw.2.2) (by decide)⟩]
    simp only [size, align]
  | .enum u, hw => by
    simp only [wf] at hw
    rw [get_enum m u hw, if_pos ⟨rfl, Nat.le_trans (by simpa only [size] using bytes_le u) (by decide)⟩]
    simp only [size, align]
  | .other _, hw => by simp [wf] at hw
  | .arr t n, hw => by
    simp only [wf, Bool.and_eq_true, decide_eq_true_eq] at hw
    simp only [Model.Layout.get, get_eq m t hw.2]
    by_cases hf : Fits m t
    · rw [if_pos hf]
      simp only []
      rw [array_ops_pinned]
      by_cases hfa : Fits m (.arr t n)
      · obtain ⟨hn, _, hs⟩ := (fits_arr m hw.2 hw.1).1 hfa
        simp only [if_pos hn, if_pos hfa, mulU32?, Nat.mul_comm (size m t) n, if_pos hs, size, align,
          roundUp_size m hw.2]
      · rw [if_neg hfa]
        by_cases hn : n ≤ u32Max
        · have : ¬ size m t * n ≤ u32Max := fun h =>
            hfa ((fits_arr m hw.2 hw.1).2 ⟨hn, hf, by rw [Nat.mul_comm]; exact h⟩)
          simp only [if_pos hn, mulU32?, if_neg this]
        · rw [if_neg hn]
    · rw [if_neg hf, if_neg (fun h => hf ((fits_arr m hw.2 hw.1).1 h).2.1)]
  | .struct .nil, _ => by
    rw [get_empty, if_pos ⟨rfl, by cases m <;> decide⟩]
    simp only [size, align, alignMax]
  | .struct (.cons t ts), hw => by
    simp only [wf] at hw
    have hap := alignMax_pos m (.cons t ts)
    have hmax : max 1 (alignMax m (.cons t ts)) = alignMax m (.cons t ts) := by omega
    have e : (⟨structInit.1, structInit.2⟩ : Layout) = ⟨0, 1⟩ := rfl
    have hsz : size m (.struct (.cons t ts)) = roundUp (endOf m (.cons t ts) 0) (alignMax m (.cons t ts)) := by
      simp only [size]
    simp only [Model.Layout.get]
    rw [e, getMembers_eq m (.cons t ts) ⟨0, 1⟩ hw (.inl ⟨Nat.le_refl 1, Nat.zero_le _⟩)]
    by_cases hf : FitsAll m (.cons t ts) 0
    · rw [if_pos hf]
      simp only []
      rw [final_ops_pinned, nextMultipleOf?_eq (by rw [hmax]; exact hap) hf.2]
      simp only [hmax, emptyFix_cons, ← hsz]
      by_cases hs : size m (.struct (.cons t ts)) ≤ u32Max
      · rw [if_pos hs, if_pos ⟨by simpa only [lengthsFit] using hf.1, hs⟩]
        simp only [align]
      · rw [if_neg hs, if_neg (fun h => hs h.2)]
    · rw [if_neg hf, if_neg (fun h => hf (fits_struct m _ h))]
/-- from an accumulator that is itself a layout, or after at least one member (whose checked addition bounds the cursor) -/
theorem getMembers_eq (m : Mode) : ∀ (ts : Tys) (acc : Layout), wfAll ts = true →
    (1 ≤ acc.align ∧ acc.size ≤ u32Max) ∨ ts.length ≠ 0 →
    getMembers m ts acc =
      if FitsAll m ts acc.size then .ok ⟨endOf m ts acc.size, max acc.align (alignMax m ts)⟩ else .error .unknown
  | .nil, acc, _, h => by
    obtain ⟨ha, hs⟩ := h.resolve_right (fun h => h rfl)
    rw [if_pos ⟨rfl, by simpa only [endOf] using hs⟩]
    simp only [getMembers, endOf, alignMax, Nat.max_eq_left ha]
  | .cons t ts, acc, hw, _ => by
    simp only [wfAll, Bool.and_eq_true] at hw
    have hp := align_pos m t hw.1
    have hc := fitsAll_cons m t hw.2 acc.size
    simp only [getMembers, get_eq m t hw.1]
    by_cases hf : Fits m t
    · rw [if_pos hf]
      simp only []
      rw [member_ops_pinned, memberStep_eq hp]
      by_cases hb : roundUp acc.size (align m t) + size m t ≤ u32Max
      · rw [if_pos hb]
        simp only []
        rw [getMembers_eq m ts ⟨_, _⟩ hw.2 (.inl ⟨by simp only []; omega, hb⟩)]
        by_cases hr : FitsAll m ts (roundUp acc.size (align m t) + size m t)
        · rw [if_pos hr, if_pos (hc.2 ⟨hf, hb, hr⟩)]
          simp only [endOf, alignMax, Nat.max_assoc]
        · rw [if_neg hr, if_neg (fun h => hr (hc.1 h).2.2)]
      · rw [if_neg hb, if_neg (fun h => hb (hc.1 h).2.1)]
    · rw [if_neg hf, if_neg (fun h => hf (hc.1 h).1)]
end

theorem getMembers_spec (m : Mode) : ∀ (ts : Tys) (acc l : Layout), wfAll ts = true →
    1 ≤ acc.align → getMembers m ts acc = .ok l →
    l.size = endOf m ts acc.size ∧ l.align = max acc.align (alignMax m ts)
  | .nil, acc, l, _, ha, h => by
    cases h
    exact ⟨rfl, (Nat.max_eq_left ha).symm⟩
  | .cons t ts, acc, l, hw, _, h => by
    rw [getMembers_eq m _ acc hw (.inr (Nat.succ_ne_zero _))] at h
    split at h <;> cases h
    exact ⟨rfl, rfl⟩

theorem getMembers_total (m : Mode) : ∀ (ts : Tys) (acc : Layout), wfAll ts = true → lengthsFitAll ts = true →
    endOf m ts acc.size ≤ u32Max → 1 ≤ acc.align →
    getMembers m ts acc = .ok ⟨endOf m ts acc.size, max acc.align (alignMax m ts)⟩ := by
  intro ts acc hw hl hb ha
  rw [getMembers_eq m ts acc hw (.inl ⟨ha, Nat.le_trans (le_endOf m ts acc.size hw) hb⟩), if_pos ⟨hl, hb⟩]

theorem getMembers_noPanic (m : Mode) : ∀ (ts : Tys) (acc : Layout), wfAll ts = true →
    NoPanic (getMembers m ts acc)
  | .nil, acc, _ => noPanic_ok _
  | .cons t ts, acc, hw => by
    rw [getMembers_eq m _ acc hw (.inr (Nat.succ_ne_zero _))]
    split
    · exact noPanic_ok _
    · exact noPanic_unknown

mutual
/-- **`offsets_match` on a type of the grid that `get_type_layout` has an answer for**: it decides whether the two
    reference layouts place every field identically -/
theorem offsetsMatch_eq : ∀ t : Ty, wf t = true → Fits .hlsl t → Fits .metal t →
    offsetsMatch t = .ok (agreeIn t)
  | .scalar _, _, _, _ => rfl
  | .vec _ _, _, _, _ => rfl
  | .enum _, _, _, _ => rfl
  | .other _, _, _, _ => rfl
  | .struct ms, hw, fh, fm => by
    simp only [wf] at hw
    have e : offsetsInit = (0, 0) := rfl
    simp only [offsetsMatch, e]
    rw [(offsetsMembers_eq ms 0 0 hw).resolve_right fun h => h.2 ⟨fits_struct _ _ fh, fits_struct _ _ fm⟩]
    simp only [agreeIn, Bool.beq_eq_decide_eq]
  | .arr t n, hw, fh, fm => by
    simp only [wf, Bool.and_eq_true, decide_eq_true_eq] at hw
    obtain ⟨_, fth, _⟩ := (fits_arr .hlsl hw.2 hw.1).1 fh
    obtain ⟨_, ftm, _⟩ := (fits_arr .metal hw.2 hw.1).1 fm
    have hn : n ≠ 0 := by omega
    have sh := roundUp_size .hlsl hw.2
    have sm := roundUp_size .metal hw.2
    simp only [offsetsMatch, get_eq .hlsl t hw.2, get_eq .metal t hw.2, if_pos fth, if_pos ftm]
    rw [array_off_pinned _ _ _ n _ hn]
    simp only [arrayOff, if_neg hn, offsetsMatch_eq t hw.2 fth ftm]
    rw [nextMultipleOf?_eq (align_pos _ t hw.2) fth.2, nextMultipleOf?_eq (align_pos _ t hw.2) ftm.2]
    rw [sh, sm, if_pos fth.2, if_pos ftm.2]
    have eh : stride .hlsl t = size .hlsl t := sh
    have em : stride .metal t = size .metal t := sm
    simp only [agreeIn, eh, em]
    by_cases hgt : n > 1
    · have : ¬ n ≤ 1 := by omega
      by_cases hs : size .hlsl t = size .metal t <;> simp [hgt, hn, this, hs]
    · have : n ≤ 1 := by omega
      simp [hgt, hn, this]
/-- for every pair of cursors: the member loop decides the agreement of the members or returns `None`, and `None` only
    when some member or some running offset is beyond `u32` -/
theorem offsetsMembers_eq : ∀ (ts : Tys) (ch cm : Nat), wfAll ts = true →
    offsetsMembers ts ch cm = .ok (decide (offsets .hlsl ts ch = offsets .metal ts cm) && agreeInAll ts) ∨
    (offsetsMembers ts ch cm = .error .unknown ∧ ¬ (FitsAll .hlsl ts ch ∧ FitsAll .metal ts cm))
  | .nil, _, _, _ => Or.inl rfl
  | .cons t ts, ch, cm, hw => by
    simp only [wfAll, Bool.and_eq_true] at hw
    have ph := align_pos .hlsl t hw.1
    have pm := align_pos .metal t hw.1
    have ch' := (fitsAll_cons .hlsl t hw.2 ch).1
    have cm' := (fitsAll_cons .metal t hw.2 cm).1
    simp only [offsetsMembers, get_eq .hlsl t hw.1, get_eq .metal t hw.1]
    by_cases fth : Fits .hlsl t
    · by_cases ftm : Fits .metal t
      · rw [if_pos fth, if_pos ftm, member_off_pinned]
        simp only [memberOff, offsetsMatch_eq t hw.1 fth ftm]
        rcases nextMultipleOf?_cases (a := ch) ph with h1 | ⟨h1, g1⟩
        · rcases nextMultipleOf?_cases (a := cm) pm with h2 | ⟨h2, g2⟩
          · rw [h1, h2]
            simp only []
            by_cases heq : roundUp ch (align .hlsl t) = roundUp cm (align .metal t)
            · rw [if_neg (Decidable.not_not.2 heq)]
              cases hag : agreeIn t
              · left
                simp only [offsets, agreeInAll, hag, Bool.false_and, Bool.and_false]
              · simp only []
                rcases addU32?_cases (roundUp ch (align .hlsl t)) (size .hlsl t) with h3 | ⟨h3, g3⟩
                · rcases addU32?_cases (roundUp cm (align .metal t)) (size .metal t) with h4 | ⟨h4, g4⟩
                  · rw [h3, h4]
                    simp only []
                    rcases offsetsMembers_eq ts _ _ hw.2 with hr | ⟨hr, gr⟩
                    · left
                      rw [hr]
                      simp only [offsets, agreeInAll, hag, Bool.true_and, List.cons.injEq, heq, true_and]
                    · exact Or.inr ⟨hr, fun f => gr ⟨(ch' f.1).2.2, (cm' f.2).2.2⟩⟩
                  · right; rw [h3, h4]; exact ⟨rfl, fun f => by have := (cm' f.2).2.1; omega⟩
                · right; rw [h3]; exact ⟨rfl, fun f => by have := (ch' f.1).2.1; omega⟩
            · left
              rw [if_pos heq]
              simp only [offsets, List.cons.injEq, heq, false_and, decide_false, Bool.false_and]
          · right; rw [h1, h2]; exact ⟨rfl, fun f => by have := (cm' f.2).2.1; omega⟩
        · right; rw [h1]; exact ⟨rfl, fun f => by have := (ch' f.1).2.1; omega⟩
      · right; rw [if_pos fth, if_neg ftm]
        exact ⟨by simp only [offsetsMemberOps, runOff, offStep], fun f => ftm (cm' f.2).1⟩
    · right; rw [if_neg fth]
      exact ⟨by simp only [offsetsMemberOps, runOff, offStep], fun f => fth (ch' f.1).1⟩
end

theorem offsetsMembers_sound : ∀ (ts : Tys) (ch cm : Nat), wfAll ts = true →
    offsetsMembers ts ch cm = .ok true →
    offsets .hlsl ts ch = offsets .metal ts cm ∧ agreeInAll ts = true := by
  intro ts ch cm hw h
  rcases offsetsMembers_eq ts ch cm hw with h' | ⟨h', _⟩
  · rw [h'] at h
    simpa using h
  · rw [h'] at h; cases h

theorem offsetsMembers_noPanic : ∀ (ts : Tys) (ch cm : Nat), wfAll ts = true →
    NoPanic (offsetsMembers ts ch cm) := by
  intro ts ch cm hw
  rcases offsetsMembers_eq ts ch cm hw with h' | ⟨h', _⟩ <;> rw [h']
  · exact noPanic_ok _
  · exact noPanic_unknown

theorem offsetsMembers_complete : ∀ (ts : Tys) (ch cm : Nat), wfAll ts = true → lengthsFitAll ts = true →
    endOf .hlsl ts ch ≤ u32Max → endOf .metal ts cm ≤ u32Max →
    offsets .hlsl ts ch = offsets .metal ts cm → agreeInAll ts = true →
    offsetsMembers ts ch cm = .ok true := by
  intro ts ch cm hw hl bh bm ho ha
  rw [(offsetsMembers_eq ts ch cm hw).resolve_right fun h => h.2 ⟨⟨hl, bh⟩, ⟨hl, bm⟩⟩, ho, ha]
  simp

theorem offsetsMembers_total : ∀ (ts : Tys) (ch cm : Nat), wfAll ts = true → lengthsFitAll ts = true →
    endOf .hlsl ts ch ≤ u32Max → endOf .metal ts cm ≤ u32Max → ∃ b, offsetsMembers ts ch cm = .ok b :=
  fun ts ch cm hw hl bh bm => ⟨_, (offsetsMembers_eq ts ch cm hw).resolve_right fun h => h.2 ⟨⟨hl, bh⟩, ⟨hl, bm⟩⟩⟩

/-- **The loop body on a type of the grid.**  When both reference sizes (and the array lengths) are `u32` values it
    decides exactly `Agree`, and on rejection reports the two reference layouts; otherwise "unknown size".  No panic:
    every overflow site of `get_type_layout` / `offsets_match` returns `None`, and the unchecked rounding of
    `check_layout` itself cannot overflow because a size is a multiple of its alignment. -/
theorem checkOne_eq (t : Ty) (hw : wf t = true) :
    checkOne t =
      if Fits .hlsl t ∧ Fits .metal t then
        .ok (if Agree t then none
             else some (⟨size .hlsl t, align .hlsl t⟩, ⟨size .metal t, align .metal t⟩))
      else .error .unknown := by
  have hom : hasOffsetsMatch = true := rfl
  unfold checkOne
  rw [get_eq .hlsl t hw, get_eq .metal t hw]
  by_cases fh : Fits .hlsl t
  · by_cases fm : Fits .metal t
    · have nh := nextMultipleOf_eq (align_pos .hlsl t hw) fh.2
      have nm := nextMultipleOf_eq (align_pos .metal t hw) fm.2
      rw [roundUp_size _ hw, if_pos fh.2] at nh
      rw [roundUp_size _ hw, if_pos fm.2] at nm
      simp only [if_pos fh, if_pos fm, top_ops_pinned, nh, nm, hom, if_true, offsetsMatch_eq t hw fh fm,
        if_pos (And.intro fh fm), differs, checkCompare]
      by_cases ha : Agree t
      · simp [if_pos ha, ha.1, ha.2]
      · rw [if_neg ha]
        by_cases hs : size .hlsl t = size .metal t
        · have : agreeIn t = false := by
            cases hg : agreeIn t
            · rfl
            · exact absurd ⟨hs, hg⟩ ha
          simp [hs, this]
        · simp [hs]
    · simp only [if_pos fh, if_neg fm]
      rw [if_neg (fun h : Fits .hlsl t ∧ Fits .metal t => fm h.2)]
  · simp only [if_neg fh]
    rw [if_neg (fun h : Fits .hlsl t ∧ Fits .metal t => fh h.1)]

theorem fits_of_sizes {t : Ty} (hw : wf t = true) (hh : size .hlsl t ≤ u32Max) (hm : size .metal t ≤ u32Max) :
    Fits .hlsl t ∧ Fits .metal t :=
  ⟨⟨lengthsFit_of_metal t hw hm, hh⟩, ⟨lengthsFit_of_metal t hw hm, hm⟩⟩

/-- what an answer of the loop body means: a pass is agreement, a blamed type differs and comes with its two reference layouts -/
theorem checkOne_spec {t : Ty} {r : Option (Layout × Layout)} (hw : wf t = true) (h : checkOne t = .ok r) :
    match (motive := _ → Prop) r with
    | none => Agree t
    | some (lh, lm) => ¬ Agree t ∧ lh = ⟨size .hlsl t, align .hlsl t⟩ ∧ lm = ⟨size .metal t, align .metal t⟩ := by
  rw [checkOne_eq t hw] at h
  split at h <;> cases h
  by_cases ha : Agree t
  · rw [if_pos ha]; exact ha
  · rw [if_neg ha]; exact ⟨ha, rfl, rfl⟩

theorem checkOne_complete (t : Ty) (hw : wf t = true) (hh : size .hlsl t ≤ u32Max)
    (hm : size .metal t ≤ u32Max) (ha : Agree t) : checkOne t = .ok none := by
  rw [checkOne_eq t hw, if_pos (fits_of_sizes hw hh hm), if_pos ha]

theorem checkOne_noPanic (t : Ty) (hw : wf t = true) : NoPanic (checkOne t) := by
  rw [checkOne_eq t hw]
  split
  · exact noPanic_ok _
  · exact noPanic_unknown

end RsslVerif.Lemmas.Layout
