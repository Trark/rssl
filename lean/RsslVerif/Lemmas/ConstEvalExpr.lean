import RsslVerif.Lemmas.ConstEvalOps2
/-!
The node cases of `evaluate_constexpr` against the specification: `sizeof`, one iteration of the operand loop, and the
operator arm applied to the unwrapped operands with the enum re-wrapped.  The induction over trees is `eval_sound`
(`Lemmas/ConstEvalNoPanic`).
-/
namespace RsslVerif.Lemmas.ConstEval
open RsslVerif.Gen.EvalTable RsslVerif.Model.ConstEval
open RsslVerif.Spec.HlslConst (bv sInt uInt fitsLit lit?)

theorem sizeOf_agrees {t : SizeTy} {v : Constant} (h : evalSizeOf t = .ok v) : S.sizeOfTy t = some v ∧ wf v = true := by
  cases t with
  | scalar s => cases s <;> cases h <;> exact ⟨rfl, by decide⟩
  | enum s => cases s <;> cases h <;> exact ⟨rfl, by decide⟩
  | other => cases h

theorem noEnumRewrap_eq (o : Op) : noEnumRewrap.contains o = S.isComparison o := by
  cases o <;> rfl

/-- the operand loop: values pushed are the operands with enums unwrapped, `enum_wrap` is the last enum seen -/
theorem pushArg_ok {acc acc' : Acc} {v : Constant} (h : pushArg acc v = .ok acc') :
    acc'.vals = S.strip v :: acc.vals ∧ acc'.wrap = (S.enumId? v).or acc.wrap := by
  revert h
  fun_cases pushArg acc v <;> intro h <;> cases h
  · exact ⟨rfl, rfl⟩
  · rename_i hne
    cases v <;> first | exact ⟨rfl, rfl⟩ | exact (hne _ _ rfl).elim

theorem getLast?_cons_or {α : Type} (x : Option α) (rest : List α) (w : Option α) :
    ((x.toList ++ rest).getLast?).or w = (rest.getLast?).or (x.or w) := by
  cases x <;> cases rest <;> simp [Option.or]
  rename_i a b l
  cases h : (b :: l).getLast? <;> simp
  simp at h


/-- applying the operator arm to the unwrapped operand values and re-wrapping the enum -/
theorem finishOp_agrees {o : Op} {vs : List Constant} {acc : Acc} {r : Constant}
    (hn : arityOk o vs.length = true) (hwf : ∀ v ∈ vs, wf v = true)
    (hvals : acc.vals.reverse = vs.map S.strip) (hwrap : acc.wrap = (vs.filterMap S.enumId?).getLast?)
    (h : finishOp o acc = .ok r) : S.applyOp o vs = some r ∧ wf r = true := by
  unfold finishOp at h
  rw [hvals] at h
  cases hop : applyOp o (vs.map S.strip) with
  | error e => simp [hop] at h
  | ok x =>
    simp only [hop] at h
    have hspec : S.opValue o (vs.map S.strip) = some x ∧ plain x = true := by
      match vs, hn, hwf, hop with
      | [], hn, _, hop =>
        simp [applyOp] at hop
        cases ho : opTable o with
        | none => simp [ho] at hop
        | some e => cases hs : e.shape <;> simp [arityOk, ho, hs] at hn
      | [v], hn, hwf, hop =>
        have hp := plain_strip (hwf v (by simp))
        simpa [S.opValue] using unop_agrees o hp hop
      | [v, w], hn, hwf, hop =>
        have hp := plain_strip (hwf v (by simp))
        have hq := plain_strip (hwf w (by simp))
        have hn2 : arityOk o 2 = true := by simpa using hn
        simpa [S.opValue] using binop_agrees o hn2 hp hq hop
      | _ :: _ :: _ :: _, hn, _, hop =>
        simp [applyOp] at hop
        cases ho : opTable o with
        | none => simp [ho] at hop
        | some e => cases hs : e.shape <;> simp [arityOk, ho, hs] at hn
    simp only [S.applyOp, hspec.1, noEnumRewrap_eq, hwrap] at h ⊢
    cases hl : (vs.filterMap S.enumId?).getLast? with
    | none => simp [hl] at h ⊢; subst h; exact ⟨rfl, plain_wf hspec.2⟩
    | some id =>
      by_cases hc : S.isComparison o = true
      · simp [hc] at h ⊢; subst h; exact ⟨rfl, plain_wf hspec.2⟩
      · simp [hl, hc] at h ⊢; subst h; exact ⟨rfl, by simpa [c13] using hspec.2⟩

end RsslVerif.Lemmas.ConstEval
