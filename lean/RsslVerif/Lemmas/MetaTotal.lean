import RsslVerif.Lemmas.Meta
/-!
# The metadata builders cannot fail on the allocator's output, except by their clean refusals

HLSL: `generate_inline_constant_buffers` indexes `bind_groups[buffer.set]` and carries three asserts
(`offset + 8 <= buffer.size_in_bytes`, `buffer.size_in_bytes == found_size`, `inline_constants == None`).  The
registrations of a group carry the locations of its slots (`events_locs`), and a run of the allocator hands out the inline
locations of a group 8 bytes apart up to the group's counter (`alloc_inline_locs`, on the derivation `Lemmas.Slots.Alloc`),
so per bind group "8 × (number of inline entries) = bytes the allocator has handed out" (`InlInv`; put together in
`Thm.C05.events_inlInv`): the group exists and no assert fires (`setInlines_total`).
Both exporters: the `analyse_bindings` loop ends the way its calls do (`events_cases`); Metal: the group vector stays
within `ARGUMENT_BUFFER_NAMES`, and `mslUnbound` finds exactly the stage arguments without an api slot.
-/
namespace RsslVerif.Lemmas.MetaTotal
open RsslVerif.Gen.SlotTables RsslVerif.Gen.MetaTables RsslVerif.Model.Slots RsslVerif.Model.Meta RsslVerif.Spec.Meta
open RsslVerif.Lemmas.Meta RsslVerif.Lemmas.Slots
open RsslVerif.Spec.Slots (group)

/-- `found_size` of `generate_inline_constant_buffers` over a list of entries -/
def found (es : List Entry) : Nat :=
  (es.filter fun e => match e.loc with | .inline _ => true | .index _ => false).length * 8

theorem inlineFound_eq (g : Group) : inlineFound g = found g.bindings := rfl

theorem found_nil : found [] = 0 := rfl

/-- per bind group: the inline entries account for exactly `sz g` bytes and lie inside them -/
def InlInv (gs : List Group) (sz : Nat → Nat) : Prop :=
  ∀ g, found (bindingsAt gs g) = sz g ∧ ∀ e ∈ bindingsAt gs g, ∀ o, e.loc = .inline o → o + 8 ≤ sz g

def isInl : Loc → Bool
  | .inline _ => true
  | .index _ => false

/-- the inline locations a run hands out in group `g`: 8 bytes each, from the counter's old value to its new one -/
theorem alloc_inline_locs {p : Params} {dflt : Nat} (g : Nat) {ds : List Decl} {st st' : State}
    {bs : List (Option Binding)} (h : Alloc p dflt st ds st' bs) :
    st.inline.get g + ((locsOf g bs).filter isInl).length * 8 = st'.inline.get g ∧
    ∀ o, Loc.inline o ∈ locsOf g bs → o + 8 ≤ st'.inline.get g := by
  induction h with
  | nil st => exact ⟨rfl, fun o ho => nomatch ho⟩
  | skip _ _ _ _ ih => exact ih
  | @index st st' d ds bs r _ _ _ ih =>
    simp only [locsOf]
    by_cases hg : group dflt d = g
    · simp only [hg, if_true, List.singleton_append, List.filter_cons, isInl, Bool.false_eq_true, if_false]
      exact ⟨ih.1, fun o ho => ih.2 o (by simpa using ho)⟩
    · simpa only [hg, if_false, List.nil_append] using ih
  | @inline st st' d ds bs _ _ _ _ ih =>
    obtain ⟨h1, h2⟩ := ih
    simp only [bump_get] at h1
    simp only [locsOf]
    by_cases hg : group dflt d = g
    · simp only [hg, if_true, List.singleton_append, List.filter_cons, isInl, List.length_cons] at h1 ⊢
      refine ⟨by omega, fun o ho => ?_⟩
      rcases List.mem_cons.1 ho with h | h
      · cases h; subst hg; omega
      · exact h2 o h
    · simp only [hg, if_false, List.nil_append, Nat.add_zero] at h1 ⊢
      exact ⟨h1, h2⟩

theorem found_eq (es : List Entry) : found es = ((es.map (·.loc)).filter isInl).length * 8 := by
  induction es with
  | nil => rfl
  | cons e es ih =>
    simp only [found, List.filter_cons, List.map_cons] at ih ⊢
    cases e.loc <;> simp only [isInl, if_true, Bool.false_eq_true, if_false, List.length_cons] <;> omega

/-- **`events` ends the way its calls do**: when every call returns (a registration satisfying `Q`, or none) or fails
    with an error `E` allows for its declaration, the loop returns registrations satisfying `Q` or fails with an error
    `E` allows for one of the declarations -/
theorem events_cases {ev : Nat → MDecl → Option Binding → Except String (Option (Nat × Entry))}
    {Q : Nat × Entry → Prop} {E : MDecl → String → Prop}
    (h : ∀ i d ob, (∃ o, ev i d ob = .ok o ∧ ∀ x, o = some x → Q x) ∨ ∃ e, ev i d ob = .error e ∧ E d e) :
    ∀ (ds : List MDecl) (bs : List (Option Binding)) (i : Nat),
      (∃ evs, events ev i ds bs = .ok evs ∧ ∀ x ∈ evs, Q x) ∨ ∃ e, events ev i ds bs = .error e ∧ ∃ d ∈ ds, E d e
  | [], bs, i => Or.inl ⟨[], by simp [events], fun x hx => by cases hx⟩
  | d :: ds, [], i => Or.inl ⟨[], by simp [events], fun x hx => by cases hx⟩
  | d :: ds, b :: bs, i => by
    rcases h i d b with ⟨o, ho, hq⟩ | ⟨e, he, hE⟩
    · rcases events_cases h ds bs (i + 1) with ⟨r, hr, hrq⟩ | ⟨e, he, d', hd', hE⟩
      · cases o with
        | none => exact Or.inl ⟨r, by simp [events, ho, hr], hrq⟩
        | some x =>
          refine Or.inl ⟨x :: r, by simp [events, ho, hr], fun y hy => ?_⟩
          rcases List.mem_cons.1 hy with rfl | hy
          · exact hq y rfl
          · exact hrq y hy
      · exact Or.inr ⟨e, by simp [events, ho, he], d', List.mem_cons_of_mem _ hd', hE⟩
    · exact Or.inr ⟨e, by simp [events, he], d, List.mem_cons_self .., hE⟩

theorem setInlines_total : ∀ (bufs : List InlineBuf) (gs : List Group) (sz : Nat → Nat),
    InlInv gs sz → bufs.Pairwise (fun a b => a.set < b.set) →
    (∀ b ∈ bufs, b.sizeInBytes = sz b.set ∧ 0 < b.sizeInBytes) →
    (∀ b ∈ bufs, ∀ grp, gs[b.set]? = some grp → grp.inlineConstants = none) →
    ∃ gs', setInlines gs bufs = .ok gs' := by
  intro bufs
  induction bufs with
  | nil => intro gs _ _ _ _ _; exact ⟨gs, rfl⟩
  | cons b bs ih =>
    intro gs sz hinv hpw hsize hnone
    rw [List.pairwise_cons] at hpw
    obtain ⟨hsz, hpos⟩ := hsize b (List.mem_cons_self ..)
    obtain ⟨hf, hoff⟩ := hinv b.set
    -- the group exists: it holds at least one inline entry
    cases hget : gs[b.set]? with
    | none =>
      exfalso
      have : bindingsAt gs b.set = [] := by simp [bindingsAt, hget]
      rw [this, found_nil] at hf
      omega
    | some grp =>
      have hb : bindingsAt gs b.set = grp.bindings := by simp [bindingsAt, hget]
      have hic : grp.inlineConstants = none := hnone b (List.mem_cons_self ..) grp hget
      have hstep : setInline gs b = .ok (gs.set b.set { grp with inlineConstants := some (b.apiLocation, b.sizeInBytes) }) := by
        simp only [setInline, hget]
        split
        · rename_i hc
          exfalso
          rw [List.any_eq_true] at hc
          obtain ⟨e, he, hce⟩ := hc
          cases hl : e.loc with
          | index i => simp [hl] at hce
          | inline o =>
            have := hoff e (by rw [hb]; exact he) o hl
            simp [hl] at hce
            omega
        · split
          · rename_i hc
            exfalso
            apply hc
            rw [inlineFound_eq, ← hb, hf, hsz]
          · split
            · rename_i hc
              simp [hic] at hc
            · rfl
      have hinv' : InlInv (gs.set b.set { grp with inlineConstants := some (b.apiLocation, b.sizeInBytes) }) sz := by
        intro g
        rw [bindingsAt_setInline hstep g]
        exact hinv g
      obtain ⟨gs', hgs'⟩ := ih _ sz hinv' hpw.2
        (fun x hx => hsize x (List.mem_cons_of_mem _ hx))
        (by
          intro x hx grp' hg'
          have hne : b.set ≠ x.set := Nat.ne_of_lt (hpw.1 x hx)
          rw [List.getElem?_set_ne hne] at hg'
          exact hnone x (List.mem_cons_of_mem _ hx) grp' hg')
      exact ⟨gs', by simp [setInlines, hstep, hgs']⟩

theorem addAt_noIC (n : Nat) (e : Entry) (gs : List Group) (h : ∀ g ∈ gs, g.inlineConstants = none) :
    ∀ g ∈ addAt n e gs, g.inlineConstants = none := by
  fun_induction addAt n e gs with
  | case1 e => intro g hg; cases List.mem_singleton.1 hg; rfl
  | case2 e x xs =>
    intro g hg
    rcases List.mem_cons.1 hg with rfl | hg
    · exact h x (List.mem_cons_self ..)
    · exact h g (List.mem_cons_of_mem _ hg)
  | case3 n e ih =>
    intro g hg
    rcases List.mem_cons.1 hg with rfl | hg
    · rfl
    · exact ih h g hg
  | case4 n e x xs ih =>
    intro g hg
    rcases List.mem_cons.1 hg with rfl | hg
    · exact h _ (List.mem_cons_self ..)
    · exact ih (fun y hy => h y (List.mem_cons_of_mem _ hy)) g hg

theorem registerAll_noIC (evs : List (Nat × Entry)) (gs : List Group) (h : ∀ g ∈ gs, g.inlineConstants = none) :
    ∀ g ∈ registerAll evs gs, g.inlineConstants = none := by
  fun_induction registerAll evs gs with
  | case1 gs => exact h
  | case2 n e r gs ih => exact ih (addAt_noIC n e gs h)

theorem length_addAt (n : Nat) (e : Entry) (gs : List Group) : (addAt n e gs).length = max gs.length (n + 1) := by
  fun_induction addAt n e gs <;> simp_all <;> omega

theorem length_registerAll_le {L : Nat} (evs : List (Nat × Entry)) (gs : List Group)
    (hx : ∀ x ∈ evs, x.1 < L) (hl : gs.length ≤ L) : (registerAll evs gs).length ≤ L := by
  fun_induction registerAll evs gs with
  | case1 gs => exact hl
  | case2 n e r gs ih =>
    refine ih (fun y hy => hx y (List.mem_cons_of_mem _ hy)) ?_
    have := hx (n, e) (List.mem_cons_self ..)
    rw [length_addAt]
    omega

theorem descOf_error {tbl : ObjKind → Option DescT} {nonObj : DescT} {k : Option ObjKind} {e : String}
    (h : descOf tbl nonObj k = .error e) : e = "UnsupportedObjectType" ∧ ∃ k', k = some k' ∧ tbl k' = none := by
  revert h
  fun_cases descOf tbl nonObj k <;> intro h <;> cases h
  next k' hk => exact ⟨rfl, k', rfl, hk⟩

theorem hlslEvent_cases (d : MDecl) (ob : Option Binding) :
    (∃ o, hlslEvent d ob = .ok o) ∨
    ∃ e, hlslEvent d ob = .error e ∧ e = "UnsupportedObjectType" ∧
      ∃ n s ss k arr bl st, d = .global n s ss (some k) arr bl st ∧ hlslDescType k = none := by
  fun_cases hlslEvent d ob
  case case4 n s ss k arr bl st e he =>
    -- the one refusal: a global whose kind has no descriptor type
    obtain ⟨rfl, k', rfl, hk⟩ := descOf_error he
    exact .inr ⟨_, rfl, rfl, n, s, ss, k', arr, bl, st, rfl, hk⟩
  all_goals exact .inl ⟨_, rfl⟩

theorem events_hlsl_cases (ds : List MDecl) (bs : List (Option Binding)) (i : Nat) :
    (∃ evs, events (fun _ => hlslEvent) i ds bs = .ok evs) ∨
    (events (fun _ => hlslEvent) i ds bs = .error "UnsupportedObjectType" ∧
      ∃ n s ss k arr bl st, MDecl.global n s ss (some k) arr bl st ∈ ds ∧ hlslDescType k = none) := by
  rcases events_cases (fun _ d ob => (hlslEvent_cases d ob).imp (fun ⟨o, ho⟩ => ⟨o, ho, fun _ _ => trivial⟩) id)
      ds bs i with
    ⟨evs, hevs, _⟩ | ⟨_, he, _, hd, rfl, n, s, ss, k, arr, bl, st, rfl, hn⟩
  · exact .inl ⟨evs, hevs⟩
  · exact .inr ⟨he, n, s, ss, k, arr, bl, st, hd, hn⟩

theorem mslEvent_cases (u : Bool) (d : MDecl) (ob : Option Binding) :
    (∃ o, mslEvent u d ob = .ok o ∧ ∀ x, o = some x → x.1 < argumentBufferNames.length) ∨
    ∃ e, mslEvent u d ob = .error e ∧ (e = "UnsupportedBindGroupIndex" ∨ (e = "UnsupportedObjectType" ∧
      ∃ n s ss k arr bl st, d = .global n s ss (some k) arr bl st ∧ mslDescType k = none)) := by
  fun_cases mslEvent u d ob
  -- 3: a cbuffer without descriptor type (there is one); 4, 8: a group beyond the argument buffers;
  -- 6: a global whose kind has no descriptor type; 5, 9: a registration; the others register nothing
  case case3 h => cases h
  case case4 => exact .inr ⟨_, rfl, .inl rfl⟩
  case case8 => exact .inr ⟨_, rfl, .inl rfl⟩
  case case6 n s ss k arr bl st e he =>
    obtain ⟨rfl, k', rfl, hk⟩ := descOf_error he
    exact .inr ⟨_, rfl, .inr ⟨rfl, n, s, ss, k', arr, bl, st, rfl, hk⟩⟩
  case case5 hg => exact .inl ⟨_, rfl, fun x hx => by cases hx; omega⟩
  case case9 hg => exact .inl ⟨_, rfl, fun x hx => by cases hx; omega⟩
  all_goals exact .inl ⟨none, rfl, fun _ h => nomatch h⟩

theorem events_msl_cases (usedAt : Nat → Bool) (ds : List MDecl) (bs : List (Option Binding)) (i : Nat) :
    (∃ evs, events (fun i => mslEvent (usedAt i)) i ds bs = .ok evs ∧ ∀ x ∈ evs, x.1 < argumentBufferNames.length) ∨
    events (fun i => mslEvent (usedAt i)) i ds bs = .error "UnsupportedBindGroupIndex" ∨
    (events (fun i => mslEvent (usedAt i)) i ds bs = .error "UnsupportedObjectType" ∧
      ∃ n s ss k arr bl st, MDecl.global n s ss (some k) arr bl st ∈ ds ∧ mslDescType k = none) := by
  rcases events_cases (fun j => mslEvent_cases (usedAt j)) ds bs i with
    ⟨evs, hevs, hq⟩ | ⟨_, he, _, hd, rfl | ⟨rfl, n, s, ss, k, arr, bl, st, rfl, hn⟩⟩
  · exact .inl ⟨evs, hevs, hq⟩
  · exact .inr (.inl he)
  · exact .inr (.inr ⟨he, n, s, ss, k, arr, bl, st, hd, hn⟩)

theorem assign_length {p : Params} {dflt : Nat} {ds : List Decl} {res : Result} (h : assign p dflt ds = .ok res) :
    res.bindings.length = ds.length := by
  obtain ⟨st, hrun, _⟩ := assign_ok_iff.1 h
  exact run_length hrun

theorem mslUnbound_false (usedAt : Nat → Bool) : ∀ (ds : List MDecl) (bs : List (Option Binding)) (i0 : Nat),
    bs.length = ds.length → mslUnbound usedAt i0 ds bs = false →
    ∀ j d, ds[j]? = some d → usedAt (i0 + j) = true → isStageArgument d = true → ∃ b, bs[j]? = some (some b) := by
  intro ds
  induction ds with
  | nil => intro bs i0 _ _ j d hd; simp at hd
  | cons x xs ih =>
    intro bs i0 hl h j d hd hu ha
    cases bs with
    | nil => simp at hl
    | cons b bs =>
      simp only [mslUnbound, Bool.or_eq_false_iff] at h
      cases j with
      | zero =>
        simp only [List.getElem?_cons_zero, Option.some.injEq] at hd
        subst hd
        simp only [Nat.add_zero] at hu
        cases b with
        | none => simp [hu, ha] at h
        | some b => exact ⟨b, rfl⟩
      | succ j =>
        simp only [List.getElem?_cons_succ] at hd ⊢
        exact ih bs (i0 + 1) (by simpa using hl) h.2 j d hd (by rw [← hu]; congr 1; omega) ha

theorem mslUnbound_true (usedAt : Nat → Bool) : ∀ (ds : List MDecl) (bs : List (Option Binding)) (i0 : Nat),
    mslUnbound usedAt i0 ds bs = true →
    ∃ j d, ds[j]? = some d ∧ usedAt (i0 + j) = true ∧ isStageArgument d = true ∧ bs[j]? = some none := by
  intro ds
  induction ds with
  | nil => intro bs i0 h; simp [mslUnbound] at h
  | cons x xs ih =>
    intro bs i0 h
    cases bs with
    | nil => simp [mslUnbound] at h
    | cons b bs =>
      simp only [mslUnbound, Bool.or_eq_true, Bool.and_eq_true] at h
      rcases h with ⟨⟨hu, ha⟩, hb⟩ | h
      · refine ⟨0, x, rfl, by simpa using hu, ha, ?_⟩
        cases b <;> simp_all
      · obtain ⟨j, d, hd, hu, ha, hb⟩ := ih bs (i0 + 1) h
        exact ⟨j + 1, d, by simpa using hd, by rw [← hu]; congr 1; omega, ha, by simpa using hb⟩

end RsslVerif.Lemmas.MetaTotal
