import RsslVerif.Model.CondFile
import RsslVerif.Lemmas.CondChain
import RsslVerif.Lemmas.MacroSubst
import RsslVerif.Spec.CPre
/-!
# C11: the composed model (`Model.CondFile`)

Tokens without identifiers pass the macro loop of ordinary text unchanged; every file works above its own base (`Above`,
`includeFile_restores`); the token loop read, for a directive, as a line (`fileLoop_directive`), from which: what one
directive line of an included file cannot do to the includer's blocks.
-/
namespace RsslVerif.Lemmas.CondFile
open RsslVerif.Gen.CondTables RsslVerif.Model.CondExpr RsslVerif.Model.Macro RsslVerif.Model.CondFile
open RsslVerif.Lemmas.MacroSubst

/-- no identifier and no `Concat` token -/
def noIds (ts : List PTok) : Bool :=
  ts.all (fun t => match t.tok with | .id _ => false | .concat => false | _ => true)

theorem inert_of_noIds (env : List Entry) (ts : List PTok) (h : noIds ts = true) : Inert env ts := by
  intro t ht
  have := List.all_eq_true.mp h t ht
  unfold InertTok
  cases hk : t.tok <;> simp_all

theorem applyMacros_noIds (ms : List Macro) (ts : List PTok) (h : noIds ts = true) :
    applyMacros ms ts = .ok ts := by
  unfold applyMacros
  exact applyLoop_inert _ _ _ (Nat.le_refl _) (by simpa [SearchPos.start] using inert_of_noIds _ ts h)

theorem flush_nil (st : FState) : flush st [] = .ok st := by
  unfold flush
  split
  · simp [applyMacros_noIds _ [] rfl]
  · rfl

theorem flush_noIds (st : FState) (act : List PTok) (h : noIds act = true) :
    flush st act = .ok (if active st.chain then { st with out := st.out ++ act } else st) := by
  unfold flush
  split <;> simp_all [applyMacros_noIds]

theorem noIds_drop (ts : List PTok) (n : Nat) (h : noIds ts = true) : noIds (ts.drop n) = true := by
  simp only [noIds, List.all_eq_true] at h ⊢
  intro t ht
  exact h t (List.mem_of_mem_drop ht)

/-! ### every file's conditional directives balance on their own (/repo 115a619)

`Above ch0 st` is the invariant of the token loop of one file; `runStream_restores` / `includeFile_restores`
conclude that a successfully processed file leaves the includer's chain exactly as it found it. -/

/-- while a file is processed, the blocks `ch0` that were open at its start stay at the bottom of the stack,
    untouched, and the file base is their number -/
def Above (ch0 : List Block) (st : FState) : Prop := ∃ pre, st.chain = pre ++ ch0 ∧ st.base = ch0.length

def IncOk (inc : String → FState → Except RsslVerif.Model.CondFile.Err FState) : Prop :=
  ∀ n s s', inc n s = .ok s' → s'.chain = s.chain ∧ s'.base = s.base

/-! at the file base there is nothing to pop or to switch: the includer's blocks are out of reach -/

theorem chainPop_base (ch : List Block) : chainPop ch ch.length = .error (.chain popEmptyErr) := by
  simp [chainPop]

theorem chainSwitch_base (ch : List Block) (a e : Bool) :
    chainSwitch ch ch.length a e = .error (.chain switchEmptyErr) := by
  simp [chainSwitch]

/-! above the file base `pop` and `switch` act on the innermost block -/

theorem chainPop_cons (top : Block) (r : List Block) (base : Nat) (h : base ≤ r.length) :
    chainPop (top :: r) base = .ok r := by
  have : (top :: r).length > base := by simp only [List.length_cons]; omega
  simp only [chainPop, this, if_true, List.tail_cons]

theorem chainSwitch_cons (top : Block) (r : List Block) (base : Nat) (a e : Bool) (h : base ≤ r.length) :
    chainSwitch (top :: r) base a e =
      match top.switch a e with
      | .error er => .error (.chain er)
      | .ok top' => .ok (top' :: r) := by
  have h1 : ¬ (top :: r).length < base := by simp only [List.length_cons]; omega
  have h2 : ¬ (top :: r).length = base := by simp only [List.length_cons]; omega
  simp only [chainSwitch, h1, h2, if_false]
  rfl

theorem chainSwitch_above (ch0 pre : List Block) (a e : Bool) (ch' : List Block)
    (h : chainSwitch (pre ++ ch0) ch0.length a e = .ok ch') : ∃ pre', ch' = pre' ++ ch0 := by
  cases pre with
  | nil => rw [List.nil_append, chainSwitch_base] at h; cases h
  | cons top p =>
    rw [List.cons_append, chainSwitch_cons _ _ _ _ _ (by simp)] at h
    split at h
    · cases h
    · cases h; exact ⟨_ :: p, rfl⟩

theorem chainPop_above (ch0 pre : List Block) (ch' : List Block)
    (h : chainPop (pre ++ ch0) ch0.length = .ok ch') : ∃ pre', ch' = pre' ++ ch0 := by
  cases pre with
  | nil => rw [List.nil_append, chainPop_base] at h; cases h
  | cons top p =>
    rw [List.cons_append, chainPop_cons _ _ _ (by simp)] at h
    cases h; exact ⟨p, rfl⟩

/-- the chains a command can leave: the same, one block more, the innermost block of the file switched or popped -/
inductive Reach (st : FState) : List Block → Prop
  | same : Reach st st.chain
  | push (b : Block) : Reach st (b :: st.chain)
  | switch {a e : Bool} {ch : List Block} : chainSwitch st.chain st.base a e = .ok ch → Reach st ch
  | pop {ch : List Block} : chainPop st.chain st.base = .ok ch → Reach st ch

/-- the `#include` arm behind its guards: the handler one level deeper, the depth restored -/
def deeper (inc : String → FState → Except RsslVerif.Model.CondFile.Err FState) (file : String) (st : FState) :
    Except RsslVerif.Model.CondFile.Err FState :=
  match inc file { st with depth := st.depth + 1 } with
  | .error e => .error e
  | .ok st' => .ok { st' with depth := st.depth }

/-- what a command does to a state and, beside it, to the same state with the output cleared: it fails, or
    includes a file, or sets chain (within `Reach`), macro table and once-set and nothing else -/
inductive Does (inc : String → FState → Except RsslVerif.Model.CondFile.Err FState) (st : FState) :
    Except RsslVerif.Model.CondFile.Err FState → Except RsslVerif.Model.CondFile.Err FState → Prop
  | fail (e : RsslVerif.Model.CondFile.Err) : Does inc st (.error e) (.error e)
  | incl (file : String) : Does inc st (deeper inc file st) (deeper inc file { st with out := [] })
  | set {ch : List Block} (ms : List Macro) (on : List String) : Reach st ch →
      Does inc st (.ok { st with chain := ch, macros := ms, once := on })
        (.ok { st with chain := ch, macros := ms, out := [], once := on })

/-- both runs test the same condition -/
theorem Does.ite {inc : String → FState → Except RsslVerif.Model.CondFile.Err FState} {st : FState} {c : Prop}
    [Decidable c] {a b a' b' : Except RsslVerif.Model.CondFile.Err FState} (ht : Does inc st a a')
    (he : Does inc st b b') : Does inc st (if c then a else b) (if c then a' else b') := by
  split <;> assumption

theorem exec_does (inc : String → FState → Except RsslVerif.Model.CondFile.Err FState) (cur : String) (st : FState)
    (name : String) (cmd : List PTok) :
    Does inc st (exec inc cur st name cmd) (exec inc cur { st with out := [] } name cmd) := by
  dsimp only [exec]
  -- the arms one by one: rewriting under the tests on `name` would visit the whole ladder at every test
  refine .ite ?«include» <| .ite ?ifdef <| .ite ?«if» <| .ite ?elif <| .ite ?«else» <| .ite ?endif <| .ite ?define <|
    .ite ?undef <| .ite ?pragma (.fail _)
  case «include» =>
    split
    · split
      · exact .fail _
      · exact .ite (.fail _) (.incl _)
    · exact .fail _
  case ifdef =>
    split
    · exact .set _ _ (.push _)
    · exact .fail _
  case «if» =>
    split
    · exact .fail _
    · exact .set _ _ (.push _)
  case elif =>
    split
    · exact .fail _
    · split
      · exact .fail _
      · exact .set _ _ (.switch ‹_›)
  case «else» =>
    refine .ite ?_ (.fail _)
    split
    · exact .fail _
    · exact .set _ _ (.switch ‹_›)
  case endif =>
    refine .ite ?_ (.fail _)
    split
    · exact .fail _
    · exact .set _ _ (.pop ‹_›)
  case define | undef =>
    split
    · exact .fail _
    · exact .set _ _ .same
  case pragma =>
    split
    · exact .ite (.set _ _ .same) (.ite (.set _ _ .same) (.fail _))
    · exact .fail _

/-- `preprocess_command`: a skipped command does nothing or pushes one block, every other one is `exec` -/
theorem command_does (inc : String → FState → Except RsslVerif.Model.CondFile.Err FState) (cur : String) (st : FState)
    (cmd : List PTok) :
    Does inc st (command inc cur st cmd) (command inc cur { st with out := [] } cmd) := by
  have hg : ∀ (g : Gate) (run : FState → Except RsslVerif.Model.CondFile.Err FState),
      Does inc st (run st) (run { st with out := [] }) →
      Does inc st (gated st g fun _ => run st) (gated { st with out := [] } g fun _ => run { st with out := [] }) := by
    intro g run hr
    by_cases ha : active st.chain = true
    · simpa only [gated, ha, if_true] using hr
    · simp only [gated, ha]
      cases g with
      | skipNoEffect => exact .set st.macros st.once .same
      | skipPushes c => exact .set st.macros st.once (.push _)
      | notGated => exact hr
  unfold command
  split
  · exact hg _ (fun _ => .error .unknownCommand) (.fail _)
  · exact hg _ (fun s => exec inc cur s _ _) (exec_does inc cur st _ _)

/-- above the blocks `ch0` of the includer, every chain a command can leave still ends in `ch0` -/
theorem Reach.above {ch0 ch : List Block} {st : FState} (ha : Above ch0 st) (h : Reach st ch) :
    ∃ pre, ch = pre ++ ch0 := by
  obtain ⟨pre, hch, hb⟩ := ha
  cases h with
  | same => exact ⟨pre, hch⟩
  | push b => exact ⟨b :: pre, by rw [hch]; rfl⟩
  | switch hs => rw [hch, hb] at hs; exact chainSwitch_above ch0 pre _ _ _ hs
  | pop hp => rw [hch, hb] at hp; exact chainPop_above ch0 pre _ hp

theorem Does.above {inc : String → FState → Except RsslVerif.Model.CondFile.Err FState} (hinc : IncOk inc)
    {ch0 : List Block} {st st' : FState} {r0 : Except RsslVerif.Model.CondFile.Err FState} (ha : Above ch0 st)
    (h : Does inc st (.ok st') r0) : Above ch0 st' := by
  generalize hr : Except.ok st' = r at h
  cases h with
  | fail e => cases hr
  | incl file =>
    revert hr
    fun_cases deeper inc file st <;> intro hr <;> cases hr
    rename_i st1 hst1
    obtain ⟨pre, hch, hb⟩ := ha
    exact ⟨pre, (hinc _ _ _ hst1).1.trans hch, (hinc _ _ _ hst1).2.trans hb⟩
  | set ms on hreach =>
    cases hr
    obtain ⟨pre', hp⟩ := hreach.above ha
    obtain ⟨_, _, hb⟩ := ha
    exact ⟨pre', hp, hb⟩

theorem flush_above (ch0 : List Block) (st st' : FState) (act : List PTok) (ha : Above ch0 st)
    (h : flush st act = .ok st') : Above ch0 st' := by
  revert h
  fun_cases flush st act <;> intro h <;> cases h <;> exact ha

theorem fileLoop_above (inc) (hinc : IncOk inc) (cur : String) (ch0 : List Block) :
    ∀ (items : List SItem) (st : FState) (ps : PState) (act : List PTok) (st' : FState) (act' : List PTok),
      Above ch0 st → fileLoop inc cur st ps act items = .ok (st', act') → Above ch0 st' := by
  intro items st ps act st' act' ha h
  fun_induction fileLoop inc cur st ps act items
  case case1 => cases h; exact ha
  -- a directive line ends: the command runs; a `#` starts one: the text before it is flushed
  case case4 st act _ _ _ _ hc ih => exact ih (Does.above hinc ha (hc ▸ command_does inc cur st act)) h
  case case7 hf ih => exact ih (flush_above _ _ _ _ ha hf) h
  -- a collected token leaves the state as it is
  case case5 ih | case8 ih | case9 ih | case10 ih => exact ih ha h
  all_goals cases h

/-- `preprocess_included_file` hands the chain and the file base back exactly as it received them -/
theorem runStream_restores (inc) (hinc : IncOk inc) (cur : String) (st st' : FState) (items : List SItem)
    (h : runStream inc cur st items = .ok st') : st'.chain = st.chain ∧ st'.base = st.base := by
  revert h
  fun_cases runStream inc cur st items <;> intro h <;> cases h
  rename_i st1 act hl st2 hf hlen
  have h1 : Above st.chain st1 :=
    fileLoop_above inc hinc cur st.chain items _ _ _ _ _ ⟨[], by simp, rfl⟩ hl
  obtain ⟨pre, hch, hb⟩ := flush_above st.chain st1 st2 act h1 hf
  have : pre = [] := by
    have hl2 : st2.chain.length = st2.base := by simpa using hlen
    rw [hch, hb, List.length_append] at hl2
    exact List.eq_nil_of_length_eq_zero (by omega)
  simp [hch, this]

theorem includeFile_restores (h : Handler) : ∀ (fuel : Nat), IncOk (includeFile h fuel)
  | 0 => by intro n s s' hs; simp [includeFile] at hs
  | fuel + 1 => by
    intro n s s' hs
    have ih := includeFile_restores h fuel
    simp only [includeFile] at hs
    split at hs
    · cases hs
    · split at hs
      · exact runStream_restores _ ih n s s' _ hs
      · exact runStream_restores _ ih n s s' _ hs


/-- the rest of a directive line: tokens are collected up to the line end, then the command runs -/
theorem fileLoop_command (inc) (cur : String) (nl : PTok) (hnl : nl.tok = .endline) (rest : List SItem) :
    ∀ (cmd : List PTok), (∀ t ∈ cmd, t.tok ≠ .endline) → ∀ (st : FState) (act : List PTok),
    fileLoop inc cur st .commandContents act (cmd.map .tok ++ .tok nl :: rest) =
      match command inc cur st (act ++ cmd) with
      | .error e => .error e
      | .ok st' => fileLoop inc cur st' .startOfLine [] rest
  | [], _, st, act => by
    rw [List.map_nil, List.nil_append, List.append_nil, fileLoop, if_pos hnl, if_pos rfl]
    rfl
  | t :: cmd, h, st, act => by
    have ht : t.tok ≠ .endline := h t (by simp)
    rw [List.map_cons, List.cons_append, fileLoop, if_neg ht, if_neg (by simp), if_neg (by simp), if_neg (by simp),
      fileLoop_command inc cur nl hnl rest cmd (fun x hx => h x (by simp [hx])), List.append_assoc]
    rfl

/-- a directive line met at the start of a line: `#`, the first token of the command, the rest, the line end -/
theorem fileLoop_directive (inc) (cur : String) (hash c nl : PTok) (hh : isHash hash = true)
    (hc : c.tok.isWhitespace = false) (hnl : nl.tok = .endline) (cmd : List PTok)
    (hcmd : ∀ t ∈ cmd, t.tok ≠ .endline) (st : FState) (act : List PTok) (rest : List SItem) :
    fileLoop inc cur st .startOfLine act (.tok hash :: .tok c :: (cmd.map .tok ++ .tok nl :: rest)) =
      match flush st (dropTrailingBlanks act) with
      | .error e => .error e
      | .ok st1 =>
        match command inc cur st1 (c :: cmd) with
        | .error e => .error e
        | .ok st2 => fileLoop inc cur st2 .startOfLine [] rest := by
  have hhe : hash.tok ≠ .endline := by intro h; simp [isHash, h] at hh
  have hce : c.tok ≠ .endline := by intro h; simp [h, Tok.isWhitespace] at hc
  rw [fileLoop, if_neg hhe, if_pos ⟨hh, rfl⟩]
  cases flush st (dropTrailingBlanks act) with
  | error e => rfl
  | ok st1 =>
    simp only []
    rw [fileLoop, if_neg hce, if_neg (by simp), if_pos ⟨rfl, by simp [hc]⟩,
      fileLoop_command inc cur nl hnl rest cmd hcmd]
    rfl

/-- a command that `skip` does not gate is executed whether or not a level is inactive -/
theorem command_notGated (inc) (cur : String) (st : FState) (cmd rest : List PTok) (name : String)
    (hn : commandName cmd = some (name, rest)) (hg : gate name = .notGated) :
    command inc cur st cmd = exec inc cur st name rest := by
  simp only [command, hn, gated, hg, ite_self]

theorem command_active (inc) (cur : String) (st : FState) (cmd rest : List PTok) (name : String)
    (hn : commandName cmd = some (name, rest)) (ha : active st.chain = true) :
    command inc cur st cmd = exec inc cur st name rest := by
  simp only [command, hn, gated, ha, if_true]

/-- `#ifdef` / `#ifndef` met while skipping only deepen the stack -/
theorem command_skipPushes (inc) (cur : String) (st : FState) (cmd rest : List PTok) (name : String) (c : CS)
    (hn : commandName cmd = some (name, rest)) (hg : gate name = .skipPushes c) (ha : active st.chain = false) :
    command inc cur st cmd = .ok { st with chain := newBlock c :: st.chain } := by
  simp only [command, hn, gated, hg, ha, Bool.false_eq_true, if_false]

theorem exec_endif (inc) (cur : String) (st : FState) (cmd : List PTok) (h : (trimStart cmd).isEmpty = true) :
    exec inc cur st "endif" cmd = (chainPop st.chain st.base).map (fun ch => { st with chain := ch }) := by
  simp only [exec, h, if_true]
  cases chainPop st.chain st.base <;> simp [Except.map]

theorem exec_else (inc) (cur : String) (st : FState) (cmd : List PTok) (h : (trimStart cmd).isEmpty = true) :
    exec inc cur st "else" cmd =
      (chainSwitch st.chain st.base true true).map (fun ch => { st with chain := ch }) := by
  simp only [exec, h, if_true, elseSwitchArg, elseIsElse]
  cases chainSwitch st.chain st.base true true <;> simp [Except.map]

/-- `#ifdef X`, the operand being the single identifier `X` -/
theorem exec_ifdef (inc) (cur : String) (st : FState) (cmd : List PTok) (x : String) (l : Bool)
    (h : trim cmd = [⟨.id x, l⟩]) :
    exec inc cur st "ifdef" cmd =
      .ok { st with chain := newBlock (pushState (st.macros.any (fun m => m.name == x))) :: st.chain } := by
  simp [exec, h]

def T (t : Tok) : SItem := .tok ⟨t, true⟩

/-- the token stream of the text `#endif⏎` -/
def hdrEndif : List SItem := [T (.punct "#"), T (.id "endif"), T .endline]
/-- `#else⏎` -/
def hdrElse : List SItem := [T (.punct "#"), T (.punct "else"), T .endline]
/-- `#ifdef X⏎` -/
def hdrIfdef (x : String) : List SItem := [T (.punct "#"), T (.id "ifdef"), T .ws, T (.id x), T .endline]

/-- a file that is not marked `#pragma once` is run through the token loop with its full token stream -/
theorem includeFile_loaded (h : Handler) (fuel : Nat) (name : String) (st : FState) (items : List SItem)
    (hf : h name = some items) (ho : st.once.contains name = false) :
    includeFile h (fuel + 1) name st = runStream (includeFile h fuel) name st items := by
  simp only [includeFile, hf, ho, Bool.false_eq_true, if_false]

theorem runStream_directive (inc) (cur : String) (hash c nl : PTok) (hh : isHash hash = true)
    (hc : c.tok.isWhitespace = false) (hnl : nl.tok = .endline) (cmd : List PTok)
    (hcmd : ∀ t ∈ cmd, t.tok ≠ .endline) (st : FState) :
    runStream inc cur st (.tok hash :: .tok c :: (cmd.map .tok ++ [.tok nl])) =
      match command inc cur { st with base := st.chain.length } (c :: cmd) with
      | .error e => .error e
      | .ok st2 =>
        if st2.chain.length ≠ st2.base then .error (.chain fileUnfinishedErr) else .ok { st2 with base := st.base } := by
  rw [runStream, fileLoop_directive inc cur hash c nl hh hc hnl cmd hcmd]
  simp only [show dropTrailingBlanks [] = [] from rfl, flush_nil]
  cases command inc cur { st with base := st.chain.length } (c :: cmd) with
  | error e => rfl
  | ok st2 => simp only [fileLoop, flush_nil]

/-- an `#endif` that is the whole content of an included file does not reach the block the includer opened:
    it is an `#endif` without `#if` -/
theorem include_endif (h : Handler) (fuel : Nat) (name : String) (st : FState)
    (hf : h name = some hdrEndif) (ho : st.once.contains name = false) :
    includeFile h (fuel + 1) name st = .error (.chain .EndIfNotMatched) := by
  rw [includeFile_loaded h fuel name st _ hf ho]
  exact (runStream_directive _ name ⟨.punct "#", true⟩ ⟨.id "endif", true⟩ ⟨.endline, true⟩ rfl rfl rfl [] (by simp)
    st).trans (by rw [command_notGated _ _ _ _ [] "endif" rfl CondChain.gate_endif, exec_endif _ _ _ [] rfl, chainPop_base]; rfl)

/-- an `#else` that is the whole content of an included file is an `#else` without `#if`, whatever the
    includer has open -/
theorem include_else (h : Handler) (fuel : Nat) (name : String) (st : FState)
    (hf : h name = some hdrElse) (ho : st.once.contains name = false) :
    includeFile h (fuel + 1) name st = .error (.chain .ElseNotMatched) := by
  rw [includeFile_loaded h fuel name st _ hf ho]
  exact (runStream_directive _ name ⟨.punct "#", true⟩ ⟨.punct "else", true⟩ ⟨.endline, true⟩ rfl rfl rfl [] (by simp)
    st).trans (by rw [command_notGated _ _ _ _ [] "else" rfl CondChain.gate_else, exec_else _ _ _ [] rfl, chainSwitch_base]; rfl)

/-- an `#ifdef X` that is the whole content of an included file is an unterminated if-section: the end of the
    included file is checked -/
theorem include_ifdef (h : Handler) (fuel : Nat) (name x : String) (st : FState)
    (hf : h name = some (hdrIfdef x)) (ho : st.once.contains name = false) :
    includeFile h (fuel + 1) name st = .error (.chain .ConditionChainNotFinished) := by
  rw [includeFile_loaded h fuel name st _ hf ho]
  refine (runStream_directive _ name ⟨.punct "#", true⟩ ⟨.id "ifdef", true⟩ ⟨.endline, true⟩ rfl rfl rfl
    [⟨.ws, true⟩, ⟨.id x, true⟩] (by simp) st).trans ?_
  -- executed or skipped, the line pushes one block, which is still open at the end of the file
  cases ha : active st.chain
  · rw [command_skipPushes _ _ { st with base := st.chain.length } _ _ "ifdef" _ rfl CondChain.gate_ifdef ha]
    simp [fileUnfinishedErr]
  · rw [command_active _ _ { st with base := st.chain.length } _ _ "ifdef" rfl ha,
      exec_ifdef _ _ _ [⟨.ws, true⟩, ⟨.id x, true⟩] x true rfl]
    simp [fileUnfinishedErr]

theorem gate_include : gate "include" = .skipNoEffect := CondChain.gate_include
theorem gate_ifndef : gate "ifndef" = .skipPushes .DisabledInner := CondChain.gate_ifndef

/-- the lines of a token stream (split at line ends; a lexer failure ends the stream) -/
def streamLines : List SItem → List Tok → List (List Tok)
  | [], cur => if cur.isEmpty then [] else [cur.reverse]
  | .lexError :: _, cur => if cur.isEmpty then [] else [cur.reverse]
  | .tok t :: r, cur => if t.tok = .endline then cur.reverse :: streamLines r [] else streamLines r (t.tok :: cur)

/-- nesting shape of one line: `#` first (after blanks), then the directive name -/
def shapeOfLine (l : List Tok) : RsslVerif.Spec.CPre.Shape :=
  match l.filter (fun t => !t.isWhitespace) with
  | .punct "#" :: .punct "if" :: _ => .opens
  | .punct "#" :: .id "ifdef" :: _ => .opens
  | .punct "#" :: .id "ifndef" :: _ => .opens
  | .punct "#" :: .id "elif" :: _ => .elif
  | .punct "#" :: .punct "else" :: _ => .els
  | .punct "#" :: .id "endif" :: _ => .endif
  | _ => .other

/-- ISO C 6.10.1 / 6.10.2: an included file is a sequence of *groups*; each file must pass the grammar
    scan by itself -/
def fileBalanced (items : List SItem) : Bool :=
  match RsslVerif.Spec.CPre.scanC [] ((streamLines items []).map shapeOfLine) with
  | .ok _ => true
  | .error _ => false

/-- `main.rssl` = `#include "h.h"⏎1⏎#endif⏎` -/
def wMainA : List SItem :=
  [T (.punct "#"), T (.id "include"), T .ws, T (.punct "\"h.h\""), T .endline,
   T (.int "1"), T .endline, T (.punct "#"), T (.id "endif"), T .endline]
/-- `h.h` = `#ifndef A⏎2⏎` -/
def wHdrA : List SItem :=
  [T (.punct "#"), T (.id "ifndef"), T .ws, T (.id "A"), T .endline, T (.int "2"), T .endline]

/-- `main.rssl` = `#ifndef A⏎1⏎#include "h.h"⏎2⏎#endif⏎` -/
def wMainB : List SItem :=
  [T (.punct "#"), T (.id "ifndef"), T .ws, T (.id "A"), T .endline, T (.int "1"), T .endline,
   T (.punct "#"), T (.id "include"), T .ws, T (.punct "\"h.h\""), T .endline,
   T (.int "2"), T .endline, T (.punct "#"), T (.id "endif"), T .endline]

end RsslVerif.Lemmas.CondFile
