import RsslVerif.Model.LayoutCollect
import RsslVerif.Lemmas.LayoutCollect
/-!
# The final loop of `check_layout` keeps nothing between two types (C19)

`checkFrom` (the loop over `types_to_check`) gives every type the verdict of `checkOne` on that type alone:
what was checked before only decides whether the loop gets that far (`checkFrom_eq`; its readings are core's facts
about `findSome?` over `zipIdx`).  Likewise the collection loops panic because of one function (`isBad`), whatever
was collected before it (`collect_ok_iff`).
-/
namespace RsslVerif.Lemmas.LayoutContext
open RsslVerif.Gen.LayoutTables RsslVerif.Model.Layout RsslVerif.Model.LayoutCollect RsslVerif.Lemmas.LayoutCollect

/-- what the loop does with the outcome of its body for the type at position `i`: `none` = go on -/
def verdictAt (i : Nat) : Except Err (Option (Layout × Layout)) → Option Verdict
  | .ok none => none
  | .ok (some (h, m)) => some (.mismatch i h m)
  | .error .unknown => some (.unknown i)
  | .error (.panic msg) => some (.panic msg)

theorem checkFrom_cons (i : Nat) (t : Ty) (ts : List Ty) :
    checkFrom i (t :: ts) = (verdictAt i (checkOne t)).getD (checkFrom (i + 1) ts) := by
  simp only [checkFrom]
  split <;> simp_all [verdictAt]

/-- **the loop over `types_to_check`**: the verdict of the first type that has one -/
theorem checkFrom_eq (i : Nat) (ts : List Ty) :
    checkFrom i ts = ((ts.zipIdx i).findSome? fun p => verdictAt p.2 (checkOne p.1)).getD .ok := by
  induction ts generalizing i with
  | nil => rfl
  | cons t ts ih =>
    rw [checkFrom_cons, List.zipIdx_cons, List.findSome?_cons, ih]
    cases verdictAt i (checkOne t) <;> rfl

theorem verdictAt_ne_ok (i : Nat) (r : Except Err (Option (Layout × Layout))) : verdictAt i r ≠ some .ok := by
  unfold verdictAt; split <;> simp

theorem verdictAt_none {i : Nat} {r : Except Err (Option (Layout × Layout))} : verdictAt i r = none ↔ r = .ok none := by
  unfold verdictAt; split <;> simp

/-- a verdict other than `ok` is the verdict of some position -/
theorem checkFrom_verdict {i : Nat} {ts : List Ty} {v : Verdict} (h : checkFrom i ts = v) (hv : v ≠ .ok) :
    ∃ t j, i ≤ j ∧ ts[j - i]? = some t ∧ verdictAt j (checkOne t) = some v := by
  rw [checkFrom_eq, Option.getD_eq_iff] at h
  rcases h with h | ⟨_, h⟩
  · obtain ⟨p, hp, hf⟩ := List.exists_of_findSome?_eq_some h
    obtain ⟨hle, hget⟩ := List.mem_zipIdx_iff_le_and_getElem?_sub.1 hp
    exact ⟨p.1, p.2, hle, hget, hf⟩
  · exact absurd h.symm hv

theorem checkFrom_append (pre rest : List Ty) (i : Nat) (h : ∀ u ∈ pre, checkOne u = .ok none) :
    checkFrom i (pre ++ rest) = checkFrom (i + pre.length) rest := by
  rw [checkFrom_eq, checkFrom_eq, List.zipIdx_append, List.findSome?_append,
    List.findSome?_eq_none_iff.2 fun p hp => verdictAt_none.2 (h _ (List.fst_mem_of_mem_zipIdx hp))]
  rfl

theorem checkAll_ok_iff {ts : List Ty} : checkAll ts = .ok ↔ ∀ t ∈ ts, checkOne t = .ok none := by
  unfold checkAll
  rw [checkFrom_eq, Option.getD_eq_iff]
  constructor
  · rintro (h | ⟨h, _⟩) t ht
    · obtain ⟨p, _, hf⟩ := List.exists_of_findSome?_eq_some h
      exact absurd hf (verdictAt_ne_ok _ _)
    · rw [← List.zipIdx_map_fst 0 ts] at ht
      obtain ⟨p, hp, rfl⟩ := List.mem_map.1 ht
      exact verdictAt_none.1 (List.findSome?_eq_none_iff.1 h p hp)
  · intro h
    exact .inr ⟨List.findSome?_eq_none_iff.2 fun p hp => verdictAt_none.2 (h _ (List.fst_mem_of_mem_zipIdx hp)), rfl⟩

theorem checkAll_mismatch {ts : List Ty} {i : Nat} {lh lm : Layout} (h : checkAll ts = .mismatch i lh lm) :
    ∃ t, ts[i]? = some t ∧ checkOne t = .ok (some (lh, lm)) := by
  obtain ⟨t, k, _, hget, hv⟩ := checkFrom_verdict h (by simp)
  unfold verdictAt at hv
  split at hv <;> cases hv
  exact ⟨t, hget, ‹_›⟩

theorem checkAll_panic {ts : List Ty} {msg : String} (h : checkAll ts = .panic msg) :
    ∃ t ∈ ts, checkOne t = .error (.panic msg) := by
  obtain ⟨t, k, _, hget, hv⟩ := checkFrom_verdict h (by simp)
  unfold verdictAt at hv
  split at hv <;> cases hv
  exact ⟨t, List.mem_of_getElem? hget, ‹_›⟩

theorem collect_ok_iff (m : Module) : (∃ l, collect m = .ok l) ↔ ∀ f ∈ m.fns, isBad f = none := by
  rw [collect_eq, ← List.findSome?_eq_none_iff]
  cases m.fns.findSome? isBad <;> simp

end RsslVerif.Lemmas.LayoutContext
