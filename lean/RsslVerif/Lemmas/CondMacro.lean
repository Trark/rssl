import RsslVerif.Lemmas.CondFile
import RsslVerif.Lemmas.MacroSubst
import RsslVerif.Lemmas.CondSubst
/-!
# C11: `defined` and macro replacement in `#if` lines, on the composed model

`Res env R R'` describes, iteration by iteration, the lines covered: runs of *quiet* tokens (no macro name, no
`defined`, no `Concat`), `defined X`, `defined ( X )`, and object-like macros whose body has no identifier.
`topLoop_res`: the loop (`apply_macros(.., apply_defined = true, ..)`) returns `R'`; `subst_res`: the substitution
model of `Model.CondExpr` computes the same tokens, so the theorems about `condValue` hold for the composed model.
-/
namespace RsslVerif.Lemmas.CondMacro
open RsslVerif.Gen.CondTables RsslVerif.Model.CondExpr RsslVerif.Model.Macro RsslVerif.Model.CondFile
open RsslVerif.Lemmas.MacroSubst RsslVerif.Lemmas.CondFile

/-- an iteration in which `find_single_macro` finds nothing ends the loop -/
theorem topLoop_none (env : List Entry) (toks : List PTok) (sp : SearchPos)
    (hf : findSingleD toks sp env = .ok .none) : topLoop env toks sp = .ok toks := by
  rw [topLoop]
  by_cases hlt : sp.next < toks.length
  · rw [dif_pos hlt]; simp only [hf]
  · rw [dif_neg hlt]

theorem topLoop_defined_step (env : List Entry) (toks : List PTok) (sp : SearchPos) (p : Nat) (x : String)
    (rest : List PTok) (hlt : sp.next < toks.length)
    (hf : findSingleD toks sp env = .ok (.defined p))
    (hrd : readDefined (toks.drop (p + 1)) = .ok (x, rest))
    (hg : sp.next ≤ p ∧ p < toks.length - rest.length ∧ toks.length - rest.length ≤ toks.length) :
    topLoop env toks sp =
      topLoop env (splice toks p (toks.length - rest.length) [definedTok (isDefinedIn env x)])
        ⟨p + 1, p + 1, none⟩ := by
  rw [topLoop]
  simp only [hlt, dif_pos, hf, hrd, hg, and_self]

theorem topLoop_user_step (env : List Entry) (toks : List PTok) (sp : SearchPos) (mi p : Nat) (e : Entry)
    (rest : List PTok) (args args' : List (List PTok)) (output output' : List PTok)
    (hlt : sp.next < toks.length)
    (hf : findSingleD toks sp env = .ok (.user mi p)) (hmi : env[mi]? = some e)
    (hra : readArgs e.m (toks.drop (p + 1)) = .ok (rest, args))
    (hm : mapE (fun a => applyLoop env a SearchPos.start) args = .ok args')
    (hsub : substitute e.m.body args' = .ok output) (hd : e.disabled = false)
    (hbody : applyLoop (disable env mi) output SearchPos.start = .ok output')
    (hp : p < toks.length - rest.length)
    (hg : sp.next < toks.length - rest.length ∧ toks.length - rest.length ≤ toks.length) :
    topLoop env toks sp =
      topLoop env (splice toks p (toks.length - rest.length) output')
        ⟨p + output'.length, p, if e.m.isFunction then some mi else none⟩ := by
  rw [topLoop]
  simp only [hlt, dif_pos, hf, hmi, hra, hm, hsub, hd, hbody, hp, hg, and_self, if_true]

/-- a token `find_single_macro` (with `apply_defined`) never stops at -/
def QuietTok (env : List Entry) (t : PTok) : Prop := InertTok env t ∧ t.tok ≠ .id "defined"

def Quiet (env : List Entry) (ts : List PTok) : Prop := ∀ t ∈ ts, QuietTok env t

theorem quiet_append {env : List Entry} {a b : List PTok} (ha : Quiet env a) (hb : Quiet env b) :
    Quiet env (a ++ b) :=
  List.forall_mem_append.mpr ⟨ha, hb⟩

theorem quiet_of_noIds (env : List Entry) (ts : List PTok) (h : noIds ts = true) : Quiet env ts := by
  intro t ht
  refine ⟨inert_of_noIds env ts h t ht, ?_⟩
  have := List.all_eq_true.mp h t ht
  intro hk
  simp [hk] at this

theorem quiet_drop {env : List Entry} {ts : List PTok} (n : Nat) (h : Quiet env ts) : Quiet env (ts.drop n) :=
  fun t ht => h t (List.mem_of_mem_drop ht)

theorem scanFromD_skip_quiet (toks : List PTok) (sp : SearchPos) (env : List Entry) (a rest : List PTok) (i : Nat)
    (h : Quiet env a) : scanFromD toks sp env (a ++ rest) i = scanFromD toks sp env rest (i + a.length) := by
  induction a generalizing i with
  | nil => simp
  | cons t ts ih =>
    obtain ⟨ht, hnd⟩ := h t (by simp)
    have ih' := ih (i + 1) (fun x hx => h x (by simp [hx]))
    simp only [List.cons_append, List.length_cons]
    have : i + (ts.length + 1) = i + 1 + ts.length := by omega
    rw [this, ← ih']
    unfold InertTok at ht
    cases htk : t.tok with
    | id name =>
      simp only [htk] at ht
      have hn : name ≠ "defined" := by intro hh; subst hh; exact hnd htk
      simp [scanFromD, htk, matchMacro_none _ _ _ _ _ _ ht, hn]
    | concat => simp only [htk] at ht
    | _ => simp [scanFromD, htk]

theorem scanFromD_quiet (toks : List PTok) (sp : SearchPos) (env : List Entry) (a : List PTok) (i : Nat)
    (h : Quiet env a) : scanFromD toks sp env a i = .ok .none := by
  have := scanFromD_skip_quiet toks sp env a [] i h
  simp only [List.append_nil] at this
  rw [this]; rfl

/-- the scan from `early = k` over a quiet prefix `Q` reaches the token after it -/
theorem findSingleD_reach (env : List Entry) (Q tail : List PTok) (n k : Nat) (l : Option Nat)
    (hQ : Quiet env Q) (hk : k ≤ n) (hn : n ≤ Q.length) :
    findSingleD (Q ++ tail) ⟨n, k, l⟩ env = scanFromD (Q ++ tail) ⟨n, k, l⟩ env tail Q.length := by
  unfold findSingleD
  simp only [hk, if_true]
  rw [List.drop_append_of_le_length (Nat.le_trans hk hn), scanFromD_skip_quiet _ _ _ _ _ _ (quiet_drop k hQ)]
  congr 1
  simp only [List.length_drop]; omega

def Blanks (bs : List PTok) : Prop := ∀ t ∈ bs, t.tok = .ws

theorem readDefined_id (w : PTok) (bs : List PTok) (x : String) (lx : Bool) (r : List PTok)
    (hw : w.tok = .ws) (hb : Blanks bs) :
    readDefined (w :: bs ++ ⟨.id x, lx⟩ :: r) = .ok (x, r) := by
  have ht : trimStart (w :: bs ++ ⟨.id x, lx⟩ :: r) = ⟨.id x, lx⟩ :: r := by
    have := trimStart_blanks (w :: bs) r (List.forall_mem_cons.mpr ⟨hw, hb⟩) ⟨.id x, lx⟩ rfl
    simpa using this
  unfold readDefined
  simp only [ht]
  have : (w :: bs ++ ⟨.id x, lx⟩ :: r).length ≠ (⟨.id x, lx⟩ :: r : List PTok).length := by
    simp only [List.length_cons, List.length_append]; omega
  simp only [ne_eq, this, not_false_eq_true, if_true]

theorem argDepth_plain (a : List PTok) (d : Nat)
    (h : ∀ t ∈ a, t.tok ≠ .lparen ∧ t.tok ≠ .rparen ∧ t.tok ≠ .comma) : argDepth d a = some d := by
  induction a with
  | nil => rfl
  | cons t ts ih =>
    obtain ⟨h1, h2, h3⟩ := h t (by simp)
    rw [argDepth]
    split
    · exact absurd ‹_› h1
    · exact absurd ‹_› h2
    · exact absurd ‹_› h3
    · exact ih (fun x hx => h x (by simp [hx]))

theorem trimEnd_blanks (x : PTok) (bs : List PTok) (hx : x.tok.isBlank = false) (hb : Blanks bs) :
    trimEnd (x :: bs) = [x] := by
  unfold trimEnd
  have h1 : (x :: bs).reverse = bs.reverse ++ x :: [] := by simp
  have h2 := trimStart_blanks bs.reverse [] (fun t ht => hb t (List.mem_reverse.mp ht)) x hx
  unfold trimStart at h2
  rw [h1, h2]; rfl

theorem readDefined_paren (bs1 bs2 bs3 : List PTok) (x : String) (l1 l2 l3 : Bool) (r : List PTok)
    (h1 : Blanks bs1) (h2 : Blanks bs2) (h3 : Blanks bs3) :
    readDefined (bs1 ++ ⟨.lparen, l1⟩ :: bs2 ++ ⟨.id x, l2⟩ :: bs3 ++ ⟨.rparen, l3⟩ :: r) = .ok (x, r) := by
  have harg : IsArg (bs2 ++ ⟨.id x, l2⟩ :: bs3) := by
    refine argDepth_plain _ 0 fun t ht => ?_
    rcases List.mem_append.mp ht with h | h
    · simp [h2 t h]
    · rcases List.mem_cons.mp h with rfl | h
      · simp
      · simp [h3 t h]
  have htrim : trim (bs2 ++ ⟨.id x, l2⟩ :: bs3) = [⟨.id x, l2⟩] := by
    unfold trim
    rw [trimStart_blanks bs2 bs3 h2 ⟨.id x, l2⟩ rfl]
    exact trimEnd_blanks _ _ rfl h3
  -- the operand is the one-argument list `( X )` of a macro called `defined`
  have e0 : bs1 ++ ⟨.lparen, l1⟩ :: bs2 ++ ⟨.id x, l2⟩ :: bs3 ++ ⟨.rparen, l3⟩ :: r =
      bs1 ++ ⟨.lparen, l1⟩ :: (joinArgs [bs2 ++ ⟨.id x, l2⟩ :: bs3] ++ ⟨.rparen, l3⟩ :: r) := by simp [joinArgs]
  rw [e0]
  unfold readDefined splitArgs
  rw [trimStart_blanks bs1 _ h1 ⟨.lparen, l1⟩ rfl, trimStartAll_blanks bs1 _ h1 ⟨.lparen, l1⟩ rfl]
  simp only [scanArgs_join [bs2 ++ ⟨.id x, l2⟩ :: bs3] (by simp) (fun a ha => List.mem_singleton.mp ha ▸ harg) l3 r [],
    List.map, htrim, List.nil_append]

/-- body of an object-like macro the theorem covers: no identifier, no `Concat`, no `MacroArg` -/
def plainBody (ts : List PTok) : Bool :=
  ts.all (fun t => match t.tok with | .id _ => false | .concat => false | .arg _ => false | _ => true)

theorem noIds_of_plain (ts : List PTok) (h : plainBody ts = true) : noIds ts = true := by
  simp only [plainBody, noIds, List.all_eq_true] at h ⊢
  intro t ht
  have := h t ht
  revert this
  cases t.tok <;> intro this <;> first | rfl | exact this

theorem noArg_of_plain (ts : List PTok) (h : plainBody ts = true) : ∀ t ∈ ts, ∀ i, t.tok ≠ .arg i := by
  simp only [plainBody, List.all_eq_true] at h
  intro t ht i hk
  have := h t ht
  simp [hk] at this

/-- `Res env R R'`: the `#if` line `R` (after `trim_whitespace`) is a sequence of quiet runs, `defined`
    operators and object-like macros with identifier-free bodies; `R'` is what replacement must produce -/
inductive Res (env : List Entry) : List PTok → List PTok → Prop
  | done (a : List PTok) (ha : Quiet env a) : Res env a a
  | definedId (a bs r r' : List PTok) (x : String) (ld lx : Bool) (w : PTok)
      (ha : Quiet env a) (hw : w.tok = .ws) (hb : Blanks bs) (hr : Res env r r') :
      Res env (a ++ ⟨.id "defined", ld⟩ :: (w :: bs ++ ⟨.id x, lx⟩ :: r))
        (a ++ definedTok (isDefinedIn env x) :: r')
  | definedParen (a bs1 bs2 bs3 r r' : List PTok) (x : String) (ld l1 l2 l3 : Bool)
      (ha : Quiet env a) (h1 : Blanks bs1) (h2 : Blanks bs2) (h3 : Blanks bs3) (hr : Res env r r') :
      Res env (a ++ ⟨.id "defined", ld⟩ :: (bs1 ++ ⟨.lparen, l1⟩ :: bs2 ++ ⟨.id x, l2⟩ :: bs3 ++ ⟨.rparen, l3⟩ :: r))
        (a ++ definedTok (isDefinedIn env x) :: r')
  | objMacro (a r r' : List PTok) (pre post : List Entry) (m : Macro) (l : Bool)
      (ha : Quiet env a) (henv : env = pre ++ ⟨m, false⟩ :: post) (hpre : ∀ e ∈ pre, e.m.name ≠ m.name)
      (hobj : m.isFunction = false) (hbody : plainBody m.body = true) (hn : m.name ≠ "defined")
      (hr : Res env r r') :
      Res env (a ++ ⟨.id m.name, l⟩ :: r) (a ++ (m.body ++ r'))

theorem quiet_definedTok (env : List Entry) (b : Bool) : Quiet env [definedTok b] := by
  intro t ht
  rw [List.mem_singleton.mp ht]
  exact ⟨by unfold InertTok definedTok; simp, by unfold definedTok; simp⟩

/-! One iteration behind a quiet prefix `Q`: the tokens are `Q ++ t :: (mid ++ r)`, where `t :: mid` is what the
    iteration replaces by `out`. -/

theorem drop_step (Q : List PTok) (t : PTok) (X : List PTok) : (Q ++ t :: X).drop (Q.length + 1) = X := by
  rw [show Q ++ t :: X = (Q ++ [t]) ++ X by simp, ← List.length_singleton (a := t), ← List.length_append, List.drop_left]

theorem splice_step (Q mid r out : List PTok) (t : PTok) :
    splice (Q ++ t :: (mid ++ r)) Q.length ((Q ++ t :: (mid ++ r)).length - r.length) out = (Q ++ out) ++ r := by
  have := splice_middle Q (t :: mid) r out
  rwa [List.append_assoc, List.cons_append] at this

/-- the `defined` step: the operator with an operand `opnd` that `readDefined` accepts becomes the `1`/`0` token -/
theorem topLoop_defined (env : List Entry) (Q opnd r : List PTok) (x : String) (ld : Bool) (n k : Nat)
    (l : Option Nat) (hQ : Quiet env Q) (hk : k ≤ n) (hn : n ≤ Q.length)
    (hrd : readDefined (opnd ++ r) = .ok (x, r)) :
    topLoop env (Q ++ ⟨.id "defined", ld⟩ :: (opnd ++ r)) ⟨n, k, l⟩ =
      topLoop env ((Q ++ [definedTok (isDefinedIn env x)]) ++ r)
        ⟨(Q ++ [definedTok (isDefinedIn env x)]).length, (Q ++ [definedTok (isDefinedIn env x)]).length, none⟩ := by
  have hlen : (Q ++ ⟨.id "defined", ld⟩ :: (opnd ++ r)).length = Q.length + 1 + (opnd.length + r.length) := by
    simp only [List.length_append, List.length_cons]; omega
  have hf : findSingleD (Q ++ ⟨.id "defined", ld⟩ :: (opnd ++ r)) ⟨n, k, l⟩ env = .ok (.defined Q.length) := by
    rw [findSingleD_reach env Q _ n k l hQ hk hn]
    simp [scanFromD, hn]
  rw [topLoop_defined_step env _ ⟨n, k, l⟩ Q.length x r (by simp only [hlen]; omega) hf
      (by rw [drop_step]; exact hrd) (by simp only [hlen]; omega), splice_step, List.length_append]
  rfl

/-- the macro step: an object-like macro with a plain body is replaced by its body -/
theorem topLoop_objMacro (env : List Entry) (Q r : List PTok) (pre post : List Entry) (m : Macro) (lm : Bool)
    (n k : Nat) (l : Option Nat) (hQ : Quiet env Q) (hk : k ≤ n) (hn : n ≤ Q.length)
    (henv : env = pre ++ ⟨m, false⟩ :: post) (hpre : ∀ e ∈ pre, e.m.name ≠ m.name)
    (hobj : m.isFunction = false) (hbody : plainBody m.body = true) (hn' : m.name ≠ "defined") :
    topLoop env (Q ++ ⟨.id m.name, lm⟩ :: r) ⟨n, k, l⟩ =
      topLoop env ((Q ++ m.body) ++ r) ⟨(Q ++ m.body).length, Q.length, none⟩ := by
  let toks := Q ++ ⟨.id m.name, lm⟩ :: r
  have hlen : toks.length = Q.length + 1 + r.length := by
    simp only [toks, List.length_append, List.length_cons]; omega
  have hmm : matchMacro toks Q.length m.name ⟨n, k, l⟩ 0 env = some pre.length := by
    rw [henv]
    simpa using matchMacro_object toks Q.length ⟨n, k, l⟩ 0 pre post m hpre hobj hn
  have hf : findSingleD toks ⟨n, k, l⟩ env = .ok (.user pre.length Q.length) := by
    show findSingleD (Q ++ _) _ _ = _
    rw [findSingleD_reach env Q _ n k l hQ hk hn]
    simp only [scanFromD, hn', and_false, if_false]
    show (match matchMacro toks Q.length m.name ⟨n, k, l⟩ 0 env with
      | some mi => Except.ok (FoundD.user mi Q.length)
      | none => _) = _
    rw [hmm]
  have hstep := topLoop_user_step env toks ⟨n, k, l⟩ pre.length Q.length ⟨m, false⟩ r
    [] [] m.body m.body (by simp only [hlen]; omega) hf (by rw [henv]; simp)
    (by rw [drop_step]; simp [readArgs, hobj]) rfl
    (substitute_noargs m.body [] (noArg_of_plain m.body hbody)) rfl
    (applyLoop_inert _ _ _ (Nat.le_refl _)
      (by simpa [SearchPos.start] using inert_of_noIds _ m.body (noIds_of_plain m.body hbody)))
    (by simp only [hlen]; omega) (by simp only [hlen]; omega)
  have hsp := splice_step Q [] r m.body ⟨.id m.name, lm⟩
  rw [List.nil_append] at hsp
  show topLoop env toks _ = _
  rw [hstep, hsp, List.length_append]
  simp only [hobj, Bool.false_eq_true, if_false]

/-- **the loop computes `R'`**, behind any quiet prefix `Q` with `early ≤ next` inside it -/
theorem topLoop_res (env : List Entry) (R R' : List PTok) (h : Res env R R') :
    ∀ (Q : List PTok) (n k : Nat) (l : Option Nat), Quiet env Q → k ≤ n → n ≤ Q.length →
      topLoop env (Q ++ R) ⟨n, k, l⟩ = .ok (Q ++ R') := by
  induction h with
  | done a ha =>
    intro Q n k l hQ hk hn
    apply topLoop_none
    have := findSingleD_reach env (Q ++ a) [] n k l (quiet_append hQ ha) hk (by rw [List.length_append]; omega)
    rw [List.append_nil] at this
    rw [this]; rfl
  | definedId a bs r r' x ld lx w ha hw hb _ ih =>
    intro Q n k l hQ hk hn
    -- the quiet run `a` joins the prefix; behind the step the hypothesis applies at the prefix `Q ++ a ++ [1|0]`
    have e : w :: bs ++ ⟨.id x, lx⟩ :: r = (w :: bs ++ [⟨.id x, lx⟩]) ++ r := by simp
    rw [← List.append_assoc, e, topLoop_defined env (Q ++ a) _ r x ld n k l (quiet_append hQ ha) hk
      (by rw [List.length_append]; omega) (e ▸ readDefined_id w bs x lx r hw hb),
      ih _ _ _ none (quiet_append (quiet_append hQ ha) (quiet_definedTok env _)) (Nat.le_refl _) (Nat.le_refl _)]
    simp only [List.append_assoc, List.singleton_append]
  | definedParen a bs1 bs2 bs3 r r' x ld l1 l2 l3 ha h1 h2 h3 _ ih =>
    intro Q n k l hQ hk hn
    have e : bs1 ++ ⟨.lparen, l1⟩ :: bs2 ++ ⟨.id x, l2⟩ :: bs3 ++ ⟨.rparen, l3⟩ :: r =
        (bs1 ++ ⟨.lparen, l1⟩ :: bs2 ++ ⟨.id x, l2⟩ :: bs3 ++ [⟨.rparen, l3⟩]) ++ r := by simp
    rw [← List.append_assoc, e, topLoop_defined env (Q ++ a) _ r x ld n k l (quiet_append hQ ha) hk
      (by rw [List.length_append]; omega) (e ▸ readDefined_paren bs1 bs2 bs3 x l1 l2 l3 r h1 h2 h3),
      ih _ _ _ none (quiet_append (quiet_append hQ ha) (quiet_definedTok env _)) (Nat.le_refl _) (Nat.le_refl _)]
    simp only [List.append_assoc, List.singleton_append]
  | objMacro a r r' pre post m lm ha henv hpre hobj hbody hn' _ ih =>
    intro Q n k l hQ hk hn
    rw [← List.append_assoc, topLoop_objMacro env (Q ++ a) r pre post m lm n k l (quiet_append hQ ha) hk
      (by rw [List.length_append]; omega) henv hpre hobj hbody hn',
      ih _ _ _ none (quiet_append (quiet_append hQ ha) (quiet_of_noIds env _ (noIds_of_plain m.body hbody)))
        (by rw [List.length_append (as := Q ++ a)]; omega) (Nat.le_refl _)]
    simp only [List.append_assoc]

/-- `apply_macros(line, macros, apply_defined = true)` returns `R'` -/
theorem applyMacrosD_res (ms : List Macro) (R R' : List PTok) (h : Res (ms.map (⟨·, false⟩)) R R') :
    applyMacrosD ms R = .ok R' := by
  have := topLoop_res _ R R' h [] 0 0 none (fun _ h => by cases h) (Nat.le_refl _) (Nat.le_refl _)
  simpa [applyMacrosD, SearchPos.start] using this

open RsslVerif.Lemmas.CondSubst RsslVerif.Spec.CPre

/-- the macro table as `Model.CondExpr` sees it: names with the parser's view of the bodies -/
def cenv (env : List Entry) : Macros := env.map (fun e => (e.m.name, condToks e.m.body))

theorem condToks_append (a b : List PTok) : condToks (a ++ b) = condToks a ++ condToks b := by
  simp [condToks, List.filterMap_append]

theorem condToks_cons (t : PTok) (r : List PTok) :
    condToks (t :: r) = (match toCTok t.tok with | some c => [c] | none => []) ++ condToks r := by
  simp only [condToks, List.filterMap_cons]
  cases toCTok t.tok <;> rfl

theorem condToks_blanks (bs : List PTok) (h : Blanks bs) : condToks bs = [] := by
  induction bs with
  | nil => rfl
  | cons t ts ih =>
    rw [condToks_cons, ih (fun x hx => h x (by simp [hx])), h t (by simp)]
    rfl

theorem ite_ne {α : Type} {c : Prop} [Decidable c] {a b v : α} (ha : a ≠ v) (hb : b ≠ v) :
    (if c then a else b) ≠ v := by
  split <;> assumption

/-- no punctuation or keyword spelling is handed to the condition parser as an identifier -/
theorem toCTok_punct (s x : String) : toCTok (.punct s) ≠ some (.Id x) := by
  simp only [toCTok, ne_eq, Option.some.injEq]
  repeat' apply ite_ne
  all_goals exact CTok.noConfusion

/-- an integer spelling becomes a literal or `Other`, never an identifier -/
theorem toCTok_int (s x : String) : toCTok (.int s) ≠ some (.Id x) := by
  simp only [toCTok]
  cases intOfSpelling s with
  | none => simp
  | some p =>
    obtain ⟨n, u⟩ := p
    simp only []
    split
    · cases u <;> simp
    · simp

theorem toCTok_id (tk : Tok) (x : String) (h : toCTok tk = some (.Id x)) : tk = .id x := by
  cases tk with
  | id s => simp [toCTok] at h; rw [h]
  | int s => exact absurd h (toCTok_int s x)
  | punct s => exact absurd h (toCTok_punct s x)
  | _ => simp [toCTok] at h

theorem lookup_cenv_none (env : List Entry) (x : String) (h : ∀ e ∈ env, e.m.name ≠ x) :
    Macros.lookup (cenv env) x = none := by
  induction env with
  | nil => rfl
  | cons e es ih =>
    have he : e.m.name ≠ x := h e (by simp)
    simp only [cenv, List.map_cons, Macros.lookup]
    have : (e.m.name == x) = false := by simpa using he
    simp only [this]
    exact ih (fun y hy => h y (by simp [hy]))

theorem lookup_cenv_first (pre post : List Entry) (m : Macro) (hpre : ∀ e ∈ pre, e.m.name ≠ m.name) :
    Macros.lookup (cenv (pre ++ ⟨m, false⟩ :: post)) m.name = some (condToks m.body) := by
  induction pre with
  | nil => simp [cenv, Macros.lookup]
  | cons e es ih =>
    have he : e.m.name ≠ m.name := hpre e (by simp)
    simp only [cenv, List.map_cons, List.cons_append, Macros.lookup]
    have : (e.m.name == m.name) = false := by simpa using he
    simp only [this]
    exact ih (fun y hy => hpre y (by simp [hy]))

theorem isDefined_cenv (env : List Entry) (x : String) :
    Macros.isDefined (cenv env) x = isDefinedIn env x := by
  simp [Macros.isDefined, cenv, isDefinedIn, List.any_map, Function.comp_def]

theorem subst_quiet (env : List Entry) (b : Bool) (a : List PTok) (ha : Quiet env a) :
    Seg (cenv env) b (condToks a) (condToks a) := by
  induction a with
  | nil => exact Seg.nil
  | cons t ts ih =>
    obtain ⟨hin, hnd⟩ := ha t (by simp)
    rw [condToks_cons]
    refine Seg.append ?_ (ih (fun x hx => ha x (by simp [hx])))
    cases hc : toCTok t.tok with
    | none => exact Seg.nil
    | some c =>
      by_cases hid : ∃ x, c = .Id x
      · obtain ⟨x, rfl⟩ := hid
        have htk := toCTok_id _ _ hc
        have hx : x ≠ "defined" := by intro h; subst h; exact hnd htk
        unfold InertTok at hin
        simp only [htk] at hin
        simpa [lookup_cenv_none env x hin] using Seg.ident (m := cenv env) (b := b) (x := x) (by simp [hx])
      · exact Seg.tok (fun x hx => hid ⟨x, hx⟩)

theorem condToks_definedTok (b : Bool) : condToks [definedTok b] = [.LiteralInt (b2u b)] := by
  cases b <;> decide

theorem condToks_id_cons (x : String) (l : Bool) (r : List PTok) :
    condToks (⟨.id x, l⟩ :: r) = .Id x :: condToks r := rfl

theorem condToks_skip {bs : List PTok} (h : Blanks bs) (X : List PTok) : condToks (bs ++ X) = condToks X := by
  rw [condToks_append, condToks_blanks bs h]; rfl

/-- **the simple substitution model computes the CTok image of `R'`** -/
theorem subst_res (env : List Entry) (R R' : List PTok) (h : Res env R R') :
    Seg (cenv env) true (condToks R) (condToks R') := by
  have hout : ∀ (a r' : List PTok) (x : String), condToks (a ++ definedTok (isDefinedIn env x) :: r') =
      condToks a ++ ([.LiteralInt (b2u ((cenv env).isDefined x))] ++ condToks r') := by
    intro a r' x
    rw [condToks_append, ← List.singleton_append, condToks_append, condToks_definedTok, isDefined_cenv]
  induction h with
  | done a ha => exact subst_quiet env true a ha
  | definedId a bs r r' x ld lx w ha hw hb _ ih =>
    rw [condToks_append, condToks_id_cons, show w :: bs ++ ⟨.id x, lx⟩ :: r = (w :: bs) ++ ⟨.id x, lx⟩ :: r from rfl,
      condToks_skip (List.forall_mem_cons.mpr ⟨hw, hb⟩), condToks_id_cons, hout]
    exact (subst_quiet env true a ha).append ((Seg.definedId x).append ih)
  | definedParen a bs1 bs2 bs3 r r' x ld l1 l2 l3 ha h1 h2 h3 _ ih =>
    simp only [List.append_assoc, List.cons_append]
    rw [condToks_append, condToks_id_cons, condToks_skip h1, condToks_cons, condToks_skip h2, condToks_id_cons,
      condToks_skip h3, condToks_cons, hout]
    exact (subst_quiet env true a ha).append ((Seg.definedParen x).append ih)
  | objMacro a r r' pre post m lm ha henv hpre hobj hbody hn _ ih =>
    have hs := Seg.ident (m := cenv env) (b := true) (x := m.name) (by simp [hn])
    rw [henv, lookup_cenv_first pre post m hpre, ← henv] at hs
    rw [condToks_append, condToks_id_cons, condToks_append, condToks_append]
    exact (subst_quiet env true a ha).append (hs.append ih)

/-- the composed model evaluates a covered line like the simple model of `Model.CondExpr` -/
theorem condD_eq_condValue (ms : List Macro) (R R' : List PTok)
    (h : Res (ms.map (⟨·, false⟩)) (trim R) R') :
    condD ms R =
      match condValue (cenv (ms.map (⟨·, false⟩))) (condToks (trim R)) with
      | .ok b => .ok b
      | .error _ => .error .failedToParseIfCondition := by
  unfold condD condValue
  rw [applyMacrosD_res ms _ _ h, (subst_res _ _ _ h).run]
  simp only []
  cases parseCond (condToks R') <;> rfl

/-- Non-vacuity: the line `A == 5 && defined F && defined ( X ) && ! defined U` with `A` ↦ `5`, a function-like
    `F(x)` ↦ `x + G`, and `X` ↦ `Y` (an identifier body, never used as an operand) is covered. -/
def exMacros : List Macro :=
  [⟨"A", false, 0, [⟨.int "5", true⟩]⟩,
   ⟨"F", true, 1, [⟨.arg 0, true⟩, ⟨.punct "+", true⟩, ⟨.id "G", true⟩]⟩,
   ⟨"X", false, 0, [⟨.id "Y", true⟩]⟩]

def W : PTok := ⟨.ws, true⟩
def I (s : String) : PTok := ⟨.id s, true⟩
def Pn (s : String) : PTok := ⟨.punct s, true⟩

def exLine : List PTok :=
  [I "A", W, Pn "==", W, ⟨.int "5", true⟩, W, Pn "&&", W, I "defined", W, I "F", W, Pn "&&", W,
   I "defined", W, ⟨.lparen, true⟩, W, I "X", W, ⟨.rparen, true⟩, W, Pn "&&", W, Pn "!", W, I "defined", W, W, I "U"]

def exOut : List PTok :=
  [⟨.int "5", true⟩, W, Pn "==", W, ⟨.int "5", true⟩, W, Pn "&&", W, definedTok true, W, Pn "&&", W,
   definedTok true, W, Pn "&&", W, Pn "!", W, definedTok false]

theorem exRes : Res (exMacros.map (⟨·, false⟩)) exLine exOut := by
  have q : ∀ a : List PTok, noIds a = true → Quiet (exMacros.map (⟨·, false⟩)) a :=
    fun a h => quiet_of_noIds _ a h
  have h4 : Res (exMacros.map (⟨·, false⟩)) [] [] := Res.done [] (q [] rfl)
  have bW : Blanks [W] := fun t ht => by rw [List.mem_singleton.mp ht]; rfl
  have h3 := Res.definedId (env := exMacros.map (⟨·, false⟩)) [W, Pn "&&", W, Pn "!", W] [W] [] [] "U" true true W
    (q _ (by decide)) rfl bW h4
  have h2 := Res.definedParen (env := exMacros.map (⟨·, false⟩)) [W, Pn "&&", W] [W] [W] [W] _ _ "X" true true true true
    (q _ (by decide)) bW bW bW h3
  have h1 := Res.definedId (env := exMacros.map (⟨·, false⟩)) [W, Pn "==", W, ⟨.int "5", true⟩, W, Pn "&&", W] [] _ _
    "F" true true W (q _ (by decide)) rfl (by intro t ht; cases ht) h2
  -- `A` heads the table: with `pre = []`, the macro and `post` are read off `henv`
  have h0 := Res.objMacro (env := exMacros.map (⟨·, false⟩)) [] _ _ [] _ _ true (q [] rfl) rfl
    (by intro e he; cases he) rfl (by decide) (by decide) h1
  exact h0

end RsslVerif.Lemmas.CondMacro

namespace RsslVerif.Lemmas.CondFile
open RsslVerif.Model.Macro RsslVerif.Model.CondFile RsslVerif.Lemmas.CondMacro

/-- a line without identifiers is one quiet run -/
theorem topLoop_noIds (env : List Entry) (toks : List PTok) (h : noIds toks = true) :
    topLoop env toks SearchPos.start = .ok toks :=
  topLoop_res env toks toks (.done toks (quiet_of_noIds env toks h)) [] 0 0 none (fun _ h => by cases h)
    (Nat.le_refl _) (Nat.le_refl _)

end RsslVerif.Lemmas.CondFile
