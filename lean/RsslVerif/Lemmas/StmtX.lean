import RsslVerif.Lemmas.ElabSoundX
import RsslVerif.Lemmas.Basics
import RsslVerif.Spec.ElabX
/-! Lemmas for C03, statements: the typing judgment and the typed-statement predicates are monotone in the environment
(registering more variables keeps everything typed); initialisers, definitions and statements elaborate to typed ones.
Core Lean only. -/
namespace RsslVerif.Lemmas.StmtX
open RsslVerif.Gen.RankTable RsslVerif.Gen.TypingTables RsslVerif.Model.Conv RsslVerif.Model.Overload
open RsslVerif.Model.IrTyping (FuncSig opReturn boolOf)
open RsslVerif.Model.Elab (Err)
open RsslVerif.Model.IrTypingX RsslVerif.Model.ElabX RsslVerif.Model.StmtX RsslVerif.Spec.ElabX
open RsslVerif.Lemmas.ElabConv RsslVerif.Lemmas.ElabX RsslVerif.Lemmas.ElabFormsX RsslVerif.Lemmas.ElabExactX
open RsslVerif.Lemmas.ElabSoundX

theorem extends_refl (Γ : Env) : Extends Γ Γ := ⟨rfl, rfl, rfl, [], by simp⟩

theorem extends_trans {Γ1 Γ2 Γ3 : Env} (h12 : Extends Γ1 Γ2) (h23 : Extends Γ2 Γ3) : Extends Γ1 Γ3 := by
  obtain ⟨f1, o1, r1, e1, v1⟩ := h12
  obtain ⟨f2, o2, r2, e2, v2⟩ := h23
  exact ⟨f2.trans f1, o2.trans o1, r2.trans r1, e1 ++ e2, by rw [v2, v1, List.append_assoc]⟩

theorem extends_popScope (Γ : Env) (m : Nat) : Extends Γ (popScope Γ m) := ⟨rfl, rfl, rfl, [], by simp [popScope]⟩

theorem extends_of_popScope (Γ : Env) (m : Nat) : Extends (popScope Γ m) Γ := ⟨rfl, rfl, rfl, [], by simp [popScope]⟩

theorem extends_pushVar (Γ : Env) (t : Ty) : Extends Γ (pushVar Γ t) := ⟨rfl, rfl, rfl, [t], by simp [pushVar]⟩

theorem hasType_mono {Γ Γ' : Env} (hx : Extends Γ Γ') : ∀ (e : IExpr) (τ : ETy), HasType Γ e τ → HasType Γ' e τ :=
  fun _ _ h =>
  have ho : Γ'.others = Γ.others := hx.2.1
  HasType.rec (motive_1 := fun e τ _ => HasType Γ' e τ) (motive_2 := fun as ts _ => HasArgs Γ' as ts)
    (lit := .lit)
    (var := fun hv => by
      obtain ⟨_, _, _, ext, hvars⟩ := hx
      exact .var (by rw [hvars]; exact Basics.getElem?_append_some ext hv))
    (tern := fun _ _ _ hl ihc iha ihb => .tern ihc iha ihb hl)
    (seq := fun _ _ iha ihb => .seq iha ihb)
    (call := fun hf _ iha => .call (by rw [hx.1]; exact hf) iha)
    (cast := fun _ ih => .cast ih)
    (op := fun _ hr iha => .op iha hr)
    (swizzleS := fun _ hl hn h4 hb ih => .swizzleS ih hl hn h4 hb)
    (swizzleV := fun _ hl hn h4 hb ih => .swizzleV ih hl hn h4 hb)
    (mswizzle := fun _ hl hn h4 hb ih => .mswizzle ih hl hn h4 hb)
    (indexV := fun _ _ hl iha ihi => .indexV iha ihi hl)
    (indexM := fun _ _ hl iha ihi => .indexM iha ihi hl)
    (indexA := fun _ _ hl ho' iha ihi => .indexA iha ihi hl (by rw [ho]; exact ho'))
    (indexR := fun _ _ hl ho' hr iha ihi => .indexR iha ihi hl (by rw [ho]; exact ho') hr)
    (member := fun _ hl ho' hm ih => .member ih hl (by rw [ho]; exact ho') hm)
    (ctor := fun _ hs hok hsum iha => .ctor iha hs hok hsum)
    (nil := .nil)
    (cons := fun _ _ ihe ihr => .cons ihe ihr)
    h

theorem hasArgs_mono {Γ Γ' : Env} (hx : Extends Γ Γ') : ∀ (as : IArgs) (ts : List ETy), HasArgs Γ as ts → HasArgs Γ' as ts
  | .nil, _, .nil => .nil
  | .cons e r, _, .cons he hr => .cons (hasType_mono hx e _ he) (hasArgs_mono hx r _ hr)

theorem typed_mono {Γ Γ' : Env} (hx : Extends Γ Γ') {e : IExpr} (h : ∃ τ, HasType Γ e τ) : ∃ τ, HasType Γ' e τ := by
  obtain ⟨τ, h⟩ := h; exact ⟨τ, hasType_mono hx e τ h⟩

mutual
theorem initTyped_mono {Γ Γ' : Env} (hx : Extends Γ Γ') : ∀ (i : IInit) (t : Ty), InitTyped Γ t i → InitTyped Γ' t i
  | .expr e, t, h => by
    simp only [InitTyped] at h ⊢
    obtain ⟨τ, h1, h2⟩ := h
    exact ⟨τ, hasType_mono hx e τ h1, h2⟩
  | .agg items, t, h => by
    simp only [InitTyped] at h ⊢
    rw [hx.2.1]
    generalize t.layer = l at h ⊢
    cases l with
    | vector s n => exact initsSame_mono hx items _ _ h
    | other k =>
      simp only at h ⊢
      generalize Γ.others[k]? = o at h ⊢
      cases o with
      | none => exact h.elim
      | some d =>
        cases d with
        | array elem len => exact initsSame_mono hx items _ _ h
        | struct ms => exact initsZip_mono hx items _ h
        | void => exact h.elim
        | object => exact h.elim
        | resource _ _ => exact h.elim
    | scalar _ => exact h.elim
    | matrix _ _ _ => exact h.elim
    | enum _ => exact h.elim
theorem initsSame_mono {Γ Γ' : Env} (hx : Extends Γ Γ') : ∀ (is : IInits) (t : Ty) (n : Nat),
    InitsSame Γ t n is → InitsSame Γ' t n is
  | .nil, t, 0, _ => by simp [InitsSame]
  | .nil, t, n + 1, h => by simp [InitsSame] at h
  | .cons i r, t, 0, h => by simp [InitsSame] at h
  | .cons i r, t, n + 1, h => by
    simp only [InitsSame] at h ⊢
    exact ⟨initTyped_mono hx i t h.1, initsSame_mono hx r t n h.2⟩
theorem initsZip_mono {Γ Γ' : Env} (hx : Extends Γ Γ') : ∀ (is : IInits) (ts : List Ty),
    InitsZip Γ ts is → InitsZip Γ' ts is
  | .nil, [], _ => by simp [InitsZip]
  | .nil, _ :: _, h => by simp [InitsZip] at h
  | .cons i r, [], h => by simp [InitsZip] at h
  | .cons i r, t :: ts, h => by
    simp only [InitsZip] at h ⊢
    exact ⟨initTyped_mono hx i t h.1, initsZip_mono hx r ts h.2⟩
end

theorem declTyped_mono {Γ Γ' : Env} (hx : Extends Γ Γ') {t : Ty} {id : Nat} {init : Option IInit}
    (h : DeclTyped Γ t id init) : DeclTyped Γ' t id init := by
  obtain ⟨hv, hi⟩ := h
  have hx' := hx
  obtain ⟨_, _, _, ext, hvars⟩ := hx'
  refine ⟨by rw [hvars]; exact Basics.getElem?_append_some ext hv, ?_⟩
  cases init with
  | none => trivial
  | some i => exact initTyped_mono hx i t hi

theorem optTyped_mono {Γ Γ' : Env} (hx : Extends Γ Γ') {e : Option IExpr} (h : OptTyped Γ e) : OptTyped Γ' e := by
  cases e with
  | none => trivial
  | some e => exact typed_mono hx h

theorem retExact_mono {Γ Γ' : Env} (hx : Extends Γ Γ') {τ : ETy} (h : RetExact Γ τ) : RetExact Γ' τ := by
  unfold RetExact at h ⊢
  rw [hx.2.2.1, hx.2.1]; exact h

mutual
theorem stmtTyped_mono {Γ Γ' : Env} (hx : Extends Γ Γ') : ∀ (s : IStmt), StmtTyped Γ s → StmtTyped Γ' s
  | .expr e, h => by simp only [StmtTyped] at h ⊢; exact typed_mono hx h
  | .ret none, h => by simp only [StmtTyped] at h ⊢; rw [hx.2.2.1]; exact h
  | .ret (some e), h => by
    simp only [StmtTyped] at h ⊢
    obtain ⟨τ, h1, h2⟩ := h
    exact ⟨τ, hasType_mono hx e τ h1, retExact_mono hx h2⟩
  | .decl t id init, h => by simp only [StmtTyped] at h ⊢; exact declTyped_mono hx h
  | .block ss, h => by simp only [StmtTyped] at h ⊢; exact stmtsTyped_mono hx ss h
  | .ifS c b, h => by simp only [StmtTyped] at h ⊢; exact ⟨typed_mono hx h.1, stmtsTyped_mono hx b h.2⟩
  | .ifElse c a b, h => by
    simp only [StmtTyped] at h ⊢
    exact ⟨typed_mono hx h.1, stmtsTyped_mono hx a h.2.1, stmtsTyped_mono hx b h.2.2⟩
  | .forS init c n b, h => by
    simp only [StmtTyped] at h ⊢
    refine ⟨?_, optTyped_mono hx h.2.1, optTyped_mono hx h.2.2.1, stmtsTyped_mono hx b h.2.2.2⟩
    cases init with
    | none => trivial
    | expr e => exact typed_mono hx h.1
    | decl t id i => exact declTyped_mono hx h.1
  | .whileS c b, h => by simp only [StmtTyped] at h ⊢; exact ⟨typed_mono hx h.1, stmtsTyped_mono hx b h.2⟩
  | .doS b c, h => by simp only [StmtTyped] at h ⊢; exact ⟨stmtsTyped_mono hx b h.1, typed_mono hx h.2⟩
  | .switchS c b, h => by simp only [StmtTyped] at h ⊢; exact ⟨typed_mono hx h.1, stmtsTyped_mono hx b h.2⟩
  | .caseLabel, _ => by simp [StmtTyped]
  | .defaultLabel, _ => by simp [StmtTyped]
  | .breakS, _ => by simp [StmtTyped]
  | .continueS, _ => by simp [StmtTyped]
  | .discardS, _ => by simp [StmtTyped]
theorem stmtsTyped_mono {Γ Γ' : Env} (hx : Extends Γ Γ') : ∀ (ss : IStmts), StmtsTyped Γ ss → StmtsTyped Γ' ss
  | .nil, _ => by simp [StmtsTyped]
  | .cons s r, h => by
    simp only [StmtsTyped] at h ⊢
    exact ⟨stmtTyped_mono hx s h.1, stmtsTyped_mono hx r h.2⟩
end

theorem stmtsTyped_append {Γ : Env} : ∀ (a b : IStmts), StmtsTyped Γ a → StmtsTyped Γ b → StmtsTyped Γ (a.append b)
  | .nil, b, _, hb => by simpa [IStmts.append] using hb
  | .cons s r, b, ha, hb => by
    simp only [IStmts.append, StmtsTyped] at ha ⊢
    exact ⟨ha.1, stmtsTyped_append r b ha.2 hb⟩

theorem stmtsTyped_one {Γ : Env} {s : IStmt} (h : StmtTyped Γ s) : StmtsTyped Γ (.one s) := by
  simp only [IStmts.one, StmtsTyped]; exact ⟨h, trivial⟩

variable {Γ : Env}

theorem elabTop_sound {dbg : Bool} {e : SExpr} {e' : IExpr} {τ : ETy}
    (h : elabTop dbg Γ e = .ok (e', τ)) : HasType Γ e' τ := by
  revert h
  fun_cases elabTop dbg Γ e <;> intro h
  · cases h
  · rename_i h1
    obtain ⟨rfl, rfl⟩ := selfCheck_type h
    exact elab_sound_any dbg e _ _ h1

theorem elabOpt_sound {dbg : Bool} {e : Option SExpr} {e' : Option IExpr} (h : elabOpt dbg Γ e = .ok e') :
    OptTyped Γ e' := by
  revert h
  fun_cases elabOpt dbg Γ e <;> intro h <;> cases h
  · trivial
  · rename_i τ1 h1; exact ⟨τ1, elabTop_sound h1⟩

theorem initTyped_congr {t t' : Ty} (hl : t.layer = t'.layer) : ∀ (i : IInit), InitTyped Γ t i → InitTyped Γ t' i
  | .expr e, h => by
    simp only [InitTyped] at h ⊢
    obtain ⟨τ, h1, h2⟩ := h
    exact ⟨τ, h1, by rw [h2]; simp [Ty.unmod, hl]⟩
  | .agg items, h => by
    simp only [InitTyped] at h ⊢
    rw [← hl]; exact h

theorem elabInitExpr_sound {dbg : Bool} {t : Ty} {e : SExpr} {e' : IExpr} (h : elabInitExpr dbg Γ t e = .ok e') :
    ∃ τ, HasType Γ e' τ ∧ τ.ty = t.unmod := by
  revert h
  fun_cases elabInitExpr dbg Γ t e <;> intro h <;> try cases h
  rename_i e1 τ1 h1 c hf
  obtain ⟨τ', ht, hty, _⟩ := applyConv_type (elabTop_sound h1) hf h
  exact ⟨τ', ht, by simpa [Ty.r] using hty⟩

theorem sinits_length_zero : ∀ (is : SInits), is.length = 0 → is = .nil
  | .nil, _ => rfl
  | .cons _ r, h => by simp [SInits.length] at h

/-- `parse_initializer` produces a typed initialiser for the type it is given, and its two list loops typed lists: one
    induction along `elabInit` / `elabInitsZip` / `elabInitsSame` -/
theorem elabInit_sound_all (dbg : Bool) :
    (∀ t i i', elabInit dbg Γ t i = .ok i' → InitTyped Γ t i') ∧
    (∀ ts is is', is.length = ts.length → elabInitsZip dbg Γ ts is = .ok is' → InitsZip Γ ts is') ∧
    ∀ t is n is', is.length = n → elabInitsSame dbg Γ t is = .ok is' → InitsSame Γ t n is' := by
  apply elabInit.mutual_induct_unfolding dbg Γ
    (fun t _ r => ∀ i', r = .ok i' → InitTyped Γ t i')
    (fun ts is r => ∀ is', is.length = ts.length → r = .ok is' → InitsZip Γ ts is')
    (fun t is r => ∀ n is', is.length = n → r = .ok is' → InitsSame Γ t n is')
  all_goals intros
  all_goals rename_i h; try cases h
  case case2 he => simp only [InitTyped]; exact elabInitExpr_sound he
  -- scalar: `{ x }` is read as `x`
  case case3 hl _ ih i' => exact initTyped_congr (by simp [hl]) i' (ih i' h)
  -- a vector, an array, a struct: one item per component
  case case7 n hl hlen is his ih => simp only [InitTyped, hl]; exact ih n is (by simpa using hlen) his
  case case10 hl _ len ho hlen is his ih => simp only [InitTyped, hl, ho]; exact ih len is (by simpa using hlen) his
  case case13 hl _ ho hlen is his ih => simp only [InitTyped, hl, ho]; exact ih is (by simpa using hlen) his
  -- the list functions come un-rewritten: their equations are put in by hand
  case case17 hi _ _ _ | case22 hi _ _ _ _ => simp only [elabInitsZip, elabInitsSame, hi] at h; cases h
  case case18 hi _ hr _ _ _ _ | case23 hi _ hr _ _ _ _ _ =>
    simp only [elabInitsZip, elabInitsSame, hi, hr] at h; cases h
  case case19 i1 hi r1 hr ih1 ih2 _ hn =>
    simp only [elabInitsZip, hi, hr] at h; cases h
    simp only [SInits.length, List.length_cons, Nat.add_right_cancel_iff] at hn
    exact ⟨ih1 i1 hi, ih2 r1 hn hr⟩
  -- `zip` has run out of members or of items
  case case20 is ts hne _ hn =>
    cases ts <;> cases is <;> simp [SInits.length] at hn
    · simp only [elabInitsZip] at h; cases h; simp [InitsZip]
    · exact (hne _ _ _ _ rfl rfl).elim
  case case21 hn => simp [SInits.length] at hn; subst hn; simp [InitsSame]
  case case24 i1 hi r1 hr ih1 ih2 _ _ hn =>
    simp only [elabInitsSame, hi, hr] at h; cases h
    simp only [SInits.length] at hn; subst hn
    exact ⟨ih1 i1 hi, ih2 _ r1 rfl hr⟩

theorem elabInitsSame_sound (dbg : Bool) : ∀ (is : SInits) (t : Ty) (n : Nat) (is' : IInits),
    is.length = n → elabInitsSame dbg Γ t is = .ok is' → InitsSame Γ t n is' :=
  fun is t => (elabInit_sound_all dbg).2.2 t is

theorem elabDecl_sound {dbg : Bool} {t : Ty} {init : Option SInit} {i' : Option IInit} {id : Nat} {Γ' : Env}
    (h : elabDecl dbg Γ t init = .ok (i', id, Γ')) : Extends Γ Γ' ∧ DeclTyped Γ' t id i' := by
  revert h
  fun_cases elabDecl dbg Γ t init <;> intro h <;> cases h
  · exact ⟨extends_pushVar Γ t, by simp [pushVar], trivial⟩
  · rename_i i i1 hi
    exact ⟨extends_pushVar Γ t, by simp [pushVar],
      initTyped_mono (extends_pushVar Γ t) i1 t ((elabInit_sound_all dbg).1 t i i1 hi)⟩

theorem elabForInit_sound {dbg : Bool} {fi : SForInit} {fi' : IForInit} {Γ' : Env}
    (h : elabForInit dbg Γ fi = .ok (fi', Γ')) : Extends Γ Γ' ∧ ForInitTyped Γ' fi' := by
  revert h
  fun_cases elabForInit dbg Γ fi <;> intro h <;> cases h
  · exact ⟨extends_refl Γ, trivial⟩
  · rename_i τ1 h1; exact ⟨extends_refl Γ, τ1, elabTop_sound h1⟩
  · rename_i hd; exact elabDecl_sound hd

theorem convertRet_sound {e e' : IExpr} {τ : ETy} {rt : Ty} (he : HasType Γ e τ) (h : convertRet e τ rt = .ok e') :
    ∃ τ', HasType Γ e' τ' ∧ τ'.ty = rt := by
  revert h
  fun_cases convertRet e τ rt <;> intro h <;> try cases h
  rename_i c hf
  obtain ⟨τ', ht, hty, _⟩ := applyConv_type he hf h
  exact ⟨τ', ht, by simpa [Ty.r] using hty⟩

theorem elabRet_sound {dbg : Bool} {e : SExpr} {e' : IExpr} (h : elabRet dbg Γ e = .ok e') :
    ∃ τ, HasType Γ e' τ ∧ RetExact Γ τ := by
  revert h
  fun_cases elabRet dbg Γ e <;> intro h <;> try cases h
  -- in a `void` function, an expression of type `void`
  case case2 e1 τ1 h1 hr id hl hv =>
    obtain ⟨τ', h1', h2'⟩ := convertRet_sound (elabTop_sound h1) h
    exact ⟨τ', h1', by simp only [RetExact, hr]; exact ⟨id, h2', hv⟩⟩
  case case5 e1 τ1 h1 rt hr =>
    obtain ⟨τ', h1', h2'⟩ := convertRet_sound (elabTop_sound h1) h
    exact ⟨τ', h1', by simp only [RetExact, hr]; exact h2'⟩

/-- a condition typed before the body and the body, after the scope of the body has been closed -/
theorem scoped_typed {Γ Γ1 : Env} {c : IExpr} {τc : ETy} {b : IStmts} (m : Nat) (hc : HasType Γ c τc)
    (hx : Extends Γ Γ1) (ht : StmtsTyped Γ1 b) :
    Extends Γ (popScope Γ1 m) ∧ (∃ τ, HasType (popScope Γ1 m) c τ) ∧ StmtsTyped (popScope Γ1 m) b :=
  have hx' := extends_trans hx (extends_popScope Γ1 m)
  ⟨hx', typed_mono hx' ⟨τc, hc⟩, stmtsTyped_mono (extends_popScope _ _) _ ht⟩

/-- accepted statements and statement lists are well typed, in the environment that registers the variables they define:
    one induction along `elabStmt` / `elabStmts`, whose principle hands each accepting branch the sub-results it went through -/
theorem elabStmt_sound_both (dbg : Bool) :
    (∀ sc Γ s ss' Γ', elabStmt dbg sc Γ s = .ok (ss', Γ') → Extends Γ Γ' ∧ StmtsTyped Γ' ss') ∧
    ∀ Γ ss ss' Γ', elabStmts dbg Γ ss = .ok (ss', Γ') → Extends Γ Γ' ∧ StmtsTyped Γ' ss' := by
  apply elabStmt.mutual_induct_unfolding dbg
    (fun _ Γ _ r => ∀ ss' Γ', r = .ok (ss', Γ') → Extends Γ Γ' ∧ StmtsTyped Γ' ss')
    (fun Γ _ r => ∀ ss' Γ', r = .ok (ss', Γ') → Extends Γ Γ' ∧ StmtsTyped Γ' ss')
  all_goals intros
  all_goals rename_i h; try cases h
  case case1 | case43 => exact ⟨extends_refl _, by simp [StmtsTyped]⟩
  case case3 τ h1 => exact ⟨extends_refl _, stmtsTyped_one (by simp only [StmtTyped]; exact ⟨τ, elabTop_sound h1⟩)⟩
  case case5 hd =>
    obtain ⟨hx, hdt⟩ := elabDecl_sound hd
    exact ⟨hx, stmtsTyped_one (by simp only [StmtTyped]; exact hdt)⟩
  -- a block that is the body of an `if` / loop / `switch` shares its scope; any other closes its own
  case case7 hs ih => exact ih _ _ hs
  case case8 hs _ ih =>
    obtain ⟨hx, ht⟩ := ih _ _ hs
    exact ⟨extends_trans hx (extends_popScope _ _),
      stmtsTyped_one (by simp only [StmtTyped]; exact stmtsTyped_mono (extends_popScope _ _) _ ht)⟩
  -- `if`, `while`, `switch`
  case case11 Γ _ _ _ _ hc _ _ hb ih | case23 Γ _ _ _ _ hc _ _ hb ih | case29 Γ _ _ _ _ hc _ _ hb ih =>
    obtain ⟨hx, ht⟩ := ih _ _ hb
    obtain ⟨hx', h1, h2⟩ := scoped_typed Γ.vars.length (elabTop_sound hc) hx ht
    exact ⟨hx', stmtsTyped_one (by simp only [StmtTyped]; exact ⟨h1, h2⟩)⟩
  -- `if … else`: the second body is read after the scope of the first has been closed
  case case15 Γ _ _ _ _ τc hc _ Γ1 hb1 _ Γ2 hb2 ih1 ih2 =>
    obtain ⟨hx1, ht1⟩ := ih1 _ _ hb1
    obtain ⟨hx2, ht2⟩ := ih2 _ _ hb2
    have h12 : Extends Γ1 Γ2 := extends_trans (extends_popScope Γ1 Γ.vars.length) hx2
    have hxe := extends_popScope Γ2 Γ.vars.length
    have hx' := extends_trans (extends_trans hx1 h12) hxe
    exact ⟨hx', stmtsTyped_one (by
      simp only [StmtTyped]
      exact ⟨typed_mono hx' ⟨τc, elabTop_sound hc⟩, stmtsTyped_mono (extends_trans h12 hxe) _ ht1,
        stmtsTyped_mono hxe _ ht2⟩)⟩
  -- `for`
  case case20 Γ _ _ _ _ init1 Γ0 hi _ hc _ hn _ Γ1 hb ih =>
    obtain ⟨hx0, hti⟩ := elabForInit_sound hi
    obtain ⟨hx1, ht⟩ := ih _ _ hb
    have hxe := extends_popScope Γ1 Γ.vars.length
    have hx01 := extends_trans hx1 hxe
    refine ⟨extends_trans hx0 hx01, stmtsTyped_one ?_⟩
    simp only [StmtTyped]
    refine ⟨?_, optTyped_mono hx01 (elabOpt_sound hc), optTyped_mono hx01 (elabOpt_sound hn),
      stmtsTyped_mono hxe _ ht⟩
    cases init1 with
    | none => trivial
    | expr e => exact typed_mono hx01 hti
    | decl t id i => exact declTyped_mono hx01 hti
  -- `do … while`: the condition is read after the scope of the body has been closed
  case case26 Γ _ _ _ Γ1 hb _ τc hc ih =>
    obtain ⟨hx, ht⟩ := ih _ _ hb
    exact ⟨extends_trans hx (extends_popScope Γ1 Γ.vars.length), stmtsTyped_one (by
      simp only [StmtTyped]
      exact ⟨stmtsTyped_mono (extends_popScope _ _) _ ht, τc, elabTop_sound hc⟩)⟩
  case case30 | case31 | case32 => exact ⟨extends_refl _, stmtsTyped_one (by simp [StmtTyped])⟩
  case case33 hr => exact ⟨extends_refl _, stmtsTyped_one (by simp only [StmtTyped]; exact hr)⟩
  case case36 he => exact ⟨extends_refl _, stmtsTyped_one (by simp only [StmtTyped]; exact elabRet_sound he)⟩
  -- labels
  case case39 hs _ ih | case42 hs ih =>
    obtain ⟨hx, ht⟩ := ih _ _ hs
    exact ⟨hx, by simp only [StmtsTyped, StmtTyped]; exact ⟨trivial, ht⟩⟩
  -- a statement and the rest of the list
  case case46 hs _ _ hr ih1 ih2 =>
    obtain ⟨hx1, ht1⟩ := ih1 _ _ hs
    obtain ⟨hx2, ht2⟩ := ih2 _ _ hr
    exact ⟨extends_trans hx1 hx2, stmtsTyped_append _ _ (stmtsTyped_mono hx2 _ ht1) ht2⟩

/-- **Accepted statements are well typed**, in the environment that registers the variables they define. -/
theorem elabStmt_sound (dbg : Bool) : ∀ (s : SStmt) (sc : Bool) (Γ : Env) (ss' : IStmts) (Γ' : Env),
    elabStmt dbg sc Γ s = .ok (ss', Γ') → Extends Γ Γ' ∧ StmtsTyped Γ' ss' :=
  fun s sc Γ => (elabStmt_sound_both dbg).1 sc Γ s

end RsslVerif.Lemmas.StmtX
