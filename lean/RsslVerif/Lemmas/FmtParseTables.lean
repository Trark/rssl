import RsslVerif.Model.Parse
/-! Table-level facts tying `Gen.FmtTables` (formatter) to `Gen.ParseTables` (parser, lexer). -/
set_option linter.unusedSimpArgs false
namespace RsslVerif.Lemmas.FmtParseTables
open RsslVerif.Gen.FmtTables RsslVerif.Gen.ParseTables RsslVerif.Model.Format RsslVerif.Model.Parse

/-- parser level whose loop consumes a binary operator of formatter precedence `p` -/
def levelOfPrec (p : Nat) : Nat :=
  if p = 5 then 3 else if p = 6 then 4 else if p = 7 then 5 else if p = 9 then 6 else if p = 10 then 7
  else if p = 11 then 8 else if p = 12 then 9 else if p = 13 then 10 else if p = 14 then 11
  else if p = 15 then 12 else if p = 16 then 14 else if p = 17 then 15 else 0

def binLevel (op : BinOp) : Nat := levelOfPrec (binPrec op)

/-- the next token can start an operand: it is not `=`, `<`, `>` (which would extend the operator) -/
def OperandStart : List Tok → Prop
  | [] => True
  | t :: _ => t ≠ .p .Equals ∧ t.isLt = false ∧ t.isGt = false

/-- which terminators let the operator through -/
def TermOk (op : BinOp) (term : Terminator) : Prop :=
  (op = .Sequence → term = .Standard) ∧
  ((op = .RightShift ∨ op = .GreaterThan ∨ op = .GreaterEqual) → term ≠ .TypeList)

/-- the tokens on which an arm of `expr_pK::parse_op` can start -/
def opensAt : Nat → Tok → Bool
  | 3, t => t == .p .Asterix || t == .p .ForwardSlash || t == .p .Percent
  | 4, t => t == .p .Plus || t == .p .Minus
  | 5, t => t == .lt true || t == .gt true
  | 6, t => t.isLt || t.isGt
  | 7, t => t == .p .EqualsEquals || t == .p .ExclamationPointEquals
  | 8, t => t == .p .Ampersand
  | 9, t => t == .p .Hat
  | 10, t => t == .p .VerticalBar
  | 11, t => t == .p .AmpersandAmpersand
  | 12, t => t == .p .VerticalBarVerticalBar
  | 14, t => t == .p .Equals || t == .p .PlusEquals || t == .p .MinusEquals || t == .p .AsterixEquals ||
      t == .p .ForwardSlashEquals || t == .p .PercentEquals || t == .lt true || t == .gt true ||
      t == .p .AmpersandEquals || t == .p .VerticalBarEquals || t == .p .HatEquals
  | 15, t => t == .p .Comma
  | _, _ => false

theorem parseOpAt_of_head (k : Nat) (term : Terminator) (t : Tok) (ts : List Tok) (h : opensAt k t = false) :
    parseOpAt k term (t :: ts) = none := by
  unfold parseOpAt
  split
  case h_4 =>
    cases t <;> simp [opensAt, Tok.isLt, Tok.isGt] at h <;> simp [parseOp6, firstArm, matchPrefix, Tok.isLt, Tok.isGt]
  all_goals first
    | rfl
    | (simp only [opensAt, Bool.or_eq_false_iff, beq_eq_false_iff_ne, ne_eq] at h
       simp [parseOp3, parseOp4, parseOp5, parseOp7, parseOp8, parseOp9, parseOp10, parseOp11, parseOp12,
         parseOp14, parseOp15, firstArm, matchPrefix, h])

/-- does any level start on `t`? -/
def opensAny (t : Tok) : Bool := (List.range 16).any (opensAt · t)

theorem opensAt_of_opensAny {t : Tok} (h : opensAny t = false) (k : Nat) : opensAt k t = false := by
  rcases Nat.lt_or_ge k 16 with hk | hk
  · cases hb : opensAt k t with
    | false => rfl
    | true =>
      have : opensAny t = true := List.any_eq_true.mpr ⟨k, List.mem_range.mpr hk, hb⟩
      rw [h] at this; cases this
  · unfold opensAt
    split <;> first | omega | rfl

theorem parseOpAt_of_opensAny {t : Tok} (h : opensAny t = false) (k : Nat) (term : Terminator) (ts : List Tok) :
    parseOpAt k term (t :: ts) = none :=
  parseOpAt_of_head k term t ts (opensAt_of_opensAny h k)

theorem parseOpAt_nil (term : Terminator) (k : Nat) : parseOpAt k term [] = none := by
  unfold parseOpAt
  split <;> rfl

theorem parseOpAt_comma (term : Terminator) (h : term ≠ .Standard) (rest : List Tok) (k : Nat) :
    parseOpAt k term (.p .Comma :: rest) = none := by
  by_cases hk : k = 15
  · subst hk; cases term <;> first | rfl | exact absurd rfl h
  · apply parseOpAt_of_head
    unfold opensAt
    split <;> first | rfl | exact absurd rfl hk

/-- the loop of the operator's own level takes exactly the printed tokens and yields the operator: the first token
decides, except for the shift operators (the token after them must not be `=`) and the arms guarded by the terminator -/
theorem parseOpAt_own (op : BinOp) (term : Terminator) (rest : List Tok)
    (hr : OperandStart rest) (ht : TermOk op term) :
    parseOpAt (binLevel op) term (binToks op ++ rest) = some (op, rest) := by
  obtain ⟨ht1, ht2⟩ := ht
  cases op
  case Sequence => cases ht1 rfl; rfl
  case LeftShift =>
    cases rest with
    | nil => rfl
    | cons t r => simp [binLevel, levelOfPrec, binPrec, binToks, parseOpAt, parseOp5, firstArm, matchPrefix, Tok.isLt, hr.1]
  case RightShift =>
    have := ht2 (Or.inl rfl)
    cases rest with
    | nil => cases term <;> first | rfl | exact absurd rfl this
    | cons t r =>
      cases term <;> first
        | exact absurd rfl this
        | simp [binLevel, levelOfPrec, binPrec, binToks, parseOpAt, parseOp5, firstArm, matchPrefix, Tok.isGt, hr.1]
  case GreaterThan =>
    have := ht2 (Or.inr (Or.inl rfl))
    cases term <;> first | rfl | exact absurd rfl this
  case GreaterEqual =>
    have := ht2 (Or.inr (Or.inr rfl))
    cases term <;> first | rfl | exact absurd rfl this
  all_goals rfl

/-- no loop below the operator's own level takes the printed tokens: none of them starts on the first token, except
level 5 (and 6) on the `<` / `>` of `<=`, `>=`, `<<=`, `>>=`, where the following tokens reject -/
theorem parseOpAt_lower (op : BinOp) (term : Terminator) (rest : List Tok) (k : Nat) (hk : k < binLevel op) :
    parseOpAt k term (binToks op ++ rest) = none := by
  by_cases h5 : k = 5
  · subst h5
    cases op <;> first | exact absurd hk (by decide) | rfl
  by_cases h6 : k = 6
  · subst h6
    cases op <;> first | exact absurd hk (by decide) | rfl
  cases op <;> (refine parseOpAt_of_head k term _ _ ?_; revert h5 h6; revert k; decide)

/-! ## Where the formatter leaves a child unparenthesised, the parser reads that position at a level that covers it -/

/-- (precedence the formatter gives a node, parser level of the production that builds it), for every node kind:
literal / identifier, postfix forms, prefix forms (with negative literals, casts, `sizeof`), the binary operators, the
conditional.  The facts below are evaluated on this table; monotonicity of precedence ↦ level does not give them,
because precedence 16 belongs to two levels (conditional 13, assignment 14) that are treated differently. -/
def precLevels : List (Nat × Nat) :=
  [(0, 0), (2, 1), (3, 2), (5, 3), (6, 4), (7, 5), (9, 6), (10, 7), (11, 8), (12, 9), (13, 10), (14, 11), (15, 12),
   (16, 13), (16, 14), (17, 15)]

def binPrecs : List Nat := [5, 6, 7, 9, 10, 11, 12, 13, 14, 15, 16, 17]

theorem binPrec_mem (op : BinOp) : binPrec op ∈ binPrecs := by cases op <;> decide
theorem binPrec_level_mem (op : BinOp) : (binPrec op, binLevel op) ∈ precLevels := by cases op <;> decide

theorem binLevel_ge (op : BinOp) : 3 ≤ binLevel op := by cases op <;> decide
theorem binLevel_ne13 (op : BinOp) : binLevel op ≠ 13 := by cases op <;> decide

theorem unPrec_prefix {op : UnOp} (h : isPostfix op = false) : unPrec op = 3 := by
  cases op <;> first | rfl | cases h
theorem unPrec_postfix {op : UnOp} (h : isPostfix op = true) : unPrec op = 2 := by
  cases op <;> first | rfl | cases h

theorem level_le {p l : Nat} (h : (p, l) ∈ precLevels) : l ≤ 15 :=
  (by decide : ∀ pl ∈ precLevels, pl.2 ≤ 15) (p, l) h

theorem binLevel_le (op : BinOp) : binLevel op ≤ 15 := level_le (binPrec_level_mem op)

/-- operand of a prefix operator or of a cast -/
theorem pos_right3 {p l : Nat} (h : (p, l) ∈ precLevels) (hp : needParen p 3 .Right = false) : l ≤ 2 :=
  (by decide : ∀ pl ∈ precLevels, needParen pl.1 3 .Right = false → pl.2 ≤ 2) (p, l) h hp

theorem pos_prefix (op : UnOp) (hop : isPostfix op = false) {p l : Nat} (h : (p, l) ∈ precLevels)
    (hp : needParen p (unPrec op) prefixOperandSide = false) : l ≤ 2 := by
  rw [unPrec_prefix hop] at hp; exact pos_right3 h hp

/-- operand of a postfix operator, object of a subscript / member access / call, index of a subscript -/
theorem pos_postfixLike {p l : Nat} (h : (p, l) ∈ precLevels) (side : Side) (hs : side = .Left ∨ side = .Middle)
    (hp : needParen p 2 side = false) : l ≤ 1 := by
  rcases hs with rfl | rfl
  · exact (by decide : ∀ pl ∈ precLevels, needParen pl.1 2 .Left = false → pl.2 ≤ 1) (p, l) h hp
  · exact (by decide : ∀ pl ∈ precLevels, needParen pl.1 2 .Middle = false → pl.2 ≤ 1) (p, l) h hp

theorem pos_postfix (op : UnOp) (hop : isPostfix op = true) {p l : Nat} (h : (p, l) ∈ precLevels)
    (hp : needParen p (unPrec op) postfixOperandSide = false) : l ≤ 1 := by
  rw [unPrec_postfix hop] at hp; exact pos_postfixLike h _ (Or.inl rfl) hp

theorem pos_binL (op : BinOp) {p l : Nat} (h : (p, l) ∈ precLevels) (hp : needParen p (binPrec op) binLeftSide = false) :
    (binLevel op ≠ 14 → l ≤ binLevel op ∧ (l = 15 → binLevel op = 15)) ∧ (binLevel op = 14 → l ≤ 12) :=
  (by decide : ∀ q ∈ binPrecs, ∀ pl ∈ precLevels, needParen pl.1 q binLeftSide = false →
      (levelOfPrec q ≠ 14 → pl.2 ≤ levelOfPrec q ∧ (pl.2 = 15 → levelOfPrec q = 15)) ∧ (levelOfPrec q = 14 → pl.2 ≤ 12))
    _ (binPrec_mem op) (p, l) h hp

theorem pos_binR (op : BinOp) {p l : Nat} (h : (p, l) ∈ precLevels) (hp : needParen p (binPrec op) binRightSide = false) :
    (binLevel op ≠ 14 → l ≤ binLevel op - 1) ∧ (binLevel op = 14 → l ≤ 14) :=
  (by decide : ∀ q ∈ binPrecs, ∀ pl ∈ precLevels, needParen pl.1 q binRightSide = false →
      (levelOfPrec q ≠ 14 → pl.2 ≤ levelOfPrec q - 1) ∧ (levelOfPrec q = 14 → pl.2 ≤ 14))
    _ (binPrec_mem op) (p, l) h hp

theorem pos_ternC {p l : Nat} (h : (p, l) ∈ precLevels) (hp : needParen p precTernaryConditional ternCondSide = false) :
    l ≤ 12 :=
  (by decide : ∀ pl ∈ precLevels, needParen pl.1 precTernaryConditional ternCondSide = false → pl.2 ≤ 12) (p, l) h hp

theorem pos_ternA {p l : Nat} (h : (p, l) ∈ precLevels) (hp : needParen p precTernaryConditional ternTrueSide = false) :
    l ≤ 14 :=
  (by decide : ∀ pl ∈ precLevels, needParen pl.1 precTernaryConditional ternTrueSide = false → pl.2 ≤ 14) (p, l) h hp

theorem pos_ternB {p l : Nat} (h : (p, l) ∈ precLevels) (hp : needParen p precTernaryConditional ternFalseSide = false) :
    l ≤ 14 :=
  (by decide : ∀ pl ∈ precLevels, needParen pl.1 precTernaryConditional ternFalseSide = false → pl.2 ≤ 14) (p, l) h hp

/-- the positions printed with `format_subexpression(expr, 17, CommaList)`: call and attribute arguments, array sizes,
initialisers, default values -/
theorem pos_commaList {p l : Nat} (h : (p, l) ∈ precLevels) (hp : needParen p 17 .CommaList = false) : l ≤ 14 :=
  (by decide : ∀ pl ∈ precLevels, needParen pl.1 17 .CommaList = false → pl.2 ≤ 14) (p, l) h hp

/-- an expression-or-type position (`(7, CommaList)`): what is printed bare is produced below the shift level -/
theorem pos_eot {p l : Nat} (h : (p, l) ∈ precLevels) (hp : needParen p 7 .CommaList = false) : l ≤ 4 :=
  (by decide : ∀ pl ∈ precLevels, needParen pl.1 7 .CommaList = false → pl.2 ≤ 4) (p, l) h hp

theorem needParen_top_un (op : UnOp) : needParen (unPrec op) topPrec topSide = false := by cases op <;> decide
theorem needParen_top_bin (op : BinOp) : needParen (binPrec op) topPrec topSide = false := by cases op <;> decide

theorem needParen_top_lit (l : Lit) : needParen (litPrec l) topPrec topSide = false := by
  unfold litPrec; split <;> decide

/-- a literal with the sign set that prints at all prints `-` and the literal of its magnitude, and counts as negative -/
theorem litPieces_neg {kind : LitKind} {mag : Nat} {ps : List Piece} (h : litPieces ⟨kind, true, mag⟩ = some ps) :
    ∃ s, ps = [minusPiece, .t (.lit ⟨kind, false, mag⟩) s] ∧
      litPieces ⟨kind, false, mag⟩ = some [.t (.lit ⟨kind, false, mag⟩) s] ∧ litNegative ⟨kind, true, mag⟩ = true := by
  cases kind <;> simp only [litPieces, floatPieces] at h ⊢
  case IntSigned64 =>
    simp at h
    exact ⟨_, h.2.symm, rfl, rfl⟩
  case FloatUntyped | Float16 | Float32 | Float64 =>
    generalize eighths? _ _ mag = o at h ⊢
    cases o <;> cases h
    exact ⟨_, rfl, rfl, rfl⟩
  all_goals simp at h

theorem litOk_not_negative (l : Lit) (h : LitOk l = true) : litNegative l = false := by
  obtain ⟨kind, neg, mag⟩ := l
  cases neg with
  | false => rfl
  | true =>
    unfold LitOk at h
    cases hp : litPieces ⟨kind, true, mag⟩ with
    | none => rw [hp] at h; cases h
    | some ps =>
      obtain ⟨s, rfl, _⟩ := litPieces_neg hp
      rw [hp] at h; cases h

theorem litPrec_of_ok (l : Lit) (h : LitOk l = true) : litPrec l = precLiteral := by
  simp [litPrec, litOk_not_negative l h]

theorem litOk_toks (n : Lit) (h : LitOk n = true) : toks (litPiecesT n) = [.lit n] := by
  revert h
  unfold litPiecesT
  fun_cases LitOk n <;> intro h
  case case1 heq =>
    simp only [Bool.and_eq_true, beq_iff_eq] at h
    simp [heq, h.1]
  case case2 => cases h

theorem wrap_false (b : List Piece) : wrap false b = b := rfl
theorem toks_wrap_true (b : List Piece) : toks (wrap true b) = .p .LeftParen :: (toks b ++ [.p .RightParen]) := by
  simp [wrap, lp, rp, pp]

theorem toks_un_prefix (op : UnOp) (inner : List Piece) :
    toks (unPiece op :: (if startsWithSign op inner then Piece.sp :: inner else inner)) = unTok op :: toks inner := by
  split <;> simp [unPiece]

/-- a negative literal that prints is printed, at every position, as the unary minus applied to the literal of its
magnitude -/
theorem neg_literal_eq_minus (kind : LitKind) (mag : Nat) (hs : (litPieces ⟨kind, true, mag⟩).isSome = true)
    (outer : Nat) (side : Side) :
    toks (fmtSub (.lit ⟨kind, true, mag⟩) outer side) = toks (fmtSub (.un .Minus (.lit ⟨kind, false, mag⟩)) outer side) := by
  obtain ⟨ps, hps⟩ := Option.isSome_iff_exists.mp hs
  obtain ⟨s, rfl, h2, hk⟩ := litPieces_neg hps
  have e1 : litPrec ⟨kind, true, mag⟩ = 3 := by simp [litPrec, hk, precNegLiteral]
  have e2 : litPrec ⟨kind, false, mag⟩ = 0 := by simp [litPrec, litNegative, precLiteral]
  have e3 : needParen 0 3 prefixOperandSide = false := by decide
  simp only [fmtSub, e1, e2, show unPrec .Minus = 3 from rfl, show isPostfix .Minus = false from rfl, if_false,
    Bool.false_eq_true, litPiecesT, hps, h2, Option.getD_some, e3, wrap_false]
  cases needParen 3 outer side <;> simp [wrap_false, toks_wrap_true, toks_un_prefix, minusPiece, unTok, toks]

end RsslVerif.Lemmas.FmtParseTables
