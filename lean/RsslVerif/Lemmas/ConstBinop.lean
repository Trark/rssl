import RsslVerif.Spec.HlslUsualConv
/-! Finite facts about `Model.ConstBinop.commonTy` (every operator × every pair of operand shapes), decided by evaluation. -/
namespace RsslVerif.Lemmas.ConstBinop
open RsslVerif.Gen.RankTable RsslVerif.Gen.TypingTables RsslVerif.Model.ConstBinop
open RsslVerif.Spec

/-- pairs on which the pinned code does not choose the specified type (see `Thm.C13.binop_common_type_as_specified_partial`):
    an untyped integer literal next to a `bool` -/
def deviates (l r : OpShape) : Bool :=
  let one (a b : OpShape) : Bool := a = .scalar .intLiteral ∧ b = .scalar .bool
  one l r || one r l

theorem binOp_mem_all (b : BinOp) : b ∈ BinOp.all := by cases b <;> decide

theorem shape_mem_all (s : OpShape) : s ∈ OpShape.all := by
  cases s with
  | scalar s => cases s <;> decide
  | enumInt => decide
  | enumUInt => decide

theorem commonTy_table :
    ∀ op ∈ BinOp.all, ∀ l ∈ OpShape.all, ∀ r ∈ OpShape.all,
      HlslUsualConv.sameEnum l r = true → deviates l r = false → commonTy op l r = HlslUsualConv.commonTy op l r := by
  decide +kernel

/-- an enum operand next to any other operand (of another kind, or of the same enum): the specified type, no exception,
since the excluded pair holds no enum -/
theorem commonTy_enum_table :
    ∀ op ∈ BinOp.all, ∀ e ∈ [OpShape.enumInt, .enumUInt], ∀ s ∈ OpShape.all,
      HlslUsualConv.sameEnum e s = true →
      commonTy op e s = HlslUsualConv.commonTy op e s ∧ commonTy op s e = HlslUsualConv.commonTy op s e := by
  intro op hop e he s hs hsame
  have key : ∀ e ∈ [OpShape.enumInt, .enumUInt], ∀ s ∈ OpShape.all, HlslUsualConv.sameEnum e s = true →
      e ∈ OpShape.all ∧ deviates e s = false ∧ deviates s e = false ∧ HlslUsualConv.sameEnum s e = true := by decide
  obtain ⟨he', h1, h2, h3⟩ := key e he s hs hsame
  exact ⟨commonTy_table op hop e he' s hs hsame h1, commonTy_table op hop s hs e he' h3 h2⟩

/-- next to an operand that is not an enum, an enum behaves exactly as a value of its underlying type would -/
theorem commonTy_enum_underlying_table :
    ∀ op ∈ BinOp.all, ∀ e ∈ [OpShape.enumInt, .enumUInt], ∀ s ∈ OpShape.all, s.isEnum = false →
      commonTy op e s = commonTy op e.underlying s ∧ commonTy op s e = commonTy op s e.underlying := by
  decide +kernel

end RsslVerif.Lemmas.ConstBinop
