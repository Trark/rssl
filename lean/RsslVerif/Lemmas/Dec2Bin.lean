import RsslVerif.Spec.Dec2Bin
/-!
# The rounding reference against the mathematical statement (core Lean, `Nat` cross-multiplication)

With `x = N / M`, `q = chooseExp f N M`, `(A, B) = scale N M q` (so that `x / 2^q = A / B` exactly) and
`m = roundQuot A B`: `m` is the integer nearest to `A / B`, even on a tie, and `2^q` is the unit in the last place of `x`.
-/
namespace RsslVerif.Spec.Dec2Bin

theorem two_pow_pred {p : Nat} (hp : 1 ≤ p) : 2 ^ p = 2 * 2 ^ (p - 1) := by
  have : p = (p - 1) + 1 := by omega
  rw [this, Nat.pow_succ, Nat.mul_comm]; simp

theorem absDiff_mul_left (c a b : Nat) : absDiff (c * a) (c * b) = c * absDiff a b := by
  unfold absDiff
  rw [Nat.mul_add, Nat.mul_sub, Nat.mul_sub]

theorem absDiff_mul_right (c a b : Nat) : absDiff (a * c) (b * c) = absDiff a b * c := by
  rw [Nat.mul_comm a c, Nat.mul_comm b c, absDiff_mul_left, Nat.mul_comm]

theorem two_mul_absDiff (a b : Nat) : (2 * a - 2 * b) + (2 * b - 2 * a) = 2 * absDiff a b := by
  unfold absDiff; omega

/-- `roundQuot` goes up exactly when the remainder is more than half, or half with an odd quotient -/
theorem roundQuot_spec (A B : Nat) :
    ((B < 2 * (A % B) ∨ (2 * (A % B) = B ∧ A / B % 2 = 1)) ∧ roundQuot A B = A / B + 1) ∨
    (¬ (B < 2 * (A % B) ∨ (2 * (A % B) = B ∧ A / B % 2 = 1)) ∧ roundQuot A B = A / B) := by
  unfold roundQuot
  by_cases h : B < 2 * (A % B) ∨ (2 * (A % B) = B ∧ A / B % 2 = 1)
  · exact .inl ⟨h, if_pos h⟩
  · exact .inr ⟨h, if_neg h⟩

theorem roundQuot_cases (A B : Nat) : roundQuot A B = A / B ∨ roundQuot A B = A / B + 1 := by
  rcases roundQuot_spec A B with ⟨_, h⟩ | ⟨_, h⟩
  · exact .inr h
  · exact .inl h

theorem div_le_roundQuot (A B : Nat) : A / B ≤ roundQuot A B := by
  rcases roundQuot_cases A B with h | h <;> omega

theorem roundQuot_le_succ_div (A B : Nat) : roundQuot A B ≤ A / B + 1 := by
  rcases roundQuot_cases A B with h | h <;> omega

/-- round to nearest: `|A/B - m| ≤ 1/2`, written as `2A ≤ (2m+1)B` and `(2m-1)B ≤ 2A` -/
theorem roundQuot_half (A B : Nat) (hB : 0 < B) :
    2 * A ≤ 2 * (roundQuot A B * B) + B ∧ 2 * (roundQuot A B * B) ≤ 2 * A + B := by
  have hdm := Nat.div_add_mod A B
  have hr := Nat.mod_lt A hB
  have hc : A / B * B = B * (A / B) := Nat.mul_comm _ _
  rcases roundQuot_spec A B with ⟨h, e⟩ | ⟨h, e⟩ <;> rw [e]
  · rw [Nat.add_mul, Nat.one_mul]; omega
  · omega

/-- ties to even: when `A/B` is exactly halfway between two integers the even one is chosen -/
theorem roundQuot_tie_even (A B : Nat) (hB : 0 < B)
    (htie : 2 * A = 2 * (roundQuot A B * B) + B ∨ 2 * (roundQuot A B * B) = 2 * A + B) :
    roundQuot A B % 2 = 0 := by
  have hdm := Nat.div_add_mod A B
  have hr := Nat.mod_lt A hB
  have hc : A / B * B = B * (A / B) := Nat.mul_comm _ _
  rcases roundQuot_spec A B with ⟨h, e⟩ | ⟨h, e⟩ <;> rw [e] at htie ⊢
  · rw [Nat.add_mul, Nat.one_mul] at htie; omega
  · omega

theorem absDiff_roundQuot_le_half (A B : Nat) (hB : 0 < B) : 2 * absDiff A (roundQuot A B * B) ≤ B := by
  have := roundQuot_half A B hB
  unfold absDiff; omega

theorem roundQuot_even_of_half (A B : Nat) (hB : 0 < B) (h : 2 * absDiff A (roundQuot A B * B) = B) :
    roundQuot A B % 2 = 0 := by
  apply roundQuot_tie_even A B hB
  unfold absDiff at h; omega

/-- no integer `k` is closer to `A/B` than `roundQuot A B`: another integer is a whole unit away from it, and it is
at most half a unit away from `A/B` -/
theorem absDiff_roundQuot_le (A B k : Nat) (hB : 0 < B) :
    absDiff A (roundQuot A B * B) ≤ absDiff A (k * B) := by
  have hh := roundQuot_half A B hB
  generalize roundQuot A B = m at hh ⊢
  unfold absDiff
  rcases Nat.lt_trichotomy k m with h | h | h
  · have := Nat.mul_le_mul_right B (Nat.succ_le_of_lt h)
    rw [Nat.succ_mul] at this; omega
  · rw [h]; exact Nat.le_refl _
  · have := Nat.mul_le_mul_right B (Nat.succ_le_of_lt h)
    rw [Nat.succ_mul] at this; omega

theorem roundQuot_nearest (A B k : Nat) (hB : 0 < B) :
    (2 * A - 2 * (roundQuot A B * B)) + (2 * (roundQuot A B * B) - 2 * A) ≤
    (2 * A - 2 * (k * B)) + (2 * (k * B) - 2 * A) := by
  rw [two_mul_absDiff, two_mul_absDiff]
  exact Nat.mul_le_mul_left 2 (absDiff_roundQuot_le A B k hB)

theorem roundQuot_exact (m K : Nat) (hK : 0 < K) : roundQuot (m * K) K = m := by
  rcases roundQuot_spec (m * K) K with ⟨h, _⟩ | ⟨_, e⟩
  · rw [Nat.mul_mod_left] at h; omega
  · rw [e, Nat.mul_div_cancel m hK]

/-- both components of `scale` in one formula (`2^0 = 1` on the unused side) -/
theorem scale_eq (N M : Nat) (q : Int) : scale N M q = (N * 2 ^ (-q).toNat, M * 2 ^ q.toNat) := by
  unfold scale
  split
  · rename_i h
    have : (-q).toNat = 0 := Int.toNat_eq_zero.mpr (by omega)
    simp [this]
  · rename_i h
    have : q.toNat = 0 := Int.toNat_eq_zero.mpr (by omega)
    simp [this]

/-- `scale` is exact: `A / B = (N / M) / 2^q`, cross-multiplied -/
theorem scale_exact (N M : Nat) (q : Int) :
    (scale N M q).1 * (M * 2 ^ q.toNat) = N * 2 ^ (-q).toNat * (scale N M q).2 := by
  rw [scale_eq]

theorem scale_pos (N M : Nat) (q : Int) (hM : 0 < M) : 0 < (scale N M q).2 := by
  rw [scale_eq]; exact Nat.mul_pos hM (Nat.pow_pos (by omega))

theorem pow_bound_upper {N M a b u w e : Nat} (hN : N < 2 ^ (a + 1)) (hM : 2 ^ b ≤ M)
    (h : a + 1 + u ≤ e + b + w) : N * 2 ^ u < 2 ^ e * (M * 2 ^ w) := by
  have h1 : N * 2 ^ u < 2 ^ (a + 1) * 2 ^ u := Nat.mul_lt_mul_of_lt_of_le hN (Nat.le_refl _) (Nat.two_pow_pos u)
  have h2 : 2 ^ (a + 1) * 2 ^ u = 2 ^ (a + 1 + u) := (Nat.pow_add 2 _ _).symm
  have h3 : 2 ^ (a + 1 + u) ≤ 2 ^ (e + b + w) := Nat.pow_le_pow_right (by omega) h
  have h4 : 2 ^ (e + b + w) = 2 ^ e * (2 ^ b * 2 ^ w) := by
    rw [Nat.pow_add, Nat.pow_add, Nat.mul_assoc]
  have h5 : 2 ^ e * (2 ^ b * 2 ^ w) ≤ 2 ^ e * (M * 2 ^ w) :=
    Nat.mul_le_mul (Nat.le_refl _) (Nat.mul_le_mul hM (Nat.le_refl _))
  omega

theorem pow_bound_lower' {N M a b u w e : Nat} (hN : 2 ^ a ≤ N) (hM : M ≤ 2 ^ b)
    (h : e + b + w ≤ a + u) : 2 ^ e * (M * 2 ^ w) ≤ N * 2 ^ u := by
  have h1 : 2 ^ a * 2 ^ u ≤ N * 2 ^ u := Nat.mul_le_mul hN (Nat.le_refl _)
  have h2 : 2 ^ a * 2 ^ u = 2 ^ (a + u) := (Nat.pow_add 2 _ _).symm
  have h3 : 2 ^ (e + b + w) ≤ 2 ^ (a + u) := Nat.pow_le_pow_right (by omega) h
  have h4 : 2 ^ (e + b + w) = 2 ^ e * (2 ^ b * 2 ^ w) := by
    rw [Nat.pow_add, Nat.pow_add 2 e, Nat.mul_assoc]
  have h5 : 2 ^ e * (M * 2 ^ w) ≤ 2 ^ e * (2 ^ b * 2 ^ w) :=
    Nat.mul_le_mul (Nat.le_refl _) (Nat.mul_le_mul hM (Nat.le_refl _))
  omega

theorem pow_bound_lower {N M a b u w e : Nat} (hN : 2 ^ a ≤ N) (hM : M < 2 ^ (b + 1))
    (h : e + b + 1 + w ≤ a + u) : 2 ^ e * (M * 2 ^ w) ≤ N * 2 ^ u :=
  pow_bound_lower' hN (Nat.le_of_lt hM) (by omega)

theorem quotAt_lt_iff {N M : Nat} {q : Int} (hM : 0 < M) (K : Nat) :
    quotAt N M q < K ↔ N * 2 ^ (-q).toNat < K * (M * 2 ^ q.toNat) := by
  unfold quotAt
  rw [Nat.div_lt_iff_lt_mul (scale_pos N M q hM), scale_eq]

theorem le_quotAt_iff {N M : Nat} {q : Int} (hM : 0 < M) (K : Nat) :
    K ≤ quotAt N M q ↔ K * (M * 2 ^ q.toNat) ≤ N * 2 ^ (-q).toNat := by
  unfold quotAt
  rw [Nat.le_div_iff_mul_le (scale_pos N M q hM), scale_eq]

theorem quotAt_lt {N M a b e : Nat} {q : Int} (hM0 : 0 < M) (hN : N < 2 ^ (a + 1)) (hM : 2 ^ b ≤ M)
    (h : (a : Int) + 1 ≤ e + b + q) : quotAt N M q < 2 ^ e := by
  rw [quotAt_lt_iff hM0]
  apply pow_bound_upper hN hM
  omega

theorem quotAt_ge {N M a b e : Nat} {q : Int} (hM0 : 0 < M) (hN : 2 ^ a ≤ N) (hM : M < 2 ^ (b + 1))
    (h : (e : Int) + b + 1 + q ≤ a) : 2 ^ e ≤ quotAt N M q := by
  rw [le_quotAt_iff hM0]
  apply pow_bound_lower hN hM
  omega

/-- one exponent lower the quotient at most doubles: `x / 2^q < K` ⟹ `x / 2^(q-1) < 2K` -/
theorem quotAt_pred_lt {N M K : Nat} {q : Int} (hM : 0 < M) (h : quotAt N M q < K) :
    quotAt N M (q - 1) < 2 * K := by
  rw [quotAt_lt_iff hM] at h ⊢
  by_cases hq : 1 ≤ q
  · have e1 : (-(q - 1)).toNat = (-q).toNat := by omega
    have e2 : q.toNat = (q - 1).toNat + 1 := by omega
    rw [e2, Nat.pow_succ] at h
    rw [e1]
    calc N * 2 ^ (-q).toNat < K * (M * (2 ^ (q - 1).toNat * 2)) := h
      _ = 2 * K * (M * 2 ^ (q - 1).toNat) := by simp only [Nat.mul_assoc, Nat.mul_comm, Nat.mul_left_comm]
  · have e1 : (q - 1).toNat = q.toNat := by omega
    have e2 : (-(q - 1)).toNat = (-q).toNat + 1 := by omega
    rw [e1, e2, Nat.pow_succ]
    calc N * (2 ^ (-q).toNat * 2) = (N * 2 ^ (-q).toNat) * 2 := by simp only [Nat.mul_assoc]
      _ < (K * (M * 2 ^ q.toNat)) * 2 := Nat.mul_lt_mul_of_lt_of_le h (Nat.le_refl _) (by omega)
      _ = 2 * K * (M * 2 ^ q.toNat) := by simp only [Nat.mul_assoc, Nat.mul_comm, Nat.mul_left_comm]

theorem chooseExp_ge (f : Fmt) (N M : Nat) : f.emin ≤ chooseExp f N M := by
  unfold chooseExp
  dsimp only
  split <;> omega

/-- **normalisation**: at the chosen exponent the integer part of `x / 2^q` has at most `p` bits, and exactly
`p` bits unless the exponent was clamped to `emin` (subnormal range) -/
theorem chooseExp_norm (f : Fmt) (hp : 2 ≤ f.p) (N M : Nat) (hN : 0 < N) (hM : 0 < M) :
    quotAt N M (chooseExp f N M) < 2 ^ f.p ∧
    (f.emin < chooseExp f N M → 2 ^ (f.p - 1) ≤ quotAt N M (chooseExp f N M)) := by
  have hNa := Nat.log2_self_le (Nat.pos_iff_ne_zero.mp hN)
  have hNb := @Nat.lt_log2_self N
  have hMa := Nat.log2_self_le (Nat.pos_iff_ne_zero.mp hM)
  have hMb := @Nat.lt_log2_self M
  unfold chooseExp
  dsimp only
  -- the tentative exponent `q1`, lowered by one when the quotient has only `p - 1` bits, then clamped to `emin`
  generalize hq1 : (N.log2 : Int) - M.log2 - ((f.p : Int) - 1) = q1
  rw [show (scale N M q1).1 / (scale N M q1).2 = quotAt N M q1 from rfl]
  by_cases hc : quotAt N M q1 < 2 ^ (f.p - 1)
  · rw [if_pos hc]
    by_cases hcl : q1 - 1 < f.emin
    · rw [if_pos hcl]
      exact ⟨quotAt_lt hM hNb hMa (by omega), fun h => absurd h (Int.lt_irrefl _)⟩
    · rw [if_neg hcl]
      exact ⟨by rw [two_pow_pred (p := f.p) (by omega)]; exact quotAt_pred_lt hM hc,
        fun _ => quotAt_ge hM hNa hMb (by omega)⟩
  · rw [if_neg hc]
    by_cases hcl : q1 < f.emin
    · rw [if_pos hcl]
      exact ⟨quotAt_lt hM hNb hMa (by omega), fun h => absurd h (Int.lt_irrefl _)⟩
    · rw [if_neg hcl]
      exact ⟨quotAt_lt hM hNb hMa (by omega), fun _ => Nat.le_of_not_lt hc⟩

/-- the rounded significand at the chosen exponent: at most `2^p` (`= 2^p`: the carry into the next binade), and normal
unless the exponent was clamped -/
theorem roundQuot_norm (f : Fmt) (hp : 2 ≤ f.p) (N M : Nat) (hN : 0 < N) (hM : 0 < M) :
    roundQuot (scale N M (chooseExp f N M)).1 (scale N M (chooseExp f N M)).2 ≤ 2 ^ f.p ∧
    (f.emin < chooseExp f N M → 2 ^ (f.p - 1) ≤ roundQuot (scale N M (chooseExp f N M)).1 (scale N M (chooseExp f N M)).2) := by
  obtain ⟨h1, h2⟩ := chooseExp_norm f hp N M hN hM
  have := roundQuot_le_succ_div (scale N M (chooseExp f N M)).1 (scale N M (chooseExp f N M)).2
  exact ⟨by unfold quotAt at h1; omega, fun hq => Nat.le_trans (h2 hq) (div_le_roundQuot _ _)⟩

/-- `(m, q)` is the canonical significand / exponent of a positive finite value of the format -/
def Canon (f : Fmt) (m : Nat) (q : Int) : Prop :=
  0 < m ∧ f.emin ≤ q ∧ m < 2 ^ f.p ∧ (f.emin < q → 2 ^ (f.p - 1) ≤ m)

/-- **the exponent of a dyadic value**: for `x = m · 2^e` (in any representation, `m` of any length) the last place is
`e + bitLen m - p`, clamped to `emin` -/
theorem chooseExp_dyadic (f : Fmt) (hp : 2 ≤ f.p) (m : Nat) (e : Int) (hm : 0 < m) :
    chooseExp f (m * 2 ^ e.toNat) (2 ^ (-e).toNat) =
      if e + (m.log2 + 1 : Nat) - (f.p : Int) < f.emin then f.emin else e + (m.log2 + 1 : Nat) - (f.p : Int) := by
  have hM := Nat.two_pow_pos (-e).toNat
  have hN : 0 < m * 2 ^ e.toNat := Nat.mul_pos hm (Nat.two_pow_pos _)
  have hge := chooseExp_ge f (m * 2 ^ e.toNat) (2 ^ (-e).toNat)
  obtain ⟨h1, h2⟩ := chooseExp_norm f hp _ _ hN hM
  have hNlo : 2 ^ (m.log2 + e.toNat) ≤ m * 2 ^ e.toNat := by
    rw [Nat.pow_add]; exact Nat.mul_le_mul (Nat.log2_self_le (Nat.pos_iff_ne_zero.mp hm)) (Nat.le_refl _)
  have hNhi : m * 2 ^ e.toNat < 2 ^ (m.log2 + e.toNat + 1) := by
    rw [show m.log2 + e.toNat + 1 = (m.log2 + 1) + e.toNat by omega, Nat.pow_add]
    exact Nat.mul_lt_mul_of_lt_of_le Nat.lt_log2_self (Nat.le_refl _) (Nat.two_pow_pos _)
  generalize chooseExp f (m * 2 ^ e.toNat) (2 ^ (-e).toNat) = qs at hge h1 h2
  -- the candidate `c`: above it the quotient has fewer than `p` bits, below it more
  generalize hc : e + (m.log2 + 1 : Nat) - (f.p : Int) = c
  have hup : c < qs → f.emin < qs → False := fun hgt hq => by
    have := quotAt_lt (e := f.p - 1) (q := qs) hM hNhi (Nat.le_refl _) (by omega)
    have := h2 hq
    omega
  have hdown : qs < c → False := fun hgt => by
    have : 2 ^ f.p ≤ quotAt (m * 2 ^ e.toNat) (2 ^ (-e).toNat) qs := by
      rw [le_quotAt_iff hM]
      exact pow_bound_lower' hNlo (Nat.le_refl _) (by omega)
    omega
  split
  · apply Int.le_antisymm _ hge
    apply Int.not_lt.mp
    intro hq; exact hup (by omega) hq
  · apply Int.le_antisymm
    · apply Int.not_lt.mp; intro hq; exact hup hq (by omega)
    · apply Int.not_lt.mp; exact hdown

theorem chooseExp_canon (f : Fmt) (hp : 2 ≤ f.p) (m : Nat) (q : Int) (hc : Canon f m q) :
    chooseExp f (m * 2 ^ q.toNat) (2 ^ (-q).toNat) = q := by
  obtain ⟨hm, hq, hlt, hnorm⟩ := hc
  rw [chooseExp_dyadic f hp m q hm]
  have hLp : m.log2 < f.p := (Nat.log2_lt (Nat.pos_iff_ne_zero.mp hm)).mpr hlt
  -- a significand below `2^(p-1)` only at `emin`, a full one has `p` bits
  have hfull : f.emin < q → f.p - 1 ≤ m.log2 := fun hgt => (Nat.le_log2 (Nat.pos_iff_ne_zero.mp hm)).mpr (hnorm hgt)
  split
  · apply Int.le_antisymm hq
    apply Int.not_lt.mp
    intro hgt
    have := hfull hgt
    omega
  · rcases Int.lt_or_eq_of_le hq with hgt | rfl
    · have := hfull hgt
      omega
    · omega

theorem nearestRat_pos (f : Fmt) {N : Nat} (M : Nat) (hN : 0 < N) :
    nearestRat f N M = Nat.min (encode f (roundQuot (scale N M (chooseExp f N M)).1 (scale N M (chooseExp f N M)).2)
      (chooseExp f N M)) f.infBits := by
  unfold nearestRat
  rw [if_neg (Nat.pos_iff_ne_zero.mp hN)]

/-- a dyadic value divided by `2^q`, `q` at or below its exponent, is an integer: nothing is rounded away -/
theorem roundQuot_dyadic (m : Nat) {e q : Int} (hq : q ≤ e) :
    roundQuot (scale (m * 2 ^ e.toNat) (2 ^ (-e).toNat) q).1 (scale (m * 2 ^ e.toNat) (2 ^ (-e).toNat) q).2 =
      m * 2 ^ (e - q).toNat := by
  rw [scale_eq]
  dsimp only
  have : m * 2 ^ e.toNat * 2 ^ (-q).toNat = m * 2 ^ (e - q).toNat * (2 ^ (-e).toNat * 2 ^ q.toNat) := by
    rw [Nat.mul_assoc, ← Nat.pow_add, ← Nat.pow_add, Nat.mul_assoc, ← Nat.pow_add]; congr 2; omega
  rw [this, roundQuot_exact _ _ (Nat.mul_pos (Nat.two_pow_pos _) (Nat.two_pow_pos _))]

/-- a value of the format is returned unchanged (its own bit pattern) -/
theorem nearestRat_exact (f : Fmt) (hp : 2 ≤ f.p) (m : Nat) (q : Int) (hc : Canon f m q) :
    nearestRat f (m * 2 ^ q.toNat) (2 ^ (-q).toNat) = Nat.min (encode f m q) f.infBits := by
  rw [nearestRat_pos f _ (Nat.mul_pos hc.1 (Nat.two_pow_pos _)), chooseExp_canon f hp m q hc, roundQuot_dyadic m (Int.le_refl q)]
  simp

/-- the two branches of `narrow32` are one rounding of the dyadic value -/
theorem nearestRat_branches (f : Fmt) (m : Nat) (q : Int) :
    (if 0 ≤ q then nearestRat f (m * 2 ^ q.toNat) 1 else nearestRat f m (2 ^ (-q).toNat)) =
      nearestRat f (m * 2 ^ q.toNat) (2 ^ (-q).toNat) := by
  split
  · rw [show (-q).toNat = 0 by omega, Nat.pow_zero]
  · rw [show q.toNat = 0 by omega, Nat.pow_zero, Nat.mul_one]

/-- **finer grid**: a value `m' · 2^q / T` of a smaller exponent (`T = 2^(q - q') ≥ 2`, `m' < 2^p`) lies below
`2^(p-1) · 2^q ≤ x` by at least half a unit of `2^q`, hence is not closer to `x` than the rounded `m`
(distances cross-multiplied by `2·B·T`). Needs `2^(p-1) ≤ ⌊A/B⌋`, which holds whenever `q > emin`. -/
theorem finer_grid_not_closer (p A B m m' T : Nat) (hB : 0 < B) (hp : 1 ≤ p)
    (hnorm : 2 ^ (p - 1) ≤ A / B) (hm' : m' < 2 ^ p) (hT : 2 ≤ T)
    (hhalf : 2 * A ≤ 2 * (m * B) + B ∧ 2 * (m * B) ≤ 2 * A + B) :
    2 * (B * m') ≤ 2 * (A * T) ∧
    ((2 * A - 2 * (m * B)) + (2 * (m * B) - 2 * A)) * T ≤ 2 * (A * T) - 2 * (B * m') := by
  -- 2^(p-1)·B ≤ A
  have hA : 2 ^ (p - 1) * B ≤ A := (Nat.le_div_iff_mul_le hB).mp hnorm
  have hpow := two_pow_pred hp
  -- 2·m' + 2 ≤ 2^p·... : 2·m' ≤ (2^p - 1)·T because T ≥ 2
  have h1 : 2 * m' + T ≤ 2 ^ p * T := by
    have : m' + 1 ≤ 2 ^ p := hm'
    have h2 : (m' + 1) * T ≤ 2 ^ p * T := Nat.mul_le_mul this (Nat.le_refl _)
    have h3 : m' * 2 ≤ m' * T := Nat.mul_le_mul (Nat.le_refl _) hT
    rw [Nat.add_mul, Nat.one_mul] at h2
    omega
  -- multiply by B:  2·B·m' + B·T ≤ 2^p·B·T ≤ 2·A·T
  have h4 : B * (2 * m' + T) ≤ B * (2 ^ p * T) := Nat.mul_le_mul (Nat.le_refl _) h1
  have h5 : B * (2 ^ p * T) = 2 * ((2 ^ (p - 1) * B) * T) := by
    rw [hpow]; simp only [Nat.mul_comm, Nat.mul_left_comm]
  have h6 : (2 ^ (p - 1) * B) * T ≤ A * T := Nat.mul_le_mul hA (Nat.le_refl _)
  have h7 : B * (2 * m' + T) = 2 * (B * m') + B * T := by
    rw [Nat.mul_add]; simp only [Nat.mul_assoc, Nat.mul_comm]
  -- the rounded distance is at most B (in units of 1/(2B)), so times T at most B·T
  have h8 : ((2 * A - 2 * (m * B)) + (2 * (m * B) - 2 * A)) * T ≤ B * T :=
    Nat.mul_le_mul (by omega) (Nat.le_refl _)
  omega

/-- the structure of every result of `nearestRat`.  With `x = N / M`:
there are an exponent `q ≥ emin` and integers `A / B = x / 2^q` (exactly) and `m` such that
* `m` is the integer nearest to `x / 2^q` (`|x/2^q - m| ≤ ½`, no integer is closer), the even one on a tie;
* above `emin` no value `m' · 2^q / T` of a smaller exponent (`T ≥ 2`, `m' < 2^p`) is closer either;
* `2^q` is the unit in the last place of the binade of `x`: `⌊x/2^q⌋ < 2^p`, and `≥ 2^(p-1)` unless `q = emin`
  (gradual underflow); hence `m ≤ 2^p`;
* the result is the encoding of `m·2^q`, or `+∞` when that encoding reaches the infinity pattern (overflow). -/
theorem nearestRat_structure (f : Fmt) (hp : 2 ≤ f.p) (N M : Nat) (hN : 0 < N) (hM : 0 < M) :
    ∃ (q : Int) (A B m : Nat),
      f.emin ≤ q ∧ 0 < B ∧ A * (M * 2 ^ q.toNat) = N * 2 ^ (-q).toNat * B ∧
      (2 * A ≤ 2 * (m * B) + B ∧ 2 * (m * B) ≤ 2 * A + B) ∧
      ((2 * A = 2 * (m * B) + B ∨ 2 * (m * B) = 2 * A + B) → m % 2 = 0) ∧
      (∀ k, (2 * A - 2 * (m * B)) + (2 * (m * B) - 2 * A) ≤ (2 * A - 2 * (k * B)) + (2 * (k * B) - 2 * A)) ∧
      (f.emin < q → ∀ T m', 2 ≤ T → m' < 2 ^ f.p →
        2 * (B * m') ≤ 2 * (A * T) ∧
        ((2 * A - 2 * (m * B)) + (2 * (m * B) - 2 * A)) * T ≤ 2 * (A * T) - 2 * (B * m')) ∧
      A / B < 2 ^ f.p ∧ (f.emin < q → 2 ^ (f.p - 1) ≤ A / B) ∧ m ≤ 2 ^ f.p ∧ (f.emin < q → 2 ^ (f.p - 1) ≤ m) ∧
      nearestRat f N M = Nat.min (encode f m q) f.infBits := by
  obtain ⟨h1, h2⟩ := chooseExp_norm f hp N M hN hM
  have hB := scale_pos N M (chooseExp f N M) hM
  have hhalf := roundQuot_half (scale N M (chooseExp f N M)).1 _ hB
  exact ⟨chooseExp f N M, (scale N M (chooseExp f N M)).1, (scale N M (chooseExp f N M)).2,
    roundQuot (scale N M (chooseExp f N M)).1 (scale N M (chooseExp f N M)).2,
    chooseExp_ge f N M, hB, scale_exact N M _, hhalf, roundQuot_tie_even _ _ hB,
    fun k => roundQuot_nearest _ _ k hB,
    fun hq T m' hT hm' => finer_grid_not_closer f.p _ _ _ m' T hB (by omega) (h2 hq) hm' hT hhalf,
    h1, h2, (roundQuot_norm f hp N M hN hM).1, (roundQuot_norm f hp N M hN hM).2, nearestRat_pos f M hN⟩

theorem nearestRat_spec (f : Fmt) (hp : 2 ≤ f.p) (N M : Nat) (hN : 0 < N) (hM : 0 < M) :
    ∃ (q : Int) (A B m : Nat),
      f.emin ≤ q ∧ 0 < B ∧ A * (M * 2 ^ q.toNat) = N * 2 ^ (-q).toNat * B ∧
      (2 * A ≤ 2 * (m * B) + B ∧ 2 * (m * B) ≤ 2 * A + B) ∧
      ((2 * A = 2 * (m * B) + B ∨ 2 * (m * B) = 2 * A + B) → m % 2 = 0) ∧
      (∀ k, (2 * A - 2 * (m * B)) + (2 * (m * B) - 2 * A) ≤ (2 * A - 2 * (k * B)) + (2 * (k * B) - 2 * A)) ∧
      A / B < 2 ^ f.p ∧ (f.emin < q → 2 ^ (f.p - 1) ≤ A / B) ∧ m ≤ 2 ^ f.p ∧ (f.emin < q → 2 ^ (f.p - 1) ≤ m) ∧
      nearestRat f N M = Nat.min (encode f m q) f.infBits := by
  obtain ⟨q, A, B, m, h1, h2, h3, h4, h5, h6, _, h⟩ := nearestRat_structure f hp N M hN hM
  exact ⟨q, A, B, m, h1, h2, h3, h4, h5, h6, h⟩

/-- a double with a 53-bit significand and an exponent up to that of the largest single is finite -/
theorem encode64_lt_inf {m : Nat} {q : Int} (hm : m < 2 ^ 53) (hq : q ≤ 104) : encode binary64 m q < binary64.infBits := by
  unfold encode
  rw [show binary64.infBits = 2047 * 2 ^ 52 by decide, show binary64.p - 1 = 52 from rfl, show binary64.emin = -1074 from rfl]
  have h2 : (q - -1074).toNat * 2 ^ 52 ≤ 1178 * 2 ^ 52 := Nat.mul_le_mul (by omega) (Nat.le_refl _)
  omega

end RsslVerif.Spec.Dec2Bin
