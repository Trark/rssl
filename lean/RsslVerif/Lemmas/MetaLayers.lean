import RsslVerif.Spec.MetaLayers
import RsslVerif.Spec.Meta
/-!
Lemmas about the type peels (`Model/MetaLayers`): the three extracted sequences against the peel-free reading of a
layer chain (`Spec/MetaLayers`), and the typed metadata builders against the builders over peeled declarations.
-/
namespace RsslVerif.Lemmas.MetaLayers
open RsslVerif.Gen.SlotTables RsslVerif.Gen.MetaTables RsslVerif.Model.Slots RsslVerif.Model.Meta RsslVerif.Spec.Meta

/-- a peel sequence reads every well-formed chain the way `Spec/MetaLayers` does -/
def ReadsLayers (ops : List PeelOp) : Prop :=
  ∀ t : Ty, Ty.wf t = true → (runPeel ops t).kind = specKind t ∧ (runPeel ops t).arr = specArr t

/-- the type below one modifier layer, if there is one (`remove_modifier`) -/
def strip : Ty → Ty
  | .modifier t => t
  | t => t

theorem runPeel_removeModifier (t : Ty) : runPeel [.removeModifier] t = ⟨strip t, .no, false⟩ := by
  cases t <;> rfl

/-- **the three-step peel in closed form**: below one modifier, a sized array layer is taken (an unsized one unless
    `sizedOnly`) and one modifier below it removed; anything else is left as it is -/
theorem runPeel_mod_array_mod (sizedOnly : Bool) (t : Ty) :
    runPeel [.removeModifier, .takeArray sizedOnly, .removeModifierAfterArray] t =
      match strip t with
      | .array u (some n) => ⟨strip u, .sized n, true⟩
      | .array u none => if sizedOnly then ⟨.array u none, .no, false⟩ else ⟨strip u, .unsized, true⟩
      | v => ⟨v, .no, false⟩ := by
  show runPeelFrom [.takeArray sizedOnly, .removeModifierAfterArray] (runPeel [.removeModifier] t) = _
  rw [runPeel_removeModifier]
  cases strip t with
  | array u len =>
    cases len with
    | some n => cases u <;> rfl
    | none => cases sizedOnly <;> cases u <;> rfl
  | _ => rfl

theorem dims_strip (t : Ty) : Ty.dims (strip t) = Ty.dims t := by cases t <;> rfl

theorem base_strip (t : Ty) : Ty.base (strip t) = Ty.base t := by cases t <;> rfl

theorem wf_strip {t : Ty} (h : Ty.wf t = true) : Ty.wf (strip t) = true ∧ ∀ v, strip t ≠ .modifier v := by
  cases t with
  | object k => exact ⟨rfl, fun v e => by cases e⟩
  | other => exact ⟨rfl, fun v e => by cases e⟩
  | array u len => exact ⟨h, fun v e => by cases e⟩
  | modifier t' =>
    simp only [Ty.wf, Bool.and_eq_true] at h
    refine ⟨h.2, fun v e => ?_⟩
    simp only [strip] at e
    rw [e] at h
    exact absurd h.1 (by simp)

theorem kind_below_array {u : Ty} (h : ∀ v, strip u ≠ .modifier v) (a : Arr) (b : Bool) (n : Option Nat) :
    (⟨strip u, a, b⟩ : Peel).kind = if (n :: Ty.dims u).length ≤ 1 then Ty.base u else none := by
  rw [← dims_strip u, ← base_strip u]
  cases hs : strip u with
  | object k => rfl
  | other => rfl
  | array v m => simp [Peel.kind, Ty.dims]
  | modifier v => exact absurd hs (h v)

theorem reads_layers_of_mod_array_mod : ReadsLayers [.removeModifier, .takeArray false, .removeModifierAfterArray] := by
  intro t h
  obtain ⟨hw, hm⟩ := wf_strip h
  rw [runPeel_mod_array_mod]
  simp only [specKind, specArr, ← dims_strip t, ← base_strip t]
  cases hs : strip t with
  | object k => exact ⟨rfl, rfl⟩
  | other => exact ⟨rfl, rfl⟩
  | modifier v => exact absurd hs (hm v)
  | array u len =>
    rw [hs] at hw
    have hu := kind_below_array (wf_strip (t := u) hw).2
    cases len with
    | some n => exact ⟨hu _ _ _, rfl⟩
    | none => exact ⟨hu _ _ _, rfl⟩

theorem countOf_specArr (t : Ty) : countOf (specArr t) = specCount t := by
  unfold specArr specCount
  cases Ty.dims t with
  | nil => rfl
  | cons d r => cases d <;> rfl

theorem toSlot_agree (d : TDecl) :
    (d.toMeta [.removeModifier, .takeArray false, .removeModifierAfterArray]).toSlot =
      d.toSlot [.removeModifier, .takeArray true, .removeModifierAfterArray] := by
  cases d with
  | other => rfl
  | cbuffer n s => rfl
  | global n s ss t bl st =>
    by_cases hst : st = .extern
    · subst hst
      simp only [TDecl.toMeta, TDecl.toSlot, runPeel_mod_array_mod]
      cases strip t with
      | array u len => cases len <;> rfl
      | _ => rfl
    · simp [TDecl.toMeta, TDecl.toSlot, MDecl.toSlot, hst]

/-- `is_buffer_address(decl.type_id)` (one `remove_modifier`, then an object test) is what C06's allocator model tests on
    the allocator's own view: buffer address kind and no array taken — for every chain -/
theorem buffer_address_test (t : Ty) :
    (match (runPeel [.removeModifier] t).kind with | some k => isBufferAddress k | none => false) =
    (match (runPeel [.removeModifier, .takeArray true, .removeModifierAfterArray] t).kind with
     | some k => isBufferAddress k && !(runPeel [.removeModifier, .takeArray true, .removeModifierAfterArray] t).took
     | none => false) := by
  rw [runPeel_removeModifier, runPeel_mod_array_mod]
  cases strip t with
  | object k => simp [Peel.kind]
  | other => rfl
  | modifier v => rfl
  | array u len =>
    cases len with
    | none => rfl
    | some n => cases h : (strip u) <;> simp [Peel.kind, h]

theorem wf_makeConst {t : Ty} (h : Ty.wf t = true) : Ty.wf t.makeConst = true := by
  cases t with
  | object k => simp [Ty.makeConst, Ty.wf]
  | other => simp [Ty.makeConst, Ty.wf]
  | modifier u => simpa [Ty.makeConst] using h
  | array u n => simpa [Ty.makeConst, Ty.wf] using h

theorem dims_makeConst (t : Ty) : Ty.dims t.makeConst = Ty.dims t := by
  cases t <;> simp [Ty.makeConst, Ty.dims]

theorem base_makeConst (t : Ty) : Ty.base t.makeConst = Ty.base t := by
  cases t <;> simp [Ty.makeConst, Ty.base]

theorem wf_step (s : TypedefStep) {t : Ty} (h : Ty.wf t = true) : Ty.wf (s.apply t) = true := by
  unfold TypedefStep.apply
  cases s.isConst <;> cases s.dim <;> simp [Ty.wf, h, wf_makeConst h]

theorem base_step (s : TypedefStep) (t : Ty) : Ty.base (s.apply t) = Ty.base t := by
  unfold TypedefStep.apply
  cases s.isConst <;> cases s.dim <;> simp [Ty.base, base_makeConst]

theorem dims_step (s : TypedefStep) (t : Ty) : Ty.dims (s.apply t) = (s.dim.map some).toList ++ Ty.dims t := by
  unfold TypedefStep.apply
  cases s.isConst <;> cases s.dim <;> simp [Ty.dims, dims_makeConst]

theorem wf_steps (steps : List TypedefStep) {t : Ty} (h : Ty.wf t = true) :
    Ty.wf (steps.foldl (fun t s => s.apply t) t) = true := by
  induction steps generalizing t with
  | nil => simpa using h
  | cons s r ih => exact ih (wf_step s h)

theorem base_steps (steps : List TypedefStep) (t : Ty) : Ty.base (steps.foldl (fun t s => s.apply t) t) = Ty.base t := by
  induction steps generalizing t with
  | nil => rfl
  | cons s r ih => simp [List.foldl, ih, base_step]

/-- array layers of a typedef chain: the last typedef's dimension is the outermost -/
theorem dims_steps (steps : List TypedefStep) (t : Ty) :
    Ty.dims (steps.foldl (fun t s => s.apply t) t) = (steps.reverse.filterMap (·.dim)).map some ++ Ty.dims t := by
  induction steps generalizing t with
  | nil => simp
  | cons s r ih =>
    simp only [List.foldl, ih, dims_step, List.reverse_cons, List.filterMap_append, List.map_append, List.append_assoc]
    cases hd : s.dim <;> simp [hd]

theorem wf_wrapDims (b : Ty) (ds : List (Option Nat)) (h : Ty.wf b = true) : Ty.wf (wrapDims b ds) = true := by
  induction ds with
  | nil => simpa [wrapDims] using h
  | cons d r ih => simpa [wrapDims, Ty.wf] using ih

theorem base_wrapDims (b : Ty) (ds : List (Option Nat)) : Ty.base (wrapDims b ds) = Ty.base b := by
  induction ds with
  | nil => rfl
  | cons d r ih => simpa [wrapDims, Ty.base] using ih

theorem dims_wrapDims (b : Ty) (ds : List (Option Nat)) : Ty.dims (wrapDims b ds) = ds ++ Ty.dims b := by
  induction ds with
  | nil => rfl
  | cons d r ih => simp [wrapDims, Ty.dims, ih]

/-- every type the typer gives a global declared through typedefs over an object type is a well-formed chain; its
    innermost layer is that object; its array layers are the declarator's, then the typedefs' from the last one inwards -/
theorem globalTy_shape (k : ObjKind) (steps : List TypedefStep) (constKw : Bool) (st : Storage) (ds : List (Option Nat)) :
    Ty.wf (globalTy (.object k) steps constKw st ds) = true ∧
    Ty.base (globalTy (.object k) steps constKw st ds) = some k ∧
    Ty.dims (globalTy (.object k) steps constKw st ds) = ds ++ (steps.reverse.filterMap (·.dim)).map some := by
  have hw : Ty.wf (steps.foldl (fun t s => s.apply t) (.object k)) = true := wf_steps steps (by simp [Ty.wf])
  unfold globalTy
  refine ⟨?_, ?_, ?_⟩
  · apply wf_wrapDims
    split
    · exact wf_makeConst hw
    · exact hw
  · rw [base_wrapDims]
    split <;> simp [base_makeConst, base_steps, Ty.base]
  · rw [dims_wrapDims]
    split <;> simp [dims_makeConst, dims_steps, Ty.dims]

/-- an extern global's chain carries a modifier layer exactly where the named type starts -/
theorem globalTy_extern_const (k : ObjKind) (steps : List TypedefStep) (constKw : Bool) :
    ∃ u, globalTy (.object k) steps constKw .extern [] = .modifier u := by
  unfold globalTy
  simp only [wrapDims, beq_self_eq_true, Bool.or_true, if_true]
  cases (steps.foldl (fun t s => s.apply t) (Ty.object k)) with
  | modifier u => exact ⟨u, rfl⟩
  | object k' => exact ⟨_, rfl⟩
  | other => exact ⟨_, rfl⟩
  | array u n => exact ⟨_, rfl⟩

end RsslVerif.Lemmas.MetaLayers
