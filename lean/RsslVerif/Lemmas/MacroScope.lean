import RsslVerif.Model.Include
import RsslVerif.Spec.CPreMacro
/-!
Lemmas about the macro list kept by the directive loop: names stay pairwise distinct, and looking a name up in the
list gives the latest `#define` not followed by an `#undef` (`Spec.CPreMacro.lookup`).
-/
namespace RsslVerif.Lemmas.MacroScope
open RsslVerif.Model.Macro RsslVerif.Model.Include RsslVerif.Spec.CPreMacro

def names (ms : List Macro) : List String := ms.map (·.name)

/-- what `find_single_macro` finds for a name when nothing is disabled: the first entry of that name -/
def lookupList : List Macro → String → Option Macro
  | [], _ => none
  | m :: r, n => if m.name = n then some m else lookupList r n

/-- the effect of a `#define` / `#undef` on the macro list, after its tokens have been parsed -/
def applyEvent (ms : List Macro) : Event Macro → List Macro
  | .define _ m => removeNamed m.name ms ++ [m]
  | .undef n => removeNamed n ms

def applyEvents (ms : List Macro) (evs : List (Event Macro)) : List Macro := evs.foldl applyEvent ms

/-- events are well formed when a `define` event carries the macro's own name -/
def WellNamed : Event Macro → Prop
  | .define n m => m.name = n
  | .undef _ => True

/-- `retain` is `filter`, and the lookup is `find?`: the library's lemmas about these serve below -/
theorem removeNamed_eq_filter (n : String) (ms : List Macro) :
    removeNamed n ms = ms.filter (fun m => decide (m.name ≠ n)) := by
  induction ms with
  | nil => rfl
  | cons a as ih => by_cases h : a.name = n <;> simp [removeNamed, h, ih]

theorem lookupList_eq_find (ms : List Macro) (n : String) :
    lookupList ms n = ms.find? (fun m => decide (m.name = n)) := by
  induction ms with
  | nil => rfl
  | cons a as ih => by_cases h : a.name = n <;> simp [lookupList, h, ih]

theorem mem_removeNamed {n : String} {ms : List Macro} {x : Macro} :
    x ∈ removeNamed n ms ↔ x ∈ ms ∧ x.name ≠ n := by
  simp [removeNamed_eq_filter]

theorem removeNamed_sublist (n : String) (ms : List Macro) : (removeNamed n ms).Sublist ms := by
  rw [removeNamed_eq_filter]; exact List.filter_sublist

theorem names_removeNamed_nodup {ms : List Macro} (h : (names ms).Nodup) (n : String) :
    (names (removeNamed n ms)).Nodup := by
  unfold names at *
  exact List.Nodup.sublist (List.Sublist.map _ (removeNamed_sublist n ms)) h

theorem nodup_applyEvent {ms : List Macro} (h : (names ms).Nodup) (e : Event Macro) :
    (names (applyEvent ms e)).Nodup := by
  cases e with
  | undef n => exact names_removeNamed_nodup h _
  | define n m =>
    simp only [applyEvent, names, List.map_append, List.map_cons, List.map_nil]
    rw [List.nodup_append]
    refine ⟨names_removeNamed_nodup h _, by simp, ?_⟩
    intro a ha b hb
    simp only [List.mem_map] at ha
    obtain ⟨x, hx, rfl⟩ := ha
    simp only [List.mem_singleton] at hb
    subst hb
    exact (mem_removeNamed.mp hx).2

theorem nodup_applyEvents {ms : List Macro} (h : (names ms).Nodup) (evs : List (Event Macro)) :
    (names (applyEvents ms evs)).Nodup := by
  induction evs generalizing ms with
  | nil => exact h
  | cons e es ih => exact ih (nodup_applyEvent h e)

theorem lookupList_removeNamed_ne (ms : List Macro) (k n : String) (h : k ≠ n) :
    lookupList (removeNamed k ms) n = lookupList ms n := by
  rw [lookupList_eq_find, lookupList_eq_find, removeNamed_eq_filter, List.find?_filter]
  congr 1
  funext m
  by_cases hm : m.name = n <;> simp [hm, Ne.symm h]

theorem lookupList_removeNamed_eq (ms : List Macro) (n : String) :
    lookupList (removeNamed n ms) n = none := by
  rw [lookupList_eq_find, removeNamed_eq_filter, List.find?_filter]
  simp

theorem lookupList_append (a b : List Macro) (n : String) :
    lookupList (a ++ b) n = (lookupList a n).or (lookupList b n) := by
  simp [lookupList_eq_find, List.find?_append]

theorem lookupList_applyEvent (ms : List Macro) (e : Event Macro) (he : WellNamed e) (n : String) :
    lookupList (applyEvent ms e) n =
      match e with
      | .define k m => if k = n then some m else lookupList ms n
      | .undef k => if k = n then none else lookupList ms n := by
  cases e with
  | undef k =>
    simp only [applyEvent]
    by_cases h : k = n
    · subst h; simp [lookupList_removeNamed_eq]
    · simp [h, lookupList_removeNamed_ne _ _ _ h]
  | define k m =>
    have hm : m.name = k := he
    simp only [applyEvent]
    rw [lookupList_append]
    by_cases h : k = n
    · subst h
      rw [hm, lookupList_removeNamed_eq]
      simp [lookupList, hm]
    · have h' : m.name ≠ n := by rw [hm]; exact h
      rw [hm, lookupList_removeNamed_ne _ _ _ h]
      simp [h, lookupList, h']

theorem lookupList_applyEvents (evs : List (Event Macro)) (hw : ∀ e ∈ evs, WellNamed e) (n : String) :
    lookupList (applyEvents [] evs) n = lookup evs n := by
  -- `lookup` reads the events newest first: induction on the reversed list, whose head is the event applied last
  unfold lookup
  generalize hr : evs.reverse = r
  obtain rfl : evs = r.reverse := by rw [← hr, List.reverse_reverse]
  clear hr
  induction r with
  | nil => rfl
  | cons e r ih =>
    rw [List.reverse_cons, applyEvents, List.foldl_append]
    have := ih fun x hx => hw x (by simp [hx])
    rw [applyEvents] at this
    rw [List.foldl_cons, List.foldl_nil, lookupList_applyEvent _ _ (hw e (by simp)), this]
    cases e <;> rfl

theorem doDefine_eq {ms ms' : List Macro} {cmd : List PTok} (h : doDefine ms cmd = .ok ms') :
    ∃ m, parseDefine cmd = .ok m ∧ ms' = applyEvent ms (.define m.name m) := by
  revert h
  fun_cases doDefine ms cmd <;> intro h <;> cases h
  next m hm => exact ⟨m, hm, rfl⟩

theorem doUndef_eq {ms ms' : List Macro} {cmd : List PTok} (h : doUndef ms cmd = .ok ms') :
    ∃ n b, trim cmd = [⟨.id n, b⟩] ∧ ms' = applyEvent ms (.undef n) := by
  revert ms'
  fun_cases doUndef ms cmd <;> intro ms' h <;> cases h
  all_goals exact ⟨_, _, ‹_›, rfl⟩

theorem removeNamed_length_nodup {ms : List Macro} (hn : (names ms).Nodup) (s : String) :
    (removeNamed s ms).length = ms.length ∨ (removeNamed s ms).length + 1 = ms.length := by
  induction ms with
  | nil => left; rfl
  | cons a as ih =>
    have hn' : (names as).Nodup := by
      unfold names at *; simp only [List.map_cons, List.nodup_cons] at hn; exact hn.2
    simp only [removeNamed]
    split
    · rename_i ha
      right
      -- nothing else is called `s`
      have hall : ∀ x ∈ as, x.name ≠ s := by
        intro x hx hxs
        unfold names at hn
        simp only [List.map_cons, List.nodup_cons, List.mem_map, not_exists, not_and] at hn
        exact hn.1 x hx (by rw [hxs, ha])
      have : removeNamed s as = as := by
        rw [removeNamed_eq_filter, List.filter_eq_self]
        intro x hx
        simpa using hall x hx
      simp [this]
    · rcases ih hn' with h | h
      · left; simp [h]
      · right; simp [h]

/-- with pairwise distinct names `#undef` removes at most one entry: its assertion cannot fail -/
theorem doUndef_no_panic {ms : List Macro} (hn : (names ms).Nodup) (cmd : List PTok) (site : String) :
    doUndef ms cmd ≠ .error (.panic site) := by
  fun_cases doUndef ms cmd <;> intro h <;> cases h
  next s _ _ _ h1 h2 => exact (removeNamed_length_nodup hn s).elim h1 h2

end RsslVerif.Lemmas.MacroScope
