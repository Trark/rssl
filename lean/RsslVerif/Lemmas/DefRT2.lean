import RsslVerif.Lemmas.DefRT1
/-! Round trip of struct definitions: members, methods (which do not read as members), the member list, the struct. -/
set_option linter.unusedSimpArgs false
namespace RsslVerif.Lemmas.DefRT
open RsslVerif.Gen.FmtTables RsslVerif.Gen.ParseTables RsslVerif.Gen.SyntaxTables RsslVerif.Model.Format
open RsslVerif.Model.FormatFull RsslVerif.Model.ParseFull RsslVerif.Model.FormatStmt RsslVerif.Model.ParseStmt
open RsslVerif.Model.FormatDef RsslVerif.Model.ParseDef
open RsslVerif.Lemmas.FmtParseTables RsslVerif.Lemmas.RoundtripFull RsslVerif.Lemmas.StmtRT

variable (W : List String)

def memberToks : Member → List Tok
  | .var attrs v => toks (fmtAttrs attrs) ++ (toks (fmtVarDef v) ++ [.p .Semicolon])
  | .method f => fnToks f

def membersToks : List Member → List Tok
  | [] => []
  | m :: r => memberToks m ++ membersToks r

theorem toks_fmtMember (m : Member) : toks (fmtMember m) = memberToks m := by
  cases m with
  | var attrs v => simp [fmtMember, memberToks, toks_append, semi, pp, toks]
  | method f => simp [fmtMember, memberToks, toks_fmtFn, toks]

theorem toks_fmtMembers : ∀ ms : List Member, toks (fmtMembers ms) = membersToks ms
  | [] => rfl
  | m :: r => by simp [fmtMembers, membersToks, toks_append, toks_fmtMember, toks_fmtMembers r]

def WFMember : Member → Prop
  | .var attrs v => WFAttrs W attrs ∧ WFVarDef W v
  | .method f => WFFn W f

def hasLtMember : Member → Bool
  | .var attrs v => hasLtAttrs attrs || hasLtVarDef v
  | .method f => hasLtFn f

def hasLtMembers : List Member → Bool
  | [] => false
  | m :: r => hasLtMember m || hasLtMembers r

theorem var_member_reads (attrs : List Attr) (v : VarDef) (hw : WFMember W (.var attrs v)) (rest : List Tok)
    (hsafe : hasLtMember (.var attrs v) = true → TmplFree (memberToks (.var attrs v) ++ rest) = true) :
    ∃ N, ∀ f, N ≤ f → parseStructVar W f (memberToks (.var attrs v) ++ rest) = some (.var attrs v, rest) := by
  obtain ⟨hwa, hwv⟩ := hw
  have htoks : memberToks (.var attrs v) ++ rest = toks (fmtAttrs attrs) ++ (toks (fmtVarDef v) ++ .p .Semicolon :: rest) := by
    simp [memberToks]
  rw [htoks] at hsafe ⊢
  have h2 := varDef_reads W v hwv (.p .Semicolon :: rest) ⟨rest, rfl⟩
    (SafeAt.mono (SafeAt.append hsafe) fun hl => by simp [hasLtMember, hl])
  -- what reads as a definition does not start with `[`
  have h1 := attrs_read W attrs hwa (toks (fmtVarDef v) ++ .p .Semicolon :: rest)
    (fun r' e => by
      obtain ⟨f, hf⟩ := Fuel.Ev.exists h2
      rw [e, parseVarDef_badhead W f _ r' rfl (by intro n h; cases h)] at hf
      cases hf)
    (fun hl => hsafe (by simp [hasLtMember, hl]))
  refine LevelParser.Ev.mono (LevelParser.Ev.and h1 h2) fun f ⟨h1, h2⟩ => ?_
  unfold parseStructVar
  simp only [h1, h2]

/-- a method does not read as a member variable: after the name comes `(`, not `;` -/
theorem method_not_var (fn : FnDef) (hw : WFFn W fn) (rest : List Tok)
    (hsafe : hasLtFn fn = true → TmplFree (fnToks fn ++ rest) = true) :
    ∃ N, ∀ f, N ≤ f → parseStructVar W f (fnToks fn ++ rest) = none := by
  obtain ⟨N, h⟩ := fn_reads W fn hw rest hsafe
  refine ⟨N + 3, fun f hf => ?_⟩
  obtain ⟨r, r1, g1, g2⟩ := parseFn_header W (h f (by omega))
  obtain ⟨f', rfl⟩ : ∃ f', f = f' + 3 := ⟨f - 3, by omega⟩
  unfold parseStructVar parseVarDef
  simp only [g1, g2]
  unfold parseInitDecls
  rw [parseDecl_other W _ false _ (fun t r h => by cases h; exact ⟨nofun, nofun⟩), if_neg nofun]
  simp only [arrDims_stop W (.name fn.name) (.p .LeftParen :: r1) (by intro r h; cases h) (f' + 1) (by omega), parseInitializer]

theorem members_read : ∀ (ms : List Member), (∀ m, m ∈ ms → WFMember W m) → ∀ rest,
    (hasLtMembers ms = true → TmplFree (membersToks ms ++ .p .RightBrace :: rest) = true) →
    ∃ N, ∀ f, N ≤ f → parseMembers W f (membersToks ms ++ .p .RightBrace :: rest) = .ok ms (.p .RightBrace :: rest)
  | [], _, rest, _ => by
    exact LevelParser.Ev.succ fun f => by simp [membersToks, parseMembers]
  | m :: ms, hw, rest, hsafe => by
    have htoks : membersToks (m :: ms) ++ .p .RightBrace :: rest = memberToks m ++ (membersToks ms ++ .p .RightBrace :: rest) := by
      simp [membersToks]
    rw [htoks] at hsafe ⊢
    have h2 := members_read ms (fun x hx => hw x (List.mem_cons_of_mem _ hx)) rest
      (SafeAt.mono (SafeAt.append hsafe) fun hl => by simp [hasLtMembers, hl])
    cases m with
    | var attrs v =>
      have h1 := var_member_reads W attrs v (hw _ List.mem_cons_self) (membersToks ms ++ .p .RightBrace :: rest)
        (fun hl => hsafe (by simp [hasLtMembers, hl]))
      refine LevelParser.Ev.step (LevelParser.Ev.and h1 h2) fun f ⟨g1, g2⟩ => ?_
      unfold parseMembers
      split
      · rename_i heq
        rw [heq] at g1
        unfold parseStructVar parseVarDef at g1
        split at g1
        · rename_i hA; rw [attrs_ty_badhead W (by decide) rfl (by intro n h; cases h) hA] at g1; cases g1
        · cases g1
      · simp only [g1, g2]
    | method fn =>
      have hwf : WFFn W fn := hw _ List.mem_cons_self
      have hs : hasLtFn fn = true → TmplFree (fnToks fn ++ (membersToks ms ++ .p .RightBrace :: rest)) = true :=
        fun hl => hsafe (by simp [hasLtMembers, hasLtMember, hl])
      have h0 := method_not_var W fn hwf (membersToks ms ++ .p .RightBrace :: rest) hs
      have h1 := fn_reads W fn hwf (membersToks ms ++ .p .RightBrace :: rest) hs
      refine LevelParser.Ev.step (LevelParser.Ev.and (LevelParser.Ev.and h0 h1) h2) fun f ⟨⟨g0, g1⟩, g2⟩ => ?_
      simp only [memberToks] at g0 g1 ⊢
      unfold parseMembers
      split
      · rename_i heq
        rw [heq] at g1
        obtain ⟨r, r1, hA, hT⟩ := parseFn_header W g1
        rw [attrs_ty_badhead W (by decide) rfl (by intro n h; cases h) hA] at hT
        cases hT
      · simp only [g0, g1, g2]
/-- a base type the parser reads back: the name is no modifier word, the template arguments are `WFTArgs` -/
def WFBase (b : BaseTy) : Prop := modBeforeStep (.id b.2.1) = .stop ∧ WFTArgs W b.2.2

def hasLtBases : List BaseTy → Bool
  | [] => false
  | b :: r => hasLtTArgs b.2.2 || hasLtBases r

def WFStruct (s : StructDef) : Prop := (∀ b, b ∈ s.bases → WFBase W b) ∧ ∀ m, m ∈ s.members → WFMember W m

/-- the base types of a struct (printed since 2e907a1) in front of the opening brace -/
theorem bases_read : ∀ (bs : List BaseTy), bs ≠ [] → (∀ b, b ∈ bs → WFBase W b) → ∀ rest,
    (hasLtBases bs = true → TmplFree (toks (fmtBaseList bs) ++ .p .LeftBrace :: rest) = true) →
    ∃ N, ∀ f, N ≤ f → parseBases W f (toks (fmtBaseList bs) ++ .p .LeftBrace :: rest) = some (bs, .p .LeftBrace :: rest)
  | [], h, _, _, _ => absurd rfl h
  | [(mods, n, targs)], _, hw, rest, hsafe => by
    obtain ⟨hstop, hwT⟩ := hw _ List.mem_cons_self
    have htoks : toks (fmtBaseList [(mods, n, targs)]) ++ .p .LeftBrace :: rest =
        mods.map modTok ++ (.id n :: (toks (fmtTArgs targs false) ++ .p .LeftBrace :: rest)) := by
      simp [fmtBaseList, toks_fmtTy]
    rw [htoks] at hsafe ⊢
    refine LevelParser.Ev.step (ty_reads W mods n targs false hstop hwT (.p .LeftBrace) rest afterTy_lbrace
      (SafeAt.mono (SafeAt.cons (SafeAt.append hsafe)) fun hl => by simp [hasLtBases, hl])) fun f h => ?_
    unfold parseBases
    rw [h]
  | (mods, n, targs) :: c :: r, _, hw, rest, hsafe => by
    obtain ⟨hstop, hwT⟩ := hw _ List.mem_cons_self
    have htoks : toks (fmtBaseList ((mods, n, targs) :: c :: r)) ++ .p .LeftBrace :: rest =
        mods.map modTok ++ (.id n :: (toks (fmtTArgs targs true) ++
          .p .Comma :: (toks (fmtBaseList (c :: r)) ++ .p .LeftBrace :: rest))) := by
      simp [fmtBaseList, toks_fmtTy, comma, pp]
    rw [htoks] at hsafe ⊢
    have h1 := ty_reads W mods n targs true hstop hwT (.p .Comma) _ afterTy_comma
      (SafeAt.mono (SafeAt.cons (SafeAt.append hsafe)) fun hl => by simp [hasLtBases, hl])
    have h2 := bases_read (c :: r) (by simp) (fun b hb => hw b (List.mem_cons_of_mem _ hb)) rest
      (SafeAt.mono (SafeAt.cons (SafeAt.append (SafeAt.cons (SafeAt.append hsafe)))) fun hl => by
        simp only [hasLtBases, Bool.or_eq_true] at hl ⊢
        exact Or.inr hl)
    refine LevelParser.Ev.step (LevelParser.Ev.and h1 h2) fun f ⟨h1, h2⟩ => ?_
    unfold parseBases
    rw [h1]
    simp only [h2]

def structToks (s : StructDef) : List Tok :=
  .p .Struct :: .id s.name :: ((if s.bases.isEmpty then [] else .p .Colon :: toks (fmtBaseList s.bases)) ++
    (.p .LeftBrace :: (membersToks s.members ++ [.p .RightBrace, .p .Semicolon])))

theorem toks_fmtStruct (s : StructDef) : toks (fmtStruct s) = structToks s := by
  cases hb : s.bases.isEmpty <;>
    simp [fmtStruct, fmtBases, structPrintsBaseTypes, structToks, hb, toks_append, toks_fmtMembers, kw, pp, semi, toks]

theorem struct_reads (s : StructDef) (hw : WFStruct W s) (rest : List Tok)
    (hsafe : (hasLtBases s.bases || hasLtMembers s.members) = true → TmplFree (structToks s ++ rest) = true) :
    ∃ N, ∀ f, N ≤ f → parseStruct W f (structToks s ++ rest) = .ok s rest := by
  obtain ⟨hwb, hwm⟩ := hw
  obtain ⟨name, bases, members⟩ := s
  simp only [] at hwb hwm hsafe ⊢
  cases bases with
  | nil =>
    have htoks : structToks ⟨name, [], members⟩ ++ rest = .p .Struct :: .id name :: .p .LeftBrace ::
        (membersToks members ++ .p .RightBrace :: .p .Semicolon :: rest) := by
      simp [structToks]
    rw [htoks] at hsafe ⊢
    refine LevelParser.Ev.mono (members_read W members hwm (.p .Semicolon :: rest)
      (SafeAt.mono (SafeAt.cons (SafeAt.cons (SafeAt.cons hsafe))) fun hl => by simp [hl])) fun f h => ?_
    unfold parseStruct
    simp only [h]
  | cons b bs =>
    have htoks : structToks ⟨name, b :: bs, members⟩ ++ rest = .p .Struct :: .id name :: .p .Colon ::
        (toks (fmtBaseList (b :: bs)) ++ .p .LeftBrace ::
          (membersToks members ++ .p .RightBrace :: .p .Semicolon :: rest)) := by
      simp [structToks]
    rw [htoks] at hsafe ⊢
    have h1 := bases_read W (b :: bs) (by simp) hwb (membersToks members ++ .p .RightBrace :: .p .Semicolon :: rest)
      (SafeAt.mono (SafeAt.cons (SafeAt.cons (SafeAt.cons hsafe))) fun hl => by simp [hl])
    have h2 := members_read W members hwm (.p .Semicolon :: rest)
      (SafeAt.mono (SafeAt.cons (SafeAt.append (SafeAt.cons (SafeAt.cons (SafeAt.cons hsafe))))) fun hl => by simp [hl])
    refine LevelParser.Ev.mono (LevelParser.Ev.and h1 h2) fun f ⟨h1, h2⟩ => ?_
    unfold parseStruct
    simp only [h1, h2]

end RsslVerif.Lemmas.DefRT
