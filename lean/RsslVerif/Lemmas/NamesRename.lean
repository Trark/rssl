import RsslVerif.Model.Names
import RsslVerif.Lemmas.Names
/-!
`NameMap::build` commutes with a renaming `σ` of the identifiers that is injective, keeps reserved-ness, commutes with
the candidate format (`σ (n_k) = (σ n)_k`) and is an order embedding for `String::cmp`.
-/
namespace RsslVerif.Lemmas.NamesRename
open RsslVerif.Model
open RsslVerif.Model.Names

/-- the hypotheses on the renaming -/
structure Renaming (reserved : List String) (σ : String → String) : Prop where
  inj : ∀ a b, σ a = σ b → a = b
  res : ∀ x, σ x ∈ reserved ↔ x ∈ reserved
  cand : ∀ n k, σ (Names.cand n k) = Names.cand (σ n) k
  ord : ∀ a b, σ a < σ b ↔ a < b

/-- `u'` is the renamed version of the set `u` (as far as membership tests of renamed strings and the fuel go) -/
def Rel (σ : String → String) (u u' : List String) : Prop :=
  u'.length = u.length ∧ ∀ x, σ x ∈ u' ↔ x ∈ u

variable {reserved : List String} {σ : String → String}

theorem Rel.contains {u u' : List String} (h : Rel σ u u') (x : String) : u'.contains (σ x) = u.contains x := by
  rw [Bool.eq_iff_iff]
  simp [h.2 x]

theorem rel_reserved (hσ : Renaming reserved σ) : Rel σ reserved reserved := ⟨rfl, hσ.res⟩

theorem rel_map (hσ : Renaming reserved σ) (l : List String) : Rel σ l (l.map σ) := by
  refine ⟨by simp, fun x => ?_⟩
  constructor
  · intro h
    obtain ⟨y, hy, e⟩ := List.mem_map.mp h
    rw [← hσ.inj _ _ e]; exact hy
  · intro h; exact List.mem_map.mpr ⟨x, h, rfl⟩

theorem rel_append {a a' b b' : List String} (ha : Rel σ a a') (hb : Rel σ b b') : Rel σ (a ++ b) (a' ++ b') := by
  refine ⟨by simp [ha.1, hb.1], fun x => ?_⟩
  simp [List.mem_append, ha.2 x, hb.2 x]

theorem rel_cons (hσ : Renaming reserved σ) {u u' : List String} (h : Rel σ u u') (c : String) :
    Rel σ (c :: u) (σ c :: u') :=
  rel_append (rel_map hσ [c]) h

theorem firstFree_rename (hσ : Renaming reserved σ) {u u' : List String} (h : Rel σ u u') (n : String) :
    ∀ (fuel k : Nat), firstFree u' (σ n) fuel k = (firstFree u n fuel k).map σ := by
  intro fuel
  induction fuel with
  | zero => intro k; simp [firstFree, Except.map]
  | succ f ih =>
    intro k
    unfold firstFree
    rw [← hσ.cand, h.contains]
    split
    · exact ih _
    · simp [Except.map]

/-- renamed groups: same symbols, renamed key -/
def mapGroups (σ : String → String) (gs : List (String × List Sym)) : List (String × List Sym) :=
  gs.map fun g => (σ g.1, g.2)

theorem claimKept_rename (hσ : Renaming reserved σ) :
    ∀ (gs : List (String × List Sym)) {u u' : List String}, Rel σ u u' →
      Rel σ (claimKept u gs).1 (claimKept u' (mapGroups σ gs)).1 ∧
      (claimKept u' (mapGroups σ gs)).2 = (claimKept u gs).2.map σ := by
  intro gs
  induction gs with
  | nil => intro u u' h; simp [claimKept, mapGroups, h]
  | cons g r ih =>
    intro u u' h
    simp only [mapGroups, List.map_cons, claimKept, h.contains]
    split
    · have := ih (rel_cons hσ h g.1)
      simp only [mapGroups] at this
      exact ⟨this.1, by simp [this.2]⟩
    · have := ih h
      simp only [mapGroups] at this
      exact this

/-- the state of the renamed run -/
def StRel (σ : String → String) (st st' : St) : Prop :=
  Rel σ st.used st'.used ∧ st'.gen = st.gen.map σ ∧ st'.out = st.out.map fun q => (q.1, σ q.2)

/-- the two runs fail with the same message, or both succeed with related results -/
def Sim {α β : Type} (R : α → β → Prop) (x : Except String α) (y : Except String β) : Prop :=
  (∃ e, x = .error e ∧ y = .error e) ∨ (∃ r r', x = .ok r ∧ y = .ok r' ∧ R r r')

theorem assignSym_rename (hσ : Renaming reserved σ) (n : String) (keep : Bool) (s : Sym) {st st' : St}
    (h : StRel σ st st') : Sim (StRel σ) (assignSym n keep st s) (assignSym (σ n) keep st' s) := by
  unfold assignSym
  cases keep with
  | true =>
    simp only [if_true]
    refine Or.inr ⟨_, _, rfl, rfl, h.1, h.2.1, ?_⟩
    simp [h.2.2]
  | false =>
    simp only [Bool.false_eq_true, if_false]
    rw [h.1.1, firstFree_rename hσ h.1 n]
    cases hf : firstFree st.used n (st.used.length + 1) 0 with
    | error e => exact Or.inl ⟨e, rfl, by simp [Except.map]⟩
    | ok c =>
      refine Or.inr ⟨_, ⟨σ c :: st'.used, σ c :: st'.gen, st'.out ++ [(s, σ c)]⟩, rfl, by simp [Except.map], rel_cons hσ h.1 c, ?_, ?_⟩
      · simp [h.2.1]
      · simp [h.2.2]

theorem contains_map (hσ : Renaming reserved σ) (l : List String) (x : String) :
    (l.map σ).contains (σ x) = l.contains x := (rel_map hσ l).contains x

theorem flat_mapGroups (σ : String → String) (gs : List (String × List Sym)) :
    Names.flat (mapGroups σ gs) = (Names.flat gs).map fun q => (σ q.1, q.2) := by
  simp [Names.flat, mapGroups, List.flatMap_map, List.map_flatMap, Function.comp_def]

/-- the second loop of a scope, as one loop over the visited pairs -/
theorem visits_rename (hσ : Renaming reserved σ) (kept : List String) :
    ∀ (l : List (String × Sym)) {st st' : St}, StRel σ st st' →
      Sim (StRel σ) (l.foldlM (Names.visit kept) st)
        ((l.map fun q => (σ q.1, q.2)).foldlM (Names.visit (kept.map σ)) st') := by
  intro l
  induction l with
  | nil => intro st st' h; exact Or.inr ⟨st, st', rfl, rfl, h⟩
  | cons q r ih =>
    intro st st' h
    simp only [List.map_cons, List.foldlM_cons, Names.visit, contains_map hσ]
    rcases assignSym_rename hσ q.1 (kept.contains q.1) q.2 h with ⟨e, h1, h2⟩ | ⟨a, a', h1, h2, hr⟩
    · rw [h1, h2]; exact Or.inl ⟨e, rfl, rfl⟩
    · rw [h1, h2]; exact ih hr

/-- the per-scope result of the renamed run is the renamed per-scope result -/
def mapSt (σ : String → String) (st : St) (used' : List String) : St :=
  { used := used', gen := st.gen.map σ, out := st.out.map fun q => (q.1, σ q.2) }

theorem scopeRun_rename (hσ : Renaming reserved σ) (gs : List (String × List Sym)) :
    Sim (StRel σ) (scopeRun reserved gs) (scopeRun reserved (mapGroups σ gs)) := by
  unfold scopeRun
  simp only
  obtain ⟨h1, h2⟩ := claimKept_rename hσ gs (rel_reserved hσ)
  rw [h2, Names.assignGroups_flat, Names.assignGroups_flat, flat_mapGroups]
  exact visits_rename hσ _ _ ⟨h1, rfl, rfl⟩

/-- an order embedding maps the sorted key vector to the sorted key vector of the images: both are strictly sorted and
have the same members -/
theorem sortedNames_rename (hσ : Renaming reserved σ) (xs : List String) :
    sortedNames (xs.map σ) = (sortedNames xs).map σ :=
  Names.sorted_ext (Names.sortedNames_pairwise _)
    (List.pairwise_map.mpr ((Names.sortedNames_pairwise xs).imp fun h => (hσ.ord _ _).mpr h))
    fun x => by simp only [Names.mem_sortedNames, List.mem_map]

/-- the symbols filed under the renamed key are those filed under the key -/
theorem group_rename (hinj : ∀ a b, σ a = σ b → a = b) (syms : List (String × Sym)) (n : String) :
    ((syms.map fun p => (σ p.1, p.2)).filter (fun p => p.1 == σ n)).map (·.2) =
      (syms.filter (fun p => p.1 == n)).map (·.2) := by
  rw [List.filter_map, List.map_map]
  exact congrArg _ (List.filter_congr fun p _ => Bool.eq_iff_iff.mpr (by simpa using ⟨hinj _ _, congrArg σ⟩))

theorem groupsOf_rename (hσ : Renaming reserved σ) (syms : List (String × Sym)) :
    groupsOf (syms.map fun p => (σ p.1, p.2)) = mapGroups σ (groupsOf syms) := by
  unfold groupsOf groupsOfKeys mapGroups
  rw [List.map_map]
  have : (List.map ((fun x => x.1) ∘ fun p : String × Sym => (σ p.1, p.2)) syms) = (syms.map (·.1)).map σ := by
    simp [List.map_map, Function.comp]
  rw [this, sortedNames_rename hσ, List.map_map, List.map_map]
  exact List.map_congr_left fun n _ => congrArg _ (group_rename hσ.inj syms n)

/-- rename every user-chosen identifier of the module -/
def renameInput (σ : String → String) (inp : Input) : Input :=
  { nss := inp.nss.map (fun p => (p.1, σ p.2))
    entries := inp.entries.map (fun e => { e with name := σ e.name })
    used := inp.used
    locals := inp.locals.map σ }

def renameNamed (σ : String → String) (n : Named) : Named := { n with name := σ n.name }

theorem nsFrom_rename (σ : String → String) (scope : Option Nat) :
    ∀ (l : List (Option Nat × String)) (i : Nat),
      scopeSyms.nsFrom scope (l.map (fun p => (p.1, σ p.2))) i =
        (scopeSyms.nsFrom scope l i).map (fun p => (σ p.1, p.2)) := by
  intro l
  induction l with
  | nil => intro i; simp [scopeSyms.nsFrom]
  | cons a r ih =>
    intro i
    obtain ⟨p, n⟩ := a
    simp only [List.map_cons, scopeSyms.nsFrom]
    split
    · simp [ih]
    · exact ih (i + 1)

theorem scopeSyms_rename (σ : String → String) (inp : Input) (s : Option Nat) :
    scopeSyms (renameInput σ inp) s = (scopeSyms inp s).map (fun p => (σ p.1, p.2)) := by
  unfold scopeSyms renameInput
  simp only [List.map_append, nsFrom_rename, List.filter_map, List.map_map]
  congr 1

theorem checkScopes_ns_rename (σ : String → String) :
    ∀ (l : List (Option Nat × String)) (i : Nat),
      checkScopes.ns (l.map (fun p => (p.1, σ p.2))) i = checkScopes.ns l i := by
  intro l
  induction l with
  | nil => intro i; rfl
  | cons a r ih =>
    intro i
    obtain ⟨p, n⟩ := a
    simp only [List.map_cons, checkScopes.ns]
    cases p with
    | none => exact ih _
    | some q =>
      simp only
      split
      · exact ih _
      · rfl

theorem checkScopes_rename (σ : String → String) (inp : Input) :
    checkScopes (renameInput σ inp) = checkScopes inp := by
  unfold checkScopes renameInput
  simp only [checkScopes_ns_rename, List.length_map, List.all_map]
  rfl

theorem scopeIds_rename (σ : String → String) (inp : Input) : scopeIds (renameInput σ inp) = scopeIds inp := by
  simp [scopeIds, renameInput]

def outOf (scopes : List (Option Nat × St)) : List Named :=
  scopes.flatMap fun p => p.2.out.map fun q => (⟨q.1, p.1, q.2⟩ : Named)

theorem runScopes_rename (hσ : Renaming reserved σ) (inp : Input) :
    ∀ (ss : List (Option Nat)),
      Sim (fun r r' => outOf r' = (outOf r).map (renameNamed σ) ∧ r'.flatMap (·.2.gen) = (r.flatMap (·.2.gen)).map σ)
        (runScopes reserved inp ss) (runScopes reserved (renameInput σ inp) ss) := by
  intro ss
  induction ss with
  | nil => exact Or.inr ⟨[], [], rfl, rfl, rfl, rfl⟩
  | cons s rest ih =>
    unfold runScopes
    rw [scopeSyms_rename, groupsOf_rename hσ]
    rcases scopeRun_rename hσ (groupsOf (scopeSyms inp s)) with ⟨e, h1, h2⟩ | ⟨a, a', h1, h2, hr⟩
    · rw [h1, h2]; exact Or.inl ⟨e, rfl, rfl⟩
    · rw [h1, h2]
      rcases ih with ⟨e, h3, h4⟩ | ⟨r, r', h3, h4, ho, hg⟩
      · rw [h3, h4]; exact Or.inl ⟨e, rfl, rfl⟩
      · rw [h3, h4]
        refine Or.inr ⟨_, _, rfl, rfl, ?_, ?_⟩
        · simp only [outOf, List.flatMap_cons, List.map_append] at ho ⊢
          rw [ho, hr.2.2]
          simp [renameNamed, List.map_map, Function.comp]
        · simp only [List.flatMap_cons, List.map_append]
          rw [hg, hr.2.1]

theorem firstFreeLocal_rename (hσ : Renaming reserved σ) (al : List String) {ua ua' : List String} (h : Rel σ ua ua')
    (n : String) (fuel k : Nat) :
    firstFreeLocal (al.map σ) ua' (σ n) fuel k = (firstFreeLocal al ua n fuel k).map σ := by
  rw [Names.firstFreeLocal_eq, Names.firstFreeLocal_eq]
  exact firstFree_rename hσ (rel_append (rel_map hσ al) h) n fuel k

theorem assignLocals_rename (hσ : Renaming reserved σ) (al : List String) :
    ∀ (ls : List String) {ua ua' : List String}, Rel σ ua ua' →
      assignLocals (al.map σ) ua' (ls.map σ) = (assignLocals al ua ls).map (List.map σ) := by
  intro ls
  induction ls with
  | nil => intro ua ua' _; simp [assignLocals, Except.map]
  | cons n r ih =>
    intro ua ua' h
    simp only [List.map_cons, assignLocals, h.contains, List.length_map, h.1]
    split
    · rw [firstFreeLocal_rename hσ al h]
      cases hf : firstFreeLocal al ua n (al.length + ua.length + 1) 0 with
      | error e => simp [Except.map]
      | ok c =>
        simp only [Except.map]
        rw [ih (rel_cons hσ h c)]
        cases assignLocals al (c :: ua) r <;> simp [Except.map]
    · rw [ih h]
      cases assignLocals al ua r <;> simp [Except.map]

theorem numberLocals_rename (σ : String → String) :
    ∀ (ls : List String) (i : Nat), numberLocals (ls.map σ) i = (numberLocals ls i).map (renameNamed σ) := by
  intro ls
  induction ls with
  | nil => intro i; rfl
  | cons x r ih => intro i; simp [numberLocals, ih, renameNamed]

theorem usedNames_rename (σ : String → String) (inp : Input) (out : List Named) :
    usedNames (renameInput σ inp) (out.map (renameNamed σ)) = (usedNames inp out).map σ := by
  unfold usedNames
  rw [List.filterMap_map, List.map_filterMap]
  congr 1
  funext n
  simp only [Function.comp, renameNamed, renameInput, apply_ite (Option.map σ), Option.map_some, Option.map_none]
  rfl

theorem finish_rename (hσ : Renaming reserved σ) (inp : Input) {r r' : List (Option Nat × St)}
    (ho : outOf r' = (outOf r).map (renameNamed σ)) (hg : r'.flatMap (·.2.gen) = (r.flatMap (·.2.gen)).map σ) :
    finish reserved (renameInput σ inp) r' = (finish reserved inp r).map (List.map (renameNamed σ)) := by
  unfold finish
  simp only
  have ho' : (r'.flatMap fun p => p.2.out.map fun q => (⟨q.1, p.1, q.2⟩ : Named)) = (outOf r).map (renameNamed σ) := ho
  rw [ho']
  have hsyms : ((outOf r).map (renameNamed σ)).map (·.sym) = (outOf r).map (·.sym) := by
    simp [List.map_map, Function.comp, renameNamed]
  rw [hsyms]
  show (if hasDup ((outOf r).map (·.sym)) = true then _ else _) = _
  change _ = Except.map _ (if hasDup ((outOf r).map (·.sym)) = true then _ else _)
  split
  · simp [Except.map]
  · rw [usedNames_rename, hg]
    have hrel : Rel σ (reserved ++ r.flatMap (·.2.gen) ++ usedNames inp (outOf r))
        (reserved ++ (r.flatMap (·.2.gen)).map σ ++ (usedNames inp (outOf r)).map σ) :=
      rel_append (rel_append (rel_reserved hσ) (rel_map hσ _)) (rel_map hσ _)
    have := assignLocals_rename hσ inp.locals inp.locals hrel
    simp only [renameInput]
    rw [this]
    simp only [outOf, List.append_assoc]
    generalize assignLocals inp.locals _ inp.locals = A
    cases A with
    | error e => simp [Except.map]
    | ok ls => simp [Except.map, numberLocals_rename]

/-- **`NameMap::build` commutes with the renaming** -/
theorem build_rename (hσ : Renaming reserved σ) (inp : Input) :
    build reserved (renameInput σ inp) = (build reserved inp).map (List.map (renameNamed σ)) := by
  unfold build
  rw [checkScopes_rename, scopeIds_rename]
  cases checkScopes inp with
  | error e => simp [Except.map]
  | ok u =>
    simp only
    rcases runScopes_rename hσ inp (scopeIds inp) with ⟨e, h1, h2⟩ | ⟨r, r', h1, h2, ho, hg⟩
    · rw [h1, h2]; simp [Except.map]
    · rw [h1, h2]
      exact finish_rename hσ inp ho hg

/-! ### renamings that satisfy the hypotheses: putting a prefix in front of every identifier -/

theorem list_prefix_lt (p : List Char) (a b : List Char) : p ++ a < p ++ b ↔ a < b := by
  induction p with
  | nil => simp
  | cons c r ih =>
    simp only [List.cons_append, List.cons_lt_cons_iff, ih]
    constructor
    · rintro (h | ⟨_, h⟩)
      · exact absurd h (by simp)
      · exact h
    · intro h; exact Or.inr ⟨trivial, h⟩

theorem prefix_renaming (pre : String) : Renaming [] (fun n => pre ++ n) where
  inj := fun a b h => (String.append_right_inj pre).mp h
  res := fun x => by simp
  cand := fun n k => by simp [Names.cand, String.append_assoc]
  ord := fun a b => by
    rw [String.lt_iff, String.lt_iff, String.toList_append, String.toList_append]
    exact list_prefix_lt _ _ _

end RsslVerif.Lemmas.NamesRename
