import RsslVerif.Lemmas.MacroTameP
import RsslVerif.Lemmas.MacroTameSpec
import RsslVerif.Lemmas.MacroPaste
/-!
rssl pastes while it rescans a replacement list, C pastes the whole list first (`subst`) and rescans afterwards.
`PN env l ks`: reading `l` from the left and carrying out every paste gives the tokens `ks` (white space dropped), the
*paste normal form* of `l`.  `tameP_spec`: a tame list has one, and the reference expands every list that spells it, with the
hide-set conditions `Hides`, to a list that spells the model's result (`Sim`).
-/
namespace RsslVerif.Lemmas.MacroTamePSpec
open RsslVerif.Model.Macro RsslVerif.Model.MacroTame RsslVerif.Spec.CPreMacro
open RsslVerif.Lemmas.MacroTerm RsslVerif.Lemmas.MacroSubst RsslVerif.Lemmas.MacroHang RsslVerif.Lemmas.MacroTame
open RsslVerif.Lemmas.SpecExpand RsslVerif.Lemmas.MacroTameSpec
open RsslVerif.Lemmas.MacroTameP RsslVerif.Lemmas.MacroPaste

inductive PN (env : List Entry) : List PTok → List Tok → Prop
  | nil : PN env [] []
  | ws (t : PTok) (rest : List PTok) (ks : List Tok) : t.tok.isWhitespace = true → PN env rest ks → PN env (t :: rest) ks
  | tok (t : PTok) (rest : List PTok) (ks : List Tok) : t.tok.isWhitespace = false → t.tok ≠ .concat →
      splitPaste rest = none → PN env rest ks → PN env (t :: rest) (t.tok :: ks)
  | paste (t1 t2 m : PTok) (rest rest2 : List PTok) (ks : List Tok) : t1.tok.isWhitespace = false →
      splitPaste rest = some (t2, rest2) → pasteTokens t1 t2 = .ok m → OnlyDisabled env [m] →
      PN env (m :: rest2) ks → PN env (t1 :: rest) ks

/-- the hide-set conditions of `Lemmas/MacroTameSpec.lean` on a list of the reference -/
structure Hides (env : List Entry) (ls : List HTok) : Prop where
  sup : ∀ t ∈ ls, ∀ x ∈ disabledNames env, x ∈ t.hide
  sub : Exact env ls

/-- every list of the reference that spells `ks` with such hide sets expands to a list that spells `out` -/
def Sim (env : List Entry) (ks : List Tok) (out : List PTok) : Prop :=
  ∀ ls, ls.map (·.tok) = ks → Hides env ls → ∃ r, SExp (specTable env) ls r ∧ RelOut env r out

theorem firstTok_append_ws (W rest : List PTok) (h : ∀ t ∈ W, t.tok.isWhitespace = true) :
    firstTok (W ++ rest) = firstTok rest := by
  rw [firstTok_eq, firstTok_eq, trimStartAll_ws _ _ h]


theorem pasteTokens_ok_shape (l r m : PTok) (h : pasteTokens l r = .ok m) :
    (∃ a, l.tok = .id a ∨ l.tok = .int a ∨ l.tok = .punct a) ∧
    (∃ b, r.tok = .id b ∨ r.tok = .int b ∨ r.tok = .punct b) ∧ pasteTok l.tok r.tok = some m.tok ∧
    (∃ x, m.tok = .id x ∨ m.tok = .int x ∨ m.tok = .punct x) := by
  obtain ⟨_, a, b, ⟨h1, h2 | h2, hm⟩ | ⟨h1, h2, hm⟩ | ⟨h1, h2, hc, hm⟩⟩ := pasteTokens_ok l r m h
  · exact ⟨⟨a, Or.inl h1⟩, ⟨b, Or.inl h2⟩, by simp [h1, h2, hm, pasteTok], ⟨_, Or.inl hm⟩⟩
  · exact ⟨⟨a, Or.inl h1⟩, ⟨b, Or.inr (Or.inl h2)⟩, by simp [h1, h2, hm, pasteTok], ⟨_, Or.inl hm⟩⟩
  · exact ⟨⟨a, Or.inr (Or.inl h1)⟩, ⟨b, Or.inr (Or.inl h2)⟩, by simp [h1, h2, hm, pasteTok], ⟨_, Or.inr (Or.inl hm)⟩⟩
  · exact ⟨⟨a, Or.inr (Or.inr h1)⟩, ⟨b, Or.inr (Or.inr h2)⟩, by simp only [h1, h2, hm, pasteTok, hc, if_true],
      ⟨_, Or.inr (Or.inr hm)⟩⟩

theorem pn_firstTok {env : List Entry} {l : List PTok} {ks : List Tok} (h : PN env l ks) :
    firstTok l ≠ some .concat := by
  induction h with
  | nil => simp [firstTok]
  | ws t rest ks hw _ ih => simp only [firstTok, hw, if_true]; exact ih
  | tok t rest ks hw hc _ _ _ =>
    simp only [firstTok, hw]
    intro hh
    simp only [Bool.false_eq_true, if_false, Option.some.injEq] at hh
    exact hc hh
  | paste t1 t2 m rest rest2 ks hw hs hp _ _ _ =>
    simp only [firstTok, hw]
    intro hh
    simp only [Bool.false_eq_true, if_false, Option.some.injEq] at hh
    -- `pasteTokens` fails on a `Concat` operand
    obtain ⟨⟨a, ha⟩, _, _, _⟩ := pasteTokens_ok_shape _ _ _ hp
    rw [hh] at ha
    rcases ha with ha | ha | ha <;> cases ha

theorem firstTok_append_noConcat (A B : List PTok) (hA : NoConcat A) (hB : firstTok B ≠ some .concat) :
    firstTok (A ++ B) ≠ some .concat := by
  rw [firstTok_eq_head, ppTokens_append]
  cases hA' : ppTokens A with
  | nil => simpa [firstTok_eq_head] using hB
  | cons k ks =>
    obtain ⟨t, ht, htk⟩ := mem_ppTokens (l := A) (k := k) (by rw [hA']; simp)
    simpa [← htk] using hA t ht

theorem pn_append (env : List Entry) (A B : List PTok) (ks : List Tok) (hA : NoConcat A)
    (hB : firstTok B ≠ some .concat) (h : PN env B ks) : PN env (A ++ B) (ppTokens A ++ ks) := by
  induction A with
  | nil => simpa [ppTokens_nil] using h
  | cons t r ih =>
    have hr : NoConcat r := fun x hx => hA x (by simp [hx])
    by_cases hw : t.tok.isWhitespace = true
    · rw [List.cons_append, ppTokens_cons_ws t r hw]
      exact PN.ws t _ _ hw (ih hr)
    · have hw' : t.tok.isWhitespace = false := by simpa using hw
      rw [List.cons_append, ppTokens_cons t r hw', List.cons_append]
      exact PN.tok t _ _ hw' (hA t (by simp))
        (splitPaste_none_of_firstTok _ (firstTok_append_noConcat r B hr hB)) (ih hr)

theorem pn_noConcat_eq {env : List Entry} {A : List PTok} {ks : List Tok} (hA : NoConcat A) (h : PN env A ks) :
    ks = ppTokens A := by
  induction h with
  | nil => rfl
  | ws t rest ks hw _ ih => rw [ppTokens_cons_ws t rest hw]; exact ih (fun x hx => hA x (by simp [hx]))
  | tok t rest ks hw _ _ _ ih =>
    rw [ppTokens_cons t rest hw, ih (fun x hx => hA x (by simp [hx]))]
  | paste t1 t2 m rest rest2 ks _ hs _ _ _ _ =>
    exfalso
    obtain ⟨W1, c, W2, hrest, hc, _⟩ := splitPaste_spec rest rest2 t2 hs
    exact hA c (by rw [hrest]; simp) hc

theorem tameP_allKept {env : List Entry} {a a' : List PTok} (h : TameP env a a') :
    AllKept env a → NoConcat a → a' = a := by
  induction h with
  | nil env => intro _ _; rfl
  | keep env t rest out _ _ _ ih => intro hk hnc; rw [ih hk.2 (fun x hx => hnc x (by simp [hx]))]
  | paste env t1 t2 m rest rest2 out _ hs _ _ _ _ _ =>
    intro _ hnc
    exfalso
    obtain ⟨W1, c, W2, hrest, hc, _, _, _, _⟩ := splitPaste_spec rest rest2 t2 hs
    exact hnc c (by rw [hrest]; simp) hc
  | invoke env n b rest mi e rest' args args' body' R out hsel hra _ _ _ _ _ _ _ _ _ _ _ _ =>
    intro hk _
    exfalso
    rcases hk.1.2 n rfl e (List.mem_of_getElem? hsel.get) hsel.name with hd | ⟨hf, hsp⟩
    · rw [hsel.enabled] at hd; cases hd
    · obtain ⟨bb, tail, htrim, _, _⟩ := readArgs_function e.m rest rest' args hf hra
      rw [(startsParen_iff rest).mpr ⟨bb, tail, htrim⟩] at hsp
      cases hsp

theorem allKept_of_onlyDisabled {env : List Entry} : ∀ {a : List PTok}, OnlyDisabled env a → NoConcat a → AllKept env a
  | [], _, _ => trivial
  | t :: _, hod, hnc =>
    ⟨⟨hnc t (by simp), fun n hn e he hname => Or.inl (hod t (by simp) n hn e he hname)⟩,
      allKept_of_onlyDisabled (fun x hx => hod x (by simp [hx])) (fun x hx => hnc x (by simp [hx]))⟩

/-- the reference's items (after `replaceParams`) against the model's substituted replacement list.  Before the hide set
of the invocation is added, a token item is `ExactTok`: its hide set names disabled entries only (empty for a token of
the replacement list; the hide set of the tokens around the invocation for a token of an argument in which nothing was
expanded), or it names no enabled macro (it came out of an expanded argument, or out of a paste) -/
inductive ItemsAl (env : List Entry) : List Item → List PTok → Prop
  | nil : ItemsAl env [] []
  | ws (t : PTok) (rest : List PTok) (items : List Item) : t.tok.isWhitespace = true → ItemsAl env items rest →
      ItemsAl env items (t :: rest)
  | cc (t : PTok) (rest : List PTok) (items : List Item) : t.tok = .concat → ItemsAl env items rest →
      ItemsAl env (.paste :: items) (t :: rest)
  | tk (t : PTok) (rest : List PTok) (items : List Item) (s : HTok) : t.tok.isWhitespace = false → t.tok ≠ .concat →
      s.tok = t.tok → ExactTok env s → ItemsAl env items rest → ItemsAl env (.tok s :: items) (t :: rest)

theorem doPastes_nil (done : List Item) : doPastes done [] = .ok done.reverse := by
  rw [doPastes]

theorem doPastes_tok (done : List Item) (s : HTok) (rest : List Item) :
    doPastes done (.tok s :: rest) = doPastes (.tok s :: done) rest := by
  rw [doPastes]
  intro h; cases h

theorem doPastes_paste (done : List Item) (a b : HTok) (rest : List Item) (k : Tok)
    (h : pasteTok a.tok b.tok = some k) :
    doPastes (.tok a :: done) (.paste :: .tok b :: rest) =
      doPastes done (.tok ⟨k, a.hide.filter (b.hide.contains ·)⟩ :: rest) := by
  rw [doPastes]
  simp [pasteItems, h]

theorem itemsAl_ws_prefix {env : List Entry} (W rest : List PTok) (items : List Item)
    (hW : ∀ t ∈ W, t.tok.isWhitespace = true) (h : ItemsAl env items (W ++ rest)) : ItemsAl env items rest := by
  induction W with
  | nil => exact h
  | cons w ws ih =>
    have hw := hW w (by simp)
    rw [List.cons_append] at h
    cases h with
    | ws _ _ _ _ h' => exact ih (fun t ht => hW t (by simp [ht])) h'
    | cc _ _ _ hc _ => rw [hc] at hw; cases hw
    | tk _ _ _ _ hnw _ _ _ _ => rw [hw] at hnw; cases hnw

theorem itemsAl_splitPaste {env : List Entry} (rest rest2 : List PTok) (t2 : PTok) (items : List Item)
    (hs : splitPaste rest = some (t2, rest2)) (h : ItemsAl env items rest) :
    ∃ s2 items2, items = .paste :: .tok s2 :: items2 ∧ s2.tok = t2.tok ∧ ItemsAl env items2 rest2 := by
  obtain ⟨W1, c, W2, hrest, hc, hw1, hw2, ht2, ht2c⟩ := splitPaste_spec rest rest2 t2 hs
  rw [hrest] at h
  have h1 := itemsAl_ws_prefix W1 _ items hw1 h
  cases h1 with
  | ws _ _ _ hw _ => rw [hc] at hw; cases hw
  | tk _ _ _ _ _ hnc _ _ _ => exact absurd hc hnc
  | cc _ _ items1 _ h2 =>
    have h3 := itemsAl_ws_prefix W2 _ items1 hw2 h2
    cases h3 with
    | ws _ _ _ hw _ => rw [ht2] at hw; cases hw
    | cc _ _ _ hcc _ => exact absurd hcc ht2c
    | tk _ _ items2 s2 _ _ hs2 _ h4 => exact ⟨s2, items2, rfl, hs2, h4⟩

def itemTokOf : Item → Option Tok
  | .tok s => some s.tok
  | _ => none

/-- **`doPastes` carries out exactly the pastes of the paste normal form**, left to right; what it leaves are token
items that spell the normal form, each an item of the input or a merged one -/
theorem doPastes_pn {env : List Entry} {l : List PTok} {ks : List Tok} (hpn : PN env l ks) :
    ∀ (items : List Item), ItemsAl env items l →
    ∀ done, ∃ out : List HTok, doPastes done items = .ok (done.reverse ++ out.map Item.tok) ∧
      out.map (·.tok) = ks ∧ Exact env out := by
  induction hpn with
  | nil =>
    intro items hal done
    cases hal
    exact ⟨[], by simp [doPastes_nil], rfl, fun s hs => (by cases hs)⟩
  | ws t rest ks hw _ ih =>
    intro items hal done
    cases hal with
    | ws _ _ _ _ h' => exact ih items h' done
    | cc _ _ _ hc _ => rw [hc] at hw; cases hw
    | tk _ _ _ _ hnw _ _ _ _ => rw [hw] at hnw; cases hnw
  | tok t rest ks hw hc _ _ ih =>
    intro items hal done
    cases hal with
    | ws _ _ _ hw' _ => rw [hw] at hw'; cases hw'
    | cc _ _ _ hcc _ => exact absurd hcc hc
    | tk _ _ items' s _ _ hs hex h' =>
      obtain ⟨out, h1, h2, h3⟩ := ih items' h' (.tok s :: done)
      refine ⟨s :: out, ?_, by simp [hs, h2], List.forall_mem_cons.mpr ⟨hex, h3⟩⟩
      rw [doPastes_tok, h1]; simp
  | paste t1 t2 m rest rest2 ks hw hs hp hod _ ih =>
    intro items hal done
    cases hal with
    | ws _ _ _ hw' _ => rw [hw] at hw'; cases hw'
    | cc _ _ _ hcc _ =>
      obtain ⟨⟨a, ha⟩, _, _, _⟩ := pasteTokens_ok_shape _ _ _ hp
      rw [hcc] at ha
      rcases ha with ha | ha | ha <;> cases ha
    | tk _ _ items1 s1 _ _ hs1 _ h' =>
      obtain ⟨s2, items2, hitems, hs2, h2⟩ := itemsAl_splitPaste rest rest2 t2 items1 hs h'
      subst hitems
      obtain ⟨_, _, hpt, hmk⟩ := pasteTokens_ok_shape _ _ _ hp
      have hpt' : pasteTok s1.tok s2.tok = some m.tok := by rw [hs1, hs2]; exact hpt
      have hmw : m.tok.isWhitespace = false ∧ m.tok ≠ .concat := by
        obtain ⟨x, hx | hx | hx⟩ := hmk <;> simp [hx, Tok.isWhitespace]
      -- the merged token names no enabled macro
      obtain ⟨out, h1, h2', h3⟩ := ih _ (ItemsAl.tk m rest2 items2 ⟨m.tok, s1.hide.filter (s2.hide.contains ·)⟩ hmw.1 hmw.2 rfl
        (fun n hn ⟨e, he, hname, hen⟩ => by rw [hod m (by simp) n hn e he hname] at hen; cases hen) h2) done
      refine ⟨out, ?_, h2', h3⟩
      rw [doPastes_tok, doPastes_paste done s1 s2 items2 m.tok hpt', h1]


/-- the last token passed that is not white space -/
def nextPrev (prev : Option Tok) (t : PTok) : Option Tok := if t.tok.isWhitespace then prev else some t.tok

structure BodyOK (np : Nat) (mb : List PTok) : Prop where
  noHash : ∀ t ∈ mb, t.tok ≠ .hashhash
  noParamName : ∀ t ∈ mb, ∀ s, t.tok = .id s → ∀ i, s ≠ paramName i
  argRange : ∀ t ∈ mb, ∀ i, t.tok = .arg i → i < np

theorem BodyOK.tail {np : Nat} {t : PTok} {r : List PTok} (h : BodyOK np (t :: r)) : BodyOK np r :=
  ⟨fun x hx => h.noHash x (by simp [hx]), fun x hx => h.noParamName x (by simp [hx]),
   fun x hx => h.argRange x (by simp [hx])⟩

theorem specBodyTok_eq_hashhash {k : Tok} (h : k ≠ .hashhash) : specBodyTok k = .hashhash ↔ k = .concat := by
  fun_cases specBodyTok k
  · simp
  · simp
  · rename_i hc; exact ⟨fun hh => absurd hh h, fun hh => (hc hh).elim⟩

/-- what a tame derivation yields is what the loop returns, and the loop returns no `Concat` token -/
theorem tameP_out_noConcat {env : List Entry} {l out : List PTok} (h : TameP env l out) : NoConcat out :=
  ((applyLoop_ok env l SearchPos.start).2 noConcat_nil).2 out
    (by simpa using tameP_model h l SearchPos.start 0 rfl (At.start _ _))

/-- the reference's list `l` stands for the model's argument `a'`: it spells it, white space aside, with `Exact` hide sets -/
def Stands (env' : List Entry) (l : List HTok) (a' : List PTok) : Prop :=
  l.map (·.tok) = ppTokens a' ∧ Exact env' l

theorem itemsAl_append_arg {env : List Entry} (ls : List HTok) (a rest : List PTok) (items : List Item)
    (hst : Stands env ls a) (hnc : NoConcat a) (h : ItemsAl env items rest) :
    ItemsAl env (ls.map Item.tok ++ items) (a ++ rest) := by
  obtain ⟨htok, hex⟩ := hst
  induction a generalizing ls with
  | nil =>
    have : ls = [] := by simpa [ppTokens_nil] using htok
    subst this; exact h
  | cons t r ih =>
    have hr : NoConcat r := fun x hx => hnc x (by simp [hx])
    by_cases hw : t.tok.isWhitespace = true
    · rw [ppTokens_cons_ws t r hw] at htok
      exact ItemsAl.ws t _ _ hw (ih ls hr htok hex)
    · have hw' : t.tok.isWhitespace = false := by simpa using hw
      rw [ppTokens_cons t r hw'] at htok
      obtain ⟨s, ls', rfl, hst, htok'⟩ := List.map_eq_cons_iff.mp htok
      obtain ⟨hs, hex'⟩ := List.forall_mem_cons.mp hex
      exact ItemsAl.tk t _ _ s hw' (hnc t (by simp)) hst hs (ih ls' hr htok' hex')


theorem pasteParams_tail (prev : Option Tok) (t : PTok) (r : List PTok) (j : Nat)
    (h : j ∈ pasteParams (nextPrev prev t) r) : j ∈ pasteParams prev (t :: r) := by
  rw [pasteParams]
  unfold nextPrev at h
  split
  · split
    · exact List.mem_cons_of_mem _ h
    · exact h
  · exact h

theorem specBodyTok_plain (k : Tok) (h1 : ∀ i, k ≠ .arg i) (h2 : k ≠ .concat) : specBodyTok k = k := by
  fun_cases specBodyTok k
  · exact absurd rfl (h1 _)
  · exact absurd rfl h2
  · rfl

theorem replaceParams_items (env' : List Entry) (np : Nat) (largs eargs : List (List HTok)) (args' : List (List PTok))
    (hnc : ∀ (i : Nat) (a' : List PTok), args'[i]? = some a' → NoConcat a')
    (hexp : ∀ i, i < np → Stands env' (eargs.getD i []) (args'.getD i [])) (mb : List PTok) :
    ∀ (prev : Option Tok) (body' : List PTok), BodyOK np mb → prev ≠ some .hashhash →
      substitute mb args' = .ok body' →
      (∀ i ∈ pasteParams prev mb, (largs.getD i []).isEmpty = false ∧ Stands env' (largs.getD i []) (args'.getD i [])) →
      ∃ items : List Item,
        (∀ ex : List HTok → Except SErr (List HTok),
          (∀ i, i < np → ∃ ea, eargs[i]? = some ea ∧ ex (largs.getD i []) = .ok ea) →
          replaceParams ex (paramNames np) largs (prev.map specBodyTok) ((ppTokens mb).map specBodyTok) = .ok items) ∧
        ItemsAl env' items body' := by
  induction mb with
  | nil =>
    intro prev body' _ _ h _
    simp only [substitute] at h; cases h
    exact ⟨[], fun _ _ => rfl, ItemsAl.nil⟩
  | cons t r ih =>
    intro prev body' hb hprevne h hraw
    have htail : ∀ i ∈ pasteParams (nextPrev prev t) r, i ∈ pasteParams prev (t :: r) :=
      fun i hi => pasteParams_tail prev t r i hi
    by_cases hw : t.tok.isWhitespace = true
    · -- white space: no item, stays in the model's list
      have hna : ∀ i, t.tok ≠ .arg i := fun i hh => by rw [hh] at hw; cases hw
      obtain ⟨r', hs, ⟨i, _, hi, _⟩ | ⟨_, rfl⟩⟩ := substitute_cons_ok h
      · exact absurd hi (hna i)
      obtain ⟨items, h1, h2⟩ := ih prev r' hb.tail hprevne hs
        (fun i hi => hraw i (htail i (by simpa [nextPrev, hw] using hi)))
      exact ⟨items, fun ex hex => by rw [ppTokens_cons_ws t r hw]; exact h1 ex hex, ItemsAl.ws t r' _ hw h2⟩
    · have hw' : t.tok.isWhitespace = false := by simpa using hw
      have htne : t.tok ≠ .hashhash := hb.noHash t (by simp)
      have hprev : (prev.map specBodyTok = some Tok.hashhash) ↔ prev = some .concat := by
        cases prev with
        | none => simp
        | some k =>
          have := specBodyTok_eq_hashhash (k := k) (fun hh => hprevne (by rw [hh]))
          simp [this]
      have hnext : (((ppTokens r).map specBodyTok).head? = some Tok.hashhash) ↔ firstTok r = some .concat := by
        rw [firstTok_eq_head]
        cases hpp : ppTokens r with
        | nil => simp
        | cons k ks =>
          obtain ⟨x, hx, hxk⟩ := mem_ppTokens (l := r) (k := k) (by rw [hpp]; simp)
          have := specBodyTok_eq_hashhash (k := k) (by rw [← hxk]; exact hb.noHash x (by simp [hx]))
          simp [this]
      have hrawtail : ∀ i ∈ pasteParams (some t.tok) r,
          (largs.getD i []).isEmpty = false ∧ Stands env' (largs.getD i []) (args'.getD i []) :=
        fun i hi => hraw i (htail i (by simpa [nextPrev, hw'] using hi))
      -- the rest of the list, with `t` as the token passed last
      obtain ⟨r', hs, hhead⟩ := substitute_cons_ok h
      obtain ⟨items, h1, h2⟩ := ih (some t.tok) r' hb.tail (by simpa using htne) hs hrawtail
      simp only [Option.map_some] at h1
      rcases hhead with ⟨i, a, hti, hget, rfl⟩ | ⟨hnarg, rfl⟩
      · -- a parameter: the raw argument next to `##`, the expanded one elsewhere
        have hi : i < np := hb.argRange t (by simp) i hti
        have hgd : args'.getD i [] = a := by simp [List.getD, hget]
        have hne1 : specBodyTok (Tok.arg i) ≠ .hashhash := by simp [specBodyTok]
        -- the reference tests "next to `##`" on its own tokens
        have hntp : (decide (prev.map specBodyTok = some Tok.hashhash) ||
            decide (((ppTokens r).map specBodyTok).head? = some Tok.hashhash)) =
            (prev == some .concat || firstTok r == some .concat) := by
          simp only [hprev, hnext, Bool.beq_eq_decide_eq]
        cases hadj : (prev == some .concat || firstTok r == some .concat) with
        | true =>
          obtain ⟨hnemp, hst⟩ := hraw i (by
            rw [pasteParams]; simp only [hti, hadj, if_true]; exact List.mem_cons_self)
          refine ⟨(largs.getD i []).map Item.tok ++ items, fun ex hex => ?_,
            itemsAl_append_arg _ a r' _ (hgd ▸ hst) (hnc i a hget) h2⟩
          have := h1 ex hex
          rw [hti] at this
          rw [ppTokens_cons t r hw', List.map_cons, hti]
          unfold replaceParams
          simp only [hne1, if_false, paramIndex_arg np i hi, this, hntp, hadj, if_true, hnemp, Bool.false_eq_true]
        | false =>
          refine ⟨(eargs.getD i []).map Item.tok ++ items, fun ex hex => ?_,
            itemsAl_append_arg _ a r' _ (hgd ▸ hexp i hi) (hnc i a hget) h2⟩
          obtain ⟨ea, hea, hexa⟩ := hex i hi
          have := h1 ex hex
          rw [hti] at this
          rw [ppTokens_cons t r hw', List.map_cons, hti]
          unfold replaceParams
          simp only [hne1, if_false, paramIndex_arg np i hi, this, hntp, hadj, Bool.false_eq_true, hexa]
          simp [List.getD, hea]
      · by_cases hc : t.tok = .concat
        · -- the operator
          refine ⟨.paste :: items, fun ex hex => ?_, ItemsAl.cc t r' _ hc h2⟩
          have := h1 ex hex
          rw [hc] at this
          rw [ppTokens_cons t r hw', List.map_cons, hc]
          have hsb : specBodyTok Tok.concat = .hashhash := rfl
          rw [hsb] at this ⊢
          unfold replaceParams
          simp only [if_true, this]
          rfl
        · -- a token of the replacement list: no paint
          have hpl : specBodyTok t.tok = t.tok := specBodyTok_plain t.tok hnarg hc
          refine ⟨.tok ⟨t.tok, []⟩ :: items, fun ex hex => ?_,
            ItemsAl.tk t r' _ _ hw' hc rfl (fun _ _ _ x hx => by cases hx) h2⟩
          have := h1 ex hex
          have hpi := paramIndex_other np t.tok hnarg (fun s hs i => hb.noParamName t (by simp) s hs i)
          rw [ppTokens_cons t r hw', List.map_cons]
          unfold replaceParams
          rw [hpl] at hpi this ⊢
          simp only [htne, if_false, hpi, this]
          rfl

/-- **`subst` on a replacement list with `##`**: the result spells the paste normal form of the replacement list as
the model substituted it, with `Exact` hide sets -/
theorem subst_paste (env' : List Entry) (m : Macro) (np : Nat)
    (hparams : (ofMacro m).params.getD [] = paramNames np) (largs eargs : List (List HTok))
    (args' : List (List PTok)) (hsNew : List String) (body' : List PTok) (ks : List Tok)
    (hbody : BodyOK np m.body) (hsub : substitute m.body args' = .ok body')
    (hncargs : ∀ (i : Nat) (a' : List PTok), args'[i]? = some a' → NoConcat a')
    (hexp : ∀ i, i < np → Stands env' (eargs.getD i []) (args'.getD i []))
    (hraw : ∀ i ∈ pasteParams none m.body,
      (largs.getD i []).isEmpty = false ∧ Stands env' (largs.getD i []) (args'.getD i []))
    (hpn : PN env' body' ks) :
    ∃ out : List HTok,
      (∀ ex : List HTok → Except SErr (List HTok),
        (∀ i, i < np → ∃ ea, eargs[i]? = some ea ∧ ex (largs.getD i []) = .ok ea) →
        subst ex (ofMacro m) largs hsNew = .ok (out.map (fun s => ⟨s.tok, s.hide ++ hsNew⟩))) ∧
      out.map (·.tok) = ks ∧ Exact env' out := by
  obtain ⟨items, hrp, hal⟩ :=
    replaceParams_items env' np largs eargs args' hncargs hexp m.body none body' hbody (by simp) hsub hraw
  obtain ⟨out, hdp, hks, hgood'⟩ := doPastes_pn hpn _ hal []
  refine ⟨out, fun ex hex => ?_, hks, hgood'⟩
  have := hrp ex hex
  simp only [Option.map_none] at this
  unfold subst
  rw [hparams, show (ofMacro m).body = (ppTokens m.body).map specBodyTok from rfl, this]
  simp only
  rw [hdp]
  simp [List.filterMap_map, Function.comp_def]

theorem pn_head_lparen {env : List Entry} {l : List PTok} {ks : List Tok} (h : PN env l ks) :
    ∀ ks', ks = Tok.lparen :: ks' → firstTok l = some .lparen := by
  induction h with
  | nil => intro ks' hh; cases hh
  | ws t rest ks hw _ ih => intro ks' hh; simp only [firstTok, hw, if_true]; exact ih ks' hh
  | tok t rest ks hw _ _ _ _ =>
    intro ks' hh
    simp only [List.cons.injEq] at hh
    simp only [firstTok, hh.1]
    rfl
  | paste t1 t2 m rest rest2 ks hw _ hp _ _ ih =>
    intro ks' hh
    have := ih ks' hh
    obtain ⟨_, _, _, ⟨x, hx⟩⟩ := pasteTokens_ok_shape _ _ _ hp
    have hmw : m.tok.isWhitespace = false := by rcases hx with hx | hx | hx <;> simp [hx, Tok.isWhitespace]
    simp only [firstTok, hmw, Bool.false_eq_true, if_false, Option.some.injEq] at this
    rcases hx with hx | hx | hx <;> rw [hx] at this <;> cases this



theorem startsParen_of_pn {env : List Entry} {rest : List PTok} {ls' : List HTok} (hpn : PN env rest (ls'.map (·.tok)))
    (h : List String) (rest'' : List HTok) (heq : ls' = ⟨.lparen, h⟩ :: rest'') : startsParen rest = true := by
  unfold startsParen
  rw [pn_head_lparen hpn (rest''.map (·.tok)) (by rw [heq]; rfl)]
  rfl

theorem wfP_disable {env : List Entry} {mi : Nat} (h : ∀ e ∈ env, WFMacroP e.m) :
    ∀ e ∈ disable env mi, WFMacroP e.m := by
  intro e he
  obtain ⟨e0, he0, hm, _⟩ := mem_disable he
  rw [hm]; exact h e0 he0

theorem mem_pasteParams_arg (mb : List PTok) : ∀ (prev : Option Tok) (i : Nat), i ∈ pasteParams prev mb →
    ∃ t ∈ mb, t.tok = .arg i := by
  intro prev i h
  fun_induction pasteParams prev mb
  case case1 => cases h
  case case2 t _ _ j hj _ ih =>
    rcases List.mem_cons.mp h with rfl | h
    · exact ⟨t, by simp, hj⟩
    · obtain ⟨x, hx, hxk⟩ := ih h; exact ⟨x, by simp [hx], hxk⟩
  case case3 ih | case4 ih => obtain ⟨x, hx, hxk⟩ := ih h; exact ⟨x, by simp [hx], hxk⟩

/-- the token at the end of the expanded replacement list is kept when the rest of the source follows it -/
theorem keep_tailP {env : List Entry} {n : String} {mi : Nat} {e : Entry} (hsel : Selects env n mi e)
    (Rs r0 : List HTok) (g : HTok) (R rest' : List PTok) (lrest : List HTok)
    (hRs : Rs = r0 ++ [g]) (hroR : RelOut (disable env mi) Rs R) (hkeep : KeepS (specTable env) g [])
    (hnf : NoFire env mi R rest') (hrest : PN env rest' (lrest.map (·.tok))) :
    KeepS (specTable env) g lrest := by
  intro x hx
  rcases hkeep x hx with h | h | ⟨m, ps, hfind, hpar, _⟩
  · exact Or.inl h
  · exact Or.inr (Or.inl h)
  · by_cases hlp : ∃ h rest'', lrest = ⟨.lparen, h⟩ :: rest''
    · left
      obtain ⟨h0, rest'', hl⟩ := hlp
      have hsp : startsParen rest' = true := startsParen_of_pn hrest h0 rest'' hl
      obtain ⟨ex, hex, hm, hname⟩ := find_specTable_some hfind
      have hfn : ex.m.isFunction = true := by
        rw [hm] at hpar
        cases hf : ex.m.isFunction with
        | true => rfl
        | false => simp [ofMacro, hf] at hpar
      obtain ⟨j, hj⟩ := List.mem_iff_getElem?.mp hex
      have hpp : ppTokens R = r0.map (·.tok) ++ [Tok.id x] := by
        rw [← hroR.toks, hRs, List.map_append, List.map_cons, hx]; rfl
      obtain ⟨R0, b, R1, hR, hws⟩ := last_tok_split R _ _ hpp
      have hg : g ∈ Rs := by rw [hRs]; simp
      have hin : x ∈ g.hide := by
        apply hroR.sup g hg
        rw [disabledNames_disable hsel.get]
        rcases hnf R0 x b R1 hR hws hsp j ex hj hname hfn with hd | hjm
        · exact Or.inr (mem_disabledNames.mpr ⟨ex, hex, hd, hname⟩)
        · subst hjm
          rw [hsel.get] at hj
          cases hj
          exact Or.inl hname.symm
      simpa using hin
    · right; right
      exact ⟨m, ps, hfind, hpar, fun h rest'' heq => hlp ⟨h, rest'', heq⟩⟩

theorem invoke_tailP {env : List Entry} {n : String} {mi : Nat} {e : Entry} (hsel : Selects env n mi e)
    (b Rs : List HTok) (R rest' out : List PTok) (lrest r2 : List HTok)
    (hsR : SExp (specTable env) b Rs) (hroR : RelOut (disable env mi) Rs R) (hnf : NoFire env mi R rest')
    (hs2 : SExp (specTable env) lrest r2) (hro2 : RelOut env r2 out) (hrest : PN env rest' (lrest.map (·.tok))) :
    SExp (specTable env) (b ++ lrest) (Rs ++ r2) ∧ RelOut env (Rs ++ r2) (R ++ out) := by
  obtain ⟨r0, tail, hRs, hlen, hkeep, hctx⟩ := sexp_context hsR
  have htail : SExp (specTable env) (tail ++ lrest) (tail ++ r2) := by
    cases tail with
    | nil => exact hs2
    | cons g tl =>
      have : tl = [] := by
        cases tl with
        | nil => rfl
        | cons _ _ => simp at hlen
      subst this
      exact SExp.keep g lrest r2
        (keep_tailP hsel Rs r0 g R rest' lrest hRs hroR (hkeep g (by simp)) hnf hrest) hs2
  have h1 := hctx lrest (tail ++ r2) htail
  rw [← List.append_assoc, ← hRs] at h1
  refine ⟨h1, ?_, ?_⟩
  · rw [List.map_append, ppTokens_append, hroR.toks, hro2.toks]
  · intro t ht x hx
    rcases List.mem_append.mp ht with h | h
    · apply hroR.sup t h
      rw [disabledNames_disable hsel.get]
      exact Or.inr hx
    · exact hro2.sup t h x hx

theorem hides_body {env : List Entry} {n : String} {mi : Nat} {e : Entry} (hsel : Selects env n mi e)
    (hs : List String) (out : List HTok)
    (hsup : ∀ x ∈ disabledNames env, x ∈ hs) (hsub : ∀ x ∈ hs, x ∈ disabledNames env)
    (hgood : Exact (disable env mi) out) :
    Hides (disable env mi) (out.map (fun s => ⟨s.tok, s.hide ++ n :: hs⟩)) := by
  have hdn : ∀ x, x ∈ disabledNames (disable env mi) ↔ x ∈ n :: hs := by
    intro x
    rw [disabledNames_disable hsel.get, hsel.name, List.mem_cons]
    exact or_congr_right ⟨hsup x, hsub x⟩
  refine ⟨?_, ?_⟩
  · intro t ht x hx
    obtain ⟨s, _, rfl⟩ := List.mem_map.mp ht
    exact List.mem_append_right _ ((hdn x).mp hx)
  · intro t ht k hk hen y hy
    obtain ⟨s, hs', rfl⟩ := List.mem_map.mp ht
    rcases List.mem_append.mp hy with hy | hy
    · exact hgood s hs' k hk hen y hy
    · exact (hdn y).mpr hy


/-- a list that names disabled entries only is `Exact` for an empty reason -/
theorem exact_of_onlyDisabled {env : List Entry} {mi : Nat} (a' : List PTok) (ea : List HTok)
    (hod : OnlyDisabled env a') (htok : ea.map (·.tok) = ppTokens a') : Exact (disable env mi) ea := by
  intro s hs k hk ⟨e', he', hname, hen⟩
  have hmem : Tok.id k ∈ ppTokens a' := by
    rw [← htok, ← hk]; exact List.mem_map.mpr ⟨s, hs, rfl⟩
  obtain ⟨pt, hpt, hptk⟩ := mem_ppTokens hmem
  obtain ⟨e0, he0, hm, himp⟩ := mem_disable he'
  rw [himp (hod pt hpt k hptk e0 he0 (by rw [← hm]; exact hname))] at hen
  cases hen

/-- the tokens of an argument in which nothing was expanded keep the hide set of the tokens around the invocation -/
theorem exact_disable {env : List Entry} {n : String} {mi : Nat} {e : Entry} (hsel : Selects env n mi e)
    (ea : List HTok) (hex : Exact env ea) : Exact (disable env mi) ea := by
  intro s hs k hk ⟨e', he', hname, hen⟩ x hx
  obtain ⟨e0, he0, hm, himp⟩ := mem_disable he'
  rw [disabledNames_disable hsel.get]
  refine Or.inr (hex s hs k hk ⟨e0, he0, by rw [← hm]; exact hname, ?_⟩ x hx)
  cases hd : e0.disabled with
  | false => rfl
  | true => rw [himp hd] at hen; cases hen

/-- an expanded argument stands for what the model expanded it to -/
theorem arg_stands {env : List Entry} {n : String} {mi : Nat} {e : Entry} (hsel : Selects env n mi e)
    {ea : List HTok} {a' : List PTok} (hro : RelOut env ea a') (hok : OnlyDisabled env a' ∨ Exact env ea) :
    Stands (disable env mi) ea a' :=
  ⟨hro.toks, hok.elim (fun hd => exact_of_onlyDisabled a' ea hd hro.toks) (exact_disable hsel ea)⟩

/-- a raw argument next to `##` stands for what the model expanded it to (itself) -/
theorem rawarg_stands {env : List Entry} {mi : Nat} {la : List HTok} {a a' : List PTok}
    (hla : la.map (·.tok) = ppTokens a) (htame : TameP env a a') (hod : OnlyDisabled env a) (hnc : NoConcat a)
    (hne : nonEmptyB a = true) : la.isEmpty = false ∧ Stands (disable env mi) la a' := by
  rw [tameP_allKept htame (allKept_of_onlyDisabled hod hnc) hnc]
  refine ⟨?_, hla, exact_of_onlyDisabled a la hod hla⟩
  cases la with
  | cons _ _ => rfl
  | nil =>
    have hws := ppTokens_eq_nil_iff.mp hla.symm
    unfold nonEmptyB at hne
    rw [List.any_eq_true] at hne
    obtain ⟨x, hx, hxw⟩ := hne
    rw [hws x hx] at hxw
    cases hxw

/-- **the reference reads the same argument list.**  Behind the name of a function-like macro whose arguments `readArgs`
reads, the reference's list is `(`, the tokens of the argument list (`lreg`) and a list that spells what `readArgs` leaves;
`collectArgs` collects arguments that spell the model's, and `fixArgs` passes on the first `numParams` of them (all of
them, except the one empty argument of a macro without parameters) -/
theorem readArgs_collect (m : Macro) (hfn : m.isFunction = true) (rest rest' : List PTok)
    (args : List (List PTok)) (hra : readArgs m rest = .ok (rest', args)) (blanks init : List PTok) (bl br : Bool)
    (hblank : ∀ t ∈ blanks, t.tok.isWhitespace = true) (hscan : scanArgs (init ++ [⟨.rparen, br⟩]) [] [] 0 = .ok ([], args))
    (ls' : List HTok) (ks : List Tok)
    (hls : ls'.map (·.tok) = ppTokens (blanks ++ ⟨.lparen, bl⟩ :: (init ++ [⟨.rparen, br⟩])) ++ ks) :
    ∃ lph lreg lrest largs hs',
      ls' = ⟨.lparen, lph⟩ :: (lreg ++ lrest) ∧ lrest.map (·.tok) = ks ∧
      collectArgs (lreg ++ lrest) 0 [] [] = some (largs, hs', lrest) ∧ (∃ tr ∈ lreg, tr.hide = hs') ∧
      (fixArgs (paramNames m.numParams) largs).length = m.numParams ∧
      ∀ (i : Nat) (la : List HTok), (fixArgs (paramNames m.numParams) largs)[i]? = some la →
        (∀ t ∈ la, t ∈ lreg) ∧ ∃ a, args[i]? = some a ∧ la.map (·.tok) = ppTokens a := by
  obtain ⟨_, _, _, _, har⟩ := readArgs_function m rest rest' args hfn hra
  rw [ppTokens_append, ppTokens_eq_nil_iff.mpr hblank, List.nil_append, ppTokens_cons _ _ (by rfl)] at hls
  obtain ⟨lmid, lrest, hls', hlmid, hlrest⟩ := List.map_eq_append_iff.mp hls
  obtain ⟨⟨_, lph⟩, lreg, rfl, rfl, hlreg⟩ := List.map_eq_cons_iff.mp hlmid
  obtain ⟨largs, hs', lrest0, hcoll0, hlrest0, hargsrel⟩ :=
    scanArgs_collect (init ++ [⟨.rparen, br⟩]) [] [] 0 [] args hscan lreg [] [] hlreg rfl argsRel_nil
  obtain ⟨hmemargs, htr⟩ := collectArgs_mem lreg 0 [] [] hcoll0
  have hl0 : lrest0 = [] := by simpa [ppTokens_nil] using hlrest0
  subst hl0
  obtain ⟨hfix, hfixlen⟩ := fixArgs_eq m.numParams largs args hargsrel har
  refine ⟨lph, lreg, lrest, largs, hs', hls', hlrest, ?_, htr, by rw [hfix, hfixlen], fun i la hla => ?_⟩
  · simpa using collectArgs_append lreg 0 [] [] largs hs' [] lrest hcoll0
  · rw [hfix, List.getElem?_take] at hla
    have hla' : largs[i]? = some la := by
      split at hla
      · exact hla
      · cases hla
    refine ⟨fun t ht => ?_, hargsrel.get hla'⟩
    simpa using hmemargs t (List.mem_flatten.mpr ⟨la, List.mem_of_getElem? hla', ht⟩)

/-- **one argument of a tame invocation on both sides**: the reference expands the raw argument `la` to a list that
stands for what the model expanded it to -- by the induction hypothesis, or, when nothing in the argument starts an
operation (`AllKept`), to the very same tokens -/
theorem arg_expand {env : List Entry} {n : String} {mi : Nat} {e : Entry} (hsel : Selects env n mi e)
    {a a' : List PTok} (htame : TameP env a a') (hnc : NoConcat a) (hok : ArgOK env a a')
    (ih : ∃ ks, PN env a ks ∧ Sim env ks a') (la : List HTok) (htoks : la.map (·.tok) = ppTokens a)
    (hh : Hides env la) : ∃ ea, SExp (specTable env) la ea ∧ Stands (disable env mi) ea a' := by
  rcases hok with hd | hak
  · obtain ⟨ks, hpn, hsim⟩ := ih
    obtain ⟨ea, hsea, hroea⟩ := hsim la (by rw [htoks, pn_noConcat_eq hnc hpn]) hh
    exact ⟨ea, hsea, arg_stands hsel hroea (Or.inl hd)⟩
  · rw [tameP_allKept htame hak hnc]
    exact ⟨la, allKept_sexp _ hak la htoks hh.sup, arg_stands hsel ⟨htoks, hh.sup⟩ (Or.inr hh.sub)⟩

/-- the replacement list of an invocation on both sides: `subst` returns a list `b` that spells the paste normal form of
the model's substituted list, so the reference expands it to what the model's rescan gives -/
theorem invoke_body {env : List Entry} {n : String} {mi : Nat} {e : Entry} (hsel : Selects env n mi e)
    (hwfe : WFMacroP e.m) (np : Nat) (hparams : (ofMacro e.m).params.getD [] = paramNames np)
    (hrange : ∀ t ∈ e.m.body, ∀ i, t.tok = .arg i → i < np) (hs : List String)
    (hsup : ∀ x ∈ disabledNames env, x ∈ hs) (hsubd : ∀ x ∈ hs, x ∈ disabledNames env)
    (largs eargs : List (List HTok)) (args' : List (List PTok)) (body' R : List PTok)
    (hncargs' : ∀ (i : Nat) (a' : List PTok), args'[i]? = some a' → NoConcat a')
    (hexp : ∀ i, i < np → Stands (disable env mi) (eargs.getD i []) (args'.getD i []))
    (hraw : ∀ i ∈ pasteParams none e.m.body,
      (largs.getD i []).isEmpty = false ∧ Stands (disable env mi) (largs.getD i []) (args'.getD i []))
    (hsub : substitute e.m.body args' = .ok body')
    (ih : ∃ ks, PN (disable env mi) body' ks ∧ Sim (disable env mi) ks R) :
    ∃ b Rs, (∀ ex : List HTok → Except SErr (List HTok),
        (∀ i, i < np → ∃ ea, eargs[i]? = some ea ∧ ex (largs.getD i []) = .ok ea) →
        subst ex (ofMacro e.m) largs (n :: hs) = .ok b) ∧
      SExp (specTable env) b Rs ∧ RelOut (disable env mi) Rs R := by
  obtain ⟨ksb, hpnb, hsim⟩ := ih
  obtain ⟨outb, hsubst, hksb, hgood⟩ := subst_paste (disable env mi) e.m np hparams largs eargs args' (n :: hs) body' ksb
    ⟨hwfe.noHash, hwfe.noParamName, hrange⟩ hsub hncargs' hexp hraw hpnb
  obtain ⟨Rs, hsR, hroR⟩ := hsim _ (by simpa [List.map_map, Function.comp_def] using hksb)
    (hides_body hsel hs outb hsup hsubd hgood)
  rw [specTable_disable] at hsR
  exact ⟨_, Rs, hsubst, hsR, hroR⟩

theorem Hides.of_subset {env : List Entry} {ls ls' : List HTok} (h : Hides env ls) (hs : ∀ t ∈ ls', t ∈ ls) :
    Hides env ls' :=
  ⟨fun t ht => h.sup t (hs t ht), fun t ht => h.sub t (hs t ht)⟩

/-- **A tame derivation with `##` is what the reference algorithm computes**: the list has a paste normal form, and the
reference expands every list that spells it (with the hide sets of `env`) to a list that spells `out`. -/
theorem tameP_spec {env : List Entry} {l out : List PTok} (h : TameP env l out) :
    (∀ e ∈ env, WFMacroP e.m) → ∃ ks, PN env l ks ∧ Sim env ks out := by
  induction h with
  | nil env =>
    intro _
    refine ⟨[], PN.nil, fun ls hls _ => ?_⟩
    have : ls = [] := by simpa using hls
    subst this
    exact ⟨[], SExp.nil, ⟨rfl, by simp⟩⟩
  | keep env t rest out hk hsp _ ih =>
    intro hwf
    obtain ⟨ks, hpn, hsim⟩ := ih hwf
    by_cases hw : t.tok.isWhitespace = true
    · refine ⟨ks, PN.ws t rest ks hw hpn, fun ls hls hh => ?_⟩
      obtain ⟨r, hs, hro⟩ := hsim ls hls hh
      exact ⟨r, hs, ⟨by rw [ppTokens_cons_ws t out hw]; exact hro.toks, hro.sup⟩⟩
    · have hw' : t.tok.isWhitespace = false := by simpa using hw
      refine ⟨t.tok :: ks, PN.tok t rest ks hw' hk.1 (hsp.resolve_left hw) hpn, fun ls hls hh => ?_⟩
      obtain ⟨ts, ls', rfl, hts, rfl⟩ := List.map_eq_cons_iff.mp hls
      obtain ⟨r, hs, hro⟩ := hsim ls' rfl (hh.of_subset fun x hx => by simp [hx])
      have hkeep : KeepS (specTable env) ts ls' :=
        keepS_of_kept hk hts (startsParen_of_pn hpn) (hh.sup ts (by simp))
      refine ⟨ts :: r, SExp.keep ts ls' r hkeep hs, ⟨?_, ?_⟩⟩
      · rw [ppTokens_cons t out hw', List.map_cons, hts, hro.toks]
      · intro x hx
        rcases List.mem_cons.mp hx with rfl | hx
        · exact hh.sup _ (by simp)
        · exact hro.sup x hx
  | paste env t1 t2 m rest rest2 out hnw hs _ hp hod _ ih =>
    intro hwf
    obtain ⟨ks, hpn, hsim⟩ := ih hwf
    exact ⟨ks, PN.paste t1 t2 m rest rest2 ks hnw hs hp hod hpn, hsim⟩
  | invoke env n b rest mi e rest' args args' body' R out hsel hra hncargs hpaok hlen hargs hod hsub hbody hnf hrest
      ihargs ihbody ihrest =>
    intro hwf
    have hwfe : WFMacroP e.m := hwf e (List.mem_of_getElem? hsel.get)
    obtain ⟨ks, hpn, hsim⟩ := ihrest hwf
    obtain ⟨mid, hmid, hncm, hshape, hobj⟩ := readArgs_region e.m rest rest' args hra hncargs
    have hft := pn_firstTok hpn
    refine ⟨Tok.id n :: (ppTokens mid ++ ks), ?_, fun ls hls hh => ?_⟩
    · rw [hmid]
      exact PN.tok ⟨.id n, b⟩ _ _ rfl (by simp)
        (splitPaste_none_of_firstTok _ (firstTok_append_noConcat mid rest' hncm hft)) (pn_append env mid rest' ks hncm hft hpn)
    obtain ⟨ts, ls', rfl, hts, hks'⟩ := List.map_eq_cons_iff.mp hls
    have hen : ∃ e' ∈ env, e'.m.name = n ∧ e'.disabled = false :=
      ⟨e, List.mem_of_getElem? hsel.get, hsel.name, hsel.enabled⟩
    have htsub : ∀ x ∈ ts.hide, x ∈ disabledNames env := hh.sub ts (by simp) n hts hen
    have htsup : ∀ x ∈ disabledNames env, x ∈ ts.hide := hh.sup ts (by simp)
    have hnp := not_painted hsel ts htsub
    have hfind := find_specTable_selects hsel
    have hncargs' : ∀ (i : Nat) (a' : List PTok), args'[i]? = some a' → NoConcat a' := by
      intro i a' ha'
      have hi : i < args.length := by rw [← hlen]; exact (List.getElem?_eq_some_iff.mp ha').1
      exact tameP_out_noConcat (hargs i _ a' (List.getElem?_eq_getElem hi) ha')
    cases hfn : e.m.isFunction with
    | false =>
      obtain ⟨rfl, rfl⟩ := hobj hfn
      simp only [ppTokens_nil, List.nil_append] at hks'
      subst hks'
      have ha' : args' = [] := by simpa using hlen
      subst ha'
      have hnoarg : ∀ t ∈ e.m.body, ∀ i, t.tok = .arg i → i < 0 := fun t ht i hi => by
        have := (hwfe.argRange t ht i hi).2; rw [hfn] at this; cases this
      obtain ⟨bsub, Rs, hsubst, hsR, hroR⟩ := invoke_body hsel hwfe 0 (by simp [ofMacro, hfn, paramNames]) hnoarg
        ts.hide htsup htsub [] [] [] body' R hncargs' (fun i hi => by omega)
        (fun i hi => by
          obtain ⟨t, ht, hti⟩ := mem_pasteParams_arg _ _ _ hi
          exact absurd (hnoarg t ht i hti) (Nat.not_lt_zero _))
        hsub (ihbody (wfP_disable hwf))
      obtain ⟨r2, hs2, hro2⟩ := hsim ls' rfl (hh.of_subset fun x hx => by simp [hx])
      obtain ⟨h1, h2⟩ := invoke_tailP hsel _ Rs R rest' out ls' r2 hsR hroR hnf hs2 hro2 hpn
      refine ⟨Rs ++ r2, ?_, h2⟩
      exact SExp.obj ts n (ofMacro e.m) ls' _ _ hts hnp hfind (by simp [ofMacro, hfn])
        (fun ex => hsubst ex (fun i hi => by omega)) h1
    | true =>
      obtain ⟨blanks, bl, init, br, hmidshape, hblank, hscan⟩ := hshape hfn
      subst hmidshape
      obtain ⟨lph, lreg, lrest, largs, hs', rfl, rfl, hcoll, ⟨tr, htr, htrh⟩, hflen, hfargs⟩ :=
        readArgs_collect e.m hfn rest rest' args hra blanks init bl br hblank hscan ls' ks hks'
      generalize hfa : fixArgs (paramNames e.m.numParams) largs = fargs at hflen hfargs
      have hinreg : ∀ t ∈ lreg, t ∈ ts :: ⟨.lparen, lph⟩ :: (lreg ++ lrest) := fun t ht => by simp [ht]
      obtain ⟨r2, hs2, hro2⟩ := hsim lrest rfl (hh.of_subset fun t ht => by simp [ht])
      -- each argument the reference passes on expands to a list that stands for the model's expanded argument
      obtain ⟨eargs, helen, heargs⟩ := exists_list fargs
        (fun i la ea => SExp (specTable env) la ea ∧ ∃ a a', args[i]? = some a ∧ args'[i]? = some a' ∧
          la.map (·.tok) = ppTokens a ∧ Stands (disable env mi) ea a') (fun i la hla => by
        obtain ⟨hmem, a, ha, htoks⟩ := hfargs i la hla
        have hi : i < args'.length := by rw [hlen]; exact (List.getElem?_eq_some_iff.mp ha).1
        have ha' : args'[i]? = some args'[i] := List.getElem?_eq_getElem hi
        obtain ⟨ea, h1, h2⟩ := arg_expand hsel (hargs i _ _ ha ha') (hncargs _ (List.mem_of_getElem? ha))
          (hod i _ _ ha ha') (ihargs i _ _ ha ha' hwf) la htoks (hh.of_subset fun x hx => hinreg x (hmem x hx))
        exact ⟨ea, h1, _, _, ha, ha', htoks, h2⟩)
      have hget : ∀ i, i < e.m.numParams → ∃ la ea a a', fargs[i]? = some la ∧ eargs[i]? = some ea ∧
          args[i]? = some a ∧ args'[i]? = some a' ∧ la.map (·.tok) = ppTokens a ∧
          Stands (disable env mi) ea a' := by
        intro i hi
        have h1 : i < fargs.length := by omega
        have h2 : i < eargs.length := by omega
        have hla : fargs[i]? = some fargs[i] := List.getElem?_eq_getElem h1
        have hea : eargs[i]? = some eargs[i] := List.getElem?_eq_getElem h2
        obtain ⟨_, a, a', ha, ha', htoks, hst⟩ := heargs i _ _ hla hea
        exact ⟨_, _, a, a', hla, hea, ha, ha', htoks, hst⟩
      obtain ⟨bsub, Rs, hsubst, hsR, hroR⟩ := invoke_body hsel hwfe e.m.numParams
        (by simp [ofMacro, hfn, paramNames]) (fun t ht i hi => (hwfe.argRange t ht i hi).1)
        (ts.hide.filter (hs'.contains ·))
        (by
          intro x hx
          rw [List.mem_filter]
          refine ⟨htsup x hx, ?_⟩
          have := hh.sup tr (hinreg tr htr) x hx
          rw [htrh] at this
          simpa using this)
        (fun x hx => htsub x (List.mem_filter.mp hx).1) fargs eargs args' body' R hncargs'
        (fun i hi => by
          obtain ⟨la, ea, a, a', _, hea, _, ha', _, hst⟩ := hget i hi
          simpa [List.getD, hea, ha'] using hst)
        (fun i hi => by
          obtain ⟨t, ht, hti⟩ := mem_pasteParams_arg _ _ _ hi
          obtain ⟨la, ea, a, a', hla, _, ha, ha', htoks, _⟩ := hget i (hwfe.argRange t ht i hti).1
          simpa [List.getD, hla, ha'] using rawarg_stands (mi := mi) htoks (hargs i a a' ha ha') (hpaok i hi a ha).1
            (hncargs a (List.mem_of_getElem? ha)) (hpaok i hi a ha).2)
        hsub (ihbody (wfP_disable hwf))
      obtain ⟨h1, h2⟩ := invoke_tailP hsel _ Rs R rest' out lrest r2 hsR hroR hnf hs2 hro2 hpn
      refine ⟨Rs ++ r2, ?_, h2⟩
      have hpar : (ofMacro e.m).params = some (paramNames e.m.numParams) := by
        simp [ofMacro, hfn, paramNames]
      subst hfa
      apply SExp.fn ts n (ofMacro e.m) (paramNames e.m.numParams) lph (lreg ++ lrest) largs eargs hs' lrest _ _ hts hnp
        hfind hpar hcoll ?_ helen (fun i a ea ha hea => (heargs i a ea ha hea).1) ?_ h1
      · rw [hflen]; simp [paramNames]
      · intro ex hagree
        apply hsubst ex
        intro i hi
        obtain ⟨la, ea, a, a', hla, hea, _⟩ := hget i hi
        exact ⟨ea, hea, by simpa [List.getD, hla] using hagree i la ea hla hea⟩


/-- **A tame derivation is what the reference algorithm computes**: the case of `tameP_spec` without `##`, where the paste
normal form of a list is the list itself. -/
theorem tame_spec {env : List Entry} {l out : List PTok} (h : Tame env l out) (hwf : ∀ e ∈ env, WFMacro e.m)
    (ls : List HTok) (htoks : ls.map (·.tok) = ppTokens l) (hh : Hides env ls) :
    ∃ r, SExp (specTable env) ls r ∧ RelOut env r out := by
  obtain ⟨ks, hpn, hsim⟩ := tameP_spec (tame_to_tameP h)
    (fun e he => ⟨(hwf e he).noHash, (hwf e he).noParamName, (hwf e he).argRange⟩)
  exact hsim ls (by rw [htoks, pn_noConcat_eq (tame_noConcat h) hpn]) hh


end RsslVerif.Lemmas.MacroTamePSpec
