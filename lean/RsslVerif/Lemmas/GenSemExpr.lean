import RsslVerif.Lemmas.GenSemLit
import RsslVerif.Lemmas.IrTypeInv
/-! Expressions: the emitted expression simulates the typed expression (`Sim`), by induction. -/
namespace RsslVerif.Lemmas.GenSem
open RsslVerif.Gen.HlslGenTables RsslVerif.Gen.HlslIntrinsicTables RsslVerif.Model RsslVerif.Model.GenHlsl RsslVerif.Spec.Sem
open RsslVerif.Model.Ir (Ty Var Const Dir)

theorem op_unary {o : IntrinsicOp} {u : UnaryOp} (h : opForm o = .unary u) : astUnSem u = irOpSem o := by
  cases o <;> cases h <;> rfl
theorem op_binary {o : IntrinsicOp} {b : BinOp} (h : opForm o = .binary b) : astBinSem b = irOpSem o := by
  cases o <;> cases h <;> rfl

theorem genArgs_cons_ok {cx : Ctx} {e : Ir.Expr} {r : Ir.Exprs} {as : HlslAst.Exprs}
    (h : genArgs cx (.cons e r) = .ok as) :
    ∃ a ar, genExpr cx e = .ok a ∧ genArgs cx r = .ok ar ∧ as = .cons a ar := by
  simp only [genArgs] at h
  cases he : genExpr cx e with
  | error err => simp [he] at h
  | ok a =>
    cases hr : genArgs cx r with
    | error err => simp [he, hr] at h
    | ok ar => simp [he, hr] at h; exact ⟨a, ar, rfl, rfl, h.symm⟩

theorem lval_gen {cx : Ctx} {env : Ast.Env} (hag : Agree cx env) {x : Ir.Expr} {x' : HlslAst.Expr} {v : Var}
    (hl : Ir.lvalOf x = some v) (hg : genExpr cx x = .ok x') : Ast.lvalOf env x' = some v := by
  have hr := hag.res v
  cases x with
  | var id | global id =>
    simp [Ir.lvalOf] at hl; subst hl
    simp [genExpr] at hg; subst hg
    exact hr
  | _ => simp [Ir.lvalOf] at hl

theorem sim_var {W : World} {cx : Ctx} {env : Ast.Env} (hag : Agree cx env) {e : Ir.Expr} {a : HlslAst.Expr} {v : Var}
    (hl : Ir.lvalOf e = some v) (hg : genExpr cx e = .ok a) : Sim W env e a (cx.vty v) := by
  have hr := hag.res v
  cases e with
  | var id | global id =>
    simp [Ir.lvalOf] at hl; subst hl
    simp [genExpr] at hg; subst hg
    simp only [Ctx.name] at hr
    exact .of_plain rfl (by simp [Ast.typeOf, hr, hag.vty]) fun σ => by simp [Ast.eval, hr, Ir.eval]
  | _ => simp [Ir.lvalOf] at hl

theorem litlike_ty {sig : Sig} {vty : Var → Ty} {e : Ir.Expr} {t : Ty}
    (ht : Ir.typeOf sig vty e = some t) (hl : Ir.litlike e = true) : t = .int := by
  obtain ⟨v, rfl⟩ := litlike_cases hl
  simp [Ir.typeOf, Const.ty] at ht
  exact ht.symm

theorem not_litlike {sig : Sig} {vty : Var → Ty} {e : Ir.Expr} {t : Ty}
    (ht : Ir.typeOf sig vty e = some t) (hne : t ≠ .int) : Ir.litlike e = false := by
  cases h : Ir.litlike e
  · rfl
  · exact absurd (litlike_ty ht h) hne

theorem lval_ty {sig : Sig} {vty : Var → Ty} {e : Ir.Expr} {t : Ty} {v : Var}
    (ht : Ir.typeOf sig vty e = some t) (hl : Ir.lvalOf e = some v) : vty v = t ∧ Ir.litlike e = false := by
  cases e <;> simp [Ir.lvalOf] at hl <;> subst hl <;> simp [Ir.typeOf] at ht <;> simp [ht, Ir.litlike]

theorem common_self (k : Ty) : Ast.common k k = some k := by simp [Ast.common]

/-- the usual arithmetic conversions give the IR's operand type back when at most one operand is an unsuffixed constant -/
theorem common_astTy {sig : Sig} {vty : Var → Ty} {x y : Ir.Expr} {t : Ty}
    (hx : Ir.typeOf sig vty x = some t) (hy : Ir.typeOf sig vty y = some t)
    (hl : (Ir.litlike x && Ir.litlike y) = false) :
    Ast.common (astTy x t) (astTy y t) = some t := by
  cases h1 : Ir.litlike x <;> cases h2 : Ir.litlike y <;> simp only [astTy, h1, h2, Bool.false_eq_true, if_false, if_true]
  · exact common_self t
  · rw [litlike_ty hy h2]; rfl
  · rw [litlike_ty hx h1]; rfl
  · simp [h1, h2] at hl

section operators
variable {W : World} {env : Ast.Env} {cx : Ctx} {o : IntrinsicOp}

theorem sim_un (hag : Agree cx env) {u : UnaryOp} {x : Ir.Expr} {x' : HlslAst.Expr} {t : Ty}
    (hu : opForm o = .unary u) (hgx : genExpr cx x = .ok x') (hx : Sim W env x x' t)
    (ht : Ir.typeOf W.sig cx.vty (.op o (.cons x .nil)) = some t) (hlit : Ir.litlike x = false) :
    Sim W env (.op o (.cons x .nil)) (.un u x') t := by
  have hs := op_unary hu
  obtain ⟨hty, hev⟩ := hx.plain hlit
  obtain ⟨-, ⟨m, hsem, hb⟩ | ⟨pre, inc, hsem, hlv⟩⟩ := Ir.typeOf_op1 ht
  · rw [hsem] at hs
    have hc : (if m = MUn.lnot then Ty.bool else t) = t := by
      by_cases hm : m = .lnot
      · rw [if_pos hm, hb hm]
      · rw [if_neg hm]
    refine .of_plain rfl ?_ fun σ => ?_
    · simp only [Ast.typeOf, hs, hty]
      cases m with
      | lnot => rw [hb rfl]
      | _ => rfl
    · simp only [Ast.eval, hs, hty, hc, convR_self, hev, Ir.eval, hsem]
  · rw [hsem] at hs
    obtain ⟨xv, hxv⟩ := Option.isSome_iff_exists.mp hlv
    refine .of_plain rfl ?_ fun σ => ?_
    · simp only [Ast.typeOf, hs, hty]
    · simp only [Ast.eval, hs, lval_gen hag hxv hgx, Ir.eval, hsem, hxv]

variable {b : BinOp} {x y : Ir.Expr} {x' y' : HlslAst.Expr} {ta : Ty}

theorem sim_arith {m : MBin} (hs : astBinSem b = .bin m) (hsem : irOpSem o = .bin m)
    (hx : Sim W env x x' ta) (htx : Ir.typeOf W.sig cx.vty x = some ta)
    (hy : Sim W env y y' ta) (hty : Ir.typeOf W.sig cx.vty y = some ta)
    (hlit : (Ir.litlike x && Ir.litlike y) = false) :
    Sim W env (.op o (.cons x (.cons y .nil))) (.bin b x' y') (if m.isCmp then .bool else ta) := by
  have hc := common_astTy htx hty hlit
  refine .of_plain rfl ?_ fun σ => ?_
  · simp only [Ast.typeOf, hs, hx.1, hy.1, hc]
    cases m.isCmp <;> rfl
  · simp only [Ast.eval, hs, hx.1, hy.1, hc, hx.conv htx, hy.conv hty, Ir.eval, hsem]

/-- `&&`, `||`: both operands are `bool`, so neither is an unsuffixed constant and no conversion happens -/
theorem sim_logic (hs : astBinSem b = irOpSem o) (hsem : irOpSem o = .land ∨ irOpSem o = .lor)
    (hx : Sim W env x x' .bool) (htx : Ir.typeOf W.sig cx.vty x = some .bool)
    (hy : Sim W env y y' .bool) (hty : Ir.typeOf W.sig cx.vty y = some .bool) :
    Sim W env (.op o (.cons x (.cons y .nil))) (.bin b x' y') .bool := by
  obtain ⟨tyx, evx⟩ := hx.plain (not_litlike htx (by decide))
  obtain ⟨tyy, evy⟩ := hy.plain (not_litlike hty (by decide))
  refine .of_plain rfl ?_ fun σ => ?_
  · rcases hsem with hsem | hsem <;> simp only [Ast.typeOf, hs, hsem, tyx, tyy]
  · rcases hsem with hsem | hsem <;>
      simp only [Ast.eval, hs, hsem, tyx, tyy, convR_self, evx, evy, Ir.eval]

theorem sim_assign (hag : Agree cx env) (hs : astBinSem b = .assign) (hsem : irOpSem o = .assign)
    (hgx : genExpr cx x = .ok x') (hx : Sim W env x x' ta) (htx : Ir.typeOf W.sig cx.vty x = some ta)
    (hy : Sim W env y y' ta) (hty : Ir.typeOf W.sig cx.vty y = some ta) (hlv : (Ir.lvalOf x).isSome = true) :
    Sim W env (.op o (.cons x (.cons y .nil))) (.bin b x' y') ta := by
  obtain ⟨xv, hxv⟩ := Option.isSome_iff_exists.mp hlv
  obtain ⟨hvx, lx⟩ := lval_ty htx hxv
  refine .of_plain rfl ?_ fun σ => ?_
  · simp only [Ast.typeOf, hs, (hx.plain lx).1, hy.1]
  · simp only [Ast.eval, hs, lval_gen hag hxv hgx, hy.1, hag.vty, hvx, hy.conv hty, Ir.eval, hsem, hxv]

theorem sim_compound {m : MBin} (hag : Agree cx env) (hs : astBinSem b = .compound m) (hsem : irOpSem o = .compound m)
    (hgx : genExpr cx x = .ok x') (hx : Sim W env x x' ta) (htx : Ir.typeOf W.sig cx.vty x = some ta)
    (hy : Sim W env y y' ta) (hty : Ir.typeOf W.sig cx.vty y = some ta) (hlv : (Ir.lvalOf x).isSome = true) :
    Sim W env (.op o (.cons x (.cons y .nil))) (.bin b x' y') ta := by
  obtain ⟨xv, hxv⟩ := Option.isSome_iff_exists.mp hlv
  obtain ⟨hvx, lx⟩ := lval_ty htx hxv
  have hc : Ast.common ta (astTy y ta) = some ta := by
    simpa [astTy, lx] using common_astTy htx hty (by simp [lx])
  refine .of_plain rfl ?_ fun σ => ?_
  · simp only [Ast.typeOf, hs, (hx.plain lx).1, hy.1]
  · simp only [Ast.eval, hs, lval_gen hag hxv hgx, hy.1, hag.vty, hvx, hc, hy.conv hty, Ast.convert, ↓reduceIte,
      Ir.eval, hsem, hxv]

end operators

theorem typeName_tyOfName {ty : Ty} {n : String} (h : typeName ty = .ok n) : Ast.tyOfName n = some ty := by
  cases ty <;> cases h <;> rfl

theorem sim_cast {W : World} {env : Ast.Env} {ty : Ty} {n : String} {x : Ir.Expr} {x' : HlslAst.Expr} {tx : Ty}
    (hn : typeName ty = .ok n) (hx : Sim W env x x' tx) : Sim W env (.cast ty x) (.cast n x') ty := by
  have htn := typeName_tyOfName hn
  refine .of_plain rfl ?_ fun σ => ?_
  · simp only [Ast.typeOf, hx.1, htn]
  · simp only [Ast.eval, htn, hx.castR, Ir.eval]

theorem sim_tern {W : World} {env : Ast.Env} {cx : Ctx}
    {c f g : Ir.Expr} {c' f' g' : HlslAst.Expr} {t : Ty}
    (hc : Sim W env c c' .bool) (htc : Ir.typeOf W.sig cx.vty c = some .bool)
    (hf : Sim W env f f' t) (htf : Ir.typeOf W.sig cx.vty f = some t)
    (hg : Sim W env g g' t) (htg : Ir.typeOf W.sig cx.vty g = some t)
    (hlit : (Ir.litlike f && Ir.litlike g) = false) :
    Sim W env (.tern c f g) (.tern c' f' g') t := by
  have hcm := common_astTy htf htg hlit
  have hct := (hc.plain (not_litlike htc (by decide))).1
  refine .of_plain rfl ?_ fun σ => ?_
  · simp only [Ast.typeOf, hc.1, hf.1, hg.1, hcm]
  · have hcc : ∀ σ, Ast.convR W.P .bool .bool (Ast.eval W env c' σ) = Ir.eval W c σ := fun σ => by
      have := hc.conv htc σ
      rwa [astTy, if_neg (by simp [not_litlike htc (by decide)])] at this
    simp only [Ast.eval, hct, hf.1, hg.1, hcm, hcc, hf.conv htf, hg.conv htg, Ir.eval]

/-- what the induction proves about a `Sequence` -/
def SimSeq (W : World) (env : Ast.Env) (es : Ir.Exprs) (a : HlslAst.Expr) (t : Ty) : Prop :=
  Ast.typeOf W.sig env a = some t ∧ ∀ σ, Ast.eval W env a σ = Ir.evalSeq W es σ

/-- what the induction proves about an argument list -/
def SimArgs (W : World) (env : Ast.Env) (es : Ir.Exprs) (as : HlslAst.Exprs) (ps : List (Dir × Ty)) : Prop :=
  ∀ σ, Ast.evalArgs W env as ps σ = Ir.evalArgs W es ps σ

theorem genSeq_cons2 (cx : Ctx) (e e2 : Ir.Expr) (r : Ir.Exprs) :
    genSeq cx (.cons e (.cons e2 r)) =
      (match genSeq cx (.cons e2 r) with
        | .error err => .error err
        | .ok tail =>
          match genExpr cx e with
          | .error err => .error err
          | .ok a => .ok (.bin .Sequence a tail)) := by
  rw [genSeq] <;> rfl
theorem litOKSeq_cons2 (e e2 : Ir.Expr) (r : Ir.Exprs) :
    Ir.litOKSeq (.cons e (.cons e2 r)) = (Ir.litOK e && Ir.litOKSeq (.cons e2 r)) := by
  rw [Ir.litOKSeq]
theorem evalSeq_cons2 (W : World) (e e2 : Ir.Expr) (r : Ir.Exprs) (σ : Store) :
    Ir.evalSeq W (.cons e (.cons e2 r)) σ =
      (match Ir.eval W e σ with
        | none => none
        | some (_, σ1) => Ir.evalSeq W (.cons e2 r) σ1) := by
  rw [Ir.evalSeq] <;> rfl

/-- the exporter's name for a modelled intrinsic is the HLSL name of that very built-in (table re-extracted each run) -/
theorem builtins_table_ok :
    ∀ p ∈ Ast.builtins, intrinsicForm p.2 = .invoke p.1 ∧ Ast.hlslBuiltin p.1 = some p.2 := by decide +kernel

theorem builtin_of_form {i : Intrinsic} {name : String} (hm : Ast.modelledBuiltin i = true)
    (hf : intrinsicForm i = .invoke name) :
    Ast.hlslBuiltin name = some i ∧ ∃ p ∈ Ast.builtins, p.1 = name := by
  simp only [Ast.modelledBuiltin, List.any_eq_true] at hm
  obtain ⟨p, hp, hpi⟩ := hm
  have hpi' : p.2 = i := by simpa using hpi
  obtain ⟨h1, h2⟩ := builtins_table_ok p hp
  rw [hpi'] at h1 h2
  rw [hf] at h1
  have : name = p.1 := by injection h1
  exact ⟨by rw [this]; exact h2, p, hp, this.symm⟩

theorem argsType_cons2 (sig : Sig) (env : Ast.Env) (a b : HlslAst.Expr) (r : HlslAst.Exprs) :
    Ast.argsType sig env (.cons a (.cons b r)) =
      (match Ast.typeOf sig env a with
        | none => none
        | some ta =>
          match Ast.argsType sig env (.cons b r) with
          | none => none
          | some tr => Ast.common ta tr) := by
  rw [Ast.argsType]; cases Ast.typeOf sig env a <;> rfl

/-- what the induction proves about the arguments of a built-in of operand type `T` -/
def SimAll (W : World) (env : Ast.Env) (T : Ty) (es : Ir.Exprs) (as : HlslAst.Exprs) : Prop :=
  (∀ σ, Ast.evalAllT W env T as σ = Ir.evalAll W es σ) ∧
  (es ≠ .nil → Ast.argsType W.sig env as = some (if Ir.allLitlike es then .lit else T))

theorem allLitlike_ty {sig : Sig} {vty : Var → Ty} {T : Ty} :
    ∀ {es : Ir.Exprs}, es ≠ .nil → Ir.allTy sig vty T es = true → Ir.allLitlike es = true → T = .int
  | .nil, h, _, _ => absurd rfl h
  | .cons e r, _, hty, hl => by
    simp only [Ir.allTy, Bool.and_eq_true] at hty
    simp only [Ir.allLitlike, Bool.and_eq_true] at hl
    cases hte : Ir.typeOf sig vty e with
    | none => simp [hte] at hty
    | some t =>
      simp [hte] at hty
      have := litlike_ty hte hl.1
      rw [← hty.1]; exact this

/-- what the induction proves of an expression and of what `genExpr` returns for it -/
abbrev SimE (W : World) (env : Ast.Env) (cx : Ctx) (e : Ir.Expr) (r : Except GenErr HlslAst.Expr) : Prop :=
  ∀ a t, r = .ok a → Ir.typeOf W.sig cx.vty e = some t → Ir.litOK e = true → Sim W env e a t
/-- … of an argument list and what `genArgs` returns: as the arguments of a call and as the operands of a built-in -/
abbrev SimAs (W : World) (env : Ast.Env) (cx : Ctx) (es : Ir.Exprs) (r : Except GenErr HlslAst.Exprs) : Prop :=
  ∀ as, r = .ok as → Ir.litOKArgs es = true →
    (∀ ps, Ir.argsOK W.sig cx.vty es ps = true → SimArgs W env es as ps) ∧
    (∀ T, Ir.allTy W.sig cx.vty T es = true → SimAll W env T es as)
/-- … of the elements of a `Sequence` and what `genSeq` returns -/
abbrev SimSq (W : World) (env : Ast.Env) (cx : Ctx) (es : Ir.Exprs) (r : Except GenErr HlslAst.Expr) : Prop :=
  ∀ a t, r = .ok a → Ir.typeOfSeq W.sig cx.vty es = some t → Ir.litOKSeq es = true → SimSeq W env es a t

/-- by the functional induction principle of the generator: its cases are the generator's branches, each with the results of the
calls made on the way; a branch that ends in an error leaves nothing to prove -/
theorem sim_gen {W : World} {env : Ast.Env} {cx : Ctx} (hag : Agree cx env) :
    (∀ e, SimE W env cx e (genExpr cx e)) ∧ (∀ es, SimAs W env cx es (genArgs cx es)) ∧
      ∀ es, SimSq W env cx es (genSeq cx es) := by
  apply genExpr.mutual_induct_unfolding cx (SimE W env cx) (SimAs W env cx) (SimSq W env cx)
  -- a constant: `generate_literal`
  case case1 =>
    intro c a t hg ht _
    simp [Ir.typeOf] at ht; subst ht
    exact sim_lit W env c a hg
  -- a local
  case case2 =>
    intro id a t hg ht _
    simp [Ir.typeOf] at ht; subst ht
    exact sim_var hag rfl (by simpa [genExpr] using hg)
  -- a global
  case case3 =>
    intro id a t hg ht _
    simp [Ir.typeOf] at ht; subst ht
    exact sim_var hag rfl (by simpa [genExpr] using hg)
  -- `c ? f : g`, the three parts generated
  case case7 =>
    intro c f g c' hgc f' hgf g' hgg ihc ihf ihg a t hg ht hl
    cases hg
    simp only [Ir.litOK, Bool.and_eq_true, Bool.not_eq_true'] at hl
    obtain ⟨⟨⟨lc, lf⟩, lg⟩, lfg⟩ := hl
    obtain ⟨htc, htf, htg⟩ := Ir.typeOf_tern ht
    exact sim_tern (ihc c' .bool hgc htc lc) htc (ihf f' t hgf htf lf) htf (ihg g' t hgg htg lg) htg lfg
  -- a `Sequence` of two or more: `genSeq`
  case case10 =>
    intro e e2 r ih a t hg ht hl
    have := ih a t hg (by simpa [Ir.typeOf] using ht) (by simpa [Ir.litOK] using hl)
    exact .of_plain rfl this.1 fun σ => by rw [this.2 σ, Ir.eval]
  -- a cast to a literal type is dropped: the type checker builds none
  case case12 =>
    intro ty x x' _ hty _ a t _ ht _
    obtain ⟨_, _, _, h1, h2⟩ := Ir.typeOf_cast ht
    exact (hty.elim h1 h2).elim
  -- a cast, its type name found
  case case14 =>
    intro ty x x' hgx _ n hn ih a t hg ht hl
    cases hg
    obtain ⟨tx, htx, rfl, -, -⟩ := Ir.typeOf_cast ht
    exact sim_cast hn (ih x' tx hgx htx (by simpa [Ir.litOK] using hl))
  -- a call of a user function
  case case16 =>
    intro f args as hga ih a t hg ht hl
    cases hg
    obtain ⟨ps, hsig, hok⟩ := Ir.typeOf_call ht
    have hargs : ∀ σ, Ast.evalArgs W env as ps σ = Ir.evalArgs W args ps σ :=
      (ih as hga (by simpa [Ir.litOK] using hl)).1 ps hok
    refine .of_plain rfl ?_ fun σ => ?_
    · simp only [Ast.typeOf, hag.fres, hsig]
    · simp only [Ast.eval, hag.fres, hsig, hargs, Ir.eval]
  -- a built-in invoked by name (`Form::Invoke`)
  case case18 =>
    intro i T ret args name hf as hga ih a t hg ht hl
    cases hg
    obtain ⟨rfl, hne, hall, hret, hmod, hT1, hT2⟩ := Ir.typeOf_intr ht
    have hne : args ≠ .nil := by obtain ⟨e0, r0, rfl⟩ := hne; simp
    obtain ⟨hev, hat⟩ := (ih as hga (by simpa [Ir.litOK] using hl)).2 T hall
    obtain ⟨hb, p0, hp0, hpn⟩ := builtin_of_form hmod hf
    have hnone : env.fres name = none := by rw [← hpn]; exact hag.builtin p0 hp0
    have hat := hat hne
    -- a built-in whose arguments are all unsuffixed constants is resolved at `int`, which is their IR type
    have hprom : Ast.promoteArg (if Ir.allLitlike args = true then Ty.lit else T) = T := by
      by_cases hal : Ir.allLitlike args = true
      · have := allLitlike_ty hne hall hal
        subst this; simp [hal, Ast.promoteArg]
      · simp only [hal, Bool.false_eq_true, if_false]
        cases T <;> simp [Ast.promoteArg] at hT1 hT2 ⊢
    refine .of_plain rfl ?_ fun σ => ?_
    · simp only [Ast.typeOf, hnone, hb, hat, hprom, hret]
    · simp only [Ast.eval, hnone, hb, hat, hprom, hev, Ir.eval]
  -- `Form::Unary` on one operand
  case case23 =>
    intro o u hf x x' hgx ih a t hg ht hl
    cases hg
    simp only [Ir.litOK, Bool.and_eq_true, Bool.not_eq_true'] at hl
    obtain ⟨htx, -⟩ := Ir.typeOf_op1 ht
    exact sim_un hag hf hgx (ih x' t hgx htx hl.1) ht hl.2
  -- `Form::Binary` on two operands: by the kind of operator the type checker saw
  case case27 =>
    intro o b hf x y x' hgx y' hgy ihx ihy a t hg ht hl
    cases hg
    simp only [Ir.litOK, Bool.and_eq_true, Bool.not_eq_true'] at hl
    obtain ⟨⟨lx, ly⟩, lxy⟩ := hl
    have hs := op_binary hf
    obtain ⟨ta, htx, hty, hk⟩ := Ir.typeOf_op2 ht
    have hx := ihx x' ta hgx htx lx
    have hy := ihy y' ta hgy hty ly
    rcases hk with ⟨m, hsem, rfl⟩ | ⟨hsem, rfl, rfl⟩ | ⟨hsem, hlv, rfl⟩ | ⟨m, hsem, hlv, -, rfl⟩
    · exact sim_arith (hs.trans hsem) hsem hx htx hy hty lxy
    · exact sim_logic hs hsem hx htx hy hty
    · exact sim_assign hag (hs.trans hsem) hsem hgx hx htx hy hty hlv
    · exact sim_compound hag (hs.trans hsem) hsem hgx hx htx hy hty hlv
  -- no arguments
  case case29 =>
    intro as hg _
    simp [genArgs] at hg; subst hg
    refine ⟨fun ps hok σ => ?_, fun T _ => ⟨fun σ => by simp [Ast.evalAllT, Ir.evalAll], fun h => absurd rfl h⟩⟩
    obtain rfl := Ir.argsOK_nil hok
    simp [Ast.evalArgs, Ir.evalArgs]
  -- an argument and the rest, both generated
  case case32 =>
    intro e r a1 hge ar hgr ih1 ih2 as hg hl
    simp only [genArgs, hge, hgr] at hg; cases hg
    simp only [Ir.litOKArgs, Bool.and_eq_true] at hl
    obtain ⟨h2a, h2b⟩ := ih2 ar hgr hl.2
    refine ⟨fun ps hok => ?_, fun T hty => ?_⟩
    · cases ps with
      | nil => rw [Ir.argsOK_cons_ne_nil] at hok; cases hok
      | cons p ps' =>
        obtain ⟨d, T⟩ := p
        obtain ⟨hte, hd, hrest⟩ := Ir.argsOK_cons hok
        have h1 := ih1 a1 T hge hte hl.1
        have h2 : ∀ σ, _ := h2a ps' hrest
        intro σ
        cases d with
        | in_ => simp only [Ast.evalArgs, Ir.evalArgs, h1.1, h1.conv hte, h2]
        | out | inout =>
          obtain ⟨xv, hxv⟩ := Option.isSome_iff_exists.mp (hd.resolve_left (by decide))
          simp only [Ast.evalArgs, Ir.evalArgs, lval_gen hag hxv hge, hxv, h2 σ]
    · simp only [Ir.allTy, Bool.and_eq_true] at hty
      cases hte : Ir.typeOf W.sig cx.vty e with
      | none => simp [hte] at hty
      | some te =>
        simp [hte] at hty
        obtain ⟨rfl, htyr⟩ := hty
        have h1 := ih1 a1 te hge hte hl.1
        have h2 := h2b te htyr
        refine ⟨fun σ => ?_, fun _ => ?_⟩
        · simp only [Ast.evalAllT, Ir.evalAll, h1.1, h1.conv hte, h2.1]
        · cases r with
          | nil =>
            simp [genArgs] at hgr; subst hgr
            simp [Ast.argsType, h1.1, astTy, Ir.allLitlike]
          | cons e2 r2 =>
            obtain ⟨a2, ar2, -, -, rfl⟩ := genArgs_cons_ok hgr
            rw [argsType_cons2, h1.1, h2.2 (by simp)]
            have hcons : Ir.allLitlike (.cons e (.cons e2 r2)) = (Ir.litlike e && Ir.allLitlike (.cons e2 r2)) := rfl
            rw [hcons]
            -- an unsuffixed constant among the arguments, or all the others being such, makes the common type `int`
            have hT1 : Ir.litlike e = true → te = .int := litlike_ty hte
            have hT2 : Ir.allLitlike (.cons e2 r2) = true → te = .int := allLitlike_ty (by simp) htyr
            cases hel : Ir.litlike e <;> cases hrl : Ir.allLitlike (.cons e2 r2) <;>
              simp [hel, hrl] at hT1 hT2 <;> (try subst te) <;> simp [astTy, hel, Ast.common]
  -- `genSeq` on the last element
  case case34 =>
    intro e ih a t hg ht hl
    simp only [Ir.litOKSeq, Bool.and_eq_true, Bool.not_eq_true'] at hl
    rw [Ir.typeOfSeq_single] at ht
    have := (ih a t (by simpa [genSeq] using hg) ht hl.1).plain hl.2
    exact ⟨this.1, fun σ => by simp [Ir.evalSeq, this.2 σ]⟩
  -- `genSeq`: the tail, then the head in front of it
  case case37 =>
    intro e e2 r tail a1 hge hgt ih2 ih1 a t hg ht hl
    rw [genSeq_cons2, hgt, hge] at hg; cases hg
    rw [litOKSeq_cons2] at hl
    simp only [Bool.and_eq_true] at hl
    obtain ⟨⟨te, hte⟩, htr⟩ := Ir.typeOfSeq_cons_cons ht
    have h1 := ih1 a1 te hge hte hl.1
    have h2 := ih2 tail t hgt htr hl.2
    refine ⟨by simp [Ast.typeOf, astBinSem, h1.1, h2.1], fun σ => ?_⟩
    rw [evalSeq_cons2]
    simp only [Ast.eval, astBinSem, h1.1, h1.2 σ]
    cases Ir.eval W e σ with
    | none => simp
    | some r1 => simp [h2.2]
  -- the branches that end in an error return nothing (`genArgs` and `genSeq` are left folded by the principle)
  case case30 | case31 => intros; intro as hg; simp_all [genArgs]
  case case35 | case36 => intros; intro a t hg; simp_all [genSeq_cons2]
  all_goals intros; exact fun _ _ hg => nomatch hg

theorem sim_expr {W : World} {env : Ast.Env} {cx : Ctx} (hag : Agree cx env) :
    ∀ (e : Ir.Expr) (a : HlslAst.Expr) (t : Ty),
      genExpr cx e = .ok a → Ir.typeOf W.sig cx.vty e = some t → Ir.litOK e = true → Sim W env e a t :=
  fun e => (sim_gen hag).1 e
theorem sim_seq {W : World} {env : Ast.Env} {cx : Ctx} (hag : Agree cx env) :
    ∀ (es : Ir.Exprs) (a : HlslAst.Expr) (t : Ty),
      genSeq cx es = .ok a → Ir.typeOfSeq W.sig cx.vty es = some t → Ir.litOKSeq es = true → SimSeq W env es a t :=
  fun es => (sim_gen hag).2.2 es
theorem sim_args {W : World} {env : Ast.Env} {cx : Ctx} (hag : Agree cx env) :
    ∀ (es : Ir.Exprs) (as : HlslAst.Exprs) (ps : List (Dir × Ty)),
      genArgs cx es = .ok as → Ir.argsOK W.sig cx.vty es ps = true → Ir.litOKArgs es = true → SimArgs W env es as ps :=
  fun es as ps hg hok hl => ((sim_gen hag).2.1 es as hg hl).1 ps hok
theorem sim_all {W : World} {env : Ast.Env} {cx : Ctx} (hag : Agree cx env) (T : Ty) :
    ∀ (es : Ir.Exprs) (as : HlslAst.Exprs),
      genArgs cx es = .ok as → Ir.allTy W.sig cx.vty T es = true → Ir.litOKArgs es = true → SimAll W env T es as :=
  fun es as hg hty hl => ((sim_gen hag).2.1 es as hg hl).2 T hty

end RsslVerif.Lemmas.GenSem
