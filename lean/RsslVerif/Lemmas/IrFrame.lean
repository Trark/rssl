import RsslVerif.Lemmas.IrKeeps
import RsslVerif.Lemmas.GenSemStmt
/-! The typed semantics changes only variables the program mentions (frame property), and a `void` function whose body
has no `return e;` returns no value.  The statements speak of `Spec.Sem`'s typed semantics only; expressions go through
`eval_keeps` of `IrKeeps` (not mentioned, hence not written); loops and `switch` go through `loopW_inv`, `loopD_inv`,
`switchOut_flow` of `GenSemStmt`: "`x` is as it was at the start" is a property of the store that every part of a loop preserves. -/
namespace RsslVerif.Lemmas.GenMsl
open RsslVerif.Gen.HlslGenTables RsslVerif.Model RsslVerif.Spec.Sem
open RsslVerif.Model.Ir (Ty Var Const Dir)
namespace Ir
open RsslVerif.Model.Ir

mutual
/-- the variable `x` does not occur in the expression -/
def freeE (x : Var) : Expr → Bool
  | .lit _ => true
  | .var id => decide (Var.loc id ≠ x)
  | .global id => decide (Var.glob id ≠ x)
  | .cast _ e => freeE x e
  | .tern c t f => freeE x c && freeE x t && freeE x f
  | .seq es => freeEs x es
  | .call _ args => freeEs x args
  | .intr _ _ _ args => freeEs x args
  | .op _ args => freeEs x args
def freeEs (x : Var) : Exprs → Bool
  | .nil => true
  | .cons e r => freeE x e && freeEs x r
end

def freeOpt (x : Var) : Option Expr → Bool
  | none => true
  | some e => freeE x e

def freeDefs (x : Var) : List (Nat × Option Expr) → Bool
  | [] => true
  | d :: r => decide (Var.loc d.1 ≠ x) && freeOpt x d.2 && freeDefs x r

def freeForInit (x : Var) : ForInit → Bool
  | .empty => true
  | .expr e => freeE x e
  | .defs ds => freeDefs x ds

mutual
def freeS (x : Var) : Stmt → Bool
  | .expr e => freeE x e
  | .var id i => decide (Var.loc id ≠ x) && freeOpt x i
  | .block b => freeSs x b
  | .ifThen c b => freeE x c && freeSs x b
  | .ifElse c t f => freeE x c && freeSs x t && freeSs x f
  | .for i c n b => freeForInit x i && freeOpt x c && freeOpt x n && freeSs x b
  | .while c b => freeE x c && freeSs x b
  | .doWhile b c => freeSs x b && freeE x c
  | .break => true
  | .continue => true
  | .ret e => freeOpt x e
  | .switch _ c b => freeE x c && freeSs x b
  | .caseLabel _ => true
  | .defaultLabel => true
def freeSs (x : Var) : Stmts → Bool
  | .nil => true
  | .cons s r => freeS x s && freeSs x r
end

/-- `x` is neither a parameter of the function nor mentioned in its body -/
def freeF (x : Var) (fn : Func) : Bool := fn.params.all (fun p => decide (Var.loc p.1 ≠ x)) && freeSs x fn.body

end Ir

theorem lval_free {x : Var} {e : Ir.Expr} {y : Var} (hf : Ir.freeE x e = true) (hl : Ir.lvalOf e = some y) : y ≠ x := by
  cases e <;> simp [Ir.lvalOf] at hl <;> subst hl <;> simpa [Ir.freeE] using hf

mutual
theorem keeps_of_free {W : World} {x : Var} (hW : PhiFrame W x) : ∀ (e : Ir.Expr), Ir.freeE x e = true → Keeps W x e
  | .lit _, _ => trivial
  | .var _, _ => trivial
  | .global _, _ => trivial
  | .cast _ e, h => keeps_of_free hW e h
  | .tern c t f, h => by
    simp only [Ir.freeE, Bool.and_eq_true] at h
    exact ⟨keeps_of_free hW c h.1.1, keeps_of_free hW t h.1.2, keeps_of_free hW f h.2⟩
  | .seq es, h => keepsL_of_free hW _ es h
  | .call _ args, h => ⟨hW, keepsL_of_free hW _ args h⟩
  | .intr _ _ _ args, h => keepsL_of_free hW _ args h
  | .op _ args, h => keepsL_of_free hW _ args h
theorem keepsL_of_free {W : World} {x : Var} (hW : PhiFrame W x) (p : Bool) :
    ∀ (es : Ir.Exprs), Ir.freeEs x es = true → KeepsL W x p es
  | .nil, _ => trivial
  | .cons e r, h => by
    simp only [Ir.freeEs, Bool.and_eq_true] at h
    exact ⟨fun _ hl => lval_free h.1 hl rfl, keeps_of_free hW e h.1, keepsL_of_free hW p r h.2⟩
end

theorem eval_frame {W : World} {x : Var} (hW : PhiFrame W x) :
    ∀ (e : Ir.Expr) (σ : Store) (v : Val) (σ' : Store), Ir.freeE x e = true → Ir.eval W e σ = some (v, σ') → σ' x = σ x :=
  fun e σ v σ' hf h => eval_keeps e σ v σ' (keeps_of_free hW e hf) h
theorem evalArgs_frame {W : World} {x : Var} (hW : PhiFrame W x) :
    ∀ (es : Ir.Exprs) (ps : List (Dir × Ty)) (σ : Store) l σ', Ir.freeEs x es = true →
      Spec.Sem.Ir.evalArgs W es ps σ = some (l, σ') → σ' x = σ x ∧ ∀ y, some y ∈ l.map (·.2) → y ≠ x :=
  fun es ps σ l σ' hf h => evalArgs_keeps es ps σ l σ' (keepsL_of_free hW _ es hf) h
theorem evalAll_frame {W : World} {x : Var} (hW : PhiFrame W x) :
    ∀ (es : Ir.Exprs) (σ : Store) (l : List Val) (σ' : Store), Ir.freeEs x es = true →
      Spec.Sem.Ir.evalAll W es σ = some (l, σ') → σ' x = σ x :=
  fun es σ l σ' hf h => evalAll_keeps es σ l σ' (keepsL_of_free hW _ es hf) h
theorem evalSeq_frame {W : World} {x : Var} (hW : PhiFrame W x) :
    ∀ (es : Ir.Exprs) (σ : Store) (v : Val) (σ' : Store), Ir.freeEs x es = true →
      Spec.Sem.Ir.evalSeq W es σ = some (v, σ') → σ' x = σ x :=
  fun es σ v σ' hf h => evalSeq_keeps es σ v σ' (keepsL_of_free hW _ es hf) h

theorem condOfB_frame {W : World} {x : Var} (hW : PhiFrame W x) (e : Ir.Expr) (hf : Ir.freeE x e = true) :
    ∀ σ b σ', condOfB W.P (Ir.eval W e σ) = some (b, σ') → σ' x = σ x := by
  intro σ b σ'
  generalize he : Ir.eval W e σ = r
  fun_cases condOfB W.P r <;> intro h <;> cases h
  exact eval_frame hW e σ _ σ' hf he

theorem condFn_frame {W : World} {x : Var} (hW : PhiFrame W x) (c : Option Ir.Expr) (hf : Ir.freeOpt x c = true) :
    ∀ σ b σ', Ir.condFn W c σ = some (b, σ') → σ' x = σ x := by
  cases c with
  | none => intro σ b σ' h; simp [Ir.condFn, alwaysTrue] at h; rw [← h.2]
  | some e => exact condOfB_frame hW e hf

theorem incFn_frame {W : World} {x : Var} (hW : PhiFrame W x) (c : Option Ir.Expr) (hf : Ir.freeOpt x c = true) :
    ∀ σ σ', Ir.incFn W c σ = some σ' → σ' x = σ x := by
  intro σ σ' h
  cases c with
  | none => cases h; rfl
  | some e =>
    revert h
    simp only [Ir.incFn]
    generalize he : Ir.eval W e σ = r
    fun_cases dropVal r <;> intro h <;> cases h
    exact eval_frame hW e σ _ σ' hf he

theorem varDef_frame {W : World} {x : Var} (hW : PhiFrame W x) (id : Nat) (i : Option Ir.Expr)
    (hid : Var.loc id ≠ x) (hf : Ir.freeOpt x i = true) :
    ∀ σ σ', Ir.execVarDef W id i σ = some σ' → σ' x = σ x := by
  intro σ σ' h
  cases i with
  | none => cases h; rfl
  | some e =>
    revert h
    simp only [Ir.execVarDef]
    generalize he : Ir.eval W e σ = r
    fun_cases setOf (.loc id) r <;> intro h <;> cases h
    rw [set_ne _ _ hid]; exact eval_frame hW e σ _ _ hf he

theorem forDefs_frame {W : World} {x : Var} (hW : PhiFrame W x) :
    ∀ (ds : List (Nat × Option Ir.Expr)), Ir.freeDefs x ds = true →
      ∀ σ σ', Ir.execForDefs W ds σ = some σ' → σ' x = σ x := by
  intro ds hf σ
  fun_induction Ir.execForDefs W ds σ <;> intro σ' h
  · cases h; rfl
  · cases h
  next id i r σ σ1 h1 ih =>
    simp only [Ir.freeDefs, Bool.and_eq_true, decide_eq_true_eq] at hf
    rw [ih hf.2 σ' h, varDef_frame hW id i hf.1.1 hf.1.2 σ σ1 h1]

theorem skip_frame {x : Var} {m : Mode} {σ : Store} {k : Unit → SR}
    (hk : ∀ fl σ', k () = some (fl, σ') → σ' x = σ x) : ∀ fl σ', skip m σ k = some (fl, σ') → σ' x = σ x := by
  intro fl σ' h
  cases m <;> simp only [skip] at h
  · exact hk fl σ' h
  all_goals (simp at h; rw [← h.2])

/-- By the functional induction principle of `Ir.exec`: one case per arm of `exec` / `execs`, the claim for the blocks inside as
hypotheses. -/
theorem exec_execs_frame {W : World} {x : Var} (hW : PhiFrame W x) (fuel : Nat) :
    (∀ m s σ, Ir.freeS x s = true → ∀ fl σ', Spec.Sem.Ir.exec W fuel m s σ = some (fl, σ') → σ' x = σ x) ∧
      ∀ m b σ, Ir.freeSs x b = true → ∀ fl σ', Ir.execs W fuel m b σ = some (fl, σ') → σ' x = σ x := by
  apply Ir.exec.mutual_induct_unfolding W fuel
    (fun _ s σ r => Ir.freeS x s = true → ∀ fl σ', r = some (fl, σ') → σ' x = σ x)
    (fun _ b σ r => Ir.freeSs x b = true → ∀ fl σ', r = some (fl, σ') → σ' x = σ x)
  case case1 => -- expression statement
    intro m e σ hf
    refine skip_frame fun fl σ' h => ?_
    cases he : Ir.eval W e σ with
    | none => simp [he, dropVal, normalOf] at h
    | some r =>
      obtain ⟨v, σ1⟩ := r
      simp [he, dropVal, normalOf] at h
      rw [← h.2]; exact eval_frame hW e σ v σ1 (by simpa [Ir.freeS] using hf) he
  case case2 => -- variable definition
    intro m id i σ hf
    simp only [Ir.freeS, Bool.and_eq_true, decide_eq_true_eq] at hf
    refine skip_frame fun fl σ' h => ?_
    cases hv : Ir.execVarDef W id i σ with
    | none => simp [hv, normalOf] at h
    | some σ1 => simp [hv, normalOf] at h; rw [← h.2]; exact varDef_frame hW id i hf.1 hf.2 σ σ1 hv
  case case3 => exact fun m b σ ih hf => skip_frame (ih (by simpa [Ir.freeS] using hf))
  case case4 => -- if
    intro m c b σ ih hf
    simp only [Ir.freeS, Bool.and_eq_true] at hf
    refine skip_frame fun fl σ' h => ?_
    cases hc : condOfB W.P (Ir.eval W c σ) with
    | none => simp [hc] at h
    | some p =>
      obtain ⟨bv, σ1⟩ := p
      have e1 := condOfB_frame hW c hf.1 σ bv σ1 hc
      simp only [hc] at h
      cases bv
      · simp at h; rw [← h.2, e1]
      · rw [ih σ1 hf.2 fl σ' h, e1]
  case case5 => -- if / else
    intro m c t f σ iht ihf hf
    simp only [Ir.freeS, Bool.and_eq_true] at hf
    refine skip_frame fun fl σ' h => ?_
    cases hc : condOfB W.P (Ir.eval W c σ) with
    | none => simp [hc] at h
    | some p =>
      obtain ⟨bv, σ1⟩ := p
      have e1 := condOfB_frame hW c hf.1.1 σ bv σ1 hc
      simp only [hc] at h
      cases bv
      · rw [ihf σ1 hf.2 fl σ' h, e1]
      · rw [iht σ1 hf.1.2 fl σ' h, e1]
  case case6 => -- for
    intro m i c n b σ ih hf
    simp only [Ir.freeS, Bool.and_eq_true] at hf
    obtain ⟨⟨⟨fi, fc⟩, fn⟩, fb⟩ := hf
    refine skip_frame fun fl σ' h => ?_
    cases hi : Ir.execForInit W i σ with
    | none => simp [hi] at h
    | some σ0 =>
      simp only [hi] at h
      have e0 : σ0 x = σ x := by
        cases i with
        | empty => simp [Ir.execForInit] at hi; rw [← hi]
        | expr e => exact incFn_frame hW (some e) fi σ σ0 hi
        | defs ds => exact forDefs_frame hW ds (by simpa [Ir.freeForInit] using fi) σ σ0 (by simpa [Ir.execForInit] using hi)
      exact (GenSem.loopW_inv (I := fun s => s x = σ x) (fun s bv s' hh e => (condFn_frame hW c fc s bv s' hh).trans e)
        (fun s fl2 s' hh e => (ih s fb fl2 s' hh).trans e)
        (fun s s' hh e => (incFn_frame hW n fn s s' hh).trans e) fuel σ0 fl σ' h e0).1
  case case7 => -- while
    intro m c b σ ih hf
    simp only [Ir.freeS, Bool.and_eq_true] at hf
    exact skip_frame fun fl σ' h => (GenSem.loopW_inv (I := fun s => s x = σ x)
      (fun s bv s' hh e => (condFn_frame hW (some c) hf.1 s bv s' hh).trans e)
      (fun s fl2 s' hh e => (ih s hf.2 fl2 s' hh).trans e)
      (fun s s' hh e => Option.some.inj hh ▸ e) fuel σ fl σ' h rfl).1
  case case8 => -- do / while
    intro m b c σ ih hf
    simp only [Ir.freeS, Bool.and_eq_true] at hf
    exact skip_frame fun fl σ' h => (GenSem.loopD_inv (I := fun s => s x = σ x)
      (fun s fl2 s' hh e => (ih s hf.1 fl2 s' hh).trans e)
      (fun s bv s' hh e => (condFn_frame hW (some c) hf.2 s bv s' hh).trans e) fuel σ fl σ' h rfl).1
  case case9 | case10 | case11 => -- `break`, `continue`, `return;`
    exact fun m σ _ => skip_frame fun fl σ' h => by cases h; rfl
  case case12 => -- `return e;`
    intro m e σ hf
    refine skip_frame fun fl σ' h => ?_
    cases he : Ir.eval W e σ with
    | none => simp [he, retOf] at h
    | some r =>
      obtain ⟨v, σ1⟩ := r
      simp [he, retOf] at h
      rw [← h.2]; exact eval_frame hW e σ v σ1 (by simpa [Ir.freeS, Ir.freeOpt] using hf) he
  case case13 => -- switch
    intro m T c b σ ih1 ih2 hf
    simp only [Ir.freeS, Bool.and_eq_true] at hf
    refine skip_frame fun fl σ' h => ?_
    cases he : Ir.eval W c σ with
    | none => simp [he] at h
    | some r =>
      obtain ⟨v, σ1⟩ := r
      have e1 := eval_frame hW c σ v σ1 hf.1 he
      simp only [he] at h
      obtain ⟨-, fl0, -, h | ⟨σ2, h, h'⟩⟩ := GenSem.switchOut_flow h
      · rw [ih1 v σ1 hf.2 fl0 σ' h, e1]
      · rw [ih2 σ2 hf.2 fl0 σ' h', ih1 v σ1 hf.2 _ σ2 h, e1]
  case case21 => intro m σ _ fl σ' h; cases m <;> cases h <;> rfl
  case case23 | case24 => -- the first statement ends normally, or is skipped: the rest runs from its store
    intro m s r σ σ1 h1 ihs ih hf fl σ' h
    simp only [Ir.freeSs, Bool.and_eq_true] at hf
    rw [ih hf.2 fl σ' h, ihs hf.1 _ σ1 h1]
  case case25 => -- the first statement leaves the block
    intro m s r σ fl σ1 _ _ h1 ihs hf _ _ h
    cases h
    simp only [Ir.freeSs, Bool.and_eq_true] at hf
    exact ihs hf.1 _ _ h1
  -- a failing first statement, and the labels, which leave the store as it is
  all_goals (intros; rename_i h; cases h <;> rfl)

theorem exec_frame {W : World} {x : Var} (hW : PhiFrame W x) (fuel : Nat) :
    ∀ (s : Ir.Stmt) (m : Mode) (σ : Store) (fl : Flow) (σ' : Store), Ir.freeS x s = true →
      Spec.Sem.Ir.exec W fuel m s σ = some (fl, σ') → σ' x = σ x :=
  fun s m σ fl σ' hf => (exec_execs_frame hW fuel).1 m s σ hf fl σ'
theorem execs_frame {W : World} {x : Var} (hW : PhiFrame W x) (fuel : Nat) :
    ∀ (b : Ir.Stmts) (m : Mode) (σ : Store) (fl : Flow) (σ' : Store), Ir.freeSs x b = true →
      Ir.execs W fuel m b σ = some (fl, σ') → σ' x = σ x :=
  fun b m σ fl σ' hf => (exec_execs_frame hW fuel).2 m b σ hf fl σ'

theorem bindParams_frame (x : Var) : ∀ (ps : Params) (vals : List Val) (σ : Store),
    (ps.all fun p => decide (Var.loc p.1 ≠ x)) = true → Ir.bindParams ps vals σ x = σ x := by
  intro ps vals σ
  fun_induction Ir.bindParams ps vals σ
  next id _ _ ps v vs σ ih =>
    intro h
    simp only [List.all_cons, Bool.and_eq_true, decide_eq_true_eq] at h
    rw [ih h.2, set_ne σ v h.1]
  next => exact fun _ => rfl

theorem callFunc_frame {W : World} {x : Var} (hW : PhiFrame W x) (fuel : Nat) (fn : Ir.Func) (hf : Ir.freeF x fn = true) :
    ∀ vals σ r, Ir.callFunc W fuel fn vals σ = some r → r.2.2 x = σ x := by
  intro vals σ r h
  simp only [Ir.freeF, Bool.and_eq_true] at hf
  revert h
  fun_cases Ir.callFunc W fuel fn vals σ <;> intro h <;> cases h
  next fl σ1 hx =>
    exact (execs_frame hW fuel fn.body .run _ fl σ1 hf.2 hx).trans (bindParams_frame x fn.params vals σ hf.1)

/-- **frame property of a program**: a variable no function mentions is left alone by every call, at every depth -/
theorem phi_frame (P : Prim) (prog : List Ir.Func) (fuel : Nat) (x : Var) (hfree : ∀ fn ∈ prog, Ir.freeF x fn = true) :
    ∀ d, PhiFrame { P := P, phi := Ir.phi P prog fuel d, sig := Ir.sigOf prog } x
  | 0 => by intro f vals σ r h; simp [Ir.phi] at h
  | d + 1 => by
    intro f vals σ r h
    simp only [Ir.phi] at h
    cases hfind : prog.find? (fun fn => fn.id == f) with
    | none => simp [hfind] at h
    | some fn =>
      simp only [hfind] at h
      exact callFunc_frame (phi_frame P prog fuel x hfree d) fuel fn (hfree fn (List.mem_of_find?_eq_some hfind)) vals σ r h

namespace Ir
open RsslVerif.Model.Ir
mutual
def noRetS : Stmt → Bool
  | .ret (some _) => false
  | .block b => noRetSs b
  | .ifThen _ b => noRetSs b
  | .ifElse _ t f => noRetSs t && noRetSs f
  | .for _ _ _ b => noRetSs b
  | .while _ b => noRetSs b
  | .doWhile b _ => noRetSs b
  | .switch _ _ b => noRetSs b
  | _ => true
def noRetSs : Stmts → Bool
  | .nil => true
  | .cons s r => noRetS s && noRetSs r
end
end Ir

/-- the flow is not "returned a value" -/
def NoVal (r : SR) : Prop := ∀ v σ', r ≠ some (.ret (some v), σ')

theorem loopW_noval (cond : Store → Option (Bool × Store)) (body : Store → SR) (inc : Store → Option Store)
    (hb : ∀ σ, NoVal (body σ)) (n : Nat) (σ : Store) : NoVal (loopW n cond body inc σ) := fun v σ' h => by
  rcases GenSem.loopW_flow cond body inc n σ _ σ' h with h | ⟨σ1, w, hb', h⟩
  · cases h
  · cases h; exact hb σ1 v σ' hb'

theorem loopD_noval (body : Store → SR) (cond : Store → Option (Bool × Store))
    (hb : ∀ σ, NoVal (body σ)) (n : Nat) (σ : Store) : NoVal (loopD n body cond σ) := fun v σ' h => by
  rcases GenSem.loopD_flow body cond n σ _ σ' h with h | ⟨σ1, w, hb', h⟩
  · cases h
  · cases h; exact hb σ1 v σ' hb'

theorem switchOut_noval (r1 : SR) (p2 : Store → SR) (h1 : NoVal r1) (h2 : ∀ σ, NoVal (p2 σ)) : NoVal (switchOut r1 p2) :=
  fun v σ' h => by
    obtain ⟨-, fl0, hfl | rfl, h | ⟨σ2, -, h⟩⟩ := GenSem.switchOut_flow h
    · cases hfl
    · cases hfl
    · exact h1 v σ' h
    · exact h2 σ2 v σ' h

theorem skip_noval {m : Mode} {σ : Store} {k : Unit → SR} (hk : NoVal (k ())) : NoVal (skip m σ k) := by
  intro v σ'
  cases m <;> simp only [skip]
  · exact hk v σ'
  all_goals simp

/-- By the same principle. -/
theorem exec_execs_noval (W : World) (fuel : Nat) :
    (∀ m s σ, Ir.noRetS s = true → NoVal (Spec.Sem.Ir.exec W fuel m s σ)) ∧
      ∀ m b σ, Ir.noRetSs b = true → NoVal (Ir.execs W fuel m b σ) := by
  apply Ir.exec.mutual_induct_unfolding W fuel (fun _ s _ r => Ir.noRetS s = true → NoVal r)
    (fun _ b _ r => Ir.noRetSs b = true → NoVal r)
  case case1 => -- expression statement
    intro m e σ _
    refine skip_noval fun v σ' => ?_
    cases Ir.eval W e σ <;> simp [dropVal, normalOf]
  case case2 => -- variable definition
    intro m id i σ _
    refine skip_noval fun v σ' => ?_
    cases Ir.execVarDef W id i σ <;> simp [normalOf]
  case case3 => exact fun m b σ ih h => skip_noval (ih (by simpa [Ir.noRetS] using h))
  case case4 => -- if
    intro m c b σ ih h
    refine skip_noval fun v σ' => ?_
    cases condOfB W.P (Ir.eval W c σ) with
    | none => simp
    | some p =>
      obtain ⟨bv, σ1⟩ := p
      cases bv
      · simp
      · exact ih σ1 (by simpa [Ir.noRetS] using h) v σ'
  case case5 => -- if / else
    intro m c t f σ iht ihf h
    simp only [Ir.noRetS, Bool.and_eq_true] at h
    refine skip_noval fun v σ' => ?_
    cases condOfB W.P (Ir.eval W c σ) with
    | none => simp
    | some p =>
      obtain ⟨bv, σ1⟩ := p
      cases bv
      · exact ihf σ1 h.2 v σ'
      · exact iht σ1 h.1 v σ'
  case case6 => -- for
    intro m i c n b σ ih h
    refine skip_noval fun v σ' => ?_
    cases Ir.execForInit W i σ with
    | none => simp
    | some σ0 => exact loopW_noval _ _ _ (fun s => ih s (by simpa [Ir.noRetS] using h)) fuel σ0 v σ'
  case case7 => -- while
    exact fun m c b σ ih h => skip_noval (loopW_noval _ _ _ (fun s => ih s (by simpa [Ir.noRetS] using h)) fuel σ)
  case case8 => -- do / while
    exact fun m b c σ ih h => skip_noval (loopD_noval _ _ (fun s => ih s (by simpa [Ir.noRetS] using h)) fuel σ)
  case case9 | case10 | case11 => -- `break`, `continue`, `return;`
    exact fun m σ _ => skip_noval fun v σ' => by simp
  case case12 => intro m e σ h; simp [Ir.noRetS] at h
  case case13 => -- switch
    intro m T c b σ ih1 ih2 h
    refine skip_noval fun v σ' => ?_
    cases Ir.eval W c σ with
    | none => simp
    | some r =>
      exact switchOut_noval _ _ (ih1 r.1 r.2 (by simpa [Ir.noRetS] using h)) (fun s => ih2 s (by simpa [Ir.noRetS] using h)) v σ'
  case case21 => intro m σ _ v σ'; cases m <;> simp [endOf]
  case case22 => intro m s r σ _ _ _ v σ'; simp
  case case23 | case24 => -- the first statement ends normally, or is skipped: the rest decides
    exact fun m s r σ σ1 _ _ ih h => ih (by simp [Ir.noRetSs] at h; exact h.2)
  case case25 => -- the first statement leaves the block
    intro m s r σ fl σ1 _ _ h1 ih h v σ' he
    cases he
    simp only [Ir.noRetSs, Bool.and_eq_true] at h
    exact ih h.1 v σ1 h1
  -- the labels
  all_goals (intros; intro v σ'; simp)

theorem exec_noval (W : World) (fuel : Nat) : ∀ (s : Ir.Stmt) (m : Mode) (σ : Store), Ir.noRetS s = true →
    NoVal (Spec.Sem.Ir.exec W fuel m s σ) :=
  fun s m σ => (exec_execs_noval W fuel).1 m s σ
theorem execs_noval (W : World) (fuel : Nat) : ∀ (b : Ir.Stmts) (m : Mode) (σ : Store), Ir.noRetSs b = true →
    NoVal (Ir.execs W fuel m b σ) :=
  fun b m σ => (exec_execs_noval W fuel).2 m b σ

theorem callFunc_void (W : World) (fuel : Nat) (fn : Ir.Func) (h : Ir.noRetSs fn.body = true) :
    ∀ vals σ r, Ir.callFunc W fuel fn vals σ = some r → r.1 = .void := by
  intro vals σ r hc
  revert hc
  fun_cases Ir.callFunc W fuel fn vals σ <;> intro hc <;> cases hc
  next fl σ1 hx =>
    cases fl with
    | ret w =>
      cases w with
      | none => rfl
      | some w => exact absurd hx (execs_noval W fuel fn.body .run _ h w σ1)
    | _ => rfl

end RsslVerif.Lemmas.GenMsl
