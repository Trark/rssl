import RsslVerif.Model.FixpointProto
/-! Lemmas about the pairing of prototypes and definitions (`Model.FixpointProto`). -/
namespace RsslVerif.Lemmas.FixpointProto
open RsslVerif.Model.FixpointProto

/-- what the exporter prints, when it prints: every declaration with the parameter list of the definition -/
theorem export_eq {ds ds' : List FDecl} {ps : List (Option String)} (hp : implParams ds = some ps)
    (h : exportDecls ds = some ds') : ds' = ds.map fun d => { d with defaults := ps } := by
  simpa [exportDecls, hp, eq_comm] using h

theorem export_carries_def {ds ds' : List FDecl} {ps : List (Option String)} (hp : implParams ds = some ps)
    (h : exportDecls ds = some ds') : ∀ d' ∈ ds', d'.defaults = ps := by
  simp [export_eq hp h]

/-- the printed list has a definition again, and it carries the same parameter list -/
theorem implParams_export {ds ds' : List FDecl} {ps : List (Option String)} (hp : implParams ds = some ps)
    (h : exportDecls ds = some ds') : implParams ds' = some ps := by
  obtain ⟨d, hd, rfl⟩ := Option.map_eq_some_iff.mp hp
  simp [export_eq hp h, implParams, List.find?_map, Function.comp_def, hd]

theorem export_idempotent {ds ds' : List FDecl} (h : exportDecls ds = some ds') : exportDecls ds' = some ds' := by
  cases hp : implParams ds with
  | none => simp [exportDecls, hp] at h
  | some ps =>
    have hp' := implParams_export hp h
    cases export_eq hp h
    simp [exportDecls, hp', Function.comp_def]

theorem sig_export {ds ds' : List FDecl} {ps : List (Option String)} (hp : implParams ds = some ps)
    (h : exportDecls ds = some ds') : sigNonDefault ds' = some (nonDefault ps) := by
  cases export_eq hp h
  cases ds with
  | nil => simp [implParams] at hp
  | cons d ds => rfl

/-- a call is checked against the registered signature -/
theorem callOk_iff {ds : List FDecl} {k : Nat} (hk : sigNonDefault ds = some k) (n : Nat) : CallOk ds n ↔ k ≤ n := by
  simp [CallOk, hk]

end RsslVerif.Lemmas.FixpointProto
