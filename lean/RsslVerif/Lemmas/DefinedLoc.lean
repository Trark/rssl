import RsslVerif.Model.DefinedLoc
/-!
# Lemmas about the macro scan with locations (C08): where `defined` can fire, and on which tokens

About `Model/DefinedLoc.lean`, a second model of the functions `Model/Macro.lean` models (`find_single_macro`,
`split_macro_args`, `apply_single_macro`), with its own token type (raw source locations), the `defined` arm, an abstract
oracle for `##` in place of the lexer and fuel in place of well-founded recursion; the two models share no types, so the
facts `Lemmas/MacroTerm.lean` proves about the other one (`NoConcat`, `foundPos`, `scanFrom_ok`, `mapE_error`, ...) are
proved here for this one.
-/
namespace RsslVerif.Lemmas.DefinedLoc
open RsslVerif.Model.DefinedLoc RsslVerif.Gen.ArithSites

/-- no `Token::Concat` among the first `n` tokens -/
def NC (toks : List Tok) (n : Nat) : Prop := ∀ i t, i < n → toks[i]? = some t → t.k ≠ .concat

/-- no `Token::Concat` at all -/
def NoConcat (toks : List Tok) : Prop := ∀ t ∈ toks, t.k ≠ .concat

theorem NC_of_NoConcat {toks : List Tok} (h : NoConcat toks) (n : Nat) : NC toks n := by
  intro i t _ hi
  exact h t (List.mem_of_getElem? hi)

theorem NoConcat_of_NC {toks : List Tok} (h : NC toks toks.length) : NoConcat toks := by
  intro t ht
  obtain ⟨i, hi, rfl⟩ := List.getElem_of_mem ht
  exact h i _ hi (List.getElem?_eq_getElem hi)

theorem NC_mono {toks : List Tok} {n m : Nat} (h : NC toks n) (hm : m ≤ n) : NC toks m :=
  fun i t hi ht => h i t (by omega) ht

theorem NC_succ {toks : List Tok} {n j : Nat} {t : Tok} (H : NC toks (max j n))
    (htj : toks[j]? = some t) (hk : t.k ≠ .concat) : NC toks (max (j + 1) n) := by
  intro i u hi hu
  by_cases hij : i = j
  · subst hij; rw [htj] at hu; cases hu; exact hk
  · exact H i u (by omega) hu

theorem trimStart_length_le (l : List Tok) : (trimStart l).length ≤ l.length := by
  unfold trimStart
  exact (List.dropWhile_suffix _).length_le

theorem trimStartNL_length_le (l : List Tok) : (trimStartNL l).length ≤ l.length := by
  unfold trimStartNL
  exact (List.dropWhile_suffix _).length_le

theorem scanArgs_length (l : List Tok) : ∀ (cur : List Tok) (args : List (List Tok)) (d : Nat) (rest : List Tok)
    (as : List (List Tok)), scanArgs l cur args d = .ok (rest, as) → rest.length < l.length + 1 := by
  intro cur args d rest as
  fun_induction scanArgs l cur args d <;> intro h
  case case1 => cases h
  -- the `)` that closes the list
  case case5 => cases h; simp only [List.length_cons]; omega
  -- every other token is passed over
  all_goals
    rename_i ih
    have := ih h
    simp only [List.length_cons]
    omega

/-- what `split_macro_args` leaves is shorter than what follows the opening parenthesis -/
theorem splitArgs_length (remaining rest : List Tok) (as : List (List Tok))
    (h : splitArgs remaining = .ok (rest, as)) :
    ∃ a b tail, trimStartNL remaining = ⟨.lparen, a, b⟩ :: tail ∧ rest.length ≤ tail.length := by
  revert h
  fun_cases splitArgs remaining <;> intro h
  next heq => exact ⟨_, _, _, heq, by have := scanArgs_length _ _ _ _ _ _ h; omega⟩
  · cases h

theorem splitArgs_length' (remaining rest : List Tok) (as : List (List Tok))
    (h : splitArgs remaining = .ok (rest, as)) : rest.length + 1 ≤ remaining.length := by
  obtain ⟨a, b, tail, heq, hl⟩ := splitArgs_length remaining rest as h
  have := trimStartNL_length_le remaining
  rw [heq] at this
  simp only [List.length_cons] at this
  omega

theorem lastNonWs_bound (l : List Tok) : ∀ (i : Nat) (acc : Option Nat) (r : Nat),
    lastNonWs l i acc = some r → acc = some r ∨ (i ≤ r ∧ r < i + l.length) := by
  induction l with
  | nil => intro i acc r h; left; simpa [lastNonWs] using h
  | cons t rest ih =>
    intro i acc r h
    unfold lastNonWs at h
    rcases ih _ _ _ h with h1 | h1
    · split at h1
      · left; exact h1
      · right; simp only [Option.some.injEq] at h1; subst h1; simp
    · right; simp only [List.length_cons]; omega

theorem lastNonWs_take_lt (toks : List Tok) (j l : Nat) (h : lastNonWs (toks.take j) 0 none = some l) : l < j := by
  rcases lastNonWs_bound _ _ _ _ h with h1 | h1
  · cases h1
  · have := List.length_take_le j toks
    omega

/-- what `matchMacro` finds: an enabled entry with that name, and where the invocation "activates" -/
theorem matchMacro_spec (toks : List Tok) (i name : Nat) (sp : SearchPos) :
    ∀ (es : List Entry) (mi0 mi : Nat), matchMacro toks i name sp mi0 es = some mi →
      ∃ e, es[mi - mi0]? = some e ∧ mi0 ≤ mi ∧
        (e.m.isFunction = true → ∃ a, parenAfter toks i = some a ∧ sp.next ≤ a) ∧
        (e.m.isFunction = false → sp.next ≤ i) := by
  intro es mi0 mi
  fun_induction matchMacro toks i name sp mi0 es <;> intro h
  case case1 => cases h
  -- the two hits: a function-like macro whose `(` lies at or behind `next_pos`, an object-like one at or behind it
  case case5 mi0 e _ _ _ _ hf a hpa ha =>
    cases h
    exact ⟨e, by simp, Nat.le_refl _, fun _ => ⟨a, hpa, Nat.le_of_not_gt ha⟩, fun hff => by simp [hf] at hff⟩
  case case8 mi0 e _ _ _ _ hf hi =>
    cases h
    exact ⟨e, by simp, Nat.le_refl _, fun hff => absurd hff hf, fun _ => Nat.le_of_not_gt hi⟩
  -- everywhere else the entry is passed over
  all_goals
    rename_i ih
    obtain ⟨e', h1, h2, h3, h4⟩ := ih h
    refine ⟨e', ?_, Nat.le_of_succ_le h2, h3, h4⟩
    rw [List.getElem?_cons, if_neg (Nat.sub_ne_zero_of_lt h2)]
    exact h1

theorem drop_cons_facts {α : Type} (l : List α) (j : Nat) (t : α) (r : List α) (h : l.drop j = t :: r) :
    l[j]? = some t ∧ l.drop (j + 1) = r ∧ j < l.length := by
  have hj : l[j]? = some t := by
    have := List.getElem?_drop (xs := l) (i := j) (j := 0)
    rw [h] at this
    simpa using this.symm
  refine ⟨hj, ?_, (List.getElem?_eq_some_iff.mp hj).1⟩
  have : (l.drop j).drop 1 = r := by rw [h]; rfl
  rw [List.drop_drop] at this
  exact this

/-- up to which index a result of the search vouches for "no `Concat` token" -/
def foundPos (len : Nat) : Found → Nat
  | .user _ p => p
  | .defined p => p
  | .concat l _ => l
  | .none => len

/-- what a result of the search says about the token it points at -/
def FoundOk (toks : List Tok) (sp : SearchPos) (env : List Entry) (ad : Bool) : Found → Prop
  | .defined p => sp.next ≤ p ∧ ad = true ∧ p < toks.length
  | .user mi p => p < toks.length ∧ ∃ e, env[mi]? = some e ∧
      (e.m.isFunction = true → ∃ a, parenAfter toks p = some a ∧ sp.next ≤ a) ∧
      (e.m.isFunction = false → sp.next ≤ p)
  | .concat _ _ => ∃ (i : Nat) (t : Tok), sp.next ≤ i ∧ toks[i]? = some t ∧ t.k = K.concat
  | .none => True

/-- What a result of the search says about the token it points at, and that the search passes over no `Concat` token: if
there is none before `max j next_pos`, there is none before the position it reports (none at all when it reports nothing). -/
theorem scanFrom_found (toks : List Tok) (sp : SearchPos) (env : List Entry) (ad : Bool) :
    ∀ (rest : List Tok) (j : Nat) (f : Found), toks.drop j = rest → scanFrom toks sp env ad rest j = .ok f →
      FoundOk toks sp env ad f ∧ (NC toks (max j sp.next) → NC toks (foundPos toks.length f)) := by
  intro rest j f hd
  fun_induction scanFrom toks sp env ad rest j <;> intro h <;> try cases h
  case case1 j =>
    have hj : toks.length ≤ j := by
      have := congrArg List.length hd
      simp only [List.length_drop, List.length_nil] at this
      omega
    exact ⟨trivial, fun H => NC_mono H (Nat.le_trans hj (Nat.le_max_left ..))⟩
  case case2 t r j name _ hc =>
    -- `defined`
    obtain ⟨_, _, hjl⟩ := drop_cons_facts toks j t r hd
    exact ⟨⟨hc.1, hc.2.1, hjl⟩, fun H => NC_mono H (Nat.le_max_left ..)⟩
  case case3 t r j name _ _ mi hm =>
    -- an identifier that selects an entry
    obtain ⟨_, _, hjl⟩ := drop_cons_facts toks j t r hd
    obtain ⟨e, h1, _, h3, h4⟩ := matchMacro_spec toks j name sp env 0 mi hm
    exact ⟨⟨hjl, e, by simpa using h1, h3, h4⟩, fun H => NC_mono H (Nat.le_max_left ..)⟩
  case case4 t r j name hk _ _ ih =>
    -- an identifier that selects none
    obtain ⟨htj, hd', _⟩ := drop_cons_facts toks j t r hd
    exact (ih hd' h).imp_right fun hnc H => hnc (NC_succ H htj (by rw [hk]; simp))
  case case8 t r j hk hnl l hl _ _ =>
    -- `##` with both operands
    obtain ⟨htj, _, _⟩ := drop_cons_facts toks j t r hd
    have hlj := Nat.le_of_lt (lastNonWs_take_lt toks j l hl)
    exact ⟨⟨j, t, Nat.le_of_not_gt hnl, htj, hk⟩, fun H => NC_mono H (Nat.le_trans hlj (Nat.le_max_left ..))⟩
  case case9 t r j _ hk ih =>
    -- any other token
    obtain ⟨htj, hd', _⟩ := drop_cons_facts toks j t r hd
    exact (ih hd' h).imp_right fun hnc H => hnc (NC_succ H htj hk)

theorem findSingle_found (toks : List Tok) (sp : SearchPos) (env : List Entry) (ad : Bool) (f : Found)
    (h : findSingle toks sp env ad = .ok f) :
    FoundOk toks sp env ad f ∧ (NC toks sp.next → NC toks (foundPos toks.length f)) := by
  revert h
  fun_cases findSingle toks sp env ad <;> intro h
  next he => exact (scanFrom_found toks sp env ad _ _ f rfl h).imp_right fun hnc H => hnc (by rwa [Nat.max_eq_right he])
  · cases h

theorem NC_splice (toks mid : List Tok) (s e : Nat) (hs : s ≤ toks.length) (h1 : NC toks s) (h2 : NoConcat mid) :
    NC (splice toks s e mid) (s + mid.length) := by
  intro i t hi ht
  unfold splice at ht
  rw [List.append_assoc] at ht
  by_cases his : i < s
  · rw [List.getElem?_append_left (by simp; omega)] at ht
    rw [List.getElem?_take_of_lt his] at ht
    exact h1 i t his ht
  · rw [List.getElem?_append_right (by simp; omega)] at ht
    have hlen : (toks.take s).length = s := by simp; omega
    rw [hlen] at ht
    rw [List.getElem?_append_left (by omega)] at ht
    exact h2 t (List.mem_of_getElem? ht)

theorem drop_splice (toks mid : List Tok) (s e : Nat) (hs : s ≤ toks.length) :
    (splice toks s e mid).drop (s + mid.length) = toks.drop e := by
  unfold splice
  rw [List.append_assoc]
  have hlen : (toks.take s).length = s := by simp; omega
  rw [List.drop_append]
  simp [hlen]

theorem definedToken_kind (toks : List Tok) (env : List Entry) (p : Nat) (rem : List Tok) (operand : Option Nat)
    (g : Tok) (h : definedToken toks env p rem operand = .ok g) : g.k ≠ .concat := by
  revert h
  fun_cases definedToken toks env p rem operand <;> intro h <;> cases h
  simp

theorem noConcat_singleton {t : Tok} (h : t.k ≠ .concat) : NoConcat [t] := by
  intro x hx
  simp only [List.mem_singleton] at hx
  subst hx; exact h

/-- **A completed scan leaves no `Concat` token behind** (for every `##` oracle that, like the lexer, does not
produce one): the scan passes over none, and what it splices in is the output of a completed scan or the
oracle's token. -/
theorem applyLoop_noConcat (paste : Tok → Tok → Option Tok) (bf af : FlagSrc)
    (hp : ∀ a b t, paste a b = some t → t.k ≠ .concat)
    (fuel : Nat) (env : List Entry) (toks : List Tok) (sp : SearchPos) (ad : Bool) :
    ∀ (out : List Tok), NC toks sp.next → applyLoop paste bf af fuel env toks sp ad = .ok out → NoConcat out := by
  fun_induction applyLoop paste bf af fuel env toks sp ad with
  | case3 fuel env toks sp ad hlt hf =>
    intro out H h
    cases h
    exact NoConcat_of_NC ((findSingle_found toks sp env ad _ hf).2 H)
  | case5 fuel env toks sp ad hlt l r hf lt rt hr hl hlr merged hm ih =>
    intro out H h
    refine ih out ?_ h
    have hll : l ≤ toks.length := Nat.le_of_lt (List.getElem?_eq_some_iff.mp hl).1
    exact NC_mono (NC_splice toks [merged] l (r + 1) hll ((findSingle_found toks sp env ad _ hf).2 H)
      (noConcat_singleton (hp _ _ _ hm))) (by simp)
  | case10 fuel env toks sp ad hlt p hf rem hrem generated hg ih =>
    intro out H h
    refine ih out ?_ h
    have hpl : p < toks.length := (findSingle_found toks sp env ad _ hf).1.2.2
    have := NC_splice toks [generated] p (toks.length - rem.length) (by omega) ((findSingle_found toks sp env ad _ hf).2 H)
      (noConcat_singleton (definedToken_kind _ _ _ _ _ _ hg))
    simpa using this
  | case16 fuel env toks sp ad hlt mi p hf e he rest args hra end_ args' hm output hsub hd output' hout hpe ih3 ih2 ih1 =>
    intro out H h
    refine ih1 out ?_ h
    have hpl : p < toks.length := (findSingle_found toks sp env ad _ hf).1.1
    exact NC_splice toks output' p _ (by omega) ((findSingle_found toks sp env ad _ hf).2 H)
      (ih2 output' (by intro i t hi; simp [SearchPos.start] at hi) hout)
  | case19 fuel env toks sp ad hlt =>
    intro out H h
    cases h
    exact NoConcat_of_NC (NC_mono H (by omega))
  | _ => intro out H h; cases h

theorem scanFrom_ne_sub (toks : List Tok) (sp : SearchPos) (env : List Entry) (ad : Bool) (rest : List Tok) (j : Nat) :
    scanFrom toks sp env ad rest j ≠ .error .subOverflow := by
  fun_induction scanFrom toks sp env ad rest j <;> try assumption
  all_goals intro h; cases h

theorem findSingle_ne_sub (toks : List Tok) (sp : SearchPos) (env : List Entry) (ad : Bool) :
    findSingle toks sp env ad ≠ .error .subOverflow := by
  fun_cases findSingle toks sp env ad
  · exact scanFrom_ne_sub _ _ _ _ _ _
  · intro h; cases h

theorem scanArgs_ne_sub (l cur : List Tok) (args : List (List Tok)) (d : Nat) :
    scanArgs l cur args d ≠ .error .subOverflow := by
  fun_induction scanArgs l cur args d <;> try assumption
  all_goals intro h; cases h

theorem splitArgs_ne_sub (remaining : List Tok) : splitArgs remaining ≠ .error .subOverflow := by
  fun_cases splitArgs remaining
  · exact scanArgs_ne_sub _ _ _ _
  · simp

theorem readArgs_ne_sub (m : Macro) (remaining : List Tok) : readArgs m remaining ≠ .error .subOverflow := by
  fun_cases readArgs m remaining <;> intro h <;> cases h
  exact splitArgs_ne_sub remaining ‹_›

theorem readArgs_spec (m : Macro) (remaining rest : List Tok) (args : List (List Tok))
    (h : readArgs m remaining = .ok (rest, args)) :
    (m.isFunction = true → ∃ as, splitArgs remaining = .ok (rest, as)) ∧
    (m.isFunction = false → rest = remaining) := by
  revert h
  fun_cases readArgs m remaining <;> intro h <;> try cases h
  next hf _ _ _ hs => exact ⟨fun _ => ⟨_, hs⟩, fun hff => by simp [hf] at hff⟩
  next hf _ _ hs => exact ⟨fun _ => ⟨_, hs⟩, fun hff => by simp [hf] at hff⟩
  next hf => exact ⟨fun hff => absurd hff hf, fun _ => rfl⟩

theorem substitute_ne_sub (body : List Tok) (args : List (List Tok)) :
    substitute body args ≠ .error .subOverflow := by
  fun_induction substitute body args <;> intro h <;> cases h
  next ih hs => exact ih hs
  next ih hs => exact ih hs

theorem mapE_error {α β : Type} (f : α → Except Err β) (l : List α) (e : Err) (h : mapE f l = .error e) :
    ∃ a ∈ l, f a = .error e := by
  revert h
  fun_induction mapE f l <;> intro h <;> cases h
  next a _ he => exact ⟨a, by simp, he⟩
  next ih he =>
    obtain ⟨x, hx, hfx⟩ := ih he
    exact ⟨x, by simp [hx], hfx⟩

theorem definedRest_ne_sub (remaining : List Tok) : definedRest remaining ≠ .error .subOverflow := by
  fun_cases definedRest remaining <;> intro h <;> cases h
  all_goals exact splitArgs_ne_sub remaining ‹_›

theorem definedRest_length (remaining rem : List Tok) (h : definedRest remaining = .ok rem) :
    rem.length + 1 ≤ remaining.length := by
  revert h
  fun_cases definedRest remaining <;> intro h <;> try cases h
  next heq =>
    -- a blank, then the operand: what is left follows the operand
    have := trimStart_length_le remaining
    rw [show trimStart remaining = _ from heq] at this
    simp only [List.length_cons] at this
    omega
  next hs => exact splitArgs_length' _ _ _ hs
  next hs => exact splitArgs_length' _ _ _ hs

/-- locations grow along the command line: a token never starts after a later token ends
(what one run of the lexer over one file produces, see `Thm.C10.spans_tile`) -/
def Mono (cmd : List Tok) : Prop :=
  ∀ (i j : Nat) (a b : Tok), i ≤ j → cmd[i]? = some a → cmd[j]? = some b → a.start ≤ b.stop

/-- everything from `next_pos` on is an untouched suffix of the command line that was handed to `apply_macros` -/
def Suffix (cmd toks : List Tok) (sp : SearchPos) : Prop := ∃ k, toks.drop sp.next = cmd.drop k

theorem Suffix.getElem {cmd toks : List Tok} {sp : SearchPos} (h : Suffix cmd toks sp) (p : Nat) (hp : sp.next ≤ p) :
    ∃ k, ∀ q, p ≤ q → toks[q]? = cmd[k + (q - p)]? := by
  obtain ⟨k, hk⟩ := h
  refine ⟨k + (p - sp.next), ?_⟩
  intro q hq
  have h1 : (toks.drop sp.next)[q - sp.next]? = toks[q]? := by
    rw [List.getElem?_drop]; congr 1; omega
  have h2 : (cmd.drop k)[q - sp.next]? = cmd[k + (p - sp.next) + (q - p)]? := by
    rw [List.getElem?_drop]; congr 1; omega
  rw [← h1, hk, h2]

theorem Suffix.step {cmd toks mid : List Tok} {sp : SearchPos} (h : Suffix cmd toks sp) (p e : Nat)
    (hp : p ≤ toks.length) (he : sp.next ≤ e) (early : Nat) (lf : Option Nat) :
    Suffix cmd (splice toks p e mid) ⟨p + mid.length, early, lf⟩ := by
  obtain ⟨k, hk⟩ := h
  refine ⟨k + (e - sp.next), ?_⟩
  show (splice toks p e mid).drop (p + mid.length) = _
  rw [drop_splice toks mid p e hp]
  have : toks.drop e = (toks.drop sp.next).drop (e - sp.next) := by
    rw [List.drop_drop]; congr 1; omega
  rw [this, hk, List.drop_drop]

/-- the end location of the operand of `defined` is not before the start location of the keyword when both lie in
the untouched suffix of a command line with monotone locations -/
theorem definedToken_ne_sub (cmd toks : List Tok) (env : List Entry) (sp : SearchPos) (p : Nat) (rem : List Tok)
    (operand : Option Nat) (hmono : Mono cmd) (hI : Suffix cmd toks sp) (hnp : sp.next ≤ p)
    (hlen : rem.length + 1 ≤ toks.length - (p + 1)) : definedToken toks env p rem operand ≠ .error .subOverflow := by
  fun_cases definedToken toks env p rem operand <;> intro hg <;> cases hg
  rename_i d hd _ last hl hov
  obtain ⟨k, hk⟩ := hI.getElem p hnp
  have h1 := hk p (Nat.le_refl _)
  have h2 := hk (toks.length - rem.length - 1) (by omega)
  rw [hd] at h1
  rw [hl] at h2
  have := hmono _ _ d last (by omega) h1.symm h2.symm
  omega

/-- **The `defined` location subtraction cannot overflow on the current code**, whatever token `##` makes.  For a scan
whose two recursive scans (arguments, substituted body) run with `apply_defined = false`: if the scan itself runs without
`apply_defined`, the `defined` operation never happens; if it runs with it on a command line without `Concat` tokens,
everything from `next_pos` on stays an untouched suffix of that line, so the search never reports a `##` (one it reports
lies at or after `next_pos`), and the `defined` keyword and the last token of its operand both lie in the suffix: the end
location is not before the start location. -/
theorem applyLoop_no_subOverflow (paste : Tok → Tok → Option Tok) (cmd : List Tok) (hmono : Mono cmd)
    (hnc : NoConcat cmd) (fuel : Nat) (env : List Entry) (toks : List Tok) (sp : SearchPos) (ad : Bool) :
    (ad = true → Suffix cmd toks sp) →
      applyLoop paste .constFalse .constFalse fuel env toks sp ad ≠ .error .subOverflow := by
  fun_induction applyLoop paste .constFalse .constFalse fuel env toks sp ad with
  | case2 fuel env toks sp ad hlt e hf =>
    intro _ h; cases h; exact findSingle_ne_sub _ _ _ _ hf
  | case5 fuel env toks sp ad hlt l r hf lt rt hr hl hlr merged hm ih =>
    -- `##`: not reached with the invariant, an ordinary step without it
    intro hinv
    refine ih (fun had => ?_)
    obtain ⟨i, t, hni, hi, hk⟩ := (findSingle_found toks sp env ad _ hf).1
    obtain ⟨k, hk'⟩ := (hinv had).getElem i hni
    have := hk' i (Nat.le_refl _)
    rw [hi, Nat.sub_self, Nat.add_zero] at this
    exact absurd hk (hnc t (List.mem_of_getElem? this.symm))
  | case8 fuel env toks sp ad hlt p hf e hr =>
    intro _ h; cases h; exact definedRest_ne_sub _ hr
  | case9 fuel env toks sp ad hlt p hf rem hrem e hg =>
    intro hinv h; cases h
    obtain ⟨hnp, had, hpl⟩ := (findSingle_found toks sp env ad _ hf).1
    have hlen := definedRest_length _ _ hrem
    simp only [List.length_drop] at hlen
    exact definedToken_ne_sub cmd toks env sp p rem _ hmono (hinv had) hnp hlen hg
  | case10 fuel env toks sp ad hlt p hf rem hrem generated hg ih =>
    intro hinv
    refine ih (fun _ => ?_)
    obtain ⟨hnp, had, hpl⟩ := (findSingle_found toks sp env ad _ hf).1
    have hlen := definedRest_length _ _ hrem
    simp only [List.length_drop] at hlen
    have := (hinv had).step p (toks.length - rem.length) (mid := [generated]) (by omega) (by omega) (p + 1) none
    simpa using this
  | case12 fuel env toks sp ad hlt mi p hf e he er hr =>
    intro _ h; cases h; exact readArgs_ne_sub _ _ hr
  | case13 fuel env toks sp ad hlt mi p hf e he rest args hra er hm ih =>
    intro _ h; cases h
    obtain ⟨a, _, ha⟩ := mapE_error _ _ _ hm
    exact ih a (by intro hc; simp [FlagSrc.eval] at hc) ha
  | case14 fuel env toks sp ad hlt mi p hf e he rest args hra args' hm er hs ih =>
    intro _ h; cases h; exact substitute_ne_sub _ _ hs
  | case15 fuel env toks sp ad hlt mi p hf e he rest args hra args' hm output hsub hd er hb ih2 ih1 =>
    intro _ h; cases h
    exact ih1 (by intro hc; simp [FlagSrc.eval] at hc) hb
  | case16 fuel env toks sp ad hlt mi p hf e he rest args hra end_ args' hm output hsub hd output' hout hpe ih3 ih2 ih1 =>
    intro hinv
    refine ih1 (fun had => ?_)
    obtain ⟨hpl, e0, he0, hfn, hob⟩ := (findSingle_found toks sp env ad _ hf).1
    rw [he] at he0
    cases he0
    obtain ⟨hsp, hrr⟩ := readArgs_spec _ _ _ _ hra
    have hend : sp.next ≤ toks.length - rest.length := by
      cases hfe : e.m.isFunction with
      | true =>
        obtain ⟨a, hpa, hna⟩ := hfn hfe
        obtain ⟨as, hsa⟩ := hsp hfe
        obtain ⟨x, y, tail, htr, htl⟩ := splitArgs_length _ _ _ hsa
        unfold parenAfter at hpa
        rw [htr] at hpa
        simp only [Option.some.injEq] at hpa
        have := trimStartNL_length_le (toks.drop (p + 1))
        rw [htr] at this
        simp only [List.length_cons, List.length_drop] at this
        omega
      | false =>
        have := hrr hfe
        have hn := hob hfe
        rw [this]
        simp only [List.length_drop]
        omega
    exact (hinv had).step p _ (by omega) hend p _
  | _ => intro _ h; cases h

/-- consecutive spans: every token ends at or after its start, and the next one starts at or after that end
(the spans of one `TokenStream` run tile the file; a command line is a contiguous part of such a run) -/
def tiled : List Tok → Bool
  | [] => true
  | t :: r => decide (t.start ≤ t.stop) && (match r with | [] => true | u :: _ => decide (t.stop ≤ u.start)) && tiled r

theorem tiled_pairwise : ∀ (l : List Tok), tiled l = true →
    (∀ t ∈ l, t.start ≤ t.stop) ∧ l.Pairwise fun a b => a.stop ≤ b.start
  | [], _ => ⟨nofun, .nil⟩
  | [t], h => by simpa [tiled] using h
  | t :: u :: r, h => by
    rw [tiled] at h
    simp only [Bool.and_eq_true, decide_eq_true_eq] at h
    obtain ⟨⟨h1, h2⟩, h3⟩ := h
    obtain ⟨hs, hp⟩ := tiled_pairwise (u :: r) h3
    refine ⟨List.forall_mem_cons.2 ⟨h1, hs⟩, List.pairwise_cons.2 ⟨fun b hb => ?_, hp⟩⟩
    -- `b` is `u` or comes after `u`
    rcases List.mem_cons.1 hb with rfl | hb
    · exact h2
    · have := (List.pairwise_cons.1 hp).1 b hb
      have := hs u (List.mem_cons_self ..)
      omega

theorem mono_of_tiled (cmd : List Tok) (h : tiled cmd = true) : Mono cmd := by
  obtain ⟨hs, hp⟩ := tiled_pairwise cmd h
  intro i j a b hij ha hb
  obtain ⟨hi, rfl⟩ := List.getElem?_eq_some_iff.1 ha
  obtain ⟨hj, rfl⟩ := List.getElem?_eq_some_iff.1 hb
  have ha := hs _ (List.getElem_mem hi)
  rcases Nat.lt_or_eq_of_le hij with hlt | rfl
  · have := hs _ (List.getElem_mem hj)
    have := List.pairwise_iff_getElem.1 hp i j hi hj hlt
    omega
  · exact ha

end RsslVerif.Lemmas.DefinedLoc
