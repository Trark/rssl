import RsslVerif.Model.Names
import RsslVerif.Model.NamesEmit
import RsslVerif.Spec.Names
import RsslVerif.Gen.Reserved
import RsslVerif.Lemmas.StringKey
import RsslVerif.Lemmas.Basics
/-!
Finite facts about the regenerated tables and the concrete negation witnesses, proved by `decide`
(kept in their own module so that the kernel evaluation is cached between runs; `Thm/C15.lean` restates them).
-/
namespace RsslVerif.Lemmas.NamesTables
open RsslVerif.Model.Names RsslVerif.Lemmas.Basics

/-! ## the tables and the source facts the model rests on (re-extracted from /repo on every run) -/

/-- The lines of `NameMap::build` the model transcribes are still there, the candidate format is `{}_{}`,
symbols are pushed in the order namespace, struct, enum, global, function, and the two exporters pass
`intrinsics_are_reserved = true / false`. -/
theorem source_fingerprints :
    Gen.Reserved.candFormat = "{}_{}" ∧
    Gen.Reserved.pushOrder = ["Namespace", "Struct", "Enum", "EnumValue", "GlobalVariable", "Function"] ∧
    Gen.Reserved.fact_claimLoop = true ∧ Gen.Reserved.fact_keepCondition = true ∧
    Gen.Reserved.fact_scopeLoopInsert = true ∧
    Gen.Reserved.fact_scopeUsedStartsReserved = true ∧ Gen.Reserved.fact_allScopesStartsReserved = true ∧
    Gen.Reserved.fact_sortedByName = true ∧ Gen.Reserved.fact_usageOfAllFunctions = true ∧
    Gen.Reserved.fact_usageKinds = true ∧ Gen.Reserved.fact_usageReserves = true ∧
    Gen.Reserved.fact_localTest = true ∧
    Gen.Reserved.fact_localLoop = true ∧ Gen.Reserved.fact_localKeeps = true ∧
    Gen.Reserved.fact_counterStartsAtZero = true ∧
    Gen.Reserved.hlslIntrinsicsReserved = true ∧ Gen.Reserved.mslIntrinsicsReserved = false := by
  decide +kernel

/-- **reserved_complete** (full): every entry of the independent keyword / built-in lists of HLSL and MSL is
in the `RESERVED_NAMES` table of the corresponding exporter (the tables of /repo 05e2470 and later). -/
theorem reserved_complete :
    (∀ n ∈ Spec.Names.hlslKeywords, n ∈ Gen.Reserved.hlsl) ∧
    (∀ n ∈ Spec.Names.mslKeywords, n ∈ Gen.Reserved.msl) :=
  ⟨StringKey.subset_of_codes (by decide +kernel), StringKey.subset_of_codes (by decide +kernel)⟩

/-- the entries whose absence was the defect are present after the fix -/
example : "SamplerState" ∈ Gen.Reserved.hlsl ∧ "SamplerState," ∉ Gen.Reserved.hlsl ∧
    "device" ∈ Gen.Reserved.msl ∧ "threadgroup" ∈ Gen.Reserved.msl := by
  decide +kernel

/-! ## the identifiers the exporters introduce themselves (re-extracted from the generator sources on every run) -/

/-- every fixed identifier the Metal / HLSL generator puts into a declaring position next to user entities (implicit
parameters, stage locals, wrapper / stage struct / argument buffer names, the helper namespace), and every identifier
constant of `names.rs`, is in that target's `RESERVED_NAMES`.  (The numbered `format!` identifiers — `set<i>`,
`InlineDescriptor<n>`, `g_inlineDescriptor<n>`: `mslIntroducedPatterns`, `hlslIntroducedPatterns` — are **not** reserved:
`generated_name_clash_witness`, known finding `generated-names-not-reserved`.) -/
theorem introduced_names_reserved_as_modelled :
    (∀ n ∈ Gen.Reserved.mslIntroduced, n ∈ Gen.Reserved.msl) ∧
    (∀ n ∈ Gen.Reserved.mslFixed, n ∈ Gen.Reserved.msl) ∧
    (∀ n ∈ Gen.Reserved.hlslIntroduced, n ∈ Gen.Reserved.hlsl) ∧
    (∀ q ∈ Gen.Reserved.mslImplicitParams, q.2 ∈ Gen.Reserved.mslIntroduced) := by
  decide +kernel

/-- the implicit wave parameters of the model are the generator's: the identifiers (declaration in
`generate_function_inner`, call argument, entry wrapper and the text printed for the intrinsic all agree — the translator
refuses otherwise), which intrinsic asks for which parameter, and their order in front of the `Global` parameters
(`required_globals.sort()` with the derived `Ord` of `enum ImplicitFunctionParameter`) -/
theorem implicit_params_as_modelled :
    Gen.Reserved.mslImplicitParams.lookup "ThreadIndexInSimdgroup" = some (Model.NamesEmit.waveName 0) ∧
    Gen.Reserved.mslImplicitParams.lookup "ThreadsPerSimdgroup" = some (Model.NamesEmit.waveName 1) ∧
    Gen.Reserved.mslImplicitIntrinsics =
      [("WaveGetLaneCount", "ThreadsPerSimdgroup", Model.NamesEmit.waveName (Model.NamesEmit.waveCode true)),
       ("WaveGetLaneIndex", "ThreadIndexInSimdgroup", Model.NamesEmit.waveName (Model.NamesEmit.waveCode false))] ∧
    Gen.Reserved.mslImplicitOrder.take 2 = ["ThreadIndexInSimdgroup", "ThreadsPerSimdgroup"] ∧
    Gen.Reserved.mslImplicitOrder.getLast? = some "Global" ∧
    Gen.Reserved.fact_implicitSorted = true := by
  decide +kernel

/-- the two implicit parameter names are reserved on Metal (consequence of the two facts above, stated for the model's names) -/
theorem wave_names_reserved : ∀ w, Model.NamesEmit.waveName w ∈ Gen.Reserved.msl := by
  intro w
  obtain ⟨hintroduced, _, _, himplicit⟩ := introduced_names_reserved_as_modelled
  obtain ⟨hindex, hcount, _⟩ := implicit_params_as_modelled
  have hw : Model.NamesEmit.waveName w = Model.NamesEmit.waveName 0 ∨
      Model.NamesEmit.waveName w = Model.NamesEmit.waveName 1 := by
    unfold Model.NamesEmit.waveName
    split <;> simp
  rcases hw with e | e <;> rw [e]
  · exact hintroduced _ (himplicit _ (mem_of_lookup_eq_some hindex))
  · exact hintroduced _ (himplicit _ (mem_of_lookup_eq_some hcount))

/-! ## two programs with a name clash, evaluated (the behaviour of /repo 0dfd8dd, 6bac604) -/

/-- overloads `a`, `a` and a function `a_0` in one scope -/
def witnessVerbatim : Input :=
  { nss := [], locals := [], used := []
    entries := [⟨⟨.func, 0⟩, none, "a"⟩, ⟨⟨.func, 1⟩, none, "a"⟩, ⟨⟨.func, 2⟩, none, "a_0"⟩] }

/-- the user's `a_0` is claimed first; the overloads take `a_1`, `a_2` -/
theorem verbatim_witness_fixed :
    (build Gen.Reserved.hlsl witnessVerbatim).toOption.map (·.map (·.name)) = some ["a_1", "a_2", "a_0"] ∧
    (build Gen.Reserved.msl witnessVerbatim).toOption.map (·.map (·.name)) = some ["a_1", "a_2", "a_0"] := by
  decide +kernel

/-- a function `kernel_0` that the body of `f` calls, and `f`'s parameter `kernel` (reserved in MSL) -/
def witnessCapture : Input :=
  { nss := [], locals := ["kernel"], used := [⟨.func, 0⟩]
    entries := [⟨⟨.func, 0⟩, none, "kernel_0"⟩, ⟨⟨.func, 1⟩, none, "f"⟩] }

/-- the parameter skips `kernel_0` because a body uses the function of that name -/
theorem capture_witness_fixed :
    (build Gen.Reserved.msl witnessCapture).toOption.map (·.map (fun n => (n.sym.kind, n.name))) =
      some [(.func, "f"), (.func, "kernel_0"), (.localVar, "kernel_1")] := by
  decide +kernel

end RsslVerif.Lemmas.NamesTables
