import RsslVerif.Lemmas.ElabInv
/-! Lemmas for C03, core language.  `ElabExact`: the type of an operand after `ImplicitConversion::apply`; call arguments match
parameter types.  `ElabRelease`: every node the elaboration helpers build has, under the IR's typing rules, exactly the type the type
checker computes for it (one lemma per helper, saying what an accepted result looks like); hence soundness in every build mode, and
the debug-build type query never fires.  `ElabForms`: which source forms elaborate to rvalues.  `ElabPlace`: what
`check_mutable_place` / `check_output_arguments` establish about the written expression.  Core Lean only. -/
namespace RsslVerif.Lemmas.ElabExact
open RsslVerif.Gen.RankTable RsslVerif.Gen.TypingTables RsslVerif.Model.Conv RsslVerif.Model.Overload
open RsslVerif.Model.IrTyping RsslVerif.Model.Elab RsslVerif.Lemmas.ElabConv RsslVerif.Lemmas.Elab
open RsslVerif.Lemmas.ElabInv

variable {Γ : Env}

/-- **Type of a converted operand.**  After `apply` the operand has exactly the destination type; it is either the
    operand itself (then it already had that type) or an rvalue (a re-tagged literal or a cast). -/
theorem applyConv_type {e e' : IExpr} {s d : ETy} {c : Conversion} (he : HasType Γ e s)
    (hf : find s d = .ok (some c)) (ha : applyConv c e = .ok e') :
    ∃ τ', HasType Γ e' τ' ∧ τ'.ty = d.ty ∧ ((e' = e ∧ τ' = s) ∨ τ'.vt = .rvalue) := by
  have ht := targetType_ok hf
  rcases applyConv_cases ha with ⟨rfl, hc⟩ | ⟨t, ht', hk⟩
  · exact ⟨s, he, trivial_conv_same hf hc, Or.inl ⟨rfl, rfl⟩⟩
  · rw [ht] at ht'; cases ht'
    rcases hk with rfl | ⟨_, k, _, _, hm, hl, rfl⟩
    · exact ⟨d.ty.r, .cast he, rfl, Or.inr rfl⟩
    · exact ⟨(scalarTy k).r, .lit k, ty_ext (by simp [scalarTy, Ty.r, hm]) (by simp [scalarTy, Ty.r, hl]), Or.inr rfl⟩

/-- argument types against parameter types: exactly equal, position by position (fewer arguments than parameters are
    allowed: defaulted parameters) -/
def ArgsMatch : List ETy → List Param → Prop
  | [], _ => True
  | t :: ts, p :: ps => t.ty = p.ty ∧ ArgsMatch ts ps
  | _ :: _, [] => False

theorem castArgs_exact {ps : List Param} {as as' : IArgs} {ts : List ETy} (h : CastArgs ps as ts as') :
    HasArgs Γ as ts → ∃ us, HasArgs Γ as' us ∧ ArgsMatch us ps := by
  induction h with
  | nil => exact fun _ => ⟨[], .nil, trivial⟩
  | cons hf ha _ ih =>
    intro hu
    cases hu with
    | cons he hr =>
      obtain ⟨τ', h1, hty, _⟩ := applyConv_type he hf ha
      obtain ⟨us, h2, h3⟩ := ih hr
      exact ⟨τ' :: us, .cons h1 h2, by simpa [Param.ety] using hty, h3⟩

end RsslVerif.Lemmas.ElabExact

namespace RsslVerif.Lemmas.ElabRelease
open RsslVerif.Gen.RankTable RsslVerif.Gen.TypingTables RsslVerif.Model.Conv RsslVerif.Model.Overload
open RsslVerif.Model.IrTyping RsslVerif.Model.Elab RsslVerif.Lemmas.ElabConv RsslVerif.Lemmas.Elab
open RsslVerif.Lemmas.ElabExact RsslVerif.Lemmas.ElabInv

variable {Γ : Env}

/-- the node `parse_expr_unaryop` builds has the type it computes for it under the IR's rules -/
theorem elabUn_sound {o : UnOp} {e n : IExpr} {τ τ' : ETy} (he : HasType Γ e τ)
    (h : elabUn Γ o e τ = .ok (n, τ')) : HasType Γ n τ' := by
  rcases elabUn_cases h with ⟨i, _, rfl, hret, _⟩ | ⟨k, rfl, rfl, _, rfl, rfl⟩ | ⟨c, e2, _, hf, ha, hop⟩
  · exact .op (.cons he .nil) hret
  · -- `-literal` is folded: the literal itself, at its own (unmodified) type
    cases he; exact .lit _
  · obtain ⟨τ'', h1, h2, _⟩ := applyConv_type he hf ha
    rcases hop with ⟨rfl, rfl, rfl⟩ | ⟨rfl, rfl, _, rfl⟩
    · have hlay : τ''.ty.layer = .scalar .bool := by rw [h2]; rfl
      exact .op (.cons h1 .nil) (by simp [opReturn, IOp.rule, hlay, boolR])
    · exact .op (.cons h1 .nil) (by simp [opReturn, IOp.rule, h2, intR, Ty.unmod, scalarTy, Ty.r])

/-- what an accepted arithmetic / comparison / bit / logical operator looks like: both operands have been given exactly the
    working type, and the result is what `get_return_type` says for them -/
theorem elabArith_ok {o : BinOp} {a b n : IExpr} {τa τb τ' : ETy} (hc : o.cls = .arith)
    (ha : HasType Γ a τa) (hb : HasType Γ b τb) (h : elabArith o a τa b τb = .ok (n, τ')) :
    ∃ ts dim i a' b' ta tb, o.toIOp = some i ∧ n = .op i (.cons a' (.cons b' .nil)) ∧ HasType Γ a' ta ∧ HasType Γ b' tb ∧
      ta.ty = ⟨{}, Layer.ofDim (arithScalar ts dim) dim⟩ ∧ tb.ty = ⟨{}, Layer.ofDim (arithScalar ts dim) dim⟩ ∧
      opReturn i [ta, tb] = .ok τ' := by
  obtain ⟨ts, dim, ca, cb, a2, b2, i, _, _, _, _, hfa, hfb, haa, hbb, hi, hout, rfl⟩ := elabArith_iff.1 h
  obtain ⟨τa', h1, h2, _⟩ := applyConv_type ha hfa haa
  obtain ⟨τb', h3, h4, _⟩ := applyConv_type hb hfb hbb
  obtain ⟨hl, hr⟩ := (toIOp_rule o i hi).2.2.2 hc
  exact ⟨ts, dim, i, a2, b2, τa', τb', hi, rfl, h1, h3, h2, h4,
    by rw [← hout, opReturn_snd_ty h4, opReturn_fst_ty hl hr h2]⟩

theorem elabArith_sound {o : BinOp} {a b n : IExpr} {τa τb τ' : ETy} (hc : o.cls = .arith)
    (ha : HasType Γ a τa) (hb : HasType Γ b τb) (h : elabArith o a τa b τb = .ok (n, τ')) :
    HasType Γ n τ' := by
  obtain ⟨_, _, i, _, _, _, _, hi, rfl, h1, h2, _, _, hret⟩ := elabArith_ok hc ha hb h
  exact .op (.cons h1 (.cons h2 .nil)) hret

/-- what an accepted assignment looks like: the target is a non-const lvalue that passed `check_mutable_place`, the value has
    been given exactly the target's type -/
theorem elabAssign_ok {o : BinOp} {a b n : IExpr} {τa τb τ' : ETy} (hb : HasType Γ b τb)
    (h : elabAssign Γ o a τa b τb = .ok (n, τ')) :
    τa.ty.mod.isConst = false ∧ τa.vt = .lvalue ∧ checkMutablePlace Γ a = .ok () ∧
    ∃ i b' tb, o.toIOp = some i ∧ n = .op i (.cons a (.cons b' .nil)) ∧ HasType Γ b' tb ∧ tb.ty = τa.ty ∧
      opReturn i [τa, tb] = .ok τ' := by
  obtain ⟨hconst, hlv, hplace, c, b2, i, hf, ha, hi, hout, rfl⟩ := elabAssign_inv h
  obtain ⟨τb', h1, h2, _⟩ := applyConv_type hb hf ha
  exact ⟨hconst, hlv, hplace, i, b2, τb', hi, rfl, h1, h2, by rw [← hout]; exact opReturn_snd_ty h2⟩

theorem elabAssign_sound {o : BinOp} {a b n : IExpr} {τa τb τ' : ETy}
    (ha : HasType Γ a τa) (hb : HasType Γ b τb) (h : elabAssign Γ o a τa b τb = .ok (n, τ')) : HasType Γ n τ' := by
  obtain ⟨_, _, _, i, b', tb, _, rfl, h1, _, hret⟩ := elabAssign_ok hb h
  exact .op (.cons ha (.cons h1 .nil)) hret

/-- the node of an accepted `?:` has the common type of the arms: both arms have been given exactly that type, and the
    condition is typed -/
theorem elabTern_sound {c a b n : IExpr} {τc τa τb τ' : ETy} (hc : HasType Γ c τc) (ha : HasType Γ a τa)
    (hb : HasType Γ b τb) (h : elabTern c τc a τa b τb = .ok (n, τ')) : HasType Γ n τ' := by
  obtain ⟨lt, cc, ca, cb, c2, a2, b2, _, hca, hcb, ha2, hb2, _, hfc, hac, rfl, rfl⟩ := elabTern_iff.1 h
  obtain ⟨τa', h1, h2, _⟩ := applyConv_type ha hca ha2
  obtain ⟨τb', h3, h4, _⟩ := applyConv_type hb hcb hb2
  obtain ⟨τc', h5, _⟩ := applyConv_type hc hfc hac
  have hty : τa'.ty.r = TTy τa lt := ety_ext rfl (by rw [h2]; rfl) (by rw [h2]; rfl)
  exact hty ▸ .tern h5 h1 h3 (by rw [h2, h4])

/-- inversion of `write_function`: overload resolution selected `id`, the casts were applied, the output arguments were
    checked after the casts -/
theorem elabCall_inv {name : Nat} {args : IArgs} {ts : List ETy} {n : IExpr} {τ : ETy}
    (h : elabCall Γ name args ts = .ok (n, τ)) :
    ∃ id s as', resolve (candidates Γ name) ts = .selected id ∧ Γ.funcs[id]? = some s ∧
      CastArgs s.params args ts as' ∧ checkOutArgs Γ s.params as' = .ok () ∧ n = .call id as' ∧ τ = s.ret.r := by
  revert h
  fun_cases elabCall Γ name args ts <;> intro h <;> try cases h
  rename_i id hsel s hs as' hca _ hco
  exact ⟨id, s, as', hsel, hs, castArgs_ok _ _ _ _ hca, hco, rfl, rfl⟩

theorem elabCall_sound {name : Nat} {args : IArgs} {ts : List ETy} {n : IExpr} {τ' : ETy}
    (ha : HasArgs Γ args ts) (h : elabCall Γ name args ts = .ok (n, τ')) : HasType Γ n τ' := by
  obtain ⟨id, s, as', _, hs, hca, _, rfl, rfl⟩ := elabCall_inv h
  obtain ⟨us, h1, _⟩ := castArgs_exact hca ha
  exact .call hs h1

theorem sound_cases (dbg : Bool) : ElabCases dbg Γ (fun _ i τ => HasType Γ i τ) (fun _ as ts => HasArgs Γ as ts) where
  lit k := .lit k
  var _ _ ht := .var ht
  un _ _ _ _ _ _ _ ih hn := elabUn_sound ih hn
  arith _ _ _ _ _ _ _ _ _ hc _ iha _ ihb hn := elabArith_sound hc iha ihb hn
  assign _ _ _ _ _ _ _ _ _ _ _ iha _ ihb hn := elabAssign_sound iha ihb hn
  seq _ _ _ _ _ _ _ _ _ iha _ ihb := .seq iha ihb
  tern _ _ _ _ _ _ _ _ _ _ _ _ ihc _ iha _ ihb hn := elabTern_sound ihc iha ihb hn
  call _ _ _ _ _ _ _ ih hn := elabCall_sound ih hn
  cast _ _ _ _ _ ih := .cast ih
  nil := .nil
  cons _ _ _ _ _ _ _ ihe _ ihr := .cons ihe ihr

/-- **Soundness of elaboration in every build mode.**  By induction over successful elaborations; the per-node
    debug query is not used. -/
theorem elab_sound_any (dbg : Bool) : ∀ (e : SExpr) (e' : IExpr) (τ : ETy),
    elabE dbg Γ e = .ok (e', τ) → HasType Γ e' τ := elabE_ok_rec (sound_cases dbg)

theorem elabArgs_sound_any (dbg : Bool) : ∀ (as : SArgs) (as' : IArgs) (ts : List ETy),
    elabArgs dbg Γ as = .ok (as', ts) → HasArgs Γ as' ts := elabArgs_ok_rec (sound_cases dbg)

/-- what a release build accepts passes the type query a debug build would make on it -/
theorem elab_dbg_irrelevant_ok {e : SExpr} {e' : IExpr} {τ : ETy} (h : elabE false Γ e = .ok (e', τ)) :
    typeOf Γ e' = .ok τ := typeOf_of_hasType _ _ (elab_sound_any false e e' τ h)

theorem selfCheck_eq {n : IExpr} {τ' : ETy} (ht : typeOf Γ n = .ok τ') :
    selfCheck true Γ n τ' = selfCheck false Γ n τ' := by
  simp [selfCheck, ht]

/-- debug and release builds run alike, in `elabE` and in its argument loop.  Induction along the release run: the branch's own
    equations and the induction hypotheses rewrite the debug run forward into the same branch; where the release run accepts,
    the node it returns is typed (`elab_sound_any`), so the query answers the computed type (`selfCheck_eq`).  The premise of the
    first component, true by `rfl`, is what puts the release run's result into each branch. -/
theorem elab_debug_eq_all :
    (∀ e, elabE false Γ e = elabE false Γ e → elabE true Γ e = elabE false Γ e) ∧
    ∀ as, elabArgs true Γ as = elabArgs false Γ as := by
  apply elabE.mutual_induct_unfolding false Γ (fun e r => elabE false Γ e = r → elabE true Γ e = r)
    (fun as r => elabArgs true Γ as = r)
  all_goals intros
  all_goals simp only [elabE, elabArgs, *, ↓reduceIte, Bool.false_eq_true]
  all_goals exact selfCheck_eq (typeOf_of_hasType _ _ (elab_sound_any false _ _ _ ‹_›))

/-- **The debug-build type query never fires**: debug and release builds elaborate every expression identically
    (same typed expression, same diagnostic, same panic). -/
theorem elab_debug_eq : ∀ (e : SExpr), elabE true Γ e = elabE false Γ e := fun e => elab_debug_eq_all.1 e rfl

theorem elabArgs_debug_eq : ∀ (as : SArgs), elabArgs true Γ as = elabArgs false Γ as := elab_debug_eq_all.2

/-- `parse_expr` = `parse_expr_internal` (its unconditional type query never fires) -/
theorem elabTop_eq (dbg : Bool) (Γ : Env) (e : SExpr) : elabTop dbg Γ e = elabE false Γ e := by
  unfold elabTop
  have : elabE dbg Γ e = elabE false Γ e := by
    cases dbg
    · rfl
    · exact elab_debug_eq e
  rw [this]
  cases h : elabE false Γ e with
  | error m => rfl
  | ok r =>
    obtain ⟨e', τ⟩ := r
    simp only
    exact selfCheck_eq (typeOf_of_hasType _ _ (elab_sound_any false e e' τ h))

/-- the accepted statements: an expression statement; `return;` in a `void` function; `return e;` and `T v = e;` with the
    conversion of `e` to the return type / to the variable's type -/
theorem elabStmt_cases {dbg : Bool} {s : SStmt} {st : IStmt} (h : elabStmt dbg Γ s = .ok st) :
    (∃ e e' τ, s = .expr e ∧ elabE false Γ e = .ok (e', τ) ∧ st = .expr e') ∨
    (s = .ret none ∧ Γ.ret = none ∧ st = .ret none) ∨
    (∃ e e' τ rt e2 t2, s = .ret (some e) ∧ elabE false Γ e = .ok (e', τ) ∧ Γ.ret = some rt ∧
      convert e' τ rt.r = .ok (some (e2, t2)) ∧ st = .ret (some e2)) ∨
    (∃ t e e' τ e2 t2, s = .init t e ∧ elabE false Γ e = .ok (e', τ) ∧
      convert e' τ t.unmod.r = .ok (some (e2, t2)) ∧ st = .init t e2) := by
  revert h
  fun_cases elabStmt dbg Γ s <;> intro h <;> try cases h
  -- `e;`
  case case2 e e' τ he => exact .inl ⟨e, e', τ, rfl, elabTop_eq dbg Γ e ▸ he, rfl⟩
  -- `return;`
  case case3 hr => exact .inr (.inl ⟨rfl, hr, rfl⟩)
  -- `return e;`
  case case9 e e' τ he rt hrt e2 t2 hc =>
    exact .inr (.inr (.inl ⟨e, e', τ, rt, e2, t2, rfl, elabTop_eq dbg Γ e ▸ he, hrt, hc, rfl⟩))
  -- `T v = e;`
  case case13 t e e' τ he e2 t2 hc =>
    exact .inr (.inr (.inr ⟨t, e, e', τ, e2, t2, rfl, elabTop_eq dbg Γ e ▸ he, hc, rfl⟩))

end RsslVerif.Lemmas.ElabRelease

namespace RsslVerif.Lemmas.Elab
open RsslVerif.Gen.RankTable RsslVerif.Gen.TypingTables RsslVerif.Model.Conv RsslVerif.Model.Overload
open RsslVerif.Model.IrTyping RsslVerif.Model.Elab RsslVerif.Lemmas.ElabConv RsslVerif.Lemmas.ElabRelease

variable {Γ : Env}

/-- the `dbg = true` instance of `elab_sound_any` -/
theorem elab_sound_aux : ∀ (e : SExpr) (e' : IExpr) (τ : ETy), elabE true Γ e = .ok (e', τ) → HasType Γ e' τ :=
  elab_sound_any true

theorem elabArgs_sound_aux : ∀ (as : SArgs) (as' : IArgs) (ts : List ETy),
    elabArgs true Γ as = .ok (as', ts) → HasArgs Γ as' ts :=
  elabArgs_sound_any true

end RsslVerif.Lemmas.Elab

namespace RsslVerif.Lemmas.ElabForms
open RsslVerif.Gen.RankTable RsslVerif.Gen.TypingTables RsslVerif.Model.Conv RsslVerif.Model.Overload
open RsslVerif.Model.IrTyping RsslVerif.Model.Elab RsslVerif.Lemmas.ElabConv RsslVerif.Lemmas.Elab
open RsslVerif.Lemmas.ElabRelease RsslVerif.Lemmas.ElabInv

variable {Γ : Env}

/-- source forms that never denote an lvalue -/
def isRvalueForm : SExpr → Bool
  | .lit _ => true
  | .var _ => false
  | .un o _ => o != .prefixIncrement && o != .prefixDecrement
  | .bin o _ _ => o.cls == .arith
  | .tern _ _ _ => true
  | .call _ _ => true
  | .cast _ _ => true

/-- literals, arithmetic / comparison / logical results, `?:`, function results, casts, postfix `++`/`--`, unary
    `+ - ! ~` elaborate to rvalues (in both build modes) -/
theorem rvalue_forms {dbg : Bool} {e : SExpr} {e' : IExpr} {τ : ETy} (hf : isRvalueForm e = true)
    (h : elabE dbg Γ e = .ok (e', τ)) : τ.vt = .rvalue := by
  cases e with
  | lit k => simp only [elabE] at h; rw [(selfCheck_type h).2]; rfl
  | var i => simp [isRvalueForm] at hf
  | un o e1 =>
    simp [isRvalueForm] at hf
    obtain ⟨_, _, _, hn⟩ := elabE_un_ok h
    rcases elabUn_cases hn with ⟨_, _, _, _, hr⟩ | ⟨_, _, _, _, _, rfl⟩ | ⟨_, _, _, _, _, ⟨_, rfl, _⟩ | ⟨_, rfl, _⟩⟩
    · exact hr hf.1 hf.2
    all_goals rfl
  | bin o a b =>
    simp [isRvalueForm] at hf
    obtain ⟨_, _, _, _, _, _, hn⟩ := elabE_bin_ok h
    simp only [hf] at hn
    obtain ⟨_, _, _, _, _, _, i, _, _, _, _, _, _, _, _, hi, hout, _⟩ := elabArith_iff.1 hn
    exact opReturn_rvalue ((toIOp_rule o i hi).2.2.2 hf).2 hout
  | tern c a b =>
    obtain ⟨_, _, _, _, _, _, _, _, _, hn⟩ := elabE_tern_ok h
    obtain ⟨_, _, _, _, _, _, _, _, _, _, _, _, _, _, _, _, rfl⟩ := elabTern_iff.1 hn
    rfl
  | call name args =>
    obtain ⟨as1, ts, _, hn⟩ := elabE_call_ok h
    obtain ⟨_, _, _, _, _, _, _, _, rfl⟩ := elabCall_inv hn
    rfl
  | cast t e1 =>
    obtain ⟨_, _, _, _, rfl⟩ := elabE_cast_ok h
    rfl

end RsslVerif.Lemmas.ElabForms

namespace RsslVerif.Lemmas.ElabPlace
open RsslVerif.Gen.RankTable RsslVerif.Gen.TypingTables RsslVerif.Model.Conv RsslVerif.Model.Overload
open RsslVerif.Model.IrTyping RsslVerif.Model.Elab RsslVerif.Lemmas.ElabConv RsslVerif.Lemmas.Elab
open RsslVerif.Lemmas.ElabForms RsslVerif.Lemmas.ElabExact RsslVerif.Lemmas.ElabRelease RsslVerif.Lemmas.ElabInv

variable {Γ : Env}

/-- an expression accepted by `check_mutable_place` is, under the IR's typing rules, a non-const lvalue -/
theorem checkMutablePlace_ok {e : IExpr} {τ : ETy} (he : HasType Γ e τ) (h : checkMutablePlace Γ e = .ok ()) :
    τ.vt = .lvalue ∧ τ.ty.mod.isConst = false := by
  obtain ⟨τ', ht, hv⟩ := checkMutablePlace_iff.1 h
  cases (typeOf_of_hasType e τ he).symm.trans ht
  exact hv

/-- ... and conversely it accepts every non-const lvalue of the old fragment -/
theorem checkMutablePlace_of {e : IExpr} {τ : ETy} (he : HasType Γ e τ) (hv : τ.vt = .lvalue)
    (hc : τ.ty.mod.isConst = false) : checkMutablePlace Γ e = .ok () :=
  checkMutablePlace_iff.2 ⟨τ, typeOf_of_hasType e τ he, hv, hc⟩

/-- **what `out` / `inout` arguments are**: under the IR's typing judgment, lvalues of non-const type -/
def OutArgsPlaces (Γ : Env) : List Param → IArgs → Prop
  | p :: ps, .cons e r =>
    (isOutputParam p.io = true → ∃ τ, HasType Γ e τ ∧ τ.vt = .lvalue ∧ τ.ty.mod.isConst = false) ∧ OutArgsPlaces Γ ps r
  | _, _ => True

theorem checkOutArgs_places : ∀ (ps : List Param) (as : IArgs) (us : List ETy),
    HasArgs Γ as us → checkOutArgs Γ ps as = .ok () → OutArgsPlaces Γ ps as
  | [], _, _, _, _ => by simp [OutArgsPlaces]
  | _ :: _, .nil, _, _, _ => by simp [OutArgsPlaces]
  | p :: ps, .cons e r, _, .cons he hr, h =>
    have ⟨h1, h2⟩ := checkOutArgs_cons.1 h
    ⟨fun hio => ⟨_, he, checkMutablePlace_ok he (h1 hio)⟩, checkOutArgs_places ps r _ hr h2⟩

end RsslVerif.Lemmas.ElabPlace
