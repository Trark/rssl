import RsslVerif.Model.Trivia
import RsslVerif.Lemmas.SourceMap
/-!
# Lemmas about the token loop: unfolding equations, offset shift, insertion at a token boundary
-/
namespace RsslVerif.Lemmas.Trivia
open RsslVerif.Model.SourceMap RsslVerif.Model.Trivia RsslVerif.Lemmas.SourceMap

variable {τ : Type}

theorem lexBytes_nil (L : Lexer τ) (off : Nat) : lexBytes L [] off = .ok [] := by
  unfold lexBytes; simp

theorem lexPrefix_nil (L : Lexer τ) (off : Nat) : lexPrefix L [] off = [] := by
  unfold lexPrefix; simp

theorem lexBytes_step (L : Lexer τ) (x : Bytes) (off : Nat) (t : τ) (n : Nat)
    (ht : L.tok x = some (t, n)) (hn : 0 < n) (hle : n ≤ x.length) :
    lexBytes L x off = consOk ⟨t, off, off + n⟩ (lexBytes L (x.drop n) (off + n)) := by
  rw [lexBytes]
  simp [List.ne_nil_of_length_pos (Nat.lt_of_lt_of_le hn hle), ht, hn, hle]

theorem lexPrefix_step (L : Lexer τ) (x : Bytes) (off : Nat) (t : τ) (n : Nat)
    (ht : L.tok x = some (t, n)) (hn : 0 < n) (hle : n ≤ x.length) :
    lexPrefix L x off = ⟨t, off, off + n⟩ :: lexPrefix L (x.drop n) (off + n) := by
  rw [lexPrefix]
  simp [List.ne_nil_of_length_pos (Nat.lt_of_lt_of_le hn hle), ht, hn, hle]

/-- induction along a run, whatever the offset: nothing to lex; a failure at once (`mk` is `.lexError` or `.stuck`); or a
first token that covers `n` bytes, `0 < n ≤ |x|` (then `lexBytes_step`, `lexPrefix_step` apply), and the run on the rest -/
theorem run_induct (L : Lexer τ) {motive : Bytes → Prop} (nil : motive [])
    (fail : ∀ x (mk : Nat → LexErr), (mk = .lexError ∨ mk = .stuck) →
      (∀ off, lexBytes L x off = .error (mk off) ∧ lexPrefix L x off = []) → motive x)
    (step : ∀ x t n, L.tok x = some (t, n) → 0 < n → n ≤ x.length → motive (x.drop n) → motive x)
    (x : Bytes) : motive x := by
  induction hlen : x.length using Nat.strongRecOn generalizing x with
  | _ len ih =>
    by_cases hx : x = []
    · exact hx ▸ nil
    · cases ht : L.tok x with
      | none =>
        refine fail x .lexError (.inl rfl) fun off => ⟨?_, ?_⟩
        · rw [lexBytes]; simp [hx, ht]
        · rw [lexPrefix]; simp [hx, ht]
      | some tn =>
        obtain ⟨t, n⟩ := tn
        by_cases hn : 0 < n ∧ n ≤ x.length
        · exact step x t n ht hn.1 hn.2 (ih _ (by simp [List.length_drop]; omega) _ rfl)
        · refine fail x .stuck (.inr rfl) fun off => ⟨?_, ?_⟩
          · rw [lexBytes]; simp [hx, ht, hn]
          · rw [lexPrefix]; simp [hx, ht, hn]

theorem consOk_eq_ok {a : Spanned τ} {r : Except LexErr (List (Spanned τ))} {toks : List (Spanned τ)}
    (h : consOk a r = .ok toks) : ∃ rest, r = .ok rest ∧ toks = a :: rest := by
  cases r with
  | ok rest => exact ⟨rest, rfl, by cases h; rfl⟩
  | error e => cases h

def mapOk (f : List (Spanned τ) → List (Spanned τ)) : Except LexErr (List (Spanned τ)) → Except LexErr (List (Spanned τ))
  | .ok l => .ok (f l)
  | .error e => .error e

theorem mapOk_nil (r : Except LexErr (List (Spanned τ))) : mapOk ([] ++ ·) r = r := by
  cases r <;> rfl

theorem consOk_mapOk (a : Spanned τ) (f : List (Spanned τ) → List (Spanned τ)) (r : Except LexErr (List (Spanned τ))) :
    consOk a (mapOk f r) = mapOk (fun l => a :: f l) r := by
  cases r <;> rfl

/-- the outcome of a run with its token list rewritten by `f` and a failure moved by `d` bytes -/
def mapRun (f : List (Spanned τ) → List (Spanned τ)) (d : Nat) :
    Except LexErr (List (Spanned τ)) → Except LexErr (List (Spanned τ))
  | .ok l => .ok (f l)
  | .error e => .error (e.shift d)

@[simp] theorem mapRun_ok (f : List (Spanned τ) → List (Spanned τ)) (d : Nat) (l : List (Spanned τ)) :
    mapRun f d (.ok l) = .ok (f l) := rfl

@[simp] theorem mapRun_error (f : List (Spanned τ) → List (Spanned τ)) (d : Nat) (e : LexErr) :
    mapRun f d (.error e) = .error (e.shift d) := rfl

theorem lexPrefix_spans (L : Lexer τ) (x : Bytes) (off : Nat) :
    ∀ t ∈ lexPrefix L x off, off ≤ t.start ∧ t.start < t.stop ∧ t.stop ≤ off + x.length := by
  induction x using run_induct L generalizing off with
  | nil => rw [lexPrefix_nil]; intro t ht; cases ht
  | fail x mk _ hf => rw [(hf off).2]; intro t ht; cases ht
  | step x t n ht hn hle ih =>
    rw [lexPrefix_step L x off t n ht hn hle]
    intro u hu
    rcases List.mem_cons.1 hu with rfl | hu
    · simp; omega
    · have := ih (off + n) u hu
      simp [List.length_drop] at this
      omega

theorem lexPrefix_of_ok (L : Lexer τ) (x : Bytes) (off : Nat) (toks : List (Spanned τ))
    (h : lexBytes L x off = .ok toks) : lexPrefix L x off = toks := by
  induction x using run_induct L generalizing off toks with
  | nil => rw [lexBytes_nil] at h; cases h; exact lexPrefix_nil L off
  | fail x mk _ hf => rw [(hf off).1] at h; cases h
  | step x t n ht hn hle ih =>
    rw [lexBytes_step L x off t n ht hn hle] at h
    obtain ⟨rest, hr, rfl⟩ := consOk_eq_ok h
    rw [lexPrefix_step L x off t n ht hn hle, ih _ _ hr]

/-- every span of a successful run is non-empty and lies between `off` and `off + |x|` -/
theorem lexBytes_spans (L : Lexer τ) (x : Bytes) (off : Nat) (toks : List (Spanned τ))
    (h : lexBytes L x off = .ok toks) :
    ∀ t ∈ toks, off ≤ t.start ∧ t.start < t.stop ∧ t.stop ≤ off + x.length :=
  lexPrefix_of_ok L x off toks h ▸ lexPrefix_spans L x off

/-- the loop does not look at the offset: lexing at a different base only relabels the spans, and the place of a failure -/
theorem lexBytes_shift (L : Lexer τ) (x : Bytes) (off d : Nat) :
    lexBytes L x (off + d) = mapRun (List.map (Spanned.shift d)) d (lexBytes L x off) := by
  induction x using run_induct L generalizing off with
  | nil => simp [lexBytes_nil, mapRun]
  | fail x mk hmk hf =>
    rw [(hf (off + d)).1, (hf off).1]
    rcases hmk with rfl | rfl <;> rfl
  | step x t n ht hn hle ih =>
    rw [lexBytes_step L x (off + d) t n ht hn hle, lexBytes_step L x off t n ht hn hle,
      show off + d + n = off + n + d by omega, ih (off + n)]
    cases lexBytes L (x.drop n) (off + n) <;> simp [consOk, mapRun, Spanned.shift]

/-! ### the three facts about the lexer the trivia theorem needs (for one trivia text `w`) -/

/-- **(T) the trivia lexes as trivia.** Whatever follows, lexing `w ++ y` first produces the tokens
    `ws` (token, length) covering exactly `w`, then continues with `y`. -/
def LexesAs (L : Lexer τ) (w : Bytes) (ws : List (τ × Nat)) : Prop :=
  ∀ y off, lexBytes L (w ++ y) off = mapOk (fun r => spansFrom ws off ++ r) (lexBytes L y (off + w.length))

/-- **(A) closed under following trivia.** The token `t` at the front of `x` is still lexed, with the
    same length, when `w` is inserted directly after it. -/
def AdjacentStable (L : Lexer τ) (w : Bytes) (t : τ) : Prop :=
  ∀ x n, L.tok x = some (t, n) → 0 < n → n ≤ x.length → L.tok (x.take n ++ w ++ x.drop n) = some (t, n)

/-- **(D) bounded lookahead.** The token at the front of `x` is unchanged when `w` is inserted at or
    beyond the end of the token that follows it. -/
def DistantStable (L : Lexer τ) (w : Bytes) : Prop :=
  ∀ x t n t2 n2 j, L.tok x = some (t, n) → 0 < n → n ≤ x.length →
    L.tok (x.drop n) = some (t2, n2) → 0 < n2 → n + n2 ≤ j → j ≤ x.length →
    L.tok (insertAt x j w) = some (t, n)

/-- **(A′)** like (A), for texts `x` that satisfy a side condition `good` (a property of the text that starts
    at the token, e.g. "the float lexer did not give up on an `x` suffix here") -/
def AdjacentStableIf (L : Lexer τ) (w : Bytes) (good : Bytes → Prop) (t : τ) : Prop :=
  ∀ x n, good x → L.tok x = some (t, n) → 0 < n → n ≤ x.length → L.tok (x.take n ++ w ++ x.drop n) = some (t, n)

/-- **(D′)** like (D), but only claimed when the token that follows is itself unchanged in the edited text (which
    the induction provides) and `x` satisfies the side condition.  A look-ahead of one whole token (`<`, `>`) and
    lexers whose answer for the following token depends on the inserted text (`/` followed by a comment) fit
    this form; they do not fit (D). -/
def DistantStableIf (L : Lexer τ) (w : Bytes) (good : Bytes → Prop) : Prop :=
  ∀ x t n t2 n2 j, good x → L.tok x = some (t, n) → 0 < n → n ≤ x.length →
    L.tok (x.drop n) = some (t2, n2) → 0 < n2 → n + n2 ≤ j → j ≤ x.length →
    L.tok (insertAt (x.drop n) (j - n) w) = some (t2, n2) →
    L.tok (insertAt x j w) = some (t, n)

theorem insertAt_zero (x w : Bytes) : insertAt x 0 w = w ++ x := by simp [insertAt]

theorem insertAt_split (x w : Bytes) (n j : Nat) (hn : n ≤ j) :
    insertAt x j w = x.take n ++ insertAt (x.drop n) (j - n) w := by
  unfold insertAt
  have h1 : x.take j = x.take n ++ (x.drop n).take (j - n) := take_split x n j hn
  have h2 : (x.drop n).drop (j - n) = x.drop j := by rw [List.drop_drop]; congr 1; omega
  rw [h1, h2]; simp [List.append_assoc]

theorem drop_insertAt_prefix (x w : Bytes) (n j : Nat) (hn : n ≤ j) (hj : j ≤ x.length) :
    (insertAt x j w).drop n = insertAt (x.drop n) (j - n) w := by
  rw [insertAt_split x w n j hn, List.drop_left' (by simp [List.length_take]; omega)]

/-- tokens split at boundary `i`: those that end at or before `i`, and the rest -/
def beforeB (i : Nat) (toks : List (Spanned τ)) : List (Spanned τ) := toks.filter fun t => t.stop ≤ i
def afterB (i : Nat) (toks : List (Spanned τ)) : List (Spanned τ) := toks.filter fun t => ¬ t.stop ≤ i

/-- `i` is the start of the text or the end of a token after which insertion is allowed -/
def BoundaryOK (allowed : τ → Prop) (off i : Nat) (toks : List (Spanned τ)) : Prop :=
  i = off ∨ ∃ t ∈ toks, t.stop = i ∧ allowed t.tok

/-- a list cut where a predicate turns false is cut by the two filters -/
theorem filter_cut {α : Type} (p : α → Bool) (a b : List α) (ha : ∀ t ∈ a, p t = true) (hb : ∀ t ∈ b, p t = false) :
    (a ++ b).filter p = a ∧ (a ++ b).filter (fun t => !p t) = b := by
  rw [List.filter_append, List.filter_append, List.filter_eq_self.2 ha, List.filter_eq_nil_iff.2 (by simpa using hb),
    List.filter_eq_nil_iff.2 (by simpa using ha), List.filter_eq_self.2 (by simpa using hb)]
  simp

/-- **The run cut at a token boundary.** `i` is the start of the text or the end of one of the tokens lexed before the loop
    stops (after which insertion is allowed); the text at the start of every such token up to `i` satisfies the side
    condition `good`; the lexer satisfies (A′) for allowed tokens and (D′) for `w`.  Then up to `i` the run on `x` with `w`
    inserted at `i` is the run on `x`: the same tokens `pre`; behind `i` the one goes on with `w ++ rest`, the other with
    `rest`.  The second part (the first token, which ends at or before `i`, stays) is what the induction hands to (D′). -/
theorem lexBytes_cut (L : Lexer τ) (w : Bytes) (allowed : τ → Prop) (good : Bytes → Prop)
    (hA : ∀ t, allowed t → AdjacentStableIf L w good t) (hD : DistantStableIf L w good)
    (x : Bytes) (off i : Nat) (hb : BoundaryOK allowed off i (lexPrefix L x off))
    (hg : ∀ t ∈ lexPrefix L x off, t.stop ≤ i → good (x.drop (t.start - off))) :
    (∃ pre : List (Spanned τ), (∀ t ∈ pre, t.start < i ∧ t.stop ≤ i) ∧
      lexBytes L x off = mapOk (pre ++ ·) (lexBytes L (x.drop (i - off)) i) ∧
      lexBytes L (insertAt x (i - off) w) off = mapOk (pre ++ ·) (lexBytes L (w ++ x.drop (i - off)) i)) ∧
    (i ≠ off → ∃ t n, L.tok x = some (t, n) ∧ 0 < n ∧ off + n ≤ i ∧ L.tok (insertAt x (i - off) w) = some (t, n)) := by
  induction x using run_induct L generalizing off
  -- at `i = off` nothing has been lexed yet (`pre = []`); otherwise `i` is the end of a token `u` of the run
  all_goals
    by_cases hi : i = off
    · subst hi
      refine ⟨⟨[], (fun _ h => nomatch h), ?_, ?_⟩, fun hne => absurd rfl hne⟩
      · rw [Nat.sub_self, List.drop_zero, mapOk_nil]
      · rw [Nat.sub_self, insertAt_zero, List.drop_zero, mapOk_nil]
    rcases hb with hb | ⟨u, hu, hui, hua⟩
    · exact absurd hb hi
  next => rw [lexPrefix_nil] at hu; cases hu
  next hf => rw [(hf off).2] at hu; cases hu
  next x t n ht hn hle ih =>
    have hj : i - off ≤ x.length := by have := lexPrefix_spans L x off u hu; omega
    rw [lexPrefix_step L x off t n ht hn hle] at hu hg
    -- the first token ends at or before `i`, which is a boundary of the rest of the run: its start, or a later token end
    have hni : off + n ≤ i ∧ BoundaryOK allowed (off + n) i (lexPrefix L (x.drop n) (off + n)) := by
      rcases List.mem_cons.1 hu with rfl | hu'
      · exact ⟨Nat.le_of_eq hui, .inl hui.symm⟩
      · exact ⟨by have := lexPrefix_spans L (x.drop n) (off + n) u hu'; omega, .inr ⟨u, hu', hui, hua⟩⟩
    have hgx : good x := by simpa using hg ⟨t, off, off + n⟩ (by simp) hni.1
    obtain ⟨⟨pre, hpre, e1, e2⟩, hfirst⟩ := ih (off + n) hni.2
      (fun t' ht' hst => by
        have h1 := hg t' (List.mem_cons_of_mem _ ht') hst
        have h2 := (lexPrefix_spans L (x.drop n) (off + n) t' ht').1
        rw [List.drop_drop, show n + (t'.start - (off + n)) = t'.start - off by omega]
        exact h1)
    -- the first token stays: (A′) when `w` follows it directly, (D′) when the next token lies in between
    have hstable : L.tok (insertAt x (i - off) w) = some (t, n) := by
      by_cases hin : i = off + n
      · clear hfirst  -- `omega` fails while this implication with `∃` is in the context
        rcases List.mem_cons.1 hu with rfl | hu'
        · rw [show i - off = n by omega]; exact hA t hua x n hgx ht hn hle
        · have := lexPrefix_spans L (x.drop n) (off + n) u hu'; omega
      · obtain ⟨t2, n2, ht2, hn2, hfirst, hnext⟩ := hfirst hin
        rw [← Nat.sub_sub] at hnext
        exact hD x t n t2 n2 (i - off) hgx ht hn hle ht2 hn2 (by omega) hj hnext
    clear hfirst
    refine ⟨⟨⟨t, off, off + n⟩ :: pre, ?_, ?_, ?_⟩, fun _ => ⟨t, n, ht, hn, hni.1, hstable⟩⟩
    · intro v hv
      rcases List.mem_cons.1 hv with rfl | hv
      · exact ⟨by simp only; omega, hni.1⟩
      · exact hpre v hv
    · rw [lexBytes_step L x off t n ht hn hle, e1, consOk_mapOk, List.drop_drop,
        show n + (i - (off + n)) = i - off by omega]
      rfl
    · rw [lexBytes_step L _ off t n hstable hn (by rw [length_insertAt]; omega),
        drop_insertAt_prefix x w n (i - off) (by omega) hj, Nat.sub_sub, e2, consOk_mapOk, List.drop_drop,
        show n + (i - (off + n)) = i - off by omega]
      rfl

/-- **Insertion at a token boundary, whatever the outcome of the run.** With (T) as well, `x` with `w` inserted at `i`
    runs like `x`: on success the tokens before `i` unchanged, the trivia tokens, the tokens after `i` moved by `|w|`; on
    failure the same failure, `|w|` bytes further on. -/
theorem lexBytes_insert_run (L : Lexer τ) (w : Bytes) (ws : List (τ × Nat)) (allowed : τ → Prop) (good : Bytes → Prop)
    (hT : LexesAs L w ws) (hA : ∀ t, allowed t → AdjacentStableIf L w good t) (hD : DistantStableIf L w good)
    (x : Bytes) (off i : Nat) (hb : BoundaryOK allowed off i (lexPrefix L x off))
    (hg : ∀ t ∈ lexPrefix L x off, t.stop ≤ i → good (x.drop (t.start - off))) :
    lexBytes L (insertAt x (i - off) w) off =
      mapRun (fun toks => beforeB i toks ++ spansFrom ws i ++ (afterB i toks).map (Spanned.shift w.length)) w.length
        (lexBytes L x off) := by
  obtain ⟨⟨pre, hpre, e1, e2⟩, _⟩ := lexBytes_cut L w allowed good hA hD x off i hb hg
  rw [e1, e2, hT, lexBytes_shift]
  cases h : lexBytes L (x.drop (i - off)) i with
  | error e => rfl
  | ok post =>
    have hsp := lexBytes_spans L _ i post h
    obtain ⟨f1, f2⟩ := filter_cut (fun t : Spanned τ => decide (t.stop ≤ i)) pre post
      (fun t ht => by simpa using (hpre t ht).2) (fun t ht => by have := hsp t ht; simp; omega)
    simp only [mapOk, mapRun, beforeB, afterB, List.append_assoc]
    rw [f1]
    simp only [decide_not] at f2 ⊢
    rw [f2]

/-- **Insertion at a token boundary (general form).** If `x` lexes to `toks`, `i` is an allowed boundary, the
    text at the start of every token that ends at or before `i` satisfies the side condition `good`, and the lexer
    satisfies (T), (A′) for allowed tokens and (D′) for `w`, then `x` with `w` inserted at `i` lexes to: the tokens
    before `i` unchanged, the trivia tokens, the tokens after `i` moved by `|w|`. -/
theorem lexBytes_insert_if (L : Lexer τ) (w : Bytes) (ws : List (τ × Nat)) (allowed : τ → Prop) (good : Bytes → Prop)
    (hT : LexesAs L w ws) (hA : ∀ t, allowed t → AdjacentStableIf L w good t) (hD : DistantStableIf L w good)
    (x : Bytes) (off i : Nat) (toks : List (Spanned τ))
    (h : lexBytes L x off = .ok toks) (hb : BoundaryOK allowed off i toks)
    (hg : ∀ t ∈ toks, t.stop ≤ i → good (x.drop (t.start - off))) :
    lexBytes L (insertAt x (i - off) w) off =
      .ok (beforeB i toks ++ spansFrom ws i ++ (afterB i toks).map (Spanned.shift w.length)) := by
  rw [← lexPrefix_of_ok L x off toks h] at hb hg
  rw [lexBytes_insert_run L w ws allowed good hT hA hD x off i hb hg, h]
  rfl

/-- **Insertion at a token boundary of a text the lexer rejects.** The edited text is rejected too, for the same
    reason, at the moved offset. -/
theorem lexBytes_insert_error_if (L : Lexer τ) (w : Bytes) (ws : List (τ × Nat)) (allowed : τ → Prop) (good : Bytes → Prop)
    (hT : LexesAs L w ws) (hA : ∀ t, allowed t → AdjacentStableIf L w good t) (hD : DistantStableIf L w good)
    (x : Bytes) (off i : Nat) (e : LexErr)
    (h : lexBytes L x off = .error e) (hb : BoundaryOK allowed off i (lexPrefix L x off))
    (hg : ∀ t ∈ lexPrefix L x off, t.stop ≤ i → good (x.drop (t.start - off))) :
    lexBytes L (insertAt x (i - off) w) off = .error (e.shift w.length) := by
  rw [lexBytes_insert_run L w ws allowed good hT hA hD x off i hb hg, h]
  rfl

theorem AdjacentStable.toIf {L : Lexer τ} {w : Bytes} {t : τ} (h : AdjacentStable L w t) :
    AdjacentStableIf L w (fun _ => True) t :=
  fun x n _ h1 h2 h3 => h x n h1 h2 h3

theorem DistantStable.toIf {L : Lexer τ} {w : Bytes} (h : DistantStable L w) : DistantStableIf L w (fun _ => True) :=
  fun x t n t2 n2 j _ h1 h2 h3 h4 h5 h6 h7 _ => h x t n t2 n2 j h1 h2 h3 h4 h5 h6 h7

/-- **Insertion at a token boundary.** The special case without side condition, with (A) and (D). -/
theorem lexBytes_insert (L : Lexer τ) (w : Bytes) (ws : List (τ × Nat)) (allowed : τ → Prop)
    (hT : LexesAs L w ws) (hA : ∀ t, allowed t → AdjacentStable L w t) (hD : DistantStable L w)
    (x : Bytes) (off i : Nat) (toks : List (Spanned τ))
    (h : lexBytes L x off = .ok toks) (hb : BoundaryOK allowed off i toks) :
    lexBytes L (insertAt x (i - off) w) off =
      .ok (beforeB i toks ++ spansFrom ws i ++ (afterB i toks).map (Spanned.shift w.length)) :=
  lexBytes_insert_if L w ws allowed (fun _ => True) hT (fun t ht => (hA t ht).toIf) hD.toIf
    x off i toks h hb (fun _ _ _ => trivial)

theorem spansFrom_tok (ws : List (τ × Nat)) (off : Nat) (p : τ → Bool) (h : ∀ t ∈ ws, p t.1 = true) :
    ∀ s ∈ spansFrom ws off, p s.tok = true := by
  induction ws generalizing off with
  | nil => exact fun _ h => nomatch h
  | cons a r ih =>
    exact List.forall_mem_cons.2 ⟨h a List.mem_cons_self, ih _ fun t ht => h t (List.mem_cons_of_mem _ ht)⟩

theorem prepare_append_ws (L : Lexer τ) (ts extra : List (Spanned τ)) (h : ∀ t ∈ extra, L.isWs t.tok = true) :
    prepare L (ts ++ extra) = prepare L ts := by
  unfold prepare
  rw [List.filter_append]
  have : extra.filter (fun t => !L.isWs t.tok) = [] := by
    rw [List.filter_eq_nil_iff]
    intro t ht
    simp [h t ht]
  rw [this]; simp

/-- `read_to_end` is the loop; the `Endline` it may add is dropped again by `prepare_tokens` -/
theorem readToEnd_ok (L : Lexer τ) (hEnd : L.isWs L.endline = true) (x : Bytes) (trailing : Bool) (ts : List (Spanned τ))
    (h : lexBytes L x 0 = .ok ts) : ∃ toks, readToEnd L x trailing = .ok toks ∧ prepare L toks = prepare L ts := by
  unfold readToEnd
  rw [h]
  simp only
  split
  · exact ⟨_, rfl, prepare_append_ws L ts _ (by intro t ht; simp at ht; subst ht; exact hEnd)⟩
  · exact ⟨_, rfl, rfl⟩

theorem readToEnd_error (L : Lexer τ) (x : Bytes) (trailing : Bool) (e : LexErr) :
    readToEnd L x trailing = .error e ↔ lexBytes L x 0 = .error e := by
  unfold readToEnd
  cases lexBytes L x 0 with
  | ok ts => simp only; split <;> simp
  | error e' => simp

/-- `prepare_tokens` of a token list split at `i`, with white space put in and the second part moved -/
theorem prepare_moved (L : Lexer τ) (i d : Nat) (a ins b : List (Spanned τ))
    (hins : ∀ t ∈ ins, L.isWs t.tok = true) (ha : ∀ t ∈ a, t.start < i) (hb : ∀ t ∈ b, i ≤ t.start) :
    prepare L (a ++ ins ++ b.map (Spanned.shift d)) =
      (prepare L (a ++ b)).map fun tl => (tl.1, relocate i d tl.2) := by
  have hnil : ins.filter (fun t => !L.isWs t.tok) = [] := by
    rw [List.filter_eq_nil_iff]; intro t ht; simp [hins t ht]
  have hshift : (b.map (Spanned.shift d)).filter (fun t => !L.isWs t.tok) =
      (b.filter (fun t => !L.isWs t.tok)).map (Spanned.shift d) := by rw [List.filter_map]; rfl
  unfold prepare
  simp only [List.filter_append, hnil, hshift, List.append_nil, List.map_append, List.map_map,
    List.map_cons, List.map_nil, relocate]
  congr 2
  · apply List.map_congr_left
    intro t ht
    have := ha t (List.mem_filter.1 ht).1
    simp [Function.comp, moveOffset, show ¬ i ≤ t.start by omega]
  · apply List.map_congr_left
    intro t ht
    simp [Function.comp, moveOffset, Spanned.shift, hb t (List.mem_filter.1 ht).1]

theorem lexBytes_insert_error (L : Lexer τ) (w : Bytes) (ws : List (τ × Nat)) (allowed : τ → Prop)
    (hT : LexesAs L w ws) (hA : ∀ t, allowed t → AdjacentStable L w t) (hD : DistantStable L w)
    (x : Bytes) (off i : Nat) (e : LexErr)
    (h : lexBytes L x off = .error e) (hb : BoundaryOK allowed off i (lexPrefix L x off)) :
    lexBytes L (insertAt x (i - off) w) off = .error (e.shift w.length) :=
  lexBytes_insert_error_if L w ws allowed (fun _ => True) hT (fun t ht => (hA t ht).toIf) hD.toIf
    x off i e h hb (fun _ _ _ => trivial)

end RsslVerif.Lemmas.Trivia
