import RsslVerif.Model.Progress
/-! Helper lemmas for the C08 progress theorems. -/
namespace RsslVerif.Lemmas.Progress
open RsslVerif.Model.Progress

variable {τ ε α γ : Type}

/-- a successful separator + element round consumes at least one token -/
def Productive (sep : Parser τ ε γ) (elem : Parser τ ε α) : Prop :=
  ∀ input afterSep g rest e, sep input = .ok (afterSep, g) → elem afterSep = .ok (rest, e) →
    rest.length < input.length

/-- on success the parser returns no more input than it was given -/
def NonIncreasing (p : Parser τ ε α) : Prop :=
  ∀ input rest a, p input = .ok (rest, a) → rest.length ≤ input.length

/-- on success the parser consumed at least one token -/
def Consuming (p : Parser τ ε α) : Prop :=
  ∀ input rest a, p input = .ok (rest, a) → rest.length < input.length

theorem productive_of_sep_consuming {sep : Parser τ ε γ} {elem : Parser τ ε α}
    (hs : Consuming sep) (he : NonIncreasing elem) : Productive sep elem := by
  intro input afterSep g rest e h1 h2
  have a := hs input afterSep g h1
  have b := he afterSep rest e h2
  omega

theorem productive_of_elem_consuming {sep : Parser τ ε γ} {elem : Parser τ ε α}
    (hs : NonIncreasing sep) (he : Consuming elem) : Productive sep elem := by
  intro input afterSep g rest e h1 h2
  have a := hs input afterSep g h1
  have b := he afterSep rest e h2
  omega

/-- with fuel above the input length the loop finishes; every iteration that adds a value consumed a token, so values +
    remaining input never exceed what the loop started with -/
theorem listLoop_spec {sep : Parser τ ε γ} {elem : Parser τ ε α} (h : Productive sep elem) :
    ∀ (n : Nat) (input : List τ) (acc : List α), input.length < n →
      ∃ r, listLoop sep elem n input acc = some r ∧
        ∀ rest vs, r = .ok (rest, vs) → vs.length + rest.length ≤ acc.length + input.length := by
  intro n input acc
  fun_induction listLoop sep elem n input acc <;> intro hlt
  case case1 => omega
  case case3 afterSep g hs rest e he ih =>
    have := h _ afterSep g rest e hs he
    obtain ⟨r, hr, hc⟩ := ih (by omega)
    refine ⟨r, hr, fun rest' vs hv => ?_⟩
    have := hc rest' vs hv
    simp only [List.length_cons] at this
    omega
  -- one of the two `break`s, which hand back the input and the values read so far, or the element's failure
  all_goals exact ⟨_, rfl, fun _ _ hv => by cases hv <;> simp⟩

/-- tokens still to come: one per remaining byte at most, plus the synthetic final endline -/
def potential (s : Stream) : Nat :=
  if s.off < s.len then (s.len - s.off) + 1 else (if s.lastEndl then 0 else 1)

/-- `next` on a stream in range that adds the final endline: a token lowers the potential and leaves such a stream; the
endline assert fires only at the end of the stream, the progress assert only after the lexer returned without consuming -/
theorem next_spec (lex : Lex) (s : Stream) (hr : s.off ≤ s.len) (ht : s.addTrailing = true)
    (hlex : ∀ off nl e, lex off = some (nl, e) → nl ≤ s.len) :
    ∀ r, s.next lex = r → match r with
    | .token _ s' => potential s' < potential s ∧ s'.len = s.len ∧ s'.off ≤ s'.len ∧ s'.addTrailing = true
    | .lexError => True
    | .panicAssertEndline => s.endOfStream = true
    | .panicNoProgress => ∃ nl e, lex s.off = some (nl, e) ∧ ¬ s.off < nl := by
  fun_cases Stream.next lex s <;> rintro _ rfl
  case case1 hc hl =>
    -- the endline assert
    simp only [Bool.and_eq_true, beq_iff_eq] at hc
    simp [Stream.endOfStream, hc.2, hl]
  case case2 hc hl =>
    -- the synthetic endline after the last byte
    simp only [Bool.and_eq_true, beq_iff_eq] at hc
    simp only [Bool.not_eq_true] at hl
    simp [potential, hc.2, hl, ht]
  case case3 => trivial
  case case4 nl endl hlx hlt =>
    -- a token of the lexer
    have hb := hlex s.off nl endl hlx
    refine ⟨?_, rfl, hb, ht⟩
    have hoff : s.off < s.len := by omega
    simp only [potential, hoff, if_true]
    split
    · omega
    · split <;> omega
  case case5 nl endl hlx hnot => exact ⟨nl, endl, hlx, hnot⟩  -- the progress assert

theorem readToEnd_gen (lex : Lex) (n : Nat) (s : Stream) (acc : List Span) :
    s.off ≤ s.len → s.addTrailing = true → (∀ off nl e, lex off = some (nl, e) → nl ≤ s.len) → potential s < n →
      ∃ r, readToEnd lex n s acc = some r ∧ r ≠ .panicAssertEndline ∧
        ((∀ off nl e, lex off = some (nl, e) → off < nl) → r ≠ .panicNoProgress) ∧
        ∀ l, r = .tokens l → l.length ≤ acc.length + potential s := by
  fun_induction readToEnd lex n s acc <;> intro hr ht hlex hpot
  case case1 => omega
  case case2 => exact ⟨_, rfl, nofun, fun _ => nofun, fun l h => by cases h; simp⟩
  case case3 s acc _ sp s' hn ih =>
    -- a token: the loop goes on with a smaller potential
    obtain ⟨hdec, hlen, hr', ht'⟩ := next_spec lex s hr ht hlex _ hn
    obtain ⟨r, h1, h2, h3, h4⟩ := ih hr' ht' (by rw [hlen]; exact hlex) (by omega)
    refine ⟨r, h1, h2, h3, fun l hl => ?_⟩
    have := h4 l hl
    simp only [List.length_cons] at this
    omega
  case case4 => exact ⟨_, rfl, nofun, fun _ => nofun, nofun⟩
  -- the two asserts
  case case5 s _ heos hn => exact absurd (next_spec lex s hr ht hlex _ hn) heos
  case case6 s _ _ hn =>
    obtain ⟨nl, e, hlx, hnot⟩ := next_spec lex s hr ht hlex _ hn
    exact ⟨_, rfl, nofun, fun hprod => absurd (hprod _ nl e hlx) hnot, nofun⟩

end RsslVerif.Lemmas.Progress
