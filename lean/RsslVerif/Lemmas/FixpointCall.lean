import RsslVerif.Lemmas.FixpointForms
import RsslVerif.Lemmas.ElabRelease
import RsslVerif.Lemmas.Overload
/-!
Lemmas for C04 `reelab_no_new_casts`: calls.  In the exported program every function has a name of its own
(`Renamed.uniq`), so the overload set of a call is a singleton; it is selected as soon as every argument converts to
its parameter, which `reconv` provides for the exported arguments.
-/
namespace RsslVerif.Lemmas.FixpointCall
open RsslVerif.Gen.RankTable RsslVerif.Gen.TypingTables
open RsslVerif.Model.Conv RsslVerif.Model.Overload RsslVerif.Model.IrTyping RsslVerif.Model.Elab
open RsslVerif.Model.Fixpoint RsslVerif.Lemmas.ElabConv RsslVerif.Lemmas.Elab RsslVerif.Lemmas.ElabExact
open RsslVerif.Lemmas.ElabRelease RsslVerif.Lemmas.ElabInv RsslVerif.Lemmas.FixpointElab RsslVerif.Lemmas.FixpointArith RsslVerif.Lemmas.FixpointArithDim
open RsslVerif.Lemmas.FixpointForms RsslVerif.Lemmas.Overload RsslVerif.Lemmas.Conv RsslVerif.Lemmas.FixpointPlace

theorem candsFrom_nil {name : Nat} : ∀ {l : List FuncSig} {i : Nat},
    (∀ (j : Nat) (s : FuncSig), l[j]? = some s → s.name ≠ name) → candsFrom name l i = [] := by
  intro l i h
  fun_induction candsFrom name l i
  case case1 => rfl
  case case2 s r i hs _ => exact absurd hs (h 0 s rfl)
  case case3 ih => exact ih fun j s' hj => h (j + 1) s' (by simpa using hj)

theorem candsFrom_single {name : Nat} : ∀ {l : List FuncSig} {i k : Nat} {sk : FuncSig},
    l[k]? = some sk → sk.name = name → (∀ (j : Nat) (s : FuncSig), l[j]? = some s → s.name = name → j = k) →
    candsFrom name l i = [⟨i + k, sk.params, sk.nonDefault⟩] := by
  intro l i k sk h hn hu
  fun_induction candsFrom name l i generalizing k
  case case1 => simp at h
  case case2 s r i hs _ =>
    -- the head has the name: it is position `k`, and nothing behind it has the name
    cases hu 0 s rfl hs
    simp at h; subst h
    rw [candsFrom_nil]
    · rfl
    · intro j s' hj hname
      have := hu (j + 1) s' (by simpa using hj) hname
      omega
  case case3 s r i hs ih =>
    cases k with
    | zero => simp at h; subst h; exact absurd hn hs
    | succ k =>
      rw [ih (by simpa using h) fun j s' hj hname => by
        have := hu (j + 1) s' (by simpa using hj) hname
        omega]
      congr 2
      omega

theorem candidates_renamed {Γ Γ' : Env} (hR : Renamed Γ Γ') {f : Nat} {sg : FuncSig} (h : Γ'.funcs[f]? = some sg) :
    candidates Γ' sg.name = [⟨f, sg.params, sg.nonDefault⟩] := by
  unfold candidates
  have := candsFrom_single (name := sg.name) (l := Γ'.funcs) (i := 0) (k := f) (sk := sg) h rfl
    (fun j s hj hn => hR.uniq j f s sg hj h hn)
  simpa using this

theorem resolve_single {c : Cand} {args : List ETy} {rs : List Rank} (h : rankCand args c = .ranked c.id rs) :
    resolve [c] args = .selected c.id := by
  have hfin : finals (winners [(c.id, rs)]) = [(c.id, rs)] := by
    simp [winners, finals, bestOrder, lexLt_irrefl]
  simp [resolve, h, CandResult.isPanic, CandResult.ranked?, resolveRanked, hfin]

theorem zipRanks_some_cons {p : Param} {ps : List Param} {a : ETy} {as : List ETy} {c : Conversion}
    (hf : find a p.ety = .ok (some c)) (ht : ∃ rs, zipRanks ps as = .ok (some rs)) :
    ∃ rs, zipRanks (p :: ps) (a :: as) = .ok (some rs) := by
  obtain ⟨rs, hrs⟩ := ht
  obtain ⟨x, hx⟩ := findRank_total a p.ety
  rw [getRank_of_findRank hf] at hx
  cases hg : getRank c with
  | error e => rw [hg] at hx; simp at hx
  | ok r => exact ⟨r :: rs, by simp [zipRanks, hf, hrs, hg]⟩

variable {Γ Γ' : Env}

/-- induction hypothesis for an argument list: every elaborated argument is typed and re-elaborates to itself -/
def ArgsIH (Γ Γ' : Env) : IArgs → List ETy → Prop
  | .nil, [] => True
  | .cons e r, t :: ts =>
    HasType Γ e t ∧ (∀ s', Unelab Γ' e s' → elabE false Γ' s' = .ok (e, t)) ∧ ArgsIH Γ Γ' r ts
  | _, _ => False

theorem zipRanks_nil_args (ps : List Param) : zipRanks ps [] = .ok (some []) := by
  cases ps <;> simp [zipRanks]

theorem castArgs_back {ps : List Param} {args args2 : IArgs} {ts : List ETy} (h : CastArgs ps args ts args2) :
    ArgsIH Γ Γ' args ts → outArgsPlain ps args2 = true → ∀ sargs, UnelabArgs Γ' args2 sargs →
    ∃ args0 ts0, elabArgs false Γ' sargs = .ok (args0, ts0) ∧ CastArgs ps args0 ts0 args2 ∧
      (∃ rs, zipRanks ps ts0 = .ok (some rs)) ∧ ts0.length = ts.length := by
  induction h with
  | nil ps =>
    intro _ _ sargs hu
    cases hu
    exact ⟨.nil, [], by simp [elabArgs], .nil ps, ⟨[], zipRanks_nil_args ps⟩, rfl⟩
  | @cons p ps e e2 r r2 t ts c hf ha _ ih =>
    intro ⟨_, ihe, ihr⟩ hout sargs hu
    simp only [outArgsPlain, Bool.and_eq_true, Bool.not_eq_true', Bool.and_eq_false_iff] at hout
    obtain ⟨hout1, hout2⟩ := hout
    cases hu with
    | cons hu1 hur =>
      have hvt : p.ety.vt = .rvalue ∨ isCast e2 = false := hout1.imp (fun h1 => by simp [Param.ety, h1]) id
      obtain ⟨e0, τ0, hel, hb⟩ := reconv ihe hf ha hvt _ hu1
      obtain ⟨r0, ts0, helr, hcr, hzr, hlen⟩ := ih ihr hout2 _ hur
      obtain ⟨c0, hf0, ha0⟩ := back_find hf ha hb
      exact ⟨.cons e0 r0, τ0 :: ts0, by simp [elabArgs, hel, helr], .cons hf0 ha0 hcr, zipRanks_some_cons hf0 hzr,
        by simp [hlen]⟩

/-- **Calls are stable under re-elaboration**: the exported call names its function uniquely, every exported argument
    converts to its parameter again, the arguments given for `out` / `inout` parameters are mutable places again, and
    the same `Call` node is rebuilt.  Since fix 3758fdd (`check_output_arguments` on the converted arguments) an accepted
    call never carries a `Cast` in an `out` / `inout` position (`outArgsPlain_of_checkOutArgs`). -/
theorem elabCall_stable (hR : Renamed Γ Γ') {name : Nat} {args : IArgs} {ts : List ETy} {n : IExpr} {τ : ETy}
    (h : elabCall Γ name args ts = .ok (n, τ)) (hih : ArgsIH Γ Γ' args ts) : Reads Γ' n τ := by
  intro s' hu
  obtain ⟨j, s, args2, hsel, hsg, hca, hchk, rfl, hτ⟩ := elabCall_inv h
  -- the selected candidate is function `j` with its signature `s`
  obtain ⟨s0, rc, hs, _, _, hrc⟩ := selected_sig hsel
  cases hsg.symm.trans hs
  obtain ⟨⟨hlen1, hlen2⟩, _⟩ := rankCand_ranked hrc
  simp only at hlen1 hlen2
  -- the exported call
  obtain ⟨sg', hsg', hp, hnd, hret⟩ := hR.sig j s hsg
  have hplain : outArgsPlain s.params args2 = true := outArgsPlain_of_checkOutArgs s.params args2 hchk
  have hchk' : checkOutArgs Γ' s.params args2 = .ok () := checkOutArgs_renamed hR s.params args2 hchk
  cases hu with
  | call hf' hua =>
    rename_i sg'' sargs
    have : sg'' = sg' := by rw [hsg'] at hf'; simpa using hf'.symm
    subst this
    obtain ⟨args0, ts0, hela, hca0, ⟨rs, hz⟩, hlen⟩ := castArgs_back hca hih hplain sargs hua
    have hcands := candidates_renamed hR hsg'
    have hrank : rankCand ts0 ⟨j, sg''.params, sg''.nonDefault⟩ = .ranked j rs := by
      simp only [rankCand, hp, hnd, hlen, hlen1, hlen2, and_self, if_true, hz]
    have hres : resolve (candidates Γ' sg''.name) ts0 = .selected j := by
      rw [hcands]; exact resolve_single (c := ⟨j, sg''.params, sg''.nonDefault⟩) hrank
    simp only [elabE, hcands, List.isEmpty_cons, Bool.false_eq_true, if_false, hela]
    simp only [elabCall, hres, hsg', hp, castArgs_of hca0, hchk', selfCheck, hret, hτ]
    simp

end RsslVerif.Lemmas.FixpointCall
