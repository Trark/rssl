import RsslVerif.Model.ConstPos
import RsslVerif.Lemmas.ConstEvalOps
/-!
# The positions that demand a constant: the boundary between untyped literals and typed values (C13)

What a position records is related here to the *integer value* of the evaluated constant (`intValue`: `false/true`
are 0/1, an integer constant of any kind is its value, anything else has none; `countOf` gives an enum the value of its
underlying constant where the position unwraps enums): which kinds are accepted, the exact range, and that the recorded
number is the value.
-/
namespace RsslVerif.Lemmas.ConstPos
open RsslVerif.Gen.EvalTable RsslVerif.Gen.PosTable RsslVerif.Model.ConstEval RsslVerif.Model.ConstPos
open RsslVerif.Lemmas.ConstEval

/-- the integer a constant denotes when it is used as a count; `none` for floats, strings and enums -/
def intValue : Constant → Option Int
  | .bool b => some (if b then 1 else 0)
  | .intLit v | .int32 v | .uint32 v | .int64 v | .uint64 v => some v
  | _ => none

theorem inRange_iff {t : IntTy} {x : Int} : t.inRange x = true ↔ t.lo ≤ x ∧ x ≤ t.hi := by simp [IntTy.inRange]

/-- a signed payload: the guard `>= 0` is the whole range test, the type is narrower than 64 bits -/
theorem nonNeg_arm {v hi : Int} (hv : v ≤ hi) (hhi : hi ≤ 2 ^ 64 - 1) :
    (if 0 ≤ v then some v else none) = if 0 ≤ v ∧ v ≤ 2 ^ 64 - 1 then some v else none := by
  by_cases h0 : 0 ≤ v
  · rw [if_pos h0, if_pos ⟨h0, Int.le_trans hv hhi⟩]
  · rw [if_neg h0, if_neg fun h => h0 h.1]

/-- an unsigned payload is passed on without a guard -/
theorem always_arm {v hi : Int} (h0 : 0 ≤ v) (hv : v ≤ hi) (hhi : hi ≤ 2 ^ 64 - 1) :
    some v = if 0 ≤ v ∧ v ≤ 2 ^ 64 - 1 then some v else none :=
  (if_pos ⟨h0, Int.le_trans hv hhi⟩).symm

/-- **`Constant::to_uint64`**: defined exactly for the integer-like constants with a value in `[0, 2^64)`, and then
it *is* the value — whatever the kind (untyped literal, `int`, `uint`, `bool`) -/
theorem toUint64_spec (c : Constant) (h : wf c = true) :
    toUint64 c = (match intValue c with
                  | some v => if 0 ≤ v ∧ v ≤ 2 ^ 64 - 1 then some v else none
                  | none => none) := by
  cases c with
  | bool b => cases b <;> rfl
  | int32 v => exact nonNeg_arm (inRange_iff.1 h).2 (by decide)
  | int64 v => exact nonNeg_arm (inRange_iff.1 h).2 (by decide)
  | uint32 v => exact always_arm (inRange_iff.1 h).1 (inRange_iff.1 h).2 (by decide)
  | uint64 v => exact always_arm (inRange_iff.1 h).1 (inRange_iff.1 h).2 (by decide)
  | _ => rfl

/-- the count a position with rule `r` reads off a constant: enums only where the position unwraps them -/
def countOf (r : SizeRule) (c : Constant) : Option Int :=
  match c with
  | .enum _ inner => if r.unwrapEnum then intValue inner else none
  | c => intValue c

theorem wf_enum_inner {i : Nat} {c : Constant} (h : wf (.enum i c) = true) : wf c = true := by
  simp [wf] at h; exact h.1

/-- **a position that needs a count**: the outcome as a function of the integer value of the constant alone -/
theorem sizeSite_ok (r : SizeRule) (c : Constant) (h : wf c = true) :
    sizeSite r (.ok c) =
      (match countOf r c with
       | none => .notConstant
       | some v =>
         if v < 0 ∨ 2 ^ 64 - 1 < v then .notConstant
         else if r.rejectZero = true ∧ v = 0 then .zeroSize
         else if r.max32 = true ∧ 2 ^ 32 - 1 < v then .outOfRange
         else .count v) := by
  have key : ∀ d : Constant, wf d = true →
      (match toUint64 d with
       | none => Out.notConstant
       | some n => if (r.rejectZero && n == 0) = true then Out.zeroSize
                   else if (r.max32 && decide (2 ^ 32 - 1 < n)) = true then Out.outOfRange else Out.count n) =
      (match intValue d with
       | none => Out.notConstant
       | some v =>
         if v < 0 ∨ 2 ^ 64 - 1 < v then Out.notConstant
         else if r.rejectZero = true ∧ v = 0 then Out.zeroSize
         else if r.max32 = true ∧ 2 ^ 32 - 1 < v then Out.outOfRange
         else Out.count v) := by
    intro d hd
    rw [toUint64_spec d hd]
    cases hv : intValue d with
    | none => rfl
    | some v =>
      by_cases hr : 0 ≤ v ∧ v ≤ 2 ^ 64 - 1
      · have hn : ¬ (v < 0 ∨ 2 ^ 64 - 1 < v) := by omega
        simp only [hr, and_self, if_true, hn, if_false]
        cases r.rejectZero <;> cases r.max32 <;> simp
      · have hn : (v < 0 ∨ 2 ^ 64 - 1 < v) := by omega
        simp only [hr, if_false, hn, if_true]
  cases c with
  | enum i inner =>
    have hi := wf_enum_inner h
    by_cases hu : r.unwrapEnum = true
    · simp only [sizeSite, hu, if_true, countOf]
      exact key inner hi
    · have hu' : r.unwrapEnum = false := by simpa using hu
      simp only [sizeSite, hu', countOf]
      have : toUint64 (.enum i inner) = none := by simp [toUint64, lookup, toUint64Table, Constant.kind]
      simp [this]
  | _ => exact key _ h

/-- a count is accepted exactly when it is the value of the constant and fits the place -/
theorem sizeSite_count_iff (r : SizeRule) (c : Constant) (h : wf c = true) (n : Int) :
    sizeSite r (.ok c) = .count n ↔
      countOf r c = some n ∧ 0 ≤ n ∧ n ≤ 2 ^ 64 - 1 ∧ (r.rejectZero = true → n ≠ 0) ∧ (r.max32 = true → n ≤ 2 ^ 32 - 1) := by
  rw [sizeSite_ok r c h]
  cases countOf r c with
  | none => simp
  | some v =>
    dsimp only
    split
    · exact ⟨nofun, fun ⟨e, _⟩ => by cases e; omega⟩
    split
    · rename_i h2; exact ⟨nofun, fun ⟨e, _, _, hz, _⟩ => by cases e; exact absurd h2.2 (hz h2.1)⟩
    split
    · rename_i h3; exact ⟨nofun, fun ⟨e, _, _, _, hm⟩ => by cases e; have := hm h3.1; omega⟩
    · rename_i h1 h2 h3
      refine ⟨fun e => ?_, fun ⟨e, _⟩ => by cases e; rfl⟩
      cases e
      exact ⟨rfl, by omega, by omega, fun hz hn => h2 ⟨hz, hn⟩, fun hm => Int.not_lt.1 fun hlt => h3 ⟨hm, hlt⟩⟩

theorem sizeSite_reject (r : SizeRule) (c : Constant) (h : wf c = true) :
    (sizeSite r (.ok c) = .zeroSize → countOf r c = some 0) ∧
    (sizeSite r (.ok c) = .outOfRange → ∃ n, countOf r c = some n ∧ 2 ^ 32 - 1 < n) ∧
    (sizeSite r (.ok c) = .notConstant → countOf r c = none ∨ ∃ n, countOf r c = some n ∧ (n < 0 ∨ 2 ^ 64 - 1 < n)) := by
  rw [sizeSite_ok r c h]
  cases hv : countOf r c with
  | none => simp
  | some v =>
    dsimp only
    split
    · rename_i hn; exact ⟨nofun, nofun, fun _ => .inr ⟨v, rfl, hn⟩⟩
    split
    · rename_i hz; exact ⟨fun _ => by rw [hz.2], nofun, nofun⟩
    split
    · rename_i hm; exact ⟨nofun, fun _ => ⟨v, rfl, hm.2⟩, nofun⟩
    · exact ⟨nofun, nofun, nofun⟩

/-- the evaluator never makes a position panic when it does not panic itself, and a non-constant expression is
rejected by every position that needs a count -/
theorem sizeSite_error (r : SizeRule) : sizeSite r (.error .notConst) = .notConstant := rfl

theorem some_float32_iff {x b : Nat} : some x = some b ↔ some (Constant.float32 x) = some (.float32 b) := by simp

/-- **`Constant::to_f32`** on the 32-bit kinds *is* the HLSL conversion to `float`: defined exactly where the
conversion is (bool, untyped integer and float literals, `int` of either sign, `uint`, `half`, `float`, `double`),
with the same bit pattern -/
theorem toF32_spec (c : Constant) (h : wf c = true) (h64 : c.kind ≠ .Int64 ∧ c.kind ≠ .UInt64) (b : Nat) :
    toF32 c = some b ↔ S.castScalar .Float32 c = some (.float32 b) := by
  cases c with
  | intLit v =>
    -- the literal arm is guarded by `*v <= f32::MAX as i128`, which every 128-bit literal meets
    have hv : v ≤ 340282346638528859811704183484516925440 := Int.le_trans (inRange_iff.1 h).2 (by decide)
    show (if v ≤ 340282346638528859811704183484516925440 then some (F.ofInt F.f32 v) else none) = some b ↔ _
    rw [if_pos hv]
    exact some_float32_iff
  | int64 v => exact absurd rfl h64.1
  | uint64 v => exact absurd rfl h64.2
  | string => exact ⟨nofun, nofun⟩
  | enum i c => exact ⟨nofun, nofun⟩
  | _ => exact some_float32_iff

theorem toF32_complete (c : Constant) (h : wf c = true) (b : Nat) (hc : S.castScalar .Float32 c = some (.float32 b)) :
    toF32 c = some b := by
  have h64 : c.kind ≠ .Int64 ∧ c.kind ≠ .UInt64 := by
    cases c <;> cases hc <;> exact ⟨nofun, nofun⟩
  exact (toF32_spec c h h64 b).2 hc

theorem toF32_none (c : Constant) (h : wf c = true) (hn : toF32 c = none) : S.castScalar .Float32 c = none := by
  cases hc : S.castScalar .Float32 c with
  | none => rfl
  | some v =>
    have : ∃ b, v = .float32 b := by
      cases c <;> cases hc <;> exact ⟨_, rfl⟩
    obtain ⟨b, rfl⟩ := this
    rw [toF32_complete c h b hc] at hn
    cases hn

theorem caseSite_ok (c : Constant) : caseSite (.ok c) = .stored c := by simp [caseSite, caseLabelAsIs]

/-- a template value argument keeps kind and value of the evaluated constant; only `bool` and integer kinds are
accepted (floats, enums: "not a constant expression") -/
theorem templateSite_ok (c : Constant) :
    templateSite (.ok c) =
      (if c.kind = .Bool ∨ c.kind = .IntLiteral ∨ c.kind = .Int32 ∨ c.kind = .UInt32 ∨ c.kind = .Int64 ∨ c.kind = .UInt64
       then .stored c else .notConstant) := by
  cases c <;> rfl

end RsslVerif.Lemmas.ConstPos
