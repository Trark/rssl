import RsslVerif.Lemmas.FixpointNames
/-!
# Every scope table the descriptor machine builds is well formed

`run_inv`: for every instruction list, the table of `Model.FixpointNames.run` satisfies `TableWF` (scope 0 is the only
scope without a parent, parents have smaller indices), the current scope exists, and every namespace / enum-scope symbol
points to an existing scope.  So `TableWF` is not an assumption about the programs of the `C04.names` stream: it is what
`make_scope` / `push_scope` give.
-/
namespace RsslVerif.Lemmas.FixpointNames
open RsslVerif.Model.FixpointNames

theorem modifyAt_eq (T : Table) (i : Nat) (f : Scope → Scope) : modifyAt T i f = T.modify i f := by
  fun_induction modifyAt T i f <;> simp [*]

theorem modifyAt_length (T : Table) (i : Nat) (f : Scope → Scope) : (modifyAt T i f).length = T.length := by
  rw [modifyAt_eq, List.length_modify]

/-- the scopes of a table one of whose scopes was modified -/
theorem modifyAt_getElem? {T : Table} {i j : Nat} {f : Scope → Scope} {sc' : Scope} :
    (modifyAt T i f)[j]? = some sc' ↔ ∃ sc, T[j]? = some sc ∧ sc' = if j = i then f sc else sc := by
  rw [modifyAt_eq, List.getElem?_modify]
  cases T[j]? <;> simp [eq_comm]

/-- the scopes of a table with one more scope -/
theorem getElem?_snoc {T : Table} {sc s : Scope} {j : Nat} :
    (T ++ [sc])[j]? = some s ↔ T[j]? = some s ∨ (j = T.length ∧ s = sc) := by
  rcases Nat.lt_trichotomy j T.length with h | rfl | h
  · simp [List.getElem?_append_left h, Nat.ne_of_lt h]
  · simp [eq_comm]
  · have h' : (T ++ [sc]).length ≤ j := by simp; omega
    simp [List.getElem?_eq_none (Nat.le_of_lt h), List.getElem?_eq_none h', Nat.ne_of_gt h]

/-- every namespace / enum-scope symbol of the table points to an existing scope -/
def SymsValid (T : Table) : Prop :=
  ∀ (i : Nat) (sc : Scope) (n : String) (idx : Nat), T[i]? = some sc → Sym.scope idx ∈ sc.symsOf n → idx < T.length

/-- what the table operations of `exec` keep: the table is well formed and its scope symbols point into it -/
def Good (T : Table) : Prop := TableWF T ∧ SymsValid T

/-- one scope is changed; its parent stays and it gains no scope symbol that points outside the table -/
theorem Good.modifyAt {T : Table} (g : Good T) (i : Nat) (f : Scope → Scope) (hp : ∀ sc, (f sc).parent = sc.parent)
    (hs : ∀ sc n idx, Sym.scope idx ∈ (f sc).symsOf n → Sym.scope idx ∈ sc.symsOf n ∨ idx < T.length) :
    Good (modifyAt T i f) := by
  have par : ∀ (j : Nat) (sc : Scope), (if j = i then f sc else sc).parent = sc.parent := by
    intro j sc; split <;> simp [hp]
  refine ⟨⟨?_, ?_, ?_⟩, ?_⟩
  · obtain ⟨sc, h0, hp0⟩ := g.1.root
    exact ⟨_, modifyAt_getElem?.2 ⟨sc, h0, rfl⟩, (par 0 sc).trans hp0⟩
  · intro j sc' p h hq
    obtain ⟨sc, hj, rfl⟩ := modifyAt_getElem?.1 h
    exact g.1.parent_lt j sc p hj ((par j sc).symm.trans hq)
  · intro j sc' h hj0
    obtain ⟨sc, hj, rfl⟩ := modifyAt_getElem?.1 h
    rw [par]
    exact g.1.nonroot j sc hj hj0
  · intro j sc' n idx h hm
    rw [modifyAt_length]
    obtain ⟨sc, hj, rfl⟩ := modifyAt_getElem?.1 h
    split at hm
    · exact (hs sc n idx hm).elim (g.2 j sc n idx hj) id
    · exact g.2 j sc n idx hj hm

theorem assoc_pushSym (n : String) (s : Sym) (l : List (String × List Sym)) (m : String) :
    assoc m (pushSym n s l) = if m = n then some ((assoc n l).getD [] ++ [s]) else assoc m l := by
  fun_induction pushSym n s l
  case case1 => simp [assoc, eq_comm]
  case case2 v r => by_cases h : n = m <;> simp [assoc, h, eq_comm]
  case case3 k v r hk ih =>
    by_cases h : k = m
    · subst h; simp [assoc, hk]
    · simp [assoc, h, hk, ih]

theorem addSym_length (T : Table) (i : Nat) (n : String) (s : Sym) : (addSym T i n s).length = T.length :=
  modifyAt_length _ _ _

theorem Good.addSym {T : Table} (g : Good T) (i : Nat) (n : String) (s : Sym)
    (hs : ∀ idx, s = .scope idx → idx < T.length) : Good (addSym T i n s) := by
  refine g.modifyAt i _ (fun _ => rfl) fun sc m idx hm => ?_
  simp only [Scope.symsOf, assoc_pushSym] at hm
  split at hm
  · rename_i hmn
    subst hmn
    simp only [Option.getD_some, List.mem_append, List.mem_singleton] at hm
    exact hm.imp_right fun h => hs idx h.symm
  · exact .inl hm

/-- a new scope without symbols under an existing one -/
theorem Good.push {T : Table} (g : Good T) (sc : Scope) {p : Nat} (hp : sc.parent = some p) (hlt : p < T.length)
    (hsc : sc.syms = []) : Good (T ++ [sc]) := by
  refine ⟨⟨?_, ?_, ?_⟩, ?_⟩
  · obtain ⟨s0, h0, hp0⟩ := g.1.root
    exact ⟨s0, getElem?_snoc.2 (.inl h0), hp0⟩
  · intro j s q h hq
    rcases getElem?_snoc.1 h with hs | ⟨rfl, rfl⟩
    · exact g.1.parent_lt j s q hs hq
    · rw [hp] at hq; cases hq; exact hlt
  · intro j s h hj
    rcases getElem?_snoc.1 h with hs | ⟨_, rfl⟩
    · exact g.1.nonroot j s hs hj
    · exact ⟨p, hp⟩
  · intro j s n idx h hm
    rw [List.length_append]
    rcases getElem?_snoc.1 h with hs | ⟨_, rfl⟩
    · exact Nat.lt_add_right _ (g.2 j s n idx hs hm)
    · simp [Scope.symsOf, hsc, assoc] at hm

structure Inv (st : St) : Prop where
  good : Good st.T
  cur : st.cur < st.T.length

theorem firstScope_mem {l : List Sym} {i : Nat} (h : firstScope l = some i) : Sym.scope i ∈ l := by
  fun_induction firstScope l <;> simp_all

theorem parentOf_lt {T : Table} (wf : TableWF T) {i : Nat} (hi : i < T.length) : parentOf T i < T.length := by
  obtain ⟨sc, hs⟩ := valid_of_lt hi
  unfold parentOf
  rw [hs]
  cases hp : sc.parent with
  | none => simp [hp]; omega
  | some p =>
    simp [hp]
    have := wf.parent_lt i sc p hs hp
    omega

theorem registerVals_good {T : Table} (g : Good T) (parent es : Nat) (vals : List String) (id : Nat) :
    Good (registerVals T parent es vals id) ∧ (registerVals T parent es vals id).length = T.length := by
  induction vals generalizing T id with
  | nil => exact ⟨g, rfl⟩
  | cons v r ih =>
    obtain ⟨a, c⟩ := ih ((g.addSym es v (.val id) nofun).addSym parent v (.val id) nofun) (id + 1)
    exact ⟨a, by rw [registerVals, c, addSym_length, addSym_length]⟩

theorem exec_inv (st : St) (i : Instr) (h : Inv st) : Inv (exec st i) := by
  obtain ⟨g, hc⟩ := h
  -- a scope pushed under the current one
  have push : ∀ sc : Scope, sc.parent = some st.cur → sc.syms = [] → Good (st.T ++ [sc]) := fun sc hp hs => g.push sc hp hc hs
  cases i with
  | ns n =>
    simp only [exec]
    split
    · rename_i idx hfs
      obtain ⟨sc, hs⟩ := valid_of_lt hc
      exact ⟨g, g.2 _ sc n idx hs (firstScope_mem (by simpa [hs] using hfs))⟩
    · exact ⟨(push _ rfl rfl).addSym _ _ _ (by rintro _ ⟨⟩; simp), by simp [addSym_length]⟩
  | «end» =>
    simp only [exec]
    split
    · exact ⟨g, hc⟩
    · exact ⟨g, parentOf_lt g.1 (parentOf_lt g.1 hc)⟩
    · exact ⟨g, parentOf_lt g.1 hc⟩
  | gv n => exact ⟨g.addSym _ _ _ nofun, by simpa [exec, addSym_length] using hc⟩
  | fn n p => exact ⟨(push _ rfl rfl).addSym _ _ _ nofun, by simp [exec, addSym_length]⟩
  | st n =>
    simp only [exec]
    rw [show ∀ a b : Scope, st.T ++ [a, b] = (st.T ++ [a]) ++ [b] by simp]
    exact ⟨(((push _ rfl rfl).push _ rfl (by simp) rfl).addSym _ _ _ nofun), by simp [addSym_length]⟩
  | en n vals =>
    simp only [exec]
    obtain ⟨a, c⟩ := registerVals_good
      (((push { parent := some st.cur } rfl rfl).addSym st.cur n (.scope st.T.length) (by rintro _ ⟨⟩; simp)).addSym st.cur n (.ty st.nextId) nofun)
      st.cur st.T.length vals (st.nextId + 1)
    split
    · exact ⟨g, hc⟩
    · exact ⟨a, by rw [c]; simp [addSym_length]; omega⟩
  | td n p =>
    simp only [exec]
    split
    · exact ⟨g.addSym _ _ _ nofun, by simpa [addSym_length] using hc⟩
    · exact ⟨g, hc⟩
  | lv n =>
    simp only [exec]
    split
    · exact ⟨g, hc⟩
    · split
      · exact ⟨g, hc⟩
      · exact ⟨g.modifyAt _ _ (fun _ => rfl) fun _ _ _ => .inl, by simpa [modifyAt_length] using hc⟩
  | bl => exact ⟨push _ rfl rfl, by simp [exec]⟩
  | use k p => exact ⟨g, hc⟩

theorem init_inv : Inv ({} : St) := by
  refine ⟨⟨⟨⟨_, rfl, rfl⟩, ?_, ?_⟩, ?_⟩, by decide⟩
  · intro i sc p h hp
    cases i with
    | zero => simp at h; subst h; simp at hp
    | succ i => simp at h
  · intro i sc h hi
    cases i with
    | zero => exact absurd rfl hi
    | succ i => simp at h
  · intro i sc n idx h hm
    cases i with
    | zero => simp at h; subst h; simp [Scope.symsOf, assoc] at hm
    | succ i => simp at h

/-- what every instruction keeps holds after any instruction list -/
theorem foldl_exec_keeps {P : St → Prop} (hP : ∀ st i, P st → P (exec st i)) (is : List Instr) :
    ∀ st, P st → P (is.foldl exec st) := by
  induction is with
  | nil => exact fun _ h => h
  | cons i r ih => exact fun st h => ih _ (hP st i h)

/-- **every table the descriptor machine builds is well formed**, and its current scope exists -/
theorem run_inv (is : List Instr) : Inv (run is) := foldl_exec_keeps exec_inv is _ init_inv

end RsslVerif.Lemmas.FixpointNames
