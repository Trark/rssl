import RsslVerif.Spec.HlslConst
/-!
The model's integer arithmetic (mathematical integers with explicit reduction) against `BitVec` two's complement
arithmetic.
-/
namespace RsslVerif.Lemmas.ConstEval
open RsslVerif.Gen.EvalTable RsslVerif.Model.ConstEval
open RsslVerif.Spec.HlslConst (bv sInt uInt fitsLit)

theorem wrap_signed (w : Nat) (z : Int) : (IntTy.mk true w).wrap z = (BitVec.ofInt w z).toInt := by
  simp [IntTy.wrap, BitVec.toInt_ofInt]

theorem toBits_eq (s : Bool) (w : Nat) (x : Int) : (IntTy.mk s w).toBits x = (BitVec.ofInt w x).toNat := by
  simp [IntTy.toBits, BitVec.toNat_ofInt]

theorem ofInt_natCast_toNat {w : Nat} (b : BitVec w) : BitVec.ofInt w ((b.toNat : Nat) : Int) = b := by
  rw [BitVec.ofInt_natCast]; simp

theorem bitOp_signed (w : Nat) (f : Nat → Nat → Nat) (g : BitVec w → BitVec w → BitVec w)
    (hfg : ∀ a b : BitVec w, f a.toNat b.toNat = (g a b).toNat) (x y : Int) :
    bitOp ⟨true, w⟩ f x y = (g (BitVec.ofInt w x) (BitVec.ofInt w y)).toInt := by
  rw [bitOp, wrap_signed, toBits_eq, toBits_eq, hfg, ofInt_natCast_toNat]

theorem toInt_ofInt_of_inRange {w : Nat} (hw : 0 < w) {x : Int} (h : (IntTy.mk true w).inRange x = true) :
    (BitVec.ofInt w x).toInt = x := by
  simp [IntTy.inRange, IntTy.lo, IntTy.hi] at h
  rw [BitVec.toInt_ofInt]
  have : (2:Int) ^ w = 2 * 2 ^ (w - 1) := by
    have : w = (w - 1) + 1 := by omega
    conv => lhs; rw [this, Int.pow_succ]
    omega
  apply Int.bmod_eq_of_le
  · simp; omega
  · simp; omega

theorem inRange_toInt {w : Nat} (b : BitVec w) : (IntTy.mk true w).inRange b.toInt = true := by
  simp [IntTy.inRange, IntTy.lo, IntTy.hi]
  have h1 := BitVec.le_toInt b
  have h2 := @BitVec.toInt_lt w b
  constructor
  · simpa using h1
  · have : (2:Int)^(w-1) = ((2^(w-1) : Nat) : Int) := by simp
    omega

theorem land_toNat {w : Nat} (a b : BitVec w) : Nat.land a.toNat b.toNat = (a &&& b).toNat := by
  simp [BitVec.toNat_and]
theorem lor_toNat {w : Nat} (a b : BitVec w) : Nat.lor a.toNat b.toNat = (a ||| b).toNat := by
  simp [BitVec.toNat_or]
theorem xor_toNat {w : Nat} (a b : BitVec w) : Nat.xor a.toNat b.toNat = (a ^^^ b).toNat := by
  simp [BitVec.toNat_xor]

theorem lo_nonpos (t : IntTy) : t.lo ≤ 0 := by
  have : 0 < 2 ^ (t.bits - 1) := Nat.pow_pos (by decide)
  unfold IntTy.lo; split <;> omega

theorem hi_nonneg (t : IntTy) : 0 ≤ t.hi := by
  have : 0 < 2 ^ (t.bits - 1) := Nat.pow_pos (by decide)
  have : 0 < 2 ^ t.bits := Nat.pow_pos (by decide)
  unfold IntTy.hi; split <;> omega

theorem wrap_i32 (z : Int) : i32.wrap z = (bv z).toInt := wrap_signed 32 z

theorem wrap_u32 (z : Int) : u32.wrap z = ((bv z).toNat : Int) := by
  simp [IntTy.wrap, u32, bv, BitVec.toNat_ofInt]
  omega

theorem bv_add (x y : Int) : bv (x + y) = bv x + bv y := by simp [bv, BitVec.ofInt_add]
theorem bv_mul (x y : Int) : bv (x * y) = bv x * bv y := by simp [bv, BitVec.ofInt_mul]
theorem bv_neg (x : Int) : bv (-x) = - bv x := by simp [bv, BitVec.ofInt_neg]
theorem bv_sub (x y : Int) : bv (x - y) = bv x - bv y := by
  rw [Int.sub_eq_add_neg, bv_add, bv_neg, BitVec.sub_eq_add_neg]
theorem bv_one : bv 1 = 1#32 := by decide
theorem bv_zero : bv 0 = 0#32 := by decide
theorem bv_not (x : Int) : bv (-x - 1) = ~~~ (bv x) := by
  rw [bv_sub, bv_neg, bv_one, ← BitVec.not_eq_neg_add]

theorem toInt_bv {x : Int} (h : i32.inRange x = true) : (bv x).toInt = x :=
  toInt_ofInt_of_inRange (by decide) h

theorem toNat_bv {x : Int} (h : u32.inRange x = true) : ((bv x).toNat : Int) = x := by
  simp [IntTy.inRange, IntTy.lo, IntTy.hi, u32] at h
  simp [bv, BitVec.toNat_ofInt]
  omega

theorem inRange_sInt (b : BitVec 32) : i32.inRange b.toInt = true := inRange_toInt b

theorem inRange_uInt (b : BitVec 32) : u32.inRange (b.toNat : Int) = true := by
  simp [IntTy.inRange, IntTy.lo, IntTy.hi, u32]
  have := b.isLt
  omega

theorem bv_natCast_toNat (b : BitVec 32) : bv ((b.toNat : Nat) : Int) = b := ofInt_natCast_toNat b

theorem sdiv_i32 {x y : Int} (hx : i32.inRange x = true) (hy : i32.inRange y = true) :
    bv (x.tdiv y) = (bv x).sdiv (bv y) := by
  apply BitVec.toInt_inj.mp
  rw [← wrap_i32, BitVec.toInt_sdiv, toInt_bv hx, toInt_bv hy]
  simp [IntTy.wrap, i32]

theorem srem_i32 {x y : Int} (hx : i32.inRange x = true) (hy : i32.inRange y = true) :
    Constant.int32 (x.tmod y) = sInt ((bv x).srem (bv y)) := by
  rw [sInt, BitVec.toInt_srem, toInt_bv hx, toInt_bv hy]

theorem bv_eq_zero_i32 {y : Int} (hy : i32.inRange y = true) : bv y = 0#32 ↔ y = 0 := by
  constructor
  · intro h
    have := toInt_bv hy
    rw [h] at this
    simpa using this.symm
  · intro h; subst h; decide

theorem bv_eq_zero_u32 {y : Int} (hy : u32.inRange y = true) : bv y = 0#32 ↔ y = 0 := by
  constructor
  · intro h
    have := toNat_bv hy
    rw [h] at this
    simpa using this.symm
  · intro h; subst h; decide

theorem shamt (y : Int) : (y % ((32 : Nat) : Int)).toNat = (bv y).toNat % 32 := by
  simp [bv, BitVec.toNat_ofInt]
  omega

theorem bv_pow (n : Nat) : bv ((2 ^ n : Nat) : Int) = BitVec.twoPow 32 n := by
  apply BitVec.eq_of_toNat_eq
  rw [bv, BitVec.ofInt_natCast]
  simp [BitVec.toNat_twoPow]

theorem shl_i32 (x : Int) (n : Nat) : i32.wrap (x * (2 ^ n : Nat)) = (bv x <<< n).toInt := by
  rw [wrap_i32, bv_mul, bv_pow, BitVec.shiftLeft_eq_mul_twoPow]

theorem shl_u32 (x : Int) (n : Nat) : u32.wrap (x * (2 ^ n : Nat)) = ((bv x <<< n).toNat : Int) := by
  rw [wrap_u32, bv_mul, bv_pow, BitVec.shiftLeft_eq_mul_twoPow]

theorem shr_i32 {x : Int} (hx : i32.inRange x = true) (n : Nat) :
    Constant.int32 (x / 2 ^ n) = sInt ((bv x).sshiftRight n) := by
  rw [sInt, BitVec.toInt_sshiftRight, toInt_bv hx, Int.shiftRight_eq_div_pow]
  simp

theorem shr_u32 {x : Int} (hx : u32.inRange x = true) (n : Nat) :
    Constant.uint32 (x / 2 ^ n) = uInt (bv x >>> n) := by
  rw [uInt, BitVec.toNat_ushiftRight, Nat.shiftRight_eq_div_pow]
  have h1 := (toNat_bv hx).symm
  generalize bv x = bx at h1 ⊢
  rw [h1]; simp

theorem udiv_u32 {x y : Int} (hx : u32.inRange x = true) (hy : u32.inRange y = true) :
    Constant.uint32 (x.tdiv y) = uInt (bv x / bv y) := by
  rw [uInt, BitVec.toNat_udiv]
  have h1 := (toNat_bv hx).symm
  have h2 := (toNat_bv hy).symm
  generalize bv x = bx at h1 ⊢
  generalize bv y = by' at h2 ⊢
  rw [h1, h2, Int.tdiv_eq_ediv_of_nonneg (by omega)]; simp

theorem umod_u32 {x y : Int} (hx : u32.inRange x = true) (hy : u32.inRange y = true) :
    Constant.uint32 (x.tmod y) = uInt (bv x % bv y) := by
  rw [uInt, BitVec.toNat_umod]
  have h1 := (toNat_bv hx).symm
  have h2 := (toNat_bv hy).symm
  generalize bv x = bx at h1 ⊢
  generalize bv y = by' at h2 ⊢
  rw [h1, h2, Int.tmod_eq_emod_of_nonneg (by omega)]; simp

theorem fitsLit_iff (z : Int) : fitsLit z = i128.inRange z := by
  simp only [fitsLit, IntTy.inRange, IntTy.lo, IntTy.hi, i128]
  congr 1
  apply decide_eq_decide.mpr
  constructor <;> intro h <;> simp at * <;> omega

theorem saturate_range {lo hi : Int} (h : lo ≤ hi) (v : Int) :
    lo ≤ (if v < lo then lo else if hi < v then hi else v) ∧ (if v < lo then lo else if hi < v then hi else v) ≤ hi := by
  split
  · omega
  · split <;> omega

-- stated here, not with the other `toIntSat` facts of `Lemmas/ConstEvalFloatRound`, because the cast lemmas use it and
-- do not import that file
theorem _root_.RsslVerif.Lemmas.ConstEvalFloat.toIntSat_range (lo hi : Int) (h0 : lo ≤ 0) (h1 : 0 ≤ hi)
    (v : RsslVerif.Model.ConstEvalFloat.FVal) :
    lo ≤ RsslVerif.Model.ConstEvalFloat.toIntSat lo hi v ∧ RsslVerif.Model.ConstEvalFloat.toIntSat lo hi v ≤ hi := by
  cases v with
  | nan n p => exact ⟨h0, h1⟩
  | inf n =>
    cases n
    · exact ⟨Int.le_trans h0 h1, Int.le_refl _⟩
    · exact ⟨Int.le_refl _, Int.le_trans h0 h1⟩
  | fin n m e => exact saturate_range (by omega) _

theorem toIntSat_inRange (t : IntTy) (v : RsslVerif.Model.ConstEvalFloat.FVal) :
    t.inRange (RsslVerif.Model.ConstEvalFloat.toIntSat t.lo t.hi v) = true := by
  have := RsslVerif.Lemmas.ConstEvalFloat.toIntSat_range t.lo t.hi (lo_nonpos t) (hi_nonneg t) v
  simp [IntTy.inRange, this]

end RsslVerif.Lemmas.ConstEval
