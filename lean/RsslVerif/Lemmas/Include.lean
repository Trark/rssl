import RsslVerif.Model.Include
/-!
Lemmas about the directive loop: it is a fold (so it splits at every line), more include fuel never changes a result,
the `#pragma once` set only grows.
-/
namespace RsslVerif.Lemmas.Include
open RsslVerif.Model.Macro RsslVerif.Model.Include

abbrev Inc := String → State → Except Err State

theorem foldLines_append (inc : Inc) (cur : String) (s : State × List PTok) (a b : List Line) :
    foldLines inc cur s (a ++ b) =
      match foldLines inc cur s a with
      | .error e => .error e
      | .ok s' => foldLines inc cur s' b := by
  induction a generalizing s with
  | nil => rfl
  | cons l ls ih =>
    simp only [List.cons_append, foldLines]
    cases stepLine inc cur s l with
    | error e => rfl
    | ok s' => exact ih s'

/-- `inc'` succeeds wherever `inc` does, with the same result -/
def Extends (inc inc' : Inc) : Prop := ∀ n st r, inc n st = .ok r → inc' n st = .ok r

theorem stepLine_mono {inc inc' : Inc} (h : Extends inc inc') (cur : String) (s : State × List PTok)
    (l : Line) (r : State × List PTok) (hr : stepLine inc cur s l = .ok r) :
    stepLine inc' cur s l = .ok r := by
  revert hr
  fun_cases stepLine inc cur s l <;> intro hr <;> cases hr
  -- the `#include` line is the one that calls `inc`
  case case14 hf _ hn => simp only [stepLine, hf, h _ _ _ hn]
  all_goals simp only [stepLine, *]

theorem foldLines_mono {inc inc' : Inc} (h : Extends inc inc') (cur : String) (s : State × List PTok)
    (ls : List Line) (r : State × List PTok) (hr : foldLines inc cur s ls = .ok r) :
    foldLines inc' cur s ls = .ok r := by
  revert hr
  fun_induction foldLines inc cur s ls <;> intro hr
  · exact hr
  · cases hr
  next s l _ s' hs ih =>
    rw [foldLines, stepLine_mono h cur s l s' hs]
    exact ih hr

theorem runFile_mono {inc inc' : Inc} (h : Extends inc inc') (cur : String) (st : State)
    (ls : List Line) (r : State) (hr : runFile inc cur st ls = .ok r) :
    runFile inc' cur st ls = .ok r := by
  revert hr
  fun_cases runFile inc cur st ls <;> intro hr
  · cases hr
  next hf => rw [runFile, foldLines_mono h cur _ ls _ hf]; exact hr

theorem includeFile_fuel_mono (h : Handler) (fuel : Nat) :
    Extends (includeFile h fuel) (includeFile h (fuel + 1)) := by
  induction fuel with
  | zero => intro n st r hr; cases hr
  | succ k ih =>
    intro n st r
    -- the case principle wants a variable for the fuel; `cases hg` turns it back into `k + 1`
    generalize hg : k + 1 = g
    fun_cases includeFile h g n st <;> cases hg <;> intro hr
    · cases hr
    -- the file is served empty (marked `#pragma once`) or with its lines
    all_goals
      rename_i hn ho
      simp only [includeFile, hn, ho, ↓reduceIte]
      exact runFile_mono ih _ st _ r hr

theorem includeFile_fuel_le (h : Handler) {f g : Nat} (hle : f ≤ g) :
    Extends (includeFile h f) (includeFile h g) := by
  induction hle with
  | refl => intro _ _ _ hr; exact hr
  | step _ ih => intro n st r hr; exact includeFile_fuel_mono h _ n st r (ih n st r hr)

theorem applyMacros_eol (ms : List Macro) : applyMacros ms [eol] = .ok [eol] := by
  unfold applyMacros
  rw [applyLoop]
  simp [findSingle, scanFrom, eol, SearchPos.start]

/-- the id of the current file matters only to a top-level `#pragma once` -/
theorem foldLines_cur_irrelevant (inc : Inc) (cur cur' : String) (s : State × List PTok) (ls : List Line)
    (hno : Line.pragmaOnce ∉ ls) : foldLines inc cur s ls = foldLines inc cur' s ls := by
  induction ls generalizing s with
  | nil => rfl
  | cons l ls ih =>
    have hl : l ≠ .pragmaOnce := fun h => hno (by simp [h])
    have hls : Line.pragmaOnce ∉ ls := fun h => hno (by simp [h])
    have hstep : stepLine inc cur s l = stepLine inc cur' s l := by
      obtain ⟨st, active⟩ := s
      cases l <;> first | rfl | exact absurd rfl hl
    simp only [foldLines, hstep]
    cases stepLine inc cur' s l with
    | error e => rfl
    | ok s' => exact ih s' hls

def OnceGrows (inc : Inc) : Prop := ∀ n st r, inc n st = .ok r → ∀ x ∈ st.once, x ∈ r.once

theorem flush_once {st st' : State} {a : List PTok} (h : flush st a = .ok st') : st'.once = st.once := by
  revert h
  fun_cases flush st a <;> intro h <;> cases h
  rfl

theorem flush_macros {st st' : State} {a : List PTok} (h : flush st a = .ok st') :
    st'.macros = st.macros := by
  revert h
  fun_cases flush st a <;> intro h <;> cases h
  rfl

section Preserved

/-- a relation between an earlier and a later state that every operation of the directive loop respects -/
structure Preserved (R : State → State → Prop) : Prop where
  refl : ∀ st, R st st
  trans : ∀ a b c, R a b → R b c → R a c
  flush : ∀ st a st', flush st a = .ok st' → R st st'
  define : ∀ (st : State) cmd ms, doDefine st.macros cmd = .ok ms → R st { st with macros := ms }
  undef : ∀ (st : State) cmd ms, doUndef st.macros cmd = .ok ms → R st { st with macros := ms }
  once : ∀ (st : State) cur, R st { st with once := cur :: st.once }

def Respects (R : State → State → Prop) (inc : Inc) : Prop := ∀ n st r, inc n st = .ok r → R st r

variable {R : State → State → Prop} (hR : Preserved R) {inc : Inc} (hi : Respects R inc)
include hR hi

theorem stepLine_preserved (cur : String) (s r : State × List PTok) (l : Line)
    (h : stepLine inc cur s l = .ok r) : R s.1 r.1 := by
  revert h
  fun_cases stepLine inc cur s l <;> intro h <;> cases h
  -- the lines that can succeed, as `stepLine` lists them: text, define, undef, pragma warning, pragma once, include, null
  · exact hR.refl _
  next hf _ hd => exact hR.trans _ _ _ (hR.flush _ _ _ hf) (hR.define _ _ _ hd)
  next hf _ hd => exact hR.trans _ _ _ (hR.flush _ _ _ hf) (hR.undef _ _ _ hd)
  next hf => exact hR.flush _ _ _ hf
  next hf => exact hR.trans _ _ _ (hR.flush _ _ _ hf) (hR.once _ _)
  next hf _ hn => exact hR.trans _ _ _ (hR.flush _ _ _ hf) (hi _ _ _ hn)
  next hf => exact hR.flush _ _ _ hf

theorem foldLines_preserved (cur : String) (s r : State × List PTok) (ls : List Line)
    (h : foldLines inc cur s ls = .ok r) : R s.1 r.1 := by
  revert h
  fun_induction foldLines inc cur s ls <;> intro h
  · cases h; exact hR.refl _
  · cases h
  next s l _ s' hs ih => exact hR.trans _ _ _ (stepLine_preserved hR hi cur s s' l hs) (ih h)

theorem runFile_preserved (cur : String) (st r : State) (ls : List Line)
    (h : runFile inc cur st ls = .ok r) : R st r := by
  revert h
  fun_cases runFile inc cur st ls <;> intro h
  · cases h
  next hf => exact hR.trans _ _ _ (foldLines_preserved hR hi cur _ _ ls hf) (hR.flush _ _ _ h)

omit hi in
theorem includeFile_respects (h : Handler) (fuel : Nat) : Respects R (includeFile h fuel) := by
  induction fuel with
  | zero => intro n st r hr; cases hr
  | succ k ih =>
    intro n st r
    generalize hg : k + 1 = g
    fun_cases includeFile h g n st <;> cases hg <;> intro hr
    · cases hr
    all_goals exact runFile_preserved hR ih _ st r _ hr

end Preserved

theorem preserved_once : Preserved (fun a b : State => ∀ x ∈ a.once, x ∈ b.once) where
  refl := fun _ _ hx => hx
  trans := fun _ _ _ h1 h2 x hx => h2 x (h1 x hx)
  flush := fun _ _ _ hf x hx => by rw [flush_once hf]; exact hx
  define := fun _ _ _ _ _ hx => hx
  undef := fun _ _ _ _ _ hx => hx
  once := fun _ _ _ hx => List.mem_cons_of_mem _ hx

/-- a top-level `#pragma once` line puts the current file into the set -/
theorem foldLines_marks {inc : Inc} (hi : OnceGrows inc) (cur : String) (s r : State × List PTok)
    (ls : List Line) (hmem : Line.pragmaOnce ∈ ls) (h : foldLines inc cur s ls = .ok r) :
    cur ∈ r.1.once := by
  revert h
  fun_induction foldLines inc cur s ls <;> intro h
  · cases hmem
  · cases h
  next s l ls s' hs ih =>
    rcases List.mem_cons.mp hmem with rfl | hm
    · -- this line marks; the rest keeps it
      have : cur ∈ s'.1.once := by
        obtain ⟨st, active⟩ := s
        simp only [stepLine] at hs
        cases hf : flush st active with
        | error e => simp [hf] at hs
        | ok st1 => simp only [hf] at hs; cases hs; simp
      exact foldLines_preserved preserved_once hi cur s' r ls h cur this
    · exact ih hm h

end RsslVerif.Lemmas.Include
