import RsslVerif.Lemmas.LexNumeral
/-!
# Maximal munch for decimal integer numerals

`decimalInt_one_token`: a decimal integer numeral of the C grammar (`0`, or a non-zero digit followed by digits) with any of
the 13 spellings of the suffix (none, `u U l L`, `ul uL Ul UL`, `lu lU Lu LU`), followed by a text that does not continue it
(`IntBoundary`: the end, or a byte that is neither an identifier character nor `.`), is ONE token: the integer literal of
the kind the suffix names with the positional value of the digits — provided that value fits the kind (otherwise
`int_overflow_rejected` applies).  `literalInt_decimal` is the part about `literal_int` alone, for any text behind the digits
that begins with neither a digit nor `x`; the printed integer literals of `Lemmas/LiteralText` are read back through it.
-/
namespace RsslVerif.Model.Lexer
open RsslVerif.Gen.LexTables RsslVerif.Spec

/-- the integer suffix as written (`true` = upper case) -/
inductive IntSuffixSpelling where
  | absent
  | u (upper : Bool)
  | l (upper : Bool)
  | ul (uUpper lUpper : Bool)
  | lu (lUpper uUpper : Bool)
  deriving DecidableEq, Repr

def uByte (upper : Bool) : UInt8 := if upper then 85 else 117
def lByte (upper : Bool) : UInt8 := if upper then 76 else 108

def IntSuffixSpelling.bytes : IntSuffixSpelling → Bytes
  | .absent => []
  | .u a => [uByte a]
  | .l a => [lByte a]
  | .ul a b => [uByte a, lByte b]
  | .lu a b => [lByte a, uByte b]

def IntSuffixSpelling.ty : IntSuffixSpelling → Option IntType
  | .absent => none
  | .u _ => some .Unsigned32
  | .l _ => some .Signed64
  | .ul _ _ => some .Unsigned64
  | .lu _ _ => some .Unsigned64

theorem octDigit_none {b : UInt8} (h : decDigit? b = none) : octDigit? b = none := by
  unfold decDigit? at h
  unfold octDigit?
  split at h
  · cases h
  · rename_i hn
    exact if_neg fun ho => hn ⟨ho.1, by omega⟩

/-- `literal_int` on a decimal numeral without a leading zero, followed by a text `S` that begins with neither a digit
nor `x`: the digits' value with the suffix read from `S`, if the value fits -/
theorem literalInt_decimal (d : Nat) (ds : List Nat) (hlt : ∀ x ∈ d :: ds, x < 10) (hlead : d ≠ 0 ∨ ds = []) (S : Bytes)
    (hS : ∀ b r, S = b :: r → decDigit? b = none ∧ b ≠ 120) (hn : Dec2Bin.ofDigits 10 (d :: ds) < 2 ^ 64)
    {rest : Bytes} {k : Option IntType} {tok : Token} (hk : opt (intType S) S = (rest, k))
    (hfit : mkIntToken? (Dec2Bin.ofDigits 10 (d :: ds)) k = some tok) :
    literalInt ((d :: ds).map digitByte ++ S) = .ok (rest, tok) := by
  have hrun := digitRun_digits (d :: ds) hlt S fun b r h => (hS b r h).1
  have hfin := RsslVerif.Thm.C10.literalIntWith_closed .dec (digitByte d) (ds.map digitByte ++ S) d
    (decDigit_digitByte d (hlt d (by simp)))
  rw [show digitByte d :: (ds.map digitByte ++ S) = (d :: ds).map digitByte ++ S from rfl, hrun.1, hrun.2, if_pos hn, hk,
    hfit] at hfin
  refine Eq.trans ?_ hfin
  -- `literal_int` takes the decimal path
  unfold literalInt
  by_cases h0 : d = 0
  · -- the text is `0`; the next byte is not `x` and no octal digit
    cases hlead.resolve_left fun h => h h0
    subst h0
    cases hS' : S with
    | nil => rfl
    | cons b r =>
      obtain ⟨hdec, hx⟩ := hS b r hS'
      simp [stripPrefix?, show digitByte 0 = 48 from rfl, Ne.symm hx, digitWith, octDigit_none hdec, wrongChars]
  · have hne : ¬ (48 : UInt8) = digitByte d := by
      intro h
      have h1 := digitByte_toNat d (hlt d (by simp))
      rw [← h] at h1
      simp at h1
      omega
    simp [stripPrefix?, hne]

theorem intBoundary_head {rest : Bytes} (h : IntBoundary rest) : ∀ b r, rest = b :: r →
    decDigit? b = none ∧ b.toNat ≠ 46 ∧ b.toNat ≠ 101 ∧ b.toNat ≠ 69 ∧ b.toNat ≠ 120 ∧
    b.toNat ≠ 117 ∧ b.toNat ≠ 85 ∧ b.toNat ≠ 108 ∧ b.toNat ≠ 76 := by
  intro b r hb
  have hi := h b r hb
  have hid := hi.1
  have hdig : decDigit? b = none := by
    cases hd : decDigit? b with
    | none => rfl
    | some d => rw [identChar_of_digit hd] at hid; cases hid
  refine ⟨hdig, hi.2, ?_, ?_, ?_, ?_, ?_, ?_, ?_⟩
  · intro hx; simp [isIdentChar, isIdentStart, hx] at hid
  · intro hx; simp [isIdentChar, isIdentStart, hx] at hid
  · intro hx; simp [isIdentChar, isIdentStart, hx] at hid
  · intro hx; simp [isIdentChar, isIdentStart, hx] at hid
  · intro hx; simp [isIdentChar, isIdentStart, hx] at hid
  · intro hx; simp [isIdentChar, isIdentStart, hx] at hid
  · intro hx; simp [isIdentChar, isIdentStart, hx] at hid

theorem spelledSuffix_head (sfx : IntSuffixSpelling) (rest : Bytes) (h : IntBoundary rest) :
    ∀ b r, sfx.bytes ++ rest = b :: r →
      decDigit? b = none ∧ b.toNat ≠ 46 ∧ b.toNat ≠ 101 ∧ b.toNat ≠ 69 ∧ b.toNat ≠ 120 := by
  intro b r hb
  cases sfx with
  | absent =>
    simp [IntSuffixSpelling.bytes] at hb
    have := intBoundary_head h b r hb
    exact ⟨this.1, this.2.1, this.2.2.1, this.2.2.2.1, this.2.2.2.2.1⟩
  | u a => simp [IntSuffixSpelling.bytes] at hb; rw [← hb.1]; cases a <;> decide
  | l a => simp [IntSuffixSpelling.bytes] at hb; rw [← hb.1]; cases a <;> decide
  | ul a c => simp [IntSuffixSpelling.bytes] at hb; rw [← hb.1]; cases a <;> decide
  | lu a c => simp [IntSuffixSpelling.bytes] at hb; rw [← hb.1]; cases a <;> decide

theorem intType_spelled (sfx : IntSuffixSpelling) (rest : Bytes) (h : IntBoundary rest) :
    opt (intType (sfx.bytes ++ rest)) (sfx.bytes ++ rest) = (rest, sfx.ty) := by
  have key := intBoundary_head h
  cases rest with
  | nil =>
    cases sfx with
    | absent => rfl
    | u a => cases a <;> rfl
    | l a => cases a <;> rfl
    | ul a c => cases a <;> cases c <;> rfl
    | lu a c => cases a <;> cases c <;> rfl
  | cons b r =>
    obtain ⟨-, -, -, -, -, h1, h2, h3, h4⟩ := key b r rfl
    cases sfx with
    | absent => simp [IntSuffixSpelling.bytes, IntSuffixSpelling.ty, intType, intTypeTable, intTypeFrom, matchPrefix, opt, wrongChars, h1, h2, h3, h4]
    | u a => cases a <;> simp [IntSuffixSpelling.bytes, IntSuffixSpelling.ty, uByte, intType, intTypeTable, intTypeFrom, matchPrefix, opt, h3, h4]
    | l a => cases a <;> simp [IntSuffixSpelling.bytes, IntSuffixSpelling.ty, lByte, intType, intTypeTable, intTypeFrom, matchPrefix, opt, h1, h2]
    | ul a c => cases a <;> cases c <;> rfl
    | lu a c => cases a <;> cases c <;> rfl

theorem decimalInt_one_token (d : Nat) (ds : List Nat) (hlt : ∀ x ∈ d :: ds, x < 10) (hlead : d ≠ 0 ∨ ds = [])
    (sfx : IntSuffixSpelling) (tok : Token) (hn : Dec2Bin.ofDigits 10 (d :: ds) < 2 ^ 64)
    (hk : mkIntToken? (Dec2Bin.ofDigits 10 (d :: ds)) sfx.ty = some tok) (rest : Bytes) (hb : IntBoundary rest) (inc : Bool) :
    tokenIntermediate ((d :: ds).map digitByte ++ (sfx.bytes ++ rest)) inc = .ok (rest, tok) := by
  have hs := spelledSuffix_head sfx rest hb
  have hnd : NoDigitHead (sfx.bytes ++ rest) := fun b r h => (hs b r h).1
  -- `literal_float` finds digits without fraction or exponent: "not my token"
  have hfl : literalFloat ((d :: ds).map digitByte ++ (sfx.bytes ++ rest)) =
      otherTokenChars ((d :: ds).map digitByte ++ (sfx.bytes ++ rest)) := by
    have hm := floatMantissa_whole d ds hlt (sfx.bytes ++ rest) hnd (fun b q hq => (hs b q hq).2.1)
    unfold literalFloat
    rw [hm]
    have hex := floatExponent_none (sfx.bytes ++ rest) (fun b q hq => ⟨(hs b q hq).2.2.1, (hs b q hq).2.2.2.1⟩)
    simp [hex, otherTokenChars]
  have hli := literalInt_decimal d ds hlt hlead _
    (fun b r h => ⟨(hs b r h).1, fun hx => (hs b r h).2.2.2.2 (hx ▸ rfl)⟩) hn (intType_spelled sfx rest hb) hk
  rw [show (d :: ds).map digitByte ++ (sfx.bytes ++ rest) = digitByte d :: (ds.map digitByte ++ (sfx.bytes ++ rest)) from rfl]
    at hfl hli ⊢
  rw [tokenIntermediate_digit _ _ inc (digitByte_range d (hlt d (by simp))), hfl, orElse_other, hli]

end RsslVerif.Model.Lexer
