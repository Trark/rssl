import RsslVerif.Lemmas.RoundtripFull3
/-! Round trip for the full expression model: expression-or-type positions, template argument lists, cast, `sizeof`, calls,
and the induction over the mutually defined trees. -/
set_option linter.unusedSimpArgs false
namespace RsslVerif.Lemmas.RoundtripFull
open RsslVerif.Gen.FmtTables RsslVerif.Gen.ParseTables RsslVerif.Gen.SyntaxTables RsslVerif.Model.Format
open RsslVerif.Model.FormatFull RsslVerif.Model.ParseFull RsslVerif.Lemmas.FmtParseTables
open RsslVerif.Lemmas.LevelParser

variable (W : List String)

def RTArg (sym : Bool) (a : TArg) : Prop :=
  ∀ rest, TyRest rest → (hasLtArg a = true → TmplFree (toks (fmtEOT a true) ++ rest) = true) →
    ∃ N, ∀ f, N ≤ f → parseEOT W f sym (toks (fmtEOT a true) ++ rest) = some (a, rest)

/-- an expression in an expression-or-type position: printed under `(eotExprPrec, eotExprSide)` — bare when it binds
tighter than the shift operators (then nothing in it is misread under `Terminator::TypeList`), in parentheses otherwise
(then it is read under `Standard`) — and its first token starts no type -/
theorem rtArg_e (sym : Bool) (x : XExpr) (hw : WFArg W sym (.e x)) (ihx : RT W x) : RTArg W sym (.e x) := by
  intro rest hrest hsafe
  obtain ⟨hwx, hhead⟩ := hw
  obtain ⟨t0, r0, rfl, hcl⟩ := tyRest_closes hrest
  have htoks : toks (fmtEOT (.e x) true) = toks (fmtSubX x eotExprPrec eotExprSide) := rfl
  rw [htoks] at hsafe ⊢
  have hP : Parses W 15 .TypeList (toks (fmtSubX x eotExprPrec eotExprSide) ++ t0 :: r0) (x, t0 :: r0) :=
    rts_closed W ihx hwx posOk_eot 15 .TypeList _ _ 4 (by omega) (pos_eot x.prec_lvl) (by omega)
      (fun _ => Nat.le_refl _)
      (fun hl => hsafe (by simpa [hasLtArg] using hl))
      hcl
  obtain ⟨t, ts', h1, _⟩ := head_fmt W x hwx eotExprPrec eotExprSide
  have hty : ∀ f, parseTyId W f sym (toks (fmtSubX x eotExprPrec eotExprSide) ++ t0 :: r0) = none := by
    intro f
    rw [h1]
    obtain ⟨hstop, hid⟩ := tyHeadDead_of_B W sym t ts' (by rw [← h1]; exact hhead)
    cases t with
    | id n =>
      obtain ⟨rfl, hn⟩ := hid n rfl
      exact parseTyId_notW W f n _ hstop hn
    | _ => exact parseTyId_badhead W f sym _ _ hstop (by intro n h; cases h)
  refine LevelParser.Ev.step hP fun f h => ?_
  unfold parseEOT
  rw [hty f]
  simp only [eotTerminator]
  rw [h]

theorem rtArg_both (sym : Bool) (x : XExpr) (t : TyId) (hw : WFArg W sym (.both x t)) : RTArg W sym (.both x t) := by
  intro rest hrest _
  obtain ⟨n, rfl, rfl, hstop, hsym⟩ := hw
  -- the type reading: a lone name is the type id without modifiers, arguments and declarator
  have hT := rtTy W [] n .nil .empty ⟨hstop, trivial, trivial⟩ rfl (fun a r h => nomatch h)
    (rtDeclAt_arrs W true .empty trivial rfl (fun _ _ _ _ hc => hc)) sym true rest hsym hrest
    (fun h => by simp [hasLtTy, hasLtTArgs, hasLtDecl] at h)
  simp only [toks_fmtTyId, fmtTArgs, fmtDecl, toks_nil, List.map_nil, List.nil_append, List.append_nil,
    List.cons_append] at hT
  obtain ⟨t0, r0, rfl, hcl⟩ := tyRest_closes hrest
  have htoks : toks (fmtEOT (.both (.id n) (.mk [] n .nil .empty)) true) = [.id n] := toks_id n
  rw [htoks]
  have hP : Parses W 15 .TypeList ([.id n] ++ t0 :: r0) (.id n, t0 :: r0) := by
    have := rt_id W n 15 .TypeList (t0 :: r0) (.id n, t0 :: r0) (fun _ => Nat.zero_le _) (by simp [XExpr.lvl])
      (fun h => by simp [XExpr.lvl] at h) (noLow_closes W 15 _ _ _ hcl) (fun h => by simp [hasLt] at h)
      (fin_self _ (by simp [XExpr.lvl]) (fun _ => inert_closes W 15 _ _ _ hcl))
    rwa [toks_id] at this
  refine LevelParser.Ev.step (LevelParser.Ev.and hT hP) fun f ⟨h1, h2⟩ => ?_
  unfold parseEOT
  simp only [List.singleton_append] at h2 ⊢
  rw [h1]
  simp only [eotTerminator]
  rw [h2]
  simp

theorem rtArg_t (sym : Bool) (ty : TyId) (hw : WFArg W sym (.t ty)) (iht : RTTy W ty) : RTArg W sym (.t ty) := by
  intro rest hrest hsafe
  obtain ⟨_, hsym, _, hkw⟩ := hw
  obtain ⟨m, ms, k, hmods, hk⟩ := kwModHead_spec ty hkw
  have h := iht sym true rest hsym hrest (fun hl => hsafe (by simpa [hasLtArg] using hl))
  have htoks : toks (fmtEOT (.t ty) true) = toks (fmtTyId ty true) := rfl
  rw [htoks]
  have hex : ∀ f, xparseLvl W f 15 eotTerminator (toks (fmtTyId ty true) ++ rest) = none := by
    intro f
    obtain ⟨mods, n, targs, d⟩ := ty
    simp only [tyMods] at hmods
    subst hmods
    rw [toks_fmtTyId]
    simp only [List.map_cons, List.cons_append, hk]
    exact xparseLvl_badhead W _ _ (badHead_modKw m k hk) _ _ _
  refine LevelParser.Ev.step h fun f h => ?_
  unfold parseEOT
  rw [h, hex f]

/-- the elements of a template argument list, up to (not including) the closing `>` -/
def RTList : TArgs → Prop
  | .nil => True
  | .cons a r => ∀ b rest, shiftAssignHead rest = false → NoEq rest →
      (hasLtTArgs (.cons a r) = true →
        TmplFree (toks (fmtEOT a true) ++ (toks (fmtTArgTail r) ++ .gt b :: rest)) = true) →
      ∃ N, ∀ f, N ≤ f → parseTArgList W f (toks (fmtEOT a true) ++ (toks (fmtTArgTail r) ++ .gt b :: rest)) =
        some (.cons a r, .gt b :: rest)

theorem rtList_single (a : TArg) (iha : RTArg W false a) : RTList W (.cons a .nil) := by
  intro b rest hsh hne hsafe
  simp only [fmtTArgTail, toks_nil, List.nil_append] at hsafe ⊢
  have h := iha (.gt b :: rest) ⟨hsh, hne⟩ (fun hl => hsafe (by simp [hasLtTArgs, hl]))
  refine LevelParser.Ev.step h fun f h => ?_
  unfold parseTArgList
  rw [h]

theorem rtList_cons (a b : TArg) (r : TArgs) (iha : RTArg W false a) (ihr : RTList W (.cons b r)) :
    RTList W (.cons a (.cons b r)) := by
  intro g rest hsh hne hsafe
  have htail : toks (fmtTArgTail (.cons b r)) = .p .Comma :: (toks (fmtEOT b true) ++ toks (fmtTArgTail r)) := by
    simp [fmtTArgTail, comma, pp]
  rw [htail] at hsafe ⊢
  simp only [List.cons_append, List.append_assoc] at hsafe ⊢
  have h1 := iha (.p .Comma :: (toks (fmtEOT b true) ++ (toks (fmtTArgTail r) ++ .gt g :: rest))) trivial
    (fun hl => hsafe (by simp [hasLtTArgs, hl]))
  have h2 := ihr g rest hsh hne (SafeAt.mono (SafeAt.cons (SafeAt.append hsafe)) fun hl => by
      simp only [hasLtTArgs, Bool.or_eq_true] at hl ⊢
      exact Or.inr hl)
  refine LevelParser.Ev.step (LevelParser.Ev.and h1 h2) fun f ⟨h1, h2⟩ => ?_
  unfold parseTArgList
  rw [h1]
  simp only [h2]

/-- neither a type nor an expression starts with `>`, so no template argument list does -/
theorem parseTArgList_gt (f : Nat) (b : Bool) (r : List Tok) : parseTArgList W f (.gt b :: r) = none := by
  cases f with
  | zero => rfl
  | succ f =>
    unfold parseTArgList
    cases f with
    | zero => rfl
    | succ f =>
      unfold parseEOT
      have hb : BadHead (.gt b) :=
        ⟨(by intro n h; cases h), (by intro l h; cases h), (by intro h; cases h), rfl, (by intro h; cases h)⟩
      rw [parseTyId_badhead W f false (.gt b) r rfl hb.1, xparseLvl_badhead W _ r hb]

theorem rtTArgs_of_list (as : TArgs) (ih : RTList W as) : RTTArgs W as := by
  intro a r heq fol rest hsh hne hsafe
  subst heq
  have htoks : toks (fmtTArgs (.cons a r) fol) ++ rest =
      .lt true :: (toks (fmtEOT a true) ++ (toks (fmtTArgTail r) ++ .gt fol :: rest)) := by
    simp [fmtTArgs, ltT, gtP]
  rw [htoks] at hsafe ⊢
  have h := ih fol rest hsh hne (fun hl => tmplFree_suffix (List.suffix_cons _ _) (hsafe hl))
  refine LevelParser.Ev.step h fun f h => ?_
  unfold parseTArgsReq
  split
  · -- `<>`: the list that was read does not start with `>`
    rename_i heq2
    rw [(List.cons.inj heq2).2, parseTArgList_gt] at h
    cases h
  · rename_i heq2
    cases heq2
    rw [h]
  · rename_i h1 h2
    exact absurd rfl (h2 _ _)

theorem rt_cast (t : TyId) (x : XExpr) (hwf : WF W (.cast t x)) (iht : RTTy W t) (ihx : RT W x) : RT W (.cast t x) := by
  intro k term rest out hgt hle htf hno hsafe hfin
  obtain ⟨hwt, hin, _, hwx⟩ := hwf
  have hlvl : (XExpr.cast t x).lvl = 2 := rfl
  rw [hlvl] at hle hfin
  rw [toks_cast] at hsafe ⊢
  simp only [List.cons_append, List.append_assoc] at hsafe ⊢
  have hpo : PosOk precCast castOperandSide := Or.inl (by decide)
  have hx : Parses W 2 term (toks (fmtSubX x precCast castOperandSide) ++ rest) (x, rest) :=
    rts_self W ihx hwx hpo 2 term rest 2 (Nat.le_refl _) (pos_right3 x.prec_lvl) (by omega)
      (fun _ => by decide)
      (SafeAt.mono (SafeAt.cons (SafeAt.append (SafeAt.cons hsafe))) (fun h => by simp [hasLt, h]))
      (NoLow.mono W hno hle) (fun _ => inert2 W term rest)
  have ht := iht true true (.p .RightParen :: (toks (fmtSubX x precCast castOperandSide) ++ rest))
    (fun _ => hin) trivial
    (SafeAt.mono (SafeAt.cons hsafe) fun hl => by simp [hasLt, hl])
  have hc : LevelParser.Ev fun f => castAlt W f term (toks (fmtTyId t true) ++
      (.p .RightParen :: (toks (fmtSubX x precCast castOperandSide) ++ rest))) = some (.cast t x, rest) := by
    refine LevelParser.Ev.step (LevelParser.Ev.and ht hx) fun f ⟨h1, h2⟩ => ?_
    unfold castAlt
    rw [h1]
    simp [h2]
  have hp : Parses W 2 term (.p .LeftParen :: (toks (fmtTyId t true) ++
      (.p .RightParen :: (toks (fmtSubX x precCast castOperandSide) ++ rest)))) (.cast t x, rest) := by
    refine LevelParser.Ev.step hc fun f hc => ?_
    unfold xparseLvl
    simp [prefixOp, hc]
  exact finish_nonloop (@lift W) hp (Or.inr (Or.inl rfl)) hle (fun h => by omega) hno hfin

theorem rt_sizeof (a : TArg) (iha : RTArg W true a) : RT W (.sizeof a) := by
  intro k term rest out hgt hle htf hno hsafe hfin
  have hlvl : (XExpr.sizeof a).lvl = 2 := rfl
  rw [hlvl] at hle hfin
  rw [toks_sizeof] at hsafe ⊢
  simp only [List.cons_append, List.append_assoc, List.nil_append] at hsafe ⊢
  have h1 := iha (.p .RightParen :: rest) trivial
    (SafeAt.mono (SafeAt.cons (SafeAt.cons hsafe)) fun hl => by simpa [hasLt] using hl)
  have hp : Parses W 2 term (.p .SizeOf :: .p .LeftParen :: (toks (fmtEOT a true) ++ .p .RightParen :: rest))
      (.sizeof a, rest) := by
    refine LevelParser.Ev.step h1 fun f h1 => ?_
    unfold xparseLvl
    simp [prefixOp, h1]
  exact finish_nonloop (@lift W) hp (Or.inr (Or.inl rfl)) hle (fun h => by omega) hno hfin

/-- the invariant of a non-empty argument list: after `(`, `xparseArgs1` reads the printed list up to `)` -/
def A1 : XArgs → Prop
  | .nil => True
  | .cons e r => ∀ rest,
      (hasLtArgs (.cons e r) = true → TmplFree (toks (fmtArgsX (.cons e r)) ++ .p .RightParen :: rest) = true) →
      ∃ N, ∀ f, N ≤ f →
        xparseArgs1 W f (toks (fmtArgsX (.cons e r)) ++ .p .RightParen :: rest) = some (.cons e r, rest)

/-- every element has the round-trip invariant -/
def AllRT : XArgs → Prop
  | .nil => True
  | .cons e r => RT W e ∧ AllRT r

/-- `F` prints a list of expressions with `, ` between them, the last element at `(p1, s1)`, an element followed by
others at `(p2, s2)`, both positions parenthesising the comma operator -/
structure CommaList (F : XArgs → List Piece) (p1 : Nat) (s1 : Side) (p2 : Nat) (s2 : Side) : Prop where
  po1 : PosOk p1 s1
  po2 : PosOk p2 s2
  pos1 : ∀ x : XExpr, needParen x.prec p1 s1 = false → x.lvl ≤ 14
  pos2 : ∀ x : XExpr, needParen x.prec p2 s2 = false → x.lvl ≤ 14
  last : ∀ e, F (.cons e .nil) = fmtSubX e p1 s1
  more : ∀ e e' r, F (.cons e (.cons e' r)) = fmtSubX e p2 s2 ++ (comma :: .sp :: F (.cons e' r))

theorem callArgs_commaList : CommaList fmtArgsX callArgPrec callArgSide callArgMainPrec callArgMainSide :=
  ⟨posOk_arg, posOk_argMain, fun x => pos_commaList x.prec_lvl, fun x => pos_commaList x.prec_lvl,
   fun _ => rfl, fun _ _ _ => rfl⟩

/-- a non-empty list printed that way, in front of `)`, is read back by `xparseArgs1` -/
theorem commaList_args1 {F p1 s1 p2 s2} (C : CommaList F p1 s1 p2 s2) :
    (e : XExpr) → (r : XArgs) → WFA W (.cons e r) → AllRT W (.cons e r) → ∀ rest,
      (hasLtArgs (.cons e r) = true → TmplFree (toks (F (.cons e r)) ++ .p .RightParen :: rest) = true) →
      ∃ N, ∀ f, N ≤ f → xparseArgs1 W f (toks (F (.cons e r)) ++ .p .RightParen :: rest) = some (.cons e r, rest)
  | e, .nil, hw, ih, rest, hsafe => by
    rw [C.last] at hsafe ⊢
    have hE : Parses W 15 .Sequence (toks (fmtSubX e p1 s1) ++ .p .RightParen :: rest) (e, .p .RightParen :: rest) :=
      rts_closed W ih.1 hw.1 C.po1 15 .Sequence _ _ 14 (by omega) (C.pos1 e) (by omega) nofun
        (fun hl => hsafe (by simp [hasLtArgs, hl])) (Or.inl rfl)
    refine LevelParser.Ev.step hE fun f h => ?_
    unfold xparseArgs1
    simp [callArgTerminator, h]
  | e, .cons e' r', hw, ih, rest, hsafe => by
    rw [C.more] at hsafe ⊢
    have htk : toks (comma :: Piece.sp :: F (.cons e' r')) = .p .Comma :: toks (F (.cons e' r')) := by simp [comma, pp]
    simp only [toks_append, htk, List.append_assoc, List.cons_append] at hsafe ⊢
    have h2 := commaList_args1 C e' r' hw.2 ih.2 rest (SafeAt.mono (SafeAt.cons (SafeAt.append hsafe)) fun hl => by
      simp only [hasLtArgs, Bool.or_eq_true] at hl ⊢
      exact Or.inr hl)
    have hE : Parses W 15 .Sequence (toks (fmtSubX e p2 s2) ++ (.p .Comma :: (toks (F (.cons e' r')) ++ .p .RightParen :: rest)))
        (e, .p .Comma :: (toks (F (.cons e' r')) ++ .p .RightParen :: rest)) :=
      rts_closed W ih.1 hw.1 C.po2 15 .Sequence _ _ 14 (by omega) (C.pos2 e) (by omega) nofun
        (fun hl => hsafe (by simp [hasLtArgs, hl])) (Or.inr (Or.inr (Or.inr (Or.inr (Or.inl ⟨rfl, rfl⟩)))))
    refine LevelParser.Ev.step (LevelParser.Ev.and hE h2) fun f ⟨h1, h2⟩ => ?_
    unfold xparseArgs1
    simp [callArgTerminator, h1, h2]

theorem badHead_rparen : BadHead (.p .RightParen) :=
  ⟨(by intro n h; cases h), (by intro l h; cases h), (by decide), rfl, (by decide)⟩

/-- no argument starts with `)` -/
theorem xparseArgs1_rparen (f : Nat) (r : List Tok) : xparseArgs1 W f (.p .RightParen :: r) = none := by
  cases f with
  | zero => rfl
  | succ f => unfold xparseArgs1; rw [xparseLvl_badhead W _ _ badHead_rparen]

/-- … and any list, the empty one included, by `xparseArgs` -/
theorem commaList_args {F p1 s1 p2 s2} (C : CommaList F p1 s1 p2 s2) (hnil : F .nil = []) (a : XArgs) (hw : WFA W a)
    (ih : AllRT W a) (rest : List Tok)
    (hsafe : hasLtArgs a = true → TmplFree (toks (F a) ++ .p .RightParen :: rest) = true) :
    ∃ N, ∀ f, N ≤ f → xparseArgs W f (toks (F a) ++ .p .RightParen :: rest) = some (a, rest) := by
  match a, hw, ih, hsafe with
  | .nil, _, _, _ => exact LevelParser.Ev.succ fun f => by simp [hnil, xparseArgs]
  | .cons e r, hw, ih, hsafe =>
    refine LevelParser.Ev.step (commaList_args1 W C e r hw ih rest hsafe) fun f h => ?_
    unfold xparseArgs
    split
    · -- `()`: the list that was read does not start with `)`
      rename_i heq
      rw [heq, xparseArgs1_rparen] at h
      cases h
    · exact h

theorem rt_call (fn : XExpr) (targs : TArgs) (args : XArgs) (hwf : WF W (.call fn targs args)) (ihf : RT W fn)
    (ihT : RTTArgs W targs) (ihA : AllRT W args) : RT W (.call fn targs args) := by
  intro k term rest out hgt hle htf hno hsafe hfin
  obtain ⟨hwfn, hwT, hwA⟩ := hwf
  have hlvl : (XExpr.call fn targs args).lvl = 1 := rfl
  rw [hlvl] at hle hfin
  rw [toks_call] at hsafe ⊢
  simp only [List.append_assoc, List.cons_append, List.nil_append] at hsafe ⊢
  have hpo : PosOk callObjectPrec callObjectSide := Or.inr ⟨rfl, Or.inl rfl⟩
  have hA := commaList_args W callArgs_commaList rfl args hwA ihA rest (SafeAt.mono (SafeAt.cons (SafeAt.append (SafeAt.append hsafe))) fun hl => by simp [hasLt, hl])
  refine finish_loop (@lift W) (lv := 1) ?_ (by decide) hle ?_ hno hfin
  · intro out' hc
    apply rts W ihf hwfn hpo 1 term _ out' 1 (Nat.le_refl _)
      (pos_postfixLike fn.prec_lvl _ (Or.inl rfl)) (by omega) (fun _ => by decide)
    · exact SafeAt.mono hsafe (fun h => by simp [hasLt, h])
    · exact fun i h1 h2 => by omega
    · apply fin_of_conts _ _ (by decide)
      cases targs with
      | nil =>
        refine LevelParser.Ev.step (LevelParser.Ev.and hA hc) fun f ⟨hA, h2⟩ => ?_
        unfold xcont
        simp [fmtTArgs, hA, h2]
      | cons a r =>
        have hT := ihT a r rfl true (.p .LeftParen :: (toks (fmtArgsX args) ++ .p .RightParen :: rest)) rfl trivial
          (SafeAt.mono (SafeAt.append hsafe) fun hl => by simp [hasLt, hl])
        refine LevelParser.Ev.step (LevelParser.Ev.and (LevelParser.Ev.and hA hc) hT) fun f ⟨⟨hA, h2⟩, hT⟩ => ?_
        obtain ⟨r0, hr0⟩ : ∃ r0, toks (fmtTArgs (.cons a r) true) = .lt true :: r0 := ⟨_, by simp [fmtTArgs, ltT]; rfl⟩
        rw [hr0] at hT ⊢
        simp only [List.cons_append] at hT ⊢
        unfold xcont
        simp only [if_true]
        rw [hT]
        simp [hA, h2]
  · intro _
    exact p2ok_object W fn hwfn _ _ hpo (pos_postfixLike fn.prec_lvl _ (Or.inl rfl)) _

mutual
theorem rt : (e : XExpr) → WF W e → RT W e
  | .lit n, h => rt_lit W n h
  | .id n, _ => rt_id W n
  | .un op x, h => by
    cases hp : isPostfix op with
    | true => exact rt_postfix W op x hp h (rt x h)
    | false => exact rt_prefix W op x hp h (rt x h)
  | .bin op l r, h => rt_bin W op l r h (rt l h.2.1) (rt r h.2.2)
  | .tern c a b, h => rt_tern W c a b h (rt c h.2.1) (rt a h.2.2.1) (rt b h.2.2.2)
  | .sub o i, h => rt_sub W o i h.1 h.2 (rt o h.1) (rt i h.2)
  | .mem o n, h => rt_mem W o n h (rt o h)
  | .call f t a, h => rt_call W f t a h (rt f h.1) (rtTArgs_of_list W t (rtL t h.2.1)) (allRT a h.2.2)
  | .cast (.mk mods n targs d) x, h => rt_cast W _ x h (rtTyp (.mk mods n targs d) h.1 h.2.2.1) (rt x h.2.2.2)
  | .sizeof a, h => rt_sizeof W a (rtArg true a h)
theorem allRT : (a : XArgs) → WFA W a → AllRT W a
  | .nil, _ => trivial
  | .cons e r, h => ⟨rt e h.1, allRT r h.2⟩
theorem rtArg : (sym : Bool) → (a : TArg) → WFArg W sym a → RTArg W sym a
  | sym, .e x, h => rtArg_e W sym x h (rt x h.1)
  | sym, .both x t, h => rtArg_both W sym x t h
  | sym, .t (.mk mods n targs d), h => rtArg_t W sym _ h (rtTyp (.mk mods n targs d) h.1 h.2.2.1)
theorem rtL : (as : TArgs) → WFTArgs W as → RTList W as
  | .nil, _ => trivial
  | .cons a .nil, h => rtList_single W a (rtArg false a h.1)
  | .cons a (.cons b r), h => rtList_cons W a b r (rtArg false a h.1) (rtL (.cons b r) h.2)
theorem rtTyp : (ty : TyId) → WFTy W ty → (match ty with | .mk _ _ _ d => d.abstr = true) → RTTy W ty
  | .mk mods n targs d, h, hb => rtTy W mods n targs d h hb (rtTArgs_of_list W targs (rtL targs h.2.1)) (rtDA true d h.2.2)
theorem rtDA : (ab : Bool) → (d : Decl) → WFDecl W d → RTDeclAt W ab d
  | ab, .empty, h => rtDeclAt_arrs W ab .empty h rfl (fun _ _ _ _ hc => hc)
  | ab, .name n, h => rtDeclAt_arrs W ab (.name n) h rfl (fun _ _ _ _ hc => hc)
  | ab, .ptr q i, h => rtDeclAt_ptr W ab q i h (rtDA ab i h.2.1)
  | ab, .ref i, h => rtDeclAt_ref W ab i h (rtDA ab i h.1)
  | ab, .arr i s, h => rtDeclAt_arrs W ab (.arr i s) h (by simp [arrOnly, arrOnly_of_noScope W i h.2.1 h.1])
      (rtDims_arr W i s h (rtDims i h.2.1) (rt s h.2.2))
  | ab, .arrN i, h => rtDeclAt_arrs W ab (.arrN i) h (by simp [arrOnly, arrOnly_of_noScope W i h.2 h.1])
      (rtDims_arrN W i (rtDims i h.2))
theorem rtDims : (d : Decl) → WFDecl W d → RTDims W d
  | .empty, _ => fun _ _ _ _ hc => hc
  | .name n, _ => fun _ _ _ _ hc => hc
  | .ptr q i, _ => by intro ha; simp [arrOnly] at ha
  | .ref i, _ => by intro ha; simp [arrOnly] at ha
  | .arr i s, h => rtDims_arr W i s h (rtDims i h.2.1) (rt s h.2.2)
  | .arrN i, h => rtDims_arrN W i (rtDims i h.2)
end

theorem rtA : (a : XArgs) → WFA W a → A1 W a
  | .nil, _ => trivial
  | .cons e r, h => commaList_args1 W callArgs_commaList e r h (allRT W _ h)

theorem rtD : (d : Decl) → WFDecl W d → RTDecl W d := fun d h => rtDA W true d h

theorem rtAr : (d : Decl) → WFDecl W d → RTArr W d := by
  intro d h ha hb rest out hsafe hc
  rcases declBase_cases d ha with ⟨_, hbase⟩ | ⟨hab, _⟩
  · have ht := toks_arrOnly W d h ha
    rw [hbase] at ht
    have ht' : toks (fmtDecl d true) = dimToks d := ht
    rw [ht'] at hsafe ⊢
    have := rtDims W d h ha rest out hsafe hc
    rwa [hbase] at this
  · rw [hb] at hab; cases hab

end RsslVerif.Lemmas.RoundtripFull
