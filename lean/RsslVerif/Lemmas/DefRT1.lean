import RsslVerif.Lemmas.StmtRT4
import RsslVerif.Model.ParseDef
/-! Round trip of function definitions: semantics, parameters, parameter lists, functions. -/
set_option linter.unusedSimpArgs false
namespace RsslVerif.Lemmas.DefRT
open RsslVerif.Gen.FmtTables RsslVerif.Gen.ParseTables RsslVerif.Gen.SyntaxTables RsslVerif.Model.Format
open RsslVerif.Model.FormatFull RsslVerif.Model.ParseFull RsslVerif.Model.FormatStmt RsslVerif.Model.ParseStmt
open RsslVerif.Model.FormatDef RsslVerif.Model.ParseDef
open RsslVerif.Lemmas.FmtParseTables RsslVerif.Lemmas.RoundtripFull RsslVerif.Lemmas.StmtRT

variable (W : List String)

/-- what follows a parameter: `,` or `)` -/
def ParamRest : List Tok → Prop
  | .p .Comma :: _ => True
  | .p .RightParen :: _ => True
  | _ => False

theorem toks_fmtSem (s : Option String) :
    toks (fmtSem s) = match s with | none => [] | some n => [.p .Colon, .id n] := by
  cases s <;> simp [fmtSem, pp, toks]

theorem sem_reads (s : Option String) (t : Tok) (r : List Tok) (ht : t ≠ .p .Colon) :
    parseSem (toks (fmtSem s) ++ t :: r) = some (s, t :: r) := by
  cases s with
  | none =>
    simp only [toks_fmtSem, List.nil_append]
    unfold parseSem
    split <;> first | rfl | (rename_i h; simp only [List.cons.injEq] at h; exact absurd h.1 ht)
  | some n =>
    simp only [toks_fmtSem, List.cons_append, List.nil_append]
    unfold parseSem
    split
    · simp_all
    · simp_all
    · rename_i h1 h2; simp only [List.cons.injEq, true_and] at h2; exact (h1 n (t :: r) h2.symm).elim
    · rename_i h1 h2; exact (h2 _ rfl).elim

def WFParam (p : Param) : Prop :=
  modBeforeStep (.id p.name) = .stop ∧ WFTArgs W p.targs ∧ p.decl.abstr = false ∧ WFDecl W p.decl ∧
  (match p.dflt with
   | none => True
   | some e => WF W e)

def hasLtParam (p : Param) : Bool :=
  hasLtTArgs p.targs || hasLtDecl p.decl || hasLtOpt p.dflt

/-- token stream of a parameter -/
def paramToks (p : Param) : List Tok :=
  p.mods.map modTok ++ (.id p.name :: (toks (fmtTArgs p.targs (startsTok (fmtDecl p.decl true) false)) ++
    (toks (fmtDecl p.decl true) ++ (toks (fmtSem p.sem) ++
      (match p.dflt with | none => [] | some e => .p .Equals :: toks (fmtSubX e paramDefaultPrec paramDefaultSide))))))

theorem toks_fmtParam (p : Param) : toks (fmtParam p) = paramToks p := by
  unfold fmtParam paramToks
  cases hd : p.dflt <;> simp [toks_fmtTy, toks_append, pp, toks]

theorem param_reads (p : Param) (hw : WFParam W p) (c : Tok) (hc : c = .p .Comma ∨ c = .p .RightParen) (rest : List Tok)
    (hsafe : hasLtParam p = true → TmplFree (paramToks p ++ c :: rest) = true) :
    ∃ N, ∀ f, N ≤ f → parseParam W f (paramToks p ++ c :: rest) = some (p, c :: rest) := by
  obtain ⟨hstop, hwT, hab, hwd, hwe⟩ := hw
  obtain ⟨mods, name, targs, decl, sem, dflt⟩ := p
  simp only at hstop hwT hab hwd hwe
  obtain ⟨t0, r0, hr0, ht0⟩ := named_head W decl hab hwd
  have hA : AfterTy t0 := by
    rcases ht0 with ⟨n, rfl⟩ | rfl | rfl
    · exact afterTy_id n
    · exact afterTy_star
    · exact afterTy_amp
  obtain ⟨tailD, hdef⟩ : ∃ t : List Tok, t = toks (fmtSem sem) ++
      ((match (generalizing := false) dflt with
        | none => []
        | some e => .p .Equals :: toks (fmtSubX e paramDefaultPrec paramDefaultSide)) ++ c :: rest) := ⟨_, rfl⟩
  have htoks : paramToks ⟨mods, name, targs, decl, sem, dflt⟩ ++ c :: rest = mods.map modTok ++ (.id name ::
      (toks (fmtTArgs targs (startsTok (fmtDecl decl true) false)) ++ (toks (fmtDecl decl true) ++ tailD))) := by
    simp [paramToks, hdef]
  rw [htoks] at hsafe ⊢
  have hcne : c ≠ .p .Colon ∧ c ≠ .p .LeftSquareBracket := by
    rcases hc with rfl | rfl <;> exact ⟨(by intro h; cases h), (by intro h; cases h)⟩
  have htailHead : ∀ r, tailD ≠ .p .LeftSquareBracket :: r := by
    intro r h
    cases sem <;> cases dflt <;> simp [hdef, toks_fmtSem] at h
    exact hcne.2 h.1
  have h1 := ty_reads W mods name targs (startsTok (fmtDecl decl true) false) hstop hwT t0 (r0 ++ tailD) hA
    (by rw [← List.cons_append, ← hr0]
        exact SafeAt.mono (SafeAt.cons (SafeAt.append hsafe)) fun hl => by simp [hasLtParam, hl])
  have hsD := SafeAt.append (SafeAt.cons (SafeAt.append hsafe))
  have h2 := rtDA W false decl hwd hab tailD htailHead (SafeAt.mono hsD fun hl => by simp [hasLtParam, hl])
  -- the default value, where there is one
  have h3 : LevelParser.Ev fun f => ∀ e, dflt = some e →
      xparseLvl W f 15 .Sequence (toks (fmtSubX e paramDefaultPrec paramDefaultSide) ++ c :: rest) = some (e, c :: rest) := by
    cases dflt with
    | none => exact .of_all fun _ _ h => nomatch h
    | some e =>
      rw [hdef] at hsD
      exact LevelParser.Ev.mono (argPos_reads W _ _ (Or.inl (by decide)) (fun x => pos_commaList x.prec_lvl) e hwe c hc rest
        (SafeAt.mono (SafeAt.cons (SafeAt.append (SafeAt.append hsD))) fun hl => by simp [hasLtParam, hasLtOpt, hl])) fun f h e' he' => by
          cases he'; exact h
  refine LevelParser.Ev.mono (LevelParser.Ev.and (LevelParser.Ev.and h1 h2) h3) fun f ⟨⟨g1, g2⟩, g3⟩ => ?_
  rw [hr0] at g2 ⊢
  simp only [List.cons_append, List.append_assoc] at g1 g2 ⊢
  unfold parseParam
  rw [g1]
  simp only [g2]
  rw [hdef]
  cases dflt with
  | none => rw [List.nil_append, sem_reads sem c rest hcne.1]; rcases hc with rfl | rfl <;> rfl
  | some e => rw [List.cons_append, sem_reads sem (.p .Equals) _ (by intro h; cases h)]; simp only [g3 e rfl]

def paramsToks : List Param → List Tok
  | [] => []
  | [p] => paramToks p
  | p :: q :: r => paramToks p ++ .p .Comma :: paramsToks (q :: r)

theorem toks_fmtParams : ∀ ps : List Param, toks (fmtParams ps) = paramsToks ps
  | [] => rfl
  | [p] => by simp [fmtParams, paramsToks, toks_fmtParam]
  | p :: q :: r => by
    have := toks_fmtParams (q :: r)
    simp [fmtParams, paramsToks, toks_fmtParam, this, comma, pp, toks_append, toks]

def hasLtParams : List Param → Bool
  | [] => false
  | p :: r => hasLtParam p || hasLtParams r

theorem parseParam_rparen (f : Nat) (r : List Tok) : parseParam W f (.p .RightParen :: r) = none := by
  unfold parseParam
  rw [parseTy_badhead W f _ r rfl (by intro n h; cases h)]

/-! The arms of the parameter list on raw tokens.  That the text does not start with `)` is read off what `parseParam`
accepted, not off the printed form. -/

theorem parseParams_last {f : Nat} {ts r : List Tok} {p : Param} (h : parseParam W f ts = some (p, .p .RightParen :: r)) :
    parseParams W (f + 1) ts = some ([p], .p .RightParen :: r) := by
  unfold parseParams
  split
  · rw [parseParam_rparen] at h; cases h
  · rw [h]

theorem parseParams_more {f : Nat} {ts ts2 r : List Tok} {p q : Param} {ps : List Param}
    (h1 : parseParam W f ts = some (p, .p .Comma :: ts2)) (h2 : parseParams W f ts2 = some (q :: ps, r)) :
    parseParams W (f + 1) ts = some (p :: q :: ps, r) := by
  unfold parseParams
  split
  · rw [parseParam_rparen] at h1; cases h1
  · simp only [h1]
    split
    -- in front of `)` the list after the comma would be empty
    · cases f <;> simp [parseParams] at h2
    · rw [h2]

theorem params_read : ∀ (ps : List Param), (∀ p, p ∈ ps → WFParam W p) → ∀ rest,
    (hasLtParams ps = true → TmplFree (paramsToks ps ++ .p .RightParen :: rest) = true) →
    ∃ N, ∀ f, N ≤ f → parseParams W f (paramsToks ps ++ .p .RightParen :: rest) = some (ps, .p .RightParen :: rest)
  | [], _, rest, _ => by
    exact LevelParser.Ev.succ fun f => by simp [paramsToks, parseParams]
  | [p], hw, rest, hsafe =>
    LevelParser.Ev.step (param_reads W p (hw p List.mem_cons_self) (.p .RightParen) (Or.inr rfl) rest
      (fun hl => hsafe (by simp [hasLtParams, hl]))) fun _ h => parseParams_last W h
  | p :: q :: ps, hw, rest, hsafe => by
    have htoks : paramsToks (p :: q :: ps) ++ .p .RightParen :: rest =
        paramToks p ++ .p .Comma :: (paramsToks (q :: ps) ++ .p .RightParen :: rest) := by
      simp [paramsToks]
    rw [htoks] at hsafe ⊢
    have h1 := param_reads W p (hw p List.mem_cons_self) (.p .Comma) (Or.inl rfl)
      (paramsToks (q :: ps) ++ .p .RightParen :: rest) (fun hl => hsafe (by simp [hasLtParams, hl]))
    have h2 := params_read (q :: ps) (fun x hx => hw x (List.mem_cons_of_mem _ hx)) rest
      (SafeAt.mono (SafeAt.cons (SafeAt.append hsafe)) fun hl => by simp [hasLtParams] at hl ⊢; simp [hl])
    exact LevelParser.Ev.step (LevelParser.Ev.and h1 h2) fun _ ⟨g1, g2⟩ => parseParams_more W g1 g2

def bodyToks : Option Stmts → List Tok
  | none => [.p .Semicolon]
  | some b => .p .LeftBrace :: (toks (fmtStmts b) ++ [.p .RightBrace])

/-- token stream of a function definition from the return type on -/
def sigToks (f : FnDef) : List Tok :=
  f.rmods.map modTok ++ (.id f.rname :: (toks (fmtTArgs f.rtargs false) ++ (.id f.name :: .p .LeftParen ::
    (paramsToks f.params ++ (.p .RightParen :: (toks (fmtSem f.sem) ++ bodyToks f.body))))))

def fnToks (f : FnDef) : List Tok := toks (fmtAttrs f.attrs) ++ sigToks f

theorem toks_fmtFn (f : FnDef) : toks (fmtFn f) = fnToks f := by
  unfold fmtFn fnToks sigToks bodyToks
  cases hb : f.body with
  | none => simp [toks_fmtTy, toks_append, toks_fmtParams, pp, semi, toks]
  | some b =>
    cases b with
    | nil => simp [toks_fmtTy, toks_append, toks_fmtParams, pp, semi, toks, fmtStmts]
    | cons s r => simp [toks_fmtTy, toks_append, toks_fmtParams, pp, semi, toks]

def WFBody : Option Stmts → Prop
  | none => True
  | some b => WFSs W b

def hasLtBody : Option Stmts → Bool
  | none => false
  | some b => hasLtSs b

def WFFn (f : FnDef) : Prop :=
  WFAttrs W f.attrs ∧ modBeforeStep (.id f.rname) = .stop ∧ WFTArgs W f.rtargs ∧ (∀ p, p ∈ f.params → WFParam W p) ∧
  WFBody W f.body

def hasLtFn (f : FnDef) : Bool :=
  hasLtAttrs f.attrs || hasLtTArgs f.rtargs || hasLtParams f.params || hasLtBody f.body

/-- in front of a token that starts neither an attribute nor a type there are no attributes, and then no type -/
theorem attrs_ty_badhead {f : Nat} {t : Tok} {r r' : List Tok} {attrs : List Attr} (hb : t ≠ .p .LeftSquareBracket)
    (hs : modBeforeStep t = .stop) (hid : ∀ n, t ≠ .id n) (h : parseAttrs W f (t :: r) = some (attrs, r')) :
    parseTy W f r' = none := by
  cases f with
  | zero => cases h
  | succ f =>
    unfold parseAttrs at h
    split at h
    · rename_i heq; cases heq; exact absurd rfl hb
    · cases h; exact parseTy_badhead W _ _ _ hs hid

theorem fn_reads (fn : FnDef) (hw : WFFn W fn) (rest : List Tok)
    (hsafe : hasLtFn fn = true → TmplFree (fnToks fn ++ rest) = true) :
    ∃ N, ∀ f, N ≤ f → parseFn W f (fnToks fn ++ rest) = .ok fn rest := by
  obtain ⟨hwa, hstop, hwT, hwp, hwb⟩ := hw
  obtain ⟨tb, rb, htb, hbne⟩ : ∃ tb rb, bodyToks fn.body ++ rest = tb :: rb ∧ tb ≠ .p .Colon := by
    cases hb : fn.body with
    | none => exact ⟨.p .Semicolon, rest, by simp [bodyToks], by intro h; cases h⟩
    | some b => exact ⟨.p .LeftBrace, _, by simp [bodyToks] <;> rfl, by intro h; cases h⟩
  have htoks : fnToks fn ++ rest = toks (fmtAttrs fn.attrs) ++ (sigToks fn ++ rest) := by simp [fnToks]
  have hsig : sigToks fn ++ rest = fn.rmods.map modTok ++ (.id fn.rname :: (toks (fmtTArgs fn.rtargs false) ++
      (.id fn.name :: .p .LeftParen :: (paramsToks fn.params ++ (.p .RightParen :: (toks (fmtSem fn.sem) ++
        (bodyToks fn.body ++ rest))))))) := by
    simp [sigToks]
  have hs1 : hasLtFn fn = true → TmplFree (sigToks fn ++ rest) = true := fun hl =>
    tmplFree_suffix (List.suffix_append _ _) (by rw [← htoks]; exact hsafe hl)
  rw [hsig] at hs1
  have h2 := ty_reads W fn.rmods fn.rname fn.rtargs false hstop hwT (.id fn.name) _ (afterTy_id _)
    (SafeAt.mono (SafeAt.cons (SafeAt.append hs1)) fun hl => by simp [hasLtFn, hl])
  -- what reads as a type does not start with `[`
  have h1 := attrs_read W fn.attrs hwa (sigToks fn ++ rest)
    (fun r' e => by
      obtain ⟨f, hf⟩ := Fuel.Ev.exists h2
      rw [← hsig, e, parseTy_badhead W f _ r' rfl (by intro n h; cases h)] at hf
      cases hf)
    (fun hl => by rw [← htoks]; exact hsafe (by simp [hasLtFn, hl]))
  have h3 := params_read W fn.params hwp (toks (fmtSem fn.sem) ++ (bodyToks fn.body ++ rest))
    (SafeAt.mono (SafeAt.cons (SafeAt.cons (SafeAt.append (SafeAt.cons (SafeAt.append hs1))))) fun hl => by simp [hasLtFn, hl])
  have h4 := sem_reads fn.sem tb rb hbne
  rw [← htb] at h4
  have h5 : LevelParser.Ev fun f => ∀ b, fn.body = some b →
      parseStmts W f (toks (fmtStmts b) ++ .p .RightBrace :: rest) = .ok b rest := by
    cases hb : fn.body with
    | none => exact .of_all fun _ _ h => nomatch h
    | some b =>
      rw [hb] at hwb
      simp only [hb, bodyToks, List.cons_append, List.append_assoc, List.nil_append] at hs1
      exact LevelParser.Ev.mono (rss W b hwb rest (SafeAt.mono (SafeAt.cons (SafeAt.append (SafeAt.cons (SafeAt.append
        (SafeAt.cons (SafeAt.cons (SafeAt.append (SafeAt.cons (SafeAt.append hs1))))))))) fun hl => by
          simp [hasLtFn, hb, hasLtBody, hl])) fun f h b' hb' => by cases hb'; exact h
  refine LevelParser.Ev.mono (LevelParser.Ev.and (LevelParser.Ev.and h1 h2) (LevelParser.Ev.and h3 h5)) fun f ⟨⟨g1, g2⟩, g3, g5⟩ => ?_
  unfold parseFn
  split
  · rename_i heq
    rw [htoks] at heq
    rw [heq] at g1
    have := attrs_ty_badhead W (by decide) rfl (by intro n h; cases h) g1
    rw [hsig, g2] at this
    cases this
  · rw [htoks, g1]
    cases hb : fn.body with
    | none =>
      simp only [hb, bodyToks, List.cons_append, List.nil_append, List.append_assoc] at g2 g3 h4
      simp only [hsig, hb, g2, g3, h4, bodyToks, List.cons_append, List.nil_append]
      cases fn; cases hb; rfl
    | some b =>
      have g5 := g5 b hb
      simp only [hb, bodyToks, List.cons_append, List.nil_append, List.append_assoc] at g2 g3 h4
      simp only [hsig, hb, g2, g3, h4, bodyToks, List.cons_append, List.nil_append, List.append_assoc, g5]
      cases fn; cases hb; rfl

/-- what reads as a function starts with attributes, a type, a name and `(` -/
theorem parseFn_header {f : Nat} {ts rest : List Tok} {fn : FnDef} (h : parseFn W f ts = .ok fn rest) :
    ∃ r r1, parseAttrs W f ts = some (fn.attrs, r) ∧
      parseTy W f r = some ((fn.rmods, fn.rname, fn.rtargs), .id fn.name :: .p .LeftParen :: r1) := by
  unfold parseFn at h
  split at h
  · cases h
  · split at h
    · rename_i attrs r hA
      split at h
      · rename_i rmods rname rtargs name r1 hT
        split at h
        · split at h
          · cases h; exact ⟨r, r1, hA, hT⟩
          · split at h <;> cases h
            exact ⟨r, r1, hA, hT⟩
          · cases h
        · cases h
      · cases h
    · cases h

end RsslVerif.Lemmas.DefRT
