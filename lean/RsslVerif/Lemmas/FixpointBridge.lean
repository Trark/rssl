import RsslVerif.Model.FixpointBridge
import RsslVerif.Lemmas.GenSemExpr
import RsslVerif.Lemmas.FixpointElab
import RsslVerif.Lemmas.FixpointText
/-!
The commuting square between the exporter model of C01 (`GenHlsl.genExpr` / `genStmt`, constants with values, names from
the `NameMap`) and the exporter shadow of `reelab_no_new_casts` (`Fixpoint.Unelab`, C03 types); the value of every
constant survives export, re-reading, sign folding and re-tagging (`leafBack_id`).
-/
namespace RsslVerif.Lemmas.FixpointBridge
open RsslVerif.Gen.RankTable RsslVerif.Gen.TypingTables
open RsslVerif.Model RsslVerif.Model.Conv RsslVerif.Model.Overload RsslVerif.Model.IrTyping RsslVerif.Model.Elab
open RsslVerif.Model.Fixpoint RsslVerif.Model.FixpointBridge RsslVerif.Model.GenHlsl RsslVerif.Lemmas.GenSem
open RsslVerif.Lemmas.FixpointElab RsslVerif.Lemmas.FixpointText

variable {Γ' : Env} {nm : Names}

theorem unop_minus : UnOp.ofName? (RsslVerif.Gen.HlslGenTables.UnaryOp.Minus).name = some .minus := by decide

theorem neg_int_form (m : Nat) (k : Scalar) (hk : rereadKind k = .intLiteral) :
    ∃ s, readBack nm (.un .Minus (.lit (.intUntyped m))) = some s ∧ Unelab Γ' (.lit k) s := by
  refine ⟨.un .minus (.lit .intLiteral), ?_, ?_⟩
  · simp [readBack, unop_minus, litKindOf, rereadTable]
  · have := Unelab.litNeg (Γ' := Γ') k (by rw [hk]; rfl)
    rw [hk] at this
    exact this

theorem plain_form (l : HlslAst.Lit) (k r : Scalar) (h1 : rereadTable (litKindOf l) = some r) (h2 : rereadKind k = r) :
    ∃ s, readBack nm (.lit l) = some s ∧ Unelab Γ' (.lit k) s := by
  refine ⟨.lit r, by simp [readBack, h1], ?_⟩
  rw [← h2]; exact .lit k

/-- `generate_literal` followed by `parse_literal` (and, for a negative constant, the `-` in front) is one of the two
    literal forms of `Unelab` -/
theorem genLiteral_back (c : Ir.Const) (a : HlslAst.Expr) (h : genLiteral c = .ok a) :
    ∃ s, readBack nm a = some s ∧ Unelab Γ' (.lit (constScalar c)) s := by
  cases c with
  | bool b => rw [genLiteral_bool] at h; cases h; exact plain_form _ _ .bool rfl (rereadKind_of_ne (k := .bool) (by decide))
  | intLit v =>
    rw [genLiteral_intLit] at h
    split at h
    · cases h; exact neg_int_form _ _ (rereadKind_of_ne (k := .intLiteral) (by decide))
    · split at h
      · cases h; exact plain_form _ _ .intLiteral rfl (rereadKind_of_ne (k := .intLiteral) (by decide))
      · cases h
  | int32 v =>
    rw [genLiteral_int32] at h
    split at h
    · cases h; exact neg_int_form _ _ rereadKind_int32
    · cases h; exact plain_form _ _ .intLiteral rfl rereadKind_int32
  | uint32 v =>
    rw [genLiteral_uint32] at h; cases h; exact plain_form _ _ .uInt32 rfl (rereadKind_of_ne (k := .uInt32) (by decide))
  | float32 b =>
    rw [genLiteral_float32] at h; cases h; exact plain_form _ _ .float32 rfl (rereadKind_of_ne (k := .float32) (by decide))
  | floatLit b =>
    rw [genLiteral_floatLit] at h; cases h
    exact plain_form _ _ .floatLiteral rfl (rereadKind_of_ne (k := .floatLiteral) (by decide))

theorem ofInt_neg_max (v : BitVec 32) (h : v.toInt < 0) : BitVec.ofInt 32 (-max (-v.toInt) 0) = v := by
  have : max (-v.toInt) 0 = -v.toInt := by omega
  rw [this, Int.neg_neg, BitVec.ofInt_toInt]

/-- **Every constant gets its value back.**  For each constant the exporter can print (`genLiteral` succeeds: an
    `IntLiteral` within ±(2^64 − 1), any `Int32` including `i32::MIN`, any `UInt32`, any float bit pattern, booleans):
    printing, `parse_literal`, folding the printed sign and re-tagging to the constant's kind gives the constant. -/
theorem leafBack_id (c : Ir.Const) (a : HlslAst.Expr) (h : genLiteral c = .ok a) : leafBack c = some c := by
  cases c with
  | bool b => simp [leafBack, genLiteral_bool, retagTo, rereadConst, constScalar]
  | intLit v =>
    rw [genLiteral_intLit] at h
    by_cases h1 : v < 0 ∧ -v ≤ u64Max
    · simp [leafBack, genLiteral_intLit, h1, retagTo, rereadConst, negConst, constScalar]
      omega
    · by_cases h2 : 0 ≤ v ∧ v ≤ u64Max
      · simp [leafBack, genLiteral_intLit, h1, h2, retagTo, rereadConst, constScalar]
        omega
      · simp [h1, h2] at h
  | int32 v =>
    by_cases hneg : v.toInt < 0
    · simp [leafBack, genLiteral_int32, hneg, retagTo, rereadConst, negConst, constScalar, ofInt_neg_max v hneg]
    · simp [leafBack, genLiteral_int32, hneg, retagTo, rereadConst, constScalar, BitVec.ofInt_natCast]
  | uint32 v => simp [leafBack, genLiteral_uint32, retagTo, rereadConst, constScalar]
  | float32 b => simp [leafBack, genLiteral_float32, retagTo, rereadConst, constScalar]
  | floatLit b => simp [leafBack, genLiteral_floatLit, retagTo, rereadConst, constScalar]

section
open RsslVerif.Gen.HlslGenTables (IntrinsicOp opForm UnaryOp)

/-- the two readings of `generate_intrinsic_op` agree: `opSyn` (used by `Unelab`) of the C03 operator is `opForm` of the
    C01 operator of the same name, with the syntactic operator looked up by name -/
theorem opSyn_of_iopOf {g : IntrinsicOp} {i : IOp} (h : iopOf g = some i) :
    opSyn i = match opForm g with
      | .unary u => (UnOp.ofName? u.name).map .un
      | .binary b => (BinOp.ofName? b.name).map .bin
      | .unexpected => none := by
  simp only [opSyn, iopOf_name h, IntrinsicOp.ofName?_name]
  cases opForm g <;> rfl

/-- every `ast::UnaryOp` / `ast::BinOp` of the exporter's table has its name in the type checker's table -/
theorem unOp_named (u : UnaryOp) : (UnOp.ofName? u.name).isSome = true :=
  (by decide +kernel : ∀ u ∈ UnaryOp.all, (UnOp.ofName? u.name).isSome = true) u (by cases u <;> decide)

theorem binOp_named (b : RsslVerif.Gen.HlslGenTables.BinOp) : (BinOp.ofName? b.name).isSome = true :=
  (by decide +kernel : ∀ b ∈ RsslVerif.Gen.HlslGenTables.BinOp.all, (BinOp.ofName? b.name).isSome = true) b
    (by cases b <;> decide)

theorem op_unary {o : IntrinsicOp} {i : IOp} {u : UnaryOp} (hio : iopOf o = some i) (hf : opForm o = .unary u) :
    ∃ u', UnOp.ofName? u.name = some u' ∧ opSyn i = some (.un u') := by
  obtain ⟨u', hu⟩ := Option.isSome_iff_exists.mp (unOp_named u)
  exact ⟨u', hu, by rw [opSyn_of_iopOf hio, hf]; simp [hu]⟩

theorem op_binary {o : IntrinsicOp} {i : IOp} {b : RsslVerif.Gen.HlslGenTables.BinOp} (hio : iopOf o = some i)
    (hf : opForm o = .binary b) : ∃ b', BinOp.ofName? b.name = some b' ∧ opSyn i = some (.bin b') := by
  obtain ⟨b', hb⟩ := Option.isSome_iff_exists.mp (binOp_named b)
  exact ⟨b', hb, by rw [opSyn_of_iopOf hio, hf]; simp [hb]⟩

end

theorem tyOfName_table : ∀ t : Ir.Ty,
    (match typeName t with | .ok n => decide (tyOfName n = some (eraseTy t)) | .error _ => true) = true := by
  intro t; cases t <;> decide

theorem tyOfName_typeName (t : Ir.Ty) (n : String) (h : typeName t = .ok n) : tyOfName n = some (eraseTy t) := by
  have := tyOfName_table t
  rw [h] at this
  simpa using this

theorem litTyped_eraseTy (t : Ir.Ty) : litTyped (eraseTy t) = decide (t = .lit ∨ t = .flit) := by
  cases t <;> decide

theorem binop_sequence : BinOp.ofName? (RsslVerif.Gen.HlslGenTables.BinOp.Sequence).name = some .sequence := by decide

variable {cx : Ctx} {ix : Idx}

theorem readBackArgs_cons {a : HlslAst.Expr} {r : HlslAst.Exprs} {ss : SArgs} (h : readBackArgs nm (.cons a r) = some ss) :
    ∃ s sr, ss = .cons s sr ∧ readBack nm a = some s ∧ readBackArgs nm r = some sr := by
  simp only [readBackArgs] at h
  split at h
  · rename_i s sr hs hr
    cases h
    exact ⟨s, sr, rfl, hs, hr⟩
  · cases h

/-- an operator node: `generate_intrinsic_op` exports the one or two operands like `generate_invocation_args` would, so
    the claim for the node follows from the claim for its argument list -/
theorem op_back {o : RsslVerif.Gen.HlslGenTables.IntrinsicOp} {i : IOp} {args : Ir.Exprs} {as : IArgs}
    (hio : iopOf o = some i)
    (ih : ∀ aas, genArgs cx args = .ok aas → ∃ ss, readBackArgs nm aas = some ss ∧ UnelabArgs Γ' as ss) :
    ∀ a, genExpr cx (.op o args) = .ok a → ∃ s, readBack nm a = some s ∧ Unelab Γ' (.op i as) s := by
  intro a hg
  generalize he : Ir.Expr.op o args = e at hg
  revert hg
  fun_cases genExpr cx e <;> intro hg <;> cases he <;> try cases hg
  -- two branches return: a unary operator with one operand, a binary operator with two
  · rename_i u x ax hax hform
    obtain ⟨u', hu, hsyn⟩ := op_unary hio hform
    obtain ⟨ss, hrb, hus⟩ := ih (.cons ax .nil) (by simp [genArgs, hax])
    obtain ⟨sx, sr, rfl, h1, hr⟩ := readBackArgs_cons hrb
    cases hr
    cases hus with
    | cons u1 un =>
      cases un
      exact ⟨.un u' sx, by simp [readBack, hu, h1], .un hsyn u1⟩
  · rename_i b x y ax hax ay hay hform
    obtain ⟨b', hb, hsyn⟩ := op_binary hio hform
    obtain ⟨ss, hrb, hus⟩ := ih (.cons ax (.cons ay .nil)) (by simp [genArgs, hax, hay])
    obtain ⟨sx, sr, rfl, h1, hr⟩ := readBackArgs_cons hrb
    obtain ⟨sy, sr', rfl, h2, hr'⟩ := readBackArgs_cons hr
    cases hr'
    cases hus with
    | cons u1 us =>
      cases us with
      | cons u2 un =>
        cases un
        exact ⟨.bin b' sx sy, by simp [readBack, hb, h1, h2], .bin hsyn u1 u2⟩

/-- the list statement carries the induction (the recursor of `ErasedArgs` proves the claim about `Erased` beside it) -/
theorem erasedArgs_genArgs_back (hA : NamesAgree cx ix nm Γ') : ∀ {es : Ir.Exprs} {is : IArgs}, ErasedArgs ix es is →
    ∀ as, genArgs cx es = .ok as → ∃ ss, readBackArgs nm as = some ss ∧ UnelabArgs Γ' is ss := by
  intro es is h
  induction h using ErasedArgs.rec
    (motive_1 := fun e i _ => ∀ a, genExpr cx e = .ok a → ∃ s, readBack nm a = some s ∧ Unelab Γ' i s) with
  | lit c hk =>
    rename_i a hg
    subst hk
    exact genLiteral_back c a hg
  | @var _ j hv =>
    rename_i a hg
    cases hg
    exact ⟨.var j, by simp [readBack, hA.loc _ j hv], .var j⟩
  | @global _ j hv =>
    rename_i a hg
    cases hg
    exact ⟨.var j, by simp [readBack, hA.glob _ j hv], .var j⟩
  | tern _ _ _ ihc iht ihf =>
    rename_i a hg
    simp only [genExpr] at hg
    split at hg
    · cases hg
    · rename_i ac hac
      split at hg
      · cases hg
      · rename_i at' hat
        split at hg
        · cases hg
        · rename_i af haf
          cases hg
          obtain ⟨sc, h1, u1⟩ := ihc ac hac
          obtain ⟨st, h2, u2⟩ := iht at' hat
          obtain ⟨sf, h3, u3⟩ := ihf af haf
          exact ⟨.tern sc st sf, by simp [readBack, h1, h2, h3], .tern u1 u2 u3⟩
  | seq _ _ ihx ihy =>
    rename_i a hg
    simp only [genExpr, genSeq] at hg
    split at hg
    · cases hg
    · rename_i ay hay
      split at hg
      · cases hg
      · rename_i ax hax
        cases hg
        obtain ⟨sx, h1, u1⟩ := ihx ax hax
        obtain ⟨sy, h2, u2⟩ := ihy ay hay
        exact ⟨.bin .sequence sx sy, by simp [readBack, binop_sequence, h1, h2], .seq u1 u2⟩
  | @cast ty _ _ _ hty _ ih =>
    rename_i a hg
    subst hty
    simp only [genExpr] at hg
    split at hg
    · cases hg
    · rename_i inner hin
      obtain ⟨s, h1, u1⟩ := ih inner hin
      split at hg
      · rename_i hl
        cases hg
        exact ⟨s, h1, .castDrop (by rw [litTyped_eraseTy]; simpa using hl) u1⟩
      · rename_i hl
        split at hg
        · cases hg
        · rename_i n hn
          cases hg
          exact ⟨.cast (eraseTy ty) s, by simp [readBack, tyOfName_typeName ty n hn, h1],
            .cast (by rw [litTyped_eraseTy]; simpa using hl) u1⟩
  | @call f j _ _ hj _ ih =>
    rename_i a hg
    simp only [genExpr] at hg
    split at hg
    · cases hg
    · rename_i aas haas
      cases hg
      obtain ⟨ss, h1, u1⟩ := ih aas haas
      obtain ⟨hf1, sg, hsg, hname⟩ := hA.func f j hj
      exact ⟨.call j ss, by simp [readBack, hf1, h1], hname ▸ Unelab.call (f := j) hsg u1⟩
  | op hio _ ih =>
    rename_i a hg
    exact op_back hio ih a hg
  | nil =>
    intro as hg
    cases hg
    exact ⟨.nil, by simp [readBackArgs], .nil⟩
  | cons _ _ ihe ihr =>
    intro as hg
    obtain ⟨ae, ar, hae, har, rfl⟩ := genArgs_cons_ok hg
    obtain ⟨s1, h1, u1⟩ := ihe ae hae
    obtain ⟨s2, h2, u2⟩ := ihr ar har
    exact ⟨.cons s1 s2, by simp [readBackArgs, h1, h2], .cons u1 u2⟩

/-- one expression: the singleton list -/
theorem erased_genExpr_back (hA : NamesAgree cx ix nm Γ') : ∀ {e : Ir.Expr} {i : IExpr}, Erased ix e i →
    ∀ a, genExpr cx e = .ok a → ∃ s, readBack nm a = some s ∧ Unelab Γ' i s := by
  intro e i h a hg
  obtain ⟨ss, hrb, hus⟩ := erasedArgs_genArgs_back hA (.cons h .nil) (.cons a .nil) (by simp [genArgs, hg])
  obtain ⟨s, _, rfl, h1, _⟩ := readBackArgs_cons hrb
  cases hus with
  | cons u1 _ => exact ⟨s, h1, u1⟩

/-- **bridge.**  For every expression of the C01 subset that has a C03 counterpart: reading back the tree the
    exporter model of C01 generates gives one of the trees `Unelab` describes for the erased expression. -/
theorem genExpr_back (hA : NamesAgree cx ix nm Γ') (e : Ir.Expr) (i : IExpr) (a : HlslAst.Expr)
    (he : erase ix e = some i) (hg : genExpr cx e = .ok a) : ∃ s, readBack nm a = some s ∧ Unelab Γ' i s :=
  erased_genExpr_back hA (erased_of_erase e i he) a hg

theorem genArgs_back (hA : NamesAgree cx ix nm Γ') : ∀ (es : Ir.Exprs) (is : IArgs) (as : HlslAst.Exprs),
    eraseArgs ix es = some is → genArgs cx es = .ok as → ∃ ss, readBackArgs nm as = some ss ∧ UnelabArgs Γ' is ss :=
  fun es is as he hg => erasedArgs_genArgs_back hA (erasedArgs_of_eraseArgs es is he) as hg

/-- the bridge for the three statement forms of the C03 model: the exported statement, read back, is the statement
    `UnelabStmt` describes for the erased one -/
theorem genStmt_back (hA : NamesAgree cx ix nm Γ') {stI : Ir.Stmt} {st : IStmt} {sa : HlslAst.Stmt}
    (he : eraseStmt ix cx.vty stI = some st) (hg : genStmt cx stI = .ok sa) :
    ∃ s', readBackStmt nm sa = some s' ∧ UnelabStmt Γ' st s' := by
  cases stI with
  | expr e =>
    obtain ⟨i, hee, rfl⟩ := Option.map_eq_some_iff.mp he
    obtain ⟨a, hge, rfl⟩ := map_ok_inv hg
    obtain ⟨s', hrb, hu⟩ := genExpr_back hA e i a hee hge
    exact ⟨.expr s', by simp [readBackStmt, hrb], .expr hu⟩
  | ret eo =>
    cases eo with
    | none =>
      cases he; cases hg
      exact ⟨.ret none, rfl, .retNone⟩
    | some e =>
      obtain ⟨i, hee, rfl⟩ := Option.map_eq_some_iff.mp he
      obtain ⟨oa, hoa, rfl⟩ := map_ok_inv hg
      obtain ⟨a, hge, rfl⟩ := map_ok_inv hoa
      obtain ⟨s', hrb, hu⟩ := genExpr_back hA e i a hee hge
      exact ⟨.ret (some s'), by simp [readBackStmt, hrb], .ret hu⟩
  | var id init =>
    cases init with
    | none => cases he
    | some e =>
      obtain ⟨i, hee, rfl⟩ := Option.map_eq_some_iff.mp he
      simp only [genStmt] at hg
      revert hg
      fun_cases genVarDef cx id (some e) <;> intro hg <;> cases hg
      rename_i tn htn oa hoa
      obtain ⟨a, hge, rfl⟩ := map_ok_inv hoa
      obtain ⟨s', hrb, hu⟩ := genExpr_back hA e i a hee hge
      exact ⟨.init (eraseTy (cx.vty (.loc id))) s', by simp [readBackStmt, hrb, tyOfName_typeName _ _ htn], .init hu⟩
  | _ => cases he

end RsslVerif.Lemmas.FixpointBridge
