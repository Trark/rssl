import RsslVerif.Lemmas.MacroTame
import RsslVerif.Lemmas.SpecExpand
import RsslVerif.Lemmas.MacroWF
/-!
# rssl's disabled flags and the reference's hide sets

The invariant that relates rssl's per-macro `macro_disabled` flags to the per-token hide sets of the C algorithm
(`Lemmas.MacroTamePSpec.Hides`): in the token list rssl is scanning with the set `D` of disabled entries,
* every token's hide set contains the names of `D`, and
* a token that names an *enabled* macro has a hide set that contains nothing else.
Tokens of the second kind are the only ones whose hide set is ever consulted or inherited, so the tokens that came
out of an expanded argument (with larger hide sets) do no harm as long as they name disabled macros only
(`OnlyDisabled`, the side condition of the `invoke` rule).
-/
namespace RsslVerif.Lemmas.MacroTameSpec
open RsslVerif.Model.Macro RsslVerif.Model.MacroTame RsslVerif.Spec.CPreMacro
open RsslVerif.Lemmas.MacroTerm RsslVerif.Lemmas.MacroSubst RsslVerif.Lemmas.MacroHang RsslVerif.Lemmas.MacroTame
open RsslVerif.Lemmas.SpecExpand

/-- the reference reading of the macro list -/
def specTable (env : List Entry) : List SMacro := env.map (fun e => ofMacro e.m)

def disabledNames (env : List Entry) : List String := (env.filter (·.disabled)).map (·.m.name)

structure RelOut (env : List Entry) (r : List HTok) (out : List PTok) : Prop where
  toks : r.map (·.tok) = ppTokens out
  sup : ∀ t ∈ r, ∀ x ∈ disabledNames env, x ∈ t.hide

/-- if `t` names an enabled macro, it carries no paint but the names of the disabled entries -/
def ExactTok (env : List Entry) (t : HTok) : Prop :=
  ∀ n, t.tok = .id n → (∃ e ∈ env, e.m.name = n ∧ e.disabled = false) → ∀ x ∈ t.hide, x ∈ disabledNames env

def Exact (env : List Entry) (ls : List HTok) : Prop := ∀ t ∈ ls, ExactTok env t

theorem ppTokens_nil : ppTokens [] = [] := rfl

theorem ppTokens_cons_ws (t : PTok) (l : List PTok) (h : t.tok.isWhitespace = true) :
    ppTokens (t :: l) = ppTokens l := by
  simp [ppTokens, h]

theorem ppTokens_cons (t : PTok) (l : List PTok) (h : t.tok.isWhitespace = false) :
    ppTokens (t :: l) = t.tok :: ppTokens l := by
  simp [ppTokens, h]

theorem ppTokens_append (a b : List PTok) : ppTokens (a ++ b) = ppTokens a ++ ppTokens b := by
  simp [ppTokens]

theorem ppTokens_eq_nil_iff {l : List PTok} : ppTokens l = [] ↔ ∀ t ∈ l, t.tok.isWhitespace = true := by
  simp [ppTokens, List.filter_eq_nil_iff]

theorem firstTok_eq_head (l : List PTok) : firstTok l = (ppTokens l).head? := by
  fun_induction firstTok l
  case case1 => rfl
  case case2 t r hw ih => rw [ppTokens_cons_ws t r hw]; exact ih
  case case3 t r hw => rw [ppTokens_cons t r (by simpa using hw)]; rfl

theorem ppTokens_trimStart (l : List PTok) : ppTokens (trimStart l) = ppTokens l := by
  induction l with
  | nil => rfl
  | cons t r ih =>
    unfold trimStart at ih ⊢
    rw [List.dropWhile_cons]
    split
    · rename_i hb
      rw [ih, ppTokens_cons_ws t r (blank_isWhitespace _ hb)]
    · rfl

theorem ppTokens_trimStartAll (l : List PTok) : ppTokens (trimStartAll l) = ppTokens l := by
  obtain ⟨W, hW, hws, _⟩ := ws_split l
  have := congrArg ppTokens hW
  rw [ppTokens_append, ppTokens_eq_nil_iff.mpr hws, List.nil_append] at this
  exact this.symm

theorem ppTokens_reverse (l : List PTok) : ppTokens l.reverse = (ppTokens l).reverse := by
  simp [ppTokens, List.filter_reverse]

theorem ppTokens_trimEnd (l : List PTok) : ppTokens (trimEnd l) = ppTokens l := by
  unfold trimEnd
  have := ppTokens_trimStart l.reverse
  unfold trimStart at this
  rw [ppTokens_reverse, this, ppTokens_reverse, List.reverse_reverse]

theorem ppTokens_trim (l : List PTok) : ppTokens (trim l) = ppTokens l := by
  unfold trim
  rw [ppTokens_trimEnd, ppTokens_trimStart]

theorem mem_ppTokens {l : List PTok} {k : Tok} (h : k ∈ ppTokens l) : ∃ t ∈ l, t.tok = k := by
  simp only [ppTokens, List.mem_map, List.mem_filter] at h
  obtain ⟨t, ⟨ht, _⟩, rfl⟩ := h
  exact ⟨t, ht, rfl⟩

theorem mem_disabledNames {env : List Entry} {x : String} :
    x ∈ disabledNames env ↔ ∃ e ∈ env, e.disabled = true ∧ e.m.name = x := by
  simp [disabledNames, and_assoc]

theorem specTable_disable (env : List Entry) (mi : Nat) : specTable (disable env mi) = specTable env := by
  apply List.ext_getElem?
  intro j
  simp only [specTable, List.getElem?_map, disable_getElem?]
  cases env[j]? with
  | none => rfl
  | some e => simp only [Option.map_some]; split <;> rfl

theorem disabledNames_disable {env : List Entry} {mi : Nat} {e : Entry} (hmi : env[mi]? = some e) (x : String) :
    x ∈ disabledNames (disable env mi) ↔ x = e.m.name ∨ x ∈ disabledNames env := by
  simp only [mem_disabledNames]
  constructor
  · rintro ⟨e', he', hd, hn⟩
    obtain ⟨j, hj⟩ := List.mem_iff_getElem?.mp he'
    rw [disable_getElem?] at hj
    cases hget : env[j]? with
    | none => simp [hget] at hj
    | some e0 =>
      simp only [hget, Option.map_some, Option.some.injEq] at hj
      by_cases hjm : j = mi
      · subst hjm
        rw [hmi] at hget; cases hget
        simp only [if_true] at hj
        left; rw [← hn, ← hj]
      · simp only [hjm, if_false] at hj
        subst hj
        right; exact ⟨e0, List.mem_of_getElem? hget, hd, hn⟩
  · rintro (rfl | ⟨e0, he0, hd, hn⟩)
    · refine ⟨{ e with disabled := true }, ?_, rfl, rfl⟩
      apply List.mem_of_getElem? (i := mi)
      rw [disable_getElem?, hmi]; simp
    · obtain ⟨j, hj⟩ := List.mem_iff_getElem?.mp he0
      refine ⟨if j = mi then { e0 with disabled := true } else e0, ?_, ?_, ?_⟩
      · apply List.mem_of_getElem? (i := j)
        rw [disable_getElem?, hj]; rfl
      · split
        · rfl
        · exact hd
      · split <;> exact hn

theorem find_specTable_some {env : List Entry} {n : String} {m : SMacro} (h : find (specTable env) n = some m) :
    ∃ e ∈ env, m = ofMacro e.m ∧ e.m.name = n := by
  unfold find at h
  have hmem := List.mem_of_find?_eq_some h
  have hp := List.find?_some h
  simp only [specTable, List.mem_map] at hmem
  obtain ⟨e, he, rfl⟩ := hmem
  exact ⟨e, he, rfl, by simpa [ofMacro] using hp⟩

theorem find_specTable_none {env : List Entry} {n : String} (h : find (specTable env) n = none) :
    ∀ e ∈ env, e.m.name ≠ n := by
  unfold find at h
  rw [List.find?_eq_none] at h
  intro e he hn
  exact h (ofMacro e.m) (by simp only [specTable, List.mem_map]; exact ⟨e, he, rfl⟩) (by simpa [ofMacro] using hn)

/-- the first entry of a name is what the reference's `find` answers -/
theorem find_specTable_first (pre post : List Entry) (e : Entry) (hpre : ∀ x ∈ pre, x.m.name ≠ e.m.name) :
    find (specTable (pre ++ e :: post)) e.m.name = some (ofMacro e.m) := by
  unfold find specTable
  rw [List.map_append, List.find?_append]
  have h1 : List.find? (fun x => x.name == e.m.name) (pre.map (fun e => ofMacro e.m)) = none := by
    rw [List.find?_eq_none]
    intro x hx
    simp only [List.mem_map] at hx
    obtain ⟨e0, he0, rfl⟩ := hx
    simpa [ofMacro] using hpre e0 he0
  rw [h1]
  simp [ofMacro]

theorem find_specTable_selects {env : List Entry} {n : String} {mi : Nat} {e : Entry} (h : Selects env n mi e) :
    find (specTable env) n = some (ofMacro e.m) := by
  obtain ⟨henv, _, hpre⟩ := selects_split h
  rw [henv, ← h.name]
  exact find_specTable_first _ _ e hpre

theorem paramName_inj {i j : Nat} (h : paramName i = paramName j) : i = j := by
  unfold paramName at h
  have := congrArg String.length h
  simpa using this

theorem indexOfName_param (i n s : Nat) (h1 : s ≤ i) (h2 : i < s + n) :
    indexOfName (paramName i) ((List.range' s n).map paramName) s = some i := by
  induction n generalizing s with
  | zero => omega
  | succ n ih =>
    rw [List.range'_succ, List.map_cons, indexOfName]
    by_cases h : paramName i = paramName s
    · simp [paramName_inj h]
    · simp only [h, if_false]
      have : i ≠ s := fun hh => h (by rw [hh])
      exact ih (s + 1) (by omega) (by omega)

theorem indexOfName_none (x : String) (l : List Nat) (k : Nat) (h : ∀ i, x ≠ paramName i) :
    indexOfName x (l.map paramName) k = none := by
  induction l generalizing k with
  | nil => rfl
  | cons a r ih => simp [indexOfName, h a, ih]

def paramNames (np : Nat) : List String := (List.range np).map paramName

theorem paramIndex_arg (np i : Nat) (h : i < np) : paramIndex (paramNames np) (specBodyTok (.arg i)) = some i := by
  simp only [specBodyTok, paramIndex, paramNames, List.range_eq_range']
  exact indexOfName_param i np 0 (Nat.zero_le _) (by omega)

theorem paramIndex_other (np : Nat) (k : Tok) (h1 : ∀ i, k ≠ .arg i)
    (h2 : ∀ s, k = .id s → ∀ i, s ≠ paramName i) : paramIndex (paramNames np) (specBodyTok k) = none := by
  cases k with
  | arg i => exact absurd rfl (h1 i)
  | id s => simp only [specBodyTok, paramIndex, paramNames]; exact indexOfName_none s _ 0 (h2 s rfl)
  | _ => rfl

theorem substitute_mem_body (mb : List PTok) (args' : List (List PTok)) (body' : List PTok)
    (h : substitute mb args' = .ok body') (t : PTok) (ht : t ∈ mb) (hna : ∀ i, t.tok ≠ .arg i) : t ∈ body' :=
  substitute_mem mb args' body' h t ht hna

/-- a successful `substitute` on `t :: r`: `r` is substituted too, and `t` is a parameter, replaced by its argument, or stays -/
theorem substitute_cons_ok {t : PTok} {r : List PTok} {args' : List (List PTok)} {body' : List PTok}
    (h : substitute (t :: r) args' = .ok body') :
    ∃ r', substitute r args' = .ok r' ∧
      ((∃ i a, t.tok = .arg i ∧ args'[i]? = some a ∧ body' = a ++ r') ∨ ((∀ i, t.tok ≠ .arg i) ∧ body' = t :: r')) := by
  generalize hl : t :: r = l at h
  revert h
  fun_cases substitute l args' <;> intro h <;> cases hl <;> cases h
  case case3.refl.refl i a r' hget hi hs => exact ⟨r', hs, Or.inl ⟨i, a, hi, hget, rfl⟩⟩
  case case5.refl.refl r' hnarg hs => exact ⟨r', hs, Or.inr ⟨hnarg, rfl⟩⟩

theorem substitute_arg_defined (mb : List PTok) (args' : List (List PTok)) (body' : List PTok)
    (h : substitute mb args' = .ok body') (t : PTok) (ht : t ∈ mb) (i : Nat) (hi : t.tok = .arg i) :
    i < args'.length := by
  fun_induction substitute mb args' generalizing body' <;> try cases h
  case case1 => cases ht
  case case3 j hj a hget r' hs ih =>
    rcases List.mem_cons.mp ht with rfl | ht
    · rw [hi] at hj; cases hj
      exact (List.getElem?_eq_some_iff.mp hget).1
    · exact ih r' hs ht
  case case5 r' hs hnarg ih =>
    rcases List.mem_cons.mp ht with rfl | ht
    · exact absurd hi (hnarg i)
    · exact ih r' hs ht

/-- what `collectArgs` returns comes out of its input: the tokens of the arguments, and the hide set of the `)` -/
theorem collectArgs_mem (lts : List HTok) (d : Nat) (lcur : List HTok) (lacc : List (List HTok))
    {largs : List (List HTok)} {hs' : List String} {lrest : List HTok}
    (h : collectArgs lts d lcur lacc = some (largs, hs', lrest)) :
    (∀ t ∈ largs.flatten, t ∈ lacc.flatten ++ lcur ++ lts) ∧ ∃ tr ∈ lts, tr.hide = hs' := by
  fun_induction collectArgs lts d lcur lacc
  case case1 => cases h
  case case3 t rest cur acc _ =>
    -- the closing parenthesis
    cases h
    exact ⟨fun x hx => List.mem_append_left _ (by simpa using hx), t, by simp, rfl⟩
  case case5 t rest cur acc _ ih =>
    -- a comma that ends the current argument
    obtain ⟨h1, tr, htr, hh⟩ := ih h
    refine ⟨fun x hx => ?_, tr, List.mem_cons_of_mem _ htr, hh⟩
    rcases List.mem_append.mp (h1 x hx) with h2 | h2
    · exact List.mem_append_left _ (by simpa using h2)
    · exact List.mem_append_right _ (List.mem_cons_of_mem _ h2)
  all_goals
    -- the token joins the current argument
    rename_i ih
    obtain ⟨h1, tr, htr, hh⟩ := ih h
    exact ⟨fun x hx => by simpa only [List.append_assoc, List.singleton_append] using h1 x hx, tr,
      List.mem_cons_of_mem _ htr, hh⟩

/-- the reference's arguments spell the model's, white space aside -/
def ArgsRel (lacc : List (List HTok)) (acc : List (List PTok)) : Prop :=
  lacc.map (·.map (·.tok)) = acc.map ppTokens

theorem argsRel_nil : ArgsRel [] [] := rfl

theorem argsRel_snoc {lacc : List (List HTok)} {acc : List (List PTok)} (h : ArgsRel lacc acc) (la : List HTok)
    (a : List PTok) (hla : la.map (·.tok) = ppTokens a) : ArgsRel (lacc ++ [la]) (acc ++ [a]) := by
  unfold ArgsRel at h ⊢
  simp [h, hla]

theorem ArgsRel.length {lacc : List (List HTok)} {acc : List (List PTok)} (h : ArgsRel lacc acc) :
    lacc.length = acc.length := by
  simpa using congrArg List.length h

theorem ArgsRel.get {lacc : List (List HTok)} {acc : List (List PTok)} (h : ArgsRel lacc acc) {i : Nat}
    {la : List HTok} (hla : lacc[i]? = some la) : ∃ a, acc[i]? = some a ∧ la.map (·.tok) = ppTokens a := by
  have := congrArg (·[i]?) h.symm
  simp only [List.getElem?_map, hla, Option.map_some] at this
  obtain ⟨a, ha, hpa⟩ := Option.map_eq_some_iff.mp this
  exact ⟨a, ha, hpa.symm⟩

theorem scanArgs_collect (ts : List PTok) :
    ∀ (cur : List PTok) (acc : List (List PTok)) (d : Nat) (rest' : List PTok) (args : List (List PTok)),
    scanArgs ts cur acc d = .ok (rest', args) →
    ∀ (lts lcur : List HTok) (lacc : List (List HTok)),
    lts.map (·.tok) = ppTokens ts → lcur.map (·.tok) = ppTokens cur → ArgsRel lacc acc →
    ∃ largs hs' lrest, collectArgs lts d lcur lacc = some (largs, hs', lrest) ∧
      lrest.map (·.tok) = ppTokens rest' ∧ ArgsRel largs args := by
  induction ts with
  | nil => intro cur acc d rest' args h; simp [scanArgs] at h
  | cons t ts ih =>
    intro cur acc d rest' args h lts lcur lacc h1 h2 h3
    by_cases hw : t.tok.isWhitespace = true
    · -- white space goes into the current argument and is invisible to the reference
      have hne : d = 0 → t.tok ≠ .rparen ∧ t.tok ≠ .comma :=
        fun _ => ⟨fun hh => (by rw [hh] at hw; cases hw), fun hh => (by rw [hh] at hw; cases hw)⟩
      have hd : depthAfter t.tok d = d := by
        cases htk : t.tok <;> simp [htk, Tok.isWhitespace] at hw <;> rfl
      rw [scanArgs_push t ts cur acc d hne, hd] at h
      rw [ppTokens_cons_ws t ts hw] at h1
      have h2' : lcur.map (·.tok) = ppTokens (cur ++ [t]) := by
        rw [ppTokens_append, ppTokens_cons_ws t [] hw, ppTokens_nil, List.append_nil]; exact h2
      exact ih _ _ _ _ _ h lts lcur lacc h1 h2' h3
    · have hw' : t.tok.isWhitespace = false := by simpa using hw
      rw [ppTokens_cons t ts hw'] at h1
      obtain ⟨lt, lts', rfl, hlt, h1'⟩ := List.map_eq_cons_iff.mp h1
      rcases scanArgs_cases t.tok d with ⟨htk, rfl⟩ | ⟨htk, rfl⟩ | hne
      · -- the closing parenthesis
        rw [scanArgs_close t ts cur acc htk] at h
        cases h
        rw [collectArgs_close lt lts' lcur lacc (hlt.trans htk)]
        exact ⟨lacc ++ [lcur], lt.hide, lts', rfl, h1',
          argsRel_snoc h3 lcur (trim cur) (by rw [ppTokens_trim]; exact h2)⟩
      · -- a comma that ends the current argument
        rw [scanArgs_comma t ts cur acc htk] at h
        rw [collectArgs_comma lt lts' lcur lacc (hlt.trans htk)]
        exact ih _ _ _ _ _ h lts' [] (lacc ++ [lcur]) h1' rfl
          (argsRel_snoc h3 lcur (trim cur) (by rw [ppTokens_trim]; exact h2))
      · -- the token is pushed onto the current argument on both sides
        rw [scanArgs_push t ts cur acc d hne] at h
        rw [collectArgs_push lt lts' lcur lacc d (by rw [hlt]; exact hne), hlt]
        have h2push : (lcur ++ [lt]).map (·.tok) = ppTokens (cur ++ [t]) := by
          rw [ppTokens_append, ppTokens_cons t [] hw', ppTokens_nil, List.map_append, h2, List.map_cons, hlt]; rfl
        exact ih _ _ _ _ _ h lts' (lcur ++ [lt]) lacc h1' h2push h3

theorem exists_list {α β : Type} (l : List α) (P : Nat → α → β → Prop)
    (h : ∀ (i : Nat) (a : α), l[i]? = some a → ∃ b, P i a b) :
    ∃ bs : List β, bs.length = l.length ∧ ∀ (i : Nat) (a : α) (b : β), l[i]? = some a → bs[i]? = some b → P i a b := by
  induction l generalizing P with
  | nil => exact ⟨[], rfl, fun i a b ha => by simp at ha⟩
  | cons a0 as ih =>
    obtain ⟨b0, hb0⟩ := h 0 a0 (by simp)
    obtain ⟨bs, hlen, hbs⟩ := ih (fun i => P (i + 1)) (fun i a ha => h (i + 1) a (by simpa using ha))
    refine ⟨b0 :: bs, by simp [hlen], ?_⟩
    intro i a b ha hb
    cases i with
    | zero => simp at ha hb; subst ha; subst hb; exact hb0
    | succ j => exact hbs j a b (by simpa using ha) (by simpa using hb)

theorem last_tok_split (R : List PTok) (pre : List Tok) (k : Tok) (h : ppTokens R = pre ++ [k]) :
    ∃ R0 b R1, R = R0 ++ ⟨k, b⟩ :: R1 ∧ ∀ t ∈ R1, t.tok.isWhitespace = true := by
  have hex : ∃ t ∈ R, t.tok.isWhitespace = false := by
    apply Classical.byContradiction
    intro hne
    rw [ppTokens_eq_nil_iff.mpr fun t ht => by simpa using fun hh => hne ⟨t, ht, hh⟩] at h
    simp at h
  obtain ⟨R0, g, R1, hR, hg, hws⟩ := last_nonws_split R hex
  rw [hR, ppTokens_append, ppTokens_cons g R1 hg, ppTokens_eq_nil_iff.mpr hws] at h
  have := (List.append_inj' h rfl).2
  cases this
  exact ⟨R0, g.located, R1, hR, hws⟩

theorem not_painted {env : List Entry} {n : String} {mi : Nat} {e : Entry} (hsel : Selects env n mi e)
    (ts : HTok) (hsub : ∀ x ∈ ts.hide, x ∈ disabledNames env) : ts.hide.contains n = false := by
  apply Bool.eq_false_iff.mpr
  intro hc
  have hmem : n ∈ ts.hide := by simpa using hc
  obtain ⟨e', he', hd, hn⟩ := mem_disabledNames.mp (hsub n hmem)
  obtain ⟨j, hj⟩ := List.mem_iff_getElem?.mp he'
  have := hsel.uniq j e' hj hn
  subst this
  rw [hsel.get] at hj
  cases hj
  rw [hsel.enabled] at hd
  cases hd


theorem fixArgs_eq (np : Nat) (largs : List (List HTok)) (args : List (List PTok)) (hrel : ArgsRel largs args)
    (har : if np = 0 then ∃ a, args = [a] ∧ trimStartAll a = [] else args.length = np) :
    fixArgs (paramNames np) largs = largs.take np ∧ (largs.take np).length = np := by
  by_cases hnp : np = 0
  · simp only [hnp, if_true] at har
    subst hnp
    obtain ⟨a0, har, ha0⟩ := har
    have : largs = [[]] := by
      rw [ArgsRel, har, List.map_singleton, ← ppTokens_trimStartAll a0, ha0] at hrel
      simpa [List.map_eq_cons_iff, ppTokens_nil] using hrel
    subst this
    simp [fixArgs, paramNames]
  · simp only [hnp, if_false] at har
    have hne : ¬ (paramNames np).isEmpty = true := by
      simp [paramNames, hnp]
    have hlen : largs.length = np := by rw [hrel.length, har]
    have htake : largs.take np = largs := List.take_of_length_le (by omega)
    rw [htake]
    simp [fixArgs, hne, hlen]

theorem startsParen_of_head {rest : List PTok} {ls' : List HTok} (htoks' : ls'.map (·.tok) = ppTokens rest)
    (h : List String) (rest'' : List HTok) (heq : ls' = ⟨.lparen, h⟩ :: rest'') : startsParen rest = true := by
  unfold startsParen; rw [firstTok_eq_head, ← htoks', heq]; rfl

/-- `Kept` on the model side is `KeepS` on the reference side, when the reference's list starts with `(` only where
the model's does -/
theorem keepS_of_kept {env : List Entry} {t : PTok} {rest : List PTok} {ts : HTok} {ls' : List HTok}
    (hk : Kept env t rest) (hts : ts.tok = t.tok)
    (hparen : ∀ h rest'', ls' = ⟨.lparen, h⟩ :: rest'' → startsParen rest = true)
    (hsup : ∀ x ∈ disabledNames env, x ∈ ts.hide) : KeepS (specTable env) ts ls' := by
  intro n hn
  have htn : t.tok = .id n := by rw [← hts]; exact hn
  cases hfind : find (specTable env) n with
  | none => exact Or.inr (Or.inl rfl)
  | some m =>
    obtain ⟨e, he, hm, hname⟩ := find_specTable_some hfind
    rcases hk.2 n htn e he hname with hd | ⟨hf, hsp⟩
    · left
      have : n ∈ ts.hide := hsup n (mem_disabledNames.mpr ⟨e, he, hd, hname⟩)
      simpa using this
    · right; right
      refine ⟨m, paramNames e.m.numParams, rfl, by rw [hm]; simp [ofMacro, hf, paramNames], ?_⟩
      intro hh rest'' heq
      rw [hparen hh rest'' heq] at hsp
      cases hsp

/-- a list none of whose tokens starts an operation is left as it is by the reference: the very same tokens, with the
hide sets they had -/
theorem allKept_sexp {env : List Entry} : ∀ (a : List PTok), AllKept env a → ∀ la, la.map (·.tok) = ppTokens a →
    (∀ t ∈ la, ∀ x ∈ disabledNames env, x ∈ t.hide) → SExp (specTable env) la la
  | [], _, la, htoks, _ => by
    have : la = [] := by simpa [ppTokens_nil] using htoks
    subst this; exact SExp.nil
  | t :: rest, hk, la, htoks, hsup => by
    by_cases hw : t.tok.isWhitespace = true
    · exact allKept_sexp rest hk.2 la (by rw [← ppTokens_cons_ws t rest hw]; exact htoks) hsup
    · have hw' : t.tok.isWhitespace = false := by simpa using hw
      rw [ppTokens_cons t rest hw'] at htoks
      obtain ⟨ts, ls', rfl, hts, htoks'⟩ := List.map_eq_cons_iff.mp htoks
      exact SExp.keep ts ls' ls' (keepS_of_kept hk.1 hts (startsParen_of_head htoks') (hsup ts (by simp)))
        (allKept_sexp rest hk.2 ls' htoks' fun x hx => hsup x (by simp [hx]))


end RsslVerif.Lemmas.MacroTameSpec
