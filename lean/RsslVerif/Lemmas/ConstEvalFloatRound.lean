import RsslVerif.Lemmas.ConstEvalArith
import RsslVerif.Lemmas.Dec2BinMono
/-!
# The float primitives of the constant-evaluator model are IEEE-754 correct (C13)

`Model.ConstEvalFloat.round f neg m e` — the bit pattern the model uses for Rust's `z as f32`, `z as f64`
(integer → float) and `v as f32` (binary64 → binary32) — is proved equal to the sign bit plus
`Spec.Dec2Bin.nearestRat`, the reference rounding of property C10, applied to the exact rational `m · 2^e`.
`nearestRat` is proved (Lemmas/Dec2BinNearest) to return exactly what IEEE 754 prescribes for
round-to-nearest-ties-to-even (`IsNearestEven`: nearest representable value, ties to the even significand,
gradual underflow, overflow to infinity), so the same holds for the model's `round`.

`toIntSat` (Rust `v as i32` / `v as u32`) is characterised as: truncation toward zero of the exact value,
clamped to the target range, NaN ↦ 0.
-/
namespace RsslVerif.Lemmas.ConstEvalFloat
open RsslVerif.Model.ConstEvalFloat
open RsslVerif.Spec.Dec2Bin (nearestRat chooseExp scale roundQuot encode IsNearestEven
  chooseExp_ge roundQuot_norm chooseExp_dyadic scale_eq roundQuot_dyadic roundQuot_congr
  nearestRat_pos nearestRat_isNearestEven)

/-- the format as the rounding reference sees it: precision with the hidden bit, exponent of the last place of
the subnormals, width of the exponent field -/
def toSpec (f : Fmt) : RsslVerif.Spec.Dec2Bin.Fmt := ⟨f.mant + 1, f.emin, f.exp⟩

theorem toSpec_f32 : toSpec f32 = RsslVerif.Spec.Dec2Bin.binary32 := by decide
theorem toSpec_f64 : toSpec f64 = RsslVerif.Spec.Dec2Bin.binary64 := by decide

/-- numerator and denominator of the exact value `m · 2^e` -/
def num (m : Nat) (e : Int) : Nat := m * 2 ^ e.toNat
def den (e : Int) : Nat := 2 ^ (-e).toNat

theorem bitLen_pos {m : Nat} (hm : 0 < m) : bitLen m = Nat.log2 m + 1 := by
  unfold bitLen; rw [if_neg (by omega)]

/-- rounding `m / 2^sh` (`sh ≥ 1`) to nearest-even, in the shape the model computes it -/
theorem roundQuot_pow (m sh : Nat) (hsh : 1 ≤ sh) :
    roundQuot m (2 ^ sh) =
      (if m % 2 ^ sh > 2 ^ (sh - 1) || (m % 2 ^ sh == 2 ^ (sh - 1) && m / 2 ^ sh % 2 == 1)
       then m / 2 ^ sh + 1 else m / 2 ^ sh) := by
  unfold roundQuot
  dsimp only
  have hp : 2 ^ sh = 2 * 2 ^ (sh - 1) := by
    have : sh = (sh - 1) + 1 := by omega
    conv => lhs; rw [this, Nat.pow_succ, Nat.mul_comm]
  generalize m % 2 ^ sh = r
  generalize m / 2 ^ sh = t
  rw [hp]
  generalize 2 ^ (sh - 1) = h
  by_cases c1 : r > h
  · simp [c1]
  · by_cases c2 : r = h
    · subst c2
      by_cases c3 : t % 2 = 1
      · simp [c3]
      · simp [c3]
    · simp [c1, c2]
      omega

/-- the exponent of the last place the model picks (`e + bitLen m - p`, clamped to `emin`) -/
def lastPlace (f : Fmt) (m : Nat) (e : Int) : Int :=
  if e + bitLen m - ((f.mant + 1 : Nat) : Int) < f.emin then f.emin else e + bitLen m - ((f.mant + 1 : Nat) : Int)

theorem num_pos {m : Nat} (e : Int) (hm : 0 < m) : 0 < num m e := Nat.mul_pos hm (Nat.two_pow_pos _)
theorem den_pos (e : Int) : 0 < den e := Nat.two_pow_pos _

/-- **the model and the reference choose the same exponent** -/
theorem chooseExp_eq (f : Fmt) (hp : 1 ≤ f.mant) (m : Nat) (e : Int) (hm : 0 < m) :
    chooseExp (toSpec f) (num m e) (den e) = lastPlace f m e := by
  rw [num, den, chooseExp_dyadic (toSpec f) (by show 2 ≤ f.mant + 1; omega) m e hm, lastPlace, bitLen_pos hm]
  rfl

/-- the significand the model computes at last place `q`: exact when `q ≤ e`, else `m / 2^(q-e)` rounded on the
remainder (more than half, or half and odd → up) -/
def mantAt (m : Nat) (e q : Int) : Nat :=
  if q ≤ e then m * 2 ^ (e - q).toNat
  else
    let sh := (q - e).toNat
    let t := m / 2 ^ sh
    let r := m % 2 ^ sh
    let half := 2 ^ (sh - 1)
    if r > half || (r == half && t % 2 == 1) then t + 1 else t

/-- exponent field and significand put together, carry into the field, saturation to infinity -/
def pack (f : Fmt) (s mant : Nat) (q : Int) : Nat :=
  let field : Nat := (q - f.emin).toNat
  let bits := if mant < 2 ^ f.mant then mant else (field + 1) * 2 ^ f.mant + (mant - 2 ^ f.mant)
  if bits ≥ f.expMax * 2 ^ f.mant then s + f.expMax * 2 ^ f.mant else s + bits

theorem round_unfold (f : Fmt) (neg : Bool) (m : Nat) (e : Int) :
    round f neg m e =
      (if m = 0 then (if neg then f.signBit else 0)
       else pack f (if neg then f.signBit else 0) (mantAt m e (lastPlace f m e)) (lastPlace f m e)) := by
  rfl

/-- **same significand**: dividing exactly by `2^q` and rounding the quotient to nearest-even is what the model does -/
theorem roundQuot_scale (m : Nat) (e q : Int) :
    roundQuot (scale (num m e) (den e) q).1 (scale (num m e) (den e) q).2 = mantAt m e q := by
  unfold mantAt
  by_cases hq : q ≤ e
  · rw [if_pos hq]
    exact roundQuot_dyadic m hq
  · rw [if_neg hq, scale_eq]
    unfold num den
    dsimp only
    have hsh : 1 ≤ (q - e).toNat := by omega
    -- the same value as `m / 2^(q-e)`
    have hv : m * 2 ^ e.toNat * 2 ^ (-q).toNat * 2 ^ (q - e).toNat = m * (2 ^ (-e).toNat * 2 ^ q.toNat) := by
      rw [Nat.mul_assoc, Nat.mul_assoc, ← Nat.pow_add, ← Nat.pow_add, ← Nat.pow_add]; congr 2; omega
    rw [roundQuot_congr _ _ m _ (Nat.mul_pos (Nat.two_pow_pos _) (Nat.two_pow_pos _)) (Nat.two_pow_pos _) hv, roundQuot_pow _ _ hsh]

/-- **the reference rounding of a dyadic value `m · 2^e`**: at the exponent it chooses, the significand is the one
the model computes -/
theorem nearestRat_dyadic (F : RsslVerif.Spec.Dec2Bin.Fmt) (m : Nat) (e : Int) (hm : 0 < m) :
    nearestRat F (num m e) (den e) =
      Nat.min (encode F (mantAt m e (chooseExp F (num m e) (den e))) (chooseExp F (num m e) (den e))) F.infBits := by
  rw [nearestRat_pos F _ (num_pos e hm), roundQuot_scale]

/-- a significand that has its leading bit wherever the last place is above `emin` packs to the reference encoding,
saturated at infinity: below `2^mant` the exponent field is 0, otherwise the hidden bit is the carry into the field -/
theorem pack_eq_encode (f : Fmt) (s mant : Nat) (q : Int) (hge : f.emin ≤ q) (hnorm : f.emin < q → 2 ^ f.mant ≤ mant) :
    pack f s mant q = s + Nat.min (encode (toSpec f) mant q) (toSpec f).infBits := by
  unfold pack encode RsslVerif.Spec.Dec2Bin.Fmt.infBits Fmt.expMax toSpec
  simp only [Nat.add_sub_cancel]
  generalize 2 ^ f.mant = P at hnorm ⊢
  generalize (2 ^ f.exp - 1) * P = I
  have henc : (if mant < P then mant else ((q - f.emin).toNat + 1) * P + (mant - P)) = (q - f.emin).toNat * P + mant := by
    by_cases hlt : mant < P
    · have hq : q = f.emin := by
        by_cases h : f.emin < q
        · have := hnorm h; omega
        · omega
      subst hq
      simp [hlt]
    · rw [if_neg hlt, Nat.add_mul, Nat.one_mul]
      omega
  rw [henc]
  generalize (q - f.emin).toNat * P + mant = enc
  show (if enc ≥ I then s + I else s + enc) = s + min enc I
  split <;> omega

/-- **`round` is the reference rounding**: the model's bit pattern for `± m · 2^e` is the sign bit plus
`nearestRat` of the exact rational, for every format with at least one stored significand bit. -/
theorem round_eq_nearestRat (f : Fmt) (hp : 1 ≤ f.mant) (neg : Bool) (m : Nat) (e : Int) :
    round f neg m e = (if neg then f.signBit else 0) + nearestRat (toSpec f) (num m e) (den e) := by
  rw [round_unfold]
  by_cases hm : m = 0
  · subst hm
    simp [nearestRat, num]
  · rw [if_neg hm]
    have hm' : 0 < m := Nat.pos_of_ne_zero hm
    -- same last place, same significand, and the significand is normal above `emin`
    have hnorm := (roundQuot_norm (toSpec f) (by show 2 ≤ f.mant + 1; omega) _ _ (num_pos e hm') (den_pos e)).2
    have hge := chooseExp_ge (toSpec f) (num m e) (den e)
    rw [nearestRat_dyadic _ m e hm']
    rw [chooseExp_eq f hp m e hm', roundQuot_scale] at hnorm
    rw [chooseExp_eq f hp m e hm'] at hge ⊢
    exact pack_eq_encode f _ _ _ hge hnorm

/-- **round to nearest, ties to even**: for a positive magnitude the model's bit pattern (sign bit aside) is what
IEEE 754 prescribes — nearest representable value, even significand on a tie, gradual underflow, overflow to ∞ -/
theorem round_isNearestEven (f : Fmt) (hp : 1 ≤ f.mant) (he : 2 ≤ f.exp) (m : Nat) (e : Int) (hm : 0 < m) :
    IsNearestEven (toSpec f) (num m e) (den e) (round f false m e) := by
  rw [round_eq_nearestRat f hp]
  simp only [Bool.false_eq_true, if_false, Nat.zero_add]
  exact nearestRat_isNearestEven (toSpec f) (by show 2 ≤ f.mant + 1; omega) he _ _ (num_pos e hm) (den_pos e)

theorem round_neg (f : Fmt) (hp : 1 ≤ f.mant) (m : Nat) (e : Int) :
    round f true m e = f.signBit + round f false m e := by
  rw [round_eq_nearestRat f hp, round_eq_nearestRat f hp]; simp

/-- Rust `z as f32` / `z as f64` for an integer `z`: the correctly rounded value of `|z|` with the sign of `z` -/
theorem ofInt_eq (f : Fmt) (hp : 1 ≤ f.mant) (z : Int) :
    ofInt f z = (if z < 0 then f.signBit else 0) + nearestRat (toSpec f) z.natAbs 1 := by
  unfold ofInt
  rw [round_eq_nearestRat f hp]
  have h1 : num z.natAbs 0 = z.natAbs := by simp [num]
  have h2 : den 0 = 1 := by simp [den]
  rw [h1, h2]
  by_cases hz : z < 0 <;> simp [hz]

theorem ofInt_isNearestEven (f : Fmt) (hp : 1 ≤ f.mant) (he : 2 ≤ f.exp) (z : Int) (hz : 0 < z) :
    IsNearestEven (toSpec f) z.natAbs 1 (ofInt f z) := by
  rw [ofInt_eq f hp]
  have : ¬ z < 0 := by omega
  simp only [this, if_false, Nat.zero_add]
  exact nearestRat_isNearestEven (toSpec f) (by show 2 ≤ f.mant + 1; omega) he _ _ (by omega) (by omega)

/-- Rust `v as f32` (binary64 → binary32) and `v as f64` on a finite value `± m · 2^e`: correctly rounded -/
theorem convert_fin (src dst : Fmt) (hp : 1 ≤ dst.mant) (bits : Nat) (n : Bool) (m : Nat) (e : Int)
    (hd : decode src bits = .fin n m e) :
    convert src dst bits = (if n then dst.signBit else 0) + nearestRat (toSpec dst) (num m e) (den e) := by
  unfold convert
  rw [hd]
  exact round_eq_nearestRat dst hp n m e

/-- infinities stay infinities of the same sign -/
theorem convert_inf (src dst : Fmt) (bits : Nat) (n : Bool) (hd : decode src bits = .inf n) :
    convert src dst bits = (if n then dst.signBit else 0) + dst.expMax * 2 ^ dst.mant := by
  unfold convert; rw [hd]

/-- the two shapes of a finite pattern: subnormal (exponent field 0) and normal -/
theorem decode_fin (f : Fmt) (bits : Nat) (n : Bool) (m : Nat) (e : Int) (hd : decode f bits = .fin n m e) :
    (m = bits % 2 ^ f.mant ∧ e = f.emin) ∨
    (m = 2 ^ f.mant + bits % 2 ^ f.mant ∧ bits / 2 ^ f.mant % 2 ^ f.exp ≠ f.expMax ∧
      e = f.emin + ((bits / 2 ^ f.mant % 2 ^ f.exp - 1 : Nat) : Int)) := by
  -- `decode` binds its fields by `let`: the outputs are reverted so that they can be set to them
  revert n m e
  fun_cases decode f bits <;> intro n m e hd <;> cases hd
  · exact .inl ⟨rfl, rfl⟩
  · rename_i hne _; exact .inr ⟨rfl, by simpa using hne, rfl⟩

theorem decode_f32_bounds (bits : Nat) (n : Bool) (m : Nat) (e : Int) (hd : decode f32 bits = .fin n m e) :
    m < 2 ^ 24 ∧ -149 ≤ e ∧ e ≤ 104 := by
  have h1 : bits / 2 ^ 23 % 2 ^ 8 < 2 ^ 8 := Nat.mod_lt _ (by decide)
  have h2 : bits % 2 ^ 23 < 2 ^ 23 := Nat.mod_lt _ (by decide)
  have hm : f32.mant = 23 := rfl
  have hx : f32.exp = 8 := rfl
  have hmax : f32.expMax = 255 := by decide
  have hemin : f32.emin = -149 := by decide
  rcases decode_fin f32 bits n m e hd with ⟨rfl, rfl⟩ | ⟨rfl, hne, rfl⟩
  · rw [hm, hemin]; omega
  · rw [hm, hx, hmax] at hne
    rw [hm, hx, hemin]
    omega

/-- `Spec.Dec2Bin.decode` and the model's `decode` read a non-negative finite binary64 pattern the same way -/
theorem decode_f64_spec (bits : Nat) (h : bits < RsslVerif.Spec.Dec2Bin.binary64.infBits) :
    decode f64 bits = .fin false (RsslVerif.Spec.Dec2Bin.decode RsslVerif.Spec.Dec2Bin.binary64 bits).1
      (RsslVerif.Spec.Dec2Bin.decode RsslVerif.Spec.Dec2Bin.binary64 bits).2 := by
  have hinf : RsslVerif.Spec.Dec2Bin.binary64.infBits = 2047 * 2 ^ 52 := by decide
  rw [hinf] at h
  have hsign : bits / f64.signBit % 2 = 0 := by
    have : f64.signBit = 2 ^ 63 := by decide
    rw [this]
    have : bits / 2 ^ 63 = 0 := Nat.div_eq_of_lt (by omega)
    omega
  have hex : bits / 2 ^ 52 < 2047 := by
    apply Nat.div_lt_of_lt_mul; omega
  have hexm : bits / 2 ^ 52 % 2 ^ 11 = bits / 2 ^ 52 := Nat.mod_eq_of_lt (by omega)
  unfold decode RsslVerif.Spec.Dec2Bin.decode
  have hm : f64.mant = 52 := rfl
  have hx : f64.exp = 11 := rfl
  have hmax : f64.expMax = 2047 := by decide
  have hemin : f64.emin = -1074 := by decide
  have hp : RsslVerif.Spec.Dec2Bin.binary64.p - 1 = 52 := by decide
  have hse : RsslVerif.Spec.Dec2Bin.binary64.emin = -1074 := by decide
  simp only [hm, hx, hmax, hemin, hp, hse, hsign, hexm]
  have hne : ¬ (bits / 2 ^ 52 = 2047) := by omega
  by_cases h0 : bits / 2 ^ 52 = 0
  · simp [h0]
  · simp [hne, h0]
    omega

/-- saturation to `[lo, hi]` -/
def clamp (lo hi v : Int) : Int := if v < lo then lo else if hi < v then hi else v

/-- Rust `v as i32` / `v as u32` on a finite `± m · 2^e`: there is a magnitude `mag = ⌊m · 2^e⌋` (the exact value
truncated toward zero: `mag ≤ m·2^e < mag + 1`, cross-multiplied) and the result is `± mag` clamped to the range -/
theorem toIntSat_fin (lo hi : Int) (n : Bool) (m : Nat) (e : Int) :
    ∃ mag : Nat, mag * den e ≤ num m e ∧ num m e < (mag + 1) * den e ∧
      toIntSat lo hi (.fin n m e) = clamp lo hi (if n then -(mag : Int) else mag) := by
  by_cases he : 0 ≤ e
  · refine ⟨m * 2 ^ e.toNat, ?_, ?_, ?_⟩
    · have : (-e).toNat = 0 := by omega
      simp [num, den, this]
    · have : (-e).toNat = 0 := by omega
      simp [num, den, this]
    · simp only [toIntSat, he, if_true, clamp]
  · refine ⟨m / 2 ^ (-e).toNat, ?_, ?_, ?_⟩
    · have : e.toNat = 0 := by omega
      simp only [num, den, this, Nat.pow_zero, Nat.mul_one]
      exact Nat.div_mul_le_self m _
    · have : e.toNat = 0 := by omega
      simp only [num, den, this, Nat.pow_zero, Nat.mul_one]
      have h2 := Nat.lt_div_mul_add (a := m) (b := 2 ^ (-e).toNat) (Nat.two_pow_pos _)
      rw [Nat.add_mul, Nat.one_mul]; omega
    · simp only [toIntSat, he, if_false, clamp]

theorem toIntSat_nan (lo hi : Int) (n : Bool) (p : Nat) : toIntSat lo hi (.nan n p) = 0 := rfl
theorem toIntSat_inf (lo hi : Int) (n : Bool) : toIntSat lo hi (.inf n) = (if n then lo else hi) := rfl

end RsslVerif.Lemmas.ConstEvalFloat
