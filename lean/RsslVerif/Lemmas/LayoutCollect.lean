import RsslVerif.Model.LayoutCollect
/-!
The collection loops of `check_layout` (C19).  A global and a function are classified once (`globalRef`, `fnAct`); `collect` pushes
the matched references in order, globals first, or panics at the first function with a matched intrinsic and other template data
(`collect_eq`).  A push only adds and keeps `types_seen` = the ids of `types_to_check` (`push_spec`), so every global / function
the loops match leaves an entry with its type id, and every entry stems from one.
-/
namespace RsslVerif.Lemmas.LayoutCollect
open RsslVerif.Gen.LayoutTables RsslVerif.Model.Layout RsslVerif.Model.LayoutCollect

/-- `types_seen` = ids of `types_to_check` -/
def Inv (a : Acc) : Prop := ∀ n, n ∈ a.seen ↔ ∃ e ∈ a.list, e.ref.id = n

theorem inv_empty : Inv ⟨[], []⟩ := by
  intro n; simp

/-- one `push`: nothing is lost, the tie between the two fields is kept, what is new is the pushed reference -/
theorem push_spec (a : Acc) (r : TyRef) (loc : String) :
    (∀ e, e ∈ a.list → e ∈ (a.push r loc).list) ∧ (Inv a → Inv (a.push r loc)) ∧
    ∀ e, e ∈ (a.push r loc).list → e ∈ a.list ∨ e.ref = r := by
  unfold Acc.push
  split
  · exact ⟨fun _ h => h, id, fun _ h => .inl h⟩
  · refine ⟨fun e he => by simp [he], fun hi n => ?_, fun e he => ?_⟩
    · simp only [List.mem_cons, List.mem_append, List.not_mem_nil, or_false, hi n]
      constructor
      · rintro (h | ⟨e, he, hn⟩)
        · exact ⟨⟨r, loc⟩, .inr rfl, h.symm⟩
        · exact ⟨e, .inl he, hn⟩
      · rintro ⟨e, he | he, hn⟩
        · exact .inr ⟨e, he, hn⟩
        · exact .inl (he ▸ hn).symm
    · rcases List.mem_append.mp he with he | he
      · exact .inl he
      · exact .inr ((List.mem_singleton.mp he) ▸ rfl)

theorem push_has (a : Acc) (hi : Inv a) (r : TyRef) (loc : String) :
    ∃ e ∈ (a.push r loc).list, e.ref.id = r.id := by
  unfold Acc.push
  split
  · rename_i hc
    exact (hi r.id).1 (by simpa using hc)
  · exact ⟨⟨r, loc⟩, by simp, rfl⟩

/-- the global is one the loop matches, with element reference `r` -/
def GlobalHit (g : Global) (r : TyRef) : Prop :=
  ∃ k, peel globalPeelOps g.ty = .object k (some r) ∧ checkedObjects.contains k = true

/-- the function is one the loop matches, with type argument `r` -/
def FnHit (f : Fn) (r : TyRef) : Prop :=
  ∃ i, f.intrinsic = some i ∧ checkedIntrinsics.contains i = true ∧ f.template = some [.type r] ∧
    (fnLoopSkipsDependent && isDependent r.ty) = false

/-- the reference the global loop pushes for `g` -/
def globalRef (g : Global) : Option TyRef :=
  match peel globalPeelOps g.ty with
  | .object k (some r) => if checkedObjects.contains k then some r else none
  | _ => none

/-- what the function loop does with `f` -/
inductive FnAct where
  | pass
  | push (r : TyRef)
  | bad (i : String)

def fnAct (f : Fn) : FnAct :=
  match f.intrinsic with
  | none => .pass
  | some i =>
    if !checkedIntrinsics.contains i then .pass
    else match f.template with
      | none => .pass
      | some [.type r] => if fnLoopSkipsDependent && isDependent r.ty then .pass else .push r
      | some _ => .bad i

theorem stepGlobal_eq (a : Acc) (g : Global) :
    stepGlobal a g = match globalRef g with | some r => a.push r g.loc | none => a := by
  unfold stepGlobal globalRef
  generalize peel globalPeelOps g.ty = t
  cases t with
  | object k e =>
    cases e with
    | none => rfl
    | some r => simp only []; cases checkedObjects.contains k <;> rfl
  | _ => rfl

theorem stepFn_eq (a : Acc) (f : Fn) :
    stepFn a f = match fnAct f with
      | .pass => .ok a
      | .push r => .ok (a.push r (typeLocation r))
      | .bad i => .error (.panic ("invalid " ++ i ++ " intrinsic")) := by
  obtain ⟨fi, ft⟩ := f
  cases fi with
  | none => rfl
  | some i =>
    simp only [stepFn, fnAct]
    cases checkedIntrinsics.contains i with
    | false => rfl
    | true =>
      match ft with
      | none => rfl
      | some [] => rfl
      | some [.const] => rfl
      | some [.type r] => simp only []; cases (fnLoopSkipsDependent && isDependent r.ty) <;> rfl
      | some (x :: _ :: _) => cases x <;> rfl

theorem globalHit_iff {g : Global} {r : TyRef} : GlobalHit g r ↔ globalRef g = some r := by
  unfold GlobalHit
  constructor
  · rintro ⟨k, hk, hc⟩
    unfold globalRef
    rw [hk]; simp only [hc, if_true]
  · fun_cases globalRef g <;> intro h <;> cases h
    next k hc hk => exact ⟨k, hk, hc⟩

theorem fnHit_iff {f : Fn} {r : TyRef} : FnHit f r ↔ fnAct f = .push r := by
  unfold FnHit
  constructor
  · rintro ⟨i, h1, h2, h3, h4⟩
    unfold fnAct
    rw [h1]
    simp only [h2, Bool.not_true, Bool.false_eq_true, if_false, h3, h4]
  · fun_cases fnAct f <;> intro h <;> cases h
    next i hi hc ht hd => exact ⟨i, hi, by simpa using hc, ht, by simpa using hd⟩

/-- the pushes of the two loops -/
def gItems (gs : List Global) : List (TyRef × String) := gs.filterMap fun g => (globalRef g).map (·, g.loc)

def fItem (f : Fn) : Option (TyRef × String) :=
  match fnAct f with
  | .push r => some (r, typeLocation r)
  | _ => none

def isBad (f : Fn) : Option String :=
  match fnAct f with
  | .bad i => some i
  | _ => none

def pushAll (xs : List (TyRef × String)) (a : Acc) : Acc := xs.foldl (fun a x => a.push x.1 x.2) a

theorem pushAll_spec (xs : List (TyRef × String)) (a : Acc) :
    (∀ e, e ∈ a.list → e ∈ (pushAll xs a).list) ∧
    ∀ e, e ∈ (pushAll xs a).list → e ∈ a.list ∨ ∃ x ∈ xs, x.1 = e.ref := by
  induction xs generalizing a with
  | nil => exact ⟨fun _ h => h, fun _ h => .inl h⟩
  | cons x xs ih =>
    obtain ⟨m1, _, o1⟩ := push_spec a x.1 x.2
    obtain ⟨m2, o2⟩ := ih (a.push x.1 x.2)
    refine ⟨fun e h => m2 e (m1 e h), fun e h => ?_⟩
    rcases o2 e h with h' | ⟨y, hy, he⟩
    · exact (o1 e h').imp_right fun he => ⟨x, List.mem_cons_self .., he.symm⟩
    · exact .inr ⟨y, List.mem_cons_of_mem _ hy, he⟩

theorem pushAll_hit (xs : List (TyRef × String)) (a : Acc) (hi : Inv a) (x : TyRef × String) (hx : x ∈ xs) :
    ∃ e ∈ (pushAll xs a).list, e.ref.id = x.1.id := by
  induction xs generalizing a with
  | nil => cases hx
  | cons y xs ih =>
    rcases List.mem_cons.1 hx with rfl | hx
    · obtain ⟨e, he, hid⟩ := push_has a hi x.1 x.2
      exact ⟨e, (pushAll_spec xs _).1 e he, hid⟩
    · exact ih _ ((push_spec a y.1 y.2).2.1 hi) hx

theorem foldl_stepGlobal (gs : List Global) (a : Acc) : gs.foldl stepGlobal a = pushAll (gItems gs) a := by
  induction gs generalizing a with
  | nil => rfl
  | cons g gs ih =>
    rw [List.foldl_cons, ih, stepGlobal_eq]
    unfold gItems
    rw [List.filterMap_cons]
    cases globalRef g <;> rfl

theorem foldFns_eq (fs : List Fn) (a : Acc) :
    foldFns fs a = match fs.findSome? isBad with
      | some i => .error (.panic ("invalid " ++ i ++ " intrinsic"))
      | none => .ok (pushAll (fs.filterMap fItem) a) := by
  induction fs generalizing a with
  | nil => rfl
  | cons f fs ih =>
    rw [foldFns, stepFn_eq, List.findSome?_cons, List.filterMap_cons]
    unfold isBad fItem
    cases fnAct f with
    | pass => exact ih a
    | push r => exact ih _
    | bad i => rfl

/-- **`types_to_check`**: the matched references of the globals, then of the functions, pushed in order -/
theorem collect_eq (m : Module) :
    collect m = match m.fns.findSome? isBad with
      | some i => .error (.panic ("invalid " ++ i ++ " intrinsic"))
      | none => .ok (pushAll (gItems m.globals ++ m.fns.filterMap fItem) ⟨[], []⟩).list := by
  unfold collect
  rw [foldFns_eq, foldl_stepGlobal]
  cases m.fns.findSome? isBad with
  | some i => rfl
  | none => simp only [pushAll, List.foldl_append]

theorem mem_gItems {gs : List Global} {x : TyRef × String} :
    x ∈ gItems gs ↔ ∃ g ∈ gs, GlobalHit g x.1 ∧ x.2 = g.loc := by
  simp only [gItems, List.mem_filterMap, Option.map_eq_some_iff, globalHit_iff]
  constructor
  · rintro ⟨g, hg, r, hr, rfl⟩; exact ⟨g, hg, hr, rfl⟩
  · rintro ⟨g, hg, hr, hl⟩; exact ⟨g, hg, x.1, hr, by rw [← hl]⟩

theorem mem_fItems {fs : List Fn} {x : TyRef × String} :
    x ∈ fs.filterMap fItem ↔ ∃ f ∈ fs, FnHit f x.1 ∧ x.2 = typeLocation x.1 := by
  simp only [List.mem_filterMap, fnHit_iff]
  constructor
  · rintro ⟨f, hf, h⟩
    revert h
    fun_cases fItem f <;> intro h <;> cases h
    next hr => exact ⟨f, hf, hr, rfl⟩
  · rintro ⟨f, hf, hr, hl⟩
    exact ⟨f, hf, by unfold fItem; rw [hr]; simp only [Option.some.injEq]; rw [← hl]⟩

theorem collect_ok {m : Module} {l : List Entry} (h : collect m = .ok l) :
    l = (pushAll (gItems m.globals ++ m.fns.filterMap fItem) ⟨[], []⟩).list := by
  rw [collect_eq] at h
  split at h <;> cases h
  rfl

/-- every reference the loops match leaves an entry with its type id -/
theorem collect_hit (m : Module) (l : List Entry) (h : collect m = .ok l) (r : TyRef)
    (hh : (∃ g ∈ m.globals, GlobalHit g r) ∨ (∃ f ∈ m.fns, FnHit f r)) : ∃ e ∈ l, e.ref.id = r.id := by
  rw [collect_ok h]
  rcases hh with ⟨g, hg, hh⟩ | ⟨f, hf, hh⟩
  · exact pushAll_hit _ _ inv_empty (r, g.loc) (List.mem_append_left _ (mem_gItems.2 ⟨g, hg, hh, rfl⟩))
  · exact pushAll_hit _ _ inv_empty (r, typeLocation r) (List.mem_append_right _ (mem_fItems.2 ⟨f, hf, hh, rfl⟩))

theorem collect_origin (m : Module) (l : List Entry) (h : collect m = .ok l) (e : Entry) (he : e ∈ l) :
    (∃ g ∈ m.globals, GlobalHit g e.ref) ∨ (∃ f ∈ m.fns, FnHit f e.ref) := by
  rw [collect_ok h] at he
  rcases (pushAll_spec _ _).2 e he with h' | ⟨x, hx, hr⟩
  · cases h'
  · rw [← hr]
    rcases List.mem_append.1 hx with hx | hx
    · obtain ⟨g, hg, hh, _⟩ := mem_gItems.1 hx; exact .inl ⟨g, hg, hh⟩
    · obtain ⟨f, hf, hh, _⟩ := mem_fItems.1 hx; exact .inr ⟨f, hf, hh⟩

end RsslVerif.Lemmas.LayoutCollect
