import RsslVerif.Lemmas.GenMslGen
import RsslVerif.Lemmas.IrTypeInv
import RsslVerif.Lemmas.GenSemExpr
import RsslVerif.Lemmas.IrKeeps
/-! Metal exporter, expressions: how Metal reads the emitted constants, one simulation lemma (`SimM`) per kind of
expression, and `get_type` against the type checker's type. -/
namespace RsslVerif.Lemmas.GenMsl
open RsslVerif.Gen.HlslGenTables RsslVerif.Gen.MslGenTables RsslVerif.Model RsslVerif.Model.GenMsl RsslVerif.Spec.Sem
open RsslVerif.Model.Ir (Ty Var Const Dir)
open RsslVerif.Model.GenHlsl (GenErr)

theorem wrap64_min : Msl.wrap64 (-2147483648) = -2147483648 := by decide

/-! ### how Metal reads an unsuffixed integer literal and its negation: `int` below 2^31, `long` below 2^63 -/

theorem eval_intLit_int (M : Msl.MWorld) (env : Ast.Env) {n : Nat} (h : n < 2147483648) :
    Msl.typeOf M.msig env (.lit (.intUntyped n)) = some .int ∧
      ∀ σ, Msl.eval M env (.lit (.intUntyped n)) σ = some (.i (BitVec.ofNat 32 n), σ) :=
  ⟨by simp [Msl.typeOf, Msl.litTy, h], fun σ => by simp [Msl.eval, Msl.litTy, Msl.litVal, h]⟩

theorem eval_intLit_long (M : Msl.MWorld) (env : Ast.Env) {n : Nat} (h1 : ¬ n < 2147483648) (h2 : n < 9223372036854775808) :
    Msl.typeOf M.msig env (.lit (.intUntyped n)) = some .lit ∧
      ∀ σ, Msl.eval M env (.lit (.intUntyped n)) σ = some (.lit n, σ) :=
  ⟨by simp [Msl.typeOf, Msl.litTy, h1, h2], fun σ => by simp [Msl.eval, Msl.litTy, Msl.litVal, h1, h2]⟩

theorem eval_neg_intLit_int (M : Msl.MWorld) (env : Ast.Env) {n : Nat} (h : n < 2147483648) :
    Msl.typeOf M.msig env (.un .Minus (.lit (.intUntyped n))) = some .int ∧
      ∀ σ, Msl.eval M env (.un .Minus (.lit (.intUntyped n))) σ = some (.i (-(BitVec.ofNat 32 n)), σ) :=
  ⟨by simp [Msl.typeOf, Msl.litTy, h, astUnSem, Msl.promote],
   fun σ => by
    simp [Msl.eval, Msl.typeOf, Msl.litTy, Msl.litVal, h, astUnSem, Msl.promote, Msl.convR, Msl.convert, Msl.unopM, unop]⟩

theorem eval_neg_intLit_long (M : Msl.MWorld) (env : Ast.Env) {n : Nat} (h1 : ¬ n < 2147483648) (h2 : n < 9223372036854775808) :
    Msl.typeOf M.msig env (.un .Minus (.lit (.intUntyped n))) = some .lit ∧
      ∀ σ, Msl.eval M env (.un .Minus (.lit (.intUntyped n))) σ = some (.lit (Msl.wrap64 (-(n : Int))), σ) :=
  ⟨by simp [Msl.typeOf, Msl.litTy, h1, h2, astUnSem, Msl.promote],
   fun σ => by
    simp [Msl.eval, Msl.typeOf, Msl.litTy, Msl.litVal, h1, h2, astUnSem, Msl.promote, Msl.convR, Msl.convert, Msl.unopM]⟩

/-- an integer literal whose value fits `int`, as `generate_literal` emits it (a negative one as the negation of its magnitude), is
read by Metal as the `int` of that value -/
theorem eval_genIntLit_int (M : Msl.MWorld) (env : Ast.Env) {v : Int} (h1 : -2147483648 < v) (h2 : v < 2147483648) :
    ∃ l, GenMsl.genLiteral (.intLit v) = .ok l ∧ Msl.typeOf M.msig env l = some .int ∧
      ∀ σ, Msl.eval M env l σ = some (.i (BitVec.ofInt 32 v), σ) := by
  by_cases hn : v < 0
  · obtain ⟨ht, he⟩ := eval_neg_intLit_int M env (n := (-v).toNat) (by omega)
    refine ⟨_, genLiteral_intLit_neg v hn (by simp only [GenHlsl.u64Max]; omega), ht, fun σ => ?_⟩
    rw [he σ, ofNat_toNat_int _ (by omega), ← BitVec.ofInt_neg, Int.neg_neg]
  · obtain ⟨ht, he⟩ := eval_intLit_int M env (n := v.toNat) (by omega)
    refine ⟨_, genLiteral_intLit_nonneg v (by omega) (by simp only [GenHlsl.u64Max]; omega), ht, fun σ => ?_⟩
    rw [he σ, ofNat_toNat_int v (by omega)]

/-- `generate_literal` for the typed constants: same value; static type the constant's type, except `Int32(i32::MIN)`,
whose magnitude 2147483648 does not fit `int`: the literal is a `long` and so is its negation -/
theorem sim_litM (W : World) (M : Msl.MWorld) (env : Ast.Env) (c : Const) (a : HlslAst.Expr)
    (hc : Ir.scalarTy c.ty = true)
    (hg : GenMsl.genLiteral c = .ok a) : SimM W M env (.lit c) a c.ty := by
  -- the emitted constant has the Metal type and value the relation asks for, at every store
  suffices h : Msl.typeOf M.msig env a = some (mTy (.lit c) c.ty) ∧
      ∀ σ, Msl.eval M env a σ = some (mVal (.lit c) (Ir.constVal c), σ) from ⟨h.1, fun σ => by simp [h.2 σ, Ir.eval]⟩
  cases c with
  | intLit v => cases hc
  | floatLit v => cases hc
  | bool b =>
    rw [genLiteral_bool] at hg; cases hg
    simp [Msl.typeOf, Msl.litTy, mTy, Ir.isMin, Const.ty, Msl.eval, Msl.litVal, Ir.constVal, mVal]
  | float32 x =>
    rw [genLiteral_float32] at hg; cases hg
    simp [Msl.typeOf, Msl.litTy, mTy, Ir.isMin, Const.ty, Msl.eval, Msl.litVal, Ir.constVal, mVal]
  | uint32 v =>
    rw [genLiteral_uint32] at hg; cases hg
    have : v.toNat < 4294967296 := v.isLt
    simp [Msl.typeOf, Msl.litTy, mTy, Ir.isMin, Const.ty, Msl.eval, Msl.litVal, Ir.constVal, mVal, this]
  | int32 v =>
    by_cases h1 : v.toInt < 0
    · rw [genLiteral_int32_neg v h1] at hg; cases hg
      by_cases hm : v = BitVec.intMin 32
      · subst hm
        have e1 : (-(BitVec.intMin 32).toInt).toNat = 2147483648 := by decide
        rw [e1]
        simpa [mTy, mVal, Ir.isMin, wrap64_min] using eval_neg_intLit_long M env (n := 2147483648) (by decide) (by decide)
      · have hmin : (v == BitVec.intMin 32) = false := by simpa using hm
        simpa [mTy, mVal, Ir.isMin, hmin, Const.ty, Ir.constVal, neg_ofNat_of_neg v h1] using
          eval_neg_intLit_int M env (mag_lt v hm)
    · rw [genLiteral_int32_nonneg v h1] at hg; cases hg
      have hmin : (v == BitVec.intMin 32) = false := by
        have : v ≠ BitVec.intMin 32 := by
          intro h; subst h; exact h1 (by decide)
        simpa using this
      simpa [mTy, mVal, Ir.isMin, hmin, Const.ty, Ir.constVal] using eval_intLit_int M env (toNat_lt_of_nonneg v h1)

theorem isShift_eq (m : MBin) : Msl.isShift m = Ir.isShiftM m := by cases m <;> rfl

theorem typeName_tyOfName {ty : Ty} {n : String} (h : GenMsl.typeName ty = .ok n) : Ast.tyOfName n = some ty := by
  cases ty <;> simp [GenMsl.typeName, GenHlsl.scalarKey, mslScalarTypeName] at h <;> first | contradiction | (subst h; rfl)

/-- an lvalue of the subset is a variable in scope: it is emitted as that variable's name, which the frame resolves to it -/
theorem lval_genM {cx : Ctx} {vis : Var → Bool} {env : Ast.Env} (hag : AgreeM cx vis env) {S : Ir.Side} (hS : S.vis = vis)
    {x : Ir.Expr} {x' : HlslAst.Expr} {v : Var}
    (hl : Ir.lvalOf x = some v) (hg : genExpr cx x = .ok x') (hok : Ir.okM S x = true) : Msl.lvalOf env x' = some v := by
  cases x with
  | var id | global id =>
    simp [Ir.lvalOf] at hl; subst hl
    simp [genExpr] at hg; subst hg
    simp only [Ir.okM, hS] at hok
    exact hag.res _ hok
  | _ => simp [Ir.lvalOf] at hl

/-- the name of a variable in scope simulates an expression that reads that variable -/
theorem sim_identM {W : World} {M : Msl.MWorld} {cx : Ctx} {vis : Var → Bool} {env : Ast.Env} (hag : AgreeM cx vis env)
    {v : Var} (hv : vis v = true) {e : Ir.Expr} (he : ∀ σ, Ir.eval W e σ = some (σ v, σ)) (hm : Ir.isMin e = false) :
    SimM W M env e (.ident (cx.name v)) (cx.vty v) := by
  have hr := hag.res v hv
  exact ⟨by simp [Msl.typeOf, hr, hag.vty, mTy, hm], fun σ => by simp [Msl.eval, hr, he σ, mVal, hm]⟩

theorem lval_tyM {sig : Sig} {vty : Var → Ty} {e : Ir.Expr} {t : Ty} {v : Var}
    (ht : Ir.typeOf sig vty e = some t) (hl : Ir.lvalOf e = some v) : vty v = t ∧ Ir.isMin e = false := by
  cases e <;> simp [Ir.lvalOf] at hl <;> subst hl <;> simp [Ir.typeOf] at ht <;> simp [ht, Ir.isMin]

theorem arith_facts {t : Ty} (h : Ir.arithTy (some t) = true) :
    Msl.promote t = t ∧ Msl.common t t = some t ∧ t ≠ .lit ∧ t ≠ .bool := by
  cases t <;> simp [Ir.arithTy] at h <;> simp [Msl.promote, Msl.common]

theorem int_facts {t : Ty} (h : Ir.intTy (some t) = true) :
    Msl.promote t = t ∧ Msl.isInteger t = true ∧ t ≠ .lit := by
  cases t <;> simp [Ir.intTy] at h <;> simp [Msl.promote, Msl.isInteger]

theorem sim_unM {W : World} {M : Msl.MWorld} {env : Ast.Env} {cx : Ctx} {vis : Var → Bool} (hag : AgreeM cx vis env)
    (hp : M.P = W.P) {S : Ir.Side} (hS : S.vis = vis) (hSs : S.sig = W.sig) (hSv : S.vty = cx.vty)
    {o : IntrinsicOp} {u : UnaryOp} {x : Ir.Expr} {x' : HlslAst.Expr} {tx t : Ty}
    (hu : mslOpForm o = .unary u) (hgx : genExpr cx x = .ok x')
    (hx : SimM W M env x x' tx) (htx : Ir.typeOf W.sig cx.vty x = some tx)
    (ht : Ir.typeOf W.sig cx.vty (.op o (.cons x .nil)) = some t)
    (hok : Ir.okM S (.op o (.cons x .nil)) = true) :
    SimM W M env (.op o (.cons x .nil)) (.un u x') t := by
  have hs := op_unaryM hu
  simp only [Ir.okM, Bool.and_eq_true, Bool.not_eq_true', hSs, hSv, htx] at hok
  obtain ⟨⟨hokx, hmin⟩, hcond⟩ := hok
  obtain ⟨hty, hev⟩ := hx.plain hmin
  obtain ⟨htx', hsem'⟩ := Ir.typeOf_op1 ht
  obtain rfl : tx = t := Option.some.inj (htx.symm.trans htx')
  rcases hsem' with ⟨m, hsem, hb⟩ | ⟨pre, inc, hsem, hlv⟩
  · rw [hsem] at hs hcond
    by_cases hm : m = .lnot
    · subst hm
      obtain rfl := hb rfl
      refine .of_plain rfl ?_ fun σ => ?_
      · simp only [Msl.typeOf, hs, hty]
      · simp only [Msl.eval, hs, hty, if_true, convR_selfM, hev, hp, Ir.eval, hsem]
        rfl
    · have hcond' : Ir.arithTy (some tx) = true := by cases m <;> first | exact absurd rfl hm | exact hcond
      obtain ⟨hpr, -, hnl, -⟩ := arith_facts hcond'
      refine .of_plain rfl ?_ fun σ => ?_
      · cases m <;> first | exact absurd rfl hm | simp only [Msl.typeOf, hs, hty, hpr]
      · simp only [Msl.eval, hs, hty, hm, if_false, hpr, convR_selfM, hev, unopM_eq _ m hnl, hp, Ir.eval, hsem]
        rfl
  · rw [hsem] at hs
    obtain ⟨xv, hxv⟩ := Option.isSome_iff_exists.mp hlv
    refine .of_plain rfl ?_ fun σ => ?_
    · simp only [Msl.typeOf, hs, hty]
    · simp only [Msl.eval, hs, lval_genM hag hS hxv hgx hokx, hp, Ir.eval, hsem, hxv]
      rfl

theorem bool_not_min {sig : Sig} {vty : Var → Ty} {e : Ir.Expr}
    (ht : Ir.typeOf sig vty e = some .bool) : Ir.isMin e = false := by
  cases h : Ir.isMin e <;> simp
  have := isMin_ty ht h
  simp at this

section operators
variable {W : World} {M : Msl.MWorld} {env : Ast.Env} {cx : Ctx} {o : IntrinsicOp} {b : BinOp} {x y : Ir.Expr}
  {x' y' : HlslAst.Expr} {tx : Ty}

/-- the operators that compute on two values of one arithmetic type -/
theorem sim_arithM (hp : M.P = W.P) {m : MBin} (hs : astBinSem b = .bin m) (hsem : irOpSem o = .bin m)
    (tyx : Msl.typeOf M.msig env x' = some tx) (evx : ∀ σ, Msl.eval M env x' σ = Ir.eval W x σ)
    (tyy : Msl.typeOf M.msig env y' = some tx) (evy : ∀ σ, Msl.eval M env y' σ = Ir.eval W y σ)
    (hcond : (if Ir.isShiftM m then Ir.intTy (some tx) else Ir.arithTy (some tx)) = true)
    (hnr : ¬(m = MBin.mod ∧ tx = Ty.float)) :
    SimM W M env (.op o (.cons x (.cons y .nil))) (.bin b x' y') (if m.isCmp then .bool else tx) := by
  by_cases hsh : Ir.isShiftM m = true
  · rw [if_pos hsh] at hcond
    obtain ⟨hpr, hint, hnl⟩ := int_facts hcond
    have hncmp : m.isCmp = false := by cases m <;> simp [Ir.isShiftM] at hsh <;> rfl
    refine .of_plain rfl ?_ fun σ => ?_
    · simp [Msl.typeOf, hs, tyx, tyy, isShift_eq, hsh, hpr, hint, hncmp]
    · simp only [Msl.eval, hs, tyx, tyy, isShift_eq, hsh, if_true, hpr, convR_selfM, evx, evy, shiftM_eq _ m hnl, hp,
        Ir.eval, hsem]
      rfl
  · rw [if_neg hsh] at hcond
    obtain ⟨-, hcm, hnl, -⟩ := arith_facts hcond
    refine .of_plain rfl ?_ fun σ => ?_
    · simp only [Msl.typeOf, hs, tyx, tyy, isShift_eq, hsh, if_false, hcm, hnr]
      cases m.isCmp <;> rfl
    · simp only [Msl.eval, hs, tyx, tyy, isShift_eq, hsh, hcm, convR_selfM, evx, evy, binopM_eq _ hnl hnr, hp,
        Ir.eval, hsem]
      rfl

/-- `&&`, `||`: both operands are `bool` and no conversion happens -/
theorem sim_logicM (hs : astBinSem b = irOpSem o) (hsem : irOpSem o = .land ∨ irOpSem o = .lor)
    (tyx : Msl.typeOf M.msig env x' = some .bool) (evx : ∀ σ, Msl.eval M env x' σ = Ir.eval W x σ)
    (tyy : Msl.typeOf M.msig env y' = some .bool) (evy : ∀ σ, Msl.eval M env y' σ = Ir.eval W y σ) :
    SimM W M env (.op o (.cons x (.cons y .nil))) (.bin b x' y') .bool := by
  refine .of_plain rfl ?_ fun σ => ?_
  · rcases hsem with hsem | hsem <;> simp only [Msl.typeOf, hs, hsem, tyx, tyy]
  · rcases hsem with hsem | hsem <;> simp only [Msl.eval, hs, hsem, tyx, tyy, convR_selfM, evx, evy, Ir.eval] <;> rfl

/-- `=`: the right side is converted to the declared type of the variable, which is its own type -/
theorem sim_assignM (hs : astBinSem b = .assign) (hsem : irOpSem o = .assign) {xv : Var}
    (hxv : Ir.lvalOf x = some xv) (hl' : Msl.lvalOf env x' = some xv) (hvx : env.vty xv = tx)
    (tyx : Msl.typeOf M.msig env x' = some tx)
    (hy : SimM W M env y y' tx) (hty : Ir.typeOf W.sig cx.vty y = some tx) :
    SimM W M env (.op o (.cons x (.cons y .nil))) (.bin b x' y') tx := by
  refine .of_plain rfl ?_ fun σ => ?_
  · simp only [Msl.typeOf, hs, tyx, hy.1]
  · simp only [Msl.eval, hs, hl', hy.1, hvx, hy.conv hty, Ir.eval, hsem, hxv]
    rfl

/-- the compound assignments: the operator on the variable's value, stored back -/
theorem sim_compoundM (hp : M.P = W.P) {m : MBin} (hs : astBinSem b = .compound m) (hsem : irOpSem o = .compound m) {xv : Var}
    (hxv : Ir.lvalOf x = some xv) (hl' : Msl.lvalOf env x' = some xv) (hvx : env.vty xv = tx)
    (tyx : Msl.typeOf M.msig env x' = some tx)
    (tyy : Msl.typeOf M.msig env y' = some tx) (evy : ∀ σ, Msl.eval M env y' σ = Ir.eval W y σ)
    (hcond : (if Ir.isShiftM m then Ir.intTy (some tx) else Ir.arithTy (some tx)) = true)
    (hnr : ¬(m = MBin.mod ∧ tx = Ty.float)) :
    SimM W M env (.op o (.cons x (.cons y .nil))) (.bin b x' y') tx := by
  by_cases hsh : Ir.isShiftM m = true
  · rw [if_pos hsh] at hcond
    obtain ⟨hpr, -, hnl⟩ := int_facts hcond
    have hnm : m ≠ MBin.mod := by cases m <;> simp [Ir.isShiftM] at hsh <;> simp
    refine .of_plain rfl ?_ fun σ => ?_
    · simp [Msl.typeOf, hs, tyx, tyy, hnm]
    · simp only [Msl.eval, hs, hl', tyy, isShift_eq, hsh, if_true, hvx, hpr, convR_selfM, convert_selfM, evy,
        shiftM_eq _ m hnl, hp, Ir.eval, hsem, hxv]
      rfl
  · rw [if_neg hsh] at hcond
    obtain ⟨-, hcm, hnl, -⟩ := arith_facts hcond
    refine .of_plain rfl ?_ fun σ => ?_
    · simp [Msl.typeOf, hs, tyx, tyy, hcm, hnr]
    · simp only [Msl.eval, hs, hl', tyy, isShift_eq, hsh, hvx, hcm, convR_selfM, convert_selfM, evy,
        binopM_eq _ hnl hnr, hp, Ir.eval, hsem, hxv]
      rfl

end operators

theorem sim_binM {W : World} {M : Msl.MWorld} {env : Ast.Env} {cx : Ctx} {vis : Var → Bool} (hag : AgreeM cx vis env)
    (hp : M.P = W.P) {S : Ir.Side} (hS : S.vis = vis) (hSs : S.sig = W.sig) (hSv : S.vty = cx.vty)
    {o : IntrinsicOp} {b : BinOp} {x y : Ir.Expr} {x' y' : HlslAst.Expr} {ty t : Ty}
    (hs : astBinSem b = irOpSem o) (hgx : genExpr cx x = .ok x')
    (hx : SimM W M env x x' ty) (htx : Ir.typeOf W.sig cx.vty x = some ty)
    (hy : SimM W M env y y' ty) (hty : Ir.typeOf W.sig cx.vty y = some ty)
    (ht : Ir.typeOf W.sig cx.vty (.op o (.cons x (.cons y .nil))) = some t)
    (hok : Ir.okM S (.op o (.cons x (.cons y .nil))) = true)
    (hrem : (irOpSem o = .bin .mod ∨ irOpSem o = .compound .mod) → ty ≠ .float) :
    SimM W M env (.op o (.cons x (.cons y .nil))) (.bin b x' y') t := by
  simp only [Ir.okM, Bool.and_eq_true, Bool.not_eq_true', Bool.or_eq_true, decide_eq_true_eq, hSs, hSv, htx] at hok
  obtain ⟨⟨⟨⟨hokx, -⟩, hminx⟩, hminy⟩, hcond⟩ := hok
  obtain ⟨tyx, evx⟩ := hx.plain hminx
  obtain ⟨ta, htx', -, hk⟩ := Ir.typeOf_op2 ht
  obtain rfl : ty = ta := Option.some.inj (htx.symm.trans htx')
  have hvx : ∀ {xv}, Ir.lvalOf x = some xv → env.vty xv = ty := fun h => (congrFun hag.vty _).trans (lval_tyM htx h).1
  rcases hk with ⟨m, hsem, rfl⟩ | ⟨hsem, rfl, rfl⟩ | ⟨hsem, hlv, rfl⟩ | ⟨m, hsem, hlv, -, rfl⟩
  · obtain ⟨tyy, evy⟩ := hy.plain (by simpa [hsem] using hminy)
    exact sim_arithM hp (hs.trans hsem) hsem tyx evx tyy evy (by simpa [hsem] using hcond)
      (fun h => hrem (.inl (by rw [hsem, h.1])) h.2)
  · obtain ⟨tyy, evy⟩ := hy.plain (bool_not_min hty)
    exact sim_logicM hs hsem tyx evx tyy evy
  · obtain ⟨xv, hxv⟩ := Option.isSome_iff_exists.mp hlv
    exact sim_assignM (hs.trans hsem) hsem hxv (lval_genM hag hS hxv hgx hokx) (hvx hxv) tyx hy hty
  · obtain ⟨xv, hxv⟩ := Option.isSome_iff_exists.mp hlv
    obtain ⟨tyy, evy⟩ := hy.plain (by simpa [hsem] using hminy)
    exact sim_compoundM hp (hs.trans hsem) hsem hxv (lval_genM hag hS hxv hgx hokx) (hvx hxv) tyx tyy evy
      (by simpa [hsem] using hcond) (fun h => hrem (.inr (by rw [hsem, h.1])) h.2)

theorem sim_fmodM {W : World} {M : Msl.MWorld} {env : Ast.Env} {cx : Ctx} (hp : M.P = W.P)
    {S : Ir.Side} (hSs : S.sig = W.sig) (hSv : S.vty = cx.vty)
    {o : IntrinsicOp} (hsem : irOpSem o = .bin .mod) {x y : Ir.Expr} {x' y' : HlslAst.Expr} {t : Ty}
    (hx : SimM W M env x x' .float) (htx : Ir.typeOf W.sig cx.vty x = some .float)
    (hy : SimM W M env y y' .float) (hty : Ir.typeOf W.sig cx.vty y = some .float)
    (ht : Ir.typeOf W.sig cx.vty (.op o (.cons x (.cons y .nil))) = some t)
    (hok : Ir.okM S (.op o (.cons x (.cons y .nil))) = true) :
    SimM W M env (.op o (.cons x (.cons y .nil))) (.call Msl.fmodName (.cons x' (.cons y' .nil))) t := by
  simp only [Ir.okM, Bool.and_eq_true, Bool.not_eq_true', Bool.or_eq_true, decide_eq_true_eq, hSs, hSv, htx, hsem] at hok
  obtain ⟨⟨⟨-, hminx⟩, hminy⟩, -⟩ := hok
  simp only [Ir.typeOf, htx, hty, hsem] at ht
  simp [MBin.isCmp] at ht
  subst ht
  obtain ⟨tyx, evx⟩ := hx.plain hminx
  obtain ⟨tyy, evy⟩ := hy.plain (by simpa using hminy)
  refine .of_plain rfl ?_ fun σ => ?_
  · simp [Msl.typeOf, Msl.argTypes, tyx, tyy]
  · simp only [Msl.eval, beq_self_eq_true, if_true, Msl.evalFmod, tyx, tyy, convR_selfM, evx, evy, hp, Ir.eval, hsem]
    rfl

theorem sim_castM {W : World} {M : Msl.MWorld} {env : Ast.Env} {cx : Ctx} (hp : M.P = W.P)
    {S : Ir.Side} (hSs : S.sig = W.sig) (hSv : S.vty = cx.vty)
    {ty : Ty} {n : String} {x : Ir.Expr} {x' : HlslAst.Expr} {tx t : Ty}
    (hn : GenMsl.typeName ty = .ok n)
    (hx : SimM W M env x x' tx) (htx : Ir.typeOf W.sig cx.vty x = some tx)
    (ht : Ir.typeOf W.sig cx.vty (.cast ty x) = some t)
    (hok : Ir.okM S (.cast ty x) = true) :
    SimM W M env (.cast ty x) (.cast n x') t := by
  simp only [Ir.okM, Bool.and_eq_true, hSs, hSv, htx] at hok
  obtain ⟨⟨-, hsc⟩, hnl⟩ := hok
  obtain ⟨-, -, rfl, -, -⟩ := Ir.typeOf_cast ht
  have htn := typeName_tyOfName hn
  refine .of_plain rfl ?_ fun σ => ?_
  · simp only [Msl.typeOf, hx.1, htn]
  · simp only [Msl.eval, htn, hx.1, hx.castR hp t hsc (by simpa using hnl) σ, Ir.eval]

theorem sim_ternM {W : World} {M : Msl.MWorld} {env : Ast.Env} {cx : Ctx}
    {c f g : Ir.Expr} {c' f' g' : HlslAst.Expr} {t : Ty}
    (hc : SimM W M env c c' .bool) (htc : Ir.typeOf W.sig cx.vty c = some .bool)
    (hf : SimM W M env f f' t) (hg : SimM W M env g g' t)
    (hmf : Ir.isMin f = false) (hmg : Ir.isMin g = false) :
    SimM W M env (.tern c f g) (.tern c' f' g') t := by
  obtain ⟨tyc, evc⟩ := hc.plain (bool_not_min htc)
  obtain ⟨tyf, evf⟩ := hf.plain hmf
  obtain ⟨tyg, evg⟩ := hg.plain hmg
  have hcm : Msl.ternCommon t t = some t := by simp [Msl.ternCommon]
  refine .of_plain rfl ?_ fun σ => ?_
  · simp only [Msl.typeOf, tyc, tyf, tyg, hcm]
  · simp only [Msl.eval, tyc, tyf, tyg, hcm, convR_selfM, evc, evf, evg, Ir.eval]
    rfl

/-- what the induction proves about a `Sequence` -/
def SimSeqM (W : World) (M : Msl.MWorld) (env : Ast.Env) (es : Ir.Exprs) (a : HlslAst.Expr) (t : Ty) : Prop :=
  Msl.typeOf M.msig env a = some t ∧ ∀ σ, Msl.eval M env a σ = Ir.evalSeq W es σ

theorem okMSeq_cons2 (S : Ir.Side) (e e2 : Ir.Expr) (r : Ir.Exprs) :
    Ir.okMSeq S (.cons e (.cons e2 r)) = (Ir.okM S e && Ir.okMSeq S (.cons e2 r)) := by
  rw [Ir.okMSeq]

mutual
theorem exprTy_ok {W : World} {cx : Ctx} (hret : ∀ f rt ps, W.sig f = some (rt, ps) → cx.retTy f = some rt) :
    ∀ (e : Ir.Expr) (t : Ty), Ir.typeOf W.sig cx.vty e = some t → exprTy cx e = some t
  | .lit c, t, h => by simpa [Ir.typeOf, exprTy] using h
  | .var id, t, h => by simpa [Ir.typeOf, exprTy] using h
  | .global id, t, h => by simpa [Ir.typeOf, exprTy] using h
  | .cast ty x, t, h => by
    obtain ⟨_, _, rfl, _⟩ := Ir.typeOf_cast h
    simp [exprTy]
  | .tern c f g, t, h => by simpa [exprTy] using exprTy_ok hret f t (Ir.typeOf_tern h).2.1
  | .seq es, t, h => by simpa [exprTy] using exprTyLast_ok hret es t (by simpa [Ir.typeOf] using h)
  | .call f args, t, h => by
    obtain ⟨ps, hs, _⟩ := Ir.typeOf_call h
    simpa [exprTy] using hret f t ps hs
  | .intr i T ret args, t, h => by
    obtain ⟨rfl, _⟩ := Ir.typeOf_intr h
    simp [exprTy]
  | .op o .nil, t, h => by rw [Ir.typeOf_op_nil] at h; cases h
  | .op o (.cons a .nil), t, h => by
    obtain ⟨ha, hsem⟩ := Ir.typeOf_op1 h
    simp only [exprTy, exprTy_ok hret a t ha, Option.map, opRetTy_sem]
    rcases hsem with ⟨m, hs, hb⟩ | ⟨pre, inc, hs, _⟩
    · rw [hs]; cases m <;> simp_all
    · rw [hs]
  | .op o (.cons a (.cons b .nil)), t, h => by
    obtain ⟨ta, ha, _, hsem⟩ := Ir.typeOf_op2 h
    simp only [exprTy, exprTy_ok hret a ta ha, Option.map, opRetTy_sem]
    rcases hsem with ⟨m, hs, rfl⟩ | ⟨hs | hs, rfl, rfl⟩ | ⟨hs, _, rfl⟩ | ⟨m, hs, _, _, rfl⟩ <;> rw [hs]
  | .op o (.cons a (.cons b (.cons c r))), t, h => by rw [Ir.typeOf_op_many] at h; cases h
theorem exprTyLast_ok {W : World} {cx : Ctx} (hret : ∀ f rt ps, W.sig f = some (rt, ps) → cx.retTy f = some rt) :
    ∀ (es : Ir.Exprs) (t : Ty), Ir.typeOfSeq W.sig cx.vty es = some t → exprTyLast cx es = some t
  | .nil, t, h => by simp [Ir.typeOfSeq] at h
  | .cons e .nil, t, h => by
    rw [Ir.typeOfSeq_single] at h
    simpa [exprTyLast] using exprTy_ok hret e t h
  | .cons e (.cons e2 r), t, h => by
    rw [exprTyLast]
    exact exprTyLast_ok hret (.cons e2 r) t (Ir.typeOfSeq_cons_cons h).2
end

end RsslVerif.Lemmas.GenMsl
