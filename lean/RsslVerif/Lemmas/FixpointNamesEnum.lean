import RsslVerif.Lemmas.FixpointNamesWF
/-!
# An enum value named like a namespace of the scope that contains the enum is refused (fix fe5dd8d)

`register_enum_value` refuses `namespace A {} enum E { A };` (without the fix the value passed and `end_enum` ran into
`assert_eq!(symbols.len(), 1)`).  For the descriptor machine: in every state the machine can reach, for every enum with such a
value — whatever else the enum and the program declare — `exec` records a refusal, the refusal stays, and the verdict of the
compilation is never "all uses resolved".
-/
namespace RsslVerif.Lemmas.FixpointNames
open RsslVerif.Model.FixpointNames

/-- scope `i` of the table has a namespace / enum-scope symbol called `v` -/
def HasScopeSym (T : Table) (i : Nat) (v : String) : Prop :=
  ∃ sc, T[i]? = some sc ∧ (sc.symsOf v).any isScopeSym = true

theorem hasScopeSym_append {T : Table} {i : Nat} {v : String} (h : HasScopeSym T i v) (sc : Scope) :
    HasScopeSym (T ++ [sc]) i v := by
  obtain ⟨s, hs, ha⟩ := h
  exact ⟨s, getElem?_snoc.2 (.inl hs), ha⟩

theorem hasScopeSym_addSym {T : Table} {i : Nat} {v : String} (h : HasScopeSym T i v) (j : Nat) (n : String) (s : Sym) :
    HasScopeSym (addSym T j n s) i v := by
  obtain ⟨sc, hs, ha⟩ := h
  refine ⟨_, modifyAt_getElem?.2 ⟨sc, hs, rfl⟩, ?_⟩
  split
  · simp only [Scope.symsOf, assoc_pushSym]
    split
    · rename_i hvn
      subst hvn
      simp only [Option.getD_some, List.any_append]
      simp only [Scope.symsOf] at ha
      simp [ha]
    · exact ha
  · exact ha

/-- `register_enum_value` on two scopes that exist gives an answer, and the answer is a refusal when the containing scope has
    a namespace / enum-scope symbol of that name -/
theorem enumValueRefused_some {T : Table} {parent es : Nat} {ps : Scope} (v : String) (hps : T[parent]? = some ps)
    (hes : es < T.length) :
    ∃ o, enumValueRefused T parent es v = some o ∧ ((ps.symsOf v).any isScopeSym = true → o ≠ none) := by
  obtain ⟨esc, hesc⟩ := valid_of_lt hes
  unfold enumValueRefused
  rw [hesc, hps]
  simp only
  split
  · exact ⟨_, rfl, fun _ => nofun⟩
  · split
    · exact ⟨_, rfl, fun _ => nofun⟩
    · exact ⟨_, rfl, fun _ => nofun⟩
    · exact ⟨_, rfl, fun _ => nofun⟩
    · exact ⟨_, rfl, fun _ => nofun⟩
    · split
      · exact ⟨_, rfl, fun _ => nofun⟩
      · rename_i hno
        exact ⟨_, rfl, fun ha => absurd ha hno⟩

/-- the values are registered in order; a value named like a namespace of the parent scope is reached unless an earlier one
    is refused -/
theorem firstRefusal_of_mem {vals : List String} {v : String} (hv : v ∈ vals) :
    ∀ {T : Table} {parent es : Nat} (id : Nat), HasScopeSym T parent v → es < T.length →
      ∃ why, firstRefusal T parent es vals id = some (some why) := by
  induction vals with
  | nil => cases hv
  | cons w r ih =>
    intro T parent es id h hes
    obtain ⟨ps, hps, ha⟩ := h
    obtain ⟨o, ho, hr⟩ := enumValueRefused_some w hps hes
    simp only [firstRefusal, ho]
    cases o with
    | some why => exact ⟨why, rfl⟩
    | none =>
      rcases List.mem_cons.mp hv with rfl | hvr
      · exact absurd rfl (hr ha)
      · exact ih hvr (id + 1) (hasScopeSym_addSym (hasScopeSym_addSym ⟨ps, hps, ha⟩ _ _ _) _ _ _)
          (by rw [addSym_length, addSym_length]; exact hes)

/-- **an enum one of whose values is named like a namespace (or enum scope) of the current scope is refused**, in every
    state; the refusal carries the number of uses in front of the enum unless an earlier declaration was refused already -/
theorem exec_en_refused (st : St) (n : String) {vals : List String} {v : String} (hv : v ∈ vals)
    (hns : HasScopeSym st.T st.cur v) :
    ∃ why, (exec st (.en n vals)).refused = st.refused.orElse fun _ => some (st.uses.length, why) := by
  have h0 : HasScopeSym (addSym (addSym (st.T ++ [({ parent := some st.cur } : Scope)]) st.cur n (.scope st.T.length)) st.cur n
      (.ty st.nextId)) st.cur v :=
    hasScopeSym_addSym (hasScopeSym_addSym (hasScopeSym_append hns _) _ _ _) _ _ _
  obtain ⟨why, hw⟩ := firstRefusal_of_mem hv (es := st.T.length) (st.nextId + 1) h0
    (by rw [addSym_length, addSym_length]; simp)
  refine ⟨why, ?_⟩
  simp only [exec, hw, Option.map_some]

theorem exec_refused_isSome (st : St) (i : Instr) (h : st.refused.isSome) : (exec st i).refused.isSome := by
  fun_cases exec st i <;> try exact h
  -- left: an enum that is registered; what it may refuse is recorded behind the refusal there is
  obtain ⟨x, hx⟩ := Option.isSome_iff_exists.mp h
  simp [hx]

theorem verdictOf_of_refused {st : St} (h : st.refused.isSome) (xs : List String) : verdictOf st ≠ .resolved xs := by
  obtain ⟨⟨k, why⟩, hx⟩ := Option.isSome_iff_exists.mp h
  unfold verdictOf
  rw [hx]
  simp only
  split <;> simp_all

/-- **whole programs**: a descriptor that — after any prefix `pre` — declares an enum with a value named like a namespace /
    enum scope of the scope the enum stands in is not accepted, whatever follows (`rest`) -/
theorem run_en_refused (pre rest : List Instr) (n : String) {vals : List String} {v : String} (hv : v ∈ vals)
    (hns : HasScopeSym (run pre).T (run pre).cur v) (xs : List String) :
    verdictOf (run (pre ++ .en n vals :: rest)) ≠ .resolved xs := by
  apply verdictOf_of_refused
  unfold run
  rw [List.foldl_append, List.foldl_cons]
  apply foldl_exec_keeps exec_refused_isSome
  obtain ⟨why, hw⟩ := exec_en_refused (run pre) n hv hns
  unfold run at hw
  rw [hw]
  cases (List.foldl exec {} pre).refused <;> simp

end RsslVerif.Lemmas.FixpointNames
