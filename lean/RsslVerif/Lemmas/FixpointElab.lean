import RsslVerif.Model.Fixpoint
import RsslVerif.Lemmas.ElabInv
/-!
Lemmas for C04 `reelab_no_new_casts`: table facts (`rereadKind`, `opSyn`), the identity conversion, the key lemma `reconv`: what elaboration makes of an exported
*converted operand*.  Core Lean only.
-/
namespace RsslVerif.Lemmas.FixpointElab
open RsslVerif.Gen.RankTable RsslVerif.Gen.TypingTables
open RsslVerif.Model.Conv RsslVerif.Model.Overload RsslVerif.Model.IrTyping RsslVerif.Model.Elab
open RsslVerif.Model.Fixpoint RsslVerif.Lemmas.ElabConv RsslVerif.Lemmas.Elab RsslVerif.Lemmas.ElabInv

/-- every scalar kind is emitted and read back; only `Int32` changes (it has no suffix: `3` is an `IntLiteral`) -/
theorem rereadKind_table : ∀ k, rereadKind? k = some (if k = .int32 then .intLiteral else k) := by
  intro k; cases k <;> decide

theorem rereadKind_eq (k : Scalar) : rereadKind k = if k = .int32 then .intLiteral else k := by
  simp [rereadKind, rereadKind_table]

theorem rereadKind_of_ne {k : Scalar} (h : k ≠ .int32) : rereadKind k = k := by
  simp [rereadKind_eq, h]

theorem rereadKind_int32 : rereadKind .int32 = .intLiteral := by decide

theorem rereadKind_fixed_iff (k : Scalar) : rereadKind k = k ↔ k ≠ .int32 := by
  cases k <;> decide

theorem rereadKind_idem (k : Scalar) : rereadKind (rereadKind k) = rereadKind k := by
  cases k <;> decide

/-- the binary operator nodes the type checker builds are printed with the operator they were written with -/
theorem opSyn_bin : ∀ (b : BinOp) (i : IOp), b.toIOp = some i → opSyn i = some (.bin b) :=
  fun b => (by decide +kernel : ∀ b ∈ BinOp.all, ∀ i, b.toIOp = some i → opSyn i = some (.bin b)) b
    (by cases b <;> decide)

theorem opSyn_bin_inv {b o : BinOp} {i : IOp} (h : opSyn i = some (.bin b)) (ho : o.toIOp = some i) : b = o := by
  rw [opSyn_bin o i ho] at h
  simp at h
  exact h.symm

theorem opSyn_not_un_of_bin {o : BinOp} {i : IOp} {u : UnOp} (ho : o.toIOp = some i) : opSyn i ≠ some (.un u) := by
  rw [opSyn_bin o i ho]; simp

/-- likewise the unary operator nodes -/
theorem opSyn_un : ∀ (u : UnOp) (i : IOp), unIOp u = some i → opSyn i = some (.un u) :=
  fun u => (by decide +kernel : ∀ u ∈ UnOp.all, ∀ i, unIOp u = some i → opSyn i = some (.un u)) u
    (by cases u <;> decide)

variable {Γ Γ' : Env}

theorem elabE_lit (k : Scalar) : elabE false Γ' (.lit k) = .ok (.lit k, (scalarTy k).r) := by
  simp [elabE, selfCheck]

theorem elabE_neg_lit {k : Scalar} (h : minusFolds k = true) :
    elabE false Γ' (.un .minus (.lit k)) = .ok (.lit k, (scalarTy k).r) := by
  cases k <;> simp [minusFolds] at h <;> simp [elabE, selfCheck, elabUn, minusFolds, scalarTy, Ty.r, Ty.unmod]

theorem elabE_unelab_lit {k : Scalar} {s' : SExpr} (hu : Unelab Γ' (.lit k) s') :
    elabE false Γ' s' = .ok (.lit (rereadKind k), (scalarTy (rereadKind k)).r) := by
  cases hu with
  | lit => exact elabE_lit _
  | litNeg _ h => exact elabE_neg_lit h

/-- every tree the front end can read from the export of `i` elaborates, in the exported environment, to `i : τ` -/
def Reads (Γ' : Env) (i : IExpr) (τ : ETy) : Prop := ∀ s', Unelab Γ' i s' → elabE false Γ' s' = .ok (i, τ)

/-- a literal node that reads back as itself has a kind with a spelling (its plain export is `lit (rereadKind k)`) and the
    type of that kind -/
theorem lit_kind_of_reads {k : Scalar} {τ : ETy} (ih : Reads Γ' (.lit k) τ) : rereadKind k = k ∧ τ = (scalarTy k).r := by
  have h := (elabE_lit (Γ' := Γ') (rereadKind k)).symm.trans (ih _ (.lit k))
  injection h with h; injection h with h1 h2; injection h1 with h1
  exact ⟨h1, by rw [← h2, h1]⟩

theorem find_self_r (T : Ty) : find ⟨T, .rvalue⟩ ⟨T, .rvalue⟩ = .ok (some ⟨⟨T, .rvalue⟩, false, none, none, none⟩) := by
  simp [find, dimensionCast, primaryCast, modifierCast, sharedModifierCast]

theorem applyConv_trivial (s : ETy) (e : IExpr) : applyConv ⟨s, false, none, none, none⟩ e = .ok e := by
  simp [applyConv]

theorem convert_self_r (T : Ty) (e : IExpr) : convert e ⟨T, .rvalue⟩ ⟨T, .rvalue⟩ = .ok (some (e, ⟨T, .rvalue⟩)) := by
  have h := find_self_r T
  simp only [convert, h, applyConv_trivial, targetType_ok h]

theorem r_of_rvalue {D : ETy} (h : D.vt = .rvalue) : D.ty.r = D := by
  obtain ⟨t, v⟩ := D; simp at h; subst h; rfl

/-- `IntLiteral → int`: the re-read of an `Int32` constant is re-tagged to `Int32` again -/
theorem convert_intLit_int32 :
    convert (.lit .intLiteral) (scalarTy .intLiteral).r (scalarTy .int32).r = .ok (some (.lit .int32, (scalarTy .int32).r)) := by
  rfl

/-- `Back τa D a' a'' a° τ°`: the operand `a' : τa` was converted to `D`, giving `a''`; the exported `a''` elaborates
    to `a° : τ°`, which is one of
    * `same`  — the operand as it was before the conversion (no node was inserted, or the inserted cast has a literal
      target type and is not emitted),
    * `exact` — the converted operand itself, which now has exactly the requested type,
    * `relit` — an untyped integer literal where the first generation had re-tagged an untyped literal to `Int32`. -/
inductive Back (τa D : ETy) (a' a'' : IExpr) : IExpr → ETy → Prop where
  | same : Back τa D a' a'' a' τa
  | exact : D.vt = .rvalue → Back τa D a' a'' a'' D
  | relit : a'' = .lit .int32 → D = (scalarTy .int32).r →
      (τa = (scalarTy .intLiteral).r ∨ τa = (scalarTy .floatLiteral).r) →
      Back τa D a' a'' (.lit .intLiteral) (scalarTy .intLiteral).r

/-- in every case the same conversion is requested again and produces the first-generation operand -/
theorem back_convert {a' a'' a0 : IExpr} {τa D τ0 : ETy} {c : Conversion}
    (hf : find τa D = .ok (some c)) (ha : applyConv c a' = .ok a'') (hb : Back τa D a' a'' a0 τ0) :
    convert a0 τ0 D = .ok (some (a'', D)) := by
  cases hb with
  | same => simp only [convert, hf, ha, targetType_ok hf]
  | exact hr =>
    obtain ⟨T, v⟩ := D
    simp at hr; subst hr
    exact convert_self_r T a''
  | relit h1 h2 _ => subst h1 h2; exact convert_intLit_int32

theorem back_find {a' a'' a0 : IExpr} {τa D τ0 : ETy} {c : Conversion}
    (hf : find τa D = .ok (some c)) (ha : applyConv c a' = .ok a'') (hb : Back τa D a' a'' a0 τ0) :
    ∃ c0, find τ0 D = .ok (some c0) ∧ applyConv c0 a0 = .ok a'' := by
  obtain ⟨c0, hf0, ha0, _⟩ := convert_inv (back_convert hf ha hb)
  exact ⟨c0, hf0, ha0⟩

/-- the type of a re-elaborated operand is the operand's own or the requested one — unless a float literal was converted
    to `int` (`int x = 1.5`: the re-read `Int32` constant is an `IntLiteral`) -/
theorem Back.type {a' a'' a0 : IExpr} {τa D τ0 : ETy} (hb : Back τa D a' a'' a0 τ0)
    (hfl : τa = (scalarTy .floatLiteral).r → D ≠ (scalarTy .int32).r) : τ0 = τa ∨ τ0 = D := by
  cases hb with
  | same => exact .inl rfl
  | exact _ => exact .inr rfl
  | relit _ hD hτ =>
    rcases hτ with rfl | rfl
    · exact .inl rfl
    · exact absurd hD (hfl rfl)

theorem Back.layer {a' a'' a0 : IExpr} {τa D τ0 : ETy} (hb : Back τa D a' a'' a0 τ0)
    (hfl : τa = (scalarTy .floatLiteral).r → D ≠ (scalarTy .int32).r) :
    τ0.ty.layer = τa.ty.layer ∨ τ0.ty.layer = D.ty.layer :=
  (hb.type hfl).imp (congrArg fun t : ETy => t.ty.layer) (congrArg fun t : ETy => t.ty.layer)

/-- **Key lemma.**  `a' : τa` re-elaborates to itself (`ih`); it was converted to `D` by `find` / `apply`, giving
    `a''`.  Then every exported form of `a''` elaborates, and to one of the three `Back` cases.  `hout`: towards an
    lvalue (`out` / `inout` parameter) the conversion must not have inserted a `Cast`. -/
theorem reconv {a' a'' : IExpr} {τa D : ETy} {c : Conversion} (ih : Reads Γ' a' τa)
    (hf : find τa D = .ok (some c)) (ha : applyConv c a' = .ok a'')
    (hout : D.vt = .rvalue ∨ isCast a'' = false) :
    ∀ s', Unelab Γ' a'' s' → ∃ a0 τ0, elabE false Γ' s' = .ok (a0, τ0) ∧ Back τa D a' a'' a0 τ0 := by
  intro s' hu
  rcases applyConv_cases ha with ⟨rfl, _⟩ | ⟨t, ht, rfl | ⟨k0, k, rfl, h0, _, _, rfl⟩⟩
  · exact ⟨_, τa, ih _ hu, .same⟩
  · -- an emitted or dropped `Cast(D.ty, a')`
    cases (targetType_ok hf).symm.trans ht
    have hr : D.vt = .rvalue := hout.resolve_right (by simp [isCast])
    cases hu with
    | castDrop _ hu' => exact ⟨a', τa, ih _ hu', .same⟩
    | cast _ hu' =>
      refine ⟨.cast D.ty a', D, ?_, .exact hr⟩
      simp only [elabE, ih _ hu', selfCheck]
      rw [r_of_rvalue hr]
      rfl
  · -- a re-tagged literal: the destination is the unmodified scalar type `k`, an rvalue
    rename_i hm hl
    cases (targetType_ok hf).symm.trans ht
    have hτa : τa = (scalarTy k0).r := (lit_kind_of_reads ih).2
    have hDr : D.vt = .rvalue := by
      cases hd : D.vt with
      | rvalue => rfl
      | lvalue => exact absurd ⟨by rw [hτa]; rfl, hd⟩ (find_inv hf).1
    have hD : D = (scalarTy k).r := ety_ext hDr hl hm
    have hel := elabE_unelab_lit hu
    by_cases h32 : k = .int32
    · subst h32
      rw [rereadKind_int32] at hel
      exact ⟨_, _, hel, .relit rfl hD (h0.imp (fun h => by rw [← h]; exact hτa) (fun h => by rw [← h]; exact hτa))⟩
    · rw [rereadKind_of_ne h32, ← hD] at hel
      exact ⟨_, _, hel, .exact hDr⟩

theorem unelab_op1 {o : IOp} {u : UnOp} {e : IExpr} {s' : SExpr} (ho : opSyn o = some (.un u))
    (hu : Unelab Γ' (.op o (.cons e .nil)) s') : ∃ x', s' = .un u x' ∧ Unelab Γ' e x' := by
  cases hu with
  | un ho' hu' =>
    rw [ho] at ho'
    simp at ho'
    subst ho'
    exact ⟨_, rfl, hu'⟩

theorem unelab_op2 {o : IOp} {b : BinOp} {x y : IExpr} {s' : SExpr} (ho : opSyn o = some (.bin b))
    (hu : Unelab Γ' (.op o (.cons x (.cons y .nil))) s') :
    ∃ x' y', s' = .bin b x' y' ∧ Unelab Γ' x x' ∧ Unelab Γ' y y' := by
  cases hu with
  | bin ho' hx hy =>
    rw [ho] at ho'
    simp at ho'
    subst ho'
    exact ⟨_, _, rfl, hx, hy⟩

theorem elabE_un {o : UnOp} {x' : SExpr} {e n : IExpr} {τ τ' : ETy}
    (h1 : elabE false Γ' x' = .ok (e, τ)) (h2 : elabUn Γ' o e τ = .ok (n, τ')) :
    elabE false Γ' (.un o x') = .ok (n, τ') := by
  simp [elabE, h1, h2, selfCheck]

theorem elabE_bin_arith {o : BinOp} {x' y' : SExpr} {a b n : IExpr} {τa τb τ : ETy} (hc : o.cls = .arith)
    (h1 : elabE false Γ' x' = .ok (a, τa)) (h2 : elabE false Γ' y' = .ok (b, τb))
    (h3 : elabArith o a τa b τb = .ok (n, τ)) : elabE false Γ' (.bin o x' y') = .ok (n, τ) := by
  simp [elabE, h1, h2, hc, h3, selfCheck]

theorem elabE_bin_assign {o : BinOp} {x' y' : SExpr} {a b n : IExpr} {τa τb τ : ETy} (hc : o.cls = .assign)
    (h1 : elabE false Γ' x' = .ok (a, τa)) (h2 : elabE false Γ' y' = .ok (b, τb))
    (h3 : elabAssign Γ' o a τa b τb = .ok (n, τ)) : elabE false Γ' (.bin o x' y') = .ok (n, τ) := by
  simp [elabE, h1, h2, hc, h3, selfCheck]

theorem elabE_tern {c' x' y' : SExpr} {c a b n : IExpr} {τc τa τb τ : ETy}
    (h0 : elabE false Γ' c' = .ok (c, τc)) (h1 : elabE false Γ' x' = .ok (a, τa)) (h2 : elabE false Γ' y' = .ok (b, τb))
    (h3 : elabTern c τc a τa b τb = .ok (n, τ)) : elabE false Γ' (.tern c' x' y') = .ok (n, τ) := by
  simp [elabE, h0, h1, h2, h3, selfCheck]

end RsslVerif.Lemmas.FixpointElab
