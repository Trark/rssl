import RsslVerif.Spec.SemMslWT
import RsslVerif.Lemmas.GenSemLit
/-! Metal exporter, base: the simulation relation `SimM`, the link between the two worlds, the literal table and
`genLiteral` constant by constant (with the `BitVec` facts they need), the operator table read backwards and `opRetTy_sem`,
`Params` and the typed store (`writeBack`). -/
namespace RsslVerif.Lemmas.GenMsl
open RsslVerif.Gen.HlslGenTables RsslVerif.Gen.MslGenTables RsslVerif.Model RsslVerif.Model.GenMsl RsslVerif.Spec.Sem
open RsslVerif.Model.Ir (Ty Var Const Dir)
open RsslVerif.Model.GenHlsl (GenErr)

/-- static type the emitted expression has in Metal: `-2147483648` is a `long` -/
def mTy (e : Ir.Expr) (t : Ty) : Ty := if Ir.isMin e then .lit else t

/-- value the emitted expression has in Metal -/
def mVal (e : Ir.Expr) (v : Val) : Val := if Ir.isMin e then .lit (-2147483648) else v

/-- the emitted names denote the IR's entities in the frame at hand (for the variables in scope there), with their
declared types; user functions are not called like the library functions the exporter uses -/
structure AgreeM (cx : Ctx) (vis : Var → Bool) (env : Ast.Env) : Prop where
  res : ∀ x, vis x = true → env.res (cx.name x) = some x
  vty : env.vty = cx.vty
  fres : ∀ f, env.fres (cx.funcName f) = some f
  notLib : ∀ f, cx.funcName f ≠ Msl.fmodName ∧ cx.funcName f ≠ Msl.tagName

theorem AgreeM.res_loc {cx : Ctx} {vis : Var → Bool} {env : Ast.Env} (h : AgreeM cx vis env) {id : Nat}
    (hv : vis (.loc id) = true) : env.res (cx.locName id) = some (.loc id) := h.res (.loc id) hv

/-- the side conditions of an expression inside a given frame -/
def side (cx : Ctx) (W : World) (vis : Var → Bool) (rsv : Nat → List Var) : Ir.Side :=
  { sig := W.sig, vty := cx.vty, vis := vis, req := cx.req, rsv := rsv, called := cx.called }

def toMArg : Val × Option Var → Msl.MArg
  | (v, none) => .val v
  | (_, some x) => .ref x

/-- the value an argument has when the call happens -/
def valAt (σ : Store) : Val × Option Var → Val
  | (v, none) => v
  | (_, some x) => σ x

def pkOf : Dir → Msl.PK
  | .in_ => .val
  | _ => .ref

def mParams (ps : List (Dir × Ty)) : List (Msl.PK × Ty) := ps.map fun p => (pkOf p.1, p.2)

def globParams (cx : Ctx) (gs : List Nat) : List (Msl.PK × Ty) := gs.map fun g => (Msl.PK.ref, cx.vty (.glob g))

def globMArgs (gs : List Nat) : List Msl.MArg := gs.map fun g => Msl.MArg.ref (.glob g)

/-- by-value arguments where the parameter is `in`, variables of exactly the parameter's type elsewhere -/
def fitsB (vty : Var → Ty) : List (Dir × Ty) → List (Val × Option Var) → Bool
  | [], [] => true
  | (d, T) :: ps, (_, o) :: l =>
    (match o with
      | none => decide (d = .in_)
      | some x => decide (d ≠ .in_) && decide (vty x = T)) && fitsB vty ps l
  | _, _ => false

/-- **the link between the two worlds**: same primitives; for every function that is called somewhere in the module
(`called_functions`) the Metal overload callers see (`target = false`) takes the
user parameters (by value for `in`, by reference otherwise) followed by references to the statics the function needs;
and calling it with variables for the out/inout parameters *behaves as copy-in / copy-out around the typed function*:
the values of those variables at the moment of the call are passed in, the function runs on its own copies, the final
parameter values are written back in parameter order. -/
structure Worlds (cx : Ctx) (rsv : Nat → List Var) (W : World) (M : Msl.MWorld) : Prop where
  prim : M.P = W.P
  ret : ∀ f rt ps, W.sig f = some (rt, ps) → cx.retTy f = some rt
  sig : ∀ f rt ps gs, W.sig f = some (rt, ps) → cx.req f = some gs → cx.called f = true →
    M.msig f false = some (rt, mParams ps ++ globParams cx gs)
  call : ∀ f rt ps gs (l : List (Val × Option Var)) σ, W.sig f = some (rt, ps) → cx.req f = some gs → cx.called f = true →
    fitsB cx.vty ps l = true → (∀ p ∈ l, ∀ x, p.2 = some x → (rsv f).contains x = false) →
    M.mphi f false (l.map toMArg ++ globMArgs gs) σ =
      match W.phi f (l.map (valAt σ)) σ with
      | none => none
      | some (ret, finals, σ2) => some (ret, writeBack (l.map (·.2)) finals σ2)

/-- emitted expression `a` simulates IR expression `e` of type `t` -/
def SimM (W : World) (M : Msl.MWorld) (env : Ast.Env) (e : Ir.Expr) (a : HlslAst.Expr) (t : Ty) : Prop :=
  Msl.typeOf M.msig env a = some (mTy e t) ∧
  ∀ σ, Msl.eval M env a σ = (Ir.eval W e σ).map (fun r => (mVal e r.1, r.2))

theorem isMin_cases {e : Ir.Expr} (h : Ir.isMin e = true) : e = .lit (.int32 (BitVec.intMin 32)) := by
  cases e with
  | lit c =>
    cases c <;> simp [Ir.isMin] at h
    subst h; rfl
  | _ => simp [Ir.isMin] at h

theorem SimM.plain {W : World} {M : Msl.MWorld} {env : Ast.Env} {e : Ir.Expr} {a : HlslAst.Expr} {t : Ty}
    (h : SimM W M env e a t) (hl : Ir.isMin e = false) :
    Msl.typeOf M.msig env a = some t ∧ ∀ σ, Msl.eval M env a σ = Ir.eval W e σ := by
  obtain ⟨h1, h2⟩ := h
  refine ⟨by simpa [mTy, hl] using h1, fun σ => ?_⟩
  rw [h2 σ]
  cases Ir.eval W e σ <;> simp [mVal, hl]

/-- the converse of `SimM.plain`: how every expression other than the bare constant `Int32(i32::MIN)` is shown to be simulated -/
theorem SimM.of_plain {W : World} {M : Msl.MWorld} {env : Ast.Env} {e : Ir.Expr} {a : HlslAst.Expr} {t : Ty}
    (hl : Ir.isMin e = false) (h1 : Msl.typeOf M.msig env a = some t)
    (h2 : ∀ σ, Msl.eval M env a σ = Ir.eval W e σ) : SimM W M env e a t := by
  refine ⟨by simpa [mTy, hl] using h1, fun σ => ?_⟩
  rw [h2 σ]
  cases Ir.eval W e σ <;> simp [mVal, hl]

/-! On operands of one type other than `long`, Metal's conversions and operators are the shared ones. -/

theorem convert_selfM (P : Prim) (t : Ty) (v : Val) : Msl.convert P t t v = some v := by simp [Msl.convert]

theorem convR_selfM (P : Prim) (t : Ty) (r : R Val) : Msl.convR P t t r = r := by
  cases r <;> simp [Msl.convR, Msl.convert]

theorem binopM_eq (P : Prim) {T : Ty} {m : MBin} (hnl : T ≠ .lit) (hnr : ¬(m = .mod ∧ T = .float)) :
    Msl.binopM P T m = binop P m := by
  funext a b; simp [Msl.binopM, hnl, hnr]

theorem shiftM_eq (P : Prim) {T : Ty} (m : MBin) (hnl : T ≠ .lit) : Msl.shiftM P T T m = binop P m := by
  funext a b; simp [Msl.shiftM, hnl]

theorem unopM_eq (P : Prim) {T : Ty} (m : MUn) (hnl : T ≠ .lit) : Msl.unopM P T m = unop P m := by
  funext v; simp [Msl.unopM, hnl]

theorem SimM.min {W : World} {M : Msl.MWorld} {env : Ast.Env} {a : HlslAst.Expr} {t : Ty}
    (h : SimM W M env (.lit (.int32 (BitVec.intMin 32))) a t) :
    Msl.typeOf M.msig env a = some .lit ∧ ∀ σ, Msl.eval M env a σ = some (.lit (-2147483648), σ) := by
  obtain ⟨h1, h2⟩ := h
  have hm : Ir.isMin (.lit (.int32 (BitVec.intMin 32))) = true := by simp [Ir.isMin]
  refine ⟨by simpa [mTy, hm] using h1, fun σ => ?_⟩
  rw [h2 σ]
  simp [Ir.eval, mVal, hm]

theorem isMin_ty {sig : Sig} {vty : Var → Ty} {e : Ir.Expr} {t : Ty}
    (ht : Ir.typeOf sig vty e = some t) (hl : Ir.isMin e = true) : t = .int := by
  rw [isMin_cases hl] at ht
  simp [Ir.typeOf, Const.ty] at ht
  exact ht.symm

theorem SimM.conv {W : World} {M : Msl.MWorld} {env : Ast.Env} {e : Ir.Expr} {a : HlslAst.Expr} {t : Ty} {vty : Var → Ty}
    (h : SimM W M env e a t) (ht : Ir.typeOf W.sig vty e = some t) (σ : Store) :
    Msl.convR M.P (mTy e t) t (Msl.eval M env a σ) = Ir.eval W e σ := by
  by_cases hl : Ir.isMin e = true
  · have := isMin_cases hl; subst this
    have hm := h.min
    simp [Ir.typeOf, Const.ty] at ht
    subst ht
    rw [hm.2 σ]
    simp only [mTy, hl, if_true, Msl.convR, Msl.convert, Msl.castM, Ir.eval, Ir.constVal]
    simp [castVal]
    decide
  · have hl' : Ir.isMin e = false := by simpa using hl
    have := h.plain hl'
    rw [this.2 σ]
    cases hr : Ir.eval W e σ with
    | none => simp [Msl.convR]
    | some r => simp [Msl.convR, Msl.convert, mTy, hl']

theorem SimM.castR {W : World} {M : Msl.MWorld} {env : Ast.Env} {e : Ir.Expr} {a : HlslAst.Expr} {t : Ty}
    (hp : M.P = W.P) (h : SimM W M env e a t) (T : Ty) (hT : Ir.scalarTy T = true) (ht : t ≠ .lit) (σ : Store) :
    Msl.castR M.P (mTy e t) T (Msl.eval M env a σ) = Spec.Sem.castR W.P T (Ir.eval W e σ) := by
  by_cases hl : Ir.isMin e = true
  · have := isMin_cases hl; subst this
    rw [h.min.2 σ]
    simp only [mTy, hl, if_true, Msl.castR, Msl.castM, Ir.eval, Ir.constVal, Spec.Sem.castR, hp]
    cases T <;> simp [Ir.scalarTy] at hT <;> simp [castVal, Msl.inInt32] <;> first | decide | rfl
  · have hl' : Ir.isMin e = false := by simpa using hl
    rw [(h.plain hl').2 σ]
    cases hr : Ir.eval W e σ with
    | none => simp [Msl.castR, Spec.Sem.castR]
    | some r =>
      have hT' : T ≠ .flit := by cases T <;> simp [Ir.scalarTy] at hT <;> simp
      simp only [Msl.castR, Spec.Sem.castR, Msl.castM, mTy, hl', hT', ht, hp, if_false, Bool.false_eq_true, false_and]
      cases castVal W.P T r.fst <;> rfl

/-- the Metal arm for a row of the HLSL literal table: the same row, except that a `Float64` constant — Metal has neither
`double` nor `long double` — is refused with `Err(GenerateError::UnsupportedDouble)` (fix 9824ce3) -/
def mslArmOf (a : ConstKind × LitGuard × LitArm) : ConstKind × LitGuard × LitArm :=
  if a.1 = .Float64 then (a.1, a.2.1, .errs "UnsupportedDouble") else a

theorem literal_arms_eq : mslLiteralArms = literalArms.map mslArmOf := by decide

theorem findArm_eq (k : ConstKind) (v : Int) (hk : k ≠ .Float64) : GenMsl.findArm k v = GenHlsl.findArm k v := by
  cases k <;> first | exact absurd rfl hk | rfl

theorem findArm_float64 (v : Int) : GenMsl.findArm .Float64 v = some (.errs "UnsupportedDouble") := rfl

theorem kind_ne_float64 (c : Ir.Const) : c.kind ≠ ConstKind.Float64 := by cases c <;> simp [Ir.Const.kind]

theorem genLiteral_eq (c : Ir.Const) : GenMsl.genLiteral c = GenHlsl.genLiteral c := by
  unfold GenMsl.genLiteral GenHlsl.genLiteral
  rw [findArm_eq _ _ (kind_ne_float64 c)]
  cases GenHlsl.findArm c.kind (GenHlsl.Const.intValue c) with
  | none => rfl
  | some arm =>
    cases arm with
    | negMinus k => cases k <;> cases GenHlsl.negMagnitude true c <;> rfl
    | negMinusAbs k => cases k <;> cases GenHlsl.negMagnitude false c <;> rfl
    | _ => rfl

theorem genLiteral_bool (b : Bool) : GenMsl.genLiteral (.bool b) = .ok (.lit (.bool b)) := by
  rw [genLiteral_eq, GenSem.genLiteral_bool]

theorem genLiteral_float32 (x : BitVec 32) : GenMsl.genLiteral (.float32 x) = .ok (.lit (.float32 x)) := by
  rw [genLiteral_eq, GenSem.genLiteral_float32]

theorem genLiteral_floatLit (d : BitVec 64) : GenMsl.genLiteral (.floatLit d) = .ok (.lit (.floatUntyped d)) := by
  rw [genLiteral_eq, GenSem.genLiteral_floatLit]

theorem genLiteral_uint32 (v : BitVec 32) : GenMsl.genLiteral (.uint32 v) = .ok (.lit (.intUnsigned32 v.toNat)) := by
  rw [genLiteral_eq, GenSem.genLiteral_uint32]

theorem genLiteral_int32_neg (v : BitVec 32) (h : v.toInt < 0) :
    GenMsl.genLiteral (.int32 v) = .ok (.un .Minus (.lit (.intUntyped (-v.toInt).toNat))) := by
  rw [genLiteral_eq, GenSem.genLiteral_int32, if_pos h]

theorem genLiteral_int32_nonneg (v : BitVec 32) (h : ¬ v.toInt < 0) :
    GenMsl.genLiteral (.int32 v) = .ok (.lit (.intUntyped v.toNat)) := by
  rw [genLiteral_eq, GenSem.genLiteral_int32, if_neg h]

theorem genLiteral_intLit_neg (v : Int) (h : v < 0) (h2 : -v ≤ GenHlsl.u64Max) :
    GenMsl.genLiteral (.intLit v) = .ok (.un .Minus (.lit (.intUntyped (-v).toNat))) := by
  rw [genLiteral_eq, GenSem.genLiteral_intLit, if_pos ⟨h, h2⟩]

theorem genLiteral_intLit_nonneg (v : Int) (h : 0 ≤ v) (h2 : v ≤ GenHlsl.u64Max) :
    GenMsl.genLiteral (.intLit v) = .ok (.lit (.intUntyped v.toNat)) := by
  rw [genLiteral_eq, GenSem.genLiteral_intLit, if_neg (fun hn => by omega), if_pos ⟨h, h2⟩]

theorem genLiteral_intLit_big (v : Int) (h : v < -GenHlsl.u64Max ∨ GenHlsl.u64Max < v) :
    GenMsl.genLiteral (.intLit v) = .error (.diag "IntLiteralOutOfRange") := by
  simp only [GenHlsl.u64Max] at h
  rw [genLiteral_eq, GenSem.genLiteral_intLit, if_neg (by simp only [GenHlsl.u64Max]; omega),
    if_neg (by simp only [GenHlsl.u64Max]; omega)]

theorem ofNat_toNat_int (k : Int) (h : 0 ≤ k) : BitVec.ofNat 32 k.toNat = BitVec.ofInt 32 k := by
  have h1 : ((k.toNat : Nat) : Int) = k := by omega
  calc BitVec.ofNat 32 k.toNat = BitVec.ofInt 32 ((k.toNat : Nat) : Int) := (BitVec.ofInt_natCast 32 k.toNat).symm
    _ = BitVec.ofInt 32 k := by rw [h1]

theorem neg_ofNat_of_neg (v : BitVec 32) (h : v.toInt < 0) : -(BitVec.ofNat 32 (-v.toInt).toNat) = v := by
  rw [ofNat_toNat_int _ (by omega), BitVec.ofInt_neg, BitVec.ofInt_toInt]
  simp

theorem toInt_ne_min {v : BitVec 32} (hm : v ≠ BitVec.intMin 32) : v.toInt ≠ -2147483648 := by
  intro h0
  apply hm
  have := BitVec.ofInt_toInt (x := v)
  rw [h0] at this
  rw [← this]; decide

theorem mag_lt (v : BitVec 32) (hm : v ≠ BitVec.intMin 32) : (-v.toInt).toNat < 2147483648 := by
  have := toInt_ne_min hm
  have := BitVec.le_toInt (x := v)
  omega

theorem toNat_lt_of_nonneg (v : BitVec 32) (h : ¬ v.toInt < 0) : v.toNat < 2147483648 := by
  rw [BitVec.toInt_eq_toNat_cond] at h
  split at h <;> omega

theorem op_unaryM {o : IntrinsicOp} {u : UnaryOp} (h : mslOpForm o = .unary u) : astUnSem u = irOpSem o := by
  cases o <;> simp [mslOpForm] at h <;> subst h <;> rfl

theorem op_binaryM {o : IntrinsicOp} {b : BinOp} (h : mslOpForm o = .binary b) : astBinSem b = irOpSem o := by
  cases o <;> simp [mslOpForm] at h <;> subst h <;> rfl

/-- `%` and `%=` have rows of their own -/
theorem op_binary_not_mod {o : IntrinsicOp} {b : BinOp} (h : mslOpForm o = .binary b) :
    irOpSem o ≠ .bin .mod ∧ irOpSem o ≠ .compound .mod := by
  cases o <;> simp [mslOpForm] at h <;> simp [irOpSem]

theorem mslOpForm_floatCall {o : IntrinsicOp} {n : String} {s : List String} {b : BinOp} (h : mslOpForm o = .floatCall n s b) :
    o = .Modulus ∧ n = "fmod" ∧ s = ["Float16", "Float32", "Float64", "FloatLiteral"] ∧ b = .Modulus := by
  cases o <;> simp [mslOpForm] at h
  obtain ⟨rfl, rfl, rfl⟩ := h
  exact ⟨rfl, rfl, rfl, rfl⟩

theorem mslOpForm_floatAssign {o : IntrinsicOp} {s : List String} {err : String} {outer inner : IntrinsicOp} {b : BinOp}
    (h : mslOpForm o = .floatAssign s err outer inner b) :
    o = .RemainderAssignment ∧ s = ["Float16", "Float32", "Float64"] ∧ err = "ComplexRemainderAssignment" ∧
      outer = .Assignment ∧ inner = .Modulus ∧ b = .RemainderAssignment := by
  cases o <;> simp [mslOpForm] at h
  obtain ⟨rfl, rfl, rfl, rfl, rfl⟩ := h
  exact ⟨rfl, rfl, rfl, rfl, rfl, rfl⟩

theorem op_no_form {o : IntrinsicOp} (h : mslOpForm o = .special ∨ mslOpForm o = .meshMethod ∨ mslOpForm o = .meshHelper) :
    irOpSem o = .unsupported := by
  cases o <;> simp [mslOpForm] at h <;> rfl

theorem metalLib_fmod : metalLib "fmod" = Msl.fmodName := by decide

/-- the scalar-type lists of the `%` and `%=` rows single out `float`; the first also names the literal type -/
theorem scalarIn_float4 {t : Ty} (ha : Ir.arithTy (some t) = true) :
    scalarIn ["Float16", "Float32", "Float64", "FloatLiteral"] t = decide (t = .float) := by
  cases t <;> simp [Ir.arithTy] at ha <;> decide

theorem scalarIn_float3 (t : Ty) : scalarIn ["Float16", "Float32", "Float64"] t = decide (t = .float) := by
  cases t <;> decide

/-- `IntrinsicOp::get_return_type` in terms of what the operator means -/
theorem opRetTy_sem (o : IntrinsicOp) (t : Ty) :
    opRetTy o t =
      match irOpSem o with
      | .un .lnot => .bool
      | .bin m => if m.isCmp then .bool else t
      | _ => t := by
  cases o <;> rfl

abbrev Params := List (Nat × Dir × Ty)

theorem set_self (σ : Store) (x : Var) : σ.set x (σ x) = σ := by
  funext y; simp only [Store.set]; split <;> simp_all

theorem set_comm (σ : Store) (x y : Var) (v w : Val) (h : x ≠ y) : (σ.set x v).set y w = (σ.set y w).set x v := by
  funext z; simp only [Store.set]; by_cases h1 : z = y <;> by_cases h2 : z = x <;> simp_all

theorem writeBack_congr : ∀ (lvs : List (Option Var)) (fs : List Val) (σA σB : Store) (y : Var),
    σA y = σB y → writeBack lvs fs σA y = writeBack lvs fs σB y
  | [], fs, σA, σB, y, h => by simpa [writeBack] using h
  | some x :: r, [], σA, σB, y, h => by simpa [writeBack] using h
  | none :: r, [], σA, σB, y, h => by simpa [writeBack] using h
  | some x :: r, v :: vs, σA, σB, y, h => by
    simp only [writeBack]
    apply writeBack_congr
    simp only [Store.set]; split <;> simp_all
  | none :: r, v :: vs, σA, σB, y, h => by
    simp only [writeBack]
    exact writeBack_congr r vs σA σB y h

theorem writeBack_off : ∀ (lvs : List (Option Var)) (fs : List Val) (σ : Store) (y : Var),
    (∀ x, some x ∈ lvs → x ≠ y) → writeBack lvs fs σ y = σ y
  | [], fs, σ, y, _ => by simp [writeBack]
  | some x :: r, [], σ, y, _ => by simp [writeBack]
  | none :: r, [], σ, y, _ => by simp [writeBack]
  | some x :: r, v :: vs, σ, y, h => by
    simp only [writeBack]
    rw [writeBack_off r vs _ y (fun x' hx' => h x' (List.mem_cons_of_mem _ hx'))]
    have : x ≠ y := h x (by simp)
    simp [Store.set, this.symm]
  | none :: r, v :: vs, σ, y, h => by
    simp only [writeBack]
    exact writeBack_off r vs σ y (fun x' hx' => h x' (List.mem_cons_of_mem _ hx'))

end RsslVerif.Lemmas.GenMsl
