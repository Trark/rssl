/-!
Facts about core types that proof modules of several properties use and that core Lean does not have.  Imports nothing.
-/
namespace RsslVerif.Lemmas.Basics

theorem sum_map_le {α : Type} {l : List α} {f g : α → Nat} (h : ∀ x ∈ l, f x ≤ g x) :
    (l.map f).sum ≤ (l.map g).sum := by
  induction l with
  | nil => simp
  | cons a l ih =>
    have h1 := h a (by simp)
    have h2 := ih (fun x hx => h x (by simp [hx]))
    simp only [List.map_cons, List.sum_cons]
    omega

theorem sum_map_lt {α : Type} {l : List α} {f g : α → Nat} (h : ∀ x ∈ l, f x ≤ g x) {a : α} (ha : a ∈ l)
    (hlt : f a < g a) : (l.map f).sum < (l.map g).sum := by
  induction l with
  | nil => simp at ha
  | cons b l ih =>
    have hb := h b (by simp)
    have hr : ∀ x ∈ l, f x ≤ g x := fun x hx => h x (by simp [hx])
    have := sum_map_le hr
    simp only [List.map_cons, List.sum_cons]
    rcases List.mem_cons.1 ha with rfl | ha'
    · omega
    · have := ih hr ha'; omega

theorem sum_map_le_mul {α : Type} {l : List α} {f : α → Nat} {b : Nat} (h : ∀ x ∈ l, f x ≤ b) :
    (l.map f).sum ≤ l.length * b := by
  induction l with
  | nil => simp
  | cons a l ih =>
    have h1 := h a (by simp)
    have h2 := ih (fun x hx => h x (by simp [hx]))
    simp only [List.map_cons, List.sum_cons, List.length_cons, Nat.add_mul]
    omega

theorem mem_of_lookup_eq_some {α β : Type} [BEq α] [LawfulBEq α] {k : α} {v : β} {l : List (α × β)}
    (h : l.lookup k = some v) : (k, v) ∈ l := by
  obtain ⟨l₁, l₂, rfl, _⟩ := List.lookup_eq_some_iff.mp h
  simp

theorem lt_of_getElem?_some {α : Type} {l : List α} {i : Nat} {a : α} (h : l[i]? = some a) : i < l.length :=
  (List.getElem?_eq_some_iff.1 h).1

theorem getElem?_append_some {α : Type} {l : List α} {i : Nat} {a : α} (ext : List α) (h : l[i]? = some a) :
    (l ++ ext)[i]? = some a := by
  rw [List.getElem?_append_left (lt_of_getElem?_some h)]; exact h

/-- dropping the elements a `filterMap` sends to `none` changes nothing -/
theorem filterMap_filter_of_none {α β : Type} {p : α → Bool} {f : α → Option β} (h : ∀ x, p x = false → f x = none)
    (l : List α) : (l.filter p).filterMap f = l.filterMap f := by
  rw [List.filterMap_filter]
  congr 1
  funext x
  cases hp : p x
  · simp [h x hp]
  · simp

/-- distinct images: the function is injective on the list -/
theorem eq_of_map_nodup {α β : Type} {f : α → β} {l : List α} (h : (l.map f).Nodup) {a b : α} (ha : a ∈ l) (hb : b ∈ l)
    (e : f a = f b) : a = b := by
  have hp := List.pairwise_map.mp h
  exact (List.Pairwise.forall_of_forall_of_flip (R := fun x y => x = y ∨ f x ≠ f y) (fun _ _ => Or.inl rfl)
    (hp.imp Or.inr) (hp.imp fun h => Or.inr (Ne.symm h)) ha hb).resolve_right (not_not_intro e)

end RsslVerif.Lemmas.Basics
