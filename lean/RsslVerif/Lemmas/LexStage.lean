import RsslVerif.Lemmas.Lexer
/-!
# Scanners as pipelines of stages, and what a stage does when the text behind the token changes

Trivia texts begin with one of six bytes (space, tab, LF, CR, backslash, slash): "stoppers".  No pattern the lexer tries
to extend a token with accepts a stopper, with one exception: `line_comment` extends `/` by a second `/` (which is what
`SideOK.slash` in `Lemmas/LexStableTok` is for).  `Swap r r'`: the two texts agree up to a point behind which `r'` ends or goes
on with a stopper.  `Local g`: `g` returns a suffix of its input, and where it stopped at `r` it stops at `r'`, with the
same element, when `r` is swapped for `r'`.  `ErrLocal g`: a failure stays a failure under a swap anywhere in the input.
Both are closed under the stages the sub-lexers of `token_intermediate` are made of (`andThen`, `optStage`, `ret`,
`peekNot`, `firstByte`, `lit`, `run`), so a composite sub-lexer needs one equation with its pipeline and no proof of
its own.  `OkStable` is `Local`'s second clause with the swap spelt out.  The same equations give progress: a `Local`
scanner that fails on the empty text consumes something (`Local₂.strict`), and `ErrsIn inp P g` (every failure of `g` on a
text inside `inp` satisfies `P`) is closed under the stages, so where a composite's errors point is read off its pipeline.
-/
namespace RsslVerif.Lemmas.LexStable
open RsslVerif.Gen.LexTables RsslVerif.Model.Lexer

/-- the bytes a trivia text can begin with: space, tab, LF, CR, `\`, `/` -/
def isStop (b : UInt8) : Bool :=
  b.toNat == 32 || b.toNat == 9 || b.toNat == 10 || b.toNat == 13 || b.toNat == 92 || b.toNat == 47

/-- the text ends here or continues with a stopper -/
def HeadStop : Bytes → Prop
  | [] => True
  | b :: _ => isStop b = true

theorem isStop_cases {b : UInt8} (h : isStop b = true) :
    b.toNat = 32 ∨ b.toNat = 9 ∨ b.toNat = 10 ∨ b.toNat = 13 ∨ b.toNat = 92 ∨ b.toNat = 47 := by
  simp only [isStop, Bool.or_eq_true, beq_iff_eq] at h
  omega

def OkStable {α : Type} (g : Bytes → LexResult α) : Prop :=
  ∀ (c q s s' : Bytes) (a : α), g (c ++ (q ++ s)) = .ok (q ++ s, a) → HeadStop s' →
    g (c ++ (q ++ s')) = .ok (q ++ s', a)

/-- a test on bytes that rejects every stopper -/
def StopBlind {β : Type} (f : UInt8 → Option β) : Prop := ∀ b, isStop b = true → f b = none

inductive Swap : Bytes → Bytes → Prop
  | stop {x y : Bytes} : HeadStop y → Swap x y
  | cons (b : UInt8) {x y : Bytes} : Swap x y → Swap (b :: x) (b :: y)

theorem Swap.append (c : Bytes) {r r' : Bytes} (h : Swap r r') : Swap (c ++ r) (c ++ r') := by
  induction c with
  | nil => exact h
  | cons b c ih => exact .cons b ih

/-- Two scanners, because a scanner's error text may mention its caller's input: `g` and `g'` then differ in that. -/
structure Local₂ {α : Type} (g g' : Bytes → LexResult α) : Prop where
  suf : ∀ {x r : Bytes} {a : α}, g x = .ok (r, a) → r <:+ x
  ok : ∀ {c r r' : Bytes} {a : α}, Swap r r' → g (c ++ r) = .ok (r, a) → g' (c ++ r') = .ok (r', a)

abbrev Local {α : Type} (g : Bytes → LexResult α) : Prop := Local₂ g g

structure ErrLocal {α : Type} (g : Bytes → LexResult α) : Prop where
  err : ∀ {x y : Bytes} {e : LexErr}, Swap x y → g x = .error e → ∃ e', g y = .error e'

/-- the text does not go on with a byte satisfying `p` -/
def HeadNot (p : UInt8 → Bool) : Bytes → Prop
  | [] => True
  | c :: _ => p c = false

theorem HeadNot.swap {p : UInt8 → Bool} (hp : ∀ b, isStop b = true → p b = false) {r r' : Bytes}
    (hsw : Swap r r') (h : HeadNot p r) : HeadNot p r' := by
  cases hsw with
  | cons b _ => exact h
  | stop hy =>
    cases r' with
    | nil => trivial
    | cons b t => exact hp b hy

theorem nil_of_same_len {c x : Bytes} (h : c ++ x = x) : c = [] := by
  have := congrArg List.length h
  cases c with
  | nil => rfl
  | cons a t => simp [List.length_append] at this; omega

/-- first stage of a sequence that ends at `r`: it stops at `i = q1 ++ r`, the later stages consume `q1` -/
theorem mid {c r i : Bytes} (h1 : i <:+ c ++ r) (h2 : r <:+ i) : ∃ c1 q1, c = c1 ++ q1 ∧ i = q1 ++ r := by
  obtain ⟨t, rfl⟩ := h2
  obtain ⟨u, hu⟩ := h1
  rw [← List.append_assoc] at hu
  exact ⟨u, t, (List.append_cancel_right hu).symm, rfl⟩

/-! ## the stages -/

section
variable {α β : Type} {g : Bytes → LexResult α}

/-- run `g`, hand its element and rest to `f` -/
def andThen (g : Bytes → LexResult α) (f : α → Bytes → LexResult β) : Bytes → LexResult β :=
  fun x => match g x with
    | .error e => .error e
    | .ok (r, a) => f a r

/-- `opt(g)` as a stage that always succeeds -/
def optStage (g : Bytes → LexResult α) : Bytes → LexResult (Option α) := fun x => .ok (opt (g x) x)

def ret (a : α) : Bytes → LexResult α := fun x => .ok (x, a)

/-- succeed with the element if there is one, consuming nothing -/
def retOr (o : Option α) (e : LexErr) : Bytes → LexResult α := fun x =>
  match o with
  | some a => .ok (x, a)
  | none => .error e

/-- succeed with `a`, consuming nothing, unless the next byte satisfies `p` -/
def peekNot (p : UInt8 → Bool) (e : UInt8 → LexErr) (a : α) : Bytes → LexResult α
  | [] => .ok ([], a)
  | c :: r => if p c then .error (e c) else .ok (c :: r, a)

/-- decide on the first byte alone -/
def firstByte (f : UInt8 → Option α) (e0 : LexErr) (e : Bytes → LexErr) : Bytes → LexResult α
  | [] => .error e0
  | b :: r =>
    match f b with
    | some a => .ok (r, a)
    | none => .error (e (b :: r))

/-- a fixed sequence of byte tests: `input.starts_with(..)` and the slice patterns -/
def seqOf : List (UInt8 → Bool) → Bytes → Option Bytes
  | [], x => some x
  | _ :: _, [] => none
  | p :: ps, b :: r => if p b then seqOf ps r else none

def lit (ps : List (UInt8 → Bool)) (e : Bytes → LexErr) : Bytes → LexResult Unit := fun x =>
  match seqOf ps x with
  | some r => .ok (r, ())
  | none => .error (e x)

/-- the maximal run of bytes that `f` accepts: the `while let Ok(..)` loops -/
def spanWith (f : UInt8 → Option α) : Bytes → List α × Bytes
  | [] => ([], [])
  | b :: r =>
    match f b with
    | some d => (d :: (spanWith f r).1, (spanWith f r).2)
    | none => ([], b :: r)

def run (f : UInt8 → Option α) : Bytes → LexResult (List α) := fun x => .ok ((spanWith f x).2, (spanWith f x).1)

/-! ## `Local` -/

theorem Local₂.okStable (h : Local g) : OkStable g :=
  fun _ q _ _ _ hx hs => h.ok (Swap.append q (.stop hs)) hx

/-- a scanner that looks only locally and fails on the empty text consumes something: had it consumed nothing, its
rest could be swapped for the empty text -/
theorem Local₂.strict {g' : Bytes → LexResult α} (h : Local₂ g g') {e : LexErr} (h0 : g' [] = .error e)
    {x r : Bytes} {a : α} (hx : g x = .ok (r, a)) : r.length < x.length := by
  obtain ⟨c, rfl⟩ := h.suf hx
  cases c with
  | nil => have := h.ok (c := []) (r' := []) (.stop trivial) hx; rw [List.nil_append, h0] at this; cases this
  | cons b c => simp only [List.cons_append, List.length_cons, List.length_append]; omega

theorem Local₂.error {g' : Bytes → LexResult α} (h : ∀ x, ∃ e, g x = .error e) : Local₂ g g' where
  suf := by intro x r a hx; obtain ⟨e, he⟩ := h x; rw [he] at hx; cases hx
  ok := by intro c r r' a _ hx; obtain ⟨e, he⟩ := h (c ++ r); rw [he] at hx; cases hx

theorem Local₂.andThen {g' : Bytes → LexResult α} {f f' : α → Bytes → LexResult β} (hg : Local₂ g g')
    (hf : ∀ a, Local₂ (f a) (f' a)) : Local₂ (andThen g f) (andThen g' f') where
  suf := by
    intro x r b h
    unfold LexStable.andThen at h
    cases hx : g x with
    | error e => rw [hx] at h; cases h
    | ok ra => rw [hx] at h; exact ((hf _).suf h).trans (hg.suf hx)
  ok := by
    intro c r r' b hsw h
    unfold LexStable.andThen at h ⊢
    cases hx : g (c ++ r) with
    | error e => rw [hx] at h; cases h
    | ok ra =>
      obtain ⟨i, a⟩ := ra
      rw [hx] at h
      obtain ⟨c1, q1, rfl, rfl⟩ := mid (hg.suf hx) ((hf a).suf h)
      rw [List.append_assoc] at hx ⊢
      rw [hg.ok (hsw.append q1) hx]
      exact (hf a).ok hsw h

theorem Local₂.optStage (hg : Local g) (he : ErrLocal g) : Local (optStage g) where
  suf := by
    intro x r a h
    unfold LexStable.optStage at h
    cases hx : g x with
    | ok ra =>
      rw [hx] at h; simp only [opt, Except.ok.injEq, Prod.mk.injEq] at h
      exact h.1 ▸ hg.suf hx
    | error e =>
      rw [hx] at h; simp only [opt, Except.ok.injEq, Prod.mk.injEq] at h
      exact h.1 ▸ List.suffix_refl _
  ok := by
    intro c r r' a hsw h
    unfold LexStable.optStage at h ⊢
    cases hx : g (c ++ r) with
    | ok ra =>
      obtain ⟨r1, a1⟩ := ra
      rw [hx] at h; simp only [opt, Except.ok.injEq, Prod.mk.injEq] at h
      obtain ⟨rfl, rfl⟩ := h
      rw [hg.ok hsw hx]; rfl
    | error e =>
      rw [hx] at h; simp only [opt, Except.ok.injEq, Prod.mk.injEq] at h
      obtain ⟨hc, rfl⟩ := h
      cases nil_of_same_len hc
      obtain ⟨e', he'⟩ := he.err hsw hx
      simp only [List.nil_append]
      rw [he']; rfl

theorem Local₂.ret (a : α) : Local (ret a) where
  suf := by intro x r b h; cases h; exact List.suffix_refl _
  ok := by
    intro c r r' b _ h
    simp only [LexStable.ret, Except.ok.injEq, Prod.mk.injEq] at h ⊢
    cases nil_of_same_len h.1
    exact ⟨rfl, h.2⟩

theorem Local₂.retOr (o : Option α) (e e' : LexErr) : Local₂ (retOr o e) (retOr o e') := by
  cases o with
  | some a => exact .ret a
  | none => exact .error fun _ => ⟨_, rfl⟩

/-- a scanner that mentions its own input only in error texts -/
theorem Local₂.diag {P P' : Bytes → Bytes → LexResult α} (h : ∀ i j, Local₂ (P i) (P' j)) :
    Local₂ (fun x => P x x) (fun x => P' x x) where
  suf := fun {x} => (h x x).suf
  ok := (h _ _).ok

theorem peekNot_ok {p : UInt8 → Bool} {e : UInt8 → LexErr} {a b : α} {x r : Bytes} :
    peekNot p e a x = .ok (r, b) ↔ r = x ∧ b = a ∧ HeadNot p x := by
  cases x with
  | nil => simp [peekNot, HeadNot, eq_comm]
  | cons c t => by_cases hc : p c = true <;> simp [peekNot, HeadNot, hc, eq_comm]

theorem Local₂.peekNot {p : UInt8 → Bool} {e e' : UInt8 → LexErr} {a : α}
    (hp : ∀ b, isStop b = true → p b = false) : Local₂ (peekNot p e a) (peekNot p e' a) where
  suf := by intro x r b h; rw [(peekNot_ok.1 h).1]; exact List.suffix_refl _
  ok := by
    intro c r r' b hsw h
    obtain ⟨hc, hb, hn⟩ := peekNot_ok.1 h
    cases nil_of_same_len hc.symm
    exact peekNot_ok.2 ⟨rfl, hb, hn.swap hp hsw⟩

theorem andThen_error {f : α → Bytes → LexResult β} {x : Bytes} {e : LexErr} (h : g x = .error e) :
    andThen g f x = .error e := by
  unfold LexStable.andThen; rw [h]

theorem andThen_ok {f : α → Bytes → LexResult β} {x r : Bytes} {a : α} (h : g x = .ok (r, a)) :
    andThen g f x = f a r := by
  unfold LexStable.andThen; rw [h]

/-- a stage that fails at the end of the text fails on every stopper-headed text -/
theorem ErrLocal.stop (he : ErrLocal g) {e : LexErr} (h0 : g [] = .error e) {y : Bytes} (hy : HeadStop y) :
    ∃ e', g y = .error e' :=
  he.err (.stop hy) h0

theorem ErrLocal.of_total (h : ∀ x, ∃ v, g x = .ok v) : ErrLocal g where
  err := by
    intro x y e _ hx
    obtain ⟨v, hv⟩ := h x
    rw [hv] at hx; cases hx

/-- what follows never fails: the whole fails exactly when the first stage does -/
theorem ErrLocal.andThen_total {f : α → Bytes → LexResult β} (he : ErrLocal g) (ht : ∀ a x, ∃ v, f a x = .ok v) :
    ErrLocal (andThen g f) where
  err := by
    intro x y e hsw h
    cases hx : g x with
    | error e1 =>
      obtain ⟨e', he'⟩ := he.err hsw hx
      exact ⟨e', andThen_error he'⟩
    | ok ra =>
      obtain ⟨v, hv⟩ := ht ra.2 ra.1
      rw [andThen_ok (show g x = .ok (ra.1, ra.2) from hx), hv] at h
      cases h

/-- a stage that takes at most one byte, followed by anything: a failure stays one, provided the whole fails on
every stopper-headed text (which is where the swap may begin at the very front) -/
theorem ErrLocal.andThen {f : α → Bytes → LexResult β} (hg : Local g) (he : ErrLocal g)
    (h1 : ∀ {x r a}, g x = .ok (r, a) → r = x ∨ ∃ b, x = b :: r) (hf : ∀ a, ErrLocal (f a))
    (hstop : ∀ y, HeadStop y → ∃ e, andThen g f y = .error e) : ErrLocal (andThen g f) := by
  refine ⟨fun {x y e} hsw h => ?_⟩
  cases hsw with
  | stop hy => exact hstop y hy
  | cons b hsw' =>
    rename_i x' y'
    unfold LexStable.andThen at h ⊢
    cases hx : g (b :: x') with
    | error e1 =>
      obtain ⟨e', he'⟩ := he.err (.cons b hsw') hx
      rw [he']; exact ⟨_, rfl⟩
    | ok ra =>
      obtain ⟨r, a⟩ := ra
      rw [hx] at h
      rcases h1 hx with rfl | ⟨b', hb'⟩
      · rw [show g (b :: y') = _ from hg.ok (c := []) (.cons b hsw') hx]
        exact (hf a).err (.cons b hsw') h
      · cases hb'
        rw [show g (b :: y') = _ from hg.ok (c := [b]) hsw' hx]
        exact (hf a).err hsw' h

/-! ### first byte -/

theorem firstByte_ok {f : UInt8 → Option α} {e0 : LexErr} {e : Bytes → LexErr} {x r : Bytes} {a : α}
    (h : firstByte f e0 e x = .ok (r, a)) : ∃ b, x = b :: r ∧ f b = some a := by
  revert h
  fun_cases firstByte f e0 e x <;> intro h <;> cases h
  exact ⟨_, rfl, ‹_›⟩

theorem firstByte_local (f : UInt8 → Option α) (e0 : LexErr) (e : Bytes → LexErr) : Local (firstByte f e0 e) where
  suf := by intro x r a h; obtain ⟨b, rfl, _⟩ := firstByte_ok h; exact List.suffix_cons b r
  ok := by
    intro c r r' a _ h
    obtain ⟨b, hx, hb⟩ := firstByte_ok h
    cases List.append_cancel_right (show c ++ r = [b] ++ r from hx)
    simp only [List.cons_append, List.nil_append, firstByte, hb]

theorem firstByte_stop {f : UInt8 → Option α} (hf : StopBlind f) (e0 : LexErr) (e : Bytes → LexErr) {y : Bytes}
    (hy : HeadStop y) : ∃ e', firstByte f e0 e y = .error e' := by
  cases y with
  | nil => exact ⟨_, rfl⟩
  | cons b t => exact ⟨e (b :: t), by simp only [firstByte, hf b hy]⟩

theorem firstByte_errLocal {f : UInt8 → Option α} (hf : StopBlind f) (e0 : LexErr) (e : Bytes → LexErr) :
    ErrLocal (firstByte f e0 e) := by
  refine ⟨fun {x y e1} hsw h => ?_⟩
  cases hsw with
  | stop hy => exact firstByte_stop hf e0 e hy
  | cons b _ =>
    simp only [firstByte] at h ⊢
    cases hb : f b with
    | some a => rw [hb] at h; cases h
    | none => exact ⟨_, rfl⟩

theorem firstByte_one {f : UInt8 → Option α} {e0 : LexErr} {e : Bytes → LexErr} {x r : Bytes} {a : α}
    (h : firstByte f e0 e x = .ok (r, a)) : r = x ∨ ∃ b, x = b :: r :=
  .inr ((firstByte_ok h).imp fun _ hb => hb.1)

/-! ### fixed byte sequences -/

theorem seqOf_eq {ps : List (UInt8 → Bool)} {x r : Bytes} (h : seqOf ps x = some r) :
    ∃ c, x = c ++ r ∧ ∀ y, seqOf ps (c ++ y) = some y := by
  fun_induction seqOf ps x
  case case1 => cases h; exact ⟨[], rfl, fun _ => rfl⟩
  case case3 p ps b t hb ih =>
    obtain ⟨c, rfl, hc⟩ := ih h
    exact ⟨b :: c, rfl, fun y => by simp only [List.cons_append, seqOf, hb, if_true, hc]⟩
  all_goals cases h

theorem lit_local (ps : List (UInt8 → Bool)) (e : Bytes → LexErr) : Local (lit ps e) where
  suf := by
    intro x r a h
    revert h
    fun_cases lit ps e x <;> intro h <;> cases h
    obtain ⟨c, rfl, _⟩ := seqOf_eq ‹_›
    exact List.suffix_append c r
  ok := by
    intro c r r' a _ h
    revert h
    fun_cases lit ps e (c ++ r) <;> intro h <;> cases h
    obtain ⟨c1, hx, hc⟩ := seqOf_eq ‹_›
    cases List.append_cancel_right hx
    simp only [lit, hc]

/-- no test of the sequence accepts a stopper -/
def seqBlind (ps : List (UInt8 → Bool)) : Prop := ∀ p ∈ ps, ∀ b, isStop b = true → p b = false

theorem seqOf_none {ps : List (UInt8 → Bool)} (hb : seqBlind ps) {x y : Bytes} (hsw : Swap x y)
    (h : seqOf ps x = none) : seqOf ps y = none := by
  induction ps generalizing x y with
  | nil => cases h
  | cons p ps ih =>
    cases hsw with
    | stop hy =>
      cases y with
      | nil => rfl
      | cons b t => simp only [seqOf, hb p (List.mem_cons_self ..) b hy]; rfl
    | cons b hsw' =>
      simp only [seqOf] at h ⊢
      by_cases hp : p b = true
      · rw [if_pos hp] at h ⊢; exact ih (fun p' hp' => hb p' (List.mem_cons_of_mem _ hp')) hsw' h
      · rw [if_neg hp]

theorem lit_errLocal {ps : List (UInt8 → Bool)} (hb : seqBlind ps) (e : Bytes → LexErr) : ErrLocal (lit ps e) := by
  refine ⟨fun {x y e1} hsw h => ?_⟩
  revert h
  fun_cases lit ps e x <;> intro h <;> cases h
  exact ⟨e y, by simp only [lit, seqOf_none hb hsw ‹_›]⟩

/-- `wrong_chars(x)` -/
def wrongAt (x : Bytes) : LexErr := .lex (.rest x) .UnexpectedBytes

/-- `input.starts_with(pat)` as a stage -/
def strip (pat : Bytes) (e : Bytes → LexErr) : Bytes → LexResult Unit :=
  lit (pat.map fun p b => decide (p = b)) e

theorem strip_local (pat : Bytes) (e : Bytes → LexErr) : Local (strip pat e) := lit_local ..

theorem strip_errLocal {pat : Bytes} (h : pat.all (fun b => !isStop b) = true) (e : Bytes → LexErr) :
    ErrLocal (strip pat e) := by
  refine lit_errLocal (fun p hp b hb => ?_) _
  obtain ⟨a, ha, rfl⟩ := List.mem_map.1 hp
  have := List.all_eq_true.1 h a ha
  refine decide_eq_false fun hab => ?_
  subst hab
  rw [hb] at this; cases this

/-! ### runs -/

theorem spanWith_suffix (f : UInt8 → Option α) (x : Bytes) : (spanWith f x).2 <:+ x := by
  fun_induction spanWith f x
  case case2 b t _ _ ih => exact ih.trans (List.suffix_cons b t)
  all_goals exact List.suffix_refl _

theorem spanWith_stop {f : UInt8 → Option α} (hf : StopBlind f) {y : Bytes} (hy : HeadStop y) :
    spanWith f y = ([], y) := by
  cases y with
  | nil => rfl
  | cons b t => simp only [spanWith, hf b hy]

/-- a swap anywhere in the text: the run ends in front of it and is the same, or it reaches it and ends there -/
theorem spanWith_swap {f : UInt8 → Option α} (hf : StopBlind f) {x y : Bytes} (hsw : Swap x y) :
    (Swap (spanWith f x).2 (spanWith f y).2 ∧ (spanWith f y).1 = (spanWith f x).1) ∨ HeadStop (spanWith f y).2 := by
  induction hsw with
  | stop hy => right; rw [spanWith_stop hf hy]; exact hy
  | cons b hsw' ih =>
    simp only [spanWith]
    cases f b with
    | some d => exact ih.imp (fun h => ⟨h.1, by rw [h.2]⟩) id
    | none => exact .inl ⟨.cons b hsw', rfl⟩

theorem run_local {f : UInt8 → Option α} (hf : StopBlind f) : Local (run f) where
  suf := by intro x r a h; cases h; exact spanWith_suffix f x
  ok := by
    intro c r r' ds hsw h
    simp only [run, Except.ok.injEq, Prod.mk.injEq] at h ⊢
    induction c generalizing ds with
    | nil =>
      simp only [List.nil_append] at h ⊢
      -- nothing was taken from `r`, so its head is refused, and so is the head of `r'`
      have hr : spanWith f r' = ([], r') ∧ (spanWith f r).1 = [] := by
        cases r with
        | nil => cases hsw with | stop hy => exact ⟨spanWith_stop hf hy, rfl⟩
        | cons b t =>
          simp only [spanWith] at h ⊢
          cases hb : f b with
          | some d =>
            rw [hb] at h
            have := (spanWith_suffix f t).length_le
            rw [h.1] at this
            exact absurd this (by simp)
          | none =>
            cases hsw with
            | stop hy => exact ⟨spanWith_stop hf hy, rfl⟩
            | cons _ _ => simp only [spanWith, hb, and_self]
      rw [hr.1, ← h.2, hr.2]
      exact ⟨rfl, rfl⟩
    | cons b c ih =>
      simp only [List.cons_append, spanWith] at h ⊢
      cases hb : f b with
      | some d =>
        simp only [hb] at h ⊢
        obtain ⟨i1, i2⟩ := ih ⟨h.1, rfl⟩
        exact ⟨i1, by rw [i2]; exact h.2⟩
      | none =>
        simp only [hb] at h
        exact absurd (congrArg List.length h.1) (by simp [List.length_append]; omega)

/-! ### where failures point -/

variable {inp : Bytes} {P : LexErr → Prop}

/-- every failure of `g` on a text inside `inp` satisfies `P` -/
structure ErrsIn (inp : Bytes) (P : LexErr → Prop) (g : Bytes → LexResult α) : Prop where
  err : ∀ {x : Bytes} {e : LexErr}, x <:+ inp → g x = .error e → P e

theorem ErrsIn.mono {Q : LexErr → Prop} (h : ErrsIn inp P g) (hpq : ∀ e, P e → Q e) : ErrsIn inp Q g :=
  ⟨fun hx he => hpq _ (h.err hx he)⟩

theorem ErrsIn.andThen {f : α → Bytes → LexResult β} (hs : ∀ {x r a}, g x = .ok (r, a) → r <:+ x)
    (hg : ErrsIn inp P g) (hf : ∀ a, ErrsIn inp P (f a)) : ErrsIn inp P (andThen g f) where
  err := by
    intro x e hx h
    cases hgx : g x with
    | error e1 => rw [andThen_error hgx] at h; cases h; exact hg.err hx hgx
    | ok ra =>
      rw [andThen_ok (show g x = .ok (ra.1, ra.2) from hgx)] at h
      exact (hf ra.2).err ((hs hgx).trans hx) h

theorem ErrsIn.of_total (h : ∀ x, ∃ v, g x = .ok v) : ErrsIn inp P g where
  err := by
    intro x e _ hx
    obtain ⟨v, hv⟩ := h x
    rw [hv] at hx; cases hx

theorem ErrsIn.fail {e : LexErr} (he : P e) : ErrsIn inp P (fun _ => (.error e : LexResult α)) :=
  ⟨fun _ h => by cases h; exact he⟩

theorem ErrsIn.retOr (o : Option α) {e : LexErr} (he : P e) : ErrsIn inp P (retOr o e) := by
  cases o with
  | some a => exact .of_total fun _ => ⟨_, rfl⟩
  | none => exact .fail he

theorem ErrsIn.peekNot {p : UInt8 → Bool} {e : UInt8 → LexErr} {a : α} (he : ∀ c, P (e c)) :
    ErrsIn inp P (peekNot p e a) where
  err := by
    intro x e1 _ h
    revert h
    fun_cases LexStable.peekNot p e a x <;> intro h <;> cases h
    exact he _

/-- a scanner whose error texts mention its own input -/
theorem ErrsIn.diag {G : Bytes → Bytes → LexResult α} (h : ∀ i, i <:+ inp → ErrsIn inp P (G i)) :
    ErrsIn inp P (fun x => G x x) :=
  ⟨fun hx he => (h _ hx).err hx he⟩

theorem firstByte_errsIn {f : UInt8 → Option α} {e0 : LexErr} {e : Bytes → LexErr} (h0 : P e0)
    (he : ∀ x, x <:+ inp → P (e x)) : ErrsIn inp P (firstByte f e0 e) where
  err := by
    intro x e1 hx h
    revert h
    fun_cases firstByte f e0 e x <;> intro h <;> cases h
    · exact h0
    · exact he _ hx

/-- an error a stage inside `inp` may pass up: it points into `inp`, is no panic and does not say "not my token" -/
def Inner (inp : Bytes) : LexErr → Prop
  | .lex (.rest r) k => r <:+ inp ∧ k ≠ .OtherTokenBytes
  | .lex .static k => k ≠ .OtherTokenBytes
  | .panic _ => False

/-- an error `token_intermediate` may pass on from a sub-lexer run on `inp`: as `Inner`, or "not my token" said of `inp` -/
def Outer (inp : Bytes) (e : LexErr) : Prop := Sound inp (.error e : LexResult Token)

theorem Inner.outer {e : LexErr} (h : Inner inp e) : Outer inp e := by
  match e, h with
  | .lex (.rest r) k, h => exact sound_at h.1 h.2
  | .lex .static k, h => exact ⟨⟨trivial, trivial⟩, by cases k <;> first | trivial | exact absurd rfl h⟩
end

/-! ## the model's loops and prefixes are these stages -/

theorem spanDigits_eq (x : Bytes) : spanDigits x = spanWith decDigit? x := by
  induction x with
  | nil => rfl
  | cons b r ih => simp only [spanDigits, spanWith, ih]; cases decDigit? b <;> rfl

/-- `identifier_char` as a test that returns the byte -/
def identByte (b : UInt8) : Option UInt8 := if isIdentChar b then some b else none

theorem spanIdent_eq (x : Bytes) : spanIdent x = spanWith identByte x := by
  induction x with
  | nil => rfl
  | cons b r ih => simp only [spanIdent, spanWith, identByte, ih]; cases isIdentChar b <;> rfl

theorem stripPrefix_eq (pat x : Bytes) : stripPrefix? pat x = seqOf (pat.map fun p b => decide (p = b)) x := by
  induction pat generalizing x with
  | nil => rfl
  | cons p pat ih =>
    cases x with
    | nil => rfl
    | cons b r => simp only [stripPrefix?, List.map_cons, seqOf, ih, decide_eq_true_eq]

theorem strip_eq (pat : Bytes) (e : Bytes → LexErr) (x : Bytes) :
    strip pat e x = match stripPrefix? pat x with
      | some r => .ok (r, ())
      | none => .error (e x) := by
  unfold strip lit; rw [stripPrefix_eq]

theorem matchPrefix_eq (pat : List (List Nat)) (x : Bytes) :
    matchPrefix pat x = seqOf (pat.map fun alts b => alts.contains b.toNat) x := by
  induction pat generalizing x with
  | nil => rfl
  | cons p pat ih =>
    cases x with
    | nil => rfl
    | cons b r => simp only [matchPrefix, List.map_cons, seqOf, ih]

end RsslVerif.Lemmas.LexStable
