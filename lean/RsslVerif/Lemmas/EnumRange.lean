import RsslVerif.Model.EnumRange
/-!
# Order independence of the loops of `Context::end_enum` (helper lemmas for C07)

The iterations of each loop of `end_enum` commute on EVERY state (`gatherStep_comm`, `convertStep_comm`, `promoteStep_comm`,
`reinsertStep_comm`), so each `_perm` theorem is core's `List.Perm.foldl_eq'`.  `foldl_perm_of_invariant` is the statement for
loops whose iterations commute only on the states the loop can be in: an invariant that each iteration preserves is enough.
No loop here needs it.
-/
namespace RsslVerif.Lemmas.EnumRange
open RsslVerif.Model.EnumRange

/-- A fold whose steps commute on the states satisfying a loop invariant does not depend on the order. -/
theorem foldl_perm_of_invariant {α β : Type} {f : β → α → β} {Inv : β → Prop} {l₁ l₂ : List α}
    (p : l₁.Perm l₂)
    (keep : ∀ x ∈ l₁, ∀ z, Inv z → Inv (f z x))
    (comm : ∀ x ∈ l₁, ∀ y ∈ l₁, ∀ z, Inv z → f (f z x) y = f (f z y) x)
    (init : β) (h0 : Inv init) : l₁.foldl f init = l₂.foldl f init := by
  induction p using List.Perm.recOnSwap' generalizing init with
  | nil => rfl
  | cons x _p IH =>
    simp only [List.foldl]
    apply IH
    · intro a ha z hz; exact keep a (.tail _ ha) z hz
    · intro a ha b hb z hz; exact comm a (.tail _ ha) b (.tail _ hb) z hz
    · exact keep x (.head _) init h0
  | swap' x y _p IH =>
    simp only [List.foldl]
    rw [comm y (.head _) x (.tail _ (.head _)) init h0]
    apply IH
    · intro a ha z hz; exact keep a (.tail _ (.tail _ ha)) z hz
    · intro a ha b hb z hz; exact comm a (.tail _ (.tail _ ha)) b (.tail _ (.tail _ hb)) z hz
    · exact keep y (.head _) _ (keep x (.tail _ (.head _)) init h0)
  | trans p₁ _p₂ IH₁ IH₂ =>
    refine (IH₁ keep comm init h0).trans (IH₂ ?_ ?_ init h0)
    · intro a ha z hz; exact keep a (p₁.symm.subset ha) z hz
    · intro a ha b hb z hz; exact comm a (p₁.symm.subset ha) b (p₁.symm.subset hb) z hz

/-- the fold function of the range loop: `min`/`max` steps commute -/
theorem Range.step_comm (r : Range) (a b : Int) : (r.step a).step b = (r.step b).step a := by
  simp only [Range.step, Int.min_assoc, Int.max_assoc, Int.min_comm a b, Int.max_comm a b]

theorem gatherStep_comm (x y : Entry) (hx : x.value.widen?.isSome) (hy : y.value.widen?.isSome)
    (z : Except Failure Range) : gatherStep (gatherStep z x) y = gatherStep (gatherStep z y) x := by
  obtain ⟨vx, ex⟩ := Option.isSome_iff_exists.1 hx
  obtain ⟨vy, ey⟩ := Option.isSome_iff_exists.1 hy
  cases z with
  | error f => simp [gatherStep]
  | ok r => simp [gatherStep, ex, ey, Range.step_comm]

/-- loop 1 is order independent when every value is integer-like (the typer invariant: `EnumValueMustBeInteger`
    is raised before a value is registered) -/
theorem gather_perm {l₁ l₂ : List Entry} (p : l₁.Perm l₂)
    (hint : ∀ e ∈ l₁, e.value.widen?.isSome) : gather l₁ = gather l₂ := by
  unfold gather
  exact p.foldl_eq' (fun x hx y hy z => gatherStep_comm x y (hint x hx) (hint y hy) z) _

/-- without the invariant: whether loop 1 panics does not depend on the order (the panic *message* names the
    first offending constant met and can differ: see `Thm.C07.gather_panic_message_order_dependent`) -/
theorem gather_ok_iff (l : List Entry) :
    (∃ r, gather l = .ok r) ↔ ∀ e ∈ l, e.value.widen?.isSome := by
  unfold gather
  suffices h : ∀ (st : Except Failure Range),
      (∃ r, l.foldl gatherStep st = .ok r) ↔ ((∃ r, st = .ok r) ∧ ∀ e ∈ l, e.value.widen?.isSome) by
    simpa using h (.ok ⟨0, 0⟩)
  induction l with
  | nil => intro st; simp
  | cons e es ih =>
    intro st
    simp only [List.foldl_cons, ih, List.mem_cons, forall_eq_or_imp]
    cases st with
    | error f => simp [gatherStep]
    | ok r =>
      cases hv : e.value.widen? with
      | none => simp [gatherStep, hv]
      | some v => simp [gatherStep, hv]

theorem upd_ne {κ ν : Type} [DecidableEq κ] (m : κ → Option ν) {k k' : κ} (h : k' ≠ k) (v : ν) :
    upd m k v k' = m k' := if_neg h

theorem upd_comm {κ ν : Type} [DecidableEq κ] (m : κ → Option ν) {k₁ k₂ : κ} (h : k₁ ≠ k₂) (v₁ v₂ : ν) :
    upd (upd m k₁ v₁) k₂ v₂ = upd (upd m k₂ v₂) k₁ v₁ := by
  funext k
  simp only [upd]
  by_cases h1 : k = k₁ <;> by_cases h2 : k = k₂ <;> simp_all

theorem convertStep_comm (s : Scalar) (x y : Entry) (hx : x.value.widen?.isSome) (hy : y.value.widen?.isSome)
    (hid : x.id = y.id → x = y) (z : Except Failure (Nat → Option Const)) :
    convertStep s (convertStep s z x) y = convertStep s (convertStep s z y) x := by
  by_cases hxy : x = y
  · subst hxy; rfl
  · have hne : x.id ≠ y.id := fun h => hxy (hid h)
    obtain ⟨vx, ex⟩ := Option.isSome_iff_exists.1 hx
    obtain ⟨vy, ey⟩ := Option.isSome_iff_exists.1 hy
    cases z with
    | error f => simp [convertStep]
    | ok reg => simp [convertStep, ex, ey, upd_comm reg hne]

/-- loop 3: the registry after the conversion loop does not depend on the order (ids are distinct) -/
theorem convert_perm (s : Scalar) {l₁ l₂ : List Entry} (p : l₁.Perm l₂)
    (hint : ∀ e ∈ l₁, e.value.widen?.isSome)
    (hid : ∀ x ∈ l₁, ∀ y ∈ l₁, x.id = y.id → x = y) (reg : Nat → Option Const) :
    l₁.foldl (convertStep s) (.ok reg) = l₂.foldl (convertStep s) (.ok reg) :=
  p.foldl_eq' (fun x hx y hy z => convertStep_comm s x y (hint x hx) (hint y hy) (hid x hx y hy) z) _

/-- one iteration of the promotion loop reads nothing of its element but the name -/
theorem promoteStep_congr (x y : Entry) (h : x.name = y.name) (z : Except Failure (Scope × Nat)) :
    promoteStep z x = promoteStep z y := by
  cases z with
  | error f => rfl
  | ok st => obtain ⟨parent, n⟩ := st; simp only [promoteStep, h]

/-- two iterations of the promotion loop commute on EVERY state: under different names they touch different
    entries of the parent scope (and a missing entry panics with the constant `unwrap` message whichever comes
    first); under the same name they are the same iteration.  No invariant is needed since fix `fe5dd8d` removed
    `assert_eq!(symbols.len(), 1)`: the vector of a name may hold other symbols (a constant buffer block). -/
theorem promoteStep_comm (x y : Entry) (z : Except Failure (Scope × Nat)) :
    promoteStep (promoteStep z x) y = promoteStep (promoteStep z y) x := by
  by_cases hne : x.name = y.name
  · rw [promoteStep_congr y x hne.symm, promoteStep_congr y x hne.symm]
  · cases z with
    | error f => simp [promoteStep]
    | ok st =>
      obtain ⟨parent, n⟩ := st
      cases hx : parent x.name <;> cases hy : parent y.name <;>
        simp only [promoteStep, hx, hy, upd_ne _ hne, upd_ne _ (Ne.symm hne)]
      rw [upd_comm parent hne, Nat.add_right_comm]

/-- loop 4: parent scope and replacement count (or the constant `unwrap` panic) after the promotion loop do not
    depend on the order — for EVERY parent scope: a name may map to a vector of any length (enum value next to a
    constant buffer block of the same name, accepted since `fe5dd8d`), or to nothing -/
theorem promote_perm {l₁ l₂ : List Entry} (p : l₁.Perm l₂) (st : Except Failure (Scope × Nat)) :
    l₁.foldl promoteStep st = l₂.foldl promoteStep st :=
  p.foldl_eq' (fun x _ y _ z => promoteStep_comm x y z) _

/-- the promotion loop does not panic when every name has an entry in the parent scope (of any length): an
    iteration replaces the entry of its own name and leaves the others -/
theorem promote_ok {l : List Entry} (parent : Scope) (n : Nat)
    (hparent : ∀ e ∈ l, ∃ syms, parent e.name = some syms) :
    ∃ parent' n', l.foldl promoteStep (.ok (parent, n)) = .ok (parent', n') := by
  induction l generalizing parent n with
  | nil => exact ⟨parent, n, rfl⟩
  | cons a as ih =>
    obtain ⟨syms, hs⟩ := hparent a (.head _)
    simp only [List.foldl_cons, promoteStep, hs]
    apply ih
    intro e he
    by_cases hn : e.name = a.name
    · exact ⟨syms.map Sym.promote, by simp [upd, hn]⟩
    · simpa only [upd_ne _ hn] using hparent e (.tail _ he)

/-- two iterations of the reinsertion loop commute on every state: under different names they fill different
    entries; under one name the second of them panics with the constant message, whichever it is -/
theorem reinsertStep_comm (x y : Entry) (z : Except Failure Scope) :
    reinsertStep (reinsertStep z x) y = reinsertStep (reinsertStep z y) x := by
  cases z with
  | error f => simp [reinsertStep]
  | ok scope =>
    by_cases hne : x.name = y.name
    · cases hx : scope x.name with
      | some v => simp [reinsertStep, hx, ← hne]
      | none => simp [reinsertStep, hx, ← hne, upd]
    · cases hx : scope x.name <;> cases hy : scope y.name <;>
        simp only [reinsertStep, hx, hy, upd_ne _ hne, upd_ne _ (Ne.symm hne)]
      rw [upd_comm scope hne]

/-- loop 5: the re-filled enum scope does not depend on the order; the panic message of a duplicate name is a
    constant, so not even distinct names are needed -/
theorem reinsert_perm {l₁ l₂ : List Entry} (p : l₁.Perm l₂) (scope : Scope) :
    l₁.foldl reinsertStep (.ok scope) = l₂.foldl reinsertStep (.ok scope) :=
  p.foldl_eq' (fun x _ y _ z => reinsertStep_comm x y z) _

end RsslVerif.Lemmas.EnumRange
