import RsslVerif.Model.NamesEmit
import RsslVerif.Lemmas.Names
/-!
Lemmas about `Model.NamesEmit.emit`: where the tokens of the emitted program come from.
-/
namespace RsslVerif.Lemmas.NamesEmit
open RsslVerif.Model.Names RsslVerif.Model.NamesEmit

/-! ### combinators for "every token of the list satisfies P" -/

def All (P : Tok → Prop) (l : List Tok) : Prop := ∀ tok ∈ l, P tok

theorem all_nil {P : Tok → Prop} : All P [] := List.forall_mem_nil P

theorem all_cons {P : Tok → Prop} {a : Tok} {l : List Tok} (ha : P a) (hl : All P l) : All P (a :: l) :=
  List.forall_mem_cons.mpr ⟨ha, hl⟩

theorem all_append {P : Tok → Prop} {a b : List Tok} (ha : All P a) (hb : All P b) : All P (a ++ b) :=
  List.forall_mem_append.mpr ⟨ha, hb⟩

theorem all_flatMap {α : Type} {P : Tok → Prop} {l : List α} {f : α → List Tok} (h : ∀ x ∈ l, All P (f x)) :
    All P (l.flatMap f) :=
  List.forall_mem_flatMap.mpr h

theorem all_map {α : Type} {P : Tok → Prop} {l : List α} {f : α → Tok} (h : ∀ x ∈ l, P (f x)) :
    All P (l.map f) :=
  List.forall_mem_map.mpr h

theorem all_replicate {P : Tok → Prop} {n : Nat} {a : Tok} (ha : P a) : All P (List.replicate n a) :=
  List.forall_mem_replicate.mpr (.inr ha)

theorem all_ite {P : Tok → Prop} {c : Prop} [Decidable c] {a b : List Tok} (ha : All P a) (hb : All P b) :
    All P (if c then a else b) := by
  split
  · exact ha
  · exact hb

/-! ### where the declarations of the emitted program come from -/

/-- the registries hold an entry for the symbol with this scope -/
def HasEntry (t : Target) (p : Program) (s : Sym) (ns : Option Nat) : Prop :=
  ∃ e ∈ (namesInput t p).entries, e.sym = s ∧ e.scope = ns

/-- a declaration of an entity of the name map is printed with the leaf name the map gives it, and at file scope it sits
in the namespace the registries record -/
def Sourced (t : Target) (names : List Named) (p : Program) : Tok → Prop
  | .decl sc _ n (.sym s) => n = leaf names s ∧ ∀ ns, sc = .file ns → HasEntry t p s ns
  | _ => True

theorem all_imp {P Q : Tok → Prop} {l : List Tok} (h : ∀ tok, P tok → Q tok) (hl : All P l) : All Q l :=
  fun tok ht => h tok (hl tok ht)

/-- a declaration under the leaf name outside the file scopes -/
theorem sourced_inner {t : Target} {names : List Named} {p : Program} {sc : Scope} {k : String} {s : Sym}
    (hsc : ∀ ns, sc ≠ .file ns) : Sourced t names p (.decl sc k (leaf names s) (.sym s)) :=
  ⟨rfl, fun ns h => absurd h (hsc ns)⟩

/-- a declaration of something the name map does not manage -/
theorem sourced_unmanaged {t : Target} {names : List Named} {p : Program} {sc : Scope} {k n : String} :
    ∀ {e : Ent}, (∀ s, e ≠ .sym s) → Sourced t names p (.decl sc k n e)
  | .sym s, h => absurd rfl (h s)
  | .member .., _ | .cbuf _, _ | .cbufMember .., _ | .gen _, _ => trivial

theorem memberDecls_all {P : Tok → Prop} (sc : Scope) (k : String) (mk : Nat → Ent)
    (h : ∀ m i, P (.decl sc k m (mk i))) : ∀ (ms : List String) (i : Nat), All P (memberDecls sc k mk ms i) := by
  intro ms
  induction ms with
  | nil => intro i; exact all_nil
  | cons m r ih => intro i; exact all_cons (h _ _) (ih _)

section
variable (t : Target) (names : List Named) (p : Program)

theorem typeToks_sourced (sc : Scope) (g : Nat) : All (Sourced t names p) (typeToks sc names p g) := by
  fun_cases typeToks sc names p g
  case case3 => exact all_nil  -- a global without an element struct
  all_goals exact all_cons trivial all_nil

theorem memberTok_sourced (sc : Scope) (g : Nat) : All (Sourced t names p) (memberTok sc p g) := by
  fun_cases memberTok sc p g
  case case1 => exact all_cons trivial all_nil  -- a "cbs" resource whose element struct has a member
  all_goals exact all_nil

theorem waveParams_sourced (t' : Target) (sc : Scope) (f : Nat) : All (Sourced t names p) (waveParams t' sc p f) := by
  unfold waveParams
  exact all_ite (all_map fun _ _ => trivial) all_nil

theorem waveArgs_sourced (t' : Target) (sc : Scope) (f : Nat) : All (Sourced t names p) (waveArgs t' sc p f) := by
  unfold waveArgs
  exact all_ite (all_map fun _ _ => trivial) all_nil

/-- uses declare nothing -/
theorem useToks_sourced (sc : Scope) (r : Ref) : All (Sourced t names p) (useToks t sc names p r) := by
  cases r <;> simp only [useToks]
  case glob k =>
    split
    · exact all_append (all_append (all_ite (typeToks_sourced _ _ _ _ _) all_nil) (all_cons trivial all_nil)) (memberTok_sourced _ _ _ _ _)
    · exact all_append (all_cons trivial all_nil) (memberTok_sourced _ _ _ _ _)
  case func k =>
    split
    · exact all_nil
    · exact all_append (all_append (all_cons trivial all_nil) (waveArgs_sourced _ _ _ _ _ _)) (all_ite (all_map fun _ _ => trivial) all_nil)
  case loc k => exact all_cons trivial all_nil
  case enumVal v => exact all_cons trivial all_nil
  case cbMember c i =>
    split
    · exact all_cons trivial (all_cons trivial all_nil)
    · exact all_cons trivial all_nil
  case structTy k => exact all_cons trivial all_nil
  case enumTy k => exact all_cons trivial all_nil
  case nothing => exact all_nil
  case wave c => exact all_ite (all_cons trivial all_nil) all_nil

theorem bodyToks_sourced (f : Nat) (body : List BTok) : All (Sourced t names p) (bodyToks t (.func f) names p body) := by
  unfold bodyToks
  refine all_flatMap fun b _ => ?_
  cases b with
  | lv k => exact all_cons (sourced_inner (fun _ => by simp)) all_nil
  | op => exact all_cons trivial all_nil
  | cl => exact all_cons trivial all_nil
  | use r => exact useToks_sourced _ _ _ _ _

end

theorem mem_entries {t : Target} {p : Program} {e : Entry}
    (h : e ∈ structEntries p ∨ e ∈ enumEntries p ∨ e ∈ globalEntries p ∨ e ∈ funcEntries p) :
    e ∈ (namesInput t p).entries := by
  simp only [namesInput, List.mem_append]
  rcases h with h | h | h | h
  · exact Or.inl (Or.inl (Or.inl (Or.inl (Or.inl h))))
  · exact Or.inl (Or.inl (Or.inl (Or.inr h)))
  · exact Or.inl (Or.inl (Or.inr h))
  · exact Or.inr h

theorem namesInput_entries_kind (t : Target) (p : Program) :
    ∀ e, e ∈ (namesInput t p).entries → e.sym.kind ≠ .localVar := by
  intro e he
  simp only [namesInput, List.mem_append] at he
  rcases he with ((((he | he) | he) | he) | he) | he
  · obtain ⟨d, _, hd⟩ := List.mem_filterMap.mp he
    split at hd
    · cases hd
      nofun
    · cases hd
  · split at he
    · obtain ⟨c, _, rfl⟩ := List.mem_map.mp he
      nofun
    · cases he
  · obtain ⟨d, _, hd⟩ := List.mem_flatMap.mp he
    split at hd
    · rcases List.mem_cons.mp hd with rfl | hd
      · nofun
      · obtain ⟨v, _, rfl⟩ := List.mem_map.mp hd
        nofun
    · cases hd
  · obtain ⟨d, _, hd⟩ := List.mem_filterMap.mp he
    split at hd
    · cases hd
      nofun
    · cases hd
      nofun
    · cases hd
  · split at he
    · obtain ⟨c, _, rfl⟩ := List.mem_map.mp he
      nofun
    · cases he
  · obtain ⟨d, _, hd⟩ := List.mem_flatMap.mp he
    split at hd
    · obtain ⟨f, _, rfl⟩ := List.mem_map.mp hd
      nofun
    · rcases List.mem_singleton.mp hd with rfl
      nofun
    · cases hd

/-- the file-scope declaration of a definition, given its registry entry -/
theorem sourced_file {t : Target} {names : List Named} {p : Program} {ns : Option Nat} {k n : String} {s : Sym}
    (h : (⟨s, ns, n⟩ : Entry) ∈ (namesInput t p).entries) :
    Sourced t names p (.decl (.file ns) k (leaf names s) (.sym s)) :=
  ⟨rfl, fun _ e => by cases e; exact ⟨_, h, rfl, rfl⟩⟩

theorem defToks_sourced (t : Target) (names : List Named) (p : Program) (d : Def) (hd : d ∈ p.defs) :
    All (Sourced t names p) (defToks t names p d) := by
  obtain ⟨ns, kind⟩ := d
  have inner : ∀ {sc : Scope} {k : String} {s : Sym}, (∀ ns, sc ≠ .file ns) →
      Sourced t names p (.decl sc k (leaf names s) (.sym s)) := sourced_inner
  unfold defToks
  cases kind with
  | struct o n ms fs =>
    have he : (⟨⟨.struct, o⟩, ns, n⟩ : Entry) ∈ (namesInput t p).entries :=
      mem_entries (Or.inl (List.mem_filterMap.mpr ⟨_, hd, rfl⟩))
    exact all_append (all_append (all_append (all_cons (sourced_file he) (all_cons trivial all_nil))
      (memberDecls_all _ _ _ (fun _ _ => sourced_unmanaged (fun _ => by simp)) _ _))
      (all_flatMap fun f _ => all_cons (inner (fun _ => by simp)) (all_cons trivial (all_cons trivial all_nil))))
      (all_cons trivial all_nil)
  | enum o n vs =>
    have he : (⟨⟨.enum, o⟩, ns, n⟩ : Entry) ∈ (namesInput t p).entries :=
      mem_entries (Or.inr (Or.inl (List.mem_flatMap.mpr ⟨_, hd, List.mem_cons_self ..⟩)))
    exact all_append (all_append (all_cons (sourced_file he) (all_cons trivial all_nil))
      (all_map fun _ _ => inner (fun _ => by simp))) (all_cons trivial all_nil)
  | glob o n s =>
    have he : (⟨⟨.global, o⟩, ns, n⟩ : Entry) ∈ (namesInput t p).entries :=
      mem_entries (Or.inr (Or.inr (Or.inl (List.mem_filterMap.mpr ⟨_, hd, rfl⟩))))
    exact all_ite all_nil (all_cons (sourced_file he) all_nil)
  | res o n kind opts =>
    have he : (⟨⟨.global, o⟩, ns, n⟩ : Entry) ∈ (namesInput t p).entries :=
      mem_entries (Or.inr (Or.inr (Or.inl (List.mem_filterMap.mpr ⟨_, hd, rfl⟩))))
    refine all_ite (all_ite (all_cons (sourced_file he) all_nil) all_nil) ?_
    exact all_append (all_append (typeToks_sourced _ _ _ _ _) (all_cons (sourced_file he) all_nil))
      (all_ite (all_cons trivial (all_cons trivial all_nil)) all_nil)
  | cbuf c n g ms =>
    simp only
    split
    · rename_i hm
      have he : (⟨⟨.struct, cbStruct p c⟩, ns, n ++ "Type"⟩ : Entry) ∈ (namesInput t p).entries := by
        simp only [namesInput, hm, if_true, List.mem_append]
        exact Or.inl (Or.inl (Or.inl (Or.inl (Or.inr
          (List.mem_map.mpr ⟨(c, ns, n), List.mem_filterMap.mpr ⟨_, hd, rfl⟩, rfl⟩)))))
      exact all_append (all_append (all_cons (sourced_file he) (all_cons trivial all_nil))
        (memberDecls_all _ _ _ (fun _ _ => sourced_unmanaged (fun _ => by simp)) _ _)) (all_cons trivial all_nil)
    · exact all_append (all_append (all_cons trivial (all_cons trivial all_nil))
        (memberDecls_all _ _ _ (fun _ _ => trivial) _ _)) (all_cons trivial all_nil)
  | func o n ps body entry =>
    have he : (⟨⟨.func, o⟩, ns, n⟩ : Entry) ∈ (namesInput t p).entries :=
      mem_entries (Or.inr (Or.inr (Or.inr (List.mem_flatMap.mpr ⟨_, hd, List.mem_cons_self ..⟩))))
    exact all_append (all_append (all_append (all_append (all_append (all_cons (sourced_file he) (all_cons trivial all_nil))
      (all_map fun _ _ => inner (fun _ => by simp))) (waveParams_sourced _ _ _ _ _ _))
      (all_ite (all_flatMap fun g _ => all_append (typeToks_sourced _ _ _ _ _) (all_cons (inner (fun _ => by simp)) all_nil)) all_nil))
      (bodyToks_sourced _ _ _ _ _)) (all_cons trivial all_nil)

theorem inlinePrelude_sourced (t : Target) (names : List Named) (p : Program) :
    All (Sourced t names p) (inlinePrelude names p) := by
  unfold inlinePrelude
  refine all_flatMap fun s _ => ?_
  exact all_append (all_append (all_cons trivial (all_cons trivial all_nil))
    (all_map fun _ _ => sourced_inner (fun _ => by simp)))
    (all_cons trivial (all_cons trivial (all_cons trivial all_nil)))

theorem mslEpilogue_sourced (t : Target) (names : List Named) (p : Program) :
    All (Sourced t names p) (mslEpilogue names p) := by
  unfold mslEpilogue
  split
  · refine all_append (all_append (all_append (all_append (all_append ?_ (all_cons trivial (all_cons trivial all_nil))) ?_) ?_) ?_)
      (all_cons trivial all_nil)
    · unfold argBufferToks
      refine all_flatMap fun i _ => ?_
      exact all_append (all_append (all_cons trivial (all_cons trivial all_nil))
        (all_flatMap fun g _ => all_append (typeToks_sourced _ _ _ _ _)
          (all_cons (sourced_inner (fun _ => by simp)) all_nil))) (all_cons trivial all_nil)
    · unfold wrapperParams
      refine all_append (all_append ?_ (all_flatMap fun i _ => all_cons trivial (all_cons trivial all_nil)))
        (waveParams_sourced _ _ _ _ _ _)
      split
      · exact all_cons (sourced_inner (fun _ => by simp)) all_nil
      · exact all_nil
    · unfold wrapperLocals
      exact all_flatMap fun g _ => all_ite all_nil (all_cons (sourced_inner (fun _ => by simp)) all_nil)
    · unfold wrapperCall
      refine all_append (all_append (all_append (all_cons trivial all_nil) ?_) (waveArgs_sourced _ _ _ _ _ _)) ?_
      · split
        · exact all_cons trivial all_nil
        · exact all_nil
      · exact all_flatMap fun g _ => all_ite (all_cons trivial (all_cons trivial all_nil)) (all_cons trivial all_nil)
  · exact all_nil

/-- what `wrap` adds to the definitions' tokens: braces, and namespace blocks around a definition whose namespace path is
not empty -/
theorem wrap_all {P : Tok → Prop} (names : List Named) (p : Program) (hcl : P .cl) (hop : P .op) :
    ∀ (l : List (Option Nat × List Tok)) (cur : List String),
      (∀ x ∈ l, All P x.2 ∧ (nsPath names x.1 ≠ [] → ∀ sc n e, P (.decl sc "N" n e))) → All P (wrap names p cur l) := by
  intro l
  induction l with
  | nil =>
    intro cur _
    simp only [wrap]
    exact all_map fun _ _ => hcl
  | cons x rest ih =>
    intro cur hl
    obtain ⟨ns, toks⟩ := x
    have hrest := fun y hy => hl y (List.mem_cons_of_mem _ hy)
    obtain ⟨htoks, hns⟩ := hl (ns, toks) (List.mem_cons_self ..)
    simp only [wrap]
    split
    · exact ih _ hrest
    · refine all_append (all_append (all_append (all_replicate hcl) ?_) htoks) (ih _ hrest)
      exact all_flatMap fun j hj => all_cons (hns (fun e => by simp [e] at hj) ..) (all_cons hop all_nil)

/-- every token of the emitted program satisfies `P` when `Sourced` implies `P` and the namespace blocks, if the program
has a definition inside a namespace, satisfy `P` -/
theorem emit_all {P : Tok → Prop} (t : Target) (names : List Named) (p : Program) (hcl : P .cl) (hop : P .op)
    (hns : ∀ d ∈ p.defs, nsPath names d.ns ≠ [] → ∀ sc n e, P (.decl sc "N" n e))
    (hP : ∀ tok, Sourced t names p tok → P tok) : All P (emit t names p) := by
  unfold emit
  refine all_append (all_append (all_ite (all_imp hP (inlinePrelude_sourced _ _ _)) all_nil) ?_)
    (all_ite (all_imp hP (mslEpilogue_sourced _ _ _)) all_nil)
  refine wrap_all names p hcl hop _ _ fun x hx => ?_
  obtain ⟨d, hd, rfl⟩ := List.mem_map.mp hx
  exact ⟨all_imp hP (defToks_sourced _ _ _ _ hd), hns d hd⟩

/-- **every declaration of a map-managed entity in the emitted program carries the map's leaf name, and at file scope it
sits in the namespace of its registry entry** (namespace blocks aside, whose name is a component of `get_name_qualified`) -/
theorem emit_sourced {t : Target} {names : List Named} {p : Program} {sc : Scope} {k n : String} {s : Sym}
    (h : Tok.decl sc k n (.sym s) ∈ emit t names p) (hk : k ≠ "N") :
    n = leaf names s ∧ ∀ ns, sc = .file ns → HasEntry t p s ns := by
  rcases emit_all (P := fun tok => Sourced t names p tok ∨ ∃ sc n e, tok = .decl sc "N" n e) t names p (.inl trivial)
    (.inl trivial) (fun _ _ _ sc n e => .inr ⟨sc, n, e, rfl⟩) (fun _ => .inl) _ h with hs | ⟨_, _, _, e⟩
  · exact hs
  · cases e
    exact absurd rfl hk

/-- without namespaces no block is opened, so none is excepted -/
theorem emit_flat_sourced {t : Target} {names : List Named} {p : Program} (hflat : ∀ d ∈ p.defs, d.ns = none)
    {sc : Scope} {k n : String} {s : Sym} (h : Tok.decl sc k n (.sym s) ∈ emit t names p) : n = leaf names s :=
  (emit_all t names p trivial trivial (fun d hd hne => absurd (hflat d hd ▸ rfl) hne) (fun _ hs => hs) _ h).1

end RsslVerif.Lemmas.NamesEmit
