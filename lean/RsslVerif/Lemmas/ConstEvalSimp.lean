import Lean.Meta.Tactic.Simp.RegisterCommand
/-! simp set used by the C13 lemma files: unfolds the operator table of the model and the operator semantics of the
    specification and rewrites model arithmetic into `BitVec` form -/
register_simp_attr c13
