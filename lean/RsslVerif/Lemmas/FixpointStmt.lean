import RsslVerif.Lemmas.FixpointElab
import RsslVerif.Lemmas.ElabRelease
/-!
Lemmas for C04: both build modes elaborate alike; the conversion of `return e;` / `T v = e;` is found again; the executable
`unelab` is an instance of `Unelab`; exported trees satisfy `SrcOk` again.
-/
namespace RsslVerif.Lemmas.FixpointStmt
open RsslVerif.Model.Conv RsslVerif.Model.IrTyping RsslVerif.Model.Elab RsslVerif.Model.Fixpoint
open RsslVerif.Lemmas.ElabRelease RsslVerif.Lemmas.FixpointElab

variable {Γ Γ' : Env}

/-- the self-check of debug builds never fires: both build modes elaborate alike -/
theorem elabE_dbg (dbg : Bool) (s : SExpr) : elabE dbg Γ s = elabE false Γ s := by
  cases dbg
  · rfl
  · exact elab_debug_eq s

/-- the converted expression of `return e;` / `T v = e;`: when `e'` reads back, every exported form of its conversion to
    `D` elaborates to an operand the same conversion applies to, with the same result -/
theorem reconvert {e' e2 : IExpr} {τ D t2 : ETy} (ih : Reads Γ' e' τ) (hD : D.vt = .rvalue)
    (hc : convert e' τ D = .ok (some (e2, t2))) {x : SExpr} (hx : Unelab Γ' e2 x) :
    ∃ e0 τ0, elabE false Γ' x = .ok (e0, τ0) ∧ convert e0 τ0 D = .ok (some (e2, D)) := by
  obtain ⟨c, hf, ha, _⟩ := Elab.convert_inv hc
  obtain ⟨e0, τ0, hel, hb⟩ := reconv ih hf ha (Or.inl hD) _ hx
  exact ⟨e0, τ0, hel, back_convert hf ha hb⟩

/-- by the recursion of `unelab` / `unelabArgs` themselves: each branch that returns a tree is one constructor of `Unelab` -/
theorem unelab_sound_both :
    (∀ (i : IExpr) (s : SExpr), unelab Γ' i = some s → Unelab Γ' i s) ∧
      ∀ (as : IArgs) (ss : SArgs), unelabArgs Γ' as = some ss → UnelabArgs Γ' as ss := by
  apply unelab.mutual_induct_unfolding Γ' (fun i r => ∀ s, r = some s → Unelab Γ' i s)
    (fun as r => ∀ ss, r = some ss → UnelabArgs Γ' as ss)
  case case1 =>
    intro k _ h
    cases h
    exact .lit k
  case case2 =>
    intro v _ h
    cases h
    exact .var v
  case case3 =>
    intro c a b c' a' b' hb ha hc ihc iha ihb _ h
    cases h
    exact .tern (ihc c' hc) (iha a' ha) (ihb b' hb)
  case case5 =>
    intro a b a' b' hb ha iha ihb _ h
    cases h
    exact .seq (iha a' ha) (ihb b' hb)
  case case7 =>
    intro f args sg args' ha hf ih _ h
    cases h
    exact .call hf (ih args' ha)
  case case9 =>
    intro t e e' he hl ih _ h
    cases h
    exact .castDrop hl (ih e' he)
  case case10 =>
    intro t e e' he hl ih _ h
    cases h
    exact .cast (by simpa using hl) (ih e' he)
  case case12 =>
    intro o u e ho ih s h
    obtain ⟨e', he, rfl⟩ := Option.map_eq_some_iff.mp h
    exact .un ho (ih e' he)
  case case13 =>
    intro o b x y ho x' y' hy hx ihx ihy _ h
    cases h
    exact .bin ho (ihx x' hx) (ihy y' hy)
  case case16 =>
    intro _ h
    cases h
    exact .nil
  case case17 =>
    intro e r e' r' hr he ihe ihr _ h
    cases h
    exact .cons (ihe e' he) (ihr r' hr)
  -- the branches that return `none`
  all_goals (intros; contradiction)

theorem unelabArgs_sound : ∀ (as : IArgs) (ss : SArgs), unelabArgs Γ' as = some ss → UnelabArgs Γ' as ss :=
  unelab_sound_both.2

theorem unelabArgs_srcOk : ∀ (as : IArgs) (ss : SArgs), UnelabArgs Γ' as ss → SrcArgsOk ss := by
  intro as ss h
  induction h using UnelabArgs.rec (motive_1 := fun _ s _ => SrcOk s) with
  | lit k => simp [SrcOk, rereadKind_idem]
  | litNeg k _ => simp [SrcOk, rereadKind_idem]
  | var _ => simp [SrcOk]
  | tern _ _ _ hc ha hb => exact ⟨hc, ha, hb⟩
  | seq _ _ ha hb => exact ⟨ha, hb⟩
  | call _ _ ha => exact ha
  | castDrop _ _ he => exact he
  | cast hl _ he => exact ⟨hl, he⟩
  | un _ _ he => exact he
  | bin _ _ _ hx hy => exact ⟨hx, hy⟩
  | nil => trivial
  | cons _ _ he hr => exact ⟨he, hr⟩

end RsslVerif.Lemmas.FixpointStmt
