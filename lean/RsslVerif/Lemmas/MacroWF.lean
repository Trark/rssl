import RsslVerif.Spec.CPreMacro
import RsslVerif.Model.MacroTame
/-!
What the refinement theorems assume of every macro of the table, and `Macro::parse` guarantees (Lemmas/MacroParseWF.lean):
`WFMacro`, and `WFMacroP`, the same without "no `##`"; the executable tests `wfB`, `wfPB` imply them.
-/
namespace RsslVerif.Lemmas.MacroTameSpec
open RsslVerif.Model.Macro RsslVerif.Model.MacroTame RsslVerif.Spec.CPreMacro

/-- what `Macro::parse` guarantees about a replacement list and the reference reading needs -/
structure WFMacro (m : Macro) : Prop where
  /-- `##` is `Concat` in a replacement list, never `HashHash` -/
  noHash : ∀ t ∈ m.body, t.tok ≠ .hashhash
  /-- this file: replacement lists without `##` -/
  noConcat : ∀ t ∈ m.body, t.tok ≠ .concat
  /-- no identifier is spelled like the reference's name of a parameter -/
  noParamName : ∀ t ∈ m.body, ∀ s, t.tok = .id s → ∀ i, s ≠ paramName i
  argRange : ∀ t ∈ m.body, ∀ i, t.tok = .arg i → i < m.numParams ∧ m.isFunction = true

theorem paramName_head (i : Nat) : (paramName i).toList.head? = some '$' := by
  simp [paramName, List.replicate_succ]

theorem wfMacro_of_wfB (m : Macro) (h : wfB m = true) : WFMacro m := by
  unfold wfB at h
  rw [List.all_eq_true] at h
  refine ⟨?_, ?_, ?_, ?_⟩
  · intro t ht hh
    have := h t ht
    simp [hh] at this
  · intro t ht hh
    have := h t ht
    simp [hh] at this
  · intro t ht s hs i hi
    have := h t ht
    simp only [hs, bne_iff_ne, ne_eq] at this
    apply this
    rw [hi, paramName_head]
  · intro t ht i hi
    have := h t ht
    simp only [hi, Bool.and_eq_true, decide_eq_true_eq] at this
    exact this

end RsslVerif.Lemmas.MacroTameSpec

namespace RsslVerif.Lemmas.MacroTamePSpec
open RsslVerif.Model.Macro RsslVerif.Model.MacroTame RsslVerif.Spec.CPreMacro RsslVerif.Lemmas.MacroTameSpec

/-- `WFMacro` without "no `##`" -/
structure WFMacroP (m : Macro) : Prop where
  noHash : ∀ t ∈ m.body, t.tok ≠ .hashhash
  noParamName : ∀ t ∈ m.body, ∀ s, t.tok = .id s → ∀ i, s ≠ paramName i
  argRange : ∀ t ∈ m.body, ∀ i, t.tok = .arg i → i < m.numParams ∧ m.isFunction = true

theorem wfMacroP_of_wfPB (m : Macro) (h : wfPB m = true) : WFMacroP m := by
  unfold wfPB at h
  rw [List.all_eq_true] at h
  refine ⟨?_, ?_, ?_⟩
  · intro t ht hh
    have := h t ht
    simp [hh] at this
  · intro t ht s hs i hi
    have := h t ht
    simp only [hs, bne_iff_ne, ne_eq] at this
    apply this
    rw [hi, paramName_head]
  · intro t ht i hi
    have := h t ht
    simp only [hi, Bool.and_eq_true, decide_eq_true_eq] at this
    exact this

end RsslVerif.Lemmas.MacroTamePSpec
