import RsslVerif.Model.PipelineProps
/-!
# Lemmas about the duplicate-property check of `parse_pipeline` (C08)
-/
namespace RsslVerif.Lemmas.PipelineProps
open RsslVerif.Model.PipelineProps RsslVerif.Gen.PipelineProps

/-- the names of a property list -/
abbrev names (ps : List PProp) : List String := ps.map (·.1)

/-- the pairwise loop answers `none` exactly when no property equals an earlier one -/
theorem firstDup_none_iff (eq : PProp → PProp → Bool) (ps before : List PProp) :
    firstDup eq ps before = none ↔
      (∀ p ∈ ps, ∀ b ∈ before, eq p b = false) ∧ ps.Pairwise fun b p => eq p b = false := by
  induction ps generalizing before with
  | nil => simp [firstDup]
  | cons p rest ih =>
    simp only [firstDup, List.mem_cons, forall_eq_or_imp, List.pairwise_cons]
    by_cases h : before.any (fun b => eq p b) = true
    · simp only [h, if_true, reduceCtorEq, false_iff]
      obtain ⟨b, hb, hpb⟩ := List.any_eq_true.1 h
      exact fun hh => by simp [hh.1.1 b hb] at hpb
    · simp only [h, Bool.false_eq_true, if_false, ih, List.mem_append, List.mem_singleton]
      have h' : ∀ b ∈ before, eq p b = false := by simpa using h
      exact ⟨fun ⟨h1, h2⟩ => ⟨⟨h', fun q hq b hb => h1 q hq b (.inl hb)⟩, fun q hq => h1 q hq p (.inr rfl), h2⟩,
        fun ⟨⟨_, h1⟩, h2, h3⟩ => ⟨fun q hq b hb => hb.elim (h1 q hq b) (fun e => e ▸ h2 q hq), h3⟩⟩

/-- **The text comparison finds a duplicate exactly when a name repeats**: over a whole block (nothing passed yet, as
    `parse_pipeline` and `parse_static_sampler` call it) `firstDup` answers `none` iff the names are pairwise distinct. -/
theorem firstDup_text_none_iff (ps : List PProp) : firstDup textEq ps [] = none ↔ (names ps).Nodup := by
  rw [firstDup_none_iff, names, List.nodup_iff_pairwise_ne, List.pairwise_map]
  simp only [textEq, beq_eq_false_iff_ne, ne_eq, List.not_mem_nil, false_imp_iff, implies_true, true_and]
  exact ⟨fun h => h.imp fun hh e => hh e.symm, fun h => h.imp fun hh e => hh e.symm⟩

/-- the walk never reports an assert when the names still to come are pairwise distinct and none of them has its
    flag / slot written yet -/
theorem stateLoop_no_panic (arms : List (List String × Bool × Bool)) (isCompute : Bool) (ps : List PProp) (set : List String)
    (hnd : (names ps).Nodup) (hset : ∀ n ∈ names ps, n ∉ set) (n : String) :
    stateLoop arms isCompute ps set ≠ .panic n := by
  fun_induction stateLoop arms isCompute ps set
  case case4 p rest set _ _ hin _ =>
    -- the assert: the name was written before
    exact absurd (by simpa using hin) (hset p.1 (by simp [names]))
  case case5 p rest set _ _ _ _ ih =>
    simp only [names, List.map_cons, List.nodup_cons, List.mem_cons, forall_eq_or_imp] at hnd hset
    refine ih hnd.2 fun m hm => ?_
    simp only [List.mem_cons, not_or]
    exact ⟨fun h => hnd.1 (h ▸ hm), hset.2 m hm⟩
  case case6 ih =>
    simp only [names, List.map_cons, List.nodup_cons, List.mem_cons, forall_eq_or_imp] at hnd hset
    exact ih hnd.2 hset.2
  all_goals nofun

/-- the properties left for the state loop keep pairwise distinct names -/
theorem remaining_nodup (stage : List String) (ps : List PProp) (h : (names ps).Nodup) : (names (remaining stage ps)).Nodup :=
  List.Nodup.sublist (List.Sublist.map _ (List.filter_sublist)) h

/-- the walk itself never answers `dup` -/
theorem stateLoop_no_dup (arms : List (List String × Bool × Bool)) (isCompute : Bool) (ps : List PProp) (set : List String) (loc : Nat) :
    stateLoop arms isCompute ps set ≠ .dup loc := by
  fun_induction stateLoop arms isCompute ps set
  case case5 ih => exact ih
  case case6 ih => exact ih
  all_goals nofun

/-- the `Located` comparison never finds a duplicate in a block whose locations are pairwise distinct (every
    property of a parsed block has its own location) -/
theorem firstDup_located_none (ps : List PProp) (h : (ps.map (·.2)).Nodup) : firstDup locatedEq ps [] = none := by
  rw [List.nodup_iff_pairwise_ne, List.pairwise_map] at h
  exact (firstDup_none_iff _ _ _).2 ⟨fun _ _ _ => nofun, h.imp fun hh => by simp [locatedEq, Ne.symm hh]⟩

end RsslVerif.Lemmas.PipelineProps
