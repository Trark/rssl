import RsslVerif.Lemmas.NamesBuild
import RsslVerif.Gen.Reserved
/-!
# C04 — generated names are reserved against locals (seeded mutant C04-5)

The exporter prints a struct / enum / enum value / namespace / function / global either under its source name or under a
name it GENERATES (`texture` → `texture_0`: reserved word, or several symbols of one name in a scope).  Local variables and
parameters are named afterwards and are printed as plain identifiers; a type is printed as a root-relative path.  A local
that carried a generated name would shadow the entity in the emitted text (`texture_0 t;` after `int texture_0` is refused:
"identifier 'texture_0' is expected to be a type"), so the fixpoint needs: **no local is printed with a generated name**.

Everything here is about C15's model of `NameMap::build` (`Model.Names.build`, tied to the code by C15's correspondence run
and by `Gen.Reserved` / `Gen.NameReserve`), for all inputs.
-/
namespace RsslVerif.Lemmas.FixpointGenNames
open RsslVerif.Model.Names RsslVerif.Lemmas.Names RsslVerif.Thm.C15

/-- a scope names each of its symbols with its source name or with a candidate it recorded in `gen`
(= what goes into `used_names_all_scopes`) -/
theorem scopeRun_src_or_gen {reserved : List String} {syms : List (String × Sym)} {st : St}
    (h : scopeRun reserved (groupsOf syms) = .ok st) :
    ∀ p, p ∈ st.out → p.2 ∈ st.gen ∨ (p.2, p.1) ∈ syms := by
  intro p hp
  obtain ⟨n, hn, ⟨_, e⟩ | hgen⟩ := (scopeRun_run h).src p hp
  · exact .inr (e ▸ mem_of_mem_flat_groupsOf hn)
  · exact .inl hgen

/-- **a local meets only kept names.**  If a local variable / parameter is printed with the same name as a
namespace-level symbol (namespace, struct, enum, enum value, global, function — of any scope), then that symbol kept its
source name.  Equivalently: no local is printed with a name the exporter generated. -/
theorem local_meets_only_kept_names {reserved : List String} {inp : Input} {names : List Named}
    (h : build reserved inp = .ok names) (hwf : ∀ e, e ∈ inp.entries → e.sym.kind ≠ .localVar) :
    ∀ l ∈ names, ∀ g ∈ names, l.sym.kind = .localVar → g.sym.kind ≠ .localVar → l.name = g.name →
      (g.name, g.sym) ∈ scopeSyms inp g.scope := by
  intro l hl' g hg hkl hkg e
  obtain ⟨hsc, st, hrun, hq⟩ := mem_build_global h hg hkg
  obtain ⟨scopes, ls, hs, hl, rfl⟩ := build_ok h
  refine (scopeRun_src_or_gen hrun _ hq).resolve_left fun hgen => ?_
  -- a local of the result comes from the local pass: the scope loop names namespaces and the module's entries only
  have hll : l ∈ numberLocals ls 0 := (List.mem_append.mp hl').resolve_left fun h1 => by
    rcases globalsOut_origin hs h1 with hns | ⟨en, hen, hsym, _⟩
    · rw [hkl] at hns; cases hns
    · exact hwf en hen (hsym ▸ hkl)
  -- a generated candidate is in the set the local pass starts from: a local never gets it
  obtain ⟨st', hst', hrun'⟩ := runScopes_mem _ hs g.scope hsc
  cases hrun.symm.trans hrun'
  refine assignLocals_not_mem _ hl l.name (number_kind ls 0 l hll).2 ?_
  rw [e]
  exact List.mem_append_left _ (List.mem_append_right _ (List.mem_flatMap.mpr ⟨_, hst', hgen⟩))

/-- **generated names are apart from locals**: a namespace-level symbol that did not keep its source name (every source
name it has in its scope differs from the printed one) shares its printed name with no local variable / parameter. -/
theorem generated_names_apart_from_locals {reserved : List String} {inp : Input} {names : List Named}
    (h : build reserved inp = .ok names) (hwf : ∀ e, e ∈ inp.entries → e.sym.kind ≠ .localVar) :
    ∀ l ∈ names, ∀ g ∈ names, l.sym.kind = .localVar → g.sym.kind ≠ .localVar →
      (∀ src, (src, g.sym) ∈ scopeSyms inp g.scope → src ≠ g.name) → l.name ≠ g.name := by
  intro l hl g hg hkl hkg hren e
  exact hren g.name (local_meets_only_kept_names h hwf l hl g hg hkl hkg e) rfl

/-! ## the discipline of seeded mutant C04-5 (**not** the code; only for the witness)

`used_names_all_scopes` is created after the per-scope loop: the local pass starts from the reserved names and the names of
the used functions / globals only — the candidates generated by the scopes are not in it. -/

def finishLate (reserved : List String) (inp : Input) (scopes : List (Option Nat × St)) : Except String (List Named) :=
  let globalsOut : List Named :=
    scopes.flatMap fun p => p.2.out.map fun q => ⟨q.1, p.1, q.2⟩
  if hasDup (globalsOut.map (·.sym)) then .error "panic:duplicate name for" else
  match assignLocals inp.locals (reserved ++ usedNames inp globalsOut) inp.locals with
  | .error e => .error e
  | .ok ls => .ok (globalsOut ++ numberLocals ls 0)

def buildLate (reserved : List String) (inp : Input) : Except String (List Named) :=
  match checkScopes inp with
  | .error e => .error e
  | .ok () =>
    match runScopes reserved inp (scopeIds inp) with
    | .error e => .error e
    | .ok scopes => finishLate reserved inp scopes

/-- `struct texture {..}; enum pass {V}; int f(int texture_0) { int pass_0; texture t; pass y; }` and, as control, a
function `technique` that `f` calls next to a parameter `technique_0` -/
def witnessGenerated : Input :=
  { nss := [], locals := ["texture_0", "pass_0", "technique_0"], used := [⟨.func, 0⟩]
    entries := [⟨⟨.struct, 0⟩, none, "texture"⟩, ⟨⟨.enum, 0⟩, none, "pass"⟩, ⟨⟨.enumValue, 0⟩, none, "V"⟩,
                ⟨⟨.func, 0⟩, none, "technique"⟩, ⟨⟨.func, 1⟩, none, "f"⟩] }

/-- the code: the three locals step aside (`texture_0_0`, `pass_0_0`, `technique_0_0`); the mutant's discipline: the
function is still avoided (it is *used*), the struct and the enum are not — the locals keep `texture_0` / `pass_0`, the
names generated for the types -/
theorem late_set_loses_generated_type_names :
    (build Gen.Reserved.hlsl witnessGenerated).toOption.map (·.map (fun n => (n.sym.kind, n.name))) =
      some [(.enumValue, "V"), (.func, "f"), (.enum, "pass_0"), (.func, "technique_0"), (.struct, "texture_0"),
            (.localVar, "texture_0_0"), (.localVar, "pass_0_0"), (.localVar, "technique_0_0")] ∧
    (buildLate Gen.Reserved.hlsl witnessGenerated).toOption.map (·.map (fun n => (n.sym.kind, n.name))) =
      some [(.enumValue, "V"), (.func, "f"), (.enum, "pass_0"), (.func, "technique_0"), (.struct, "texture_0"),
            (.localVar, "texture_0"), (.localVar, "pass_0"), (.localVar, "technique_0_0")] := by
  decide +kernel

end RsslVerif.Lemmas.FixpointGenNames
