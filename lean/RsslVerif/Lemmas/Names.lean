import RsslVerif.Model.Names
import Std.Data.String.ToNat
/-!
Lemmas about the model of `NameMap::build`: candidate injectivity, the candidate loops (result is fresh,
fuel suffices), the per-scope invariants behind `injective_per_scope` / `never_reserved`, and the sorted key vector.
-/
namespace RsslVerif.Lemmas.Names
open RsslVerif.Model.Names

theorem cand_inj {n : String} {i j : Nat} (h : cand n i = cand n j) : i = j := by
  unfold cand at h
  have h2 := (String.append_right_inj (n ++ "_")).mp h
  simp only [Nat.toString_eq_repr] at h2
  exact Nat.repr_injective h2

/-- the loop started at counter `k` answers the first candidate from `k` on that is not in `used` -/
theorem firstFree_is_cand {used : List String} {n : String} :
    ∀ (fuel k : Nat) {c : String}, firstFree used n fuel k = .ok c →
      ∃ j, k ≤ j ∧ c = cand n j ∧ c ∉ used ∧ ∀ i, k ≤ i → i < j → cand n i ∈ used := by
  intro fuel k c
  fun_induction firstFree used n fuel k <;> intro h
  case case1 => cases h
  case case2 f k hc ih =>
    obtain ⟨j, hj, hcj, hfree, hall⟩ := ih h
    refine ⟨j, by omega, hcj, hfree, ?_⟩
    intro i hki hij
    by_cases hik : i = k
    · subst hik; simpa using hc
    · exact hall i (by omega) hij
  case case3 f k hc =>
    cases h
    exact ⟨k, Nat.le_refl k, rfl, by simpa using hc, fun i h1 h2 => absurd h2 (by omega)⟩

theorem firstFree_not_mem {used : List String} {n : String} (fuel k : Nat) {c : String}
    (h : firstFree used n fuel k = .ok c) : c ∉ used :=
  (firstFree_is_cand fuel k h).elim fun _ hj => hj.2.2.1

/-- pigeonhole, in the form needed: if `cand n k … cand n (k+m-1)` are all in `used` (and the candidates are
pairwise different) then `m ≤ used.length` -/
theorem run_le_length (n : String) :
    ∀ (m : Nat) (used : List String) (k : Nat), (∀ i, k ≤ i → i < k + m → cand n i ∈ used) → m ≤ used.length := by
  intro m used k h
  have hnd : ((List.range' k m).map (cand n)).Nodup :=
    List.Pairwise.map _ (fun _ _ hne e => hne (cand_inj e)) List.nodup_range'
  have hsub : (List.range' k m).map (cand n) ⊆ used := fun c hc => by
    obtain ⟨i, hi, rfl⟩ := List.mem_map.mp hc
    exact h i (List.mem_range'_1.mp hi).1 (List.mem_range'_1.mp hi).2
  simpa using hnd.length_le_of_subset hsub

/-- the Rust `loop` terminates: with fuel `used.length + 1` the model never reports `"fuel"`;
fuel sufficiency, stated on the start state the model uses -/
theorem firstFree_total (used : List String) (n : String) :
    ∃ c, firstFree used n (used.length + 1) 0 = .ok c := by
  -- a run that ends without an answer has found every candidate it tried in `used`
  have tried : ∀ (fuel k : Nat) {e : String}, firstFree used n fuel k = .error e →
      ∀ i, k ≤ i → i < k + fuel → cand n i ∈ used := by
    intro fuel k e
    fun_induction firstFree used n fuel k <;> intro h i hki hik
    case case1 => omega
    case case2 f k hc ih =>
      by_cases hi : i = k
      · subst hi; simpa using hc
      · exact ih h i (by omega) (by omega)
    case case3 => cases h
  cases h : firstFree used n (used.length + 1) 0 with
  | ok c => exact ⟨c, rfl⟩
  | error e =>
    have := run_le_length n (used.length + 1) used 0 (tried _ _ h)
    omega

/-- `used_names` after the `kept_names` loop: the kept names in front of what was there -/
theorem claimKept_fst (gs : List (String × List Sym)) (used : List String) :
    (claimKept used gs).1 = (claimKept used gs).2.reverse ++ used := by
  fun_induction claimKept used gs
  case case1 => rfl
  case case2 ih => simpa using ih
  case case3 ih => exact ih

theorem mem_claimKept_used (gs : List (String × List Sym)) (used : List String) (u : String) :
    u ∈ (claimKept used gs).1 ↔ u ∈ used ∨ u ∈ (claimKept used gs).2 := by
  rw [claimKept_fst, List.mem_append, List.mem_reverse, or_comm]

theorem claim_used_sub (gs : List (String × List Sym)) (used : List String) (u : String) (h : u ∈ used) :
    u ∈ (claimKept used gs).1 :=
  (mem_claimKept_used gs used u).mpr (.inl h)

/-- `used_names` after the loop = before ∪ kept -/
theorem claim_used_char : ∀ (gs : List (String × List Sym)) (used : List String) (u : String),
    u ∈ (claimKept used gs).1 → u ∈ used ∨ u ∈ (claimKept used gs).2 :=
  fun gs used u => (mem_claimKept_used gs used u).mp

/-- every kept name is in `used_names` after the loop, was not in it before, and is the key of a one-symbol group -/
theorem claim_kept : ∀ (gs : List (String × List Sym)) (used : List String) (k : String),
    k ∈ (claimKept used gs).2 →
      k ∈ (claimKept used gs).1 ∧ k ∉ used ∧ ∃ g, g ∈ gs ∧ g.1 = k ∧ g.2.length = 1 := by
  intro gs used k h
  refine ⟨(mem_claimKept_used gs used k).mpr (.inr h), ?_⟩
  revert h
  fun_induction claimKept used gs <;> intro h
  case case1 => cases h
  case case2 used g r hc _ ih =>
    have hc' : g.2.length = 1 ∧ g.1 ∉ used := by simpa using hc
    rcases List.mem_cons.mp h with e | h'
    · exact ⟨e ▸ hc'.2, g, List.mem_cons_self .., e.symm, hc'.1⟩
    · obtain ⟨h2, g', hg', e1, e2⟩ := ih h'
      exact ⟨fun hu => h2 (List.mem_cons_of_mem _ hu), g', List.mem_cons_of_mem _ hg', e1, e2⟩
  case case3 ih =>
    obtain ⟨h2, g', hg', e1, e2⟩ := ih h
    exact ⟨h2, g', List.mem_cons_of_mem _ hg', e1, e2⟩

/-- the name of a one-symbol group is in `used_names` after the loop: it was there when the group was met, or is claimed
then (so one that was not there at the start is kept, whatever comes before it) -/
theorem claim_keeps : ∀ (gs : List (String × List Sym)) (used : List String) (g : String × List Sym),
    g ∈ gs → g.2.length = 1 → g.1 ∈ (claimKept used gs).1 := by
  intro gs used g hg hl
  fun_induction claimKept used gs
  case case1 => cases hg
  case case2 used h r hc _ ih =>
    rcases List.mem_cons.mp hg with rfl | hg'
    · exact claim_used_sub r _ _ (List.mem_cons_self ..)
    · exact ih hg'
  case case3 used h r hc ih =>
    rcases List.mem_cons.mp hg with rfl | hg'
    · exact claim_used_sub r _ _ (by simpa [hl] using hc)
    · exact ih hg'

theorem eq_of_map_eq {α β : Type} {f : α → β} : ∀ {l : List α}, (l.map f).Pairwise (· ≠ ·) →
    ∀ p ∈ l, ∀ q ∈ l, f p = f q → p = q := by
  intro l hpw p hp q hq
  have hne := List.pairwise_map.mp hpw
  exact List.Pairwise.forall_of_forall_of_flip (R := fun a b => f a = f b → a = b) (fun _ _ _ => rfl)
    (hne.imp fun h e => absurd e h) (hne.imp fun h e => absurd e.symm h) hp hq

/-- One step of the loop over the symbols of a group: the symbol gets the group's name when the name is kept, else a
candidate that was not yet in `used_names` and now is. -/
theorem assignSym_ok {name : String} {keep : Bool} {st st' : St} {s : Sym} (h : assignSym name keep st s = .ok st') :
    ∃ c, st'.out = st.out ++ [(s, c)] ∧
      (keep = true ∧ c = name ∧ st'.used = st.used ∧ st'.gen = st.gen ∨
       keep = false ∧ c ∉ st.used ∧ st'.used = c :: st.used ∧ st'.gen = c :: st.gen) := by
  revert h
  fun_cases assignSym name keep st s <;> intro h <;> cases h
  case case1 hk => exact ⟨name, rfl, .inl ⟨hk, rfl, rfl, rfl⟩⟩
  case case2 hk c hc => exact ⟨c, rfl, .inr ⟨by simpa using hk, firstFree_not_mem _ _ hc, rfl, rfl⟩⟩

/-! ## what a successful run of a scope returns: one walk through the second loop, seen as a single fold over the
(key, symbol) pairs in visiting order -/

/-- the (key, symbol) pairs the second loop of a scope visits, in order -/
def flat (gs : List (String × List Sym)) : List (String × Sym) := gs.flatMap fun g => g.2.map (g.1, ·)

def visit (kept : List String) (st : St) (q : String × Sym) : Except String St :=
  assignSym q.1 (kept.contains q.1) st q.2

theorem assignSyms_flat (kept : List String) (n : String) : ∀ (syms : List Sym) (st : St),
    assignSyms n (kept.contains n) st syms = (syms.map (n, ·)).foldlM (visit kept) st
  | [], _ => rfl
  | s :: r, st => by
    rw [assignSyms, List.map_cons, List.foldlM_cons]
    show _ = assignSym n (kept.contains n) st s >>= _
    cases assignSym n (kept.contains n) st s with
    | error e => rfl
    | ok st' => exact assignSyms_flat kept n r st'

/-- the two nested loops are one loop over `flat gs` -/
theorem assignGroups_flat (kept : List String) : ∀ (gs : List (String × List Sym)) (st : St),
    assignGroups kept st gs = (flat gs).foldlM (visit kept) st
  | [], _ => rfl
  | g :: r, st => by
    rw [assignGroups, assignGroup, flat, List.flatMap_cons, List.foldlM_append, ← assignSyms_flat]
    cases assignSyms g.1 (kept.contains g.1) st g.2 with
    | error e => rfl
    | ok st' => exact assignGroups_flat kept r st'

/-- what holds after the pairs `pre` have been visited.  `used0` = `used_names` after the `kept_names` loop. -/
structure Run (used0 kept : List String) (pre : List (String × Sym)) (st : St) : Prop where
  used : st.used = st.gen ++ used0
  fresh : ∀ c ∈ st.gen, c ∉ used0
  /-- every assigned name is the key of a kept group, given to a symbol visited under that key, or a generated candidate -/
  src : ∀ p ∈ st.out, ∃ n, (n, p.1) ∈ pre ∧ (n ∈ kept ∧ p.2 = n ∨ p.2 ∈ st.gen)
  keep : ∀ q ∈ pre, q.1 ∈ kept → (q.2, q.1) ∈ st.out
  /-- the assigned names are pairwise different when no kept key is visited twice -/
  distinct : pre.Pairwise (fun a b => b.1 ∈ kept → a.1 ≠ b.1) → st.out.Pairwise (fun a b => a.2 ≠ b.2)

theorem Run.out_used {used0 kept : List String} {pre : List (String × Sym)} {st : St} (hk : ∀ k ∈ kept, k ∈ used0)
    (hr : Run used0 kept pre st) : ∀ p ∈ st.out, p.2 ∈ st.used := by
  intro p hp
  rw [hr.used]
  obtain ⟨n, _, ⟨hn, e⟩ | hg⟩ := hr.src p hp
  · exact List.mem_append_right _ (e ▸ hk n hn)
  · exact List.mem_append_left _ hg

/-- one visit -/
theorem Run.step {used0 kept : List String} {pre : List (String × Sym)} {st st' : St} {q : String × Sym}
    (hk : ∀ k ∈ kept, k ∈ used0) (hr : Run used0 kept pre st) (h : visit kept st q = .ok st') :
    Run used0 kept (pre ++ [q]) st' := by
  obtain ⟨c, hout, hc⟩ := assignSym_ok h
  have hold : ∀ p ∈ st.out, ∃ n, (n, p.1) ∈ pre ++ [q] ∧ (n ∈ kept ∧ p.2 = n ∨ p.2 ∈ st.gen) := fun p hp =>
    (hr.src p hp).imp fun n hn => ⟨List.mem_append_left _ hn.1, hn.2⟩
  have hlast : q ∈ pre ++ [q] := List.mem_append_right _ (List.mem_singleton.mpr rfl)
  have hkeep : (q.1 ∈ kept → c = q.1) → ∀ x ∈ pre ++ [q], x.1 ∈ kept → (x.2, x.1) ∈ st'.out := fun hcq x hx hxk => by
    rw [hout]
    rcases List.mem_append.mp hx with hx | hx
    · exact List.mem_append_left _ (hr.keep x hx hxk)
    · cases List.mem_singleton.mp hx
      exact List.mem_append_right _ (List.mem_singleton.mpr (hcq hxk ▸ rfl))
  have hpw : ∀ hP : (pre ++ [q]).Pairwise (fun a b => b.1 ∈ kept → a.1 ≠ b.1),
      (∀ a ∈ st.out, a.2 ≠ c) → st'.out.Pairwise (fun a b => a.2 ≠ b.2) := fun hP hne => by
    rw [hout, List.pairwise_append]
    exact ⟨hr.distinct (List.pairwise_append.mp hP).1, List.pairwise_singleton _ _,
      fun a ha b hb => List.mem_singleton.mp hb ▸ hne a ha⟩
  rcases hc with ⟨hkp, rfl, hu, hg⟩ | ⟨hkp, hfree, hu, hg⟩
  · have hkq : q.1 ∈ kept := by simpa using hkp
    refine ⟨by rw [hu, hg, hr.used], hg ▸ hr.fresh, fun p hp => ?_, hkeep fun _ => rfl, fun hP => hpw hP fun a ha e => ?_⟩
    · rw [hg]
      rcases List.mem_append.mp (hout ▸ hp) with hp | hp
      · exact hold p hp
      · cases List.mem_singleton.mp hp
        exact ⟨q.1, hlast, .inl ⟨hkq, rfl⟩⟩
    · -- an earlier symbol under the name `q.1`: it was visited under the key `q.1`, or `q.1` was generated
      obtain ⟨n, hn, ⟨_, en⟩ | hgen⟩ := hr.src a ha
      · exact (List.pairwise_append.mp hP).2.2 (n, a.1) hn q (List.mem_singleton.mpr rfl) hkq (en.symm.trans e)
      · exact hr.fresh _ hgen (e ▸ hk _ hkq)
  · have hkq : q.1 ∉ kept := by simpa using hkp
    refine ⟨by rw [hu, hg, hr.used]; rfl, fun x hx h0 => ?_, fun p hp => ?_, hkeep fun h => absurd h hkq,
      fun hP => hpw hP fun a ha e => hfree (e ▸ hr.out_used hk a ha)⟩
    · rcases List.mem_cons.mp (hg ▸ hx) with rfl | hx
      · exact hfree (hr.used ▸ List.mem_append_right _ h0)
      · exact hr.fresh x hx h0
    · rw [hg]
      rcases List.mem_append.mp (hout ▸ hp) with hp | hp
      · exact (hold p hp).imp fun n hn => ⟨hn.1, hn.2.imp id (List.mem_cons_of_mem _)⟩
      · cases List.mem_singleton.mp hp
        exact ⟨q.1, hlast, .inr (List.mem_cons_self ..)⟩

theorem Run.fold {used0 kept : List String} (hk : ∀ k ∈ kept, k ∈ used0) :
    ∀ (l pre : List (String × Sym)) {st st' : St},
      Run used0 kept pre st → l.foldlM (visit kept) st = .ok st' → Run used0 kept (pre ++ l) st'
  | [], pre, st, st', hr, h => by cases h; rwa [List.append_nil]
  | q :: r, pre, st, st', hr, h => by
    rw [List.foldlM_cons] at h
    cases hq : visit kept st q with
    | error e => rw [hq] at h; cases h
    | ok t =>
      rw [hq] at h
      rw [List.append_cons]
      exact Run.fold hk r (pre ++ [q]) (hr.step hk hq) h

/-- **what a scope returns** -/
theorem scopeRun_run {reserved : List String} {gs : List (String × List Sym)} {st : St}
    (h : scopeRun reserved gs = .ok st) : Run (claimKept reserved gs).1 (claimKept reserved gs).2 (flat gs) st := by
  unfold scopeRun at h
  simp only [assignGroups_flat] at h
  exact Run.fold (fun k hk => (claim_kept gs reserved k hk).1) (flat gs) [] ⟨rfl, by simp, by simp, by simp, by simp⟩ h

/-- a kept key is met once: keys are pairwise different and the group of a kept key has one symbol -/
theorem flat_pairwise {reserved : List String} {gs : List (String × List Sym)} (hpw : (gs.map (·.1)).Pairwise (· ≠ ·)) :
    (flat gs).Pairwise (fun a b => b.1 ∈ (claimKept reserved gs).2 → a.1 ≠ b.1) := by
  unfold flat
  rw [List.pairwise_flatMap]
  constructor
  · intro g hg
    rw [List.pairwise_map]
    by_cases hk : g.1 ∈ (claimKept reserved gs).2
    · obtain ⟨_, _, g', hg', e1, e2⟩ := claim_kept gs reserved g.1 hk
      have e3 : g.2.length = 1 := eq_of_map_eq hpw g' hg' g hg e1 ▸ e2
      match g.2, e3 with
      | [s], _ => exact List.pairwise_singleton _ _
    · exact List.pairwise_of_forall fun _ _ hk' => absurd hk' hk
  · rw [List.pairwise_map] at hpw
    refine hpw.imp fun hne x hx y hy _ => ?_
    obtain ⟨_, _, rfl⟩ := List.mem_map.mp hx
    obtain ⟨_, _, rfl⟩ := List.mem_map.mp hy
    exact hne

/-- no name a scope assigns is reserved: a kept key was not in `used_names` when it was claimed, a candidate not when it
was generated -/
theorem scopeRun_fresh {reserved : List String} {gs : List (String × List Sym)} {st : St}
    (h : scopeRun reserved gs = .ok st) : ∀ p ∈ st.out, p.2 ∉ reserved := by
  intro p hp hres
  obtain ⟨n, _, ⟨hk, e⟩ | hgen⟩ := (scopeRun_run h).src p hp
  · exact (claim_kept gs reserved n hk).2.1 (e ▸ hres)
  · exact (scopeRun_run h).fresh _ hgen (claim_used_sub gs reserved _ hres)

/-- the names a scope assigns are pairwise different (keys pairwise different, as the keys of a map are) -/
theorem scopeRun_distinct {reserved : List String} {gs : List (String × List Sym)} {st : St}
    (hpw : (gs.map (·.1)).Pairwise (· ≠ ·)) (h : scopeRun reserved gs = .ok st) :
    st.out.Pairwise (fun a b => a.2 ≠ b.2) :=
  (scopeRun_run h).distinct (flat_pairwise hpw)

/-- the local-variable loop is the scope loop on `allLocals ++ usedAll` -/
theorem firstFreeLocal_eq (al ua : List String) (n : String) :
    ∀ (fuel k : Nat), firstFreeLocal al ua n fuel k = firstFree (al ++ ua) n fuel k
  | 0, _ => rfl
  | f + 1, k => by
    rw [firstFreeLocal, firstFree, firstFreeLocal_eq al ua n f, List.contains_append]
    cases al.contains (cand n k) <;> cases ua.contains (cand n k) <;> rfl

theorem firstFreeLocal_not_mem {al ua : List String} {n : String} :
    ∀ (fuel k : Nat) {c : String}, firstFreeLocal al ua n fuel k = .ok c → c ∉ ua ∧ c ∉ al := by
  intro fuel k c h
  rw [firstFreeLocal_eq] at h
  have := firstFree_not_mem fuel k h
  simp only [List.mem_append, not_or] at this
  exact this.symm

/-- every name the local pass picks is outside the set it started from (⊇ reserved) -/
theorem assignLocals_not_mem {al : List String} :
    ∀ (ls : List String) {ua out : List String}, assignLocals al ua ls = .ok out →
      ∀ x, x ∈ out → x ∉ ua := by
  intro ls ua out
  fun_induction assignLocals al ua ls generalizing out <;> intro h x hx <;> cases h
  case case1 => cases hx
  case case4 ua n r hn c hc rest hrest ih =>  -- `n` is taken: the candidate `c` stands for it
    rcases List.mem_cons.mp hx with hx | hx
    · subst hx; exact (firstFreeLocal_not_mem _ _ hc).1
    · exact fun hmem => ih hrest x hx (List.mem_cons_of_mem _ hmem)
  case case6 ua n r hn rest hrest ih =>  -- `n` is free and stays
    rcases List.mem_cons.mp hx with hx | hx
    · subst hx; simpa using hn
    · exact ih hrest x hx

/-- the names the local pass is kept off on account of the usage analysis: those given to used functions and globals -/
theorem mem_usedNames {inp : Input} {out : List Named} {x : String} :
    x ∈ usedNames inp out ↔
      ∃ g ∈ out, (g.sym.kind = .func ∨ g.sym.kind = .global) ∧ g.sym ∈ inp.used ∧ g.name = x := by
  simp [usedNames, List.mem_filterMap, and_assoc]

theorem mem_insertSorted {n x : String} : ∀ {l : List String}, x ∈ insertSorted n l ↔ x = n ∨ x ∈ l := by
  intro l
  fun_induction insertSorted n l
  case case1 => simp
  case case2 => simp
  case case3 ih =>
    simp only [List.mem_cons, ih]
    exact or_left_comm

theorem sortedNames_cons (a : String) (r : List String) : sortedNames (a :: r) =
    if (sortedNames r).contains a then sortedNames r else insertSorted a (sortedNames r) := rfl

theorem mem_sortedNames {x : String} : ∀ {xs : List String}, x ∈ sortedNames xs ↔ x ∈ xs := by
  intro xs
  induction xs with
  | nil => simp [sortedNames]
  | cons a r ih =>
    rw [sortedNames_cons]
    split
    · rename_i hc
      have ha : a ∈ sortedNames r := by simpa using hc
      simp only [List.mem_cons, ih]
      constructor
      · exact Or.inr
      · rintro (h | h)
        · subst h; exact ih.mp ha
        · exact h
    · simp only [mem_insertSorted, ih, List.mem_cons]

/-! ## the sorted key vector is canonical -/

theorem insertSorted_pairwise {n : String} :
    ∀ {l : List String}, l.Pairwise (· < ·) → n ∉ l → (insertSorted n l).Pairwise (· < ·) := by
  intro l
  induction l with
  | nil => intro _ _; simp [insertSorted]
  | cons m r ih =>
    intro hp hn
    unfold insertSorted
    rw [List.pairwise_cons] at hp
    split
    · rename_i hlt
      rw [List.pairwise_cons]
      refine ⟨?_, List.pairwise_cons.mpr hp⟩
      intro x hx
      rcases List.mem_cons.mp hx with e | hx'
      · rw [e]; exact hlt
      · exact String.lt_trans hlt (hp.1 x hx')
    · rename_i hnlt
      have hne : n ≠ m := fun e => hn (e ▸ List.mem_cons_self ..)
      have hmn : m < n := by
        have hle : m ≤ n := String.not_lt.mp hnlt
        apply Decidable.byContradiction
        intro hc
        exact hne (String.le_antisymm (String.not_lt.mp hc) hle)
      rw [List.pairwise_cons]
      refine ⟨?_, ih hp.2 (fun h => hn (List.mem_cons_of_mem _ h))⟩
      intro x hx
      rcases mem_insertSorted.mp hx with e | hx'
      · rw [e]; exact hmn
      · exact hp.1 x hx'

theorem sortedNames_pairwise : ∀ (xs : List String), (sortedNames xs).Pairwise (· < ·) := by
  intro xs
  induction xs with
  | nil => simp [sortedNames]
  | cons a r ih =>
    rw [sortedNames_cons]
    split
    · exact ih
    · rename_i hc
      exact insertSorted_pairwise ih (by simpa using hc)

/-- two strictly sorted lists with the same members are equal -/
theorem sorted_ext {a b : List String} (ha : a.Pairwise (· < ·)) (hb : b.Pairwise (· < ·))
    (h : ∀ x, x ∈ a ↔ x ∈ b) : a = b := by
  have nd : ∀ {l : List String}, l.Pairwise (· < ·) → l.Nodup :=
    fun hl => List.Pairwise.imp (S := (· ≠ ·)) String.ne_of_lt hl
  exact List.Perm.eq_of_pairwise (fun x y _ _ hxy hyx => absurd hyx (String.lt_asymm hxy)) ha hb
    ((List.perm_ext_iff_of_nodup (nd ha) (nd hb)).mpr h)

/-- the key vector after the sort does not depend on the iteration order (or multiplicity) of the keys -/
theorem sortedNames_congr {xs ys : List String} (h : ∀ x, x ∈ xs ↔ x ∈ ys) : sortedNames xs = sortedNames ys :=
  sorted_ext (sortedNames_pairwise xs) (sortedNames_pairwise ys)
    (fun x => by rw [mem_sortedNames, mem_sortedNames]; exact h x)

/-- the keys of the sorted vector of a scope are pairwise different (they are the keys of a map): the vector is strictly
sorted -/
theorem groupsOfKeys_keys_pairwise (keys : List String) (syms : List (String × Sym)) :
    ((groupsOfKeys keys syms).map (·.1)).Pairwise (· ≠ ·) :=
  List.pairwise_map.mpr (List.pairwise_map.mpr ((sortedNames_pairwise keys).imp String.ne_of_lt))

/-- **per-scope verbatim** (no side condition about generated names): a group of exactly one symbol
whose name is not reserved gives that symbol its name -/
theorem scopeRun_keep {reserved : List String} {gs : List (String × List Sym)} {st : St}
    (h : scopeRun reserved gs = .ok st) {n : String} {sym : Sym} (hg : (n, [sym]) ∈ gs) (hres : n ∉ reserved) :
    (sym, n) ∈ st.out :=
  (scopeRun_run h).keep (n, sym) (List.mem_flatMap.mpr ⟨_, hg, List.mem_singleton.mpr rfl⟩)
    (((mem_claimKept_used gs reserved n).mp (claim_keeps gs reserved (n, [sym]) hg rfl)).resolve_left hres)

theorem mem_groupsOf {syms : List (String × Sym)} {g : String × List Sym} :
    g ∈ groupsOf syms ↔ (∃ p, p ∈ syms ∧ p.1 = g.1) ∧ g.2 = (syms.filter (fun p => p.1 == g.1)).map (·.2) := by
  unfold groupsOf groupsOfKeys
  simp only [List.mem_map, mem_sortedNames]
  constructor
  · rintro ⟨a, ⟨p, hp, rfl⟩, rfl⟩
    exact ⟨⟨p, hp, rfl⟩, rfl⟩
  · rintro ⟨⟨p, hp, hpe⟩, h2⟩
    refine ⟨g.1, ⟨p, hp, hpe⟩, ?_⟩
    cases g
    simp_all

theorem mem_of_mem_flat_groupsOf {syms : List (String × Sym)} {q : String × Sym} (h : q ∈ flat (groupsOf syms)) :
    q ∈ syms := by
  obtain ⟨g, hg, hq⟩ := List.mem_flatMap.mp h
  rw [(mem_groupsOf.mp hg).2] at hq
  obtain ⟨_, hs, rfl⟩ := List.mem_map.mp hq
  obtain ⟨p, hp, rfl⟩ := List.mem_map.mp hs
  obtain ⟨hp1, hp2⟩ := List.mem_filter.mp hp
  exact (show p.1 = g.1 by simpa using hp2) ▸ hp1

theorem scopeRun_out_syms {reserved : List String} {syms : List (String × Sym)} {st : St}
    (h : scopeRun reserved (groupsOf syms) = .ok st) : ∀ p, p ∈ st.out → ∃ q, q ∈ syms ∧ q.2 = p.1 := by
  intro p hp
  obtain ⟨n, hn, _⟩ := (scopeRun_run h).src p hp
  exact ⟨_, mem_of_mem_flat_groupsOf hn, rfl⟩

theorem mem_of_lookup {names : List Named} {s : Sym} {x : Named} (h : lookup names s = some x) :
    x ∈ names ∧ x.sym = s :=
  ⟨List.mem_of_find?_eq_some h, by simpa using List.find?_some h⟩

end RsslVerif.Lemmas.Names
