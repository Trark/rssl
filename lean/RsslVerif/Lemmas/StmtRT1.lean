import RsslVerif.Lemmas.StmtRT0
/-! Round trip of statements: the statement kinds that contain no declaration. -/
set_option linter.unusedSimpArgs false
namespace RsslVerif.Lemmas.StmtRT
open RsslVerif.Gen.FmtTables RsslVerif.Gen.ParseTables RsslVerif.Gen.SyntaxTables RsslVerif.Model.Format
open RsslVerif.Model.FormatFull RsslVerif.Model.ParseFull RsslVerif.Model.FormatStmt RsslVerif.Model.ParseStmt
open RsslVerif.Lemmas.FmtParseTables RsslVerif.Lemmas.RoundtripFull

variable (W : List String)

theorem rk_empty : RK W .empty := by
  intro rest _ _ _
  exact LevelParser.Ev.succ fun f => by simp [fmtKind, semi, pp, parseKind]

theorem rk_break : RK W .breakS := by
  intro rest _ _ _
  exact LevelParser.Ev.succ fun f => by simp [fmtKind, semi, pp, kw, parseKind]

theorem rk_continue : RK W .continueS := by
  intro rest _ _ _
  exact LevelParser.Ev.succ fun f => by simp [fmtKind, semi, pp, kw, parseKind]

theorem rk_discard : RK W .discardS := by
  intro rest _ _ _
  exact LevelParser.Ev.succ fun f => by simp [fmtKind, semi, pp, kw, parseKind]

theorem rk_ret_none : RK W (.ret none) := by
  intro rest _ _ _
  refine LevelParser.Ev.succ fun f' => ?_
  have hbad : xparseLvl W f' 15 .Standard (.p .Semicolon :: rest) = none :=
    xparseLvl_badhead W _ _ (badHead_p (by decide) rfl (by decide)) _ _ _
  simp [fmtKind, fmtOptExpr, semi, pp, kw, parseKind, hbad]

theorem rk_ret_some (e : XExpr) (hwf : WF W e) : RK W (.ret (some e)) := by
  intro rest _ _ hsafe
  have htoks : toks (fmtKind (.ret (some e))) ++ rest = .p .Return :: (toks (fmtExprX e) ++ .p .Semicolon :: rest) := by
    simp [fmtKind, fmtOptExpr, semi, pp, kw]
  rw [htoks] at hsafe ⊢
  have h := expr_reads W e hwf _ (Or.inr (Or.inr (Or.inr rfl))) rest
    (SafeAt.mono (SafeAt.cons hsafe) fun hl => by simpa [hasLtK, hasLtOpt] using hl)
  refine LevelParser.Ev.step h fun f h => ?_
  simp [parseKind, h]

theorem toks_fmtStmt (attrs : List Attr) (k : Kind) : toks (fmtStmt (.mk attrs k)) = toks (fmtAttrs attrs) ++ toks (fmtKind k) := by
  simp [fmtStmt]

theorem rk_while (c : XExpr) (body : Stmt) (hwc : WF W c) (ihb : RS W body) : RK W (.whileS c body) := by
  intro rest hne hopen hsafe
  have htoks : toks (fmtKind (.whileS c body)) ++ rest = .p .While :: .p .LeftParen :: (toks (fmtExprX c) ++
      (.p .RightParen :: (toks (fmtStmt body) ++ rest))) := by
    simp [fmtKind, pp, kw]
  rw [htoks] at hsafe ⊢
  have h1 := expr_reads W c hwc _ (Or.inl rfl) (toks (fmtStmt body) ++ rest)
    (SafeAt.mono (SafeAt.cons (SafeAt.cons hsafe)) fun hl => by simp [hasLtK, hl])
  have h2 := ihb rest hne (fun ho => hopen (by simpa [openIfK] using ho))
    (SafeAt.mono (SafeAt.cons (SafeAt.append (SafeAt.cons (SafeAt.cons hsafe)))) fun hl => by simp [hasLtK, hl])
  refine LevelParser.Ev.step (LevelParser.Ev.and h1 h2) fun f ⟨h1, h2⟩ => ?_
  simp [parseKind, h1, h2]

theorem rk_switch (c : XExpr) (body : Stmt) (hwc : WF W c) (ihb : RS W body) : RK W (.switchS c body) := by
  intro rest hne hopen hsafe
  have htoks : toks (fmtKind (.switchS c body)) ++ rest = .p .Switch :: .p .LeftParen :: (toks (fmtExprX c) ++
      (.p .RightParen :: (toks (fmtStmt body) ++ rest))) := by
    simp [fmtKind, pp, kw]
  rw [htoks] at hsafe ⊢
  have h1 := expr_reads W c hwc _ (Or.inl rfl) (toks (fmtStmt body) ++ rest)
    (SafeAt.mono (SafeAt.cons (SafeAt.cons hsafe)) fun hl => by simp [hasLtK, hl])
  have h2 := ihb rest hne (fun ho => hopen (by simpa [openIfK] using ho))
    (SafeAt.mono (SafeAt.cons (SafeAt.append (SafeAt.cons (SafeAt.cons hsafe)))) fun hl => by simp [hasLtK, hl])
  refine LevelParser.Ev.step (LevelParser.Ev.and h1 h2) fun f ⟨h1, h2⟩ => ?_
  simp [parseKind, h1, h2]

theorem rk_if (c : XExpr) (t : Stmt) (hwc : WF W c) (iht : RS W t) : RK W (.ifS c t) := by
  intro rest hne hopen hsafe
  have htoks : toks (fmtKind (.ifS c t)) ++ rest = .p .If :: .p .LeftParen :: (toks (fmtExprX c) ++
      (.p .RightParen :: (toks (fmtStmt t) ++ rest))) := by
    simp [fmtKind, pp, kw]
  rw [htoks] at hsafe ⊢
  have hnoelse : ∀ r, rest ≠ .p .Else :: r := hopen (by simp [openIfK])
  have h1 := expr_reads W c hwc _ (Or.inl rfl) (toks (fmtStmt t) ++ rest)
    (SafeAt.mono (SafeAt.cons (SafeAt.cons hsafe)) fun hl => by simp [hasLtK, hl])
  have h2 := iht rest hne (fun _ => hnoelse)
    (SafeAt.mono (SafeAt.cons (SafeAt.append (SafeAt.cons (SafeAt.cons hsafe)))) fun hl => by simp [hasLtK, hl])
  refine LevelParser.Ev.step (LevelParser.Ev.and h2 h1) fun f ⟨h2, h1⟩ => ?_
  cases rest with
  | nil => exact absurd rfl hne
  | cons u r =>
    -- the `else` arm is excluded by `hnoelse`
    unfold parseKind
    simp only [h1, h2]

theorem rk_ifElse (c : XExpr) (t e : Stmt) (hwc : WF W c) (hno : openIf t = false) (iht : RS W t) (ihe : RS W e) :
    RK W (.ifElse c t e) := by
  intro rest hne hopen hsafe
  have htoks : toks (fmtKind (.ifElse c t e)) ++ rest = .p .If :: .p .LeftParen :: (toks (fmtExprX c) ++
      (.p .RightParen :: (toks (fmtStmt t) ++ (.p .Else :: (toks (fmtStmt e) ++ rest))))) := by
    simp [fmtKind, pp, kw]
  rw [htoks] at hsafe ⊢
  have h1 := expr_reads W c hwc _ (Or.inl rfl) _
    (SafeAt.mono (SafeAt.cons (SafeAt.cons hsafe)) fun hl => by simp [hasLtK, hl])
  have h2 := iht (.p .Else :: (toks (fmtStmt e) ++ rest)) (by simp) (fun ho => by rw [hno] at ho; cases ho)
    (SafeAt.mono (SafeAt.cons (SafeAt.append (SafeAt.cons (SafeAt.cons hsafe)))) fun hl => by simp [hasLtK, hl])
  have h3 := ihe rest hne (fun ho => hopen (by simpa [openIfK] using ho))
    (SafeAt.mono (SafeAt.cons (SafeAt.append (SafeAt.cons (SafeAt.append (SafeAt.cons (SafeAt.cons hsafe)))))) fun hl => by simp [hasLtK, hl])
  refine LevelParser.Ev.step (LevelParser.Ev.and (LevelParser.Ev.and h1 h2) h3) fun f ⟨⟨h1, h2⟩, h3⟩ => ?_
  simp [parseKind, h1, h2, h3]

theorem rk_doWhile (body : Stmt) (c : XExpr) (hwc : WF W c) (ihb : RS W body) : RK W (.doWhile body c) := by
  intro rest hne hopen hsafe
  have htoks : toks (fmtKind (.doWhile body c)) ++ rest = .p .Do :: (toks (fmtStmt body) ++
      (.p .While :: .p .LeftParen :: (toks (fmtExprX c) ++ (.p .RightParen :: .p .Semicolon :: rest)))) := by
    simp [fmtKind, pp, kw, semi]
  rw [htoks] at hsafe ⊢
  have h1 := expr_reads W c hwc _ (Or.inl rfl) (.p .Semicolon :: rest)
    (SafeAt.mono (SafeAt.cons (SafeAt.cons (SafeAt.append (SafeAt.cons hsafe)))) fun hl => by simp [hasLtK, hl])
  have h2 := ihb (.p .While :: .p .LeftParen :: (toks (fmtExprX c) ++ (.p .RightParen :: .p .Semicolon :: rest)))
    (by simp) (fun _ r h => by cases h)
    (SafeAt.mono (SafeAt.cons hsafe) fun hl => by simp [hasLtK, hl])
  refine LevelParser.Ev.step (LevelParser.Ev.and h1 h2) fun f ⟨h1, h2⟩ => ?_
  simp [parseKind, h1, h2]

theorem rk_case (v : XExpr) (next : Stmt) (hwv : WF W v) (ihn : RS W next) : RK W (.caseS v next) := by
  intro rest hne hopen hsafe
  have htoks : toks (fmtKind (.caseS v next)) ++ rest = .p .Case :: (toks (fmtExprX v) ++
      (.p .Colon :: (toks (fmtStmt next) ++ rest))) := by
    simp [fmtKind, pp, kw]
  rw [htoks] at hsafe ⊢
  have h1 := expr_reads W v hwv _ (Or.inr (Or.inr (Or.inl rfl))) (toks (fmtStmt next) ++ rest)
    (SafeAt.mono (SafeAt.cons hsafe) fun hl => by simp [hasLtK, hl])
  have h2 := ihn rest hne (fun ho => hopen (by simpa [openIfK] using ho))
    (SafeAt.mono (SafeAt.cons (SafeAt.append (SafeAt.cons hsafe))) fun hl => by simp [hasLtK, hl])
  refine LevelParser.Ev.step (LevelParser.Ev.and h1 h2) fun f ⟨h1, h2⟩ => ?_
  simp [parseKind, h1, h2]

theorem rk_default (next : Stmt) (ihn : RS W next) : RK W (.defaultS next) := by
  intro rest hne hopen hsafe
  have htoks : toks (fmtKind (.defaultS next)) ++ rest = .p .Default :: .p .Colon :: (toks (fmtStmt next) ++ rest) := by
    simp [fmtKind, pp, kw]
  rw [htoks] at hsafe ⊢
  have h2 := ihn rest hne (fun ho => hopen (by simpa [openIfK] using ho))
    (SafeAt.mono (SafeAt.cons (SafeAt.cons hsafe)) fun hl => by simpa [hasLtK] using hl)
  refine LevelParser.Ev.step h2 fun f h2 => ?_
  simp [parseKind, h2]

theorem rk_block (b : Stmts) (ihb : RSs W b) : RK W (.block b) := by
  intro rest hne hopen hsafe
  have htoks : toks (fmtKind (.block b)) ++ rest = .p .LeftBrace :: (toks (fmtStmts b) ++ .p .RightBrace :: rest) := by
    simp [fmtKind, pp]
  rw [htoks] at hsafe ⊢
  have h := ihb rest (SafeAt.mono (SafeAt.cons hsafe) fun hl => by simpa [hasLtK] using hl)
  refine LevelParser.Ev.step h fun f h => ?_
  simp [parseKind, h]

theorem rss_nil : RSs W .nil := by
  intro rest _
  exact LevelParser.Ev.succ fun f => by simp [fmtStmts, parseStmts]

end RsslVerif.Lemmas.StmtRT
