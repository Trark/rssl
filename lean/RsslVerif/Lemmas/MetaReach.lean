import RsslVerif.Spec.Meta
/-! The fixed point computed by `recurse` is reachability in the use graph. -/
namespace RsslVerif.Lemmas.MetaReach
open RsslVerif.Model.MetaReach RsslVerif.Spec.Meta

/-- everything stored is reachable -/
def Sound (direct req : Sym → List Sym) : Prop := ∀ k s, s ∈ req k → Reach direct k s

/-- the stored sets only grow from `direct` -/
def Mono (direct req : Sym → List Sym) : Prop := ∀ k s, s ∈ direct k → s ∈ req k

theorem mem_newSet {req : Sym → List Sym} {k : Sym} {s : Sym} :
    s ∈ newSet req k ↔ s ∈ req k ∨ ∃ o ∈ req k, s ∈ req o := by
  simp [newSet, List.mem_flatMap]

theorem reach_newSet {direct req : Sym → List Sym} (hs : Sound direct req) {k s : Sym} (h : s ∈ newSet req k) :
    Reach direct k s := by
  rcases mem_newSet.1 h with h | ⟨o, ho, h⟩
  · exact hs _ _ h
  · exact Reach.step (hs _ _ ho) (hs _ _ h)

theorem sound_update {direct : Sym → List Sym} (req : Sym → List Sym) (k : Sym) (hs : Sound direct req) :
    Sound direct (update req k (newSet req k)) := by
  intro g s hm
  unfold update at hm
  split at hm
  · rename_i hg
    subst hg
    exact reach_newSet hs hm
  · exact hs _ _ hm

theorem mono_update {direct : Sym → List Sym} (req : Sym → List Sym) (k : Sym) (hm : Mono direct req) :
    Mono direct (update req k (newSet req k)) := by
  intro g s hd
  unfold update
  split
  · rename_i hg; subst hg; exact mem_newSet.2 (Or.inl (hm _ _ hd))
  · exact hm _ _ hd

/-- what replacing a key's set by its union keeps, a pass keeps -/
theorem pass_inv {P : (Sym → List Sym) → Prop} (hP : ∀ req k, P req → P (update req k (newSet req k)))
    (keys : List Sym) (req : Sym → List Sym) (m : Bool) (h : P req) : P (pass keys req m).1 := by
  fun_induction pass keys req m
  case case1 => exact h
  case case2 k _ _ _ _ ih => exact ih (hP _ k h)
  case case3 ih => exact ih h

theorem pass_flag_true (keys : List Sym) : ∀ (req : Sym → List Sym), (pass keys req true).2 = true := by
  induction keys with
  | nil => intro req; rfl
  | cons f ks ih => intro req; unfold pass; split <;> exact ih _

theorem pass_unmodified (keys : List Sym) (req : Sym → List Sym) (m : Bool) (h : (pass keys req m).2 = false) :
    (pass keys req m).1 = req ∧ ∀ k ∈ keys, grows req k = false := by
  fun_induction pass keys req m
  case case1 => exact ⟨rfl, by simp⟩
  case case2 => rw [pass_flag_true] at h; cases h
  case case3 k ks req m hg ih =>
    obtain ⟨h1, h2⟩ := ih h
    exact ⟨h1, fun g hgm => (List.mem_cons.1 hgm).elim (fun e => e ▸ by simpa using hg) (h2 g)⟩

theorem grows_iff {req : Sym → List Sym} {k : Sym} :
    grows req k = true ↔ ∃ s ∈ newSet req k, s ∉ req k := by
  simp [grows]

theorem closed_of_not_grows {req : Sym → List Sym} {k : Sym} (h : grows req k = false) :
    ∀ o ∈ req k, ∀ s ∈ req o, s ∈ req k := by
  intro o ho s hs
  apply Decidable.byContradiction
  intro hn
  rw [grows_iff.2 ⟨s, mem_newSet.2 (.inr ⟨o, ho, hs⟩), hn⟩] at h
  cases h

/-- one turn of the loop: a pass that modified something is followed by another turn -/
theorem recurse_succ (n : Nat) (keys : List Sym) (req : Sym → List Sym) :
    recurse (n + 1) keys req =
      if (pass keys req false).2 = true then recurse n keys (pass keys req false).1 else some (pass keys req false).1 := by
  rw [recurse]
  split <;> simp [*]

theorem recurse_inv {direct : Sym → List Sym} (keys : List Sym) :
    ∀ (fuel : Nat) (req res : Sym → List Sym), Sound direct req → Mono direct req →
      recurse fuel keys req = some res →
      Sound direct res ∧ Mono direct res ∧ ∀ k ∈ keys, ∀ o ∈ res k, ∀ s ∈ res o, s ∈ res k := by
  intro fuel
  induction fuel with
  | zero => intro req res _ _ h; simp [recurse] at h
  | succ n ih =>
    intro req res hs hm h
    rw [recurse_succ] at h
    split at h
    · exact ih _ res (pass_inv sound_update keys req false hs) (pass_inv mono_update keys req false hm) h
    · rename_i hflag
      cases h
      obtain ⟨hsame, hng⟩ := pass_unmodified keys req false (by simpa using hflag)
      rw [hsame]
      exact ⟨hs, hm, fun k hk => closed_of_not_grows (hng k hk)⟩

theorem reach_keys {direct : Sym → List Sym} {keys : List Sym}
    (hk : ∀ k ∈ keys, ∀ s ∈ direct k, s ∈ keys) {k s : Sym}
    (hr : Reach direct k s) : k ∈ keys → s ∈ keys := by
  induction hr with
  | base hd => intro hf; exact hk _ hf _ hd
  | step _ _ ih1 ih2 => intro hf; exact ih2 (ih1 hf)

/-- `recurse` computes reachability: for every key, the stored set is exactly the set of symbols it
    mentions directly or through the symbols it can reach. -/
theorem recurse_is_reach {direct : Sym → List Sym} {keys : List Sym} {fuel : Nat} {res : Sym → List Sym}
    (hk : ∀ k ∈ keys, ∀ s ∈ direct k, s ∈ keys)
    (h : recurse fuel keys direct = some res) :
    ∀ k ∈ keys, ∀ s, s ∈ res k ↔ Reach direct k s := by
  obtain ⟨hs, hm, hc⟩ := recurse_inv (direct := direct) keys fuel direct res
    (fun _ _ hd => Reach.base hd) (fun _ _ hd => hd) h
  intro k hf s
  constructor
  · exact hs k s
  · intro hr
    induction hr with
    | base hd => exact hm _ _ hd
    | @step k' m' s' h1 _ ih1 ih2 =>
      have hh : m' ∈ keys := reach_keys hk h1 hf
      exact hc _ hf m' (ih1 hf) s' (ih2 hh)

end RsslVerif.Lemmas.MetaReach
