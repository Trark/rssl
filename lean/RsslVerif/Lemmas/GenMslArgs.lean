import RsslVerif.Lemmas.GenMslExpr
/-! Metal exporter, arguments: what the typed evaluation of an argument list guarantees, and the appended arguments for
statics. -/
namespace RsslVerif.Lemmas.GenMsl
open RsslVerif.Gen.HlslGenTables RsslVerif.Gen.MslGenTables RsslVerif.Model RsslVerif.Model.GenMsl RsslVerif.Spec.Sem
open RsslVerif.Model.Ir (Ty Var Const Dir)
open RsslVerif.Model.GenHlsl (GenErr)

/-- an out / inout argument: the variable it names, at its current value; nothing is evaluated -/
theorem evalArgs_ref (W : World) {e : Ir.Expr} {r : Ir.Exprs} {d : Dir} {T : Ty} {ps : List (Dir × Ty)} (hd : d ≠ .in_) (σ : Store) :
    Ir.evalArgs W (.cons e r) ((d, T) :: ps) σ =
      match Ir.lvalOf e with
      | none => none
      | some x =>
        match Ir.evalArgs W r ps σ with
        | none => none
        | some (l, σ2) => some ((σ x, some x) :: l, σ2) := by
  cases d with
  | in_ => exact absurd rfl hd
  | out => simp only [Ir.evalArgs]; rfl
  | inout => simp only [Ir.evalArgs]; rfl

/-- the typed evaluation of an accepted argument list: values for `in`, variables (of the parameter's type) elsewhere;
the variables are outside `rsv`, and (the later `in` arguments being pure) still hold the value that was copied in when
the list is done: the values at the call are the values of the list; a list whose `in` arguments are all pure leaves the
store as it was -/
theorem evalArgs_facts (W : World) (vty : Var → Ty) (rsv : List Var) : ∀ (es : Ir.Exprs) (ps : List (Dir × Ty)) (σ : Store) l σ1,
    Ir.evalArgs W es ps σ = some (l, σ1) → Ir.refArgsOK rsv es ps = true → Ir.argsOK W.sig vty es ps = true →
    fitsB vty ps l = true ∧ (∀ p ∈ l, ∀ x, p.2 = some x → rsv.contains x = false) ∧ l.map (valAt σ1) = l.map (·.1) ∧
      (Ir.laterPure es ps = true → σ1 = σ)
  | .nil, [], σ, l, σ1, h, _, _ => by
    simp [Ir.evalArgs] at h; obtain ⟨rfl, rfl⟩ := h; simp [fitsB]
  | .nil, _ :: _, σ, l, σ1, h, _, _ => by simp [Ir.evalArgs] at h
  | .cons _ _, [], σ, l, σ1, h, _, _ => by simp [Ir.evalArgs] at h
  | .cons e r, (d, T) :: ps, σ, l, σ1, h, hok, hty => by
    simp only [Ir.refArgsOK, Bool.and_eq_true] at hok
    obtain ⟨hte, _, hty'⟩ := Ir.argsOK_cons hty
    by_cases hd : d = .in_
    · subst hd
      simp only [Ir.evalArgs] at h
      cases he : Ir.eval W e σ with
      | none => simp [he] at h
      | some r1 =>
        obtain ⟨v1, σa⟩ := r1
        simp only [he] at h
        cases hr : Ir.evalArgs W r ps σa with
        | none => simp [hr] at h
        | some r2 =>
          obtain ⟨l2, σ2⟩ := r2
          simp [hr] at h
          obtain ⟨rfl, rfl⟩ := h
          obtain ⟨f1, f2, fv, f3⟩ := evalArgs_facts W vty rsv r ps σa l2 σ2 hr hok.2 hty'
          refine ⟨by simp [fitsB, f1], ?_, by simp [valAt, fv], fun hp => ?_⟩
          · intro p hp x hx
            rcases List.mem_cons.mp hp with rfl | h0
            · simp at hx
            · exact f2 p h0 x hx
          · simp only [Ir.laterPure, Bool.and_eq_true, Bool.or_eq_true, decide_eq_true_eq] at hp
            rw [f3 hp.2]
            exact pure_eval W e σ v1 σa (hp.1.resolve_left fun h0 => h0 rfl) he
    · rw [evalArgs_ref W hd] at h
      cases hl : Ir.lvalOf e with
      | none => simp [hl] at h
      | some x0 =>
        simp only [hl] at h
        simp only [hl, hd, Bool.and_eq_true, Bool.not_eq_true', if_false] at hok
        cases hr : Ir.evalArgs W r ps σ with
        | none => simp [hr] at h
        | some r2 =>
          obtain ⟨l2, σ2⟩ := r2
          simp [hr] at h
          obtain ⟨rfl, rfl⟩ := h
          obtain ⟨f1, f2, fv, f3⟩ := evalArgs_facts W vty rsv r ps σ l2 σ2 hr hok.2 hty'
          obtain rfl := f3 hok.1.2
          refine ⟨by simp [fitsB, f1, hd, (lval_tyM hte hl).1], ?_, by simp [valAt, fv], fun _ => rfl⟩
          intro p hp x hx
          rcases List.mem_cons.mp hp with rfl | h0
          · simp at hx; subst hx
            exact hok.1.1
          · exact f2 p h0 x hx

/-- the arguments `append_arguments_for_globals` pushes evaluate, without effect, to references to the statics -/
theorem globalArgs_eval' {M : Msl.MWorld} {env : Ast.Env} {cx : Ctx} (hvty : env.vty = cx.vty) :
    ∀ (gs : List Nat), (∀ g ∈ gs, env.res (cx.globName g) = some (.glob g)) →
      ∀ σ, Msl.evalArgs M env (globalArgs cx gs) (globParams cx gs) σ = some (globMArgs gs, σ)
  | [], _, σ => by simp [globalArgs, globParams, globMArgs, Msl.evalArgs]
  | g :: r, hv, σ => by
    have ih := globalArgs_eval' (M := M) hvty r (fun g' hg' => hv g' (List.mem_cons_of_mem _ hg')) σ
    have hr := hv g (by simp)
    simp only [globParams, globMArgs, List.map_cons] at ih ⊢
    simp [globalArgs, Msl.evalArgs, Msl.lvalOf, hr, hvty, ih]

theorem globalArgs_eval {M : Msl.MWorld} {env : Ast.Env} {cx : Ctx} {vis : Var → Bool} (hag : AgreeM cx vis env)
    (gs : List Nat) (hv : gs.all (fun g => vis (.glob g)) = true) :
    ∀ σ, Msl.evalArgs M env (globalArgs cx gs) (globParams cx gs) σ = some (globMArgs gs, σ) := by
  apply globalArgs_eval' hag.vty
  intro g hg
  have := hag.res (.glob g) (by simpa using (List.all_eq_true.mp hv) g hg)
  simpa [Ctx.name] using this

end RsslVerif.Lemmas.GenMsl
