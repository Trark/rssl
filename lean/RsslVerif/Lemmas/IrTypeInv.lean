import RsslVerif.Spec.SemVec
/-! What an accepted expression tells about its parts: `Ir.typeOf` and `VIr.typeOf` read backwards, one lemma per
constructor; and that `IntrinsicOp.all` lists every operator. -/
namespace RsslVerif.Gen.HlslGenTables

theorem IntrinsicOp.mem_all (o : IntrinsicOp) : o ∈ IntrinsicOp.all := by cases o <;> decide +kernel

end RsslVerif.Gen.HlslGenTables

namespace RsslVerif.Spec.Sem.Ir
open RsslVerif.Gen.HlslGenTables RsslVerif.Gen.HlslIntrinsicTables RsslVerif.Model RsslVerif.Model.Ir
open RsslVerif.Model.Ir (Ty Var Const Dir)

variable {sig : Sig} {vty : Var → Ty}

theorem typeOf_cast {ty : Ty} {e : Expr} {t : Ty} (h : typeOf sig vty (.cast ty e) = some t) :
    ∃ te, typeOf sig vty e = some te ∧ t = ty ∧ ty ≠ .lit ∧ ty ≠ .flit := by
  simp only [typeOf] at h
  split at h <;> simp only [Option.ite_none_left_eq_some, Option.some.injEq, reduceCtorEq, not_or] at h
  next te he => exact ⟨te, he, h.2.symm, h.1⟩

theorem typeOf_tern {c f g : Expr} {t : Ty} (h : typeOf sig vty (.tern c f g) = some t) :
    typeOf sig vty c = some .bool ∧ typeOf sig vty f = some t ∧ typeOf sig vty g = some t := by
  simp only [typeOf] at h
  split at h <;> simp only [Option.ite_none_right_eq_some, Option.some.injEq, reduceCtorEq] at h
  next hc hf hg =>
    obtain ⟨rfl, rfl⟩ := h
    exact ⟨hc, hf, hg⟩

theorem typeOf_call {f : Nat} {args : Exprs} {t : Ty} (h : typeOf sig vty (.call f args) = some t) :
    ∃ ps, sig f = some (t, ps) ∧ argsOK sig vty args ps = true := by
  simp only [typeOf] at h
  split at h <;> simp only [Option.ite_none_right_eq_some, Option.some.injEq, reduceCtorEq] at h
  next ps hs =>
    obtain ⟨hok, rfl⟩ := h
    exact ⟨ps, hs, hok⟩

theorem typeOf_op_nil {o : IntrinsicOp} : typeOf sig vty (.op o .nil) = none := by simp [typeOf]

theorem typeOf_op_many {o : IntrinsicOp} {a b c : Expr} {r : Exprs} :
    typeOf sig vty (.op o (.cons a (.cons b (.cons c r)))) = none := by simp [typeOf]

/-- a unary operator: the result has the operand's type; `!` needs `bool`, `++` / `--` an lvalue -/
theorem typeOf_op1 {o : IntrinsicOp} {a : Expr} {t : Ty} (h : typeOf sig vty (.op o (.cons a .nil)) = some t) :
    typeOf sig vty a = some t ∧
      ((∃ m, irOpSem o = .un m ∧ (m = .lnot → t = .bool)) ∨
       (∃ pre inc, irOpSem o = .incdec pre inc ∧ (lvalOf a).isSome = true)) := by
  simp only [typeOf] at h
  split at h <;> simp only [Option.ite_none_right_eq_some, Option.some.injEq, reduceCtorEq] at h
  next hs ha => subst h; exact ⟨ha, .inl ⟨_, hs, fun _ => rfl⟩⟩
  next m _ _ hnot hs ha => subst h; exact ⟨ha, .inl ⟨m, hs, fun hm => absurd hm hnot⟩⟩
  next pre inc _ hs ha =>
    obtain ⟨hl, rfl⟩ := h
    exact ⟨ha, .inr ⟨pre, inc, hs, hl⟩⟩

/-- a binary operator: both operands have one type `ta`; what the result is depends on the kind of operator -/
theorem typeOf_op2 {o : IntrinsicOp} {a b : Expr} {t : Ty}
    (h : typeOf sig vty (.op o (.cons a (.cons b .nil))) = some t) :
    ∃ ta, typeOf sig vty a = some ta ∧ typeOf sig vty b = some ta ∧
      ((∃ m, irOpSem o = .bin m ∧ t = if m.isCmp then .bool else ta) ∨
       ((irOpSem o = .land ∨ irOpSem o = .lor) ∧ ta = .bool ∧ t = .bool) ∨
       (irOpSem o = .assign ∧ (lvalOf a).isSome = true ∧ t = ta) ∨
       (∃ m, irOpSem o = .compound m ∧ (lvalOf a).isSome = true ∧ m.isCmp = false ∧ t = ta)) := by
  simp only [typeOf] at h
  split at h <;> simp only [Option.ite_none_right_eq_some, Option.some.injEq, reduceCtorEq] at h
  next m ta _ hs ha hb =>
    obtain ⟨rfl, h⟩ := h
    refine ⟨ta, ha, hb, .inl ⟨m, hs, ?_⟩⟩
    split at h <;> simp_all
  next hs ha hb => exact ⟨.bool, ha, hb, .inr (.inl ⟨.inl hs, rfl, h.symm⟩)⟩
  next hs ha hb => exact ⟨.bool, ha, hb, .inr (.inl ⟨.inr hs, rfl, h.symm⟩)⟩
  next ta _ hs ha hb =>
    obtain ⟨⟨rfl, hl⟩, rfl⟩ := h
    exact ⟨ta, ha, hb, .inr (.inr (.inl ⟨hs, hl, rfl⟩))⟩
  next m ta _ hs ha hb =>
    obtain ⟨⟨rfl, hl, hcmp⟩, rfl⟩ := h
    exact ⟨ta, ha, hb, .inr (.inr (.inr ⟨m, hs, hl, hcmp, rfl⟩))⟩

theorem typeOf_intr {i : Intrinsic} {T ret : Ty} {args : Exprs} {t : Ty}
    (h : typeOf sig vty (.intr i T ret args) = some t) :
    t = ret ∧ (∃ e r, args = .cons e r) ∧ allTy sig vty T args = true ∧ ret = Ast.builtinRet i T ∧
      Ast.modelledBuiltin i = true ∧ T ≠ .lit ∧ T ≠ .flit := by
  cases args with
  | nil => simp [typeOf] at h
  | cons e r =>
    simp only [typeOf, Option.ite_none_right_eq_some, Option.some.injEq] at h
    exact ⟨h.2.symm, ⟨e, r, rfl⟩, h.1⟩

theorem typeOfSeq_single {e : Expr} : typeOfSeq sig vty (.cons e .nil) = typeOf sig vty e := by
  simp only [typeOfSeq]
  cases typeOf sig vty e <;> rfl

theorem typeOfSeq_cons_cons {e e2 : Expr} {r : Exprs} {t : Ty}
    (h : typeOfSeq sig vty (.cons e (.cons e2 r)) = some t) :
    (∃ te, typeOf sig vty e = some te) ∧ typeOfSeq sig vty (.cons e2 r) = some t := by
  rw [typeOfSeq] at h
  cases he : typeOf sig vty e with
  | none => simp [he] at h
  | some te => simp only [he] at h; exact ⟨⟨te, rfl⟩, h⟩

theorem argsOK_cons {e : Expr} {r : Exprs} {d : Dir} {T : Ty} {ps : List (Dir × Ty)}
    (h : argsOK sig vty (.cons e r) ((d, T) :: ps) = true) :
    typeOf sig vty e = some T ∧ (d = .in_ ∨ (lvalOf e).isSome = true) ∧ argsOK sig vty r ps = true := by
  simp only [argsOK, Bool.and_eq_true] at h
  cases he : typeOf sig vty e with
  | none => simp [he] at h
  | some te =>
    simp only [he, Bool.and_eq_true, Bool.or_eq_true, decide_eq_true_eq] at h
    obtain ⟨⟨rfl, hd⟩, hr⟩ := h
    exact ⟨rfl, hd, hr⟩

theorem argsOK_cons_ne_nil {e : Expr} {r : Exprs} : argsOK sig vty (.cons e r) [] = false := by simp [argsOK]

theorem argsOK_nil {ps : List (Dir × Ty)} (h : argsOK sig vty .nil ps = true) : ps = [] := by
  cases ps with
  | nil => rfl
  | cons p ps => simp [argsOK] at h

end RsslVerif.Spec.Sem.Ir

namespace RsslVerif.Spec.SemVec.VIr
open RsslVerif.Gen.HlslGenTables RsslVerif.Gen.HlslVecTables RsslVerif.Model RsslVerif.Model.IrVec RsslVerif.Spec.Sem
open RsslVerif.Model.Ir (Ty Var)

variable {sig : Sig} {vty : Var → Ty} {vvty : Var → VTy}

theorem typeOf_sc {e : Ir.Expr} {t : VTy} (h : typeOf sig vty vvty (.sc e) = some t) :
    ∃ k, Ir.typeOf sig vty e = some k ∧ t = .sc k := by
  simp only [typeOf] at h
  cases he : Ir.typeOf sig vty e with
  | none => simp [he] at h
  | some k => simp [he] at h; exact ⟨k, rfl, h.symm⟩

theorem typeOf_cast {ty : VTy} {e : VExpr} {t : VTy} (h : typeOf sig vty vvty (.cast ty e) = some t) :
    ∃ te, typeOf sig vty vvty e = some te ∧ t = ty ∧ ty.scalar ≠ .lit ∧ ty.scalar ≠ .flit ∧ ty.scalar ≠ .void := by
  simp only [typeOf] at h
  split at h <;> simp only [Option.ite_none_left_eq_some, Option.some.injEq, reduceCtorEq, not_or] at h
  next te he => exact ⟨te, he, h.2.symm, h.1⟩

/-- a swizzle: the slots are within the operand's component count (1 for a scalar) -/
theorem typeOf_swz {e : VExpr} {sl : List SwizzleSlot} {t : VTy} (h : typeOf sig vty vvty (.swz e sl) = some t) :
    ∃ te, typeOf sig vty vvty e = some te ∧ t = swzTy te.scalar sl.length ∧ sl ≠ [] ∧
      sl.all (fun s => decide (slotIdx s < te.count)) = true ∧ e.litlike = false := by
  simp only [typeOf] at h
  split at h <;> simp only [Option.ite_none_right_eq_some, Option.some.injEq, reduceCtorEq] at h
  next he => exact ⟨_, he, h.2.symm, h.1⟩
  next he => exact ⟨_, he, h.2.symm, h.1⟩

theorem typeOf_ctor {ty : VTy} {slots : VSlots} {t : VTy} (h : typeOf sig vty vvty (.ctor ty slots) = some t) :
    t = ty ∧ slotsOK sig vty vvty ty.scalar slots = some ty.count ∧
      ty.scalar ≠ .lit ∧ ty.scalar ≠ .flit ∧ ty.scalar ≠ .void := by
  simp only [typeOf] at h
  split at h <;> simp only [Option.ite_none_right_eq_some, Option.some.injEq, reduceCtorEq] at h
  next total hs =>
    obtain ⟨⟨rfl, hc⟩, rfl⟩ := h
    exact ⟨rfl, hs, hc⟩

theorem typeOf_tern {c f g : VExpr} {t : VTy} (h : typeOf sig vty vvty (.tern c f g) = some t) :
    typeOf sig vty vvty c = some (.sc .bool) ∧ typeOf sig vty vvty f = some t ∧ typeOf sig vty vvty g = some t ∧
      (f.litlike && g.litlike) = false := by
  simp only [typeOf] at h
  split at h <;> simp only [Option.ite_none_right_eq_some, Option.some.injEq, reduceCtorEq] at h
  next hc hf hg =>
    obtain ⟨⟨rfl, hl⟩, rfl⟩ := h
    exact ⟨hc, hf, hg, hl⟩

theorem typeOf_op_nil {o : IntrinsicOp} : typeOf sig vty vvty (.op o .nil) = none := by simp [typeOf]

theorem typeOf_op_many {o : IntrinsicOp} {a b c : VExpr} {r : VExprs} :
    typeOf sig vty vvty (.op o (.cons a (.cons b (.cons c r)))) = none := by simp [typeOf]

/-- a unary operator (no `++` / `--` in the layer): the result has the operand's type; `!` needs `bool` components -/
theorem typeOf_op1 {o : IntrinsicOp} {a : VExpr} {t : VTy} (h : typeOf sig vty vvty (.op o (.cons a .nil)) = some t) :
    ∃ m, irOpSem o = .un m ∧ typeOf sig vty vvty a = some t ∧ a.litlike = false ∧ (m = .lnot → t.scalar = .bool) := by
  simp only [typeOf] at h
  split at h <;> simp only [Option.ite_none_right_eq_some, Option.some.injEq, reduceCtorEq] at h
  next hs ha =>
    obtain ⟨hc, rfl⟩ := h
    exact ⟨_, hs, ha, hc.2, fun _ => hc.1⟩
  next m _ hnot hs ha =>
    obtain ⟨hc, rfl⟩ := h
    exact ⟨m, hs, ha, hc, fun hm => absurd hm hnot⟩

/-- a binary operator: both operands have one type `ta`; component-wise operators keep it (comparisons give `bool`
components), `&&` / `||` take scalar `bool`s -/
theorem typeOf_op2 {o : IntrinsicOp} {a b : VExpr} {t : VTy}
    (h : typeOf sig vty vvty (.op o (.cons a (.cons b .nil))) = some t) :
    ∃ ta, typeOf sig vty vvty a = some ta ∧ typeOf sig vty vvty b = some ta ∧
      ((∃ m, irOpSem o = .bin m ∧ (a.litlike && b.litlike) = false ∧ t = if m.isCmp then ta.withScalar .bool else ta) ∨
       ((irOpSem o = .land ∨ irOpSem o = .lor) ∧ ta = .sc .bool ∧ t = .sc .bool)) := by
  simp only [typeOf] at h
  split at h <;> simp only [Option.ite_none_right_eq_some, Option.some.injEq, reduceCtorEq] at h
  next m ta _ hs ha hb =>
    obtain ⟨⟨rfl, hl⟩, h⟩ := h
    refine ⟨ta, ha, hb, .inl ⟨m, hs, hl, ?_⟩⟩
    split at h <;> simp_all
  next hs ha hb => exact ⟨_, ha, hb, .inr ⟨.inl hs, rfl, h.symm⟩⟩
  next hs ha hb => exact ⟨_, ha, hb, .inr ⟨.inr hs, rfl, h.symm⟩⟩

theorem slotsOK_nil {k : Ty} : slotsOK sig vty vvty k .nil = some 0 := by simp [slotsOK]

theorem slotsOK_cons {k : Ty} {n : Nat} {e : VExpr} {r : VSlots} {total : Nat}
    (h : slotsOK sig vty vvty k (.cons n e r) = some total) :
    ∃ te m, typeOf sig vty vvty e = some te ∧ slotsOK sig vty vvty k r = some m ∧ te.scalar = k ∧ te.count = n ∧
      total = n + m := by
  simp only [slotsOK] at h
  split at h <;> simp only [Option.ite_none_right_eq_some, Option.some.injEq, reduceCtorEq] at h
  next te m he hr => exact ⟨te, m, he, hr, h.1.1, h.1.2, h.2.symm⟩

end RsslVerif.Spec.SemVec.VIr
