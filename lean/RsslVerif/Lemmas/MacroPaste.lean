import RsslVerif.Model.Macro
import RsslVerif.Model.Lexer
import RsslVerif.Gen.MacroTables
import RsslVerif.Lemmas.MacroSubst
import RsslVerif.Lemmas.LexerInt
import RsslVerif.Lemmas.Dec2BinCutoff
/-!
`apply_single_macro` unlexes the two operands of `##`, joins the texts, lexes the result and accepts it if that is exactly
one token followed by the line end the lexer appends.  The macro model decides this with `pasteTokens`; here it is compared
with the lexer model of C10 (identifiers, decimal integers, one-character operators, the keyword table).  Last,
`paste_step`: one `##` operation of the loop, in the form `Thm.C12.paste_is_single_token` states it.
-/
namespace RsslVerif.Lemmas.MacroPaste
open RsslVerif.Model.Macro

theorem toList_loop_eq (data : Array UInt8) (n : Nat) : ∀ (i : Nat) (r : List UInt8), data.size - i = n →
    i ≤ data.size → ByteArray.toList.loop ⟨data⟩ i r = r.reverse ++ data.toList.drop i := by
  induction n with
  | zero =>
    intro i r h hi
    rw [ByteArray.toList.loop]
    have h1 : ¬ i < (ByteArray.mk data).size := by show ¬ i < data.size; omega
    simp only [h1, if_false]
    have : data.toList.drop i = [] := List.drop_eq_nil_of_le (by simp; omega)
    rw [this]; simp
  | succ n ih =>
    intro i r h hi
    rw [ByteArray.toList.loop]
    have hlt : i < data.size := by omega
    have h1 : i < (ByteArray.mk data).size := hlt
    simp only [h1, if_true]
    rw [ih (i + 1) _ (by omega) (by omega)]
    have hlt' : i < data.toList.length := by simpa using hlt
    rw [List.drop_eq_getElem_cons hlt']
    have hget : (ByteArray.mk data).get! i = data.toList[i] := by
      show data[i]! = data.toList[i]
      simp [hlt]
    rw [hget]
    simp [List.reverse_cons, List.append_assoc]

theorem byteArray_toList_eq (bs : ByteArray) : bs.toList = bs.data.toList := by
  obtain ⟨data⟩ := bs
  unfold ByteArray.toList
  have := toList_loop_eq data data.size 0 [] (by omega) (by omega)
  simpa using this

open RsslVerif.Model.Lexer in
theorem str_append (a b : String) : str (a ++ b) = str a ++ str b := by
  unfold str String.toUTF8
  rw [String.toByteArray_append, byteArray_toList_eq, byteArray_toList_eq, byteArray_toList_eq,
    ByteArray.data_append, Array.toList_append]

open RsslVerif.Model.Lexer in
theorem str_inj {a b : String} (h : str a = str b) : a = b := by
  unfold str String.toUTF8 at h
  rw [byteArray_toList_eq, byteArray_toList_eq] at h
  apply String.toByteArray_inj.mp
  apply ByteArray.ext
  exact Array.toList_inj.mp h

/-- what `unlex` writes for a token of the macro model -/
def spell : Tok → String
  | .id s | .int s | .punct s => s
  | .lparen => "("
  | .rparen => ")"
  | .comma => ","
  | .hashhash => "##"
  | _ => ""

theorem pasteTokens_spelling (l r m : PTok) (h : pasteTokens l r = .ok m) :
    spell m.tok = spell l.tok ++ spell r.tok ∧ m.located = true := by
  obtain ⟨hloc, a, b, ⟨h1, h2 | h2, hm⟩ | ⟨h1, h2, hm⟩ | ⟨h1, h2, _, hm⟩⟩ := RsslVerif.Lemmas.MacroTerm.pasteTokens_ok l r m h <;>
    exact ⟨by simp [spell, h1, h2, hm], hloc⟩

section Lexer
open RsslVerif.Model.Lexer RsslVerif.Gen.LexTables

theorem spanIdent_all (cs : Bytes) (h : ∀ x ∈ cs, isIdentChar x = true) : spanIdent cs = (cs, []) := by
  induction cs with
  | nil => rfl
  | cons c r ih =>
    have := ih (fun x hx => h x (by simp [hx]))
    simp [spanIdent, h c (by simp), this]

theorem identStart_not_digit (c : UInt8) (h : isIdentStart c = true) : ¬ (48 ≤ c.toNat ∧ c.toNat ≤ 57) := by
  unfold isIdentStart at h
  simp only [Bool.or_eq_true, Bool.and_eq_true, decide_eq_true_eq] at h
  omega

theorem keyword_not_endline : ∀ kw ∈ keywords, kw.2 ≠ Simple.Endline := by decide

theorem wordToken_ne_endline (w : Bytes) : wordToken w ≠ .simple .Endline := by
  unfold wordToken
  split
  · rename_i kw hf
    have := keyword_not_endline kw (List.mem_of_find?_eq_some hf)
    intro h
    simp only [Token.simple.injEq] at h
    exact this h
  · split <;> (intro h; cases h)

/-- a text the tokenizer reads as one token, not the line end: the lexer yields that token and the line end it appends -/
theorem readToEnd_single (c : UInt8) (cs : Bytes) (tok : Token) (htok : tokenIntermediate (c :: cs) false = .ok ([], tok))
    (hne : tok ≠ .simple .Endline) :
    readToEnd (c :: cs) = .ok [⟨tok, 0, (c :: cs).length⟩, ⟨.simple .Endline, (c :: cs).length, (c :: cs).length⟩] := by
  unfold readToEnd readAll
  have hfuel : (c :: cs).length + 2 = (cs.length + 0) + 1 + 1 + 1 := by simp
  rw [hfuel]
  simp only [readLoop, Stream.new, Stream.endOfStream, Stream.next, List.length_cons, List.drop_zero, htok,
    List.length_nil]
  simp [hne]

/-- an identifier-shaped text: a letter or `_`, then letters, digits, `_` -/
def IdentText (w : Bytes) : Prop := ∃ c cs, w = c :: cs ∧ isIdentStart c = true ∧ ∀ x ∈ cs, isIdentChar x = true

/-- **the lexer on an identifier-shaped text**: one word token (identifier, keyword or reserved word) over the whole
text, then the line end the lexer appends -- the `[token, Endline]` shape `apply_single_macro` accepts after `##` -/
theorem lex_word (w : Bytes) (h : IdentText w) :
    readToEnd w = .ok [⟨wordToken w, 0, w.length⟩, ⟨.simple .Endline, w.length, w.length⟩] := by
  obtain ⟨c, cs, rfl, hc, hcs⟩ := h
  apply readToEnd_single c cs _ _ (wordToken_ne_endline _)
  simp only [tokenIntermediate, tokenStep, identStart_not_digit c hc, if_false, hc, if_true, anyWord,
    spanIdent_all cs hcs]

end Lexer


section LexerInt
open RsslVerif.Model.Lexer RsslVerif.Gen.LexTables RsslVerif.Spec

def isDigitByte (b : UInt8) : Bool := decide (48 ≤ b.toNat ∧ b.toNat ≤ 57)

theorem decDigit_of_digit (b : UInt8) (h : isDigitByte b = true) : decDigit? b = some (b.toNat - 48) :=
  decDigit_of_range b (by simpa [isDigitByte] using h)

theorem spanDigits_all (r : Bytes) (h : ∀ x ∈ r, isDigitByte x = true) :
    spanDigits r = (digitRun decDigit? r, []) := by
  induction r with
  | nil => rfl
  | cons b r ih =>
    have hb := decDigit_of_digit b (h b (by simp))
    have := ih (fun x hx => h x (by simp [hx]))
    simp [spanDigits, digitRun, hb, this]

theorem afterRun_all (r : Bytes) (h : ∀ x ∈ r, isDigitByte x = true) : afterRun decDigit? r = [] := by
  induction r with
  | nil => rfl
  | cons b r ih =>
    have hb := decDigit_of_digit b (h b (by simp))
    simp [afterRun, hb, ih (fun x hx => h x (by simp [hx]))]

theorem digitRun_lt (r : Bytes) : ∀ d ∈ digitRun decDigit? r, d < 10 := by
  induction r with
  | nil => intro d hd; cases hd
  | cons b r ih =>
    intro d hd
    unfold digitRun at hd
    cases hb : decDigit? b with
    | none => simp [hb] at hd
    | some k =>
      simp only [hb, List.mem_cons] at hd
      rcases hd with rfl | hd
      · unfold decDigit? at hb
        split at hb
        · simp only [Option.some.injEq] at hb; omega
        · cases hb
      · exact ih d hd

theorem digitRun_length (r : Bytes) (h : ∀ x ∈ r, isDigitByte x = true) : (digitRun decDigit? r).length = r.length := by
  induction r with
  | nil => rfl
  | cons b r ih =>
    have hb := decDigit_of_digit b (h b (by simp))
    simp [digitRun, hb, ih (fun x hx => h x (by simp [hx]))]

/-- on a text of decimal digits `literal_float` declines (`OtherTokenBytes` at the start) -/
theorem literalFloat_digits (b : UInt8) (r : Bytes) (hb : isDigitByte b = true) (hr : ∀ x ∈ r, isDigitByte x = true) :
    literalFloat (b :: r) = .error (.lex (.rest (b :: r)) .OtherTokenBytes) := by
  have hd := decDigit_of_digit b hb
  have hseq : digitSequence (b :: r) = .ok ([], (b.toNat - 48) :: digitRun decDigit? r) := by
    simp [digitSequence, digitWith, hd, spanDigits_all r hr]
  have hfrac : opt (fractionalConstant (b :: r)) (b :: r) = (b :: r, none) := by
    simp [fractionalConstant, opt, hseq, otherTokenChars]
  unfold literalFloat floatMantissa
  simp only [hfrac, hseq]
  simp [opt, floatExponent, wrongChars, otherTokenChars]

/-- a decimal number: digits, the first one not `0` (rssl compares integer tokens by value; a leading `0` would be
octal), at most 19 of them (fits in 64 bits) -/
def NumberText (w : Bytes) : Prop :=
  ∃ c cs, w = c :: cs ∧ isDigitByte c = true ∧ c.toNat ≠ 48 ∧ (∀ x ∈ cs, isDigitByte x = true) ∧ cs.length + 1 ≤ 19

/-- **the lexer on a decimal number** that does not start with `0` and fits in 64 bits: one integer literal with the
value the digits denote, then the appended line end -/
theorem lex_digits (w : Bytes) (h : NumberText w) :
    readToEnd w = .ok [⟨.litInt (Dec2Bin.ofDigits 10 (digitRun decDigit? w)), 0, w.length⟩,
      ⟨.simple .Endline, w.length, w.length⟩] := by
  obtain ⟨b, r, rfl, hb, hb0, hr, hlen⟩ := h
  have hd := decDigit_of_digit b hb
  have hbd : 48 ≤ b.toNat ∧ b.toNat ≤ 57 := by simpa [isDigitByte] using hb
  have hall : ∀ x ∈ b :: r, isDigitByte x = true := by
    intro x hx; rcases List.mem_cons.mp hx with rfl | hx
    · exact hb
    · exact hr x hx
  have hv : Dec2Bin.ofDigits 10 (digitRun decDigit? (b :: r)) < 2 ^ 64 := by
    have h1 := Dec2Bin.ofDigits_lt (digitRun decDigit? (b :: r)) (digitRun_lt (b :: r))
    rw [digitRun_length (b :: r) hall] at h1
    have h2 : (10 : Nat) ^ (b :: r).length ≤ 10 ^ 19 := Nat.pow_le_pow_right (by omega) (by simpa using hlen)
    have h3 : (10 : Nat) ^ 19 < 2 ^ 64 := by decide
    omega
  have hint : literalInt (b :: r) =
      .ok ([], .litInt (Dec2Bin.ofDigits 10 (digitRun decDigit? (b :: r)))) := by
    have hs1 : stripPrefix? [48, 120] (b :: r) = none := by
      have : ¬ ((48 : UInt8) = b) := fun hh => hb0 (by rw [← hh]; rfl)
      simp [stripPrefix?, this]
    have hs2 : stripPrefix? [48] (b :: r) = none := by
      have : ¬ ((48 : UInt8) = b) := fun hh => hb0 (by rw [← hh]; rfl)
      simp [stripPrefix?, this]
    simp only [literalInt, hs1, hs2, literalIntWith]
    rw [digitsWith_closed decDigit? 10 (by omega) (fun x d h => by
      unfold decDigit? at h; split at h
      · simp only [Option.some.injEq] at h; omega
      · cases h) b r _ hd]
    simp only [hv, if_true, afterRun_all (b :: r) hall]
    rfl
  refine readToEnd_single b r _ ?_ (fun h => by cases h)
  simp only [tokenIntermediate, tokenStep, hbd, and_self, if_true, literalFloat_digits b r hb hr, ErrAt.len,
    List.length_cons, hint]

end LexerInt


section Tie
open RsslVerif.Model.Lexer

/-- the model's keyword list (`Gen.MacroTables.keywords`: the spellings `any_word` does not turn into `Token::Id`) is
the union of the lexer's keyword table and its reserved words (`Gen.LexTables`) -/
theorem keywords_agree :
    (∀ s ∈ RsslVerif.Gen.MacroTables.keywords,
      s ∈ RsslVerif.Gen.LexTables.keywords.map (·.1) ∨ s ∈ RsslVerif.Gen.LexTables.reservedWords) ∧
    (∀ s ∈ RsslVerif.Gen.LexTables.keywords.map (·.1), s ∈ RsslVerif.Gen.MacroTables.keywords) ∧
    (∀ s ∈ RsslVerif.Gen.LexTables.reservedWords, s ∈ RsslVerif.Gen.MacroTables.keywords) := by
  decide +kernel

theorem wordToken_id (s : String) (h : RsslVerif.Gen.MacroTables.keywords.contains s = false) :
    wordToken (str s) = .id (str s) := by
  have hs : s ∉ RsslVerif.Gen.MacroTables.keywords := by
    intro hm
    have : RsslVerif.Gen.MacroTables.keywords.contains s = true := by simpa using hm
    rw [h] at this; cases this
  unfold wordToken
  have h1 : RsslVerif.Gen.LexTables.keywords.find? (fun kw => str kw.1 == str s) = none := by
    rw [List.find?_eq_none]
    intro kw hkw heq
    have : kw.1 = s := str_inj (by simpa using heq)
    exact hs (keywords_agree.2.1 s (by rw [← this]; exact List.mem_map.mpr ⟨kw, hkw, rfl⟩))
  have h2 : RsslVerif.Gen.LexTables.reservedWords.any (fun w => str w == str s) = false := by
    rw [List.any_eq_false]
    intro w hw heq
    have : w = s := str_inj (by simpa using heq)
    exact hs (keywords_agree.2.2 s (by rw [← this]; exact hw))
  simp only [h1, h2]
  rfl

/-- the text of an identifier followed by identifier characters (an identifier or a number) is identifier-shaped -/
theorem identText_append (a b : String) (ha : IdentText (str a)) (hb : ∀ x ∈ str b, isIdentChar x = true) :
    IdentText (str (a ++ b)) := by
  obtain ⟨c, cs, hw, hc, hcs⟩ := ha
  refine ⟨c, cs ++ str b, by rw [str_append, hw]; rfl, hc, ?_⟩
  intro x hx
  rcases List.mem_append.mp hx with h | h
  · exact hcs x h
  · exact hb x h

/-- **`##` of an identifier with an identifier or a number.**  If the joined spelling is identifier-shaped and is no
keyword, `pasteTokens` yields the identifier of that spelling -- and the lexer model of C10 reads the joined text as
exactly that identifier followed by the appended line end. -/
theorem paste_identifiers_matches_lexer (a b : String) (k : String → Tok) (hk : k = Tok.id ∨ k = Tok.int)
    (hshape : IdentText (str (a ++ b))) (hkw : RsslVerif.Gen.MacroTables.keywords.contains (a ++ b) = false) :
    pasteTokens ⟨.id a, true⟩ ⟨k b, true⟩ = .ok ⟨.id (a ++ b), true⟩ ∧
    readToEnd (str (a ++ b)) =
      .ok [⟨.id (str (a ++ b)), 0, (str (a ++ b)).length⟩,
           ⟨.simple .Endline, (str (a ++ b)).length, (str (a ++ b)).length⟩] := by
  constructor
  · have hkw' : ¬ (a ++ b) ∈ RsslVerif.Gen.MacroTables.keywords := by
      intro hm
      have : RsslVerif.Gen.MacroTables.keywords.contains (a ++ b) = true := by simpa using hm
      rw [hkw] at this; cases this
    rcases hk with rfl | rfl <;> simp [pasteTokens, hkw']
  · rw [lex_word _ hshape, wordToken_id _ hkw]

/-- **`##` of two numbers.**  If the joined spelling is a decimal number (no leading `0`, at most 19 digits),
`pasteTokens` yields the integer token of that spelling -- and the lexer model of C10 reads the joined text as exactly
one integer literal, whose value is the number the digits denote, followed by the appended line end. -/
theorem paste_numbers_matches_lexer (a b : String) (hshape : NumberText (str (a ++ b))) :
    pasteTokens ⟨.int a, true⟩ ⟨.int b, true⟩ = .ok ⟨.int (a ++ b), true⟩ ∧
    readToEnd (str (a ++ b)) =
      .ok [⟨.litInt (RsslVerif.Spec.Dec2Bin.ofDigits 10 (digitRun decDigit? (str (a ++ b)))), 0,
              (str (a ++ b)).length⟩,
           ⟨.simple .Endline, (str (a ++ b)).length, (str (a ++ b)).length⟩] := by
  have hlex := lex_digits _ hshape
  refine ⟨?_, hlex⟩
  have h1 : lexOne (a ++ b) =
      some (.litInt (RsslVerif.Spec.Dec2Bin.ofDigits 10 (digitRun decDigit? (str (a ++ b))))) := by
    unfold lexOne
    rw [hlex]
    simp
  simp [pasteTokens, h1, isIntLiteral]

/-- **`##` of two numbers in ANY spelling** (hex, octal, leading zeros, suffixes): the model joins the two source
spellings and asks the lexer model of C10 -- the paste succeeds with the integer token *spelled* `a ++ b` exactly when
the lexer reads the joined SPELLING as one integer literal followed by the appended line end, and it is `ConcatFailed`
exactly when the lexer does not read one token.  Nothing depends on the values of the operands: `0x1 ## 0` is `0x10`
(16), not `10`; `00 ## 7` is `007` (7); `1u ## 2` is no token. -/
theorem paste_number_spellings_match_lexer (a b : String) :
    (pasteTokens ⟨.int a, true⟩ ⟨.int b, true⟩ = .ok ⟨.int (a ++ b), true⟩ ↔
      ∃ t, lexOne (a ++ b) = some t ∧ isIntLiteral t = true) ∧
    (pasteTokens ⟨.int a, true⟩ ⟨.int b, true⟩ = .error .concatFailed ↔ lexOne (a ++ b) = none) ∧
    (∀ m, pasteTokens ⟨.int a, true⟩ ⟨.int b, true⟩ = .ok m → m = ⟨.int (a ++ b), true⟩) := by
  cases h : lexOne (a ++ b) with
  | none => simp [pasteTokens, h]
  | some t =>
    cases ht : isIntLiteral t <;> simp [pasteTokens, h, ht]

def lexesToOneToken (w : Bytes) : Bool :=
  match readToEnd w with
  | .ok [_, e] => e.tok == .simple .Endline
  | _ => false

/-- the one-character operators of the macro model -/
def modelOperators : List String := ["+", "-", "*", ";", "=", "{", "}"]

/-- **`##` of two operators.**  For the one-character operators of the model, `pasteTokens` merges a pair exactly
when the lexer model of C10 reads the two characters as one token (`++ -- += -= *= ==`): all 49 pairs. -/
theorem paste_operators_match_lexer :
    ∀ a ∈ modelOperators, ∀ b ∈ modelOperators,
      punctMerges.contains (a, b) = lexesToOneToken (str (a ++ b)) := by
  decide +kernel

end Tie


section Step
open RsslVerif.Lemmas.MacroSubst RsslVerif.Lemmas.MacroTerm

/-- **`##` pastes its neighbours into one token.**  In a text whose other tokens start no operation, the two tokens
next to `##` -- white space (blanks, comments, line ends) on either side of the operator aside -- are replaced, together
with the operator and that white space, by the single token `pasteTokens` makes of them. -/
theorem paste_step (env : List Entry) (before w1 w2 after : List PTok) (lt c rt m : PTok)
    (hc : c.tok = .concat) (hw1 : ∀ t ∈ w1, t.tok.isWhitespace = true) (hw2 : ∀ t ∈ w2, t.tok.isWhitespace = true)
    (hlt : lt.tok.isWhitespace = false) (hrt : rt.tok.isWhitespace = false)
    (hpre : Inert env (before ++ lt :: w1)) (hpaste : pasteTokens lt rt = .ok m)
    (hpost : Inert env (m :: after)) :
    applyLoop env (before ++ lt :: (w1 ++ c :: (w2 ++ rt :: after))) SearchPos.start = .ok (before ++ m :: after) := by
  rw [(At.ofInert env before _ (fun t ht => hpre t (by simp [ht]))).paste List.drop_left hc hw1 hw2 hlt hrt
    (skips_of_inertTok _ _ env _ lt (hpre lt (by simp))) hpaste]
  simp only [List.take_left']
  exact applyLoop_inert _ _ _ (Nat.le_refl _) (by simpa using hpost)

end Step


end RsslVerif.Lemmas.MacroPaste
