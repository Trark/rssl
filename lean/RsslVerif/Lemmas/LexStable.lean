import RsslVerif.Lemmas.LexStage
/-!
# The number path of `token_intermediate` looks only a bounded, stopper-terminated distance past a token

Each sub-lexer of the number path is shown equal to a pipeline of the stages of `Lemmas/LexStage`; that it is `Local`
(gives the same answer when the text behind the token is swapped for a stopper-headed one) then needs no proof of its own.
`ErrLocal` (a failure stays a failure) is proved for the sub-lexers that stand under `opt` only: it is false for
`literal_int` and `literal_float`, whose failure can depend on text far behind the swap (`18446744073709551616` against `1 `).
`numTok_stable` is the result: the token a digit starts.  Progress comes from the same equations: where the errors of a
pipeline point is `ErrsIn`, composed like `Local` (`intLit_errs`, `tailPipe_errs`), and with `Local₂.suf` / `Local₂.strict`
that is `Sound` for `literal_int` and `literal_float`, hence `tokenIntermediate_advances` at the end of the file.
-/
namespace RsslVerif.Lemmas.LexStable
open RsslVerif.Gen.LexTables RsslVerif.Model.Lexer RsslVerif.Spec

theorem decDigit_blind : StopBlind decDigit? := by
  intro b h
  rcases isStop_cases h with h | h | h | h | h | h <;> simp [decDigit?, h]

theorem octDigit_blind : StopBlind octDigit? := by
  intro b h
  rcases isStop_cases h with h | h | h | h | h | h <;> simp [octDigit?, h]

theorem hexDigit_blind : StopBlind hexDigit? := by
  intro b h
  rcases isStop_cases h with h | h | h | h | h | h <;> simp [hexDigit?, h]

theorem identChar_stop {b : UInt8} (h : isStop b = true) : isIdentChar b = false := by
  rcases isStop_cases h with h | h | h | h | h | h <;> simp [isIdentChar, isIdentStart, h]

/-- the head of `q ++ s'` behaves like the head of `q ++ s` for a stopper-blind test that failed -/
theorem head_cases (q s s' : Bytes) (hs : HeadStop s') :
    (∃ b r, q = b :: r) ∨ (q = [] ∧ (s' = [] ∨ ∃ b r, s' = b :: r ∧ isStop b = true)) := by
  cases q with
  | cons b r => exact Or.inl ⟨b, r, rfl⟩
  | nil =>
    right
    refine ⟨rfl, ?_⟩
    cases s' with
    | nil => exact Or.inl rfl
    | cons b r => exact Or.inr ⟨b, r, rfl, hs⟩

theorem len_lt {c q s : Bytes} (hc : c ≠ []) : (q ++ s).length < (c ++ (q ++ s)).length := by
  cases c with
  | nil => exact absurd rfl hc
  | cons a t => simp [List.length_append]; omega

/-! ## first-byte sub-lexers -/

theorem digitWith_pipe (f : UInt8 → Option Nat) : digitWith f = firstByte f (.lex .static .EndOfStream) wrongAt := by
  funext x
  cases x with
  | nil => rfl
  | cons b r => simp only [digitWith, firstByte]; cases f b <;> rfl

theorem digitWith_local (f : UInt8 → Option Nat) : Local (digitWith f) := digitWith_pipe f ▸ firstByte_local ..

theorem digitWith_okStable (f : UInt8 → Option Nat) : OkStable (digitWith f) := (digitWith_local f).okStable

theorem digitWith_errLocal {f : UInt8 → Option Nat} (hf : StopBlind f) : ErrLocal (digitWith f) :=
  digitWith_pipe f ▸ firstByte_errLocal hf ..

theorem digitWith_errs (f : UInt8 → Option Nat) (inp : Bytes) : ErrsIn inp (Inner inp) (digitWith f) :=
  digitWith_pipe f ▸ firstByte_errsIn (fun h => nomatch h) fun _ hx => ⟨hx, by decide⟩

def signOf (b : UInt8) : Option Bool := if b.toNat = 43 then some false else if b.toNat = 45 then some true else none

theorem sign_pipe : sign = firstByte signOf (wrongAt []) wrongAt := by
  funext x
  cases x with
  | nil => rfl
  | cons b r =>
    simp only [sign, firstByte, signOf]
    split
    · rfl
    · split <;> rfl

theorem signOf_blind : StopBlind signOf := by
  intro b h
  have := isStop_cases h
  simp only [signOf, show ¬ b.toNat = 43 by omega, show ¬ b.toNat = 45 by omega, if_false]

theorem sign_local : Local sign := sign_pipe ▸ firstByte_local ..
theorem sign_errLocal : ErrLocal sign := sign_pipe ▸ firstByte_errLocal signOf_blind ..

/-- the suffix a byte selects in `float_type`'s table -/
def rowOf : List (List Nat × FloatType) → UInt8 → Option FloatType
  | [], _ => none
  | (bs, k) :: rows, b => if bs.contains b.toNat then some k else rowOf rows b

theorem floatTypeFrom_pipe (rows : List (List Nat × FloatType)) :
    floatTypeFrom rows = firstByte (rowOf rows) (wrongAt []) wrongAt := by
  funext x
  cases x with
  | nil => cases rows <;> rfl
  | cons b r =>
    induction rows with
    | nil => rfl
    | cons row rows ih =>
      simp only [floatTypeFrom, ih, firstByte, rowOf]
      split <;> rfl

/-- no byte of the table is a stopper -/
def natsBlind (bs : List Nat) : Bool :=
  bs.all fun n => !(n == 32 || n == 9 || n == 10 || n == 13 || n == 92 || n == 47)

def rowsBlind (rows : List (List Nat × FloatType)) : Bool := rows.all fun row => natsBlind row.1

theorem contains_stop_false {bs : List Nat} (hb : natsBlind bs = true)
    {b : UInt8} (hs : isStop b = true) : bs.contains b.toNat = false := by
  rw [Bool.eq_false_iff]
  intro hc
  have hm : b.toNat ∈ bs := by simpa using hc
  have := List.all_eq_true.1 hb _ hm
  have hcases := isStop_cases hs
  simp at this
  omega

theorem rowOf_blind {rows : List (List Nat × FloatType)} (hb : rowsBlind rows = true) : StopBlind (rowOf rows) := by
  intro b hs
  induction rows with
  | nil => rfl
  | cons row rows ih =>
    simp only [rowsBlind, List.all_cons, Bool.and_eq_true] at hb
    simp only [rowOf, contains_stop_false hb.1 hs, Bool.false_eq_true, if_false]
    exact ih hb.2

theorem floatType_local : Local floatType :=
  (floatTypeFrom_pipe floatTypeTable ▸ firstByte_local .. : Local (floatTypeFrom floatTypeTable))
theorem floatType_errLocal : ErrLocal floatType :=
  (floatTypeFrom_pipe floatTypeTable ▸ firstByte_errLocal (rowOf_blind (by decide)) .. :
    ErrLocal (floatTypeFrom floatTypeTable))

/-! ## digit runs, exponent -/

theorem digitSequence_pipe :
    digitSequence = andThen (digitWith decDigit?) fun d => andThen (run decDigit?) fun ds => ret (d :: ds) := by
  funext x
  unfold digitSequence andThen
  cases digitWith decDigit? x with
  | error e => rfl
  | ok rd => simp only [spanDigits_eq]; rfl

theorem digitSequence_local : Local digitSequence :=
  digitSequence_pipe ▸ (digitWith_local _).andThen fun _ => (run_local decDigit_blind).andThen fun _ => .ret _

theorem digitSequence_errLocal : ErrLocal digitSequence :=
  digitSequence_pipe ▸ (digitWith_errLocal decDigit_blind).andThen_total fun _ _ => ⟨_, rfl⟩

/-- the part of `float_exponent` after the `e`: optional sign, mandatory digits -/
def expTail : Bytes → LexResult Int :=
  andThen (optStage sign) fun sg => andThen digitSequence fun ds =>
    ret (if sg = some true then -((satExp ds : Nat) : Int) else ((satExp ds : Nat) : Int))

theorem expTail_local : Local expTail :=
  (sign_local.optStage sign_errLocal).andThen fun _ => digitSequence_local.andThen fun _ => .ret _

theorem opt_one {α : Type} {g : Bytes → LexResult α} (h1 : ∀ {x r a}, g x = .ok (r, a) → ∃ b, x = b :: r)
    {x r : Bytes} {o : Option α} (h : optStage g x = .ok (r, o)) : r = x ∨ ∃ b, x = b :: r := by
  unfold optStage at h
  cases hx : g x with
  | error e => rw [hx] at h; cases h; exact .inl rfl
  | ok ra => rw [hx] at h; cases h; exact .inr (h1 hx)

theorem expTail_errLocal : ErrLocal expTail := by
  refine ErrLocal.andThen (sign_local.optStage sign_errLocal) (.of_total fun _ => ⟨_, rfl⟩)
    (opt_one fun h => (firstByte_ok (sign_pipe ▸ h)).imp fun _ hb => hb.1)
    (fun _ => digitSequence_errLocal.andThen_total fun _ _ => ⟨_, rfl⟩) fun y hy => ?_
  obtain ⟨e1, h1⟩ := sign_errLocal.stop (e := wrongAt []) rfl hy
  obtain ⟨e2, h2⟩ := digitSequence_errLocal.stop (e := .lex .static .EndOfStream) rfl hy
  exact ⟨e2, by rw [andThen_ok (show optStage sign y = .ok (y, none) by simp only [optStage, h1, opt]),
    andThen_error h2]⟩

/-- `e` or `E` -/
def expByte (b : UInt8) : Option Unit := if b.toNat = 101 ∨ b.toNat = 69 then some () else none

theorem expByte_blind : StopBlind expByte := by
  intro b h
  have := isStop_cases h
  simp only [expByte, show ¬ (b.toNat = 101 ∨ b.toNat = 69) by omega, if_false]

theorem floatExponent_pipe : floatExponent = andThen (firstByte expByte (wrongAt []) wrongAt) fun _ => expTail := by
  funext x
  cases x with
  | nil => rfl
  | cons b r =>
    unfold andThen
    simp only [floatExponent, firstByte, expByte]
    split
    · unfold expTail andThen optStage ret
      simp only
      cases digitSequence (opt (sign r) r).1 <;> rfl
    · rfl

theorem floatExponent_local : Local floatExponent :=
  floatExponent_pipe ▸ (firstByte_local ..).andThen fun _ => expTail_local

theorem floatExponent_errLocal : ErrLocal floatExponent :=
  floatExponent_pipe ▸ ErrLocal.andThen (firstByte_local ..) (firstByte_errLocal expByte_blind ..) firstByte_one
    (fun _ => expTail_errLocal) fun _ hy =>
      (firstByte_stop expByte_blind _ _ hy).imp fun _ h => andThen_error h

theorem opt_err {α : Type} (x : Bytes) (e : LexErr) : opt (.error e : LexResult α) x = (x, none) := rfl

/-! ## `literal_float` -/

/-- the `#INF` check, with the text its error names as a parameter -/
def infStage (pre : Bytes) (v : Nat) (hasExp : Bool) : Bytes → LexResult Nat :=
  andThen (optStage (strip [35, 73, 78, 70] wrongAt)) fun
    | some _ =>
      if v ≠ 0 ∧ hasExp = false then ret Dec2Bin.binary64.infBits
      else fun _ => .error (.lex (.rest pre) .FloatInvalidSuffix)
    | none => ret v

theorem floatInf_pipe (pre : Bytes) (v : Nat) (hasExp : Bool) : floatInf pre v hasExp = infStage pre v hasExp pre := by
  unfold floatInf infStage andThen optStage
  rw [strip_eq]
  cases stripPrefix? [35, 73, 78, 70] pre with
  | none => rfl
  | some r => simp only [opt]; split <;> rfl

theorem infStage_local (i j : Bytes) (v : Nat) (hasExp : Bool) : Local₂ (infStage i v hasExp) (infStage j v hasExp) :=
  ((strip_local ..).optStage (strip_errLocal (by decide) _)).andThen fun o => by
    cases o with
    | none => exact .ret v
    | some _ =>
      dsimp only
      split
      · exact .ret _
      · exact .error fun _ => ⟨_, rfl⟩

theorem infStage_errs {inp i : Bytes} (hi : i <:+ inp) (v : Nat) (hasExp : Bool) :
    ErrsIn inp (Inner inp) (infStage i v hasExp) :=
  .andThen ((strip_local ..).optStage (strip_errLocal (by decide) _)).suf (.of_total fun _ => ⟨_, rfl⟩) fun o => by
    cases o with
    | none => exact .of_total fun _ => ⟨_, rfl⟩
    | some _ =>
      dsimp only
      split
      · exact .of_total fun _ => ⟨_, rfl⟩
      · exact .fail ⟨hi, by decide⟩

theorem floatInf_good' (pre : Bytes) (v : Nat) (b : Bool) : Good pre (floatInf pre v b) := floatInf_good pre v b

theorem spanDigits_suffix' (x : Bytes) : (spanDigits x).2 <:+ x := spanDigits_eq x ▸ spanWith_suffix _ x

/-- `float_mantissa` of a text that starts with a digit, in terms of the two digit runs -/
def mantissaNF (d : Nat) (r : Bytes) : Bytes × (Bool × List Nat × List Nat) :=
  match (spanDigits r).2 with
  | [] => ([], (false, d :: (spanDigits r).1, []))
  | c :: r2 =>
    if c.toNat = 46 then ((spanDigits r2).2, (true, d :: (spanDigits r).1, (spanDigits r2).1))
    else (c :: r2, (false, d :: (spanDigits r).1, []))

theorem floatMantissa_digit (b : UInt8) (r : Bytes) (d : Nat) (hd : decDigit? b = some d) :
    floatMantissa (b :: r) = .ok (mantissaNF d r) := by
  have hm : mantissaOf (b :: r) = mantissaNF d r := by
    unfold mantissaOf mantissaNF
    simp only [spanDigits, hd]
    cases (spanDigits r).2 <;> rfl
  rw [floatMantissa_eq, hm, if_neg]
  intro h
  unfold mantissaNF at h
  split at h
  · exact absurd h.1 (by simp)
  · split at h <;> exact absurd h.1 (by simp)

def pointByte (b : UInt8) : Option Unit := if b.toNat = 46 then some () else none

theorem pointByte_blind : StopBlind pointByte := by
  intro b h
  have := isStop_cases h
  simp only [pointByte, show ¬ b.toNat = 46 by omega, if_false]

/-- the same as a pipeline: digits, then optionally a point and digits -/
def mantPipe (d : Nat) : Bytes → LexResult (Bool × List Nat × List Nat) :=
  andThen (run decDigit?) fun ds => andThen (optStage (firstByte pointByte (wrongAt []) wrongAt)) fun
    | some _ => andThen (run decDigit?) fun fr => ret (true, d :: ds, fr)
    | none => ret (false, d :: ds, [])

theorem mantPipe_eq (d : Nat) (r : Bytes) : mantPipe d r = .ok (mantissaNF d r) := by
  unfold mantPipe mantissaNF andThen run optStage
  simp only [spanDigits_eq]
  cases (spanWith decDigit? r).2 with
  | nil => rfl
  | cons c r2 =>
    by_cases hc : c.toNat = 46
    · simp only [firstByte, pointByte, hc, if_true, opt, ret]
    · simp only [firstByte, pointByte, hc, if_false, opt, ret]

theorem mantPipe_local (d : Nat) : Local (mantPipe d) :=
  (run_local decDigit_blind).andThen fun _ =>
    ((firstByte_local ..).optStage (firstByte_errLocal pointByte_blind ..)).andThen fun o => by
      cases o with
      | some _ => exact (run_local decDigit_blind).andThen fun _ => .ret _
      | none => exact .ret _

/-- `literal_float` behind the exponent; `i3` is where the exponent ended, `input` the whole text -/
def tailRest (input : Bytes) (m : Bool × List Nat × List Nat) (ex : Option Int) (i3 : Bytes) : Bytes → LexResult Token :=
  if m.1 = false ∧ ex = none then fun _ => otherTokenChars input
  else andThen (fun pre => floatInf pre (float64FromParts m.2.1 m.2.2 (ex.getD 0)) ex.isSome) fun v =>
    andThen (optStage floatType) fun ft => peekNot isIdentChar
      (fun c => if c.toNat = 120 then .lex (.rest input) .OtherTokenBytes else .lex (.rest i3) .FloatInvalidSuffix)
      (mkFloatToken v ft)

/-- `literal_float` behind the mantissa -/
def tailPipe (input : Bytes) (m : Bool × List Nat × List Nat) : Bytes → LexResult Token :=
  andThen (optStage floatExponent) fun ex i3 => tailRest input m ex i3 i3

theorem literalFloat_pipe (input : Bytes) : literalFloat input = andThen floatMantissa (tailPipe input) input := by
  unfold literalFloat andThen
  cases floatMantissa input with
  | error e => rfl
  | ok im =>
    obtain ⟨i2, m⟩ := im
    unfold tailPipe tailRest andThen optStage
    simp only
    by_cases hplain : m.1 = false ∧ (opt (floatExponent i2) i2).2 = none
    · simp only [if_pos hplain]
    · simp only [if_neg hplain]
      cases floatInf (opt (floatExponent i2) i2).1
          (float64FromParts m.2.1 m.2.2 ((opt (floatExponent i2) i2).2.getD 0)) (opt (floatExponent i2) i2).2.isSome with
      | error e => rfl
      | ok iv =>
        simp only
        cases (opt (floatType iv.1) iv.1).1 with
        | nil => rfl
        | cons c r5 =>
          simp only [peekNot]
          by_cases hid : isIdentChar c = true
          · simp only [if_pos hid]; split <;> rfl
          · simp only [if_neg hid]

theorem tailRest_local (i j a b : Bytes) (m : Bool × List Nat × List Nat) (ex : Option Int) :
    Local₂ (tailRest i m ex a) (tailRest j m ex b) := by
  unfold tailRest
  split
  · exact .error fun _ => ⟨_, rfl⟩
  · simp only [floatInf_pipe]
    exact (Local₂.diag fun i j => infStage_local i j _ _).andThen fun v =>
      (floatType_local.optStage floatType_errLocal).andThen fun ft => .peekNot fun b hb => identChar_stop hb

theorem tailPipe_local (i j : Bytes) (m : Bool × List Nat × List Nat) : Local₂ (tailPipe i m) (tailPipe j m) :=
  (floatExponent_local.optStage floatExponent_errLocal).andThen fun ex =>
    .diag (P := tailRest i m ex) (P' := tailRest j m ex) fun a b => tailRest_local i j a b m ex

theorem literalFloat_digit (b : UInt8) (r : Bytes) (d : Nat) (hd : decDigit? b = some d) :
    literalFloat (b :: r) = andThen (mantPipe d) (tailPipe (b :: r)) r := by
  rw [literalFloat_pipe, andThen, floatMantissa_digit b r d hd, andThen, mantPipe_eq]

theorem tailRest_errs {inp i3 : Bytes} (hi : i3 <:+ inp) (m : Bool × List Nat × List Nat) (ex : Option Int) :
    ErrsIn inp (Outer inp) (tailRest inp m ex i3) := by
  unfold tailRest
  split
  · exact .fail sound_here
  · simp only [floatInf_pipe]
    exact .andThen (Local₂.diag fun i j => infStage_local i j _ _).suf
      (.diag fun i hi' => (infStage_errs hi' _ _).mono fun _ => Inner.outer) fun v =>
      .andThen (floatType_local.optStage floatType_errLocal).suf (.of_total fun _ => ⟨_, rfl⟩) fun ft =>
        .peekNot fun c => by
          split
          · exact sound_here
          · exact sound_at hi (by decide)

theorem tailPipe_errs (inp : Bytes) (m : Bool × List Nat × List Nat) : ErrsIn inp (Outer inp) (tailPipe inp m) :=
  .andThen (floatExponent_local.optStage floatExponent_errLocal).suf (.of_total fun _ => ⟨_, rfl⟩) fun ex =>
    .diag (G := tailRest inp m ex) fun _ hi => tailRest_errs hi m ex

/-- slice discipline, progress and "not my token" only of the whole text, for the literal a digit starts: the rest is
a suffix of what follows the digit, the errors are those of `tailPipe` -/
theorem literalFloat_sound_digit (b : UInt8) (r : Bytes) (d : Nat) (hd : decDigit? b = some d) :
    Sound (b :: r) (literalFloat (b :: r)) := by
  rw [literalFloat_digit b r d hd]
  cases h : andThen (mantPipe d) (tailPipe (b :: r)) r with
  | ok ra =>
    have := ((mantPipe_local d).andThen fun m => tailPipe_local (b :: r) (b :: r) m).suf h
    exact ⟨⟨this.trans (List.suffix_cons b r), Nat.lt_succ_of_le this.length_le⟩, trivial⟩
  | error e =>
    exact Sound.error_cast ((ErrsIn.andThen (mantPipe_local d).suf (.of_total fun x => ⟨_, mantPipe_eq d x⟩)
      (tailPipe_errs (b :: r))).err (List.suffix_cons b r) h)

/-- a floating literal is the same token whatever stopper-headed text follows it -/
theorem literalFloat_okStable_digit (b : UInt8) (d : Nat) (hd : decDigit? b = some d) (c q s s' : Bytes) (tok : Token)
    (h : literalFloat (b :: (c ++ (q ++ s))) = .ok (q ++ s, tok)) (hs : HeadStop s') :
    literalFloat (b :: (c ++ (q ++ s'))) = .ok (q ++ s', tok) := by
  rw [literalFloat_digit b _ d hd] at h ⊢
  exact ((mantPipe_local d).andThen fun m => tailPipe_local _ _ m).ok (Swap.append q (.stop hs)) h

/-! ## integer literals -/

def patBlind (pat : List (List Nat)) : Bool := pat.all natsBlind

def intRowsBlind (rows : List (List (List Nat) × IntType)) : Bool := rows.all fun row => patBlind row.1

/-- one slice pattern of `int_type` as a stage -/
def patStage (pat : List (List Nat)) : Bytes → LexResult Unit := lit (pat.map fun alts b => alts.contains b.toNat) wrongAt

theorem patStage_errLocal {pat : List (List Nat)} (h : patBlind pat = true) : ErrLocal (patStage pat) := by
  refine lit_errLocal (fun p hp b hb => ?_) _
  obtain ⟨alts, ha, rfl⟩ := List.mem_map.1 hp
  exact contains_stop_false (List.all_eq_true.1 h alts ha) hb

theorem intTypeFrom_cons (pat : List (List Nat)) (k : IntType) (rows : List (List (List Nat) × IntType)) :
    intTypeFrom ((pat, k) :: rows) = andThen (optStage (patStage pat)) fun
      | some _ => ret k
      | none => intTypeFrom rows := by
  funext x
  unfold andThen optStage patStage lit
  simp only [intTypeFrom, matchPrefix_eq]
  cases seqOf _ x <;> rfl

theorem intTypeFrom_local (rows : List (List (List Nat) × IntType)) (hb : intRowsBlind rows = true) :
    Local (intTypeFrom rows) ∧ ErrLocal (intTypeFrom rows) := by
  induction rows with
  | nil => exact ⟨.error fun _ => ⟨_, rfl⟩, ⟨fun _ _ => ⟨_, rfl⟩⟩⟩
  | cons row rows ih =>
    obtain ⟨pat, k⟩ := row
    simp only [intRowsBlind, List.all_cons, Bool.and_eq_true] at hb
    obtain ⟨ih1, ih2⟩ := ih hb.2
    rw [intTypeFrom_cons]
    refine ⟨((lit_local ..).optStage (patStage_errLocal hb.1)).andThen fun o => ?_, ⟨fun {x y e} hsw h => ?_⟩⟩
    · cases o with
      | some _ => exact .ret k
      | none => exact ih1
    · -- the pattern fails on both texts, and so do the later rows
      unfold andThen optStage at h ⊢
      cases hp : patStage pat x with
      | ok ra => rw [hp] at h; cases h
      | error e1 =>
        obtain ⟨e2, hp'⟩ := (patStage_errLocal hb.1).err hsw hp
        rw [hp] at h
        rw [hp']
        exact ih2.err hsw h

theorem intType_local : Local intType := (intTypeFrom_local _ (by decide)).1
theorem intType_errLocal : ErrLocal intType := (intTypeFrom_local _ (by decide)).2

/-- `checked_mul(base).and_then(checked_add(d))` folded over a run of digits -/
def accum (base : Nat) : List Nat → Nat → Option Nat
  | [], v => some v
  | d :: ds, v => if v * base < 2 ^ 64 ∧ v * base + d < 2 ^ 64 then accum base ds (v * base + d) else none

def tooLarge (x : Bytes) : LexErr := .lex (.rest x) .IntegerLiteralTooLarge

theorem digitsLoop_pipe (f : UInt8 → Option Nat) (base : Nat) (start x : Bytes) (v : Nat) :
    digitsLoop f base start x v = andThen (run f) (fun ds => retOr (accum base ds v) (tooLarge start)) x := by
  induction x generalizing v with
  | nil => rfl
  | cons b r ih =>
    unfold digitsLoop
    cases hb : f b with
    | none => simp only [andThen, run, spanWith, hb, retOr, accum]
    | some d =>
      simp only [andThen, run, spanWith, hb, retOr, accum]
      split
      · rw [ih]; rfl
      · rfl

/-- `literal_*_int` behind its first digit `d`; `input` is the text its errors name -/
def intAfter (f : UInt8 → Option Nat) (base : Nat) (input : Bytes) (d : Nat) : Bytes → LexResult Token :=
  andThen (run f) fun ds => andThen (retOr (accum base ds d) (tooLarge input)) fun v =>
    andThen (optStage intType) fun k => retOr (mkIntToken? v k) (tooLarge input)

theorem literalIntWith_pipe (f : UInt8 → Option Nat) (base : Nat) (input : Bytes) :
    literalIntWith f base input = andThen (digitWith f) (intAfter f base input) input := by
  unfold literalIntWith digitsWith andThen
  cases digitWith f input with
  | error e => rfl
  | ok rd =>
    simp only [digitsLoop_pipe]
    unfold intAfter andThen run optStage retOr
    simp only
    cases accum base (spanWith f rd.1).1 rd.2 with
    | none => rfl
    | some v => simp only; cases mkIntToken? v (opt (intType (spanWith f rd.1).2) (spanWith f rd.1).2).2 <;> rfl

theorem intAfter_local {f : UInt8 → Option Nat} (hf : StopBlind f) (base : Nat) (i j : Bytes) (d : Nat) :
    Local₂ (intAfter f base i d) (intAfter f base j d) :=
  (run_local hf).andThen fun _ => (Local₂.retOr ..).andThen fun _ =>
    (intType_local.optStage intType_errLocal).andThen fun _ => .retOr ..

theorem intAfter_errs {f : UInt8 → Option Nat} (hf : StopBlind f) (base : Nat) {inp i : Bytes} (hi : i <:+ inp) (d : Nat) :
    ErrsIn inp (Inner inp) (intAfter f base i d) :=
  .andThen (run_local hf).suf (.of_total fun _ => ⟨_, rfl⟩) fun _ =>
    .andThen (Local₂.retOr _ (tooLarge i) (tooLarge i)).suf (.retOr _ ⟨hi, by decide⟩) fun _ =>
      .andThen (intType_local.optStage intType_errLocal).suf (.of_total fun _ => ⟨_, rfl⟩) fun _ =>
        .retOr _ ⟨hi, by decide⟩

theorem literalIntWith_local {f : UInt8 → Option Nat} (hf : StopBlind f) (base : Nat) : Local (literalIntWith f base) := by
  rw [show literalIntWith f base = fun x => andThen (digitWith f) (intAfter f base x) x from
    funext (literalIntWith_pipe f base)]
  exact .diag fun i j => (digitWith_local f).andThen (intAfter_local hf base i j)

theorem literalIntWith_errs {f : UInt8 → Option Nat} (hf : StopBlind f) (base : Nat) (inp : Bytes) :
    ErrsIn inp (Inner inp) (literalIntWith f base) := by
  rw [show literalIntWith f base = fun x => andThen (digitWith f) (intAfter f base x) x from
    funext (literalIntWith_pipe f base)]
  exact .diag fun i hi => .andThen (digitWith_local f).suf (digitWith_errs f inp) (intAfter_errs hf base hi)

/-- `0` directly followed by an octal digit -/
def octHead : Bytes → LexResult Nat := andThen (strip [48] wrongAt) fun _ => digitWith octDigit?

theorem strip_one {b : UInt8} {x r : Bytes} {a : Unit} (h : strip [b] wrongAt x = .ok (r, a)) : r = x ∨ ∃ b, x = b :: r := by
  rw [strip_eq] at h
  cases hs : stripPrefix? [b] x with
  | none => rw [hs] at h; cases h
  | some r' => rw [hs] at h; cases h; exact .inr ⟨b, stripPrefix?_eq hs⟩

theorem octHead_errLocal : ErrLocal octHead :=
  ErrLocal.andThen (strip_local ..) (strip_errLocal (by decide) _) strip_one (fun _ => digitWith_errLocal octDigit_blind)
    fun _ hy => ((strip_errLocal (pat := [48]) (by decide) wrongAt).stop rfl hy).imp fun _ h => andThen_error h

/-- `literal_int`; `input` is the whole text -/
def intLit (input : Bytes) : Bytes → LexResult Token :=
  andThen (optStage (strip [48, 120] wrongAt)) fun
    | some _ => literalIntWith hexDigit? 16
    | none => andThen (optStage octHead) fun
      | some d => intAfter octDigit? 8 (input.drop 1) d
      | none => literalIntWith decDigit? 10

theorem literalInt_pipe (input : Bytes) : literalInt input = intLit input input := by
  unfold literalInt intLit andThen optStage
  rw [strip_eq]
  cases stripPrefix? [48, 120] input with
  | some r => rfl
  | none =>
    simp only [opt, octHead, andThen]
    rw [strip_eq]
    cases h0 : stripPrefix? [48] input with
    | none => rfl
    | some r =>
      cases stripPrefix?_eq h0
      simp only
      cases hd : digitWith octDigit? r with
      | error e => rfl
      | ok rd => simp only [opt]; rw [literalIntWith_pipe, andThen_ok hd]; rfl

theorem intLit_local (i j : Bytes) : Local₂ (intLit i) (intLit j) :=
  ((strip_local ..).optStage (strip_errLocal (by decide) _)).andThen fun o => by
    cases o with
    | some _ => exact literalIntWith_local hexDigit_blind 16
    | none =>
      refine ((Local₂.andThen (strip_local ..) fun _ => digitWith_local _).optStage octHead_errLocal).andThen fun o => ?_
      cases o with
      | some d => exact intAfter_local octDigit_blind 8 _ _ d
      | none => exact literalIntWith_local decDigit_blind 10

theorem intLit_errs (inp : Bytes) : ErrsIn inp (Inner inp) (intLit inp) :=
  .andThen ((strip_local ..).optStage (strip_errLocal (by decide) _)).suf (.of_total fun _ => ⟨_, rfl⟩) fun o => by
    cases o with
    | some _ => exact literalIntWith_errs hexDigit_blind 16 inp
    | none =>
      refine .andThen ((Local₂.andThen (strip_local ..) fun _ => digitWith_local _).optStage octHead_errLocal).suf
        (.of_total fun _ => ⟨_, rfl⟩) fun o => ?_
      cases o with
      | some d => exact intAfter_errs octDigit_blind 8 (List.drop_suffix 1 inp) d
      | none => exact literalIntWith_errs decDigit_blind 10 inp

theorem literalInt_local : Local literalInt := by
  rw [show literalInt = fun x => intLit x x from funext literalInt_pipe]
  exact .diag intLit_local

theorem literalInt_okStable : OkStable literalInt := literalInt_local.okStable

theorem literalInt_sound (inp : Bytes) : Sound inp (literalInt inp) := by
  cases h : literalInt inp with
  | ok ra => exact ⟨⟨literalInt_local.suf h, literalInt_local.strict (e := .lex .static .EndOfStream) rfl h⟩, trivial⟩
  | error e => exact Sound.error_cast ((intLit_errs inp).err (List.suffix_refl _) (literalInt_pipe inp ▸ h)).outer

/-! ## the token a digit starts -/

/-- `literal_float` stops at once: behind the digits neither a fraction nor an exponent -/
def Plain (i2 : Bytes) : Prop := HeadNot (fun c => c.toNat = 46) i2 ∧ ∃ e, floatExponent i2 = .error e

theorem Plain.swap {x y : Bytes} (hsw : Swap x y) (h : Plain x) : Plain y :=
  ⟨h.1.swap (fun b hb => decide_eq_false (by have := isStop_cases hb; omega)) hsw,
    h.2.elim fun _ he => floatExponent_errLocal.err hsw he⟩

theorem plain_stable (p s s' : Bytes) (h : Plain (spanDigits (p ++ s)).2) (hs : HeadStop s') :
    Plain (spanDigits (p ++ s')).2 := by
  rw [spanDigits_eq] at h ⊢
  rcases spanWith_swap decDigit_blind (Swap.append p (.stop hs : Swap s s')) with h1 | h1
  · exact h.swap h1.1
  · exact Plain.swap (.stop h1) (x := []) ⟨trivial, _, rfl⟩

theorem opt_snd_none {α : Type} {g : LexResult α} {x : Bytes} : (opt g x).2 = none ↔ ∃ e, g = .error e := by
  cases g with
  | ok ra => simp [opt]
  | error e => simp [opt]

/-- the mantissa of a plain text is its digit run -/
theorem plain_iff (d : Nat) (r : Bytes) :
    ((mantissaNF d r).2.1 = false ∧ (opt (floatExponent (mantissaNF d r).1) (mantissaNF d r).1).2 = none) ↔
      Plain (spanDigits r).2 := by
  unfold mantissaNF Plain
  rw [opt_snd_none]
  cases (spanDigits r).2 with
  | nil => simp [HeadNot]
  | cons c r2 => by_cases hc : c.toNat = 46 <;> simp [HeadNot, hc]

/-- `literal_float` had parsed a fraction or an exponent and still answered "not my token": the literal is directly
followed by `x` (`1.xxx`, `2.0fx`, `1e5x`).  The text is then lexed again as an integer literal, whose extent
depends on text that can lie several tokens further on. -/
def FloatGaveUpOnX (x : Bytes) : Prop :=
  ∃ i2 m, floatMantissa x = .ok (i2, m) ∧ ¬ (m.1 = false ∧ (opt (floatExponent i2) i2).2 = none) ∧
    literalFloat x = .error (.lex (.rest x) .OtherTokenBytes)

/-- the token a digit starts is the same whatever stopper-headed text follows it, unless `literal_float` gave up on an `x` -/
theorem numTok_stable (b : UInt8) (hb : 48 ≤ b.toNat ∧ b.toNat ≤ 57) (c q s s' : Bytes) (tok : Token) (inc : Bool)
    (h : tokenIntermediate (b :: (c ++ (q ++ s))) inc = .ok (q ++ s, tok))
    (hnx : ¬ FloatGaveUpOnX (b :: (c ++ (q ++ s)))) (hs : HeadStop s') :
    tokenIntermediate (b :: (c ++ (q ++ s'))) inc = .ok (q ++ s', tok) := by
  have hd := decDigit_of_range b hb
  rw [tokenIntermediate_digit _ _ _ hb] at h ⊢
  rcases (literalFloat_sound_digit b _ _ hd).orElse_cases (literalInt (b :: (c ++ (q ++ s)))) with e | ⟨hf, e⟩ <;>
    rw [e] at h
  · rw [literalFloat_okStable_digit b _ hd c q s s' tok h hs]
    rfl
  · -- it was the plain exit, and it is the plain exit on the edited text
    have hplain : Plain (spanDigits (c ++ (q ++ s))).2 :=
      (plain_iff _ _).1 (Classical.not_not.1 fun hp => hnx ⟨_, _, floatMantissa_digit b _ _ hd, hp, hf⟩)
    have hplain' := (plain_iff (b.toNat - 48) _).2
      (plain_stable (c ++ q) s s' (by simpa [List.append_assoc] using hplain) hs)
    simp only [List.append_assoc] at hplain'
    have hf' : literalFloat (b :: (c ++ (q ++ s'))) = otherTokenChars (b :: (c ++ (q ++ s'))) := by
      rw [literalFloat_pipe, andThen, floatMantissa_digit b _ _ hd]
      simp only [tailPipe, andThen, optStage, tailRest, if_pos hplain']
    rw [hf', orElse_other]
    simpa using literalInt_okStable (b :: c) q s s' tok (by simpa using h) hs

end RsslVerif.Lemmas.LexStable

namespace RsslVerif.Model.Lexer
open RsslVerif.Gen.LexTables RsslVerif.Lemmas.LexStable

theorem literalInt_not_other (inp : Bytes) (pos : ErrAt) :
    literalInt inp ≠ .error (.lex pos .OtherTokenBytes) := by
  intro h
  have := (intLit_errs inp).err (List.suffix_refl _) (literalInt_pipe inp ▸ h)
  cases pos with
  | rest r => exact this.2 rfl
  | static => exact this rfl

/-- `token_intermediate` on a non-empty input: slice discipline, progress, and none of the
`debug_assert_eq!(input.len(), rest.len())` sites fires -/
theorem tokenStep_advances (b : UInt8) (r : Bytes) (inc : Bool) (look : Unit → LexResult Token) :
    Advances (b :: r) (tokenStep b r inc look) := by
  unfold tokenStep
  dsimp only
  split
  · rename_i hd
    exact (literalFloat_sound_digit b r _ (decDigit_of_range b hd)).orElse (literalInt_sound _).1
  · split
    · exact anyWord_advances _
    · split
      · exact (delimited_sound ..).orElse (choose_advances ..)
      · exact choose_advances ..

theorem tokenIntermediate_advances (inp : Bytes) (inc : Bool) : Advances inp (tokenIntermediate inp inc) := by
  cases inp with
  | nil => exact ⟨trivial, trivial⟩
  | cons b r => exact tokenStep_advances b r inc _

theorem tokenIntermediate_good (inp : Bytes) (inc : Bool) : Good inp (tokenIntermediate inp inc) :=
  (tokenIntermediate_advances inp inc).1

theorem tokenIntermediate_strict (inp : Bytes) (inc : Bool) : Strict inp (tokenIntermediate inp inc) :=
  (tokenIntermediate_advances inp inc).2

end RsslVerif.Model.Lexer
