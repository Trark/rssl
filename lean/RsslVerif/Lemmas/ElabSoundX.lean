import RsslVerif.Lemmas.ElabNewX
/-! Lemmas for C03, extended language: soundness of elaboration in every build mode, by mutual structural induction over all
source expressions, one case per source form: the accepted form is taken apart (`Lemmas/ElabX`: `elabE_*_ok`; literals and
variables by unfolding) and the lemma of the helper that built the node is called (`Lemmas/ElabReleaseX`, `Lemmas/ElabNewX`).
Redundancy of the debug-build type query, by induction along the release run (`elab_debug_eq_all`), from soundness.
Which source forms elaborate to rvalues (namespace `ElabFormsX`: read off the helpers' inversions, no typing involved).
Core Lean only. -/
open RsslVerif.Gen.RankTable RsslVerif.Gen.TypingTables RsslVerif.Model.Conv RsslVerif.Model.Overload
open RsslVerif.Model.IrTyping (FuncSig opReturn boolOf)
open RsslVerif.Model.Elab (Err)
open RsslVerif.Model.IrTypingX RsslVerif.Model.ElabX RsslVerif.Lemmas.ElabConv RsslVerif.Lemmas.ElabX
open RsslVerif.Lemmas.ElabExactX RsslVerif.Lemmas.ElabReleaseX RsslVerif.Lemmas.ElabNewX

namespace RsslVerif.Lemmas.ElabSoundX

variable {Γ : Env}

mutual
/-- **Soundness of elaboration in every build mode.**  By induction over all source expressions; the per-node
    debug query is not used. -/
theorem elab_sound_any (dbg : Bool) : ∀ (e : SExpr) (e' : IExpr) (τ : ETy),
    elabE dbg Γ e = .ok (e', τ) → HasType Γ e' τ
  | .lit k, e', τ, h => by
    simp only [elabE] at h
    obtain ⟨rfl, rfl⟩ := selfCheck_type h
    exact .lit k
  | .var i, e', τ, h => by
    simp only [elabE] at h
    split at h
    · simp at h
    · split at h
      · rename_i t ht
        obtain ⟨rfl, rfl⟩ := selfCheck_type h
        exact .var ht
      · simp at h
  | .un o e, e', τ, h => by
    obtain ⟨e1, τ1, h1, hn⟩ := elabE_un_ok h
    exact elabUn_sound (elab_sound_any dbg e e1 τ1 h1) hn
  | .bin o a b, e', τ, h => by
    obtain ⟨a1, τa, b1, τb, ha, hb, hn⟩ := elabE_bin_ok h
    have iha := elab_sound_any dbg a a1 τa ha
    have ihb := elab_sound_any dbg b b1 τb hb
    cases hc : o.cls <;> simp only [hc] at hn
    · exact elabArith_sound hc iha ihb hn
    · exact elabAssign_sound iha ihb hn
    · obtain ⟨rfl, rfl⟩ := hn; exact .seq iha ihb
  | .tern c a b, e', τ, h => by
    obtain ⟨c1, τc, a1, τa, b1, τb, hc, ha, hb, hn⟩ := elabE_tern_ok h
    exact elabTern_sound (elab_sound_any dbg c c1 τc hc) (elab_sound_any dbg a a1 τa ha)
      (elab_sound_any dbg b b1 τb hb) hn
  | .call name args, e', τ, h => by
    obtain ⟨as1, ts, ha, hn⟩ := elabE_call_ok h
    exact elabCall_sound (elabArgs_sound_any dbg args as1 ts ha) hn
  | .cast t e, e', τ, h => by
    obtain ⟨e1, τ1, h1, rfl, rfl⟩ := elabE_cast_ok h
    exact .cast (elab_sound_any dbg e e1 τ1 h1)
  | .member e name, e', τ, h => by
    obtain ⟨e1, τ1, h1, hn⟩ := elabE_member_ok h
    exact elabMember_sound (elab_sound_any dbg e e1 τ1 h1) hn
  | .index a i, e', τ, h => by
    obtain ⟨a1, τa, i1, τi, ha, hi, hn⟩ := elabE_index_ok h
    exact elabIndex_sound (elab_sound_any dbg a a1 τa ha) (elab_sound_any dbg i i1 τi hi) hn
  | .ctor t args, e', τ, h => by
    obtain ⟨s, as1, ars, hs, ha, hsum, rfl, rfl⟩ := elabE_ctor_ok h
    obtain ⟨ts, h1, h2⟩ := elabSlots_sound_any dbg s args as1 ars ha
    exact .ctor h1 hs h2 hsum
theorem elabSlots_sound_any (dbg : Bool) (s : Scalar) : ∀ (as : SArgs) (as' : IArgs) (ars : List Nat),
    elabSlots dbg Γ s as = .ok (as', ars) → ∃ ts, HasArgs Γ as' ts ∧ SlotsOk s ars ts
  | .nil, as', ars, h => by
    simp only [elabSlots] at h
    simp at h; obtain ⟨rfl, rfl⟩ := h; exact ⟨[], .nil, trivial⟩
  | .cons e r, as', ars, h => by
    simp only [elabSlots] at h
    split at h
    · simp at h
    · rename_i e1 τ1 h1
      have ih := elab_sound_any dbg e e1 τ1 h1
      split at h
      · simp at h
      · rename_i e2 ar hsl
        obtain ⟨τ2, ht2, hok⟩ := ctorSlot_sound ih hsl
        split at h
        · simp at h
        · rename_i r1 ars1 hr
          obtain ⟨ts, hts, hss⟩ := elabSlots_sound_any dbg s r r1 ars1 hr
          simp at h; obtain ⟨rfl, rfl⟩ := h
          exact ⟨τ2 :: ts, .cons ht2 hts, hok, hss⟩
theorem elabArgs_sound_any (dbg : Bool) : ∀ (as : SArgs) (as' : IArgs) (ts : List ETy),
    elabArgs dbg Γ as = .ok (as', ts) → HasArgs Γ as' ts
  | .nil, as', ts, h => by
    simp only [elabArgs] at h
    simp at h; obtain ⟨rfl, rfl⟩ := h; exact .nil
  | .cons e r, as', ts, h => by
    obtain ⟨e1, τ1, r1, ts1, h1, hr, rfl, rfl⟩ := elabArgs_cons_ok h
    exact .cons (elab_sound_any dbg e e1 τ1 h1) (elabArgs_sound_any dbg r r1 ts1 hr)
end

/-- what a release build accepts passes the type query a debug build would make on it -/
theorem elab_dbg_irrelevant_ok {e : SExpr} {e' : IExpr} {τ : ETy} (h : elabE false Γ e = .ok (e', τ)) :
    typeOf Γ e' = .ok τ := typeOf_of_hasType _ _ (elab_sound_any false e e' τ h)

theorem selfCheck_eq {n : IExpr} {τ' : ETy} (ht : typeOf Γ n = .ok τ') :
    selfCheck true Γ n τ' = selfCheck false Γ n τ' := by
  simp [selfCheck, ht]

/-- debug and release builds run alike, in `elabE` and in its two argument loops.  Induction along the release run: the branch's
    own equations and the induction hypotheses rewrite the debug run forward into the same branch; where the release run
    accepts, the node it returns is typed (`elab_sound_any`), so the query answers the computed type (`selfCheck_eq`).  The
    premise of the first component, true by `rfl`, is what puts the release run's result into each branch. -/
theorem elab_debug_eq_all :
    (∀ e, elabE false Γ e = elabE false Γ e → elabE true Γ e = elabE false Γ e) ∧
    (∀ s as, elabSlots true Γ s as = elabSlots false Γ s as) ∧ ∀ as, elabArgs true Γ as = elabArgs false Γ as := by
  apply elabE.mutual_induct_unfolding false Γ (fun e r => elabE false Γ e = r → elabE true Γ e = r)
    (fun s as r => elabSlots true Γ s as = r) (fun as r => elabArgs true Γ as = r)
  all_goals intros
  all_goals simp only [elabE, elabSlots, elabArgs, *, ↓reduceIte, Bool.false_eq_true]
  all_goals exact selfCheck_eq (typeOf_of_hasType _ _ (elab_sound_any false _ _ _ ‹_›))

/-- **The debug-build type query never fires**: debug and release builds elaborate every expression identically
    (same typed expression, same diagnostic, same panic). -/
theorem elab_debug_eq : ∀ (e : SExpr), elabE true Γ e = elabE false Γ e := fun e => elab_debug_eq_all.1 e rfl

theorem elabSlots_debug_eq (s : Scalar) : ∀ (as : SArgs), elabSlots true Γ s as = elabSlots false Γ s as :=
  elab_debug_eq_all.2.1 s

theorem elabArgs_debug_eq : ∀ (as : SArgs), elabArgs true Γ as = elabArgs false Γ as := elab_debug_eq_all.2.2

end RsslVerif.Lemmas.ElabSoundX

/-! ## which source forms elaborate to rvalues -/

namespace RsslVerif.Lemmas.ElabFormsX
open RsslVerif.Lemmas.ElabSoundX

variable {Γ : Env}

def isRvalueForm : SExpr → Bool
  | .lit _ => true
  | .var _ => false
  | .un o _ => o != .prefixIncrement && o != .prefixDecrement
  | .bin o _ _ => o.cls == .arith
  | .tern _ _ _ => true
  | .call _ _ => true
  | .cast _ _ => true
  | .member _ _ => false
  | .index _ _ => false
  | .ctor _ _ => true

theorem rvalue_forms {dbg : Bool} {e : SExpr} {e' : IExpr} {τ : ETy} (hf : isRvalueForm e = true)
    (h : elabE dbg Γ e = .ok (e', τ)) : τ.vt = .rvalue := by
  cases e with
  | lit k => simp only [elabE] at h; rw [(selfCheck_type h).2]; rfl
  | var i => simp [isRvalueForm] at hf
  | un o e1 =>
    simp [isRvalueForm] at hf
    obtain ⟨_, _, _, hn⟩ := elabE_un_ok h
    rcases elabUn_cases hn with ⟨_, _, _, hr⟩ | ⟨_, _, _, rfl⟩ | ⟨_, _, _, _, ⟨rfl, _⟩ | ⟨rfl, _⟩⟩
    · exact hr hf.1 hf.2
    all_goals rfl
  | bin o a b =>
    simp [isRvalueForm] at hf
    obtain ⟨_, _, _, _, _, _, hn⟩ := elabE_bin_ok h
    simp only [hf] at hn
    obtain ⟨_, _, _, _, _, _, _, i, _, _, _, _, _, hi, hout, _⟩ := elabArith_inv hn
    exact opReturn_rvalue ((toIOp_rule o i hi).2.2.2 hf).2 hout
  | tern c a b =>
    obtain ⟨_, _, _, _, _, _, _, _, _, hn⟩ := elabE_tern_ok h
    obtain ⟨_, _, _, _, _, _, _, _, rfl, _⟩ := elabTern_inv hn
    rfl
  | call name args =>
    obtain ⟨as1, ts, _, hn⟩ := elabE_call_ok h
    obtain ⟨_, _, _, _, _, _, _, _, rfl⟩ := elabCall_inv hn
    rfl
  | cast t e1 =>
    obtain ⟨_, _, _, _, rfl⟩ := elabE_cast_ok h
    rfl
  | member e1 n => simp [isRvalueForm] at hf
  | index a i => simp [isRvalueForm] at hf
  | ctor t args =>
    obtain ⟨_, _, _, _, _, _, _, rfl⟩ := elabE_ctor_ok h
    rfl

end RsslVerif.Lemmas.ElabFormsX
