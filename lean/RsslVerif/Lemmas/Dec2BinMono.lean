import RsslVerif.Lemmas.Dec2BinNearest
/-! # Monotonicity of the rounding reference: `x ≤ x'` ⟹ `nearestRat x ≤ nearestRat x'` (as bit patterns) -/
namespace RsslVerif.Spec.Dec2Bin

/-- rounding to the nearest integer (ties to even) is monotone: `A/B ≤ A'/B'` ⟹ `round ≤ round'` -/
theorem roundQuot_mono (A B A' B' : Nat) (hB : 0 < B) (hB' : 0 < B') (h : A * B' ≤ A' * B) :
    roundQuot A B ≤ roundQuot A' B' := by
  apply Nat.le_of_not_lt
  intro hlt
  have hh := roundQuot_half A B hB
  have hh' := roundQuot_half A' B' hB'
  have ht := roundQuot_tie_even A B hB
  have ht' := roundQuot_tie_even A' B' hB'
  generalize roundQuot A B = m at *
  generalize roundQuot A' B' = m' at *
  -- (2m-1)·B ≤ 2A   and   2A' ≤ (2m'+1)·B'
  have h1 : 2 * (m * B) * B' ≤ (2 * A + B) * B' := Nat.mul_le_mul hh.2 (Nat.le_refl _)
  have h2 : 2 * A' * B ≤ (2 * (m' * B') + B') * B := Nat.mul_le_mul hh'.1 (Nat.le_refl _)
  have h3 : 2 * (A * B') ≤ 2 * (A' * B) := Nat.mul_le_mul (Nat.le_refl _) h
  -- everything in terms of the atom  K = B·B'
  have e1 : 2 * (m * B) * B' = 2 * m * (B * B') := by ac_rfl
  have e2 : (2 * A + B) * B' = 2 * (A * B') + B * B' := by rw [Nat.add_mul]; ac_rfl
  have e3 : 2 * A' * B = 2 * (A' * B) := by ac_rfl
  have e4 : (2 * (m' * B') + B') * B = 2 * m' * (B * B') + B * B' := by rw [Nat.add_mul]; ac_rfl
  rw [e1, e2] at h1
  rw [e3, e4] at h2
  have hK : 0 < B * B' := Nat.mul_pos hB hB'
  -- 2m·K ≤ 2AB' + K ≤ 2A'B + K ≤ 2m'·K + 2K  ⟹  m ≤ m' + 1
  have h5 : 2 * m * (B * B') ≤ (2 * m' + 2) * (B * B') := by
    have : (2 * m' + 2) * (B * B') = 2 * m' * (B * B') + 2 * (B * B') := Nat.add_mul _ _ _
    omega
  have h6 : 2 * m ≤ 2 * m' + 2 := Nat.le_of_mul_le_mul_right h5 hK
  have hm : m = m' + 1 := by omega
  subst hm
  -- then every inequality is an equality: two ties, both significands even, yet consecutive
  have e5 : 2 * (m' + 1) * (B * B') = 2 * m' * (B * B') + 2 * (B * B') := by
    rw [Nat.mul_add, Nat.add_mul]
  rw [e5] at h1
  have hAeq : 2 * (A * B') + B * B' = 2 * m' * (B * B') + 2 * (B * B') := by omega
  have hA'eq : 2 * (A' * B) = 2 * m' * (B * B') + B * B' := by omega
  -- tie for (A, B): 2·((m'+1)·B) = 2A + B
  have t1 : 2 * ((m' + 1) * B) = 2 * A + B := by
    apply Nat.eq_of_mul_eq_mul_right hB'
    have : 2 * ((m' + 1) * B) * B' = 2 * m' * (B * B') + 2 * (B * B') := by
      rw [Nat.add_mul, Nat.one_mul, Nat.mul_add, Nat.add_mul]; ac_rfl
    rw [this, e2]; omega
  have t2 : 2 * A' = 2 * (m' * B') + B' := by
    apply Nat.eq_of_mul_eq_mul_right hB
    rw [e3, e4]; exact hA'eq
  have := ht (.inr t1)
  have := ht' (.inl t2)
  omega

/-- `roundQuot` depends on the value `A / B` only -/
theorem roundQuot_congr (A B A' B' : Nat) (hB : 0 < B) (hB' : 0 < B') (h : A * B' = A' * B) :
    roundQuot A B = roundQuot A' B' :=
  Nat.le_antisymm (roundQuot_mono A B A' B' hB hB' (Nat.le_of_eq h))
    (roundQuot_mono A' B' A B hB' hB (Nat.le_of_eq h.symm))

theorem chooseExp_mono (f : Fmt) (hp : 2 ≤ f.p) (N M N' M' : Nat) (hN : 0 < N) (hM : 0 < M) (hN' : 0 < N')
    (hM' : 0 < M') (h : N * M' ≤ N' * M) : chooseExp f N M ≤ chooseExp f N' M' := by
  obtain ⟨_, hlow⟩ := chooseExp_norm f hp N M hN hM
  obtain ⟨hup', _⟩ := chooseExp_norm f hp N' M' hN' hM'
  have hge' := chooseExp_ge f N' M'
  generalize chooseExp f N M = q at *
  generalize chooseExp f N' M' = q' at *
  apply Int.not_lt.mp
  intro hlt
  have hlow := hlow (by omega)
  rw [le_quotAt_iff hM] at hlow
  rw [quotAt_lt_iff hM', two_pow_pred (p := f.p) (by omega)] at hup'
  -- 2^(w+u') ≥ 2·2^(w'+u)
  have hexp : 2 * (2 ^ q'.toNat * 2 ^ (-q).toNat) ≤ 2 ^ q.toNat * 2 ^ (-q').toNat := by
    rw [← Nat.pow_add, ← Nat.pow_add, ← Nat.pow_succ']
    apply Nat.pow_le_pow_right (by omega)
    omega
  have hP := Nat.two_pow_pos (f.p - 1)
  have hW := Nat.two_pow_pos q.toNat
  have hU := Nat.two_pow_pos (-q).toNat
  have hW' := Nat.two_pow_pos q'.toNat
  have hU' := Nat.two_pow_pos (-q').toNat
  generalize 2 ^ (f.p - 1) = P at *
  generalize 2 ^ q.toNat = W at *
  generalize 2 ^ (-q).toNat = U at *
  generalize 2 ^ q'.toNat = W' at *
  generalize 2 ^ (-q').toNat = U' at *
  -- X·(W·U') ≤ (N·M')·U·U' ≤ (N'·M)·U·U' < X·(2·W'·U) ≤ X·(W·U')   with X = P·M·M'
  have s1 : P * (M * W) * (M' * U') ≤ N * U * (M' * U') := Nat.mul_le_mul hlow (Nat.le_refl _)
  have s2 : N * M' * (U * U') ≤ N' * M * (U * U') := Nat.mul_le_mul h (Nat.le_refl _)
  have s3 : N' * U' * (M * U) < 2 * P * (M' * W') * (M * U) :=
    Nat.mul_lt_mul_of_lt_of_le hup' (Nat.le_refl _) (Nat.mul_pos hM hU)
  have s4 : P * M * M' * (2 * (W' * U)) ≤ P * M * M' * (W * U') := Nat.mul_le_mul (Nat.le_refl _) hexp
  have e1 : P * (M * W) * (M' * U') = P * M * M' * (W * U') := by ac_rfl
  have e2 : N * U * (M' * U') = N * M' * (U * U') := by ac_rfl
  have e3 : N' * U' * (M * U) = N' * M * (U * U') := by ac_rfl
  have e4 : 2 * P * (M' * W') * (M * U) = P * M * M' * (2 * (W' * U)) := by ac_rfl
  omega

/-- **nearest_monotone**: `N/M ≤ N'/M'` ⟹ `nearestRat f N M ≤ nearestRat f N' M'` (bit patterns of non-negative
floats are ordered like their values) -/
theorem nearestRat_mono (f : Fmt) (hp : 2 ≤ f.p) (N M N' M' : Nat) (hM : 0 < M) (hM' : 0 < M')
    (h : N * M' ≤ N' * M) : nearestRat f N M ≤ nearestRat f N' M' := by
  by_cases hN0 : N = 0
  · simp [nearestRat, hN0]
  have hN : 0 < N := Nat.pos_of_ne_zero hN0
  have hN' : 0 < N' := by
    apply Nat.pos_of_ne_zero; intro h0; subst h0
    have : 0 < N * M' := Nat.mul_pos hN hM'
    omega
  have hqq := chooseExp_mono f hp N M N' M' hN hM hN' hM' h
  have hm := (roundQuot_norm f hp N M hN hM).1
  have hm' := (roundQuot_norm f hp N' M' hN' hM').2
  have hge := chooseExp_ge f N M
  rw [nearestRat_pos f M hN, nearestRat_pos f M' hN']
  generalize chooseExp f N M = q at *
  generalize chooseExp f N' M' = q' at *
  have henc : encode f (roundQuot (scale N M q).1 (scale N M q).2) q ≤
      encode f (roundQuot (scale N' M' q').1 (scale N' M' q').2) q' := by
    unfold encode
    rcases Int.lt_or_eq_of_le hqq with hlt | heq
    · -- a higher binade: the significand below is at most `2^p`, the one above normal
      have hm' := hm' (by omega)
      have hpp := two_pow_pred (p := f.p) (by omega)
      have hj : (q - f.emin).toNat + 1 ≤ (q' - f.emin).toNat := by omega
      have : ((q - f.emin).toNat + 1) * 2 ^ (f.p - 1) ≤ (q' - f.emin).toNat * 2 ^ (f.p - 1) :=
        Nat.mul_le_mul hj (Nat.le_refl _)
      rw [Nat.add_mul, Nat.one_mul] at this
      omega
    · -- the same binade: the rounded significands are ordered
      subst heq
      apply Nat.add_le_add_left
      apply roundQuot_mono _ _ _ _ (scale_pos N M q hM) (scale_pos N' M' q hM')
      rw [scale_eq, scale_eq]
      dsimp only
      have : N * M' * (2 ^ (-q).toNat * 2 ^ q.toNat) ≤ N' * M * (2 ^ (-q).toNat * 2 ^ q.toNat) :=
        Nat.mul_le_mul h (Nat.le_refl _)
      have e1 : N * 2 ^ (-q).toNat * (M' * 2 ^ q.toNat) = N * M' * (2 ^ (-q).toNat * 2 ^ q.toNat) := by ac_rfl
      have e2 : N' * 2 ^ (-q).toNat * (M * 2 ^ q.toNat) = N' * M * (2 ^ (-q).toNat * 2 ^ q.toNat) := by ac_rfl
      rw [e1, e2]; exact this
  generalize encode f (roundQuot (scale N M q).1 (scale N M q).2) q = a at *
  generalize encode f (roundQuot (scale N' M' q').1 (scale N' M' q').2) q' = b at *
  show Nat.min a f.infBits ≤ Nat.min b f.infBits
  simp only [Nat.min_def]
  split <;> split <;> omega

end RsslVerif.Spec.Dec2Bin
