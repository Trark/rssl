import RsslVerif.Lemmas.GenMslProg
import RsslVerif.Lemmas.GenMslCopy
import RsslVerif.Lemmas.IrFrame
/-! Metal exporter, programs: the callable functions of the emitted program are linked to those of the typed program
(`Worlds`) at every call depth. -/
namespace RsslVerif.Lemmas.GenMsl
open RsslVerif.Gen.HlslGenTables RsslVerif.Gen.MslGenTables RsslVerif.Model RsslVerif.Model.GenMsl RsslVerif.Spec.Sem
open RsslVerif.Model.Ir (Ty Var Const Dir)
open RsslVerif.Model.GenHlsl (GenErr)
/-- two lists of argument values agree except at `out` parameters -/
def offOut : Params → List Val → List Val → Prop
  | (_, d, _) :: ps, v :: vs, w :: ws => (d ≠ .out → v = w) ∧ offOut ps vs ws
  | [], [], [] => True
  | _, _, _ => False

/-- the typed world at call depth `d` -/
def irWorld (P : Prim) (prog : List Ir.Func) (fuel d : Nat) : World :=
  { P := P, phi := Ir.phi P prog fuel d, sig := Ir.sigOf prog }

/-- the Metal world at call depth `d` -/
def mslWorld (P : Prim) (L : Msl.Layout) (mprog : List MslAst.Func) (fuel d : Nat) : Msl.MWorld :=
  { P := P, mphi := Msl.phi P L mprog fuel d, msig := Msl.sigOf L mprog }

/-- what is assumed about one function of the program and its place in the emitted module -/
structure FuncOK (cx : Ctx) (L : Msl.Layout) (prog : List Ir.Func) (rsv : Nat → List Var) (xo : Nat → Var)
    (vis0 : Nat → Var → Bool) (fn : Ir.Func) (gs : List Nat) : Prop where
  req : cx.req fn.id = some gs
  ret : cx.retTy fn.id = some fn.ret
  layout : AgreeL cx L fn (vis0 fn.id)
  inj : ∀ x y, visWith (vis0 fn.id) gs x = true → visWith (vis0 fn.id) gs y = true → cx.name x = cx.name y → x = y
  ids : (fn.params.map (·.1)).Nodup
  wt : Ir.wtStmtsM { sig := Ir.sigOf prog, vty := cx.vty, vis := visWith (vis0 fn.id) gs, req := cx.req, rsv := rsv,
                     called := cx.called } fn.ret none fn.body = true
  tyP : ∀ p ∈ fn.params, cx.vty (.loc p.1) = p.2.2
  scratch : L.scratch (cx.funcName fn.id) = if needsTrampoline cx fn then [xo fn.id] else []
  tramp : needsTrampoline cx fn = true → AgreeT cx L fn gs (xo fn.id) ∧ rsv fn.id = xo fn.id :: slotsOf fn.params

/-- a Metal world that answers non-target calls and signatures like `M` is linked to `W` as well -/
theorem Worlds.hop {cx : Ctx} {rsv : Nat → List Var} {W : World} {M M' : Msl.MWorld} (h : Worlds cx rsv W M)
    (hP : M'.P = M.P) (hs : M'.msig = M.msig) (hphi : ∀ f, M'.mphi f false = M.mphi f false) : Worlds cx rsv W M' where
  prim := by rw [hP]; exact h.prim
  ret := h.ret
  sig := by intro f rt ps gs h1 h2 h3; rw [hs]; exact h.sig f rt ps gs h1 h2 h3
  call := by intro f rt ps gs l σ h1 h2 h3 h4 h5; rw [hphi]; exact h.call f rt ps gs l σ h1 h2 h3 h4 h5

theorem argsOK_of_fits {vty : Var → Ty} {xo : Var} :
    ∀ (ps : Params) (slots : List Var) (l : CArgs), fitsB vty (ps.map fun p => (p.2.1, p.2.2)) l = true →
      (∀ p ∈ ps, vty (.loc p.1) = p.2.2) → (∀ p ∈ l, ∀ x, p.2 = some x → (xo :: slots).contains x = false) →
      ArgsOK vty slots xo ps l
  | [], slots, [], _, _, _ => by simp [ArgsOK]
  | [], slots, _ :: _, h, _, _ => by simp [fitsB] at h
  | _ :: _, slots, [], h, _, _ => by simp [fitsB] at h
  | (pid, d, T) :: ps, slots, (v, o) :: l, h, hty, hr => by
    simp only [List.map_cons, fitsB, Bool.and_eq_true] at h
    simp only [ArgsOK]
    refine ⟨hty (pid, d, T) (by simp), ?_, argsOK_of_fits ps slots l h.2 (fun p hp => hty p (List.mem_cons_of_mem _ hp))
      (fun p hp => hr p (List.mem_cons_of_mem _ hp))⟩
    cases o with
    | none => simpa using h.1
    | some x =>
      have h1 := h.1
      simp only [Bool.and_eq_true, decide_eq_true_eq] at h1
      have h2 := hr (v, some x) (by simp) x rfl
      simp only [List.contains_cons, Bool.or_eq_false_iff, beq_eq_false_iff_ne] at h2
      refine ⟨h1.1, h1.2, ?_, h2.1⟩
      intro hc
      have := h2.2
      simp [hc] at this

theorem offOut_valsIn {vty : Var → Ty} {slots : List Var} {xo : Var} (ps : Params) (l : CArgs) (σ : Store)
    (h : ArgsOK vty slots xo ps l) : offOut ps (valsIn ps l σ) (l.map (valAt σ)) := by
  induction ps, l, h using ArgsOK.induction with
  | nil => simp [offOut, valsIn]
  | val pid T ps v l _ _ ih => exact ⟨fun _ => rfl, ih⟩
  | ref pid d T ps v x l _ hd _ _ _ _ ih =>
    refine ⟨fun ho => ?_, ih⟩
    have : d = .inout := by cases d <;> simp_all
    simp [this, valAt]

/-- a function without out/inout parameters: the arguments are all values -/
theorem noOut_args {vty : Var → Ty} :
    ∀ (ps : Params) (l : CArgs) (σ : Store), fitsB vty (ps.map fun p => (p.2.1, p.2.2)) l = true →
      (ps.any fun p => decide (p.2.1 ≠ .in_)) = false →
      l.map toMArg = slotArgs ps (l.map (·.1)) ∧ Preset ps (l.map (·.1)) σ ∧ l.map (valAt σ) = l.map (·.1) ∧
      (∀ fin σ', writeBack (l.map (·.2)) fin σ' = σ') ∧ (l.map (·.1)).length = ps.length
  | [], [], σ, _, _ => by simp [slotArgs, Preset, writeBack]
  | [], _ :: _, σ, h, _ => by simp [fitsB] at h
  | _ :: _, [], σ, h, _ => by simp [fitsB] at h
  | (pid, d, T) :: ps, (v, o) :: l, σ, h, hall => by
    simp only [List.map_cons, fitsB, Bool.and_eq_true] at h
    simp only [List.any_cons, Bool.or_eq_false_iff, decide_eq_false_iff_not, ne_eq, Decidable.not_not] at hall
    obtain ⟨i1, i2, i3, i4, i5⟩ := noOut_args ps l σ h.2 hall.2
    have hd : d = .in_ := hall.1
    subst hd
    cases o with
    | some x => simp at h
    | none =>
      refine ⟨by simp [toMArg, slotArgs, i1], by simp [Preset, i2], by simp [valAt, i3], ?_, by simp [i5]⟩
      intro fin σ'
      cases fin with
      | nil => simp [writeBack]
      | cons w ws => simp [writeBack, i4]

/-- **what overload resolution finds** in the emitted program for the function the typed program finds under an id: callers
see the definition emitted with `target = false` (the trampoline when there is one, else the function itself), a trampoline
sees the definition that carries the body.  First match on both sides: the definitions emitted for the functions in front
carry other names. -/
theorem lookup_found {cx : Ctx} {L : Msl.Layout} (hfres : ∀ f, L.fres (cx.funcName f) = some f) (f : Nat) :
    ∀ (prog : List Ir.Func) (mprog : List MslAst.Func), genProg cx prog = .ok mprog →
      ∀ fn gs, prog.find? (fun fn => fn.id == f) = some fn → cx.req fn.id = some gs →
      ∃ m t, genFuncInner cx fn (needsTrampoline cx fn) false = .ok m ∧
        genFuncInner cx fn false (needsTrampoline cx fn) = .ok t ∧ Msl.lookup L mprog f false = some t ∧
        (needsTrampoline cx fn = true → Msl.lookup L mprog f true = some m) := by
  intro prog
  fun_induction genProg cx prog <;> intro mprog hg fn gs hfind hreq <;> cases hg
  · simp at hfind
  next fn0 r ms hf mr hr ih =>
    by_cases hid : fn0.id = f
    · have : fn0 = fn := by simpa [List.find?, hid] using hfind
      subst this
      revert hf
      fun_cases genFuncs cx fn0 <;> intro hf <;> cases hf
      next m h1 hn t h2 => -- the target and its trampoline
        obtain ⟨n1, t1, _, _⟩ := genFuncInner_facts hreq h1
        obtain ⟨n2, t2, _, _⟩ := genFuncInner_facts hreq h2
        have hm : L.fres m.name = some f := by rw [n1, hfres, hid]
        have ht : L.fres t.name = some f := by rw [n2, hfres, hid]
        rw [hn] at t1
        exact ⟨m, t, h1, by rw [hn]; exact h2, by simp [Msl.lookup, List.find?, hm, ht, t1, t2],
          fun _ => by simp [Msl.lookup, hm, t1]⟩
      next m h1 hn =>
        obtain ⟨n1, t1, _, _⟩ := genFuncInner_facts hreq h1
        have hm : L.fres m.name = some f := by rw [n1, hfres, hid]
        have hn' : needsTrampoline cx fn0 = false := by simpa using hn
        rw [hn'] at t1 h1 ⊢
        exact ⟨m, m, h1, h1, by simp [Msl.lookup, hm, t1], fun h => nomatch h⟩
    · have h1 : (fn0.id == f) = false := by simpa using hid
      simp only [List.find?, h1] at hfind
      obtain ⟨m, t, hm, ht, hl1, hl2⟩ := ih mr hr fn gs hfind hreq
      have hskip : ∀ tgt, Msl.lookup L (ms ++ mr) f tgt = Msl.lookup L mr f tgt := by
        intro tgt
        have : ms.find? (fun m => L.fres m.name == some f && m.isTarget == tgt) = none := by
          rw [List.find?_eq_none]; intro m hm; simp [genFuncs_names hf m hm, hfres, hid]
        simp only [Msl.lookup, List.find?_append, this, Option.none_or]
      exact ⟨m, t, hm, ht, by rw [hskip]; exact hl1, fun h => by rw [hskip]; exact hl2 h⟩

/-- the whole program and its emitted module -/
structure ProgOK (cx : Ctx) (L : Msl.Layout) (prog : List Ir.Func) (mprog : List MslAst.Func) (rsv : Nat → List Var)
    (xo : Nat → Var) (vis0 : Nat → Var → Bool) : Prop where
  gen : genProg cx prog = .ok mprog
  ids : (prog.map (·.id)).Nodup
  fres : ∀ f, L.fres (cx.funcName f) = some f
  funcs : ∀ fn ∈ prog, ∃ gs, FuncOK cx L prog rsv xo vis0 fn gs

/-- what is assumed of the *typed* functions that get a trampoline, at call depth `d`: the result does not depend on the
value an `out` parameter has on entry (the source writes it before reading it); a `void` function returns no value; the
scratch slot of the trampoline is not a variable of the program -/
structure SemOK (cx : Ctx) (P : Prim) (prog : List Ir.Func) (fuel : Nat) (xo : Nat → Var) (d : Nat) : Prop where
  out : ∀ fn ∈ prog, needsTrampoline cx fn = true → ∀ vals vals' σ, offOut fn.params vals vals' →
    Ir.callFunc (irWorld P prog fuel d) fuel fn vals σ = Ir.callFunc (irWorld P prog fuel d) fuel fn vals' σ
  void : ∀ fn ∈ prog, needsTrampoline cx fn = true → fn.ret = .void →
    ∀ vals σ r, Ir.callFunc (irWorld P prog fuel d) fuel fn vals σ = some r → r.1 = .void
  scratch : ∀ fn ∈ prog, needsTrampoline cx fn = true →
    ∀ vals σ r, Ir.callFunc (irWorld P prog fuel d) fuel fn vals σ = some r → r.2.2 (xo fn.id) = σ (xo fn.id)

theorem sigOf_find {prog : List Ir.Func} {f : Nat} {rt : Ty} {ps : List (Dir × Ty)} (h : Ir.sigOf prog f = some (rt, ps)) :
    ∃ fn, prog.find? (fun fn => fn.id == f) = some fn ∧ fn ∈ prog ∧ fn.id = f ∧ rt = fn.ret ∧
      ps = fn.params.map (fun p => (p.2.1, p.2.2)) := by
  simp only [Ir.sigOf] at h
  cases hf : prog.find? (fun fn => fn.id == f) with
  | none => simp [hf] at h
  | some fn =>
    simp [hf] at h
    have hid : fn.id = f := by simpa using List.find?_some hf
    exact ⟨fn, rfl, List.mem_of_find?_eq_some hf, hid, h.1.symm, h.2.symm⟩

section
variable {cx : Ctx} {L : Msl.Layout} {prog : List Ir.Func} {mprog : List MslAst.Func} {rsv : Nat → List Var}
  {xo : Nat → Var} {vis0 : Nat → Var → Bool} {P : Prim} {fuel : Nat}

theorem msig_false (hP : ProgOK cx L prog mprog rsv xo vis0) {f : Nat} {rt : Ty} {ps : List (Dir × Ty)} {gs : List Nat}
    (hs : Ir.sigOf prog f = some (rt, ps)) (hr : cx.req f = some gs) :
    Msl.sigOf L mprog f false = some (rt, mParams ps ++ globParams cx gs) := by
  obtain ⟨fn, hfind, hmem, hid, rfl, rfl⟩ := sigOf_find hs
  subst hid
  obtain ⟨_, t, _, g, h, _⟩ := lookup_found hP.fres fn.id prog mprog hP.gen fn gs hfind hr
  obtain ⟨_, _, t3, t4⟩ := genFuncInner_facts hr g
  simp [Msl.sigOf, h, t3, t4, mParams_dirs]

/-- **programs**: at every call depth the callable functions of the emitted Metal program are linked to those of the
typed program — a Metal call with variables for the out/inout parameters and references to the needed statics behaves
as copy-in / typed function / copy-out -/
theorem worlds_prog (hP : ProgOK cx L prog mprog rsv xo vis0) (hS : ∀ d, SemOK cx P prog fuel xo d) :
    ∀ d, Worlds cx rsv (irWorld P prog fuel d) (mslWorld P L mprog fuel d)
  | 0 =>
    { prim := rfl
      ret := by
        intro f rt ps hs
        obtain ⟨fn, _, hmem, hid, rfl, _⟩ := sigOf_find hs
        obtain ⟨gs, hF⟩ := hP.funcs fn hmem
        rw [← hid]; exact hF.ret
      sig := fun f rt ps gs hs hr _ => msig_false hP hs hr
      call := by
        intro f rt ps gs l σ _ _ _ _ _
        simp [mslWorld, irWorld, Msl.phi, Ir.phi] }
  | d + 1 =>
    have ih := worlds_prog hP hS d
    { prim := rfl
      ret := ih.ret
      sig := fun f rt ps gs hs hr _ => msig_false hP hs hr
      call := by
        intro f rt ps gs l σ hs hr hcalled hfit hrsv
        obtain ⟨fn, hfind, hmem, hid, rfl, rfl⟩ := sigOf_find hs
        subst hid
        have hF : FuncOK cx L prog rsv xo vis0 fn gs := by
          obtain ⟨gs', hF'⟩ := hP.funcs fn hmem
          have hgs : gs' = gs := by have := hF'.req; rw [hr] at this; exact (Option.some.inj this).symm
          subst hgs; exact hF'
        obtain ⟨m1, m2, g1, g2, hlF, hlT⟩ := lookup_found hP.fres fn.id prog mprog hP.gen fn gs hfind hr
        have hir : (irWorld P prog fuel (d + 1)).phi fn.id = fun vals σ => Ir.callFunc (irWorld P prog fuel d) fuel fn vals σ := by
          funext vals σ; simp [irWorld, Ir.phi, hfind]
        simp only [hir]
        -- the world a non-target body runs in answers non-target calls like the Metal world at depth d
        let inner : Msl.MWorld := mslWorld P L mprog fuel d
        let hopW : Msl.MWorld :=
          { P := P, msig := Msl.sigOf L mprog,
            mphi := fun f' t' a s =>
              if t' then
                match Msl.lookup L mprog f' true with
                | none => none
                | some fn' => Msl.callFunc inner L fuel fn' a s
              else Msl.phi P L mprog fuel d f' false a s }
        have hhop : Worlds cx rsv (irWorld P prog fuel d) hopW :=
          Worlds.hop ih rfl rfl (fun f' => by funext a s; simp [hopW, mslWorld])
        have hside : side cx (irWorld P prog fuel d) (visWith (vis0 fn.id) gs) rsv =
            { sig := Ir.sigOf prog, vty := cx.vty, vis := visWith (vis0 fn.id) gs, req := cx.req, rsv := rsv, called := cx.called } := rfl
        -- callers reach `m2`, which runs in `hopW`
        have hphi : (mslWorld P L mprog fuel (d + 1)).mphi fn.id false = fun a s => Msl.callFunc hopW L fuel m2 a s := by
          funext a s
          simp only [mslWorld, Msl.phi, hlF, hopW, inner]
          rfl
        rw [hphi]
        show Msl.callFunc hopW L fuel m2 (l.map toMArg ++ globMArgs gs) σ = _
        by_cases hn : needsTrampoline cx fn = true
        · -- trampoline
          rw [hn] at g1 g2
          replace hlT := hlT hn
          obtain ⟨hAT, hrsvEq⟩ := hF.tramp hn
          have hok : ArgsOK cx.vty (slotsOf fn.params) (xo fn.id) fn.params l :=
            argsOK_of_fits fn.params (slotsOf fn.params) l hfit hF.tyP (by rw [← hrsvEq]; exact hrsv)
          have hsc : L.scratch (cx.funcName fn.id) = [xo fn.id] := by rw [hF.scratch]; simp [hn]
          have hsigT : hopW.msig fn.id true =
              some (fn.ret, mParamsOf fn.params ++ (Msl.PK.tag, Ty.void) :: globParams cx gs) := by
            obtain ⟨_, _, t3, t4⟩ := genFuncInner_facts hr g1
            simp only [hopW, Msl.sigOf, hlT, t3, t4]
            simp
          have hT : ∀ σ', hopW.mphi fn.id true
              (slotArgs fn.params (fn.params.map fun p => σ' (.loc p.1)) ++ Msl.MArg.tag :: globMArgs gs) σ' =
              (Ir.callFunc (irWorld P prog fuel d) fuel fn (fn.params.map fun p => σ' (.loc p.1)) σ').map
                (fun r => (r.1, Msl.restore [xo fn.id] σ' r.2.2)) := by
            intro σ'
            have hpre : ∀ (ps : Params), Preset ps (ps.map fun p => σ' (.loc p.1)) σ' := by
              intro ps
              induction ps with
              | nil => simp [Preset]
              | cons p ps ihp => obtain ⟨pid, dd, TT⟩ := p; simp [Preset, ihp]
            have := sim_funcM (tgt := true) hF.layout ih hr hF.inj hF.ids g1 (by rw [hside]; exact hF.wt) fuel
              (fn.params.map fun p => σ' (.loc p.1)) σ' (by simp) (hpre fn.params)
            simp only [if_true, List.singleton_append, hsc] at this
            simp only [hopW, if_true, hlT, inner]
            exact this
          have hcopy := trampoline_copy (W := irWorld P prog fuel d) hAT hopW fuel m2 hr g2 hsigT hT l hok σ
          rw [hcopy]
          -- the three assumptions about the typed function close the gap
          have hSd := hS d
          rw [hSd.out fn hmem hn _ _ σ (offOut_valsIn fn.params l σ hok)]
          cases hcall : Ir.callFunc (irWorld P prog fuel d) fuel fn (l.map (valAt σ)) σ with
          | none => rfl
          | some r =>
            obtain ⟨ret, finals, σ1⟩ := r
            have hv : (if fn.ret = .void then Val.void else ret) = ret := by
              by_cases hvd : fn.ret = .void
              · have := hSd.void fn hmem hn hvd _ _ _ hcall
                simp only [hvd, if_true]; exact this.symm
              · simp [hvd]
            have hsx : σ1 (xo fn.id) = σ (xo fn.id) := hSd.scratch fn hmem hn _ _ _ hcall
            have hst : Msl.restore [xo fn.id] σ (writeBack (l.map (·.2)) finals σ1) = writeBack (l.map (·.2)) finals σ1 := by
              funext y
              by_cases hy : y = xo fn.id
              · subst hy
                simp only [Msl.restore, List.contains_cons, beq_self_eq_true, Bool.true_or, if_true]
                rw [writeBack_off _ _ _ _ (fun x hx => ?_), hsx]
                -- no argument variable is the scratch slot
                obtain ⟨p, hp, hpx⟩ := List.mem_map.mp hx
                have := hrsv p hp x hpx
                rw [hrsvEq] at this
                simp only [List.contains_cons, Bool.or_eq_false_iff, beq_eq_false_iff_ne] at this
                exact this.1
              · simp [Msl.restore, hy]
            simp only [hv, hst]
        · -- no trampoline: the function is called, so it has no out/inout parameter
          have hn' : needsTrampoline cx fn = false := by simpa using hn
          rw [hn'] at g2
          have hnoout : hasOut fn = false := by simpa [needsTrampoline, hcalled] using hn
          obtain ⟨i1, i2, i3, i4, i5⟩ := noOut_args fn.params l σ hfit hnoout
          have hsc : L.scratch (cx.funcName fn.id) = [] := by rw [hF.scratch]; simp [hn']
          have := sim_funcM (tgt := false) hF.layout hhop hr hF.inj hF.ids g2 (by rw [hside]; exact hF.wt) fuel
            (l.map (·.1)) σ i5 i2
          simp only [Bool.false_eq_true, if_false, List.nil_append, hsc] at this
          rw [i1, this, i3]
          cases Ir.callFunc (irWorld P prog fuel d) fuel fn (l.map (·.1)) σ with
          | none => rfl
          | some r =>
            obtain ⟨ret, finals, σ1⟩ := r
            have hre : Msl.restore [] σ σ1 = σ1 := by funext y; simp [Msl.restore]
            simp [i4, hre] }
end

/-- what remains to be assumed of the typed program: a function that gets a trampoline computes the same whatever value
its `out` parameters have on entry (the source writes an `out` parameter before reading it) -/
def OutOK (cx : Ctx) (P : Prim) (prog : List Ir.Func) (fuel : Nat) : Prop :=
  ∀ d, ∀ fn ∈ prog, needsTrampoline cx fn = true → ∀ vals vals' σ, offOut fn.params vals vals' →
    Spec.Sem.Ir.callFunc (irWorld P prog fuel d) fuel fn vals σ = Spec.Sem.Ir.callFunc (irWorld P prog fuel d) fuel fn vals' σ

/-- the syntactic conditions that discharge the other two assumptions: no function mentions a trampoline's scratch slot,
and a `void` function that gets a trampoline contains no `return e;` -/
structure SynOK (cx : Ctx) (prog : List Ir.Func) (xo : Nat → Var) : Prop where
  scratchFree : ∀ g ∈ prog, needsTrampoline cx g = true → ∀ fn ∈ prog, Ir.freeF (xo g.id) fn = true
  voidNoRet : ∀ fn ∈ prog, needsTrampoline cx fn = true → fn.ret = .void → Ir.noRetSs fn.body = true

theorem semOK_of {cx : Ctx} {P : Prim} {prog : List Ir.Func} {fuel : Nat} {xo : Nat → Var}
    (hout : OutOK cx P prog fuel) (hsyn : SynOK cx prog xo) : ∀ d, SemOK cx P prog fuel xo d := fun d =>
  { out := hout d
    void := fun fn hmem hn hv => callFunc_void _ fuel fn (hsyn.voidNoRet fn hmem hn hv)
    scratch := fun fn hmem hn =>
      callFunc_frame (W := irWorld P prog fuel d) (phi_frame P prog fuel (xo fn.id) (hsyn.scratchFree fn hmem hn) d) fuel fn
        (hsyn.scratchFree fn hmem hn fn hmem) }

end RsslVerif.Lemmas.GenMsl
