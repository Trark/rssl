import RsslVerif.Lemmas.Overload
/-! Lemmas about the model of `ImplicitConversion::find` / `get_rank`: panic freedom, what `Exact/Exact`
means on the property's type grid. Core Lean only. -/
namespace RsslVerif.Lemmas.Conv
open RsslVerif.Gen.RankTable RsslVerif.Model.Conv RsslVerif.Model.Overload RsslVerif.Spec.Overload

/-- a check of the form `if c { return Err(..) }` that was passed -/
theorem ok_of_ite_error {ε α : Type} {c : Prop} [Decidable c] {e : ε} {x : Except ε α} {v : α}
    (h : (if c then .error e else x) = .ok v) : ¬ c ∧ x = .ok v := by
  split at h
  · cases h
  · exact ⟨‹_›, h⟩

/-- a call that is known not to panic did not take its panic branch -/
theorem not_error {ε α : Type} {x : Except ε α} {e : ε} (hx : ∃ r, x = .ok r) (he : x = .error e) : False := by
  obtain ⟨r, hr⟩ := hx
  rw [he] at hr
  cases hr

theorem find_inv {s d : ETy} {c : Conversion} (h : find s d = .ok (some c)) :
    ¬ (s.vt = .rvalue ∧ d.vt = .lvalue) ∧
    c.source = s ∧ c.valueCast = decide (s.vt = .lvalue ∧ d.vt = .rvalue) ∧
    dimensionCast s.ty.layer d.ty.layer (decide (d.vt = .lvalue)) = some c.dimCast ∧
    primaryCast s.ty.layer d.ty.layer = .ok (some c.primary) ∧
    ∃ mc, modifierCast s.ty.mod d.ty.mod (decide (d.vt = .lvalue)) = some mc ∧
      c.modCast = sharedModifierCast c.primary d.ty.mod mc := by
  revert h
  fun_cases find s d <;> intro h <;> try cases h
  rename_i hv _ _ _ hdc _ hpc mc hmc
  exact ⟨hv, rfl, rfl, hdc, hpc, mc, hmc, rfl⟩

/-- the `unreachable!()` arms of the `(source_scalar, dest_scalar)` match are exactly the diagonal (table fact) -/
theorem primaryRank_isNone (s d : Scalar) : (primaryRank s d).isNone = decide (s = d) := by
  cases s <;> cases d <;> decide

theorem primaryRank_isSome_of_ne {s d : Scalar} (h : s ≠ d) : ∃ r, primaryRank s d = some r := by
  have hn := primaryRank_isNone s d
  cases hr : primaryRank s d with
  | some r => exact ⟨r, rfl⟩
  | none => rw [hr] at hn; simp [h] at hn

/-- the `unreachable!()` of the rank table is never reached -/
theorem primaryCast_ok (sl dl : Layer) : ∃ r, primaryCast sl dl = .ok r := by
  fun_cases primaryCast sl dl
  -- the `unreachable!()` arm: the scalars differ, so the table has an entry
  case case7 hne hnone _ _ _ =>
    obtain ⟨r, hr⟩ := primaryRank_isSome_of_ne hne
    rw [hr] at hnone
    cases hnone
  -- every other arm answers `.ok _`; where the principle leaves the match on the two scalars, the arm's equations evaluate it
  all_goals simp [*]

theorem find_no_panic (s d : ETy) : ∃ r, find s d = .ok r := by
  fun_cases find s d
  case case3 he => exact (not_error (primaryCast_ok _ _) he).elim
  all_goals exact ⟨_, rfl⟩

/-- rank of a conversion as a function of the two layers (when the conversion exists) -/
def rankOfLayers (sl dl : Layer) (destLvalue : Bool) : Option Rank :=
  match dimensionCast sl dl destLvalue, primaryCast sl dl with
  | some dc, .ok (some pc) =>
    (vecRankOf dc).map fun v => ⟨match pc with | some p => p.rank | none => .exact, v⟩
  | _, _ => none

theorem findRank_layers {a d : ETy} {r : Rank} (h : findRank a d = .ok (some r)) :
    rankOfLayers a.ty.layer d.ty.layer (decide (d.vt = .lvalue)) = some r := by
  revert h
  fun_cases findRank a d <;> intro h <;> try cases h
  rename_i c hc hg
  obtain ⟨_, _, _, hdc, hpc, _⟩ := find_inv hc
  revert hg
  fun_cases getRank c <;> intro hg <;> cases hg
  rename_i v hv
  simp only [rankOfLayers, hdc, hpc, hv, Option.map_some]
  rfl

/- `vecRankOf` tests a width against the literal `1`: it evaluates once the width is `0`, `1` or `_ + 2` -/
theorem vecRank_vec_scalar (x : Nat) : ∃ v, vecRankOf (some (.vector x, .scalar)) = some v := by
  match x with
  | 0 | 1 | _ + 2 => exact ⟨_, rfl⟩

theorem vecRank_scalar_vec (y : Nat) : ∃ v, vecRankOf (some (.scalar, .vector y)) = some v := by
  match y with
  | 0 | 1 | _ + 2 => exact ⟨_, rfl⟩

theorem vecRank_one_vec (y : Nat) : ∃ v, vecRankOf (some (.vector 1, .vector y)) = some v :=
  ⟨.expand, rfl⟩

theorem vecRank_vec_vec (x y : Nat) (h : y < x) : ∃ v, vecRankOf (some (.vector x, .vector y)) = some v := by
  match x with
  | 0 => omega
  | 1 => exact vecRank_one_vec y
  | x + 2 =>
    refine ⟨.contract, ?_⟩
    -- the first three tests evaluate to `false`, the fourth is `x + 2 > y`
    show (if decide (x + 2 > y) = true then some VecRank.contract else _) = _
    exact if_pos (decide_eq_true h)

theorem vecRank_scalar_matrix (x y : Nat) : ∃ v, vecRankOf (some (.scalar, .matrix x y)) = some v :=
  ⟨.expand, rfl⟩

/-- since /repo 368a51b (`Some(DimensionCast(Scalar, Matrix(_, _))) => VectorRank::Expand`): every dimension cast
    that `find` can produce has an arm in `get_rank` -/
theorem dimensionCast_rank_total {sl dl : Layer} {lv : Bool} {dc : Option (Dim × Dim)}
    (h : dimensionCast sl dl lv = some dc) : ∃ v, vecRankOf dc = some v := by
  revert h
  fun_cases dimensionCast sl dl lv <;> intro h <;> try cases h
  case case4 => exact vecRank_vec_scalar _
  case case9 => exact vecRank_scalar_vec _
  case case11 => exact vecRank_one_vec _
  case case13 hlt _ => exact vecRank_vec_vec _ _ hlt
  case case16 => exact vecRank_scalar_matrix _ _
  -- no dimension cast, or `T1` ~ `T`: an arm of `vecRankOf` without a test
  all_goals exact ⟨_, rfl⟩

def IsMatrix : Layer → Prop
  | .matrix _ _ _ => True
  | _ => False

theorem getRank_of_findRank {a d : ETy} {c : Conversion} (hf : find a d = .ok (some c)) :
    findRank a d = (match getRank c with | .error e => .error e | .ok r => .ok (some r)) := by
  unfold findRank; rw [hf]; rfl

theorem rankOfLayers_same (l : Layer) (lv : Bool) : rankOfLayers l l lv = some ⟨.exact, .exact⟩ := by
  simp only [rankOfLayers, dimensionCast, primaryCast, if_true]
  rfl

theorem findRank_same_layer {a d : ETy} (h : a.ty.layer = d.ty.layer) {r : Rank}
    (hr : findRank a d = .ok (some r)) : r = ⟨.exact, .exact⟩ := by
  have := findRank_layers hr
  rw [h, rankOfLayers_same] at this
  exact (Option.some.inj this).symm

def gridScalars : List Scalar := [.bool, .int32, .uInt32, .float16, .float32, .float64]

def gridLayers : List Layer :=
  gridScalars.flatMap fun s => [.scalar s, .vector s 2, .vector s 3, .vector s 4]

def argGridLayers : List Layer := [.scalar .intLiteral, .scalar .floatLiteral] ++ gridLayers

theorem mem_gridScalars {s : Scalar} (h1 : s ≠ .intLiteral) (h2 : s ≠ .floatLiteral) : s ∈ gridScalars := by
  cases s <;> first | exact absurd rfl h1 | exact absurd rfl h2 | decide

theorem onGrid_mem {l : Layer} (h : OnGrid l) : l ∈ gridLayers := by
  cases l with
  | scalar s => exact List.mem_flatMap.mpr ⟨s, mem_gridScalars h.1 h.2, List.mem_cons_self⟩
  | vector s n =>
    obtain ⟨h1, h2, h3, h4⟩ := h
    have : n = 2 ∨ n = 3 ∨ n = 4 := by omega
    refine List.mem_flatMap.mpr ⟨s, mem_gridScalars h1 h2, ?_⟩
    rcases this with rfl | rfl | rfl <;> simp
  | matrix s x y => exact h.elim
  | «enum» i => exact h.elim
  | other i => exact h.elim

theorem argOnGrid_mem {l : Layer} (h : ArgOnGrid l) : l ∈ argGridLayers := by
  cases l with
  | scalar s =>
    by_cases h1 : s = .intLiteral
    · subst h1; exact List.mem_append_left _ List.mem_cons_self
    · by_cases h2 : s = .floatLiteral
      · subst h2; exact List.mem_append_left _ (List.mem_cons_of_mem _ List.mem_cons_self)
      · exact List.mem_append_right _ (onGrid_mem (l := .scalar s) ⟨h1, h2⟩)
  | vector s n => exact List.mem_append_right _ (onGrid_mem (l := .vector s n) h)
  | matrix s x y => exact h.elim
  | «enum» i => exact h.elim
  | other i => exact h.elim

/-- finite check over the property's whole grid (26 argument layers × 24 parameter layers × in/out):
    a conversion ranked `Exact/Exact` is a conversion between equal layers -/
theorem exact_grid_check : ∀ sl ∈ argGridLayers, ∀ dl ∈ gridLayers, ∀ lv : Bool,
    rankOfLayers sl dl lv = some ⟨.exact, .exact⟩ → sl = dl := by
  decide +kernel

theorem exact_rank_same_layer_on_grid {a d : ETy} (ha : ArgOnGrid a.ty.layer) (hd : OnGrid d.ty.layer)
    (h : findRank a d = .ok (some ⟨.exact, .exact⟩)) : a.ty.layer = d.ty.layer :=
  exact_grid_check _ (argOnGrid_mem ha) _ (onGrid_mem hd) _ (findRank_layers h)

theorem zipRanks_cons {p : Param} {ps : List Param} {a : ETy} {as : List ETy} {rs : List Rank}
    (h : zipRanks (p :: ps) (a :: as) = .ok (some rs)) :
    ∃ r rs', rs = r :: rs' ∧ findRank a p.ety = .ok (some r) ∧ zipRanks ps as = .ok (some rs') := by
  obtain ⟨c, r, rs', hc, hrs', hr, rfl⟩ := RsslVerif.Lemmas.Overload.zipRanks_cons_some.mp h
  exact ⟨r, rs', rfl, by rw [getRank_of_findRank hc, hr], hrs'⟩

theorem rankExact_iff_sameLayers : ∀ (ps : List Param) (as : List ETy) (rs : List Rank),
    zipRanks ps as = .ok (some rs) → as.length ≤ ps.length →
    (∀ p ∈ ps, OnGrid p.ty.layer) → (∀ a ∈ as, ArgOnGrid a.ty.layer) →
    (RankExact rs ↔ SameLayers ps as)
  | [], [], rs, h, _, _, _ => by
    simp only [zipRanks, Except.ok.injEq, Option.some.injEq] at h
    subst h; simp [RankExact, SameLayers]
  | [], _ :: _, _, _, hl, _, _ => by simp at hl
  | _ :: _, [], rs, h, _, _, _ => by
    simp only [zipRanks, Except.ok.injEq, Option.some.injEq] at h
    subst h; simp [RankExact, SameLayers]
  | p :: ps, a :: as, rs, h, hl, hp, ha => by
    obtain ⟨r, rs', rfl, hr, hrest⟩ := zipRanks_cons h
    have ih := rankExact_iff_sameLayers ps as rs' hrest (by simpa using hl)
      (fun q hq => hp q (List.mem_cons_of_mem _ hq)) (fun b hb => ha b (List.mem_cons_of_mem _ hb))
    have hpl : p.ety.ty.layer = p.ty.layer := rfl
    simp only [SameLayers]
    constructor
    · intro hex
      have hr0 : r = ⟨.exact, .exact⟩ := hex r List.mem_cons_self
      rw [hr0] at hr
      have := exact_rank_same_layer_on_grid (a := a) (d := p.ety) (ha a List.mem_cons_self)
        (by rw [hpl]; exact hp p List.mem_cons_self) hr
      exact ⟨by rw [← hpl, this], ih.mp (fun x hx => hex x (List.mem_cons_of_mem _ hx))⟩
    · intro ⟨h1, h2⟩
      have hr0 := findRank_same_layer (a := a) (d := p.ety) (by rw [hpl, h1]) hr
      intro x hx
      rcases List.mem_cons.mp hx with hx | hx
      · rw [hx, hr0]
      · exact ih.mpr h2 x hx

/-- on the property's grid, "no argument needs a numeric or dimension conversion" is
    "the parameter types equal the argument types" -/
theorem exactMatch_iff_typeExact {args : List ETy} {c : Cand}
    (hp : ∀ p ∈ c.params, OnGrid p.ty.layer) (ha : ∀ a ∈ args, ArgOnGrid a.ty.layer) :
    ExactMatch args c ↔ TypeExact args c := by
  unfold ExactMatch TypeExact
  have key : ∀ rs, Viable args c rs → (RankExact rs ↔ SameLayers c.params args) := fun rs hv =>
    have ⟨hg, hrs, _⟩ := RsslVerif.Lemmas.Overload.rankCand_ranked hv
    rankExact_iff_sameLayers c.params args rs hrs hg.1 hp ha
  constructor
  · rintro ⟨rs, hv, hre⟩
    exact ⟨⟨rs, hv⟩, (key rs hv).mp hre⟩
  · rintro ⟨⟨rs, hv⟩, hs⟩
    exact ⟨rs, hv, (key rs hv).mpr hs⟩

theorem onGrid_not_matrix {l : Layer} (h : OnGrid l) : ¬ IsMatrix l := by
  cases l <;> simp_all [OnGrid, IsMatrix]

theorem findRank_total (a d : ETy) : ∃ r, findRank a d = .ok r := by
  unfold findRank
  obtain ⟨r, hr⟩ := find_no_panic a d
  rw [hr]
  cases r with
  | none => exact ⟨_, rfl⟩
  | some c =>
    simp only []
    obtain ⟨v, hv⟩ := dimensionCast_rank_total (find_inv hr).2.2.2.1
    simp only [getRank, hv]
    exact ⟨_, rfl⟩

theorem zipRanks_total : ∀ (ps : List Param) (as : List ETy), ∃ r, zipRanks ps as = .ok r := by
  intro ps as
  fun_induction zipRanks ps as
  -- the three panic sites: `find`, the rest of the list, `get_rank`
  case case1 he => exact (not_error (find_no_panic _ _) he).elim
  case case3 he ih => exact (not_error ih he).elim
  case case5 p _ a _ c hc _ _ e he _ =>
    obtain ⟨r, hr⟩ := findRank_total a p.ety
    rw [getRank_of_findRank hc, he] at hr
    cases hr
  all_goals exact ⟨_, rfl⟩

/-- no modelled panic site is reachable, for any candidates and arguments -/
theorem noPanic_always (cands : List Cand) (args : List ETy) : NoPanic cands args := by
  intro c _
  unfold rankCand
  split
  · obtain ⟨r, hr⟩ := zipRanks_total c.params args
    rw [hr]
    cases r <;> rfl
  · rfl

/-- instance of `findRank_total`; the hypothesis is not needed -/
theorem findRank_no_panic {a d : ETy} (hd : ¬ IsMatrix d.ty.layer) : ∃ r, findRank a d = .ok r := findRank_total a d

/-- instance of `noPanic_always`; the hypothesis is not needed -/
theorem noPanic_of_no_matrix {cands : List Cand} (args : List ETy)
    (h : ∀ c ∈ cands, ∀ p ∈ c.params, ¬ IsMatrix p.ty.layer) : NoPanic cands args :=
  noPanic_always cands args

end RsslVerif.Lemmas.Conv
