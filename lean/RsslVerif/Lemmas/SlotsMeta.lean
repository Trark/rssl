import RsslVerif.Lemmas.SlotsCompile
import RsslVerif.Lemmas.SlotsInline
/-! Lemmas about the metadata construction (`Model.SlotsCompile.describe`): the reflection metadata lists, per
    group, exactly the bound declarations of that group in declaration order with the allocator's locations. -/
namespace RsslVerif.Lemmas.SlotsMeta
open RsslVerif.Gen.SlotTables RsslVerif.Model.Slots RsslVerif.Model.SlotsCompile RsslVerif.Spec.Slots
open RsslVerif.Lemmas.Slots

/-- What the metadata of group `g` must list: the bound declarations whose binding is in group `g`, in
    declaration order, each with its name, its location and its descriptor count. -/
def entriesOf (g : Nat) : List String → List Decl → List (Option Binding) → List MetaBinding
  | n :: ns, d :: ds, some b :: bs =>
    (if b.set = g then [{ name := n, loc := b.loc, count := descriptorCount d }] else []) ++ entriesOf g ns ds bs
  | _ :: ns, _ :: ds, none :: bs => entriesOf g ns ds bs
  | _, _, _ => []

/-- bindings reported for group `g` (a group beyond the vector reports nothing) -/
def bindingsAt (gs : List MetaGroup) (g : Nat) : List MetaBinding := ((gs[g]?).map (·.bindings)).getD []

def inlineAt (gs : List MetaGroup) (g : Nat) : Option (Nat × Nat) := (gs[g]?).bind (·.inlineBlock)

theorem modifyAt_eq_modify (f : MetaGroup → MetaGroup) : ∀ (n : Nat) (gs : List MetaGroup), modifyAt f n gs = gs.modify n f
  | _, [] => by simp [modifyAt]
  | 0, _ :: _ => rfl
  | n + 1, _ :: gs => by simp [modifyAt, modifyAt_eq_modify f n gs]

theorem pad_length (gs : List MetaGroup) (set : Nat) : set < (pad gs set).length := by
  unfold pad
  by_cases hs : set < gs.length
  · simp [hs]
  · simp [hs]; omega

/-- group `g` of the vector; a group beyond its end counts as empty (what `bindingsAt` and `inlineAt` read) -/
def grpAt (gs : List MetaGroup) (g : Nat) : MetaGroup := (gs[g]?).getD MetaGroup.empty

theorem bindingsAt_eq (gs : List MetaGroup) (g : Nat) : bindingsAt gs g = (grpAt gs g).bindings := by
  unfold bindingsAt grpAt; cases gs[g]? <;> rfl

theorem inlineAt_eq (gs : List MetaGroup) (g : Nat) : inlineAt gs g = (grpAt gs g).inlineBlock := by
  unfold inlineAt grpAt; cases gs[g]? <;> rfl

theorem pad_eq (gs : List MetaGroup) (set : Nat) :
    pad gs set = gs ++ List.replicate (set + 1 - gs.length) MetaGroup.empty := by
  unfold pad
  split
  · rw [Nat.sub_eq_zero_of_le (by omega)]; simp
  · rfl

theorem grpAt_pad (gs : List MetaGroup) (set g : Nat) : grpAt (pad gs set) g = grpAt gs g := by
  rw [pad_eq]
  unfold grpAt
  by_cases hg : g < gs.length
  · rw [List.getElem?_append_left hg]
  · rw [List.getElem?_append_right (Nat.le_of_not_lt hg), List.getElem?_replicate,
      List.getElem?_eq_none (Nat.le_of_not_lt hg)]
    split <;> rfl

theorem grpAt_modifyAt (f : MetaGroup → MetaGroup) {n : Nat} {gs : List MetaGroup} (hn : n < gs.length) (g : Nat) :
    grpAt (modifyAt f n gs) g = if g = n then f (grpAt gs g) else grpAt gs g := by
  unfold grpAt
  rw [modifyAt_eq_modify, List.getElem?_modify]
  by_cases hg : g = n
  · subst hg; simp [List.getElem?_eq_getElem hn]
  · simp [hg, Ne.symm hg]

theorem grpAt_registerBinding (gs : List MetaGroup) (set : Nat) (b : MetaBinding) (g : Nat) :
    grpAt (registerBinding gs set b) g =
      if g = set then { grpAt gs g with bindings := (grpAt gs g).bindings ++ [b] } else grpAt gs g := by
  unfold registerBinding
  rw [grpAt_modifyAt _ (pad_length gs set), grpAt_pad]

theorem analyse_spec {limit : Option Nat} {ns : List String} {ds : List Decl} {bs : List (Option Binding)}
    {gs gs' : List MetaGroup} (h : analyse limit gs ns ds bs = .ok gs') (g : Nat) :
    grpAt gs' g = { grpAt gs g with bindings := (grpAt gs g).bindings ++ entriesOf g ns ds bs } := by
  revert h
  fun_induction analyse limit gs ns ds bs <;> intro h
  case case1 ih => simpa only [entriesOf] using ih h
  case case2 => cases h
  case case3 gs n ns d ds bs b _ ih =>
    rw [ih h, grpAt_registerBinding]
    simp only [entriesOf]
    by_cases hg : g = b.set
    · subst hg
      simp only [if_true, List.append_assoc]
    · have : ¬ b.set = g := fun e => hg e.symm
      simp only [hg, this, if_false, List.nil_append]
  case case4 hno =>
    -- one of the three lists has run out: nothing more is listed
    cases h
    rw [entriesOf.eq_3 _ _ _ _ (fun _ _ _ _ _ _ => hno _ _ _ _ _ _) (fun _ _ _ _ _ => hno _ _ _ _ _ _), List.append_nil]

theorem attachInline_spec :
    ∀ {bufs : List InlineBuf} {gs gs' : List MetaGroup},
      attachInline gs bufs = .ok gs' → bufs.Pairwise (fun a b => a.set < b.set) →
      ∀ g, grpAt gs' g = { grpAt gs g with inlineBlock :=
        ((bufs.find? (fun b => b.set == g)).map (fun b => (b.apiLocation, b.sizeInBytes))).or (grpAt gs g).inlineBlock } := by
  intro bufs gs
  fun_induction attachInline gs bufs <;> intro gs' h hpw g <;> try cases h
  case case1 => simp
  case case4 gs b bs _ hb _ ih =>
    rw [List.pairwise_cons] at hpw
    rw [ih h hpw.2 g, grpAt_modifyAt _ (List.getElem?_eq_some_iff.1 hb).1]
    by_cases hg : g = b.set
    · subst hg
      have : bs.find? (fun x => x.set == b.set) = none := by
        rw [List.find?_eq_none]
        intro x hx
        have := hpw.1 x hx
        simp; omega
      simp [this]
    · have hne : (b.set == g) = false := by simp; exact fun e => hg e.symm
      simp [hne, hg]

theorem insertByIndex_le (b : MetaBinding) (k : Nat) :
    ∀ (xs : List (MetaBinding × Nat)), (∀ x ∈ xs, k ≤ x.2) → insertByIndex b k xs = (b, k) :: xs
  | [], _ => rfl
  | (x, j) :: xs, h => by
    have : k ≤ j := h (x, j) (by simp)
    simp [insertByIndex, this]

theorem sortByIndex_sorted :
    ∀ (xs : List (MetaBinding × Nat)), xs.Pairwise (fun a b => a.2 ≤ b.2) → sortByIndex xs = xs
  | [], _ => rfl
  | (b, k) :: xs, h => by
    rw [List.pairwise_cons] at h
    simp only [sortByIndex]
    rw [sortByIndex_sorted xs h.2]
    exact insertByIndex_le b k xs (fun x hx => h.1 x hx)

theorem keyed_spec :
    ∀ {bs : List MetaBinding} {ks : List (MetaBinding × Nat)}, keyed bs = some ks →
      ks.map (·.1) = bs ∧ ∀ x ∈ ks, indexOf x.1 = some x.2 := by
  intro bs
  fun_induction keyed bs <;> intro ks h <;> cases h
  · simp
  · rename_i hr hb ih
    obtain ⟨h1, h2⟩ := ih hr
    refine ⟨by simp [h1], ?_⟩
    intro x hx
    rcases List.mem_cons.1 hx with rfl | hx
    · exact hb
    · exact h2 x hx

/-- bindings whose locations are index slots in non-decreasing order -/
def IndexSorted (bs : List MetaBinding) : Prop :=
  bs.Pairwise (fun a b => ∃ i j, a.loc = .index i ∧ b.loc = .index j ∧ i ≤ j)

theorem sortGroups_spec :
    ∀ {gs gs' : List MetaGroup}, sortGroups gs = .ok gs' → (∀ grp ∈ gs, IndexSorted grp.bindings) →
      ∀ g, grpAt gs' g = { grpAt gs g with inlineBlock := none } := by
  intro gs
  fun_induction sortGroups gs <;> intro gs' h hs g <;> cases h
  case case1 => rfl
  case case4 grp gs ks hk r hr ih =>
    obtain ⟨k1, k2⟩ := keyed_spec hk
    have hsorted : ks.Pairwise (fun a b => a.2 ≤ b.2) := by
      have hgrp := hs grp (by simp)
      unfold IndexSorted at hgrp
      rw [← k1] at hgrp
      rw [List.pairwise_map] at hgrp
      refine hgrp.imp_of_mem ?_
      intro a b ha hb hab
      obtain ⟨i, j, hi, hj, hij⟩ := hab
      have ea := k2 a ha
      have eb := k2 b hb
      simp only [indexOf, hi, hj, Option.some.injEq] at ea eb
      omega
    rw [sortByIndex_sorted ks hsorted, k1]
    cases g with
    | zero => rfl
    | succ g => exact ih hr (fun x hx => hs x (by simp [hx])) g

/-- index-located bindings in non-decreasing order, all at or above `s` -/
def SortedFrom (s : Nat) (bs : List MetaBinding) : Prop :=
  IndexSorted bs ∧ ∀ x ∈ bs, ∃ i, x.loc = .index i ∧ s ≤ i

theorem SortedFrom.mono {s s' : Nat} {bs : List MetaBinding} (h : SortedFrom s' bs) (hs : s ≤ s') : SortedFrom s bs :=
  ⟨h.1, fun x hx => by obtain ⟨i, h1, h2⟩ := h.2 x hx; exact ⟨i, h1, by omega⟩⟩

theorem entries_sorted {p : Params} {g : Nat} {ns : List String} {ds : List Decl} {bs : List (Option Binding)}
    {s e : Nat} (ht : TilesTo s (indexRanges p g ds bs) e)
    (hidx : ∀ ob ∈ bs, ∀ b, ob = some b → ∃ i, b.loc = .index i) :
    SortedFrom s (entriesOf g ns ds bs) := by
  revert s
  fun_induction entriesOf g ns ds bs <;> intro s ht
  case case1 n ns d ds b bs ih =>
    have hidx' : ∀ ob ∈ bs, ∀ b, ob = some b → ∃ i, b.loc = .index i :=
      fun ob hob b hb => hidx ob (List.mem_cons_of_mem _ hob) b hb
    obtain ⟨i, hi⟩ := hidx (some b) (List.mem_cons_self ..) b rfl
    simp only [indexRanges, hi] at ht
    by_cases hg : b.set = g
    · simp only [hg, if_true, List.singleton_append] at ht ⊢
      obtain ⟨rfl, hr⟩ := TilesTo.cons_inv ht
      have hrest := (ih hidx' hr).mono (Nat.le_add_right i _)
      refine ⟨List.Pairwise.cons (fun x hx => ?_) hrest.1, fun x hx => ?_⟩
      · obtain ⟨j, hj, hle⟩ := hrest.2 x hx
        exact ⟨i, j, hi, hj, hle⟩
      · rcases List.mem_cons.1 hx with rfl | hx
        · exact ⟨i, hi, Nat.le_refl _⟩
        · exact hrest.2 x hx
    · simp only [hg, if_false, List.nil_append] at ht ⊢
      exact ih hidx' ht
  case case2 ih =>
    simp only [indexRanges] at ht
    exact ih (fun ob hob b hb => hidx ob (List.mem_cons_of_mem _ hob) b hb) ht
  case case3 => exact ⟨List.Pairwise.nil, nofun⟩


theorem mem_grpAt {gs : List MetaGroup} {grp : MetaGroup} (h : grp ∈ gs) : ∃ g, grpAt gs g = grp := by
  obtain ⟨g, hg⟩ := List.getElem?_of_mem h
  exact ⟨g, by simp [grpAt, hg]⟩

/-- On every target the metadata lists, per group, exactly the bound declarations of that group in declaration order
    with the allocator's locations, and carries the group's inline block.  On Metal the exporter's per-group sort
    changes nothing because the allocator's index ranges tile in declaration order, and there is no inline block
    because the exporter has asserted that the module has none. -/
theorem describe_spec {t : Target} {p : Params} {names : List String} {decls : List Decl} {r : Result}
    {gs : List MetaGroup} (hpw : r.inlineBufs.Pairwise (fun a b => a.set < b.set))
    (hmetal : isMetal t = true → (∀ g, ∃ e, TilesTo 0 (indexRanges p g decls r.bindings) e) ∧
      ∀ ob ∈ r.bindings, ∀ b, ob = some b → ∃ i, b.loc = .index i)
    (h : describe t names decls r = .ok gs) (g : Nat) :
    bindingsAt gs g = entriesOf g names decls r.bindings ∧
    inlineAt gs g = (r.inlineBufs.find? (fun b => b.set == g)).map (fun b => (b.apiLocation, b.sizeInBytes)) := by
  revert h
  fun_cases describe t names decls r <;> intro h <;> try cases h
  -- Metal
  case case2 hm gs0 ha hempty =>
    obtain ⟨htile, hidx⟩ := hmetal hm
    have hsorted : ∀ grp ∈ gs0, IndexSorted grp.bindings := by
      intro grp hgrp
      obtain ⟨g', rfl⟩ := mem_grpAt hgrp
      rw [analyse_spec ha g']
      obtain ⟨e, he⟩ := htile g'
      simpa [grpAt, MetaGroup.empty] using (entries_sorted (ns := names) he hidx).1
    rw [bindingsAt_eq, inlineAt_eq, sortGroups_spec h hsorted g, analyse_spec ha g, List.isEmpty_iff.1 hempty]
    simp [grpAt, MetaGroup.empty]
  -- HLSL
  case case5 gs0 ha =>
    rw [bindingsAt_eq, inlineAt_eq, attachInline_spec h hpw g, analyse_spec ha g]
    simp [grpAt, MetaGroup.empty]

end RsslVerif.Lemmas.SlotsMeta
