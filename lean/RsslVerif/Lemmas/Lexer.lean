import RsslVerif.Model.Lexer
/-!
# Structural facts about the lexer model

Every sub-lexer returns a suffix of its input (`Good`), token-producing ones a *proper* suffix (`Strict`),
an `OtherTokenBytes` answer always points at the start of the input (`OtherAtStart`, which is what the
`debug_assert_eq!(input.len(), rest.len())` of `choose` demands), and no modelled panic site is reached
(`Good` excludes `.panic`); `Sound` is the three together, proved here in one pass through each entry of `choose`
and for `any_word`; for the two number sub-lexers and `token_intermediate` itself it is read off their pipelines in
`Lemmas/LexStable`.  `orElse` is the fall-through from one sub-lexer to the next that `choose` and `token_intermediate`
share, `Sound.orElse_cases` what it amounts to behind a sound first answer.  Also here, for the files that build on
it: the float sub-lexers as equations over the digit runs (`digitSequence_eq`, `fractionalConstant_eq`, `mantissaOf`,
`floatMantissa_eq`) and which entries of the `choose` list take part for a given first byte (`subFirst`, `choose_filter`,
`tokenStep_symbol`).
-/
namespace RsslVerif.Model.Lexer
open RsslVerif.Gen.LexTables

/-- the result respects slice discipline: an `Ok` rest or an error position is a suffix of the input; the only
other error position is the `&[]` literal; no panic -/
def Good {α : Type} (inp : Bytes) : LexResult α → Prop
  | .ok (rest, _) => rest <:+ inp
  | .error (.lex (.rest r) _) => r <:+ inp
  | .error (.lex .static _) => True
  | .error (.panic _) => False

/-- a successful result consumed at least one byte -/
def Strict {α : Type} (inp : Bytes) : LexResult α → Prop
  | .ok (rest, _) => rest.length < inp.length
  | .error _ => True

/-- an `OtherTokenBytes` answer points at the whole input -/
def OtherAtStart {α : Type} (inp : Bytes) : LexResult α → Prop
  | .error (.lex pos .OtherTokenBytes) => pos = .rest inp
  | _ => True

theorem stripPrefix?_eq {p inp r : Bytes} (h : stripPrefix? p inp = some r) : inp = p ++ r := by
  fun_induction stripPrefix? p inp
  case case1 => cases h; rfl
  case case3 ih => rw [ih h]; rfl
  all_goals cases h

theorem suffix_of_append {pre r inp : Bytes} (h : inp = pre ++ r) : r <:+ inp := ⟨pre, h.symm⟩

/-- slice discipline and progress together: what every token-producing sub-lexer satisfies -/
def Advances {α : Type} (inp : Bytes) (r : LexResult α) : Prop := Good inp r ∧ Strict inp r

theorem advances_of_append {α : Type} {pre rest inp : Bytes} {a : α} (h : inp = pre ++ rest) (hp : pre ≠ []) :
    Advances inp (.ok (rest, a)) :=
  ⟨suffix_of_append h, by
    have := List.length_pos_iff.2 hp
    simp only [Strict, h, List.length_append]; omega⟩

theorem advances_of_strip {α : Type} {p inp r : Bytes} {a : α} (h : stripPrefix? p inp = some r) (hp : p ≠ []) :
    Advances inp (.ok (r, a)) :=
  advances_of_append (stripPrefix?_eq h) hp

theorem decDigit_of_range (b : UInt8) (hb : 48 ≤ b.toNat ∧ b.toNat ≤ 57) : decDigit? b = some (b.toNat - 48) := by
  simp [decDigit?, hb]

theorem digitWith_ok {f : UInt8 → Option Nat} {inp r : Bytes} {n : Nat}
    (h : digitWith f inp = .ok (r, n)) : ∃ b, inp = b :: r ∧ f b = some n := by
  revert h
  fun_cases digitWith f inp <;> intro h <;> cases h
  exact ⟨_, rfl, ‹_›⟩

theorem digitWith_good (f : UInt8 → Option Nat) (inp : Bytes) : Good inp (digitWith f inp) := by
  fun_cases digitWith f inp <;> simp [endOfStream, wrongChars, Good]

theorem digitsLoop_good (f : UInt8 → Option Nat) (base : Nat) (start inp : Bytes) (v : Nat)
    (hs : inp <:+ start) : Good start (digitsLoop f base start inp v) := by
  fun_induction digitsLoop f base start inp v
  case case1 => exact hs
  case case2 => exact hs
  case case3 b t _ _ _ _ ih => exact ih (List.IsSuffix.trans (List.suffix_cons b t) hs)
  case case4 => exact List.suffix_refl _

theorem digitsWith_good (f : UInt8 → Option Nat) (base : Nat) (inp : Bytes) :
    Good inp (digitsWith f base inp) := by
  fun_cases digitsWith f base inp
  · rename_i he
    have := digitWith_good f inp
    rw [he] at this; exact this
  · rename_i r v he
    obtain ⟨b, hb, _⟩ := digitWith_ok he
    exact digitsLoop_good f base inp r v (by rw [hb]; exact List.suffix_cons b r)

theorem digitsLoop_len (f : UInt8 → Option Nat) (base : Nat) (start inp : Bytes) (v : Nat) :
    ∀ rest v', digitsLoop f base start inp v = .ok (rest, v') → rest.length ≤ inp.length := by
  intro rest v' h
  fun_induction digitsLoop f base start inp v <;> try cases h
  case case1 => exact Nat.le_refl _
  case case2 => exact Nat.le_refl _
  case case3 ih => exact Nat.le_succ_of_le (ih h)

theorem digitsWith_strict (f : UInt8 → Option Nat) (base : Nat) (inp : Bytes) :
    Strict inp (digitsWith f base inp) := by
  fun_cases digitsWith f base inp
  · simp [Strict]
  · rename_i r v he
    obtain ⟨b, hb, _⟩ := digitWith_ok he
    cases hl : digitsLoop f base inp r v with
    | error e => simp [Strict]
    | ok p =>
      obtain ⟨rest, v'⟩ := p
      have := digitsLoop_len f base inp r v rest v' hl
      simp [Strict, hb]; omega

theorem matchPrefix_suffix {pat : List (List Nat)} {inp r : Bytes} (h : matchPrefix pat inp = some r) :
    r <:+ inp := by
  fun_induction matchPrefix pat inp <;> try cases h
  case case1 => exact List.suffix_refl _
  case case3 b t _ ih => exact List.IsSuffix.trans (ih h) (List.suffix_cons b t)

theorem Good.error_cast {α β : Type} {inp : Bytes} {e : LexErr}
    (h : Good inp (.error e : LexResult α)) : Good inp (.error e : LexResult β) := by
  match e, h with
  | .lex (.rest r) _, h => exact h
  | .lex .static _, _ => trivial

theorem Strict.ne_ok {α : Type} {x : Bytes} {r : LexResult α} (hs : Strict x r) (a : α) : r ≠ .ok (x, a) := by
  intro h
  rw [h] at hs
  exact Nat.lt_irrefl _ hs

theorem Advances.of_error {α β : Type} {inp : Bytes} {e : LexErr} (h : Good inp (.error e : LexResult α)) :
    Advances inp (.error e : LexResult β) :=
  ⟨h.error_cast, trivial⟩

theorem Advances.shrink {α β : Type} {inp x rest : Bytes} {a : α} {b : β} (h : Advances inp (.ok (x, a)))
    (hr : rest <:+ x) : Advances inp (.ok (rest, b)) :=
  ⟨List.IsSuffix.trans hr h.1, Nat.lt_of_le_of_lt hr.length_le h.2⟩

theorem advances_error {α : Type} {inp r : Bytes} {k : Reason} (h : r <:+ inp) :
    Advances inp (.error (.lex (.rest r) k) : LexResult α) :=
  ⟨h, trivial⟩

/-- slice discipline, progress, and an `OtherTokenBytes` answer points at the whole input -/
def Sound {α : Type} (inp : Bytes) (r : LexResult α) : Prop := Advances inp r ∧ OtherAtStart inp r

theorem Advances.sound {α : Type} {inp : Bytes} {x : Bytes × α} (h : Advances inp (.ok x)) :
    Sound inp (.ok x) :=
  ⟨h, trivial⟩

/-- an error at the whole input, whatever the reason -/
theorem sound_here {α : Type} {inp : Bytes} {k : Reason} : Sound inp (.error (.lex (.rest inp) k) : LexResult α) :=
  ⟨advances_error (List.suffix_refl _), by cases k <;> trivial⟩

/-- an error somewhere else in the input: the reason must not be `OtherTokenBytes` -/
theorem sound_at {α : Type} {inp r : Bytes} {k : Reason} (h : r <:+ inp) (hk : k ≠ .OtherTokenBytes) :
    Sound inp (.error (.lex (.rest r) k) : LexResult α) :=
  ⟨advances_error h, by cases k <;> first | trivial | exact absurd rfl hk⟩

theorem Sound.error_cast {α β : Type} {inp : Bytes} {e : LexErr} (h : Sound inp (.error e : LexResult α)) :
    Sound inp (.error e : LexResult β) :=
  ⟨.of_error h.1.1, by
    cases e with
    | lex pos k => cases k <;> exact h.2
    | panic s => trivial⟩

theorem splitAtByte_eq {c : UInt8} {inp x y : Bytes} (h : splitAtByte c inp = some (x, y)) :
    inp = x ++ c :: y := by
  fun_induction splitAtByte c inp generalizing x <;> cases h
  case case2 => rfl
  case case3 => rename_i ih hs; rw [ih hs]; rfl

theorem delimited_sound (opn cls : Nat) (mk : Bytes → Token) (r1 r2 r3 : Reason) (inp : Bytes) :
    Sound inp (delimited opn cls mk r1 r2 r3 inp) := by
  fun_cases delimited opn cls mk r1 r2 r3 inp
  case case3 b rest _ body remaining hs _ _ =>
    -- closed, valid UTF-8, on one line
    exact (advances_of_append (pre := b :: (body ++ [UInt8.ofNat cls])) (by rw [splitAtByte_eq hs]; simp) (by simp)).sound
  all_goals exact sound_here

/-- what `digit` answers when there is no digit: the end of the input, or wrong bytes -/
def noDigit {α : Type} (x : Bytes) : LexResult α :=
  .error (match x with
    | [] => .lex .static .EndOfStream
    | b :: r => .lex (.rest (b :: r)) .UnexpectedBytes)

/-- `digit_sequence` is the maximal digit run, which must not be empty -/
theorem digitSequence_eq (x : Bytes) :
    digitSequence x = match (spanDigits x).1 with
      | [] => noDigit x
      | d :: ds => .ok ((spanDigits x).2, d :: ds) := by
  cases x with
  | nil => rfl
  | cons b t =>
    cases hb : decDigit? b with
    | none => simp [digitSequence, digitWith, spanDigits, hb, noDigit, wrongChars]
    | some d => simp [digitSequence, digitWith, spanDigits, hb]

theorem spanDigits_fst_nil {x : Bytes} (h : (spanDigits x).1 = []) : (spanDigits x).2 = x := by
  cases x with
  | nil => rfl
  | cons b t =>
    cases hb : decDigit? b with
    | none => simp [spanDigits, hb]
    | some d => simp [spanDigits, hb] at h

theorem opt_digitSequence (x : Bytes) :
    opt (digitSequence x) x = ((spanDigits x).2, match (spanDigits x).1 with | [] => none | d :: ds => some (d :: ds)) := by
  rw [digitSequence_eq]
  cases h : (spanDigits x).1 with
  | nil =>
    have := spanDigits_fst_nil h
    simp [noDigit, opt, this]
  | cons d ds => rfl

/-- `fractional_constant` in terms of the two digit runs around the `.` -/
theorem fractionalConstant_eq (inp : Bytes) :
    fractionalConstant inp = match (spanDigits inp).2 with
      | [] => otherTokenChars []
      | c :: r2 =>
        if c.toNat = 46 then
          if (spanDigits inp).1 = [] ∧ (spanDigits r2).1 = [] then noDigit r2
          else .ok ((spanDigits r2).2, ((spanDigits inp).1, (spanDigits r2).1))
        else otherTokenChars (c :: r2) := by
  unfold fractionalConstant
  simp only [opt_digitSequence]
  cases h2 : (spanDigits inp).2 with
  | nil => rfl
  | cons c r2 =>
    simp only
    by_cases hc : c.toNat = 46
    · simp only [hc, if_true]
      cases h1 : (spanDigits inp).1 with
      | nil =>
        simp only [digitSequence_eq r2, true_and]
        cases (spanDigits r2).1 <;> simp [noDigit]
      | cons d ds => cases (spanDigits r2).1 <;> simp
    · simp only [hc, if_false]
/-- what `float_mantissa` returns, read off the two digit runs: `(rest, (has_fraction, left, right))` -/
def mantissaOf (inp : Bytes) : Bytes × (Bool × List Nat × List Nat) :=
  match (spanDigits inp).2 with
  | [] => ([], (false, (spanDigits inp).1, []))
  | c :: r2 =>
    if c.toNat = 46 then ((spanDigits r2).2, (true, (spanDigits inp).1, (spanDigits r2).1))
    else (c :: r2, (false, (spanDigits inp).1, []))

theorem mantissaOf_cases (inp : Bytes) :
    ((spanDigits inp).2 = [] ∧ mantissaOf inp = ([], (false, (spanDigits inp).1, []))) ∨
    (∃ r2, (spanDigits inp).2 = 46 :: r2 ∧
      mantissaOf inp = ((spanDigits r2).2, (true, (spanDigits inp).1, (spanDigits r2).1))) ∨
    (∃ c r2, (spanDigits inp).2 = c :: r2 ∧ c.toNat ≠ 46 ∧
      mantissaOf inp = (c :: r2, (false, (spanDigits inp).1, []))) := by
  unfold mantissaOf
  cases h2 : (spanDigits inp).2 with
  | nil => exact .inl ⟨rfl, rfl⟩
  | cons c r2 =>
    by_cases hc : c.toNat = 46
    · have hc' : c = 46 := UInt8.toNat_inj.mp (by simpa using hc)
      subst hc'
      exact .inr (.inl ⟨r2, rfl, rfl⟩)
    · exact .inr (.inr ⟨c, r2, rfl, hc, by simp only [hc, if_false]⟩)

/-- `float_mantissa` fails exactly when there is no digit on either side of the point -/
theorem floatMantissa_eq (inp : Bytes) :
    floatMantissa inp =
      if (mantissaOf inp).2.2.1 = [] ∧ (mantissaOf inp).2.2.2 = [] then noDigit inp else .ok (mantissaOf inp) := by
  unfold floatMantissa mantissaOf
  rw [fractionalConstant_eq]
  cases h2 : (spanDigits inp).2 with
  | nil =>
    simp only [otherTokenChars, opt, digitSequence_eq inp, h2, and_true]
    cases (spanDigits inp).1 <;> simp [noDigit]
  | cons c r2 =>
    simp only
    by_cases hc : c.toNat = 46
    · simp only [hc, if_true]
      by_cases hno : (spanDigits inp).1 = [] ∧ (spanDigits r2).1 = []
      · simp only [hno, and_self, if_true, noDigit, opt, digitSequence_eq inp]
      · simp only [hno, if_false, opt]
    · simp only [hc, if_false, otherTokenChars, opt, digitSequence_eq inp, h2, and_true]
      cases (spanDigits inp).1 <;> simp [noDigit]

theorem floatInf_good (pre : Bytes) (v : Nat) (b : Bool) : Good pre (floatInf pre v b) := by
  fun_cases floatInf pre v b
  · exact suffix_of_append (stripPrefix?_eq ‹_›)
  · exact List.suffix_refl _
  · exact List.suffix_refl _

theorem spanIdent_suffix (inp : Bytes) : (spanIdent inp).2 <:+ inp := by
  fun_induction spanIdent inp
  case case1 => exact List.suffix_refl _
  case case2 b t _ _ ih => exact List.IsSuffix.trans ih (List.suffix_cons b t)
  case case3 => exact List.suffix_refl _

theorem anyWord_advances (inp : Bytes) : Advances inp (anyWord inp) := by
  fun_cases anyWord inp
  · exact ⟨trivial, trivial⟩
  · rename_i b r _ _
    exact (advances_of_append (pre := [b]) (a := ()) rfl (by simp)).shrink (spanIdent_suffix r)
  · exact advances_error (List.suffix_refl _)

theorem whitespaceSimple_sound (inp : Bytes) : Sound inp (whitespaceSimple inp) := by
  fun_cases whitespaceSimple inp
  case case2 => exact (advances_of_append (pre := [_]) rfl (by simp)).sound
  all_goals exact sound_here

theorem whitespaceEndline_sound (inp : Bytes) : Sound inp (whitespaceEndline inp) := by
  fun_cases whitespaceEndline inp
  case case5 => exact sound_here
  all_goals exact (advances_of_strip ‹_› (by simp)).sound

theorem lineCommentEnd_suffix (inp : Bytes) : lineCommentEnd inp <:+ inp := by
  fun_induction lineCommentEnd inp <;> first
    | exact List.suffix_refl _
    | exact List.nil_suffix
    | (rename_i ih; exact List.IsSuffix.trans ih (List.suffix_cons _ _))
    | (rename_i ih; exact List.IsSuffix.trans ih ⟨[_, _], rfl⟩)
    | (rename_i ih; exact List.IsSuffix.trans ih ⟨[_, _, _], rfl⟩)

theorem lineComment_sound (inp : Bytes) : Sound inp (lineComment inp) := by
  fun_cases lineComment inp
  · rename_i r h
    exact ((advances_of_strip (a := ()) h (by simp)).shrink (lineCommentEnd_suffix r)).sound
  · exact sound_here

theorem blockSearch_suffix {inp r : Bytes} (h : blockSearch inp = some r) : r <:+ inp := by
  fun_induction blockSearch inp
  case case3 a b r _ => cases h; exact ⟨[a, b], rfl⟩
  case case4 a _ _ _ ih => exact List.IsSuffix.trans (ih h) (List.suffix_cons a _)
  all_goals cases h

theorem blockComment_sound (inp : Bytes) : Sound inp (blockComment inp) := by
  fun_cases blockComment inp
  · rename_i r h rest hb
    exact ((advances_of_strip (a := ()) h (by simp)).shrink (blockSearch_suffix hb)).sound
  · exact ⟨⟨trivial, trivial⟩, trivial⟩
  · exact sound_here

theorem runSub_sound (s : Sub) (look : Unit → LexResult Token) (inp : Bytes) : Sound inp (runSub s look inp) := by
  fun_cases runSub s look inp
  case case1 => exact whitespaceSimple_sound inp
  case case2 => exact whitespaceEndline_sound inp
  case case3 => exact lineComment_sound inp
  case case4 => exact blockComment_sound inp
  case case5 => exact delimited_sound _ _ _ _ _ _ inp
  -- the symbol entries: the token is one byte, or two for an operator followed by `=` or by itself
  case case7 | case10 | case13 | case16 | case19 => exact (advances_of_append (pre := [_]) rfl (by simp)).sound
  case case17 | case18 => exact (advances_of_append (pre := [_, _]) rfl (by simp)).sound
  all_goals exact sound_here

/-- the fall-through of `choose` and `token_intermediate`: the first answer `r` decides unless it is `OtherTokenBytes`;
then `next` is asked, after `debug_assert_eq!(input.len(), rest.len())` -/
def orElse (inp : Bytes) (r next : LexResult Token) : LexResult Token :=
  match r with
  | .ok x => .ok x
  | .error (.lex pos .OtherTokenBytes) => if pos.len = inp.length then next else .error (.panic "other-token-len")
  | .error e => .error e

theorem orElse_other (inp : Bytes) (next : LexResult Token) : orElse inp (otherTokenChars inp) next = next := by
  simp only [orElse, otherTokenChars, ErrAt.len, if_true]

/-- behind a sound first answer the assertion holds, and the fall-through is the first answer or the next one -/
theorem Sound.orElse_cases {inp : Bytes} {r : LexResult Token} (h : Sound inp r) (next : LexResult Token) :
    orElse inp r next = r ∨ (r = otherTokenChars inp ∧ orElse inp r next = next) := by
  unfold Lexer.orElse
  split
  · exact .inl rfl
  · have ho := h.2
    simp only [OtherAtStart] at ho
    subst ho
    exact .inr ⟨rfl, by simp only [ErrAt.len, if_true]⟩
  · exact .inl rfl

theorem Sound.orElse {inp : Bytes} {r next : LexResult Token} (h : Sound inp r) (hn : Advances inp next) :
    Advances inp (orElse inp r next) := by
  rcases h.orElse_cases next with e | ⟨_, e⟩
  · exact e.symm ▸ h.1
  · exact e.symm ▸ hn

theorem choose_cons (s : Sub) (more : List Sub) (look : Unit → LexResult Token) (x : Bytes) :
    choose (s :: more) look x = orElse x (runSub s look x) (choose more look x) := by
  rw [choose]; rfl

theorem choose_advances (subs : List Sub) (look : Unit → LexResult Token) (inp : Bytes) :
    Advances inp (choose subs look inp) := by
  induction subs with
  | nil => exact advances_error (List.suffix_refl _)
  | cons s more ih => exact choose_cons s more look inp ▸ (runSub_sound s look inp).orElse ih

theorem u8_ne_of_toNat {a b : UInt8} (h : a.toNat ≠ b.toNat) : a ≠ b := by
  intro hab; exact h (by rw [hab])

/-- the first bytes an entry can accept -/
def subFirst : Sub → List Nat
  | .whitespaceSimple => [32, 9]
  | .whitespaceEndline => [92, 13, 10]
  | .lineComment => [47]
  | .blockComment => [47]
  | .literalString => [34]
  | .leftAngle => [60]
  | .rightAngle => [62]
  | .single c _ => [c]
  | .opOrEq c _ _ _ => [c]

theorem stripPrefix_head_ne (a : UInt8) (pat : Bytes) (b : UInt8) (r : Bytes) (h : a ≠ b) :
    stripPrefix? (a :: pat) (b :: r) = none := by
  simp [stripPrefix?, h]

theorem runSub_other_first (sub : Sub) (look : Unit → LexResult Token) (b : UInt8) (r : Bytes)
    (h : b.toNat ∉ subFirst sub) : runSub sub look (b :: r) = otherTokenChars (b :: r) := by
  cases sub with
  | whitespaceSimple =>
    simp only [subFirst, List.mem_cons, List.not_mem_nil, or_false, not_or] at h
    simp [runSub, whitespaceSimple, h.1, h.2]
  | whitespaceEndline =>
    simp only [subFirst, List.mem_cons, List.not_mem_nil, or_false, not_or] at h
    have h1 : (92 : UInt8) ≠ b := u8_ne_of_toNat (by simpa using Ne.symm h.1)
    have h2 : (13 : UInt8) ≠ b := u8_ne_of_toNat (by simpa using Ne.symm h.2.1)
    have h3 : (10 : UInt8) ≠ b := u8_ne_of_toNat (by simpa using Ne.symm h.2.2)
    simp [runSub, whitespaceEndline, stripPrefix_head_ne, h1, h2, h3]
  | lineComment =>
    simp only [subFirst, List.mem_cons, List.not_mem_nil, or_false] at h
    have h1 : (47 : UInt8) ≠ b := u8_ne_of_toNat (by simpa using Ne.symm h)
    simp [runSub, lineComment, stripPrefix_head_ne, h1]
  | blockComment =>
    simp only [subFirst, List.mem_cons, List.not_mem_nil, or_false] at h
    have h1 : (47 : UInt8) ≠ b := u8_ne_of_toNat (by simpa using Ne.symm h)
    simp [runSub, blockComment, stripPrefix_head_ne, h1]
  | literalString =>
    simp only [subFirst, List.mem_cons, List.not_mem_nil, or_false] at h
    simp [runSub, literalString, delimited, h]
  | leftAngle =>
    simp only [subFirst, List.mem_cons, List.not_mem_nil, or_false] at h
    simp [runSub, h]
  | rightAngle =>
    simp only [subFirst, List.mem_cons, List.not_mem_nil, or_false] at h
    simp [runSub, h]
  | single c t =>
    simp only [subFirst, List.mem_cons, List.not_mem_nil, or_false] at h
    simp [runSub, h]
  | opOrEq c op e o =>
    simp only [subFirst, List.mem_cons, List.not_mem_nil, or_false] at h
    simp [runSub, h]

theorem runSub_first (sub : Sub) (look : Unit → LexResult Token) (b : UInt8) (r rest : Bytes) (tok : Token)
    (h : runSub sub look (b :: r) = .ok (rest, tok)) : b.toNat ∈ subFirst sub := by
  by_cases hm : b.toNat ∈ subFirst sub
  · exact hm
  · rw [runSub_other_first sub look b r hm] at h; simp [otherTokenChars] at h

/-- only the entries that can accept the first byte take part -/
theorem choose_filter (subs : List Sub) (look : Unit → LexResult Token) (b : UInt8) (r : Bytes) :
    choose subs look (b :: r) = choose (subs.filter fun s => (subFirst s).contains b.toNat) look (b :: r) := by
  induction subs with
  | nil => rfl
  | cons s more ih =>
    by_cases hm : (subFirst s).contains b.toNat = true
    · rw [List.filter_cons_of_pos (p := fun s => (subFirst s).contains b.toNat) hm, choose, choose, ih]
    · rw [List.filter_cons_of_neg (p := fun s => (subFirst s).contains b.toNat) hm, ← ih, choose_cons,
        runSub_other_first s look b r (by simpa using hm), orElse_other]

/-- a byte that starts neither a number nor a word (nor, inside `#include`, a header name) goes to the `choose` list -/
theorem tokenStep_symbol (b : UInt8) (r : Bytes) (inc : Bool) (look : Unit → LexResult Token)
    (hd : ¬ (48 ≤ b.toNat ∧ b.toNat ≤ 57)) (hi : isIdentStart b = false) (h60 : inc = true → b.toNat ≠ 60) :
    tokenStep b r inc look = choose tokenChoice look (b :: r) := by
  unfold tokenStep
  rw [if_neg hd, hi]
  cases inc with
  | false => rfl
  | true =>
    simp only [Bool.false_eq_true, if_false, if_true, headerName, delimited, if_neg (h60 rfl), otherTokenChars, ErrAt.len]

theorem tokenIntermediate_symbol (b : UInt8) (r : Bytes) (inc : Bool)
    (hd : ¬ (48 ≤ b.toNat ∧ b.toNat ≤ 57)) (hi : isIdentStart b = false) (h60 : inc = true → b.toNat ≠ 60) :
    tokenIntermediate (b :: r) inc =
      choose (tokenChoice.filter fun s => (subFirst s).contains b.toNat) (fun _ => tokenIntermediate r false) (b :: r) := by
  rw [tokenIntermediate, tokenStep_symbol _ _ _ _ hd hi h60, choose_filter]

/-- a digit starts a number: `literal_float` decides, and where it says "not my token", `literal_int` -/
theorem tokenIntermediate_digit (b : UInt8) (r : Bytes) (inc : Bool) (hd : 48 ≤ b.toNat ∧ b.toNat ≤ 57) :
    tokenIntermediate (b :: r) inc = orElse (b :: r) (literalFloat (b :: r)) (literalInt (b :: r)) := by
  rw [tokenIntermediate, tokenStep, if_pos hd]
  rfl

/-- `-` directly followed by a digit is the token `Minus` (the digit starts the next token): how a negative literal,
printed as `-` applied to the magnitude, is read back -/
theorem minus_before_digit (d : UInt8) (r : Bytes) (hd : 48 ≤ d.toNat ∧ d.toNat ≤ 57) (inc : Bool) :
    tokenIntermediate (45 :: d :: r) inc = .ok (d :: r, .simple .Minus) := by
  have hf : tokenChoice.filter (fun s => (subFirst s).contains (45 : UInt8).toNat) =
      [.opOrEq 45 .Minus (some .MinusEquals) (some .MinusMinus)] := by decide
  have h61 : d.toNat ≠ 61 := by omega
  have h45 : d.toNat ≠ 45 := by omega
  rw [tokenIntermediate, tokenStep_symbol _ _ _ _ (by decide) (by decide) (fun _ => by decide), choose_filter, hf]
  simp [choose, runSub, h61, h45]
