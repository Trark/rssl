import RsslVerif.Lemmas.Usage
/-!
# C02 — implicit threading of globals through functions on Metal

The usage fixpoint (`GlobalUsageAnalysis::recurse`) terminates without panicking and computes reachability through the
"mentions" relation for every key iteration order; the parameter / argument lists the Metal generator builds from it are
order independent, monotone along calls, aligned between call sites and signatures, and contain exactly the threaded-mode
globals a function needs (`…_partial`: over the mentions the analysis records; `threaded_exactly`: over all mentions).
The `required…` theorems speak of `requiredP`, the list as a pure function of the closure table; `requiredOf_ok` ties it to
`Model.Usage.requiredOf`.  The theorems about the loop itself (`recurse_no_panic` … `closure_keeps_keys`) stand at the end of
`Lemmas/Usage.lean`: `Thm/C08` cites them and must not depend on this file's ties to the source.  `Thm/C02Sem`'s `Ctx.req` comes from a second closure (`Model/GenMsl.reqOf`); no lemma ties the two.
-/
namespace RsslVerif.Thm.C02
open RsslVerif.Gen.UsageTables RsslVerif.Model.Usage RsslVerif.Spec.Usage RsslVerif.Lemmas.Usage

/-! ## Tie to the source (tables regenerated from /repo on every run) -/

/-- the loop, the local pass and the list building have the syntactic shape the model mirrors -/
theorem tables_as_modelled :
    recurseShape = ⟨true, true, true, true, true⟩ ∧
    functionBodyGathered = true ∧ defaultArgumentsGathered = true ∧ globalInitialisersGathered = true ∧
    everyFunctionHasAnEntry = true ∧ cbuffersHaveEmptyUsage = true ∧
    callSitesFillDefaults = true ∧ noDefaultsWithImplicitParams = true ∧ staticInitialisersGeneratedLast = true ∧
    symbolInserts = [("Global", "GlobalVariable"), ("ConstantVariable", "ConstantBuffer"), ("Call", "Function")] ∧
    constantModeIffGlobalConstant = true ∧ intrinsicGlobalsHaveNoMode = true ∧
    implicitVariants = ["ThreadIndexInSimdgroup", "ThreadsPerSimdgroup", "MeshOutput", "PayloadOutput",
      "MeshGridProperties", "Global"] ∧
    implicitDerivesOrd = true ∧ requiredGlobalsSorted = true ∧ pushesNonConstantGlobals = true ∧
    intrinsicFunctionsSkipped = true ∧ argumentsAppendedInListOrder = true ∧ callSitesAppendCalleeList = true ∧ trampolineAppendsOwnList = true ∧
    implicitParamsFollowUserParams = true ∧ trampolineIffOutAndCalled = true := by decide +kernel

/-- every position the correspondence generator puts a mention or call at inside a function body is visited by
    gather_usage_* in the current source (a dropped match arm or field makes this fail); all operand fields of the IR's
    enums: `Thm.C15Usage.usage_visits_all_operands` -/
theorem all_positions_descended :
    bodyPositions.all (fun p => p.2.all Slot.descended) = true ∧
    readPaths.all (fun p => p.2.all Slot.descended) = true ∧
    callArgSlot.descended = true ∧ recordsGlobals = true ∧ recordsCalls = true ∧
    -- every variant of the IR's statement/expression/initialiser enums has an arm in the tables
    stmtArms.length = 15 ∧ exprArms.length = 18 ∧ initArms.length = 2 ∧ forInitArms.length = 3 := by decide +kernel

/-- the name a parameter is declared under is the name call sites pass, for every implicit variant -/
theorem implicit_names_agree :
    (implicitNames.all fun r => r.1 == "Global" || r.2.1 == r.2.2) = true ∧
    implicitNames.map (·.1) = implicitVariants ∧
    implicitNames[globalVariant]? = some ("Global", "<param>", "<argument>") ∧
    globalParamAndArgumentShareName = true := by decide +kernel

/-! ## `required_globals`: collected in hash order, then sorted -/

theorem Implicit.le_total (a b : Implicit) : (a.le b || b.le a) = true := by
  simp only [Implicit.le, Bool.or_eq_true, Bool.and_eq_true, decide_eq_true_eq, beq_iff_eq]
  omega

theorem Implicit.le_trans (a b c : Implicit) (h₁ : a.le b = true) (h₂ : b.le c = true) : a.le c = true := by
  unfold Implicit.le at *
  simp only [Bool.or_eq_true, Bool.and_eq_true, decide_eq_true_eq, beq_iff_eq] at *
  omega

theorem Implicit.le_antisymm {a b : Implicit} (h₁ : a.le b = true) (h₂ : b.le a = true) : a = b := by
  unfold Implicit.le at *
  simp only [Bool.or_eq_true, Bool.and_eq_true, decide_eq_true_eq, beq_iff_eq] at *
  cases a; cases b
  simp only [Implicit.mk.injEq] at *
  omega

/-- insertion into a sorted list is core's `merge` with a one-element list -/
theorem insertSorted_eq_merge (x : Implicit) : ∀ l, insertSorted x l = List.merge [x] l Implicit.le
  | [] => (List.merge_right _).symm
  | y :: ys => by
    rw [insertSorted, List.cons_merge_cons, insertSorted_eq_merge x ys, List.nil_merge]

theorem sortImplicit_perm : ∀ l : List Implicit, (sortImplicit l).Perm l
  | [] => .refl _
  | x :: xs => by
    rw [sortImplicit, insertSorted_eq_merge]
    exact (List.merge_perm_append _).trans ((sortImplicit_perm xs).cons x)

theorem sortImplicit_sorted : ∀ l : List Implicit, (sortImplicit l).Pairwise (fun a b => a.le b = true)
  | [] => .nil
  | x :: xs => by
    rw [sortImplicit, insertSorted_eq_merge]
    exact List.pairwise_merge Implicit.le_trans Implicit.le_total _ _ (List.pairwise_singleton _ x) (sortImplicit_sorted xs)

/-- **the sorted list does not depend on the order in which the hash set was iterated**, duplicates included
    (two `DispatchMesh` instantiations push `MeshGridProperties` twice; `sort()` keeps both) -/
theorem required_order_independent {l₁ l₂ : List Implicit} (h : l₁.Perm l₂) :
    sortImplicit l₁ = sortImplicit l₂ := by
  apply List.Perm.eq_of_pairwise (le := fun a b => a.le b = true) _ (sortImplicit_sorted l₁) (sortImplicit_sorted l₂)
  · exact (sortImplicit_perm l₁).trans (h.trans (sortImplicit_perm l₂).symm)
  · intro a b _ _ hab hba
    exact Implicit.le_antisymm hab hba

theorem mem_sortImplicit {l : List Implicit} {i : Implicit} : i ∈ sortImplicit l ↔ i ∈ l :=
  (sortImplicit_perm l).mem_iff

/-- what one symbol contributes, without the error plumbing (errors = index out of range = empty) -/
def implP (p : Program) (s : Sym) : List Implicit :=
  match implicitsOfSym p s with
  | .ok l => l
  | .error _ => []

theorem implicitsOfSet_ok {p : Program} {ss : List Sym} {l : List Implicit}
    (h : implicitsOfSet p ss = .ok l) : l = ss.flatMap (implP p) := by
  fun_induction implicitsOfSet p ss generalizing l <;> cases h
  · rfl
  next a b hb ha ih => rw [List.flatMap_cons, ← ih hb, implP, ha]

/-- `function_required_globals[f]` as a pure function of the closure table -/
def requiredP (p : Program) (cl : Table) (f : Nat) : List Implicit :=
  sortImplicit ((val cl (.fn f)).flatMap (implP p))

theorem requiredOf_ok {p : Program} {cl : Table} {f : Nat} {r : List Implicit}
    (h : requiredOf p cl f = .ok r) : r = requiredP p cl f := by
  revert h
  fun_cases requiredOf p cl f <;> intro h <;> cases h
  next l hl => rw [requiredP, implicitsOfSet_ok hl]

/-- `required_globals` of a function is the same list for any two closure tables that agree as sets
    (hence for any key order and any set iteration order) -/
theorem requiredP_order_independent (p : Program) {cl₁ cl₂ : Table} (f : Nat)
    (hnd₁ : (val cl₁ (.fn f)).Nodup) (hnd₂ : (val cl₂ (.fn f)).Nodup)
    (h : ∀ s, s ∈ val cl₁ (.fn f) ↔ s ∈ val cl₂ (.fn f)) :
    requiredP p cl₁ f = requiredP p cl₂ f := by
  unfold requiredP
  apply required_order_independent
  exact ((List.perm_ext_iff_of_nodup hnd₁ hnd₂).2 h).flatMap_right _

theorem mem_requiredP {p : Program} {cl : Table} {f : Nat} {i : Implicit} :
    i ∈ requiredP p cl f ↔ ∃ s ∈ val cl (.fn f), i ∈ implP p s := by
  unfold requiredP
  rw [mem_sortImplicit, List.mem_flatMap]

/-- **monotone along calls**: when `f` mentions (calls) `h`, every implicit parameter of `h` is an implicit
    parameter of `f` — so each argument `append_arguments_for_globals` forwards at a call site names a
    parameter that is in scope in the caller -/
theorem required_monotone (p : Program) {t₀ cl : Table} (hwf : WF t₀) {keys : List Sym}
    (hk : ∀ k, k ∈ keys ↔ k ∈ keysOf t₀) (hcl : recurse keys t₀ = .ok (some cl)) {f h : Nat}
    (hcall : Sym.fn h ∈ val t₀ (.fn f)) :
    ∀ i, i ∈ requiredP p cl h → i ∈ requiredP p cl f := by
  intro i hi
  obtain ⟨s, hs, his⟩ := mem_requiredP.1 hi
  refine mem_requiredP.2 ⟨s, ?_, his⟩
  obtain ⟨x, hx, hxs⟩ := (close_is_reachability hwf hk hcl (.fn h) s).1 hs
  exact (close_is_reachability hwf hk hcl (.fn f) s).2 ⟨x, Reach.head hcall hx, hxs⟩

/-! ## call sites vs signatures -/

theorem userParamNames_length (ms : List ParamMode) : (userParamNames ms).length = ms.length := by
  simp [userParamNames]

/-- the payload-free implicit variants use one name on both sides (from the regenerated table) -/
theorem nonGlobal_names_agree : ∀ v, v < globalVariant →
    (implicitNames[v]?).map (fun r => r.2.1) = (implicitNames[v]?).map (fun r => r.2.2) := by decide +kernel

theorem implicit_base_eq_arg (p : Program) (i : Implicit) (hv : i.variant ≤ globalVariant) :
    implicitParamBase p i = implicitArgName p i := by
  unfold implicitParamBase implicitArgName
  split
  · rfl
  · rename_i hne
    have hlt : i.variant < globalVariant := by
      have : i.variant ≠ globalVariant := by simpa using hne
      omega
    have := nonGlobal_names_agree i.variant hlt
    cases hrow : implicitNames[i.variant]? with
    | none => rfl
    | some r =>
      obtain ⟨v, pn, an⟩ := r
      rw [hrow] at this
      simpa using this

/-- a call that leaves out defaulted arguments gets exactly one explicit argument per omitted parameter when the
    callee receives parameters for globals -/
theorem filledDefaults_length (c : Ctx) (h : Nat) (fd : Func) (nargs : Nat)
    (hfd : c.prog.funcs[h]? = some fd) (hreq : (c.req h).isEmpty = false)
    (hdef : ∀ j, j < fd.params.length - nargs → fd.params[nargs + j]? = some .inDefault) :
    (filledDefaults c h nargs).length = fd.params.length - nargs := by
  have hf : callSitesFillDefaults = true := by decide
  unfold filledDefaults
  simp only [hfd, hf, hreq, Bool.not_false, Bool.and_self, if_true]
  -- every parameter the loop meets has a default: `filterMap` keeps them all
  rw [List.length_filterMap_eq_countP, List.countP_eq_length.2, List.length_range]
  intro j hj
  simp [hdef j (List.mem_range.1 hj)]

/-- **alignment**: at every call the type checker accepts (omitted parameters all have defaults) of a function
    that receives parameters for globals, the argument list is as long as the callee's parameter list (the lengths also
    with the `#tt` tag of a trampoline target) and, without the tag, at every implicit position the argument is the
    identifier the parameter is declared under — including calls that leave out defaulted arguments, whose defaults are
    passed explicitly (fix 1d760f5). -/
theorem args_align (c : Ctx) (h : Nat) (fd : Func) (args : List SrcArg) (tt : Bool)
    (hfd : c.prog.funcs[h]? = some fd) (hle : args.length ≤ fd.params.length)
    (hdef : ∀ j, j < fd.params.length - args.length → fd.params[args.length + j]? = some .inDefault)
    (hreq : (c.req h).isEmpty = false) (hvar : ∀ i ∈ c.req h, i.variant ≤ globalVariant) :
    (callArgList c h args ++ (if tt then ["#tt"] else [])).length = (paramList c h fd tt).length ∧
    ∀ j, j < (c.req h).length →
      ((callArgList c h args)[fd.params.length + j]?) =
        ((c.req h)[j]?).map (implicitParamBase c.prog) ∧
      ((paramList c h fd false)[fd.params.length + j]?) =
        ((c.req h)[j]?).map (implicitParamName c.prog) := by
  have hfl := filledDefaults_length c h fd args.length hfd hreq hdef
  have hpre : (args.map (srcArgName c.prog) ++ (filledDefaults c h args.length).map (filledText c)).length
      = fd.params.length := by
    simp only [List.length_append, List.length_map, hfl]; omega
  constructor
  · simp only [callArgList, paramList, List.length_append, List.length_map, userParamNames_length, hfl]
    cases tt <;> simp <;> omega
  · intro j hj
    constructor
    · unfold callArgList
      rw [List.getElem?_append_right (by rw [hpre]; omega)]
      rw [hpre]
      simp only [Nat.add_sub_cancel_left, List.getElem?_map]
      cases hget : (c.req h)[j]? with
      | none => rfl
      | some i =>
        have hi : i ∈ c.req h := List.mem_of_getElem? hget
        simp [implicit_base_eq_arg c.prog i (hvar i hi)]
    · unfold paramList
      simp only [Bool.false_eq_true, if_false, List.append_nil]
      rw [List.getElem?_append_right (by simp [userParamNames_length])]
      simp [userParamNames_length]

/-- a function that receives no globals keeps its defaults and its calls are emitted as written -/
theorem args_unchanged_without_implicit (c : Ctx) (h : Nat) (args : List SrcArg) (hreq : c.req h = []) :
    callArgList c h args = args.map (srcArgName c.prog) := by
  unfold callArgList filledDefaults
  cases c.prog.funcs[h]? <;> simp [hreq]

/-- `int f(int x = 1)` that needs a static, called as `f()`, is emitted as `f(1, g_0)` against
    `f(int p_0, thread int& g_0)` (fix 1d760f5; corpus line 1) -/
theorem args_aligned_with_defaults :
    let p : Program := { globals := [{ name := "g_0", storage := .Static, isConst := false, staticSampler := false, isObject := false }],
                         funcs := [{ name := "f_0", params := [.inDefault], items := [] }] }
    let c : Ctx := { prog := p, required := [[⟨globalVariant, 0⟩]] }
    callArgList c 0 [] = ["_", "g_0"] ∧ paramList c 0 ⟨"f_0", [.inDefault], [], none⟩ false = ["p_0", "&g_0"] := by
  decide

/-! ## exactly the functions that need them -/

/-- the intrinsic-function rows never produce the `Global` variant -/
theorem intrinsic_rows_not_global :
    (intrinsicImplicits.all fun r => r.2.all fun v => variantIndex v != globalVariant) = true := by decide +kernel

/-- a global contributes its own `Global` parameter exactly when its mode is `parameter` -/
theorem implP_glob (p : Program) (g : Nat) : implP p (.glob g) =
    match p.globals[g]? with
    | some gl => if modeOf gl = some .parameter then [⟨globalVariant, g⟩] else []
    | none => [] := by
  unfold implP implicitsOfSym
  cases hg : p.globals[g]? with
  | none => simp [hg]
  | some gl =>
    cases hm : modeOf gl with
    | none => simp [hg, hm]
    | some m => cases m <;> simp [hg, hm]

/-- only a global in `parameter` mode contributes a `Global` parameter, and only its own -/
theorem global_mem_implP {p : Program} {s : Sym} {g : Nat} (h : (⟨globalVariant, g⟩ : Implicit) ∈ implP p s) :
    s = .glob g ∧ ∃ gl, p.globals[g]? = some gl ∧ modeOf gl = some .parameter := by
  unfold implP at h
  revert h
  fun_cases implicitsOfSym p s <;> intro h
  case case4 gl hg hm =>
    -- a global in `parameter` mode contributes itself
    simp only [List.mem_singleton, Implicit.mk.injEq, true_and] at h
    subst h
    exact ⟨rfl, gl, hg, hm⟩
  case case7 nm _ =>
    -- an intrinsic function contributes the payload-free variants of its row
    obtain ⟨v, hv, hvg⟩ := List.mem_map.1 h
    cases hl : intrinsicImplicits.lookup nm with
    | none => simp [hl] at hv
    | some row =>
      obtain ⟨l₁, l₂, hrow, _⟩ := List.lookup_eq_some_iff.1 hl
      have h1 := List.all_eq_true.1 intrinsic_rows_not_global (nm, row) (by simp [hrow])
      simpa [(Implicit.mk.inj hvg).1] using List.all_eq_true.1 h1 v (by simpa [hl] using hv)
  all_goals simp at h

/-- **threaded exactly (partial)**: a function has an implicit parameter for global `g` iff `g` is a
    threaded-mode (non-constant, non-intrinsic) global and the function needs it through the mentions the
    analysis records.  Partial: "needs" is taken over the recorded table `t₀`; `threaded_exactly` takes it over all
    mentions of the program. -/
theorem threaded_exactly_partial (p : Program) {t₀ cl : Table} (hwf : WF t₀) {keys : List Sym}
    (hk : ∀ k, k ∈ keys ↔ k ∈ keysOf t₀) (hcl : recurse keys t₀ = .ok (some cl)) (f g : Nat) :
    (⟨globalVariant, g⟩ : Implicit) ∈ requiredP p cl f ↔
      (∃ gl, p.globals[g]? = some gl ∧ modeOf gl = some .parameter) ∧
      Needs (Mentions t₀) (.fn f) (.glob g) := by
  rw [mem_requiredP]
  constructor
  · rintro ⟨s, hs, hi⟩
    obtain ⟨rfl, hgl⟩ := global_mem_implP hi
    exact ⟨hgl, (close_is_reachability hwf hk hcl (.fn f) (.glob g)).1 hs⟩
  · rintro ⟨⟨gl, hg, hm⟩, hneeds⟩
    refine ⟨.glob g, (close_is_reachability hwf hk hcl (.fn f) (.glob g)).2 hneeds, ?_⟩
    simp [implP_glob, hg, hm]

/-! ## What "needs" means for a program; the programs of fixes 1d760f5 / 2c8592f -/

/-- every symbol an item mentions, wherever it sits -/
def Item.allSyms : Item → List Sym
  | .use _ g => [Sym.glob g]
  | .call _ f args => Sym.fn f :: args.filterMap fun (a : SrcArg) => a.map Sym.glob

/-- every mention of a symbol: in a function's body or default arguments, or in a global's initialiser.
    This is the property's own "needs" relation: default arguments and initialisers count. -/
def allMentions (p : Program) (a b : Sym) : Prop :=
  match a with
  | .fn i => ∃ fd, p.funcs[i]? = some fd ∧ ∃ it ∈ fd.items, b ∈ Item.allSyms it
  | .glob i => ∃ gl, p.globals[i]? = some gl ∧ ∃ u ∈ gl.initUses, b = .glob u.2
  | .cb _ => False

/-- `int f_1(int p_0 = f_0())` with `f_0` reading a static, called by `f_2` (corpus line 2) -/
def witnessDefaultArg : Program :=
  { globals := [{ name := "g_0", storage := .Static, isConst := false, staticSampler := false, isObject := false }],
    funcs := [{ name := "f_0", params := [], items := [.use (.body [S "Return" 0]) 0] },
              { name := "f_1", params := [.inDefault], items := [.call (.defaultArg []) 0 []] },
              { name := "f_2", params := [], items := [.call (.body [S "Expression" 0]) 1 []] }] }

/-- default arguments are analysed (fix 1d760f5): `f_1` and its caller receive `g_0`, and the call passes
    the default explicitly -/
theorem default_arguments_analysed :
    defaultArgumentsGathered = true ∧
    ∃ cl, (closeProgram witnessDefaultArg (keysOf (calculateLocal witnessDefaultArg))).toOption = some cl ∧
      (requiredOf witnessDefaultArg cl 2).toOption = some [⟨globalVariant, 0⟩] ∧
      (requiredOf witnessDefaultArg cl 1).toOption = some [⟨globalVariant, 0⟩] ∧
      callTexts ⟨witnessDefaultArg, [[⟨globalVariant, 0⟩], [⟨globalVariant, 0⟩], [⟨globalVariant, 0⟩]]⟩ 1 [] =
        ["f_1(g_0,g_0)", "f_0(g_0)"] := by
  refine ⟨by decide, [(.fn 0, [.glob 0]), (.fn 1, [.fn 0, .glob 0]), (.fn 2, [.fn 1, .fn 0, .glob 0]), (.glob 0, [])],
    by decide +kernel, by decide +kernel, by decide +kernel, by decide +kernel⟩

/-- `static int g_1 = 0 + g_0;` read by the entry point (corpus line 3) -/
def witnessGlobalInit : Program :=
  { globals := [{ name := "g_0", storage := .Static, isConst := false, staticSampler := false, isObject := false },
                { name := "g_1", storage := .Static, isConst := false, staticSampler := false, isObject := false,
                  initUses := [([], 0)] }],
    funcs := [{ name := "cs_main", params := [.in_], items := [.use (.body [S "Expression" 0]) 1] }] }

/-- initialisers are analysed (fix 2c8592f): the entry point requires `g_0` as well, so the kernel declares it -/
theorem global_initialisers_analysed :
    globalInitialisersGathered = true ∧
    ∃ cl, (closeProgram witnessGlobalInit (keysOf (calculateLocal witnessGlobalInit))).toOption = some cl ∧
      (requiredOf witnessGlobalInit cl 0).toOption = some [⟨globalVariant, 0⟩, ⟨globalVariant, 1⟩] := by
  refine ⟨by decide, [(.fn 0, [.glob 1, .glob 0]), (.glob 0, []), (.glob 1, [.glob 0])], by decide +kernel, by decide +kernel⟩

/-- every function / global index an item or initialiser mentions exists -/
structure IndexClosed (p : Program) : Prop where
  uses : ∀ fd ∈ p.funcs, ∀ it ∈ fd.items, ∀ s ∈ Item.seenSyms p.globals it,
    match s with
    | .fn f => f < p.funcs.length
    | .glob g => g < p.globals.length
    | .cb _ => False
  inits : ∀ gl ∈ p.globals, ∀ u ∈ gl.initUses, u.2 < p.globals.length

theorem keysOf_calculateLocal (p : Program) : keysOf (calculateLocal p) =
    (List.range p.funcs.length).map Sym.fn ++ (List.range p.globals.length).map Sym.glob := by
  simp [calculateLocal, keysOf, List.map_append, List.map_map, Function.comp_def]

theorem lookup_map_key {c : Nat → Sym} (hc : ∀ a b, c a = c b → a = b) (f : Nat → SymSet) (i : Nat) : ∀ (l : List Nat),
    (l.map fun j => (c j, f j)).lookup (c i) = if i ∈ l then some (f i) else none
  | [] => rfl
  | a :: l => by
    simp only [List.map_cons, List.lookup_cons, List.mem_cons]
    by_cases h : i = a
    · subst h; simp
    · have : (c i == c a) = false := by simpa using fun e => h (hc _ _ e)
      simp [this, lookup_map_key hc f i l, h]

theorem lookup_map_other {c : Nat → Sym} {k : Sym} (hk : ∀ j, k ≠ c j) (f : Nat → SymSet) (l : List Nat) :
    (l.map fun j => (c j, f j)).lookup k = none :=
  List.lookup_eq_none_iff.2 fun e he => by
    obtain ⟨j, _, rfl⟩ := List.mem_map.1 he
    simpa using hk j

/-- the set `calculate_local` records for a key: the mentions it visits, duplicates dropped -/
theorem val_calculateLocal (p : Program) (k : Sym) : val (calculateLocal p) k = extend []
    (match k with
    | .fn i => match p.funcs[i]? with
      | some fd => fd.items.flatMap (Item.seenSyms p.globals)
      | none => []
    | .glob i => match p.globals[i]? with
      | some gl => (gl.initUses.filter fun u => u.1.all Slot.descended && globalSeen p.globals u.2).map fun u => Sym.glob u.2
      | none => []
    | .cb _ => []) := by
  have hgi : globalInitialisersGathered = true := by decide
  unfold val calculateLocal
  rw [List.lookup_append, List.lookup_append]
  cases k with
  | fn i =>
    rw [lookup_map_key (fun _ _ e => Sym.fn.inj e), lookup_map_other (fun _ => Sym.noConfusion),
      lookup_map_other (fun _ => Sym.noConfusion)]
    by_cases hi : i < p.funcs.length <;> simp [hi, localOfFunc, extend]
  | glob i =>
    rw [lookup_map_other (fun _ => Sym.noConfusion), lookup_map_key (fun _ _ e => Sym.glob.inj e),
      lookup_map_other (fun _ => Sym.noConfusion)]
    by_cases hi : i < p.globals.length <;> simp [hi, hgi, extend]
  | cb i =>
    rw [lookup_map_other (fun _ => Sym.noConfusion), lookup_map_other (fun _ => Sym.noConfusion)]
    rfl

theorem mem_keysOf_calculateLocal {p : Program} {k : Sym} :
    k ∈ keysOf (calculateLocal p) ↔ (∃ i, i < p.funcs.length ∧ k = .fn i) ∨ ∃ i, i < p.globals.length ∧ k = .glob i := by
  simp [keysOf_calculateLocal, eq_comm]

/-- **`calculate_local` produces a well-formed table** for every index-closed program: the hypothesis of the
    fixpoint theorems is what the real `calculate_local` establishes (one entry per function and global, sets
    are `HashSet`s) -/
theorem calculateLocal_wf (p : Program) (hp : IndexClosed p) : WF (calculateLocal p) := by
  constructor
  · intro k x hx
    rw [val_calculateLocal, mem_extend] at hx
    replace hx := hx.resolve_left (by simp)
    rw [mem_keysOf_calculateLocal]
    split at hx
    · split at hx
      · rename_i fd hfd
        obtain ⟨it, hit, hxs⟩ := List.mem_flatMap.1 hx
        have := hp.uses _ (List.mem_of_getElem? hfd) it hit x hxs
        cases x with
        | fn f => exact .inl ⟨f, this, rfl⟩
        | glob g => exact .inr ⟨g, this, rfl⟩
        | cb _ => exact this.elim
      · simp at hx
    · split at hx
      · rename_i gl hgl
        obtain ⟨u, hu, rfl⟩ := List.mem_map.1 hx
        exact .inr ⟨u.2, hp.inits _ (List.mem_of_getElem? hgl) u (List.mem_filter.1 hu).1, rfl⟩
      · simp at hx
    · simp at hx
  · intro k
    rw [val_calculateLocal]
    exact nodup_extend List.nodup_nil

/-! ### the local table records exactly the mentions (when every place is visited) -/

/-- every mention sits at a place the current gather_usage_* visits (`all_positions_descended` checks the positions the
    correspondence generator uses; no theorem here derives `AllSeen p` for a program from it) -/
structure AllSeen (p : Program) : Prop where
  items : ∀ fd ∈ p.funcs, ∀ it ∈ fd.items, it.place.seen = true
  reads : ∀ gl ∈ p.globals, gl.readPath.all Slot.descended = true
  inits : ∀ gl ∈ p.globals, ∀ u ∈ gl.initUses, u.1.all Slot.descended = true

theorem globalSeen_of_allSeen {p : Program} (hs : AllSeen p) (g : Nat) : globalSeen p.globals g = true := by
  have hr : recordsGlobals = true := by decide
  unfold globalSeen
  rw [hr]
  cases hg : p.globals[g]? with
  | none => rfl
  | some gl => simpa using hs.reads gl (List.mem_of_getElem? hg)

theorem seenSyms_eq_allSyms {p : Program} (hs : AllSeen p) {fd : Func} (hfd : fd ∈ p.funcs) {it : Item}
    (hit : it ∈ fd.items) : Item.seenSyms p.globals it = Item.allSyms it := by
  have hc : recordsCalls = true := by decide
  have ha : callArgSlot.descended = true := by decide
  have hp := hs.items fd hfd it hit
  cases it with
  | use pl g =>
    simp only [Item.place] at hp
    simp [Item.seenSyms, Item.allSyms, hp, globalSeen_of_allSeen hs]
  | call pl f args =>
    simp only [Item.place] at hp
    simp only [Item.seenSyms, Item.allSyms, hp, hc, ha, globalSeen_of_allSeen hs, if_true, List.singleton_append,
      List.cons.injEq, true_and]
    exact congrArg (List.filterMap · args) (funext fun a => by cases a <;> rfl)

/-- the local table of `calculate_local` is the mentions relation -/
theorem mentions_calculateLocal (p : Program) (hs : AllSeen p) (a b : Sym) :
    Mentions (calculateLocal p) a b ↔ allMentions p a b := by
  rw [Mentions, val_calculateLocal, mem_extend]
  simp only [List.not_mem_nil, false_or]
  cases a with
  | fn i =>
    simp only [allMentions]
    cases hfd : p.funcs[i]? with
    | none => simp
    | some fd =>
      simp only [List.mem_flatMap, Option.some.injEq, exists_eq_left']
      exact exists_congr fun it => and_congr_right fun hit => by rw [seenSyms_eq_allSyms hs (List.mem_of_getElem? hfd) hit]
  | glob i =>
    simp only [allMentions]
    cases hgl : p.globals[i]? with
    | none => simp
    | some gl =>
      simp only [List.mem_map, List.mem_filter, Option.some.injEq, exists_eq_left']
      constructor
      · rintro ⟨u, ⟨hu, _⟩, rfl⟩
        exact ⟨u, hu, rfl⟩
      · rintro ⟨u, hu, rfl⟩
        exact ⟨u, ⟨hu, by simp [hs.inits _ (List.mem_of_getElem? hgl) u hu, globalSeen_of_allSeen hs]⟩, rfl⟩
  | cb _ => simp [allMentions]

theorem recurse_of_closeProgram {p : Program} {keys : List Sym} {cl : Table} (h : closeProgram p keys = .ok cl) :
    recurse keys (calculateLocal p) = .ok (some cl) := by
  revert h
  fun_cases closeProgram p keys <;> intro h <;> cases h
  next ht => exact ht

/-- for every index-closed program the analysis returns a closure table (no panic, no fuel exhaustion) -/
theorem closeProgram_ok (p : Program) (hp : IndexClosed p) :
    ∃ cl, closeProgram p (keysOf (calculateLocal p)) = .ok cl := by
  obtain ⟨t', ht⟩ := recurse_terminates (calculateLocal_wf p hp) (keys := keysOf (calculateLocal p)) (fun _ hk => hk)
  exact ⟨t', by simp [closeProgram, ht]⟩

theorem threaded_exactly_program_partial (p : Program) (hp : IndexClosed p) {cl : Table}
    (hcl : closeProgram p (keysOf (calculateLocal p)) = .ok cl) (f g : Nat) :
    (⟨globalVariant, g⟩ : Implicit) ∈ requiredP p cl f ↔
      (∃ gl, p.globals[g]? = some gl ∧ modeOf gl = some .parameter) ∧
      Needs (Mentions (calculateLocal p)) (.fn f) (.glob g) :=
  threaded_exactly_partial p (calculateLocal_wf p hp) (fun _ => Iff.rfl) (recurse_of_closeProgram hcl) f g

/-- **threaded exactly**: for every index-closed program whose mentions all sit at visited places, a function
    has an implicit parameter for global `g` iff `g` is a threaded-mode global and the function needs it — where
    "needs" is reachability through *all* mentions: bodies, default arguments and global initialisers.  (Needs the
    fixes 2c8592f / 1d760f5: without them only the `_partial` form over the recorded mentions holds.) -/
theorem threaded_exactly (p : Program) (hp : IndexClosed p) (hs : AllSeen p) {cl : Table}
    (hcl : closeProgram p (keysOf (calculateLocal p)) = .ok cl) (f g : Nat) :
    (⟨globalVariant, g⟩ : Implicit) ∈ requiredP p cl f ↔
      (∃ gl, p.globals[g]? = some gl ∧ modeOf gl = some .parameter) ∧
      Needs (allMentions p) (.fn f) (.glob g) := by
  have e : Mentions (calculateLocal p) = allMentions p :=
    funext fun a => funext fun b => propext (mentions_calculateLocal p hs a b)
  rw [threaded_exactly_program_partial p hp hcl f g, e]

/-! ## Non-vacuity -/

/-- a diamond with an unused function: `f3 → {f1, f2} → f0 → g0`, `f2 → g1`, `f4` alone -/
def exampleTable : Table :=
  [(.fn 0, [.glob 0]), (.fn 1, [.fn 0]), (.fn 2, [.fn 0, .glob 1]), (.fn 3, [.fn 1, .fn 2]), (.fn 4, []),
   (.glob 0, []), (.glob 1, [])]

example : WF exampleTable := wf_of_check (by decide)
-- the local table of the first witness program is well formed; the second witness program is index closed
example : WF (calculateLocal witnessDefaultArg) := wf_of_check (by decide +kernel)
example : IndexClosed witnessGlobalInit := by
  constructor
  · intro fd hfd it hit s hs
    simp only [witnessGlobalInit, List.mem_singleton] at hfd
    subst hfd
    simp only [List.mem_singleton] at hit
    subst hit
    have : s = .glob 1 := by
      have h : Item.seenSyms witnessGlobalInit.globals (.use (.body [S "Expression" 0]) 1) = [.glob 1] := by decide
      rw [h] at hs; simpa using hs
    subst this
    decide
  · intro gl hgl u hu
    simp only [witnessGlobalInit, List.mem_cons, List.not_mem_nil, or_false] at hgl
    rcases hgl with rfl | rfl
    · simp at hu
    · simp only [List.mem_singleton] at hu; subst hu; decide
example : (recurse (keysOf exampleTable) exampleTable).toOption = some (some
    [(.fn 0, [.glob 0]), (.fn 1, [.fn 0, .glob 0]), (.fn 2, [.fn 0, .glob 1, .glob 0]),
     (.fn 3, [.fn 1, .fn 2, .fn 0, .glob 0, .glob 1]), (.fn 4, []), (.glob 0, []), (.glob 1, [])]) := by decide
-- a different key order reaches the same sets (in a different internal order)
example : (((recurse (keysOf exampleTable).reverse exampleTable).toOption.bind id).map
    (fun t => (val t (.fn 3)).length)) = some 5 := by decide
example : sortImplicit [⟨5, 3⟩, ⟨1, 0⟩, ⟨5, 0⟩, ⟨4, 0⟩, ⟨4, 0⟩] = [⟨1, 0⟩, ⟨4, 0⟩, ⟨4, 0⟩, ⟨5, 0⟩, ⟨5, 3⟩] := by decide

end RsslVerif.Thm.C02
