import RsslVerif.Model.MslCall
/-!
C02, argument lists of exported calls: every call the Metal exporter writes for a user function binds EVERY parameter of
the callee's emitted declaration — the provided arguments in order, then the default value of each left-out parameter at
that parameter's position, then the arguments for the threaded globals — for all three call types.
-/
namespace RsslVerif.Thm.C02Call
open RsslVerif.Model.MslCall RsslVerif.Gen.MslCallTables

/-- a list of defaults that all exist is what `filterMap id` keeps, in order -/
theorem filterMap_id_of_all_some {α : Type} : ∀ (l : List (Option α)),
    (∀ x ∈ l, x.isSome = true) → (l.filterMap id).map some = l
  | [], _ => rfl
  | none :: r, h => by
    have := h none (by simp)
    simp at this
  | some a :: r, h => by
    have ih := filterMap_id_of_all_some r (fun x hx => h x (by simp [hx]))
    simp [ih]

/-- Generic statement over ANY arm whose fill loop skips exactly the parameters that received an argument
    (`argStart = skipOff`).  `defaults.length` is the number of user parameters of the callee's declaration; the type
    checker guarantees that a call provides at most that many arguments and that every left-out parameter has a default
    value (`hdef`); the callee receives parameters for globals (`globals ≠ []`, so its declaration has no default values).
    Then the emitted argument list exists (no panic), has one argument per parameter of the emitted declaration (user
    parameters ++ parameters for globals), the i-th argument is the i-th provided argument for `i < provided`, the i-th
    parameter's own default value for `provided ≤ i`, and the k-th global's argument follows at position `params + k`. -/
theorem binds_every_parameter_of_arm {α : Type} (arm : CallArm) (harm : arm.argStart = arm.skipOff)
    (exprs : List α) (defaults : List (Option α)) (globals : List α)
    (hstart : arm.argStart ≤ exprs.length)
    (hprov : exprs.length - arm.argStart ≤ defaults.length)
    (hdef : ∀ i, exprs.length - arm.argStart ≤ i → i < defaults.length → ∃ d, defaults[i]? = some (some d))
    (hglob : globals ≠ []) :
    ∃ args, emittedArgs arm exprs defaults globals = .ok args ∧
      args.length = defaults.length + globals.length ∧
      (∀ i, i < exprs.length - arm.argStart → args[i]? = exprs[arm.argStart + i]?) ∧
      (∀ i, exprs.length - arm.argStart ≤ i → i < defaults.length → (args[i]?).map some = defaults[i]?) ∧
      (∀ k, args[defaults.length + k]? = globals[k]?) := by
  have hne : globals.isEmpty = false := by
    cases globals with
    | nil => exact absurd rfl hglob
    | cons _ _ => rfl
  have hnot : ¬ exprs.length < arm.argStart := by omega
  have hA : (exprs.drop arm.argStart).length = exprs.length - arm.argStart := List.length_drop
  generalize hn : exprs.length - arm.argStart = n at *
  -- the filled defaults, as options, are the tail of the declaration's defaults
  have hF : (filled defaults n).map some = defaults.drop n := filterMap_id_of_all_some _ fun x hx => by
    obtain ⟨j, hj⟩ := List.getElem?_of_mem hx
    rw [List.getElem?_drop] at hj
    obtain ⟨d, hd⟩ := hdef (n + j) (Nat.le_add_right n j) (List.getElem?_eq_some_iff.1 hj).1
    rw [hd] at hj
    cases hj
    rfl
  have hFlen : (filled defaults n).length = defaults.length - n := by
    simpa using congrArg List.length hF
  -- arguments and filled defaults together: one per user parameter
  have hpre : (exprs.drop arm.argStart ++ filled defaults n).length = defaults.length := by
    rw [List.length_append, hA, hFlen]; omega
  refine ⟨exprs.drop arm.argStart ++ filled defaults n ++ globals, ?_, ?_, ?_, ?_, ?_⟩
  · simp [emittedArgs, hnot, hne, ← harm, hn]
  · rw [List.length_append, hpre]
  · intro i hi
    rw [List.append_assoc, List.getElem?_append_left (by omega), List.getElem?_drop]
  · intro i h1 h2
    rw [List.getElem?_append_left (hpre ▸ h2), List.getElem?_append_right (by omega), ← List.getElem?_map, hF,
      List.getElem?_drop, hA]
    congr 1
    omega
  · intro k
    rw [List.getElem?_append_right (by omega), hpre, Nat.add_sub_cancel_left]

/-- the re-extracted table of `generate_user_call`: in every arm the fill loop skips exactly the operands that are
    arguments (`MethodExternal`: operand 0 is the object and is NOT counted), the object of a member call is operand 0,
    the list is built in the order arguments / defaults / globals, and the fill loop pushes defaults only, and only for a
    callee that receives parameters for globals -/
theorem user_call_arms_as_modelled :
    userCallArms = [⟨"FreeFunction", 0, 0⟩, ⟨"MethodExternal", 1, 1⟩, ⟨"MethodInternal", 0, 0⟩] ∧
    (∀ arm ∈ userCallArms, arm.argStart = arm.skipOff) ∧
    userCallObjectIsOperand0 = true ∧ userCallOrderAsModelled = true ∧
    fillPushesDefaultsOnly = true ∧ fillOnlyWithGlobals = true := by decide

/-- **Every emitted call binds every parameter**, for all three call types of the current source (free function, method
    called on an object from outside — `exprs[0]` is the object —, method called from inside its struct): under the type
    checker's guarantees (at most as many arguments as parameters, every left-out parameter has a default value) a call of
    a function that receives parameters for globals is emitted with exactly one argument per parameter of the emitted
    declaration: provided arguments in order, each left-out parameter's own default value at its position, then the
    globals. -/
theorem emitted_call_binds_every_parameter {α : Type} (ct : String) (arm : CallArm) (hct : armOf ct = some arm)
    (exprs : List α) (defaults : List (Option α)) (globals : List α)
    (hstart : arm.argStart ≤ exprs.length)
    (hprov : exprs.length - arm.argStart ≤ defaults.length)
    (hdef : ∀ i, exprs.length - arm.argStart ≤ i → i < defaults.length → ∃ d, defaults[i]? = some (some d))
    (hglob : globals ≠ []) :
    ∃ args, emittedArgsOf ct exprs defaults globals = .ok args ∧
      args.length = defaults.length + globals.length ∧
      (∀ i, i < exprs.length - arm.argStart → args[i]? = exprs[arm.argStart + i]?) ∧
      (∀ i, exprs.length - arm.argStart ≤ i → i < defaults.length → (args[i]?).map some = defaults[i]?) ∧
      (∀ k, args[defaults.length + k]? = globals[k]?) := by
  have hmem : arm ∈ userCallArms := List.mem_of_find?_eq_some hct
  have harm := user_call_arms_as_modelled.2.1 arm hmem
  simp only [emittedArgsOf, hct]
  exact binds_every_parameter_of_arm arm harm exprs defaults globals hstart hprov hdef hglob

/-- all three call types have an arm (the theorem above is not vacuous in `hct`) -/
theorem every_call_type_has_an_arm :
    (armOf "FreeFunction").isSome ∧ (armOf "MethodExternal").isSome ∧ (armOf "MethodInternal").isSome := by decide

/-- a callee that receives no parameter for a global keeps its default values: the call is emitted as written (the object
    of an external method call is not an argument) -/
theorem emitted_call_unchanged_without_globals {α : Type} (arm : CallArm) (exprs : List α) (defaults : List (Option α))
    (hstart : arm.argStart ≤ exprs.length) :
    emittedArgs arm exprs defaults [] = .ok (exprs.drop arm.argStart) := by
  have hnot : ¬ exprs.length < arm.argStart := by omega
  simp [emittedArgs, hnot]

/-- non-vacuity, the program of seeded mutant C02-6: `a.scale(x)` for `int scale(int v, int factor = 3)` that reads
    `static int bias` — operands `[a, x]`, defaults `[-, 3]` — is emitted with the arguments `x, 3, bias`;
    `a.blend()` for `blend(int v = 1, int w = 2)` with `1, 2, bias`; hypotheses of the theorem hold for it -/
example : emittedArgsOf "MethodExternal" ["a", "x"] [none, some "3"] ["bias"] = .ok ["x", "3", "bias"] := rfl
example : emittedArgsOf "MethodExternal" ["a"] [some "1", some "2"] ["bias"] = .ok ["1", "2", "bias"] := rfl
example : emittedArgsOf "MethodInternal" ["v"] [none, some "7"] ["bias"] = .ok ["v", "7", "bias"] := rfl
example : emittedArgsOf "FreeFunction" ["x"] [none, some "5", some "6"] ["bias", "gsh"] = .ok ["x", "5", "6", "bias", "gsh"] := rfl
example : ∃ args, emittedArgsOf "MethodExternal" ["a", "x"] [none, some "3"] ["bias"] = .ok args ∧ args.length = 2 + 1 := by
  obtain ⟨args, h, hl, _⟩ := emitted_call_binds_every_parameter "MethodExternal" ⟨"MethodExternal", 1, 1⟩ (by decide)
    ["a", "x"] [none, some "3"] ["bias"] (by decide) (by decide)
    (by intro i h1 h2
        have : i = 1 := by simp at h1 h2; omega
        subst this; exact ⟨"3", rfl⟩)
    (by decide)
  exact ⟨args, h, hl⟩

/-- negation witness, the arm of seeded mutant C02-6 (`append_default_arguments(args, id, exprs.len(), ..)`: the object
    counted as a provided argument, table row `⟨MethodExternal, 1, 0⟩`): `a.scale(x)` gets `x, bias` — one argument short
    of `scale(int v, int factor, thread int& bias)` — and `a.blend()` for two defaults gets the SECOND default in the first
    parameter's position. -/
theorem object_counted_as_argument_drops_a_default :
    emittedArgs ⟨"MethodExternal", 1, 0⟩ ["a", "x"] [none, some "3"] ["bias"] = .ok ["x", "bias"] ∧
    emittedArgs ⟨"MethodExternal", 1, 0⟩ ["a"] [some "1", some "2"] ["bias"] = .ok ["2", "bias"] := ⟨rfl, rfl⟩

/-- the count the correspondence stream compares is the length of the modelled list -/
theorem emittedArgCount_eq (ct : String) (nexprs : Nat) (hasDefault : List Bool) (nglobals : Nat) :
    emittedArgCount ct nexprs hasDefault nglobals =
      (emittedArgsOf ct (List.replicate nexprs ()) (hasDefault.map fun b => if b then some () else none)
        (List.replicate nglobals ())).map List.length := rfl

end RsslVerif.Thm.C02Call
