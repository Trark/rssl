import RsslVerif.Lemmas.MacroApi
import RsslVerif.Lemmas.MacroTameRun
import RsslVerif.Lemmas.MacroParseWF
import RsslVerif.Lemmas.MacroTamePSpec
/-!
# C12 — macro expansion and inclusion equal reference textual substitution

Theorems about `Model.Macro` / `Model.Include` (the model of `preprocess/src/preprocess.rs`), for token lists, macro
tables, include graphs of any size.  The model is tied to the code by `Gen.MacroTables` (re-extracted every run) and
by the correspondence run on generated macro programs.
-/
namespace RsslVerif.Thm.C12
open RsslVerif.Gen.MacroTables RsslVerif.Model.Macro RsslVerif.Model.Include RsslVerif.Spec.CPreMacro
open RsslVerif.Lemmas.MacroScope RsslVerif.Lemmas.Include RsslVerif.Lemmas.MacroTerm RsslVerif.Lemmas.MacroSubst
open RsslVerif.Lemmas.MacroApi RsslVerif.Lemmas.MacroHang
open RsslVerif.Model.MacroTame RsslVerif.Lemmas.MacroTame RsslVerif.Lemmas.MacroTameSpec RsslVerif.Lemmas.MacroTameRun
open RsslVerif.Lemmas.SpecExpand RsslVerif.Lemmas.MacroPaste
open RsslVerif.Lemmas.MacroTameP RsslVerif.Lemmas.MacroTamePSpec

/-- Tie to the source, the shapes the model was written against: `preprocess_command` (the directives that edit the macro
list, retain/push, the pragmas), `apply_macros_internal` (arguments share the disabled flags), `preprocess_initial_file`
(API defines take the `#define` path; a line break is rejected), `Token::is_whitespace`, `compile()` (built-in defines, user
defines appended), `apply_single_macro` (every `MacroSearchPosition`, the lets and statements of the `User` arm, the rescan
on every path, the spelling of the `Concat` arm), the uses of the search position in `find_single_macro`, the trimming
loops and how `split_macro_args` / the arity tests use them, the include depth limit, and `FileLoader::load` (what
identifies a file). -/
theorem source_shape :
    definingDirectives = ["define", "undef"] ∧ defineRetainsThenPushes = true ∧ undefRetains = true ∧
    argsShareDisabled = true ∧ initialDefinesUseDefinePath = true ∧
    pragmas = ["once", "warning"] ∧
    whitespaceTokens = ["Endline", "PhysicalEndline", "Whitespace", "Comment"] ∧
    (∀ t, (compileDefines t).map (·.1) = ["__HLSL_VERSION", "RSSL_TARGET_HLSL", "RSSL_TARGET_MSL"]) ∧
    userDefinesAppended = true ∧
    -- where the scan resumes (`SearchPos` in the model): start; after an invocation (`applyLoop`, `user` arm: the
    -- early region is the whole replaced region, `early_function_pos = pos`); after `defined`; after `##`; at the end
    searchPositions =
      [["0", "0", "usize::MAX"],
       ["new_end", "pos", "if macro_def.is_function { macro_index } else { usize::MAX }"],
       ["pos + 1", "pos + 1", "usize::MAX"],
       ["left_token_pos", "left_token_pos", "usize::MAX"],
       ["tokens.len()", "tokens.len()", "usize::MAX"]] ∧
    userArmLets = ["output.len()", "pos + tokens_added", "tokens.len() - remaining.len()"] ∧
    -- from substitution to splice (`applyLoop`, `user` arm: `substitute`, then `applyLoop (disable env mi) body'` on
    -- EVERY path, then `splice`): no guard around the rescan of the substituted replacement list (seeded mutant C12-3)
    userArmStatements =
      ["let mut output = Vec::with_capacity(macro_def.tokens.len())",
       "for token in &macro_def.tokens { if let Token::MacroArg(i) = token.0 { output.extend_from_slice(&args[i as usize]) } else { output.push(token.clone()); } }",
       "assert!(!macro_disabled[macro_index])", "macro_disabled[macro_index] = true",
       "let output = apply_macros_internal(output, macro_defs, macro_disabled, false, source_manager)?",
       "assert!(macro_disabled[macro_index])", "macro_disabled[macro_index] = false",
       "assert!(end > pos)", "let tokens_added = output.len()", "tokens.splice(pos..end, output)"] ∧
    bodyAlwaysRescanned = true ∧
    -- `##` joins the source spellings of its operands: both through `unlex`, no rendering by token kind
    concatArmSpelling =
      ["let left_string = unlex(std::slice::from_ref(left_token), source_manager)",
       "let right_string = unlex(std::slice::from_ref(right_token), source_manager)",
       "let new_fragment = format!(\"{left_string}{right_string}\")",
       "let file_id = source_manager.add_file(FileName(\"<scratch space>\".to_string()), new_fragment)"] ∧
    concatUsesSourceSpelling = true ∧
    searchPositionUses =
      ["search_pos.early_function_pos",
       "search_pos.last_macro_function_index == macro_index && i < search_pos.next_pos",
       "activate_pos < search_pos.next_pos", "activate_pos = tokens.len() - trimmed.len()",
       "trimmed = trim_whitespace_and_endlines_start(&tokens[i + 1..])", "pos.next_pos < tokens.len()"] ∧
    -- which white space is skipped where (fix f08088c): `trimStart`/`trimEnd` leave line ends, `trimStartAll` does not;
    -- `splitArgs` reaches the `(` with `trimStartAll`, trims every argument with `trim`; `readArgs`: the arity tests
    trimLoops =
      [["trim_whitespace_start", "split_first", "tok.is_whitespace() && *tok != Token::Endline"],
       ["trim_whitespace_end", "split_last", "tok.is_whitespace() && *tok != Token::Endline"],
       ["trim_whitespace_and_endlines_start", "split_first", "tok.is_whitespace()"]] ∧
    argumentReading =
      ["remaining = trim_whitespace_and_endlines_start(remaining)", "arg = trim_whitespace(&remaining[..pos])",
       "!(args.len() == 1 && trim_whitespace_and_endlines_start(args[0]).is_empty())",
       "args.len() as u64 != macro_def.num_params"] ∧
    -- the nesting limit of #include: `includeFile` with fuel `maxIncludeDepth` answers `Err.includeFuel` exactly
    -- where the code answers `IncludeDepthExceeded` (the driver runs the model with this fuel)
    maxIncludeDepth = 200 ∧ includeDepthCheckedBeforeLoad = true ∧
    -- what identifies a file (fix d66a6d7; `includeFile`: the once-set is keyed by the real name the handler reports)
    fileIdentity =
      ["self.file_name_remap.get(file_name)", "self.include_handler.load(file_name, parent_name)",
       "self.real_name_remap.get(&file_data.real_name)", "self.real_name_remap.insert(real_name, id)",
       "self.file_name_remap.insert(file_name.to_string(), id)", "self.pragma_once_files.contains(&id)",
       "self.source_manager.get_contents(id)", "self.pragma_once_files.insert(file_id)"] ∧
    -- fix 3c81ed5 (`initialMacros`: `hasLineBreak`)
    apiDefineLineBreakRejected = true :=
  ⟨rfl, rfl, rfl, rfl, rfl, rfl, rfl, fun _ => rfl, rfl, rfl, rfl, rfl, rfl, rfl, rfl, rfl, rfl, rfl, rfl, rfl, rfl,
    rfl⟩

/-- Tie to the source: the line state machine of `preprocess_included_file` (what is a line, what is a directive:
a `#` met at the start of a line, blanks skipped between `#` and the directive name, a line end met before a directive name
-- the null directive -- goes to `active_tokens`), the operand forms of `#include` (`Line.incl` for a string literal AND a
header name), and the arms that reject a directive whatever the state (`Line.rejected`). -/
theorem source_shape_directive_forms :
    lineStateArms =
      ["(Token::Endline, CommandParseState::CommandContents)",
       "(Token::Endline, _) => { command_state = CommandParseState::StartOfLine; active_tokens.push(next) }",
       "(Token::Hash, CommandParseState::StartOfLine)",
       "(tok, CommandParseState::CommandStart) if !tok.is_whitespace()",
       "(tok, CommandParseState::StartOfLine)",
       "_ => active_tokens.push(next)"] ∧
    includeOperand =
      "[PreprocessToken(Token::LiteralString(s), _)] => s.clone(), [PreprocessToken(Token::HeaderName(s), _)] => s.clone(), _ => return Err(PreprocessError::InvalidInclude(command_location))," ∧
    rejectingArms =
      ["_ if skip => return Ok(()), _ => return Err(PreprocessError::UnknownCommand(command_location)),",
       "_ => Err(PreprocessError::UnknownPragma(ext.get_location())),",
       "else { Err(PreprocessError::UnknownPragma( pragma_command.first().get_location(), )) }",
       "_ if skip => Ok(()), _ => Err(PreprocessError::UnknownCommand(command_location)),"] :=
  ⟨rfl, rfl, rfl⟩

/-- **expand_terminates.** `applyLoop` -- the `while` loop of `apply_macros_internal` together with the recursive
expansion of every argument (with the current disabled flags, as in the fixed code) and of every substituted body
(with the invoked macro disabled) -- is a total function: Lean accepts it by well-founded recursion on the
lexicographic measure (number of enabled macros, number of tokens right of `next_pos`)
(`termination_by` in `Model/Macro.lean`).  The three inequalities the measure needs are tested at run time in the
model; this theorem shows that none of the tests can fail, for any macro list (self- and mutually referential ones
included), token list and search position, at any depth of the recursion. -/
theorem expand_terminates (env : List Entry) (toks : List PTok) (sp : SearchPos) :
    ∃ r, applyLoop env toks sp = r ∧ ∀ w, r ≠ .error (.guard w) :=
  ⟨_, rfl, (applyLoop_ok env toks sp).1⟩

/-- **expand_never_hangs.** `find_single_macro` has a `continue` that does not advance its index (taken for a
`Concat` token left of `next_pos`): it would spin forever.  It is unreachable: started the way `apply_macros` starts
it (`next_pos = 0`), the loop never has a `Concat` token left of `next_pos`, at any depth of the recursion -- and the
token list it returns contains no `Concat` token at all (every `##` of a macro body is carried out or reported as an
error before the expansion is handed back).  Together with `expand_terminates`: every call of `apply_macros` returns. -/
theorem expand_never_hangs (defs : List Macro) (toks : List PTok) :
    applyMacros defs toks ≠ .error .hang ∧
    ∀ out, applyMacros defs toks = .ok out → ∀ t ∈ out, t.tok ≠ .concat := by
  have := (applyLoop_ok (defs.map (⟨·, false⟩)) toks SearchPos.start).2
    (by simpa [SearchPos.start] using noConcat_nil)
  exact this

/-- non-vacuity: the macro table that overflowed the stack before the d00f5aa fix, `#define A B(A)`,
`#define B(x) x`, on the text `A` (the run itself is in corpus/C12.txt, line 1) -/
example : ∃ r, applyMacros [⟨"A", false, 0, [⟨.id "B", true⟩, ⟨.lparen, true⟩, ⟨.id "A", true⟩, ⟨.rparen, true⟩]⟩,
    ⟨"B", true, 1, [⟨.arg 0, true⟩]⟩] [⟨.id "A", true⟩] = r ∧ ∀ w, r ≠ .error (.guard w) :=
  expand_terminates _ _ _

/-- An invocation in a text whose other tokens start no macro operation is replaced, with its arguments, by the substituted
replacement list (`readArgs` reads `args` off `rest`, what follows the name, and leaves `after`). -/
theorem invocation_is_substitution (pre post : List Entry) (m : Macro) (before rest after out : List PTok)
    (args : List (List PTok)) (b : Bool) (hpre : ∀ e ∈ pre, e.m.name ≠ m.name)
    (hra : readArgs m rest = .ok (after, args)) (hargs : ∀ a ∈ args, Inert (pre ++ ⟨m, false⟩ :: post) a)
    (hsub : substitute m.body args = .ok out) (hout : Inert (pre ++ ⟨m, false⟩ :: post) out)
    (hbefore : Inert (pre ++ ⟨m, false⟩ :: post) before) (hafter : Inert (pre ++ ⟨m, false⟩ :: post) after) :
    applyLoop (pre ++ ⟨m, false⟩ :: post) (before ++ ⟨.id m.name, b⟩ :: rest) SearchPos.start =
      .ok (before ++ out ++ after) := by
  have hm := matchMacro_at (before ++ ⟨.id m.name, b⟩ :: rest) before.length SearchPos.start 0 pre post ⟨m, false⟩
    hpre rfl (Nat.zero_le _) (fun hfn => by
      -- the `(` that `readArgs` found is the one `find_single_macro` looks for
      obtain ⟨b', tail, htrim, _⟩ := RsslVerif.Lemmas.MacroTerm.readArgs_function m rest after args hfn hra
      unfold parenAfter
      simp [htrim, SearchPos.start])
  rw [(At.ofInert _ before _ hbefore).invoke (e := ⟨m, false⟩) List.drop_left (by simpa using hm) (by simp) hra
    (mapE_inert _ _ hargs) hsub
    (applyLoop_inert _ _ _ (Nat.le_refl _) (by simpa [SearchPos.start] using inert_disable _ hout))]
  simp only [List.take_left']
  exact applyLoop_inert _ _ _ (by simp) (by simpa [List.append_assoc] using inert_append hout hafter)

/-- **object_like_is_substitution.** Invoking an object-like macro yields its body: in a text whose other tokens
start no macro operation, the name is replaced by the replacement list, nothing else changes.  (`pre`, `post`: the
other entries of the macro list, any number, in any state; the entry is the first of its name.  The body and the
surrounding text are `Inert`: they contain no macro name and no `##`; bodies that invoke further macros are the
subject of `expand_refines_spec` / `expand_refines_spec_with_paste` below.  Unlike those, this statement allows further
entries of the same name behind the first.) -/
theorem object_like_is_substitution (pre post : List Entry) (m : Macro) (before after : List PTok) (b : Bool)
    (hpre : ∀ e ∈ pre, e.m.name ≠ m.name) (hobj : m.isFunction = false)
    (hnoarg : ∀ t ∈ m.body, ∀ i, t.tok ≠ .arg i)
    (hbody : Inert (pre ++ ⟨m, false⟩ :: post) m.body)
    (hbefore : Inert (pre ++ ⟨m, false⟩ :: post) before)
    (hafter : Inert (pre ++ ⟨m, false⟩ :: post) after) :
    applyLoop (pre ++ ⟨m, false⟩ :: post) (before ++ ⟨.id m.name, b⟩ :: after) SearchPos.start =
      .ok (before ++ m.body ++ after) :=
  invocation_is_substitution pre post m before after after m.body [] b hpre (by simp [readArgs, hobj])
    (fun _ h => nomatch h) (substitute_noargs _ _ hnoarg) hbody hbefore hafter

/-- non-vacuity: `#define N 4 + P`, text `Q N ;` -/
example : applyLoop [⟨⟨"N", false, 0, [⟨.int "4", true⟩, ⟨.punct "+", true⟩, ⟨.id "P", true⟩]⟩, false⟩]
    ([⟨.id "Q", true⟩, ⟨.ws, true⟩] ++ ⟨.id "N", true⟩ :: [⟨.punct ";", true⟩]) SearchPos.start =
    .ok ([⟨.id "Q", true⟩, ⟨.ws, true⟩] ++ [⟨.int "4", true⟩, ⟨.punct "+", true⟩, ⟨.id "P", true⟩] ++
      [⟨.punct ";", true⟩]) := by
  apply object_like_is_substitution [] [] ⟨"N", false, 0, _⟩ _ _ true
  case hpre => intro e he; cases he
  case hobj => rfl
  case hnoarg => intro t ht i; simp at ht; rcases ht with rfl | rfl | rfl <;> simp
  case hbody => exact inert_of_inertB (by decide)
  case hbefore => exact inert_of_inertB (by decide)
  case hafter => exact inert_of_inertB (by decide)

/-- **function_like_is_substitution** (no self reference). Invoking a function-like macro with `n ≥ 1` parameters on
arguments `a₁ , … , aₙ` -- each with balanced parentheses and commas only inside them (`IsArg`), possibly preceded by
white space before the `(`: blanks, comments and (since fix f08088c) line ends, the invocation may continue on the next
line -- yields its body with every parameter replaced by the corresponding argument, trimmed of
surrounding blanks: nested parentheses and commas inside them do not split arguments. -/
theorem function_like_is_substitution (pre post : List Entry) (m : Macro) (before blanks after : List PTok)
    (as : List (List PTok)) (b b2 b3 : Bool)
    (hpre : ∀ e ∈ pre, e.m.name ≠ m.name) (hfn : m.isFunction = true)
    (hne : as ≠ []) (harity : m.numParams = as.length)
    (hblanks : ∀ t ∈ blanks, t.tok.isWhitespace = true)
    (hargs : ∀ a ∈ as, IsArg a ∧ Inert (pre ++ ⟨m, false⟩ :: post) a)
    (hbody : ∀ t ∈ m.body, (∃ i, t.tok = .arg i ∧ i < m.numParams) ∨
      ((∀ i, t.tok ≠ .arg i) ∧ InertTok (pre ++ ⟨m, false⟩ :: post) t))
    (hbefore : Inert (pre ++ ⟨m, false⟩ :: post) before)
    (hafter : Inert (pre ++ ⟨m, false⟩ :: post) after) :
    ∃ out, substitute m.body (as.map trim) = .ok out ∧
      applyLoop (pre ++ ⟨m, false⟩ :: post)
        (before ++ ⟨.id m.name, b⟩ :: (blanks ++ ⟨.lparen, b2⟩ :: (joinArgs as ++ ⟨.rparen, b3⟩ :: after)))
        SearchPos.start = .ok (before ++ out ++ after) := by
  obtain ⟨out, hout⟩ := substitute_ok m.body (as.map trim) (by
    intro t ht i hi
    rcases hbody t ht with ⟨j, hj, hlt⟩ | ⟨hno, _⟩
    · rw [hi] at hj; cases hj; simpa [harity] using hlt
    · exact absurd hi (hno i))
  have hargsInert : ∀ a ∈ as.map trim, Inert (pre ++ ⟨m, false⟩ :: post) a := by
    intro a ha
    obtain ⟨x, hx, rfl⟩ := List.mem_map.mp ha
    exact inert_trim (hargs x hx).2
  refine ⟨out, hout, invocation_is_substitution pre post m before _ after out (as.map trim) b hpre ?_ hargsInert hout
    ?_ hbefore hafter⟩
  · have hs : splitArgs m.name (blanks ++ ⟨.lparen, b2⟩ :: (joinArgs as ++ ⟨.rparen, b3⟩ :: after)) =
        .ok (after, as.map trim) := by
      unfold splitArgs
      rw [trimStartAll_whitespace _ _ hblanks _ rfl]
      simpa using scanArgs_join as hne (fun a ha => (hargs a ha).1) b3 after []
    have hn0 : m.numParams ≠ 0 := by
      rw [harity]; cases as with
      | nil => exact absurd rfl hne
      | cons _ _ => simp
    unfold readArgs
    simp only [hfn, if_true, hs, hn0, if_false]
    simp [harity]
  · apply substitute_inert m.body (as.map trim) out _ hargsInert hout
    intro t ht
    rcases hbody t ht with ⟨j, hj, _⟩ | ⟨_, hin⟩
    · exact Or.inl ⟨j, hj⟩
    · exact Or.inr hin

/-- non-vacuity: `#define F(X,Y) X + Y`, text `F ((1,2), G(3,4)) ;` -- the commas inside the nested parentheses do
not split the arguments -/
example : ∃ out, substitute [⟨.arg 0, true⟩, ⟨.punct "+", true⟩, ⟨.arg 1, true⟩]
      ([[⟨.lparen, true⟩, ⟨.int "1", true⟩, ⟨.comma, true⟩, ⟨.int "2", true⟩, ⟨.rparen, true⟩],
        [⟨.ws, true⟩, ⟨.id "G", true⟩, ⟨.lparen, true⟩, ⟨.int "3", true⟩, ⟨.comma, true⟩, ⟨.int "4", true⟩,
          ⟨.rparen, true⟩]].map trim) = .ok out ∧
    applyLoop ([] ++ [⟨⟨"F", true, 2, [⟨.arg 0, true⟩, ⟨.punct "+", true⟩, ⟨.arg 1, true⟩]⟩, false⟩])
      ([] ++ ⟨.id "F", true⟩ :: ([⟨.ws, true⟩] ++ ⟨.lparen, true⟩ ::
        (joinArgs [[⟨.lparen, true⟩, ⟨.int "1", true⟩, ⟨.comma, true⟩, ⟨.int "2", true⟩, ⟨.rparen, true⟩],
          [⟨.ws, true⟩, ⟨.id "G", true⟩, ⟨.lparen, true⟩, ⟨.int "3", true⟩, ⟨.comma, true⟩, ⟨.int "4", true⟩,
            ⟨.rparen, true⟩]] ++ ⟨.rparen, true⟩ :: [⟨.punct ";", true⟩])))
      SearchPos.start = .ok ([] ++ out ++ [⟨.punct ";", true⟩]) := by
  apply function_like_is_substitution [] [] ⟨"F", true, 2, _⟩ [] _ _ _ true true true
  case hpre => intro e he; cases he
  case hfn => rfl
  case hne => simp
  case harity => rfl
  case hblanks => intro t ht; simp at ht; subst ht; rfl
  case hargs =>
    intro a ha
    simp at ha
    rcases ha with rfl | rfl
    · refine ⟨by unfold IsArg; decide, ?_⟩
      exact inert_of_inertB (by decide)
    · refine ⟨by unfold IsArg; decide, ?_⟩
      exact inert_of_inertB (by decide)
  case hbody =>
    intro t ht; simp at ht
    rcases ht with rfl | rfl | rfl
    · exact Or.inl ⟨0, rfl, by decide⟩
    · exact Or.inr ⟨by simp, by simp [InertTok]⟩
    · exact Or.inl ⟨1, rfl, by decide⟩
  case hbefore => intro t ht; cases ht
  case hafter => exact inert_of_inertB (by decide)

/-- **define_undef_scoping.** Starting from a macro list with pairwise distinct names (in particular the empty
one; `macro_names_always_distinct` shows every list reached in a run is such), any sequence of `#define` / `#undef` directives keeps the names
pairwise distinct -- the list never holds two entries of one name -- the `assert_eq!` in the `undef` arm never fails,
and, starting from the empty list, looking a name up gives the latest `#define` of that name that is not followed by
an `#undef` of it. -/
theorem define_undef_scoping :
    (∀ (ms : List Macro) (evs : List (Event Macro)), (names ms).Nodup → (names (applyEvents ms evs)).Nodup) ∧
    (∀ (ms ms' : List Macro) cmd, doDefine ms cmd = .ok ms' →
        ∃ m, parseDefine cmd = .ok m ∧ ms' = applyEvent ms (.define m.name m)) ∧
    (∀ (ms ms' : List Macro) cmd, doUndef ms cmd = .ok ms' →
        ∃ n b, trim cmd = [⟨.id n, b⟩] ∧ ms' = applyEvent ms (.undef n)) ∧
    (∀ (ms : List Macro) cmd site, (names ms).Nodup → doUndef ms cmd ≠ .error (.panic site)) ∧
    (∀ (evs : List (Event Macro)) n, (∀ e ∈ evs, WellNamed e) →
        lookupList (applyEvents [] evs) n = lookup evs n) :=
  ⟨fun _ evs h => nodup_applyEvents h evs, fun _ _ _ h => doDefine_eq h, fun _ _ _ h => doUndef_eq h,
   fun _ cmd site h => doUndef_no_panic h cmd site, fun evs n h => lookupList_applyEvents evs h n⟩

/-- non-vacuity: define, redefine, undefine, define again -/
example :
    let a1 : Macro := ⟨"A", false, 0, [⟨.int "1", true⟩]⟩
    let a2 : Macro := ⟨"A", false, 0, [⟨.int "2", true⟩]⟩
    let b : Macro := ⟨"B", true, 1, [⟨.arg 0, true⟩]⟩
    let evs : List (Event Macro) := [.define "A" a1, .define "B" b, .define "A" a2, .undef "B"]
    applyEvents [] evs = [a2] ∧ lookup evs "A" = some a2 ∧ lookup evs "B" = none := by
  decide +kernel


/-- **directive_takes_effect_from_its_line.** Redefinition and `#undef` take effect from their line onward: the text
lines before a `#define` / `#undef` line (collected in `active_tokens`) are expanded with the macro list as it was
before the directive (`flush`), the directive edits the list (`doDefine` / `doUndef`: `define_undef_scoping`), and
every line after it is processed with the edited list and an empty `active_tokens`. -/
theorem directive_takes_effect_from_its_line (inc : String → State → Except Err State) (cur : String)
    (s : State × List PTok) (pre post : List Line) (cmd : List PTok) :
    (foldLines inc cur s (pre ++ Line.define cmd :: post) =
      match foldLines inc cur s pre with
      | .error e => .error e
      | .ok (st, active) =>
        match flush st active with
        | .error e => .error e
        | .ok st' =>
          match doDefine st'.macros cmd with
          | .error e => .error e
          | .ok ms => foldLines inc cur ({ st' with macros := ms }, []) post) ∧
    (foldLines inc cur s (pre ++ Line.undef cmd :: post) =
      match foldLines inc cur s pre with
      | .error e => .error e
      | .ok (st, active) =>
        match flush st active with
        | .error e => .error e
        | .ok st' =>
          match doUndef st'.macros cmd with
          | .error e => .error e
          | .ok ms => foldLines inc cur ({ st' with macros := ms }, []) post) := by
  constructor
  · rw [foldLines_append]
    rcases foldLines inc cur s pre with e | ⟨st, active⟩
    · rfl
    simp only [foldLines, stepLine]
    cases flush st active with
    | error e => rfl
    | ok st' => simp only; cases doDefine st'.macros cmd <;> rfl
  · rw [foldLines_append]
    rcases foldLines inc cur s pre with e | ⟨st, active⟩
    · rfl
    simp only [foldLines, stepLine]
    cases flush st active with
    | error e => rfl
    | ok st' => simp only; cases doUndef st'.macros cmd <;> rfl

/-- **api_defines_equal_file_defines.** Defines passed through the API behave exactly like `#define` lines placed
before the first line of the entry file: processing the entry file after installing the API list gives the same
result -- same output tokens, same macro list, same once-set, or the same error (e.g. `InvalidDefine` for a name that
is not an identifier) -- as processing the file with the lines `#define name value` put in front of it.
Any API list (repeated names, values with `##`, blanks, empty values, names that are not single identifiers) whose
entries are single lines (`hline`: no line end among the tokens -- a `#define` line cannot hold one; an entry with a line
break is rejected, fix 3c81ed5: `api_define_with_line_break_is_rejected`).
"Modulo locations": the tokens of an API define carry a real location (the file `<define>`, fix 9f7cdb8), so the
only location fact the model tracks -- has one / has none -- is the same on both sides; the locations themselves
differ (that is C14's subject).
Notes. (1) A name such as `F(x)` is lexed and parsed like the text after `#define`, so it defines a *function-like*
macro, as `-DF(x)=..` does for a C compiler.  (2) `lines ≠ []`: for an empty entry file the lexer's end-of-file line
end is emitted on the left side only -- a white-space token, invisible after `prepare_tokens`.  (3) The lines are put
in front of this processing of the entry file; a nested `#include` of the entry file itself sees the file as the
handler delivers it, on both sides. -/
theorem api_defines_equal_file_defines (inc : String → State → Except Err State) (entry : String)
    (api : List ApiDefine) (lines : List Line) (hne : lines ≠ []) (hline : ∀ d ∈ api, hasLineBreak d = false) :
    runInitial inc entry api lines =
      runFile inc entry { macros := [], out := [], once := [] } (api.map defineLineOf ++ lines) := by
  have hne' : api.map defineLineOf ++ lines ≠ [] := by
    intro h; exact hne (List.append_eq_nil_iff.mp h).2
  unfold runInitial runFile
  rw [fileStart_of_ne_nil hne', foldLines_defines _ _ _ _ _ _ _ hline]
  cases initialMacros [] api with
  | error e => rfl
  | ok ms => simp only [fileStart_of_ne_nil hne]


/-- **api_defines_equal_file_defines_tokens.** The same for *every* entry file, the empty one included, on what the
rest of the compiler sees: the macro list, the once-set and the tokens after `prepare_tokens` (which drops white
space -- the only difference for an empty entry file is the line end the lexer adds to an empty file). -/
theorem api_defines_equal_file_defines_tokens (inc : String → State → Except Err State) (entry : String)
    (api : List ApiDefine) (lines : List Line) (hline : ∀ d ∈ api, hasLineBreak d = false) :
    (runInitial inc entry api lines).map (fun st => (st.macros, st.once, prepare st.out)) =
      (runFile inc entry { macros := [], out := [], once := [] } (api.map defineLineOf ++ lines)).map
        (fun st => (st.macros, st.once, prepare st.out)) := by
  cases lines with
  | cons l ls => rw [api_defines_equal_file_defines inc entry api (l :: ls) (by simp) hline]
  | nil =>
    cases api with
    | nil => rfl
    | cons d ds =>
      unfold runInitial runFile
      rw [fileStart_of_ne_nil (by simp : (d :: ds).map defineLineOf ++ [] ≠ []), foldLines_defines _ _ _ _ _ _ _ hline]
      cases initialMacros [] (d :: ds) with
      | error e => rfl
      | ok ms =>
        simp only [foldLines, fileStart, flush, applyMacros_eol, applyMacros_nil, Except.map]
        rfl

/-- **api_define_with_line_break_is_rejected** (fix 3c81ed5).  A define is a single line: an API list with an entry
whose name or value holds a line end is rejected with `InvalidDefine` as soon as that entry is reached (the entries
before it are single lines that parse) -- whatever the entry file and the later entries are. -/
theorem api_define_with_line_break_is_rejected (inc : String → State → Except Err State) (entry : String)
    (pre post : List ApiDefine) (d : ApiDefine) (lines : List Line) (ms : List Macro)
    (hpre : initialMacros [] pre = .ok ms) (hd : hasLineBreak d = true) :
    runInitial inc entry (pre ++ d :: post) lines = .error .invalidDefine := by
  unfold runInitial
  rw [initialMacros_append, hpre]
  simp [initialMacros, hd]

/-- **rejected_directive_rejects_the_file.**  A directive line that `preprocess_command` rejects whatever the
state -- `#pragma` with an unknown or missing name, a directive name that is none, `#include` whose operand is not one
string literal / header name -- makes the file fail, wherever it stands and whatever follows it: the lines in front of
it are processed as usual, the text pending in front of it is expanded first (the line state machine flushes when it
meets the `#`), and if that succeeds the error of the directive is the result -- nothing behind the line is looked at. -/
theorem rejected_directive_rejects_the_file (inc : String → State → Except Err State) (cur : String) (st0 : State)
    (pre post : List Line) (e : Err) :
    runFile inc cur st0 (pre ++ .rejected e :: post) =
      (match foldLines inc cur (st0, fileStart (pre ++ .rejected e :: post)) pre with
       | .error e' => .error e'
       | .ok (st, active) =>
         match flush st active with
         | .error e' => .error e'
         | .ok _ => .error e) := by
  unfold runFile
  rw [RsslVerif.Lemmas.Include.foldLines_append]
  rcases foldLines inc cur (st0, fileStart (pre ++ .rejected e :: post)) pre with e' | ⟨st, active⟩
  · rfl
  simp only [foldLines, stepLine]
  cases flush st active <;> rfl

/-- non-vacuity: `#pragma foo` in front of a line that is never reached (here a malformed `#define`), for every includer
state; an unknown directive as the only line of a file -/
example (inc : String → State → Except Err State) (st : State) :
    runFile inc "main" st [.rejected .unknownPragma, .define (located [])] = .error .unknownPragma := by
  simp [runFile, foldLines, stepLine, fileStart, flush, applyMacros_nil]
example (inc : String → State → Except Err State) (st : State) :
    runFile inc "f1" st [.pragmaOnce, .rejected .unknownCommand] = .error .unknownCommand := by
  simp [runFile, foldLines, stepLine, fileStart, flush, applyMacros_nil]

/-- **null_directive_is_boundary_and_empty_line.**  The null directive (`#` alone on its line, C11 6.10.7) has no
effect of its own: in every file, at every place, it is worth a directive without effect (a block boundary: the text in
front of it is expanded on its own, like in front of `#pragma warning`) followed by an empty line -- same macro table,
same `#pragma once` set, same output, same error. -/
theorem null_directive_is_boundary_and_empty_line (inc : String → State → Except Err State) (cur : String) (st0 : State)
    (pre post : List Line) :
    runFile inc cur st0 (pre ++ .null :: post) = runFile inc cur st0 (pre ++ .pragmaWarning :: .text [] :: post) := by
  have hstart : fileStart (pre ++ Line.null :: post) = fileStart (pre ++ Line.pragmaWarning :: Line.text [] :: post) := by
    cases pre <;> rfl
  unfold runFile
  rw [hstart, RsslVerif.Lemmas.Include.foldLines_append, RsslVerif.Lemmas.Include.foldLines_append]
  rcases foldLines inc cur (st0, fileStart (pre ++ Line.pragmaWarning :: Line.text [] :: post)) pre with e | ⟨st, active⟩
  · rfl
  simp only [foldLines, stepLine]
  cases flush st active with
  | error e => rfl
  | ok st1 => simp

/-- non-vacuity: a file that is a null directive only yields what a `#pragma warning` line and an empty line yield -/
example (inc : String → State → Except Err State) (st : State) :
    runFile inc "main" st [.null] = runFile inc "main" st [.pragmaWarning, .text []] :=
  null_directive_is_boundary_and_empty_line inc "main" st [] []

/-- non-vacuity: `A=1` then `B=2⏎` -/
example : initialMacros [] [⟨[.id "A"], [.int "1"]⟩, ⟨[.id "B"], [.int "2", .endline]⟩] = .error .invalidDefine := by
  rfl

/-- examples (the behaviour of fix 9f7cdb8, see notes/C12.md):
a name listed twice -- the later entry replaces the earlier one; `##` in a value is the paste operator;
a name `F(X)` defines a function-like macro. -/
example : initialMacros [] [⟨[.id "A"], [.int "1"]⟩, ⟨[.id "A"], [.int "2"]⟩] =
    .ok [⟨"A", false, 0, [⟨.int "2", true⟩]⟩] := by rfl
example : initialMacros [] [⟨[.id "A"], [.id "P", .ws, .hashhash, .ws, .id "Q"]⟩] =
    .ok [⟨"A", false, 0, [⟨.id "P", true⟩, ⟨.ws, true⟩, ⟨.concat, true⟩, ⟨.ws, true⟩, ⟨.id "Q", true⟩]⟩] := by rfl
example : initialMacros [] [⟨[.id "F", .lparen, .id "X", .rparen], [.id "X", .punct "+", .int "1"]⟩] =
    .ok [⟨"F", true, 1, [⟨.arg 0, true⟩, ⟨.punct "+", true⟩, ⟨.int "1", true⟩]⟩] := by rfl

/-- **macro_names_always_distinct.** Through a whole run of `preprocess` -- API defines, `#define`, `#undef`, nested
includes to any depth -- the macro list never holds two entries of one name (so the `assert_eq!` of the `undef` arm
cannot fail, by `define_undef_scoping`). -/
theorem macro_names_always_distinct (h : Handler) (fuel : Nat) (entry : String) (api : List ApiDefine)
    (lines : List Line) (st : State) (hrun : runInitial (includeFile h fuel) entry api lines = .ok st) :
    (names st.macros).Nodup := by
  unfold runInitial at hrun
  cases hi : initialMacros [] api with
  | error e => simp [hi] at hrun
  | ok ms =>
    simp only [hi] at hrun
    exact runFile_preserved preserved_nodup (includeFile_respects preserved_nodup h fuel) entry _ st lines hrun
      (initialMacros_nodup api (by simp [names]) hi)

theorem sinert_of_inert (env : List Entry) (ts : List PTok) (hs : List String) (h : Inert env ts) :
    SInert (specTable env) ((ppTokens ts).map fun t => ⟨t, hs⟩) := by
  intro t ht
  simp only [ppTokens, List.mem_map, List.mem_filter] at ht
  obtain ⟨k, ⟨p, ⟨hp, _⟩, rfl⟩, rfl⟩ := ht
  have := h p hp
  unfold InertTok at this
  unfold SInertTok
  simp only
  split
  · rename_i n hn
    simp only [hn] at this
    simp only [find, specTable, List.find?_eq_none, List.mem_map, beq_iff_eq]
    rintro x ⟨e, he, rfl⟩
    simpa [ofMacro] using this e he
  · trivial

/-- **expand_refines_spec_partial.** The model's expansion equals the reference algorithm (`Spec.CPreMacro.expand`,
Prosser's hide-set algorithm, for some fuel) on the invocation of an object-like macro whose replacement list, like
the surrounding text, contains no macro name and no `##`: both yield the surrounding tokens with the name replaced
by the replacement list (white space aside, which is not a token for the reference).
A special case, kept for the shape of its hypotheses: the macro list may hold further entries of the same name behind the
first (`post` is arbitrary), which the class of the general theorems excludes (`Selects.uniq`).  Replacement lists and
arguments with further invocations, function-like macros and `##` are `expand_refines_spec` and
`expand_refines_spec_with_paste` below; where the two algorithms differ (`differs_argument_repainted`,
`differs_empty_argument_next_to_paste`, ...) is Thm/C12Boundary.lean. -/
theorem expand_refines_spec_partial (pre post : List Entry) (m : Macro) (before after : List PTok) (b : Bool)
    (hpre : ∀ e ∈ pre, e.m.name ≠ m.name) (hobj : m.isFunction = false)
    (hnoarg : ∀ t ∈ m.body, ∀ i, t.tok ≠ .arg i) (hnohash : ∀ t ∈ m.body, t.tok ≠ .hashhash)
    (hbody : Inert (pre ++ ⟨m, false⟩ :: post) m.body)
    (hbefore : Inert (pre ++ ⟨m, false⟩ :: post) before)
    (hafter : Inert (pre ++ ⟨m, false⟩ :: post) after) :
    ∃ out fuel r,
      applyLoop (pre ++ ⟨m, false⟩ :: post) (before ++ ⟨.id m.name, b⟩ :: after) SearchPos.start = .ok out ∧
      expand (specTable (pre ++ ⟨m, false⟩ :: post)) fuel
        (plain (ppTokens (before ++ ⟨.id m.name, b⟩ :: after))) = .ok r ∧
      r.map (·.tok) = ppTokens out := by
  have hmodel := object_like_is_substitution pre post m before after b hpre hobj hnoarg hbody hbefore hafter
  -- the reference body is the model body without white space
  have hsb : (ofMacro m).body = ppTokens m.body := by
    refine (List.map_congr_left fun k hk => ?_).trans (List.map_id _)
    obtain ⟨t, ht, rfl⟩ := mem_ppTokens hk
    exact specBodyTok_plain _ (hnoarg t ht) fun hc => by simpa [InertTok, hc] using hbody t ht
  have hnh : Tok.hashhash ∉ (ofMacro m).body := by
    rw [hsb]
    simp only [ppTokens, List.mem_map, List.mem_filter, not_exists, not_and]
    intro t ⟨ht, _⟩ heq
    exact hnohash t ht heq
  have hS : SExp (specTable (pre ++ ⟨m, false⟩ :: post))
      (plain (ppTokens before) ++ ⟨.id m.name, []⟩ :: plain (ppTokens after))
      (plain (ppTokens before) ++ ((ppTokens m.body).map (⟨·, [m.name]⟩) ++ plain (ppTokens after))) := by
    apply sexp_inert_append (sinert_of_inert _ before [] hbefore)
    refine SExp.obj _ m.name (ofMacro m) _ _ _ rfl rfl (find_specTable_first pre post ⟨m, false⟩ hpre) (by simp [ofMacro, hobj])
      (fun ex => by rw [subst_object ex _ _ (by simp [ofMacro, hobj]) hnh, hsb]) ?_
    have := sexp_inert_append (r := []) (List.forall_mem_append.mpr
      ⟨sinert_of_inert _ m.body [m.name] hbody, sinert_of_inert _ after [] hafter⟩) SExp.nil
    simpa [plain] using this
  obtain ⟨fuel, hfuel⟩ := sexp_complete hS
  refine ⟨_, fuel, plain (ppTokens before) ++ ((ppTokens m.body).map (⟨·, [m.name]⟩) ++ plain (ppTokens after)),
    hmodel, ?_, ?_⟩
  · have := hfuel fuel (Nat.le_refl _)
    simpa [plain, ppTokens, Tok.isWhitespace] using this
  · simp [plain, ppTokens_append, List.map_map, Function.comp_def]


/-- all entries enabled, as `apply_macros` starts -/
def allEnabled (defs : List Macro) : List Entry := defs.map (⟨·, false⟩)

theorem entryNames_allEnabled (defs : List Macro) : entryNames (allEnabled defs) = defs.map (·.name) := by
  simp [entryNames, allEnabled, List.map_map, Function.comp_def]

theorem forall_mem_allEnabled {defs : List Macro} {P : Entry → Prop} :
    (∀ e ∈ allEnabled defs, P e) ↔ ∀ m ∈ defs, P ⟨m, false⟩ :=
  List.forall_mem_map

theorem specTable_allEnabled (defs : List Macro) : specTable (allEnabled defs) = defs.map ofMacro := by
  simp [specTable, allEnabled, List.map_map, Function.comp_def]

theorem hides_plain (defs : List Macro) (ks : List Tok) : Hides (allEnabled defs) (plain ks) := by
  refine ⟨?_, ?_⟩
  · intro t _ x hx
    obtain ⟨e, he, hd, _⟩ := mem_disabledNames.mp hx
    simp only [allEnabled, List.mem_map] at he
    obtain ⟨m, _, rfl⟩ := he
    cases hd
  · intro t ht n _ _ x hx
    simp only [plain, List.mem_map] at ht
    obtain ⟨k, _, rfl⟩ := ht
    cases hx

/-- **expand_refines_spec_with_paste.** The refinement theorem for macro tables with `##`: whenever a token list
(text: no `Concat` token, the lexer produces `HashHash`) has a tame expansion `out` in the sense of
`Lemmas.MacroTameP.TameP` -- `Tame` plus: a token next to `##` is pasted with its neighbour without either being
expanded, the merged token names no enabled macro and is read again; the arguments of an invocation contain no `##`;
an argument whose parameter stands next to `##` contains no enabled macro name and is not empty -- the model of
`apply_macros` returns `out` and the reference C algorithm returns the same tokens.
rssl pastes while it rescans a replacement list (left to right, interleaved with expansions), C pastes the whole
replacement list inside `subst` before it rescans: the proof goes through the *paste normal form* of the list rssl is
scanning (`PN`: every paste carried out, white space dropped), which is what the reference's list spells (`Sim`),
`doPastes_pn` (the reference's `doPastes` carries out exactly the pastes of the normal form) and `replaceParams_items`
(raw arguments next to `##`, expanded ones elsewhere).  The side conditions are the ones of `expand_refines_spec` plus
the three above; `differs_empty_argument_next_to_paste` shows the last one necessary. -/
theorem expand_refines_spec_with_paste (defs : List Macro) (toks out : List PTok) (hwf : ∀ m ∈ defs, WFMacroP m)
    (hnc : NoConcat toks) (h : TameP (allEnabled defs) toks out) :
    applyMacros defs toks = .ok out ∧
    ∃ fuel r, expand (defs.map ofMacro) fuel (plain (ppTokens toks)) = .ok r ∧ r.map (·.tok) = ppTokens out := by
  constructor
  · have := tameP_model h toks SearchPos.start 0 rfl (At.start _ _)
    simpa [applyMacros, allEnabled] using this
  · obtain ⟨ks, hpn, hsim⟩ := tameP_spec h (forall_mem_allEnabled.mpr hwf)
    obtain ⟨r, hs, hro⟩ := hsim (plain (ppTokens toks))
      (by rw [pn_noConcat_eq hnc hpn]; simp [plain, List.map_map, Function.comp_def]) (hides_plain defs _)
    obtain ⟨f, hf⟩ := sexp_complete hs
    rw [specTable_allEnabled] at hf
    exact ⟨f, r, hf f (Nat.le_refl _), hro.toks⟩

/-- **expand_refines_spec.** *The refinement theorem.*  Whenever a token list has a tame expansion `out` under a
macro table (`Lemmas.MacroTame.Tame`: macros are object-like or function-like with any number of parameters,
refer to themselves and to each other, invocations nest inside arguments and replacement lists, arguments contain
parenthesised commas, span lines, are empty), then
* the model of `apply_macros` returns `out`, and
* the reference C algorithm (`Spec.CPreMacro.expand`, Prosser's algorithm with per-token hide sets, rescanning the
  replacement list together with the rest of the source) returns, for some fuel, the same tokens -- white space aside,
  which is no token for the reference.
The relation between the two bookkeepings is `Lemmas.MacroTamePSpec.Hides`: in the list rssl is scanning, every
token's hide set contains the names of the disabled entries, and the tokens that name enabled macros have exactly
that hide set.  A derivation exists exactly for the inputs accepted by the decision procedure `tameRun`
(`tame_class_is_decided`), in particular for every input over a table of object-like macros (`object_like_refines_spec`); the
side conditions of `Tame` exclude the deviation classes `differs_*` below, and only those were found necessary:
replacement lists without `##` (`WFMacro.noConcat`; `paste_*` treat `##`), what an argument expands to names no enabled
macro (`OnlyDisabled`) -- or nothing is expanded in the argument at all (`AllKept`: the bare name of a function-like
macro that the replacement list goes on to invoke, `APPLY(NEG, a)`, `LIST(DECL)`: `agrees_on_higher_order_invocation`;
its token carries exactly the hide set of the invocation, `Lemmas.MacroTameSpec.Exact`) --, no invocation spans the end
of an expanded replacement list (`NoFire`), a function-like name that is not invoked is not followed by `(` (`Kept`). -/
theorem expand_refines_spec (defs : List Macro) (toks out : List PTok) (hwf : ∀ m ∈ defs, WFMacro m)
    (h : Tame (allEnabled defs) toks out) :
    applyMacros defs toks = .ok out ∧
    ∃ fuel r, expand (defs.map ofMacro) fuel (plain (ppTokens toks)) = .ok r ∧ r.map (·.tok) = ppTokens out :=
  expand_refines_spec_with_paste defs toks out
    (fun m hm => ⟨(hwf m hm).noHash, (hwf m hm).noParamName, (hwf m hm).argRange⟩) (tame_noConcat h) (tame_to_tameP h)

/-- **expand_refines_spec_decided.** Membership in the class of `expand_refines_spec` is decidable: if `tameRun`
(executable, `Model/MacroTame.lean`) accepts a token list under a table with pairwise distinct names, rssl's expansion
and the reference C algorithm both yield what it returns.  (The driver classifies every case of the correspondence run
with `tameRun`: a case it accepts on which the real preprocessor differs from the harness's independent reference
preprocessor is reported as a broken obligation.) -/
theorem expand_refines_spec_decided (defs : List Macro) (toks out : List PTok) (fuel : Nat)
    (hwf : ∀ m ∈ defs, WFMacro m) (hnd : (defs.map (·.name)).Nodup)
    (h : tameRun fuel (allEnabled defs) toks = some out) :
    applyMacros defs toks = .ok out ∧
    ∃ fuel' r, expand (defs.map ofMacro) fuel' (plain (ppTokens toks)) = .ok r ∧ r.map (·.tok) = ppTokens out :=
  expand_refines_spec defs toks out hwf
    (tameRun_sound fuel _ _ _ (by rwa [entryNames_allEnabled]) h)


/-- **tame_class_is_decided.** The class of `expand_refines_spec` is exactly what `tameRun` accepts: for a table with
pairwise distinct names, a token list has a tame expansion `out` iff `tameRun` returns `out` for some fuel. -/
theorem tame_class_is_decided (defs : List Macro) (toks out : List PTok) (hnd : (defs.map (·.name)).Nodup) :
    Tame (allEnabled defs) toks out ↔ ∃ fuel, tameRun fuel (allEnabled defs) toks = some out := by
  constructor
  · intro h
    obtain ⟨f, hf⟩ := tameRun_complete h
    exact ⟨f, hf f (Nat.le_refl _)⟩
  · rintro ⟨f, hf⟩
    exact tameRun_sound f _ _ _ (by rwa [entryNames_allEnabled]) hf

/-- **object_like_refines_spec.** Object-like macros in full: for every table of object-like macros (pairwise
distinct names, replacement lists without `##`) -- with replacement lists that mention other macros and themselves,
nested to any depth, self- and mutually referential -- and every token list, rssl's expansion equals the reference C
algorithm: expansion of a self- or mutually referential macro stops exactly where the C rule ("a macro name found
during the rescan of its own replacement is not replaced, and is no longer available for further replacement") says.
rssl rescans a replacement list in isolation with the macro's flag set, C rescans it together with the rest of the
source with the name in the hide set of every token of the list: with object-like macros only, no invocation spans
the end of a replacement list, so the two coincide. -/
theorem object_like_refines_spec (defs : List Macro) (toks : List PTok) (hnd : (defs.map (·.name)).Nodup)
    (hobj : ∀ m ∈ defs, m.isFunction = false) (hwf : ∀ m ∈ defs, WFMacro m) (hnc : NoConcat toks) :
    ∃ out fuel r, applyMacros defs toks = .ok out ∧
      expand (defs.map ofMacro) fuel (plain (ppTokens toks)) = .ok r ∧ r.map (·.tok) = ppTokens out := by
  obtain ⟨out, hT⟩ := tame_object_total _ (allEnabled defs) rfl (by rwa [entryNames_allEnabled])
    (forall_mem_allEnabled.mpr fun m hm => ⟨hobj m hm, (hwf m hm).noConcat, fun t ht i hi => by
      -- a parameter occurs in function-like macros only
      cases (hobj m hm).symm.trans ((hwf m hm).argRange t ht i hi).2⟩) toks hnc
  obtain ⟨h1, fuel, r, h2, h3⟩ := expand_refines_spec defs toks out hwf hT
  exact ⟨out, fuel, r, h1, h2, h3⟩


section Examples
/-- located tokens -/
private def L (ks : List Tok) : List PTok := ks.map (⟨·, true⟩)

/-- non-vacuity of `object_like_refines_spec`: `#define A A B`, `#define B A C`, `#define C B` (self- and mutually
referential), text `A B C` -/
example : ∃ out fuel r,
    applyMacros [⟨"A", false, 0, L [.id "A", .ws, .id "B"]⟩, ⟨"B", false, 0, L [.id "A", .ws, .id "C"]⟩,
      ⟨"C", false, 0, L [.id "B"]⟩] (L [.id "A", .ws, .id "B", .ws, .id "C"]) = .ok out ∧
    expand ([⟨"A", false, 0, L [.id "A", .ws, .id "B"]⟩, ⟨"B", false, 0, L [.id "A", .ws, .id "C"]⟩,
      ⟨"C", false, 0, L [.id "B"]⟩].map ofMacro) fuel (plain (ppTokens (L [.id "A", .ws, .id "B", .ws, .id "C"]))) = .ok r ∧
    r.map (·.tok) = ppTokens out := by
  apply object_like_refines_spec
  · decide
  · decide
  · intro m hm; exact wfMacro_of_wfB m (by revert m; decide)
  · unfold NoConcat; decide

/-- what the expansion is: `A` gives `A A B`, `B` gives `A B B`, `C` gives `A B C`: each name stops at its own
repetition -/
example : tameRun 12 (allEnabled [⟨"A", false, 0, L [.id "A", .ws, .id "B"]⟩, ⟨"B", false, 0, L [.id "A", .ws, .id "C"]⟩,
      ⟨"C", false, 0, L [.id "B"]⟩]) (L [.id "A", .ws, .id "B", .ws, .id "C"]) =
    some (L [.id "A", .ws, .id "A", .ws, .id "B", .ws, .id "A", .ws, .id "B", .ws, .id "B", .ws, .id "A", .ws, .id "B",
      .ws, .id "C"]) := by decide +kernel

/-- non-vacuity of `expand_refines_spec_decided`: `#define F(X,Y) X + Y`, `#define G(X) F(X, (X,2)) G(X)`; text
`G ( F(1,3) ) ;` -- a nested invocation inside an argument, an argument with a parenthesised comma, a blank before
the `(`, a self-reference -/
example : tameRun 20 (allEnabled [⟨"F", true, 2, L [.arg 0, .ws, .punct "+", .ws, .arg 1]⟩,
      ⟨"G", true, 1, L [.id "F", .lparen, .arg 0, .comma, .ws, .lparen, .arg 0, .comma, .int "2", .rparen, .rparen,
        .ws, .id "G", .lparen, .arg 0, .rparen]⟩])
      (L [.id "G", .ws, .lparen, .ws, .id "F", .lparen, .int "1", .comma, .int "3", .rparen, .ws, .rparen, .ws, .punct ";"]) =
    some (L [.int "1", .ws, .punct "+", .ws, .int "3", .ws, .punct "+", .ws, .lparen, .int "1", .ws, .punct "+", .ws,
      .int "3", .comma, .int "2", .rparen, .ws, .id "G", .lparen, .int "1", .ws, .punct "+", .ws, .int "3", .rparen,
      .ws, .punct ";"]) := by decide +kernel
end Examples


/-- **trailing_function_name_is_invoked.** An invocation that is completed by the text *after* an expansion
(`early_function_pos` / `last_macro_function_index`).  After an invocation was replaced by its expansion
`R0 ++ g :: blanks` (`P`: the tokens before it; `next_pos` behind the expansion, `early_function_pos` at its start,
`lastFn`: the macro just applied if it is function-like): if `g` is the name of an enabled function-like macro other
than the one just applied, only white space (blanks, comments, line ends) follows it inside the expansion -- e.g. what
is left of an empty argument or of a macro with an empty replacement list -- and the next token of the text behind the
expansion that is not white space is `(` (`startsParen`: since fix f08088c line ends are skipped here too), then `find_single_macro` reports an invocation of that macro at the position of `g`; whatever
precedes `g` in the expansion cannot be invoked (its `(` would lie inside the expansion).  The loop then reads the
arguments from the text behind the expansion (`applyLoop_user_step`).
Whether C does the same depends on the hide set of `g` and on what followed `g` when C looked at it:
`differs_painted_function_name_reinvoked`, `differs_function_name_before_vanished_macro` (Thm/C12Boundary.lean) are
inputs where it does not, `agrees_on_invocation_completed_after_expansion` inputs where it does. -/
theorem trailing_function_name_is_invoked (env : List Entry) (P R0 blanks rest : List PTok) (g : String) (b : Bool)
    (mj : Nat) (e : Entry) (lastFn : Option Nat)
    (hsel : Selects env g mj e) (hfn : e.m.isFunction = true) (hlast : lastFn ≠ some mj)
    (hnc : NoConcat R0) (hblank : ∀ t ∈ blanks, t.tok.isWhitespace = true)
    (hparen : startsParen rest = true) :
    findSingle (P ++ (R0 ++ ⟨.id g, b⟩ :: blanks) ++ rest)
      ⟨P.length + (R0 ++ ⟨.id g, b⟩ :: blanks).length, P.length, lastFn⟩ env =
      .ok (.user mj (P.length + R0.length)) :=
  early_scan_finds_trailing_name env P R0 blanks rest g b mj e lastFn hsel hfn hlast hnc hblank
    ((startsParen_iff rest).mp hparen)



/-- **invocation_may_continue_on_next_line** (fix f08088c).  Both places that look for the `(` of a function-like macro invocation read it the way
C does -- "the next token that is not white space is `(`", where white space is blanks, comments *and line ends*
(`startsParen`, the reference's reading): `find_single_macro` finds an `activate_pos` behind the name at `i` exactly
then, and `split_macro_args` answers `MacroRequiresArguments` exactly when it is not so.  For every token list. -/
theorem invocation_may_continue_on_next_line (toks : List PTok) (i : Nat) (name : String) :
    (parenAfter toks i).isSome = startsParen (toks.drop (i + 1)) ∧
    (splitArgs name (toks.drop (i + 1)) = .error (.macroRequiresArguments name) ↔
      startsParen (toks.drop (i + 1)) = false) := by
  refine ⟨parenAfter_iff_startsParen toks i, ?_⟩
  constructor
  · intro h
    cases hsp : startsParen (toks.drop (i + 1)) with
    | false => rfl
    | true =>
      obtain ⟨b, tail, ht⟩ := (startsParen_iff _).mp hsp
      unfold splitArgs at h
      rw [ht] at h
      have := scanArgs_error _ _ _ _ _ h
      cases this
  · intro h
    unfold splitArgs
    split
    · rename_i b tail ht
      have := (startsParen_iff _).mpr ⟨_, _, ht⟩
      rw [h] at this; cases this
    · rfl

/-- non-vacuity: `F` blank, line end, line end, `(` -/
example : (parenAfter [⟨.id "F", true⟩, ⟨.ws, true⟩, ⟨.endline, true⟩, ⟨.endline, true⟩, ⟨.lparen, true⟩,
    ⟨.int "1", true⟩, ⟨.rparen, true⟩] 0) = some 4 := by decide

/-- **parse_yields_wellformed_macro.** The hypothesis `WFMacro` of the refinement theorems is what `Macro::parse`
guarantees: for a `#define` (or API define) whose tokens are as the lexer produces them (no `MacroArg`, no `Concat`;
no identifier spelled `$…`, the reference's name of a parameter) and contain no `##`, the parsed macro is well formed:
parameter indices are in range and occur only in function-like macros, `##` would have become `Concat`. -/
theorem parse_yields_wellformed_macro (cmd : List PTok) (m : Macro) (h : parseDefine cmd = .ok m)
    (hlex : RsslVerif.Lemmas.MacroParseWF.LexerTokens cmd) (hnohash : ∀ t ∈ cmd, t.tok ≠ .hashhash) : WFMacro m :=
  RsslVerif.Lemmas.MacroParseWF.parseDefine_wf cmd m h hlex hnohash

/-- **paste_is_single_token.** `##` pastes its neighbours into one token: in a text whose other tokens start no
operation, the two tokens next to the operator (white space -- blanks, comments, line ends -- on either side of it
aside) are replaced, together with the operator and that white space, by one token, and that token is spelled like
the two operands joined (`spell`: what `unlex` writes).  Which joined spellings are one token is decided by
`pasteTokens`; `paste_matches_lexer` compares that with the lexer. -/
theorem paste_is_single_token (env : List Entry) (before w1 w2 after : List PTok) (lt c rt m : PTok)
    (hc : c.tok = .concat) (hw1 : ∀ t ∈ w1, t.tok.isWhitespace = true) (hw2 : ∀ t ∈ w2, t.tok.isWhitespace = true)
    (hlt : lt.tok.isWhitespace = false) (hrt : rt.tok.isWhitespace = false)
    (hpre : Inert env (before ++ lt :: w1)) (hpaste : pasteTokens lt rt = .ok m)
    (hpost : Inert env (m :: after)) :
    applyLoop env (before ++ lt :: (w1 ++ c :: (w2 ++ rt :: after))) SearchPos.start = .ok (before ++ m :: after) ∧
    spell m.tok = spell lt.tok ++ spell rt.tok :=
  ⟨paste_step env before w1 w2 after lt c rt m hc hw1 hw2 hlt hrt hpre hpaste hpost,
   (pasteTokens_spelling lt rt m hpaste).1⟩

/-- non-vacuity: `P ## 1 ;` (as left by the substitution of `#define CAT(X,Y) X ## Y` in `CAT(P,1);`) gives `P1 ;` -/
example : applyLoop [] ([] ++ ⟨.id "P", true⟩ :: ([⟨.ws, true⟩] ++ ⟨.concat, true⟩ :: ([⟨.ws, true⟩] ++
      ⟨.int "1", true⟩ :: [⟨.punct ";", true⟩]))) SearchPos.start = .ok ([] ++ ⟨.id "P1", true⟩ :: [⟨.punct ";", true⟩]) ∧
    spell (Tok.id "P1") = spell (Tok.id "P") ++ spell (Tok.int "1") := by
  apply paste_is_single_token [] [] _ _ _ ⟨.id "P", true⟩ ⟨.concat, true⟩ ⟨.int "1", true⟩ ⟨.id "P1", true⟩
  · rfl
  · intro t ht; simp at ht; subst ht; rfl
  · intro t ht; simp at ht; subst ht; rfl
  · rfl
  · rfl
  · exact inert_of_inertB (by decide)
  · rfl
  · exact inert_of_inertB (by decide)

/-- **paste_matches_lexer.** `pasteTokens` against the lexer (C10's model `Model.Lexer`, itself tied to lexer.rs):
(1) the model's keyword list is the union of the lexer's keyword table and its reserved words; (2) for an identifier
pasted with an identifier or a number whose joined spelling is identifier-shaped and no keyword, `pasteTokens` yields
the identifier of the joined spelling, and the lexer reads the joined text as exactly that identifier followed by the
line end it appends (the `[token, Endline]` shape `apply_single_macro` accepts) -- for every such pair of spellings;
(3) for the one-character operators of the model, `pasteTokens` merges a pair exactly when the lexer reads the two
characters as one token (all 49 pairs); (4) for a number pasted with a number whose joined spelling is a decimal
number without leading `0` of at most 19 digits, `pasteTokens` yields the integer token of the joined spelling and the
lexer reads the joined text as one integer literal with the value the digits denote (`lex_digits`, using C10's
`digitsWith_closed`).  Numbers in any other spelling (hex, octal, leading zeros, suffixes, more digits) are decided by
the lexer model itself: `paste_joins_source_spellings`.  A number pasted with an identifier (`1 ## x`) and a joined
spelling that is a keyword are answered `unsupported`. -/
theorem paste_matches_lexer :
    ((∀ s ∈ keywords, s ∈ RsslVerif.Gen.LexTables.keywords.map (·.1) ∨ s ∈ RsslVerif.Gen.LexTables.reservedWords) ∧
      (∀ s ∈ RsslVerif.Gen.LexTables.keywords.map (·.1), s ∈ keywords) ∧
      (∀ s ∈ RsslVerif.Gen.LexTables.reservedWords, s ∈ keywords)) ∧
    (∀ (a b : String) (k : String → Tok), (k = Tok.id ∨ k = Tok.int) →
      IdentText (RsslVerif.Model.Lexer.str (a ++ b)) → keywords.contains (a ++ b) = false →
      pasteTokens ⟨.id a, true⟩ ⟨k b, true⟩ = .ok ⟨.id (a ++ b), true⟩ ∧
      RsslVerif.Model.Lexer.readToEnd (RsslVerif.Model.Lexer.str (a ++ b)) =
        .ok [⟨.id (RsslVerif.Model.Lexer.str (a ++ b)), 0, (RsslVerif.Model.Lexer.str (a ++ b)).length⟩,
             ⟨.simple .Endline, (RsslVerif.Model.Lexer.str (a ++ b)).length,
               (RsslVerif.Model.Lexer.str (a ++ b)).length⟩]) ∧
    (∀ a ∈ modelOperators, ∀ b ∈ modelOperators,
      punctMerges.contains (a, b) = lexesToOneToken (RsslVerif.Model.Lexer.str (a ++ b))) ∧
    (∀ (a b : String),
      NumberText (RsslVerif.Model.Lexer.str (a ++ b)) →
      pasteTokens ⟨.int a, true⟩ ⟨.int b, true⟩ = .ok ⟨.int (a ++ b), true⟩ ∧
      RsslVerif.Model.Lexer.readToEnd (RsslVerif.Model.Lexer.str (a ++ b)) =
        .ok [⟨.litInt (RsslVerif.Spec.Dec2Bin.ofDigits 10
                (RsslVerif.Model.Lexer.digitRun RsslVerif.Model.Lexer.decDigit? (RsslVerif.Model.Lexer.str (a ++ b)))),
              0, (RsslVerif.Model.Lexer.str (a ++ b)).length⟩,
             ⟨.simple .Endline, (RsslVerif.Model.Lexer.str (a ++ b)).length,
               (RsslVerif.Model.Lexer.str (a ++ b)).length⟩]) :=
  ⟨keywords_agree, fun a b k hk hs hkw => paste_identifiers_matches_lexer a b k hk hs hkw,
   paste_operators_match_lexer, fun a b hs => paste_numbers_matches_lexer a b hs⟩


/-- **paste_joins_source_spellings.** `##` of two numbers in any spelling (hex, octal, leading zeros, suffixes), for
all operands: the model joins the two SOURCE SPELLINGS (`Tok.int` carries the spelling, as the real token carries its
span and `unlex` reads the text under it -- pinned by `source_shape`: `concatUsesSourceSpelling`) and the result is
decided by the lexer model of C10 on the joined spelling: (1) the paste succeeds, with the integer token spelled
`a ++ b`, iff the lexer reads `a ++ b` as one integer literal; (2) it is `ConcatFailed` iff the lexer does not read
exactly one token; (3) a successful paste never yields anything but the token spelled `a ++ b`; (4) with an identifier
on the left the result is the identifier spelled `a ++ b` whatever number spelling stands on the right.
(1)-(3) unfold the model: `pasteTokens` on two numbers is defined by calling `lexOne` on the joined spelling; what they
say about rssl rests on `source_shape` (`concatArmSpelling`) and on C10's tie of the lexer model to lexer.rs.
Concrete instances that a rendering of the operand's VALUE gets wrong follow as `example`s. -/
theorem paste_joins_source_spellings (a b : String) :
    (pasteTokens ⟨.int a, true⟩ ⟨.int b, true⟩ = .ok ⟨.int (a ++ b), true⟩ ↔
      ∃ t, lexOne (a ++ b) = some t ∧ isIntLiteral t = true) ∧
    (pasteTokens ⟨.int a, true⟩ ⟨.int b, true⟩ = .error .concatFailed ↔ lexOne (a ++ b) = none) ∧
    (∀ m, pasteTokens ⟨.int a, true⟩ ⟨.int b, true⟩ = .ok m → m = ⟨.int (a ++ b), true⟩) ∧
    (keywords.contains (a ++ b) = false → pasteTokens ⟨.id a, true⟩ ⟨.int b, true⟩ = .ok ⟨.id (a ++ b), true⟩) := by
  obtain ⟨h1, h2, h3⟩ := paste_number_spellings_match_lexer a b
  refine ⟨h1, h2, h3, ?_⟩
  intro hk
  have hk' : ¬ (a ++ b) ∈ keywords := by
    intro hm
    have : keywords.contains (a ++ b) = true := by simpa using hm
    rw [hk] at this; cases this
  simp [pasteTokens, hk']

-- non-vacuity, and the instances a value rendering gets wrong: `0x1 ## 0` is `0x10` = 16 (not `10`), `00 ## 7` is
-- `007` = 7, `v ## 0x10` is `v0x10` (not `v16`), `slot_ ## 007` is `slot_007` (not `slot_7`), `1u ## 2` is no token
example : pasteTokens ⟨.int "0x1", true⟩ ⟨.int "0", true⟩ = .ok ⟨.int "0x10", true⟩ ∧
    lexOne "0x10" = some (.litInt 16) :=
  have h : lexOne "0x10" = some (.litInt 16) := by decide +kernel
  ⟨(paste_joins_source_spellings "0x1" "0").1.mpr ⟨_, h, rfl⟩, h⟩
example : pasteTokens ⟨.int "00", true⟩ ⟨.int "7", true⟩ = .ok ⟨.int "007", true⟩ ∧
    lexOne "007" = some (.litInt 7) :=
  have h : lexOne "007" = some (.litInt 7) := by decide +kernel
  ⟨(paste_joins_source_spellings "00" "7").1.mpr ⟨_, h, rfl⟩, h⟩
example : pasteTokens ⟨.int "1", true⟩ ⟨.int "2u", true⟩ = .ok ⟨.int "12u", true⟩ ∧
    lexOne "12u" = some (.litIntU32 12) :=
  have h : lexOne "12u" = some (.litIntU32 12) := by decide +kernel
  ⟨(paste_joins_source_spellings "1" "2u").1.mpr ⟨_, h, rfl⟩, h⟩
example : pasteTokens ⟨.id "v", true⟩ ⟨.int "0x10", true⟩ = .ok ⟨.id "v0x10", true⟩ :=
  (paste_joins_source_spellings "v" "0x10").2.2.2 (by decide +kernel)
example : pasteTokens ⟨.id "slot_", true⟩ ⟨.int "007", true⟩ = .ok ⟨.id "slot_007", true⟩ :=
  (paste_joins_source_spellings "slot_" "007").2.2.2 (by decide +kernel)
example : pasteTokens ⟨.int "1u", true⟩ ⟨.int "2", true⟩ = .error .concatFailed :=
  (paste_joins_source_spellings "1u" "2").2.1.mpr (by decide +kernel)

/-- **expand_refines_spec_with_paste_decided.** The class with `##` is decided by `tameRunP`
(`Model/MacroTame.lean`): what it accepts (table with pairwise distinct names) is what rssl and the reference C
algorithm both yield.  The driver classifies every program of the correspondence run with it (`C12.tame`): about half
of the generated programs lie in the class. -/
theorem expand_refines_spec_with_paste_decided (defs : List Macro) (toks out : List PTok) (fuel : Nat)
    (hwf : ∀ m ∈ defs, WFMacroP m) (hnd : (defs.map (·.name)).Nodup) (hnc : NoConcat toks)
    (h : tameRunP fuel (allEnabled defs) toks = some out) :
    applyMacros defs toks = .ok out ∧
    ∃ fuel' r, expand (defs.map ofMacro) fuel' (plain (ppTokens toks)) = .ok r ∧ r.map (·.tok) = ppTokens out :=
  expand_refines_spec_with_paste defs toks out hwf hnc
    (tameRunP_sound fuel _ _ _ (by rwa [entryNames_allEnabled]) h)


/-- **tame_class_is_part_of_class_with_paste.** Every `Tame` derivation over a table whose replacement lists contain
no `##` is a `TameP` derivation: `expand_refines_spec` is the `##`-free special case of
`expand_refines_spec_with_paste`. -/
theorem tame_class_is_part_of_class_with_paste (defs : List Macro) (toks out : List PTok)
    (hb : ∀ m ∈ defs, NoConcat m.body) (h : Tame (allEnabled defs) toks out) : TameP (allEnabled defs) toks out :=
  tame_to_tameP h

section ExamplesP
private def LP (ks : List Tok) : List PTok := ks.map (⟨·, true⟩)

/-- non-vacuity: `#define CAT(X,Y) X ## Y`, `#define V(X) CAT(v_, X) + CAT(X, 1)`, `#define ID(X) X`;
text `ID(V(a)) CAT(+, +)`: both operands parameters, a paste inside a nested invocation, an operator paste -/
example : tameRunP 30 (allEnabled [⟨"CAT", true, 2, LP [.arg 0, .ws, .concat, .ws, .arg 1]⟩,
      ⟨"V", true, 1, LP [.id "CAT", .lparen, .id "v_", .comma, .ws, .arg 0, .rparen, .ws, .punct "+", .ws,
        .id "CAT", .lparen, .arg 0, .comma, .ws, .int "1", .rparen]⟩,
      ⟨"ID", true, 1, LP [.arg 0]⟩])
      (LP [.id "ID", .lparen, .id "V", .lparen, .id "a", .rparen, .rparen, .ws, .id "CAT", .lparen, .punct "+", .comma,
        .ws, .punct "+", .rparen]) =
    some (LP [.id "v_a", .ws, .punct "+", .ws, .id "a1", .ws, .punct "++"]) := by decide +kernel
end ExamplesP

/-- **include_is_paste.** If `#include "f"` succeeds (the file loads -- `real`: the real name the include handler
reports for it, which is the file's identity since fix d66a6d7 --, is not marked `#pragma once`, and has no
top-level `#pragma once` line of its own), then replacing the directive by the lines of `f`, placed between two
directives without effect (`#pragma warning`: they stand for the two block boundaries the inclusion creates --
macro invocations do not span the start or the end of an included file), gives exactly the same state: same output
tokens, same macro list, same once-set.  (`pre`, `post`: the lines before and after the directive; nested
includes inside `f` are processed by the same recursive call on both sides.) -/
theorem include_is_paste (h : Handler) (fuel : Nat) (cur f real : String) (lines pre post : List Line)
    (s r : State × List PTok)
    (hload : h f = some (real, lines))
    (hnot : ∀ s' : State × List PTok,
        foldLines (includeFile h (fuel + 1)) cur s pre = .ok s' → s'.1.once.contains real = false)
    (hne : lines ≠ []) (hno : Line.pragmaOnce ∉ lines)
    (hrun : foldLines (includeFile h (fuel + 1)) cur s (pre ++ [.incl f] ++ post) = .ok r) :
    foldLines (includeFile h (fuel + 1)) cur s
      (pre ++ [.pragmaWarning] ++ lines ++ [.pragmaWarning] ++ post) = .ok r := by
  simp only [List.append_assoc] at hrun ⊢
  rw [foldLines_append] at hrun ⊢
  cases hpre : foldLines (includeFile h (fuel + 1)) cur s pre with
  | error e => simp [hpre] at hrun
  | ok s1 =>
    obtain ⟨st1, act1⟩ := s1
    simp only [hpre] at hrun ⊢
    simp only [List.cons_append, List.nil_append, foldLines, stepLine] at hrun ⊢
    cases hfl : flush st1 act1 with
    | error e => simp [hfl] at hrun
    | ok st2 =>
      simp only [hfl] at hrun ⊢
      have honce : st2.once.contains real = false := by
        have := hnot _ hpre
        simpa [flush_once hfl] using this
      simp only [includeFile, hload, honce, Bool.false_eq_true, if_false] at hrun
      simp only [runFile, fileStart_of_ne_nil hne] at hrun
      rw [foldLines_append]
      cases hin : foldLines (includeFile h fuel) real (st2, []) lines with
      | error e => simp [hin] at hrun
      | ok s3 =>
        obtain ⟨st3, act3⟩ := s3
        simp only [hin] at hrun
        -- the same lines, read as part of the including file and with one more unit of fuel
        have h1 : foldLines (includeFile h (fuel + 1)) cur (st2, []) lines = .ok (st3, act3) := by
          rw [foldLines_cur_irrelevant _ cur real _ _ hno]
          exact foldLines_mono (includeFile_fuel_mono h fuel) real _ lines _ hin
        simp only [h1, foldLines, stepLine]
        exact hrun


/-- **include_of_empty_file.** The case `include_is_paste` leaves out: a file without lines contributes exactly the
line end the lexer adds to an empty file (white space: nothing after `prepare_tokens`), no macro, no once-mark. -/
theorem include_of_empty_file (h : Handler) (fuel : Nat) (f real : String) (st : State)
    (hload : h f = some (real, [])) :
    includeFile h (fuel + 1) f st = .ok { st with out := st.out ++ [eol] } := by
  simp only [includeFile, hload, runFile, fileStart, foldLines, flush, applyMacros_eol, ite_self]

/-- **pragma_once_once.** Once a file with a top-level `#pragma once` line has been processed, it -- the file the
include handler says it really is (`real`, fix d66a6d7: the once-set holds file identities, not include names) -- is in
the once-set, it stays there for the rest of the compilation (the set only grows, through every nested include), and
every later `#include` that reaches this file, *under the same or any other include name `g`*, contributes nothing but
the line end the lexer adds to an empty file: no macro is defined or removed and no other token is emitted. -/
theorem pragma_once_once (h : Handler) (fuel : Nat) (f real : String) (lines : List Line) (st st1 : State)
    (hload : h f = some (real, lines)) (hmem : Line.pragmaOnce ∈ lines) (hfresh : st.once.contains real = false)
    (hrun : includeFile h (fuel + 1) f st = .ok st1) :
    real ∈ st1.once ∧
    (∀ (fuel' : Nat) (g : String) (st2 : State), includeFile h fuel' g st1 = .ok st2 → real ∈ st2.once) ∧
    (∀ (fuel' : Nat) (g : String) (lines' : List Line) (st2 : State), h g = some (real, lines') → real ∈ st2.once →
      includeFile h (fuel' + 1) g st2 = .ok { st2 with out := st2.out ++ [eol] }) := by
  have h1 : real ∈ st1.once := by
    simp only [includeFile, hload, hfresh, Bool.false_eq_true, if_false] at hrun
    revert hrun
    fun_cases runFile (includeFile h fuel) real st lines <;> intro hrun
    · cases hrun
    · rename_i st3 act3 hin
      have := foldLines_marks (includeFile_respects preserved_once h fuel) real _ _ lines hmem hin
      simpa [flush_once hrun] using this
  refine ⟨h1, ?_, ?_⟩
  · intro fuel' g st2 hr
    exact includeFile_respects preserved_once h fuel' g st1 st2 hr real h1
  · intro fuel' g lines' st2 hg hin
    have hc : st2.once.contains real = true := by simpa using hin
    simp only [includeFile, hg, hc, if_true, runFile, fileStart, foldLines, flush, applyMacros_eol]

/-- non-vacuity of the alias case: `h.h` = `#pragma once`, reached as `h.h` and as `dir/../h.h`: processing it under
the first name marks the real file, under the second name it then contributes one line end (fix d66a6d7) -/
example :
    let hh : Handler := fun n => if n = "h.h" ∨ n = "dir/../h.h" then some ("h.h", [.pragmaOnce]) else none
    includeFile hh 1 "h.h" ⟨[], [], []⟩ = .ok ⟨[], [], ["h.h"]⟩ ∧
    includeFile hh 1 "dir/../h.h" ⟨[], [], ["h.h"]⟩ = .ok ⟨[], [eol], ["h.h"]⟩ := by
  intro hh
  constructor
  · simp [hh, includeFile, runFile, fileStart, foldLines, stepLine, flush_nil]
  · simp [hh, includeFile, runFile, fileStart, foldLines, flush, applyMacros_eol]

end RsslVerif.Thm.C12
