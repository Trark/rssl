import RsslVerif.Lemmas.GenSemStmt
import RsslVerif.Spec.SemIeee
/-!
# C01 — HLSL export preserves the meaning of every accepted program (scalar subset)

Theorems about `Model.GenHlsl` (the exporter) against `Spec.Sem` (typed IR semantics vs C-like semantics of the
emitted syntax), for every interpretation `P : Prim` of float arithmetic, conversions and integer division.
-/
namespace RsslVerif.Thm.C01
open RsslVerif.Gen.HlslGenTables RsslVerif.Gen.HlslIntrinsicTables RsslVerif.Model RsslVerif.Model.GenHlsl RsslVerif.Spec.Sem RsslVerif.Lemmas.GenSem
open RsslVerif.Model.Ir (Ty Var Const Dir)

/-- `generate_intrinsic_op`'s table (re-extracted from the source on every run) maps every typed operator to the syntax
operator whose C meaning is the RSSL meaning of the typed operator; the operators it panics on have no meaning here. -/
theorem op_table_is_identity :
    (∀ o u, opForm o = .unary u → astUnSem u = irOpSem o) ∧
    (∀ o b, opForm o = .binary b → astBinSem b = irOpSem o) ∧
    (∀ o, opForm o = .unexpected → irOpSem o = .unsupported) := by
  refine ⟨fun _ _ => op_unary, fun _ _ => op_binary, ?_⟩
  intro o h; cases o <;> cases h <;> rfl


/-- no two typed operators that the exporter accepts are printed as the same syntax operator (the table merges nothing) -/
theorem op_table_injective : ∀ a b : IntrinsicOp, opForm a = opForm b → opForm a ≠ .unexpected → a = b := by
  have key : ∀ a ∈ IntrinsicOp.all, ∀ b ∈ IntrinsicOp.all, opForm a = opForm b → opForm a ≠ .unexpected → a = b := by
    decide +kernel
  exact fun a b => key a (IntrinsicOp.mem_all a) b (IntrinsicOp.mem_all b)

/-- `generate_intrinsic_function`'s table (243 intrinsics, re-extracted on every run) invokes every modelled pure
math / bit intrinsic under the name HLSL gives exactly that built-in, and `Form::Invoke` passes the arguments in order -/
theorem intrinsic_table_is_identity :
    (∀ p ∈ Ast.builtins, intrinsicForm p.2 = .invoke p.1 ∧ Ast.hlslBuiltin p.1 = some p.2) ∧
    invokeFormAsModelled = true :=
  ⟨builtins_table_ok, by decide⟩

/-- the expansion of the two forms, the `Sequence` fold, the `Cast` arm and the ternary arm of the source have the
shape `Model.GenHlsl` mirrors, and so has the label handling of `generate_scope_block` / `generate_statement`
(textual facts re-extracted on every run).  `statementArmsAsModelled`: `match &statement.kind` has exactly one arm per
`ir::StatementKind`, none guarded, each textually the modelled one; `ifElseArmAsModelled`: the one IfElse arm emits the
condition unmodified and both blocks in order, whether or not a block is empty (seeded mutant C01-3 put a guarded arm
in front that emits `if (<opposite of c>) B` for an empty first block: both facts become `false`);
`expressionArmsAsModelled`: the same for `match expr` of `generate_expression` (one unguarded arm per `ir::Expression`
variant; leaf, operator, call and ternary arms textually as modelled). -/
theorem exporter_shape_as_modelled :
    unaryFormAsModelled = true ∧ binaryFormAsModelled = true ∧ sequenceRightNested = true ∧
    sequenceAssertsTwo = true ∧ castDropsOnlyLiteralTargets = true ∧ ternaryInOrder = true ∧
    scopeBlockAsModelled = true ∧ labelsEmittedEmpty = true ∧
    statementArmsAsModelled = true ∧ ifElseArmAsModelled = true ∧ statementWrapperAsModelled = true ∧
    forInitAsModelled = true ∧ expressionArmsAsModelled = true ∧ helperBodiesAsModelled = true := by decide +kernel

/-- **statement attributes** (`[branch]`, `[flatten]`, `[unroll]`, `[unroll(n)]`, `[loop]`, `[fastopt]`,
`[allow_uav_condition]`; hints without a meaning in either semantics, outside `Ir.Stmt`): the exporter's table and the
type checker's table (both re-extracted) are inverse to each other — every attribute variant is emitted under a name the
type checker reads back as that very variant, every variant is emitted, no two variants share a name, and only
`Unroll(Some(v))` carries an argument (the count `v` as an unsuffixed literal).  So the attribute written in the source
is the attribute emitted; that it stays on its statement is `statementWrapperAsModelled` (and the harness's oracle). -/
theorem statement_attribute_names_roundtrip :
    (∀ e ∈ statementAttributeEmitted, (e.2.2.1, e.1) ∈ statementAttributeParsed) ∧
    (∀ k ∈ statementAttributeKinds, ∃ e ∈ statementAttributeEmitted, e.1 = k) ∧
    (∀ e ∈ statementAttributeEmitted, e.1 ∈ statementAttributeKinds) ∧
    (∀ e₁ ∈ statementAttributeEmitted, ∀ e₂ ∈ statementAttributeEmitted, e₁.2.2.1 = e₂.2.2.1 → e₁.1 = e₂.1) ∧
    (∀ p₁ ∈ statementAttributeParsed, ∀ p₂ ∈ statementAttributeParsed, p₁.1 = p₂.1 → p₁.2 = p₂.2) ∧
    (∀ e ∈ statementAttributeEmitted, (e.2.2.2 = "count" ↔ (e.1 = "Unroll" ∧ e.2.1 = "Some(v)"))) := by
  decide +kernel

/-- **literals**: whatever `generate_literal` emits for a constant has the constant's value, and its static type is the
constant's type — except that a typed `Int32` constant becomes an *unsuffixed* literal (static type "literal int"),
with the same integer value (`Sim` / `astTy` / `astVal`).  Covers `-0` (`IntLiteral 0`), negative values (printed as
unary minus applied to the magnitude), `u32::MAX`, `i32::MAX`, and every 32-bit float pattern incl. `-0.0f`, NaNs. -/
theorem literal_value_preserved (W : World) (env : Ast.Env) (c : Const) (a : HlslAst.Expr)
    (hg : genLiteral c = .ok a) : Sim W env (.lit c) a c.ty :=
  sim_lit W env c a hg

/-- the literal function is **total** on the modelled constants, `Int32(i32::MIN)` included (the magnitude is taken with
`unsigned_abs`, /repo commit b1ff3d2); only an `IntLiteral` of magnitude above `u64::MAX` has no tree (a reported export
error, see `literal_never_panics`; reachable from source text only through constant folding, e.g. `case 1 << 100:`) -/
theorem literal_total (c : Const) (h2 : ∀ v, c = .intLit v → -u64Max ≤ v ∧ v ≤ u64Max) : ∃ a, genLiteral c = .ok a := by
  cases c with
  | bool b => exact ⟨_, genLiteral_bool b⟩
  | float32 x => exact ⟨_, genLiteral_float32 x⟩
  | floatLit x => exact ⟨_, genLiteral_floatLit x⟩
  | uint32 v => exact ⟨_, genLiteral_uint32 v⟩
  | int32 v => rw [genLiteral_int32]; split <;> exact ⟨_, rfl⟩
  | intLit v =>
    have := h2 v rfl
    rw [genLiteral_intLit]
    by_cases hn : v < 0
    · exact ⟨_, if_pos ⟨hn, by omega⟩⟩
    · rw [if_neg (fun h => hn h.1), if_pos ⟨by omega, this.2⟩]; exact ⟨_, rfl⟩

/-- **`generate_literal` never panics** on a modelled constant (the behaviour of /repo commit 6017bad): every constant is either exported or —
exactly when it is an `IntLiteral` of magnitude above `u64::MAX` — refused with `Err(GenerateError::IntLiteralOutOfRange)`,
i.e. the program is rejected with a diagnostic. -/
theorem literal_never_panics :
    (∀ c : Const, (∃ a, genLiteral c = .ok a) ∨ genLiteral c = .error (.diag "IntLiteralOutOfRange")) ∧
    (∀ v : Int, (v < -u64Max ∨ u64Max < v) → genLiteral (.intLit v) = .error (.diag "IntLiteralOutOfRange")) ∧
    (∀ (c : Const) m, genLiteral c ≠ .error (.panic m)) := by
  have big : ∀ v : Int, (v < -u64Max ∨ u64Max < v) → genLiteral (.intLit v) = .error (.diag "IntLiteralOutOfRange") := by
    intro v hv
    have h1 : ¬ (v < 0 ∧ -v ≤ u64Max) := by simp only [u64Max] at hv ⊢; omega
    have h2 : ¬ (0 ≤ v ∧ v ≤ u64Max) := by simp only [u64Max] at hv ⊢; omega
    rw [genLiteral_intLit, if_neg h1, if_neg h2]
  have all : ∀ c : Const, (∃ a, genLiteral c = .ok a) ∨ genLiteral c = .error (.diag "IntLiteralOutOfRange") := by
    intro c
    by_cases h : ∀ v, c = .intLit v → -u64Max ≤ v ∧ v ≤ u64Max
    · exact .inl (literal_total c h)
    · cases c with
      | intLit v =>
        have hr : ¬ (-u64Max ≤ v ∧ v ≤ u64Max) := fun hr => h (fun w hw => by cases hw; exact hr)
        exact .inr (big v (by omega))
      | _ => exact absurd (fun v hv => by cases hv) h
  refine ⟨all, big, fun c m hm => ?_⟩
  rcases all c with ⟨a, ha⟩ | hd
  · rw [ha] at hm; cases hm
  · rw [hd] at hm; cases hm

/-- `i32::MIN` is emitted as unary minus applied to the *unsuffixed* literal `2147483648`.  Under the C-like semantics of
`Spec.Sem` an unsuffixed literal is a literal int (exact integer, as in HLSL / in RSSL's own `IntLiteral`), so the
operand has value 2147483648 and type literal int, the negation is exact, and the value -2147483648 converts to `int`
without loss wherever the exporter places it: meaning **is** preserved for this constant too — it is an instance of
`literal_value_preserved`. -/
theorem literal_int32_min (W : World) (env : Ast.Env) :
    genLiteral (.int32 (BitVec.intMin 32)) = .ok (.un .Minus (.lit (.intUntyped 2147483648))) ∧
    Ast.typeOf W.sig env (.un .Minus (.lit (.intUntyped 2147483648))) = some .lit ∧
    (∀ σ, Ast.eval W env (.un .Minus (.lit (.intUntyped 2147483648))) σ = some (.lit (-2147483648), σ)) ∧
    castVal W.P .int (.lit (-2147483648)) = some (.i (BitVec.intMin 32)) := by
  have h : (BitVec.intMin 32).toInt < 0 := by decide
  have hg : genLiteral (.int32 (BitVec.intMin 32)) = .ok (.un .Minus (.lit (.intUntyped 2147483648))) := by
    rw [genLiteral_int32, if_pos h]; rfl
  have hs := (sim_lit W env _ _ hg).lit
  refine ⟨hg, hs.1, fun σ => ?_, ?_⟩
  · rw [hs.2 σ]; rfl
  · simp [castVal]; decide

/-! ## meaning preservation: expressions, statements, functions, programs

Hypotheses, in the property's words: *the type checker accepted the program* = `Ir.typeOf … = some t` / `Ir.wtStmts`
(mirrors `get_type` + the assertions of `get_return_type`), with the side conditions spelled out in `Spec/SemWT`
(`litOK`: an operator never has *only* unsuffixed typed `Int32` constants as operands; no cast *to* a literal type);
*the emitted names denote the IR's entities* = `Agree cx env` (the conclusion of property C15, an input here).
Everything is for an arbitrary `W : World`, i.e. for every interpretation `W.P` of the float/conversion/division
primitives, every meaning `W.phi` of the callable functions and every signature table. -/

/-- **expressions**: the emitted expression has a static type `ta` under C rules, and — converted to the IR's type `t`,
which is what every context the exporter places it in does — evaluates to exactly the IR's value and store, from every
store.  (`ta = t` unless the expression is an unsuffixed `Int32` constant, see `gen_sem_expr_plain`.)  All expression
constructors of the model: constants, locals, globals, every unary/binary/assignment/increment operator, `?:`,
`Sequence`, casts, calls of user functions with in/out/inout arguments. -/
theorem gen_sem_expr {W : World} {env : Ast.Env} {cx : Ctx} (hag : Agree cx env)
    (e : Ir.Expr) (a : HlslAst.Expr) (t : Ty)
    (hg : genExpr cx e = .ok a) (ht : Ir.typeOf W.sig cx.vty e = some t) (hl : Ir.litOK e = true) :
    ∃ ta, Ast.typeOf W.sig env a = some ta ∧ ∀ σ, Ast.convR W.P ta t (Ast.eval W env a σ) = Ir.eval W e σ :=
  ⟨astTy e t, (sim_expr hag e a t hg ht hl).1, fun σ => (sim_expr hag e a t hg ht hl).conv ht σ⟩

/-- …and without any conversion when the expression is not a bare `Int32` constant: same static type, same result. -/
theorem gen_sem_expr_plain {W : World} {env : Ast.Env} {cx : Ctx} (hag : Agree cx env)
    (e : Ir.Expr) (a : HlslAst.Expr) (t : Ty)
    (hg : genExpr cx e = .ok a) (ht : Ir.typeOf W.sig cx.vty e = some t) (hl : Ir.litOK e = true)
    (hn : Ir.litlike e = false) :
    Ast.typeOf W.sig env a = some t ∧ ∀ σ, Ast.eval W env a σ = Ir.eval W e σ :=
  (sim_expr hag e a t hg ht hl).plain hn

/-- **statements** (expression statement, declaration with initialiser, block, if, if/else, for with every kind of init,
while, do-while, break, continue, return, `switch`, `case` and `default` labels): same control-flow outcome and same
store, from every store, *for every fuel* (iterations allowed per loop) and *for every way of entering the statement*
(`m`: executing, or looking for the `case`/`default` label of the enclosing `switch` — C's jump into the block). -/
theorem gen_sem_stmt {W : World} {env : Ast.Env} {cx : Ctx} (hag : Agree cx env) (rt : Ty) (lt : Option Ty)
    (s : Ir.Stmt) (s' : HlslAst.Stmt) (hg : genStmt cx s = .ok s') (hwt : Ir.wtStmt W.sig cx.vty rt lt s = true)
    (m : Mode) (hm : ModeOK lt m) :
    ∀ fuel σ, Ast.exec W env rt fuel m s' σ = Ir.exec W fuel m s σ :=
  sim_stmt hag rt s s' lt hg hwt m hm

/-- **statement lists** = `generate_scope_block`, including its label handling (the IR has `CaseLabel`/`DefaultLabel` as
statements of their own; the exporter makes each label own the statement that follows it — another label included, so
`case 2: case 3:` is one statement and the last label of the run keeps its `;` — and appends otherwise): the restructured
list means the same as the flat one, in every mode — in particular fall-through, `break`, `default` in any position and consecutive labels are preserved. -/
theorem gen_sem_stmts {W : World} {env : Ast.Env} {cx : Ctx} (hag : Agree cx env) (rt : Ty) (lt : Option Ty)
    (b : Ir.Stmts) (b' : HlslAst.Stmts) (hg : genStmts cx b = .ok b') (hwt : Ir.wtStmts W.sig cx.vty rt lt b = true)
    (m : Mode) (hm : ModeOK lt m) :
    ∀ fuel σ, Ast.execs W env rt fuel m b' σ = Ir.execs W fuel m b σ :=
  execs_of_acc (sim_acc hag rt b .nil b' lt hg hwt m hm)

/-- the label-filling step of `generate_scope_block` alone, for *any* statements (not only generated ones): pushing `s`
onto the statements so far means "…and then `s`" -/
theorem scope_block_push_is_append (W : World) (env : Ast.Env) (rt : Ty) (fuel : Nat) (s : HlslAst.Stmt)
    (acc : HlslAst.Stmts) (m : Mode) (σ : Store) :
    Ast.execs W env rt fuel m (HlslAst.pushStmt acc s) σ =
      bindS m (Ast.execs W env rt fuel m acc σ) (fun m' σ' => Ast.execs W env rt fuel m' (.cons s .nil) σ') :=
  by simp only [ast_execs]; exact execs_push (ast_labelled W env rt fuel) s (exec_run_ne_seeking W env rt fuel s) acc m σ

/-- **functions**: for all argument values and every initial store the emitted definition yields the same return
value, the same final parameter values (`out`/`inout`) and the same final store (static globals). -/
theorem gen_sem_func {W : World} {env : Ast.Env} {cx : Ctx} (hag : Agree cx env)
    (fn : Ir.Func) (afn : HlslAst.Func) (hg : genFunc cx fn = .ok afn)
    (hwt : Ir.wtStmts W.sig cx.vty fn.ret none fn.body = true) :
    ∀ fuel vals σ, Ast.callFunc W env fuel afn vals σ = Ir.callFunc W fuel fn vals σ :=
  sim_func hag hg hwt

/-- **programs**: with the callee semantics no longer a parameter — the functions of the emitted program, run by the
C-like semantics against the signature table a C front end builds from the emitted definitions, compute what the
functions of the typed program compute, at every call depth, every loop fuel, for every `Prim`.
(One name environment for the module: emitted names unique across functions; `gen_sem_func` needs only one function's.) -/
theorem gen_sem_program {env : Ast.Env} {cx : Ctx} (hag : Agree cx env)
    (prog : List Ir.Func) (astProg : List HlslAst.Func) (hg : genProg cx prog = .ok astProg)
    (hwt : ∀ fn ∈ prog, Ir.wtStmts (Ir.sigOf prog) cx.vty fn.ret none fn.body = true) (P : Prim) (fuel d : Nat) :
    Ast.phi P env astProg fuel d = Ir.phi P prog fuel d :=
  sim_phi hag hg hwt P fuel d

/-- an interpretation of the primitives that computes nothing of interest: the witnesses below do not depend on it -/
def P0 : Prim where
  fbin _ x _ := x
  fcmp _ _ _ := false
  fneg x := x
  fstep _ x := x
  idiv _ x _ := x
  imod _ x _ := x
  i2f x := x
  u2f x := x
  f2i x := x
  f2u x := x
  f2b _ := false
  d2f _ := 0
  intr _ _ _ := none

/-- `P0`, no callable function -/
def W0 : World := { P := P0, phi := fun _ _ _ => none, sig := fun _ => none }

/-- the name context of the examples: locals `l`, `ll`, …, globals `g`, `gg`, …, functions `Z`, `ZZ`, … -/
def cx0 : Ctx where
  locName n := String.ofList (List.replicate (n + 1) 'l')
  globName n := String.ofList ('g' :: List.replicate n 'g')
  funcName n := String.ofList ('Z' :: List.replicate n 'Z')
  vty
    | .loc 0 => .bool
    | .loc 1 => .int
    | .loc _ => .uint
    | .glob _ => .int

/-- reads the names of `cx0` back: the length of the name is the id -/
def env0 : Ast.Env where
  res s := match s.toList with
    | 'l' :: r => some (.loc r.length)
    | 'g' :: r => some (.glob r.length)
    | _ => none
  vty := cx0.vty
  fres s := match s.toList with
    | 'Z' :: r => some r.length
    | _ => none

theorem agree0 : Agree cx0 env0 where
  res x := by unfold cx0 env0; cases x <;> simp [Ctx.name, List.replicate_succ]
  vty := rfl
  fres f := by unfold cx0 env0; simp
  builtin := by decide +kernel


/-- `(2147483647 + t) > 0` with `t : bool`, as the type checker elaborates it: `Cast(IntLiteral, t)` -/
def eWitness : Ir.Expr :=
  .op .GreaterThan (.cons (.op .Add (.cons (.lit (.intLit 2147483647)) (.cons (.cast .lit (.var 0)) .nil))) (.cons (.lit (.intLit 0)) .nil))

def σt : Store := fun _ => .b true

/-- `generate_expression` drops a cast whose target is a literal type ("they occur only where they would get implicitly
converted").  For `Cast(IntLiteral, bool)` that is not an identity: the IR computes `2147483647 + 1` exactly (`true`),
the emitted `2147483647 + t > 0` is 32-bit arithmetic under C rules (`false`).  So meaning preservation is **false** for
the exporter as it is, outside the hypothesis "no cast to a literal type".  Replayed on the real compiler: corpus/C01.txt
`bool f1(bool t) { return (2147483647 + t) > 0; }` with `t = true` (known finding). -/
theorem cast_to_literal_dropped_changes_meaning :
    ∃ a, genExpr cx0 eWitness = .ok a ∧
      (Ir.eval W0 eWitness σt).map (·.1) = some (.b true) ∧ (Ast.eval W0 env0 a σt).map (·.1) = some (.b false) := by
  refine ⟨.bin .GreaterThan (.bin .Add (.lit (.intUntyped 2147483647)) (.ident "l")) (.lit (.intUntyped 0)), rfl, ?_, ?_⟩ <;> decide

/-- `P0` with the IEEE-754 comparisons and conversions (`Spec/SemIeee`, the drivers' concrete interpretation) -/
def Pnan : Prim := P0.withIeee
def Wnan : World := { P := Pnan, phi := fun _ _ _ => none, sig := fun _ => none }

/-- quiet NaN and 1.0 -/
def qnan : BitVec 32 := 0x7FC00000#32
def one32 : BitVec 32 := 0x3F800000#32

/-- `gen_sem_*` quantify over every `Prim`, and a `Prim` has six independent comparison functions: nothing relates `>=`
to `<`.  Under the IEEE-754 interpretation with a NaN operand `a >= b` is *not* `!(a < b)` (both are false), likewise
for the other three ordering pairs, and `a == a`, `a <= a` are false.  So an exporter may not replace a comparison by
"the opposite comparison" of the negated condition: the theorems would not hold for that exporter, and this is the
interpretation that separates them. -/
theorem opposite_comparison_is_not_negation :
    ∃ (P : Prim) (a b : BitVec 32),
      P.fcmp .ge a b ≠ (!P.fcmp .lt a b) ∧ P.fcmp .gt a b ≠ (!P.fcmp .le a b) ∧
      P.fcmp .le a b ≠ (!P.fcmp .gt a b) ∧ P.fcmp .lt a b ≠ (!P.fcmp .ge a b) ∧
      P.fcmp .eq a a = false ∧ P.fcmp .le a a = false ∧ P.fcmp .ne a a = true :=
  ⟨Pnan, qnan, one32, by decide⟩

/-- float locals `l`, `ll`, int local `lll` -/
def cxF : Ctx := { cx0 with vty := fun x => match x with | .loc 0 => .float | .loc 1 => .float | _ => .int }
def envF : Ast.Env := { env0 with vty := cxF.vty }

/-- `if (l < ll) { } else { lll = 1; }` -/
def sIfElse : Ir.Stmt :=
  .ifElse (.op .LessThan (.cons (.var 0) (.cons (.var 1) .nil))) .nil
    (.cons (.expr (.op .Assignment (.cons (.var 2) (.cons (.lit (.int32 1)) .nil)))) .nil)

/-- what seeded mutant C01-3 emits for it: `if (l >= ll) { lll = 1; }` -/
def aOpposite : HlslAst.Stmt :=
  .ifThen (.bin .GreaterEqual (.ident "l") (.ident "ll"))
    (.block (.cons (.expr (.bin .Assignment (.ident "lll") (.lit (.intUntyped 1)))) .nil))

/-- `l` = NaN, `ll` = 1.0, `lll` = 0 -/
def σnan : Store := fun x => match x with | .loc 0 => .f qnan | .loc 1 => .f one32 | _ => .i 0

/-- the flow and the final value of `lll` -/
def obs3 (r : SR) : Option (Flow × Val) := r.map fun p => (p.1, p.2 (.loc 2))

/-- **negation witness for the rewrite of seeded mutant C01-3.**  The exporter as modelled emits
`if (l < ll) { } else { lll = 1; }` for the IR statement (both blocks, in order, the condition unmodified) and that tree
means what the IR means (an instance of `gen_sem_stmt`: `lll = 1` when `l` is NaN); the tree with the "opposite"
condition and only the second block, `if (l >= ll) { lll = 1; }`, leaves `lll = 0` on the same store. -/
theorem ifelse_opposite_condition_changes_meaning :
    ∃ a, genStmt cxF sIfElse = .ok a ∧
      a = .ifElse (.bin .LessThan (.ident "l") (.ident "ll")) (.block .nil)
            (.block (.cons (.expr (.bin .Assignment (.ident "lll") (.lit (.intUntyped 1)))) .nil)) ∧
      obs3 (Ir.exec Wnan 1 .run sIfElse σnan) = some (.normal, .i 1) ∧
      obs3 (Ast.exec Wnan envF .int 1 .run a σnan) = some (.normal, .i 1) ∧
      obs3 (Ast.exec Wnan envF .int 1 .run aOpposite σnan) = some (.normal, .i 0) := by
  refine ⟨_, rfl, rfl, ?_, ?_, ?_⟩ <;> decide

/-- `int f(inout uint p2) { for (int v1 = 0; v1 < 3; ++v1) { p2 += 1u; g0 = g0 + v1; } return (int)p2 - -5; }` -/
def fEx : Ir.Func where
  id := 7
  ret := .int
  params := [(2, .inout, .uint)]
  body :=
    .cons (.for (.defs [(1, some (.lit (.int32 0)))])
        (some (.op .LessThan (.cons (.var 1) (.cons (.lit (.int32 3)) .nil))))
        (some (.op .PrefixIncrement (.cons (.var 1) .nil)))
        (.cons (.expr (.op .SumAssignment (.cons (.var 2) (.cons (.lit (.uint32 1)) .nil))))
          (.cons (.expr (.op .Assignment (.cons (.global 0) (.cons (.op .Add (.cons (.global 0) (.cons (.var 1) .nil))) .nil)))) .nil)))
      (.cons (.ret (some (.op .Subtract (.cons (.cast .int (.var 2)) (.cons (.lit (.int32 (-5))) .nil))))) .nil)

/-- `switch (v1) { case 1: g0 = 10; break; case 2: case -3: g0 = g0 + 5; default: g0 = g0 + 7; }` (fall-through,
consecutive labels, a negative label, `default` last) -/
def swEx : Ir.Stmts :=
  .cons (.switch .int (.var 1)
    (.cons (.caseLabel (.intLit 1))
    (.cons (.expr (.op .Assignment (.cons (.global 0) (.cons (.lit (.int32 10)) .nil))))
    (.cons .break
    (.cons (.caseLabel (.intLit 2))
    (.cons (.caseLabel (.intLit (-3)))
    (.cons (.expr (.op .Assignment (.cons (.global 0) (.cons (.op .Add (.cons (.global 0) (.cons (.lit (.int32 5)) .nil))) .nil))))
    (.cons .defaultLabel
    (.cons (.expr (.op .Assignment (.cons (.global 0) (.cons (.op .Add (.cons (.global 0) (.cons (.lit (.int32 7)) .nil))) .nil))))
    .nil))))))))) .nil

example : Ir.wtStmts W0.sig cx0.vty .int none swEx = true := by decide
/-- what the exporter makes of it: `case 1:` owns its assignment; `case 2:` owns `case -3:`, which keeps the empty
statement (`case 2: case -3: ;`), and the assignment that follows is appended as a sibling; `default:` owns its statement -/
example : ∃ c1 c2 c3 d, genStmts cx0 swEx = .ok (.cons (.switch (.ident "ll") (.block
    (.cons (.caseLabel (.lit (.intUntyped 1)) c1)
    (.cons .break
    (.cons (.caseLabel (.lit (.intUntyped 2)) (.caseLabel (.un .Minus (.lit (.intUntyped 3))) c2))
    (.cons c3
    (.cons (.defaultLabel d) .nil))))))) .nil) := ⟨_, _, _, _, rfl⟩

/-- the hypotheses of the theorems hold for a loop with an `inout` parameter, a static global, an unsuffixed negative
constant and a cast; the names agree (`agree0`); the exporter produces a definition for it -/
example : Ir.wtStmts W0.sig cx0.vty fEx.ret none fEx.body = true := by decide
example : ∃ afn, genFunc cx0 fEx = .ok afn := ⟨_, rfl⟩
example : Agree cx0 env0 := agree0
/-- `max(v1, 3)` at `int`, `sqrt((float)v1)`: accepted, exported, and covered by `gen_sem_expr` -/
example : Ir.typeOf W0.sig cx0.vty (.intr .Max .int .int (.cons (.var 1) (.cons (.lit (.int32 3)) .nil))) = some .int ∧
    Ir.litOK (.intr .Max .int .int (.cons (.var 1) (.cons (.lit (.int32 3)) .nil))) = true ∧
    genExpr cx0 (.intr .Max .int .int (.cons (.var 1) (.cons (.lit (.int32 3)) .nil))) =
      .ok (.call "max" (.cons (.ident "ll") (.cons (.lit (.intUntyped 3)) .nil))) := ⟨by decide, by decide, rfl⟩
/-- …and the instance of `gen_sem_func` it yields -/
example (afn : HlslAst.Func) (h : genFunc cx0 fEx = .ok afn) (fuel : Nat) (vals : List Val) (σ : Store) :
    Ast.callFunc W0 env0 fuel afn vals σ = Ir.callFunc W0 fuel fEx vals σ :=
  gen_sem_func agree0 fEx afn h (by decide) fuel vals σ

/-! ### non-vacuity of the literal theorems -/
example : genLiteral (.int32 (-5)) = .ok (.un .Minus (.lit (.intUntyped 5))) := by rfl
example : genLiteral (.intLit 0) = .ok (.lit (.intUntyped 0)) := by rfl
example : genLiteral (.uint32 0xFFFFFFFF) = .ok (.lit (.intUnsigned32 4294967295)) := by rfl
example : genLiteral (.int32 (BitVec.intMin 32 + 1)) = .ok (.un .Minus (.lit (.intUntyped 2147483647))) := by rfl
example : genLiteral (.float32 0x80000000) = .ok (.lit (.float32 0x80000000)) := by rfl

end RsslVerif.Thm.C01
