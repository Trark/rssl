import RsslVerif.Lemmas.ElabRelease
import RsslVerif.Lemmas.Overload
/-!
# C03 — accepted programs elaborate to well-typed IR; ill-typed programs are rejected

Statements are about `Model.Conv.find` / `targetType` (model of `ImplicitConversion::find` / `get_target_type`),
`Model.Elab.elabE` / `elabStmt` (model of `parse_expr_internal` / `parse_statement`) and the typing judgment
`Model.IrTyping.HasType` (written from `Expression::get_type` / `IntrinsicOp::get_return_type`, asserts as premises).
All are universally quantified: any environment, any expression nesting, any types.
-/
namespace RsslVerif.Thm.C03
open RsslVerif.Gen.RankTable RsslVerif.Gen.TypingTables RsslVerif.Model.Conv RsslVerif.Model.Overload
open RsslVerif.Model.IrTyping RsslVerif.Model.Elab RsslVerif.Lemmas.ElabConv RsslVerif.Lemmas.Elab
open RsslVerif.Lemmas.ElabForms RsslVerif.Lemmas.ElabExact RsslVerif.Lemmas.ElabRelease RsslVerif.Lemmas.ElabPlace
open RsslVerif.Lemmas.Overload
open RsslVerif.Spec.Overload

/-- **`find` is sound**: every conversion `ImplicitConversion::find` returns produces exactly the requested type —
    `get_target_type` does not panic on it and gives the destination's value category, layer **and modifier**, also for a
    numeric cast between equally modified types such as `const int → const float` (the case fix 828cdd4 is about). -/
theorem find_sound {s d : ETy} {c : Conversion} (h : find s d = .ok (some c)) : targetType c = .ok d :=
  targetType_ok h

/-- non-vacuity: `const int` lvalue → `const float` rvalue and `volatile int` lvalue → `volatile float` rvalue are found,
    with a numeric cast, and carry the modifier cast -/
example :
    (match find ⟨⟨{ isConst := true }, .scalar .int32⟩, .lvalue⟩ ⟨⟨{ isConst := true }, .scalar .float32⟩, .rvalue⟩,
           find ⟨⟨{ volatile := true }, .scalar .int32⟩, .lvalue⟩ ⟨⟨{ volatile := true }, .scalar .float32⟩, .rvalue⟩ with
     | .ok (some c1), .ok (some c2) => c1.primary.isSome && c1.modCast.isSome && c2.primary.isSome && c2.modCast.isSome
     | _, _ => false) = true := by decide +kernel

/-- an rvalue never converts to an lvalue -/
theorem find_rejects_rvalue_to_lvalue (s d : ETy) (hs : s.vt = .rvalue) (hd : d.vt = .lvalue) :
    find s d = .ok none := by
  simp [find, hs, hd]

/-- a conversion towards an lvalue never drops `const` (nor `volatile`) -/
theorem find_keeps_const {s d : ETy} (hd : d.vt = .lvalue)
    (hc : (s.ty.mod.isConst = true ∧ d.ty.mod.isConst = false) ∨ (s.ty.mod.volatile = true ∧ d.ty.mod.volatile = false))
    (c : Conversion) : find s d ≠ .ok (some c) := by
  intro h
  obtain ⟨_, _, _, _, _, hm⟩ := find_inv h
  simp only [hd, decide_true] at hm
  unfold modifierCast at hm
  have hne : s.ty.mod ≠ d.ty.mod := by
    intro he
    rw [he] at hc
    rcases hc with ⟨h1, h2⟩ | ⟨h1, h2⟩ <;> simp [h1] at h2
  simp only [hne, ne_eq, not_false_eq_true, if_true] at hm
  rcases hc with ⟨h1, h2⟩ | ⟨h1, h2⟩ <;> simp [h1, h2] at hm

/-- an rvalue, or a const value for a parameter that is not const, does not convert to an `out` / `inout` parameter -/
theorem find_none_of_out_arg {a : ETy} {p : Param} (hio : p.io.needsLvalue = true)
    (h : a.vt = .rvalue ∨ (a.ty.mod.isConst = true ∧ p.ty.mod.isConst = false)) : find a p.ety = .ok none := by
  have hl : p.ety.vt = .lvalue := by simp [Param.ety, hio]
  rcases h with hv | ⟨hca, hcp⟩
  · exact find_rejects_rvalue_to_lvalue a p.ety hv hl
  · obtain ⟨r, hr⟩ := RsslVerif.Lemmas.Conv.find_no_panic a p.ety
    cases r with
    | none => exact hr
    | some c' => exact absurd hr (find_keeps_const hl (Or.inl ⟨hca, by simpa [Param.ety] using hcp⟩) c')

/-- **Accepted expressions are well typed — in debug and release builds.**  If the type checker accepts an
    expression and computes type `τ` for it, the produced IR expression has type `τ` under the IR's own typing rules,
    and so has — at some type — every sub-expression, including the ones `Expression::get_type` never looks at (call
    arguments, cast operands, conditions).  By induction over all source expressions; the proof does not use the
    debug-only type query of `parse_expr_internal`, it shows every node is built with operands of the right types. -/
theorem elab_sound {Γ : Env} {dbg : Bool} {e : SExpr} {e' : IExpr} {τ : ETy} (h : elabE dbg Γ e = .ok (e', τ)) :
    HasType Γ e' τ := elab_sound_any dbg e e' τ h

/-- **The debug-build type query is redundant**: `parse_expr_internal`'s `cfg(debug_assertions)` check (and
    `parse_expr`'s unconditional one) never fires; debug and release builds produce the same typed expression, the same
    diagnostic or the same panic for every expression (among them `volatile int b; b = 1;`, `b++`, `(int)(b = 1)`, the
    cases fixes 828cdd4 / 660cfa4 / 276433e are about). -/
theorem elab_debug_check_redundant {Γ : Env} (e : SExpr) : elabE true Γ e = elabE false Γ e := elab_debug_eq e

/-- non-vacuity: `v0 = v1 + 1` with `float v0; const int v1` is accepted and elaborates to
    `Assignment(v0, Cast(float, Add(Cast(int, v1), 1)))` -/
example :
    (match elabE true { vars := [⟨{}, .scalar .float32⟩, ⟨{ isConst := true }, .scalar .int32⟩], funcs := [] }
        (.bin .assignment (.var 0) (.bin .add (.var 1) (.lit .intLiteral))) with
     | .ok (.op .assignment (.cons (.var 0) (.cons (.cast _ (.op .add (.cons (.cast _ (.var 1)) (.cons (.lit .int32) .nil)))) .nil)), τ) =>
       decide (τ = ⟨⟨{}, .scalar .float32⟩, .lvalue⟩)
     | _ => false) = true := by decide +kernel

/-- **Every referenced definition exists**: all variable and function ids of an accepted expression are allocated
    in the environment (a consequence of the typing judgment, whose rules look the ids up) -/
theorem ids_in_range {Γ : Env} {dbg : Bool} {e : SExpr} {e' : IExpr} {τ : ETy} (h : elabE dbg Γ e = .ok (e', τ)) :
    IdsInRange Γ e' := ids_of_hasType e' τ (elab_sound h)

/-- what it means for a typed statement to be well typed -/
def StmtTyped (Γ : Env) : IStmt → Prop
  | .expr e => ∃ τ, HasType Γ e τ
  | .ret none => Γ.ret = none
  | .ret (some e) => ∃ τ, HasType Γ e τ
  | .init _ e => ∃ τ, HasType Γ e τ

/-- accepted statements (expression statement, `return`, initialised definition) are well typed, conversions to the
    return / variable type included -/
theorem elabStmt_sound {Γ : Env} {dbg : Bool} {s : SStmt} {s' : IStmt} (h : elabStmt dbg Γ s = .ok s') :
    StmtTyped Γ s' := by
  rcases elabStmt_cases h with ⟨e, e', τ, rfl, he, rfl⟩ | ⟨rfl, hr, rfl⟩ | ⟨e, e', τ, rt, e2, t2, rfl, he, hrt, hc, rfl⟩ |
    ⟨t, e, e', τ, e2, t2, rfl, he, hc, rfl⟩
  · exact ⟨τ, elab_sound he⟩
  · exact hr
  · exact convert_typed ⟨τ, elab_sound he⟩ hc
  · exact convert_typed ⟨τ, elab_sound he⟩ hc

/-! ## ill-typed programs are rejected

Each statement says the expression is **never accepted** (`≠ .ok _`), in debug and release builds alike, whatever the
other operands are: it may be rejected with the diagnostic of the violation, or earlier because another operand is
ill-typed. -/

/-- assignment family (`=`, `+=`, ..., `^=`): a left operand of const type is never accepted -/
theorem elab_rejects_assign_to_const {Γ : Env} {dbg : Bool} {o : BinOp} {a b : SExpr} {a' : IExpr} {τa : ETy}
    (ho : o.cls = .assign) (ha : elabE dbg Γ a = .ok (a', τa)) (hc : τa.ty.mod.isConst = true) :
    ∀ r, elabE dbg Γ (.bin o a b) ≠ .ok r := by
  intro r h
  simp only [elabE, ha] at h
  split at h
  · simp at h
  · simp only [ho] at h
    simp [elabAssign, hc] at h

/-- assignment family: a left operand that is not an lvalue (a literal, `a + b`, a function result, a cast, `a++`,
    `c ? a : b`, ... see `rvalue_forms`) is never accepted -/
theorem elab_rejects_assign_to_rvalue {Γ : Env} {dbg : Bool} {o : BinOp} {a b : SExpr} {a' : IExpr} {τa : ETy}
    (ho : o.cls = .assign) (ha : elabE dbg Γ a = .ok (a', τa)) (hv : τa.vt = .rvalue) :
    ∀ r, elabE dbg Γ (.bin o a b) ≠ .ok r := by
  intro r h
  simp only [elabE, ha] at h
  split at h
  · simp at h
  · simp only [ho] at h
    by_cases hc : τa.ty.mod.isConst = true <;> simp [elabAssign, hc, hv] at h

/-- `++` / `--` (prefix and postfix) on a const or non-lvalue operand is never accepted -/
theorem elab_rejects_increment {Γ : Env} {dbg : Bool} {o : UnOp} {e : SExpr} {e' : IExpr} {τ : ETy}
    (ho : o = .prefixIncrement ∨ o = .prefixDecrement ∨ o = .postfixIncrement ∨ o = .postfixDecrement)
    (he : elabE dbg Γ e = .ok (e', τ)) (hv : τ.vt = .rvalue ∨ τ.ty.mod.isConst = true) :
    ∀ r, elabE dbg Γ (.un o e) ≠ .ok r := by
  intro r h
  simp only [elabE, he] at h
  have hen : ∃ m, enforceIncrement τ = .error m := by
    unfold enforceIncrement
    rcases hv with hv | hv
    · simp [hv]
    · by_cases hr : τ.vt = .rvalue <;> simp [hr, hv]
  obtain ⟨m, hm⟩ := hen
  rcases ho with rfl | rfl | rfl | rfl <;> simp [elabUn, hm] at h

/-- **Calls.**  If no function of the called name can take the arguments (each one has the wrong number of
    parameters or a parameter some argument does not convert to), the call is never accepted. -/
theorem elab_rejects_call {Γ : Env} {dbg : Bool} {name : Nat} {args : SArgs} {args' : IArgs} {ts : List ETy}
    (ha : elabArgs dbg Γ args = .ok (args', ts)) (hn : ∀ c ∈ candidates Γ name, NotCallable c ts) :
    ∀ r, elabE dbg Γ (.call name args) ≠ .ok r := by
  intro r h
  obtain ⟨as1, ts1, ha1, hcall⟩ := elabE_call_ok (n := r.1) (τ' := r.2) h
  rw [ha] at ha1; cases ha1
  obtain ⟨id, _, _, hsel, _⟩ := elabCall_inv hcall
  exact resolve_not_selected hn id hsel

/-- wrong number of arguments: never accepted -/
theorem elab_rejects_arity {Γ : Env} {dbg : Bool} {name : Nat} {args : SArgs} {args' : IArgs} {ts : List ETy}
    (ha : elabArgs dbg Γ args = .ok (args', ts))
    (hn : ∀ c ∈ candidates Γ name, c.params.length < ts.length ∨ ts.length < c.nonDefault) :
    ∀ r, elabE dbg Γ (.call name args) ≠ .ok r :=
  elab_rejects_call ha fun c hc => by
    unfold NotCallable
    rcases hn c hc with h | h
    · exact Or.inl h
    · exact Or.inr (Or.inl h)

/-- an argument without implicit conversion to the parameter type (e.g. a struct for an `int`): never accepted -/
theorem elab_rejects_unconvertible {Γ : Env} {dbg : Bool} {name : Nat} {args : SArgs} {args' : IArgs} {ts : List ETy}
    (ha : elabArgs dbg Γ args = .ok (args', ts))
    (hn : ∀ c ∈ candidates Γ name, ∃ (i : Nat) (p : Param) (a : ETy), c.params[i]? = some p ∧ ts[i]? = some a ∧ find a p.ety = .ok none) :
    ∀ r, elabE dbg Γ (.call name args) ≠ .ok r :=
  elab_rejects_call ha fun c hc => by
    unfold NotCallable
    exact Or.inr (Or.inr (hn c hc))

/-- an rvalue argument for an `out` / `inout` parameter: never accepted -/
theorem elab_rejects_out_arg_rvalue {Γ : Env} {dbg : Bool} {name : Nat} {args : SArgs} {args' : IArgs} {ts : List ETy}
    (ha : elabArgs dbg Γ args = .ok (args', ts))
    (hn : ∀ c ∈ candidates Γ name, ∃ (i : Nat) (p : Param) (a : ETy), c.params[i]? = some p ∧ ts[i]? = some a ∧
      p.io.needsLvalue = true ∧ a.vt = .rvalue) :
    ∀ r, elabE dbg Γ (.call name args) ≠ .ok r :=
  elab_rejects_unconvertible ha fun c hc => by
    obtain ⟨i, p, a, hp, hta, hio, hv⟩ := hn c hc
    exact ⟨i, p, a, hp, hta, find_none_of_out_arg hio (Or.inl hv)⟩

/-- a const argument for an `out` / `inout` parameter (whose type is not const): never accepted -/
theorem elab_rejects_out_arg_const {Γ : Env} {dbg : Bool} {name : Nat} {args : SArgs} {args' : IArgs} {ts : List ETy}
    (ha : elabArgs dbg Γ args = .ok (args', ts))
    (hn : ∀ c ∈ candidates Γ name, ∃ (i : Nat) (p : Param) (a : ETy), c.params[i]? = some p ∧ ts[i]? = some a ∧
      p.io.needsLvalue = true ∧ a.ty.mod.isConst = true ∧ p.ty.mod.isConst = false) :
    ∀ r, elabE dbg Γ (.call name args) ≠ .ok r :=
  elab_rejects_unconvertible ha fun c hc => by
    obtain ⟨i, p, a, hp, hta, hio, hca, hcp⟩ := hn c hc
    exact ⟨i, p, a, hp, hta, find_none_of_out_arg hio (Or.inr ⟨hca, hcp⟩)⟩

/-- `return e;` where `e` does not convert to the function's return type, and any `return e;` in a `void`
    function, are rejected with `WrongTypeInReturnStatement` -/
theorem elab_rejects_return_type {Γ : Env} {dbg : Bool} {e : SExpr} {e' : IExpr} {τ : ETy}
    (he : elabTop dbg Γ e = .ok (e', τ))
    (hr : Γ.ret = none ∨ ∃ rt, Γ.ret = some rt ∧ find τ rt.r = .ok none) :
    elabStmt dbg Γ (.ret (some e)) = .error (.reject "WrongTypeInReturnStatement") := by
  simp only [elabStmt, he]
  rcases hr with hr | ⟨rt, hr, hf⟩
  · simp [hr]
  · simp [hr, convert, hf]

/-- `return;` in a function that returns a value is rejected -/
theorem elab_rejects_return_void {Γ : Env} {dbg : Bool} {rt : Ty} (hr : Γ.ret = some rt) :
    elabStmt dbg Γ (.ret none) = .error (.reject "WrongTypeInReturnStatement") := by
  simp [elabStmt, hr]

/-- environment of the non-vacuity example: `int v0; S0 v1; const int v2; int f0(out int);` -/
def exEnv : Env :=
  { vars := [⟨{}, .scalar .int32⟩, ⟨{}, .other 0⟩, ⟨{ isConst := true }, .scalar .int32⟩],
    funcs := [⟨0, [⟨⟨{}, .scalar .int32⟩, .out⟩], 1, ⟨{}, .scalar .int32⟩⟩] }

def exRejected (e : SExpr) : Bool :=
  match elabE true exEnv e with
  | .error (.reject "FunctionArgumentTypeMismatch") => true
  | _ => false

/-- non-vacuity of the call theorems: with `int f0(out int)`: `f0(1)`, `f0(v0 + v0)`, `f0()`, `f0(v0, v0)`, `f0(s)` for
    a struct, `f0(c)` for a `const int` are all rejected by the model, and `f0(v0)` is accepted unchanged -/
example :
    (exRejected (.call 0 (.cons (.lit .intLiteral) .nil)) &&
     exRejected (.call 0 (.cons (.bin .add (.var 0) (.var 0)) .nil)) &&
     exRejected (.call 0 .nil) && exRejected (.call 0 (.cons (.var 0) (.cons (.var 0) .nil))) &&
     exRejected (.call 0 (.cons (.var 1) .nil)) && exRejected (.call 0 (.cons (.var 2) .nil)) &&
     (match elabE true exEnv (.call 0 (.cons (.var 0) .nil)) with
      | .ok (.call 0 (.cons (.var 0) .nil), _) => true
      | _ => false)) = true := by
  decide +kernel

/-! ## what the judgment says about operators (the asserts of `get_return_type` as consequences of `HasType`) -/

/-- an assignment-family node that has a type has an lvalue left operand and both operands of exactly the same type -/
theorem assignment_operands {Γ : Env} {o : IOp} {a b : IExpr} {τ : ETy}
    (ho : o.rule.lhsLvalue = true ∧ o.rule.sameTypes = true)
    (h : HasType Γ (.op o (.cons a (.cons b .nil))) τ) :
    ∃ ta tb, HasType Γ a ta ∧ HasType Γ b tb ∧ ta.ty = tb.ty ∧ ta.vt = .lvalue := by
  cases h with
  | op hargs hret =>
    cases hargs with
    | cons ha hr =>
      cases hr with
      | cons hb hn =>
        cases hn
        exact ⟨_, _, ha, hb, opReturn_same ho.2 hret, opReturn_lvalue ho.1 hret⟩

/-- a binary operator node that has a type has two operands of exactly the same type -/
theorem binary_operands_equal {Γ : Env} {o : IOp} {a b : IExpr} {τ : ETy} (ho : o.rule.sameTypes = true)
    (h : HasType Γ (.op o (.cons a (.cons b .nil))) τ) :
    ∃ ta tb, HasType Γ a ta ∧ HasType Γ b tb ∧ ta.ty = tb.ty := by
  cases h with
  | op hargs hret =>
    cases hargs with
    | cons ha hr =>
      cases hr with
      | cons hb hn =>
        cases hn
        exact ⟨_, _, ha, hb, opReturn_same ho hret⟩

/-- every operator the elaboration of a binary source operator can produce asserts equal operand types, and the
    assignment family additionally an lvalue on the left (table fact, re-extracted from intrinsics.rs / expressions.rs) -/
theorem binop_rules (b : BinOp) (i : IOp) (h : b.toIOp = some i) :
    i.rule.sameTypes = true ∧ i.rule.arity = some 2 ∧ (b.cls = .assign → i.rule.lhsLvalue = true) :=
  have hr := toIOp_rule b i h
  ⟨hr.1, hr.2.1, fun hc => (hr.2.2.1 hc).1⟩

/-- **Accepted assignments.**  An accepted `a op= b` elaborates to an assignment-family operator whose left operand
    is a non-const lvalue and whose right operand has exactly the type of the left one (the conversion is explicit);
    the result is the left operand's type. -/
theorem elab_assign_exact {Γ : Env} {dbg : Bool} {o : BinOp} {a b : SExpr} {e' : IExpr} {τ : ETy} (ho : o.cls = .assign)
    (h : elabE dbg Γ (.bin o a b) = .ok (e', τ)) :
    ∃ i a' b' ta tb, e' = .op i (.cons a' (.cons b' .nil)) ∧ HasType Γ a' ta ∧ HasType Γ b' tb ∧
      ta.ty = tb.ty ∧ ta.vt = .lvalue ∧ ta.ty.mod.isConst = false ∧ τ = ta := by
  obtain ⟨a1, τa, b1, τb, ha, hb, hn⟩ := elabE_bin_ok h
  simp only [ho] at hn
  obtain ⟨hconst, hlv, _, i, b', tb, hi, rfl, h1, h2, hret⟩ := elabAssign_ok (elab_sound hb) hn
  -- the assignment family returns `param_types[0]`
  obtain ⟨_, _, hts, _, _, hres, _⟩ := opReturn_ok hret
  cases hts
  exact ⟨i, a1, b', τa, tb, rfl, elab_sound ha, h1, h2.symm, hlv, hconst, hres ((toIOp_rule o i hi).2.2.1 ho).2⟩

theorem ofDim_concrete {s : Scalar} (d : Dim) (h : s ≠ .intLiteral ∧ s ≠ .floatLiteral) :
    (Layer.ofDim s d).extractScalar ≠ some .intLiteral ∧ (Layer.ofDim s d).extractScalar ≠ some .floatLiteral := by
  cases d <;> simp [Layer.ofDim, Layer.extractScalar, h.1, h.2]

/-- table fact about the re-extracted `Gen.TypingTables.litVecRemap` -/
theorem litVecRemap_concrete (s : Scalar) : litVecRemap s ≠ .intLiteral ∧ litVecRemap s ≠ .floatLiteral := by
  cases s <;> decide

/-- the scalar kind a vector / matrix operation is done in is never an untyped literal kind -/
theorem arithScalar_concrete (ts : Scalar) (dim : Dim) (hd : (Layer.ofDim (arithScalar ts dim) dim).isVecOrMat = true) :
    (Layer.ofDim (arithScalar ts dim) dim).extractScalar ≠ some .intLiteral ∧
    (Layer.ofDim (arithScalar ts dim) dim).extractScalar ≠ some .floatLiteral := by
  refine ofDim_concrete dim ?_
  cases dim
  · cases hd
  all_goals exact litVecRemap_concrete ts

/-- **Vector and matrix operators are done in a concrete scalar kind** (fix 40c6233): the two operands of an accepted
    arithmetic / comparison / bit operator that works on vectors or matrices never have the element kind `IntLiteral` /
    `FloatLiteral` (`v * 1.5` for `int3 v` is not typed `Vector(FloatLiteral, 3)`, a type no target can express) -/
theorem elab_arith_vector_kind_concrete {Γ : Env} {dbg : Bool} {o : BinOp} {a b : SExpr} {e' : IExpr} {τ : ETy}
    (ho : o.cls = .arith) (h : elabE dbg Γ (.bin o a b) = .ok (e', τ)) :
    ∃ i a' b' ta tb, e' = .op i (.cons a' (.cons b' .nil)) ∧ HasType Γ a' ta ∧ HasType Γ b' tb ∧ ta.ty = tb.ty ∧
      (ta.ty.layer.isVecOrMat = true →
        ta.ty.layer.extractScalar ≠ some .intLiteral ∧ ta.ty.layer.extractScalar ≠ some .floatLiteral) := by
  obtain ⟨a1, τa, b1, τb, ha, hb, hn⟩ := elabE_bin_ok h
  simp only [ho] at hn
  obtain ⟨ts, dim, i, a', b', ta, tb, _, rfl, h1, h2, h3, h4, _⟩ := elabArith_ok ho (elab_sound ha) (elab_sound hb) hn
  exact ⟨i, a', b', ta, tb, rfl, h1, h2, h3.trans h4.symm, by rw [h3]; exact arithScalar_concrete ts dim⟩

/-- **Accepted arithmetic / comparison / bit / logical operators** receive two operands of exactly the same type -/
theorem elab_arith_exact {Γ : Env} {dbg : Bool} {o : BinOp} {a b : SExpr} {e' : IExpr} {τ : ETy} (ho : o.cls = .arith)
    (h : elabE dbg Γ (.bin o a b) = .ok (e', τ)) :
    ∃ i a' b' ta tb, e' = .op i (.cons a' (.cons b' .nil)) ∧ HasType Γ a' ta ∧ HasType Γ b' tb ∧ ta.ty = tb.ty := by
  obtain ⟨i, a', b', ta, tb, he, h1, h2, h3, _⟩ := elab_arith_vector_kind_concrete ho h
  exact ⟨i, a', b', ta, tb, he, h1, h2, h3⟩

/-- non-vacuity: `int3 v0; v0 * 1.5` is done in `float3` (both operands cast to `float3`), `bool3`-free `v0 + 1` stays `int3` -/
example :
    ((match elabE true { vars := [⟨{}, .vector .int32 3⟩], funcs := [] } (.bin .multiply (.var 0) (.lit .floatLiteral)) with
      | .ok (.op .multiply (.cons (.cast t1 (.var 0)) (.cons (.cast t2 (.lit .floatLiteral)) .nil)), τ) =>
        decide (τ = ⟨⟨{}, .vector .float32 3⟩, .rvalue⟩ ∧ t1 = ⟨{}, .vector .float32 3⟩ ∧ t2 = t1)
      | _ => false) &&
     (match elabE true { vars := [⟨{}, .vector .int32 3⟩], funcs := [] } (.bin .add (.var 0) (.lit .intLiteral)) with
      | .ok (_, τ) => decide (τ = ⟨⟨{}, .vector .int32 3⟩, .rvalue⟩)
      | _ => false)) = true := by decide +kernel

/-! ### `?:` with a vector / matrix arm (fix c05bffa) -/

theorem litTernRemap_concrete (s : Scalar) : litTernRemap s ≠ .intLiteral ∧ litTernRemap s ≠ .floatLiteral := by
  cases s <;> decide

/-- the kind `?:` works in (the `st` of `ternTargets`) is a remapped one unless both arms are scalars -/
theorem ternKind_concrete {la lb : Layer} {s : Scalar} (hv : la.isVecOrMat = true ∨ lb.isVecOrMat = true)
    (h : (match la.extractScalar, lb.extractScalar with
      | some l, some r => some (ternScalar la lb (mostSigScalar l r))
      | _, _ => none) = some s) : s ≠ .intLiteral ∧ s ≠ .floatLiteral := by
  split at h
  · cases h
    cases la <;> cases lb <;> first | exact litTernRemap_concrete _ | simp [Layer.isVecOrMat] at hv
  · cases h

theorem ternTargets_concrete {la lb lt rt : Layer} (h : ternTargets la lb = .ok (lt, rt)) (heq : lt = rt)
    (hv : lt.isVecOrMat = true) :
    lt.extractScalar ≠ some .intLiteral ∧ lt.extractScalar ≠ some .floatLiteral := by
  subst heq
  revert h
  fun_cases ternTargets la lb <;> intro h <;> try cases h
  -- a common dimension `d`: one arm is a vector or matrix, or else both are scalars and `d` is `scalar` (not so: `hv`)
  case case1 s d hd hst =>
    refine ofDim_concrete d (ternKind_concrete ?_ hst)
    cases la <;> cases lb <;> simp [Layer.isVecOrMat]
    all_goals simp [mostSignificantDimension] at hd
    subst hd
    cases hv
  -- no common dimension: the left arm at the working kind; it has the left arm's shape
  case case2 s _ hst hx _ =>
    cases la <;> simp [Layer.transformScalar] at hx <;> subst hx <;> simp [Layer.isVecOrMat] at hv
    all_goals simpa [Layer.extractScalar] using ternKind_concrete (.inl rfl) hst
  -- no common scalar kind: the arms come back as they are, so they are equal, and one of them is not numeric
  case case5 st _ hst =>
    cases la <;> simp [Layer.isVecOrMat] at hv <;> simp [st, Layer.extractScalar] at hst

/-- **A conditional expression with a vector / matrix arm has a concrete element kind** (fix c05bffa): the type of an accepted
    `c ? a : b` that is a vector or matrix never has the element kind `IntLiteral` / `FloatLiteral` (`c ? v : 1.5` for `int3 v`
    is not typed `Vector(FloatLiteral, 3)`) -/
theorem elab_tern_vector_kind_concrete {Γ : Env} {dbg : Bool} {c a b : SExpr} {e' : IExpr} {τ : ETy}
    (h : elabE dbg Γ (.tern c a b) = .ok (e', τ)) (hv : τ.ty.layer.isVecOrMat = true) :
    τ.ty.layer.extractScalar ≠ some .intLiteral ∧ τ.ty.layer.extractScalar ≠ some .floatLiteral := by
  obtain ⟨_, _, _, τa, _, _, _, _, _, hn⟩ := elabE_tern_ok h
  obtain ⟨lt, _, _, _, _, _, _, htt, _, _, _, _, _, _, _, _, rfl⟩ := RsslVerif.Lemmas.ElabInv.elabTern_iff.1 hn
  exact ternTargets_concrete htt rfl hv

/-- **Accepted calls.**  The callee exists, the result has its return type, and every argument expression has
    exactly the type of its parameter — no implicit conversion remains. -/
theorem elab_call_args_exact {Γ : Env} {dbg : Bool} {name : Nat} {args : SArgs} {e' : IExpr} {τ : ETy}
    (h : elabE dbg Γ (.call name args) = .ok (e', τ)) :
    ∃ id s as' us, e' = .call id as' ∧ Γ.funcs[id]? = some s ∧ τ = s.ret.r ∧ HasArgs Γ as' us ∧
      ArgsMatch us s.params := by
  obtain ⟨as1, ts, ha, hn⟩ := elabE_call_ok h
  obtain ⟨id, s, as'', _, hs, hca, _, rfl, rfl⟩ := elabCall_inv hn
  obtain ⟨us, h1, h2⟩ := castArgs_exact hca (elabArgs_sound_any dbg args as1 ts ha)
  exact ⟨id, s, as'', us, rfl, hs, rfl, h1, h2⟩

/-- **`out` / `inout` arguments are mutable lvalues.**  In an accepted call every argument given for an `out` / `inout`
    parameter is — under the IR's own typing rules — an lvalue of non-const type (`OutArgsPlaces`), hence never the result
    of a conversion (`out_arg_not_converted`): `check_output_arguments` runs on the arguments *after* `apply_casts`
    (fixes b359800, 3758fdd), so `void f0(out int); int1 v0; f0(v0)`, whose argument would be `Cast(int, v0)`, is refused. -/
theorem elab_out_args_are_lvalues {Γ : Env} {dbg : Bool} {name : Nat} {args : SArgs} {e' : IExpr} {τ : ETy}
    (h : elabE dbg Γ (.call name args) = .ok (e', τ)) :
    ∃ id s as', e' = .call id as' ∧ Γ.funcs[id]? = some s ∧ OutArgsPlaces Γ s.params as' := by
  obtain ⟨as1, ts, ha, hn⟩ := elabE_call_ok h
  obtain ⟨id, s, as'', _, hs, hca, hco, rfl, rfl⟩ := elabCall_inv hn
  obtain ⟨us, h1, _⟩ := castArgs_exact hca (elabArgs_sound_any dbg args as1 ts ha)
  exact ⟨id, s, as'', rfl, hs, checkOutArgs_places s.params as'' us h1 hco⟩

/-- an lvalue is not a `Cast` and not a re-tagged literal, the two nodes `ImplicitConversion::apply` can wrap an argument in -/
theorem out_arg_not_converted {Γ : Env} {e : IExpr} {τ : ETy} (he : HasType Γ e τ) (hv : τ.vt = .lvalue) :
    (∀ t x, e ≠ .cast t x) ∧ (∀ k, e ≠ .lit k) := by
  constructor
  · intro t x heq; subst heq; cases he; simp [Ty.r] at hv
  · intro k heq; subst heq; cases he; simp [Ty.r] at hv

/-- `void f0(out int); int1 v0; f0(v0)` reports `LvalueRequired` (the argument would be
    `Cast(int, v0)`), like `inout int1` given an `int` and `out float2x2` given a `row_major float2x2`; `f0(v1)` with
    `int v1` is accepted with the variable itself as argument -/
def outEnv : Env :=
  { vars := [⟨{}, .vector .int32 1⟩, ⟨{}, .scalar .int32⟩, ⟨{ rest := 1 }, .matrix .float32 2 2⟩],
    funcs := [⟨0, [⟨⟨{}, .scalar .int32⟩, .out⟩], 1, ⟨{}, .scalar .int32⟩⟩,
              ⟨1, [⟨⟨{}, .vector .int32 1⟩, .inOut⟩], 1, ⟨{}, .scalar .int32⟩⟩,
              ⟨2, [⟨⟨{}, .matrix .float32 2 2⟩, .out⟩], 1, ⟨{}, .scalar .int32⟩⟩] }

def lvalueRequired (e : SExpr) : Bool :=
  match elabE true outEnv e with
  | .error (.reject "LvalueRequired") => true
  | _ => false

example :
    (lvalueRequired (.call 0 (.cons (.var 0) .nil)) && lvalueRequired (.call 1 (.cons (.var 1) .nil)) &&
     lvalueRequired (.call 2 (.cons (.var 2) .nil)) &&
     (match elabE true outEnv (.call 0 (.cons (.var 1) .nil)) with
      | .ok (.call 0 (.cons (.var 1) .nil), _) => true
      | _ => false)) = true := by decide +kernel

/-- writes to the source forms the property lists (literal, `a + b`, function result, and casts, `?:`, `a++`, `-a`, ...)
    are never accepted -/
theorem elab_rejects_assign_to_rvalue_form {Γ : Env} {dbg : Bool} {o : BinOp} {a b : SExpr} (ho : o.cls = .assign)
    (hf : isRvalueForm a = true) : ∀ r, elabE dbg Γ (.bin o a b) ≠ .ok r := by
  intro r h
  obtain ⟨_, _, _, _, ha, _, _⟩ := elabE_bin_ok (n := r.1) (τ' := r.2) h
  exact elab_rejects_assign_to_rvalue ho ha (rvalue_forms hf ha) r h

/-- `++` / `--` on the same forms are never accepted -/
theorem elab_rejects_increment_of_rvalue_form {Γ : Env} {dbg : Bool} {o : UnOp} {e : SExpr}
    (ho : o = .prefixIncrement ∨ o = .prefixDecrement ∨ o = .postfixIncrement ∨ o = .postfixDecrement)
    (hf : isRvalueForm e = true) : ∀ r, elabE dbg Γ (.un o e) ≠ .ok r := by
  intro r h
  obtain ⟨_, _, he, _⟩ := elabE_un_ok (n := r.1) (τ' := r.2) h
  exact elab_rejects_increment ho he (Or.inl (rvalue_forms hf he)) r h

end RsslVerif.Thm.C03
