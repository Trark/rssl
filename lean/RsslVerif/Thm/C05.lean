import RsslVerif.Lemmas.MetaText
import RsslVerif.Lemmas.Meta
import RsslVerif.Lemmas.MetaReach
import RsslVerif.Lemmas.MetaReachTerm
import RsslVerif.Lemmas.MetaFront
import RsslVerif.Lemmas.MetaTotal
import RsslVerif.Thm.C06
import RsslVerif.Thm.C15
/-!
# C05 — reflection metadata agrees with the emitted source

Theorems about `Model.Meta` (the metadata builders, the annotation printers and the stage records of both
back ends) on top of `Model.Slots.assign` (C06), instantiated with the tables regenerated from `/repo`
(`Gen.MetaTables`, `Gen.SlotTables`, `Gen.CompileTables`).
-/
namespace RsslVerif.Thm.C05
open RsslVerif.Gen.SlotTables RsslVerif.Gen.MetaTables RsslVerif.Gen.CompileTables
open RsslVerif.Model.Slots RsslVerif.Model.Meta RsslVerif.Spec.Meta RsslVerif.Lemmas.Meta
open RsslVerif.Lemmas.Slots (ParamsOk paramsFor_ok)

/-- Every syntactic fact the model relies on holds in the current source: how the three
    `DescriptorBinding` literals are filled, the shape of msl `generate_pipeline`, of the HLSL annotation
    generators, of the formatter's register / attribute printers, of `build_pipeline`'s stage records, of
    `parse_pipeline` / `add_stage` (property order, order of the checks, last numthreads attribute wins, entry lookup
    among all functions), of `parse_function_attributes` (a kind of attribute is accepted once), of Metal's entry
    function arguments (`UnboundGlobal`), of the places names are read from (name map vs cbuffer registry, Metal's cbuffer
    globals) and of the thread group size attributes both exporters print. -/
theorem source_shape_as_modelled :
    hlslCbufferEntry = ⟨true, true, true, true, false, true, false, true, true, false⟩ ∧
    hlslGlobalEntry = ⟨true, true, true, true, true, false, true, false, false, true⟩ ∧
    mslGlobalEntry = ⟨true, true, true, true, true, false, false, true, false, true⟩ ∧
    hlslCbufferDescType = some .ConstantBuffer ∧ mslRejectsCbufferRoot = true ∧
    hlslNameIsGeneratedName = true ∧ mslNameIsGeneratedName = true ∧ hlslReportsEmittedName = true ∧
    mslRejectsGroupWithoutArgumentBuffer = true ∧ usageFacts = ⟨true, true, true, true⟩ ∧
    mslPipelineFacts = ⟨true, true, true, true, true, true, true, true, true, true⟩ ∧
    hlslAnnotFacts = ⟨true, true, true, true, true, true, true, true, true, true, true, true, true, true, true,
                      true, true, true, true⟩ ∧
    attributeShapeAsModelled = true ∧ attributeArgumentLiteralsBare = true ∧ stagesCopyKindAndThreadGroupSize = true ∧
    metadataIsExportersDescription = true ∧ entryLookupIsByNameAmongAllFunctions = true ∧
    frontFacts = ⟨true, true, true, true, true, true, true, true, true, true, true, true, true, true, true, true,
                  true, true, true, true, true, true⟩ ∧
    (regOpen, regSep, regSpace, regClose) = (" : register(", ", ", "space", ")") := by decide +kernel

/-- The two exporters use the same ObjectType ↦ DescriptorType table. -/
theorem descriptor_tables_agree (k : ObjKind) :
    hlslDescType k = mslDescType k ∧ hlslNonObjectDescType = mslNonObjectDescType := by
  cases k <;> decide

/-- The register letter the allocator records (`get_register_type`) is the D3D register class of the
    descriptor type the metadata reports, for every object kind that has both. -/
theorem register_class_of_descriptor (k : ObjKind) (r : RegT) (d : DescT)
    (hr : registerType k = some r) (hd : hlslDescType k = some d) : regClass d = r := by
  cases k <;> first | (cases hr; cases hd; rfl) | cases hr | cases hd

/-- compile.rs and msl generate_pipeline name the Metal entry functions identically (two separate tables). -/
theorem msl_entry_names_agree (s : Stage) : mslEntryName s = mslEmittedEntryName s := by
  cases s <;> rfl

/-- HLSL, any declaration: if an annotation is printed and a metadata entry is registered, then reading the
    printed text back (character level) yields the annotation, and the (group, slot | inline offset,
    register class) it names are exactly the entry's group and location and the api slot's register class —
    both are projections of the same `api_slot`. -/
theorem annot_matches_meta_hlsl {p : Params} {d : MDecl} {ob : Option Binding} {a : Annot} {g : Nat} {e : Entry}
    (ha : hlslAnnot p d ob = .ok (some a)) (he : hlslEvent d ob = .ok (some (g, e))) :
    readAnnot a.print = some a ∧ (Annot.read a).1 = g ∧ (Annot.read a).2.1 = e.loc ∧
    ∃ b, ob = some b ∧ ∀ r, (Annot.read a).2.2 = some r → b.slotType = some r := by
  obtain ⟨b, rfl, h1, h2, h3, hid⟩ := hlslAnnot_some ha
  obtain ⟨b', hb', rfl, _, hloc, _⟩ := hlslEvent_some he
  cases hb'
  exact ⟨readAnnot_print a (fun i s e => absurd e (hid i s)), h1, by rw [h2, hloc], b, rfl, h3⟩

/-- Metal: the `[[id(n)]]` member printed for a declaration names the group and slot of its entry; the
    group always has an argument buffer struct (`analyse_bindings` refuses the others). -/
theorem annot_matches_meta_msl {u : Bool} {d : MDecl} {ob : Option Binding} {a : Annot} {g : Nat} {e : Entry}
    (ha : mslAnnot d ob = .ok (some a)) (he : mslEvent u d ob = .ok (some (g, e))) :
    readAnnot a.print = some a ∧ (Annot.read a).1 = g ∧ (Annot.read a).2.1 = e.loc ∧
    g < argumentBufferNames.length := by
  obtain ⟨b, i, rfl, hl, rfl⟩ := mslAnnot_some ha
  obtain ⟨b', hb', rfl, _, hloc, _, hlt⟩ := mslEvent_some he
  cases hb'
  exact ⟨readAnnot_print _ (fun _ _ h => by cases h; exact hlt), rfl, by rw [hloc, hl]; rfl, hlt⟩

/-- A non-extern global (fix "do not allocate binding slots for static or groupshared globals") is
    never externally bound, whatever its type: the allocator leaves it alone, so it has neither api slot,
    nor metadata entry, nor annotation. -/
theorem non_extern_global_unbound (p : Params) (dflt : Nat) (n : String) (s : Option Nat) (ss bl : Bool)
    (k : Option ObjKind) (arr : Arr) (st : Storage) (hst : st ≠ .extern) :
    externallyBound p (.global n s ss k arr bl st) = false ∧
    (assign p dflt [(MDecl.global n s ss k arr bl st).toSlot]).toOption.map (·.bindings) = some [none] ∧
    hlslEvent (.global n s ss k arr bl st) none = (descOf hlslDescType hlslNonObjectDescType k).map (fun _ => none) ∧
    hlslAnnot p (.global n s ss k arr bl st) none = .ok none := by
  have hts : (MDecl.global n s ss k arr bl st).toSlot = .global s ss none none := by
    simp [MDecl.toSlot, hst]
  refine ⟨by simp [externallyBound, hts, RsslVerif.Spec.Slots.bound], ?_, ?_, ?_⟩
  · rw [hts]
    cases h : (ss && !p.staticSamplersHaveSlots) <;> simp [assign, run, step, h, Except.toOption]
  · simp only [hlslEvent]
    cases descOf hlslDescType hlslNonObjectDescType k <;> rfl
  · have hne : (st == Storage.extern) = false := by cases st <;> simp_all
    simp [hlslAnnot, storageAfter, hne]

/-- The parameter sets `compile()` uses for the two HLSL flavours satisfy the side condition. -/
theorem hlsl_params_of_targets (sba : Bool) :
    HlslParams (paramsFor .HlslForDirectX sba) ∧ HlslParams (paramsFor .HlslForVulkan sba) := by
  cases sba <;> simp [HlslParams, paramsFor, paramsDefault]

/-- On the api slots the allocator produced, no `panic!` / `assert!` of `generate_register_annotation`,
    `generate_vk_binding_annotation` can fire: every declaration's annotation is printed. -/
theorem hlsl_annotations_total {p : Params} (hp : HlslParams p) {dflt : Nat} {ds : List MDecl} {res : Result}
    (h : assign p dflt (ds.map MDecl.toSlot) = .ok res) :
    ∃ r, annots (hlslAnnot p) ds res.bindings = .ok r :=
  annots_total hp ds res.bindings (assign_good h)

/-- a declaration is annotated iff it is registered (a non-extern global has no api slot, see
    `non_extern_global_unbound`) -/
theorem annot_iff_entry {p : Params} {d : MDecl} {ob : Option Binding} {oa : Option Annot} {oe : Option (Nat × Entry)}
    (hext : ∀ n s ss k arr bl st, d = .global n s ss k arr bl st → st = .extern ∨ ob = none)
    (ha : hlslAnnot p d ob = .ok oa) (he : hlslEvent d ob = .ok oe) : oa.isSome = oe.isSome := by
  cases ob with
  | none =>
    have h1 : oa = none := by
      cases oa with
      | none => rfl
      | some a => obtain ⟨b, hb, _⟩ := hlslAnnot_some ha; cases hb
    rw [h1, (hlslEvent_ok d none oe he).1 rfl]
    rfl
  | some b =>
    by_cases hd : d = .other
    · subst hd; cases ha; cases he; rfl
    · have hst : ∀ n s ss k arr bl st, d = .global n s ss k arr bl st → st = .extern :=
        fun n s ss k arr bl st e => (hext n s ss k arr bl st e).resolve_right (by simp)
      obtain ⟨e, rfl, _⟩ := (hlslEvent_ok d (some b) oe he).2 b rfl hd
      rw [hlslAnnot_of_slot hd hst ha]
      rfl

/-- Module level `annot_matches_meta` + "exactly one": on api slots that agree with the allocator's
    specification (C06 `binding_complete` gives this for `assign`'s output), for every module,
    the list of printed annotations and the list of registered entries have the same length and line up
    one to one, in order, on (name, bind group, slot | inline offset); and every printed annotation reads
    back as itself. -/
theorem annotations_match_metadata_hlsl {p : Params} {dflt : Nat} :
    ∀ (ds : List MDecl) (bs : List (Option Binding)) (i : Nat) (as : List (String × Annot)) (evs : List (Nat × Entry)),
      RsslVerif.Thm.C06.Agrees p dflt (ds.map MDecl.toSlot) bs →
      annots (hlslAnnot p) ds bs = .ok as → events (fun _ => hlslEvent) i ds bs = .ok evs →
      as.map (fun x => (x.1, (Annot.read x.2).1, (Annot.read x.2).2.1)) = evs.map (fun x => (x.2.name, x.1, x.2.loc)) ∧
      ∀ x ∈ as, readAnnot x.2.print = some x.2
  | [], bs, i, as, evs, _, ha, he => by
    have ha' : as = [] := by cases bs <;> (simp only [annots] at ha; cases ha; rfl)
    have he' : evs = [] := by cases bs <;> (simp only [events] at he; cases he; rfl)
    subst ha' he'
    exact ⟨rfl, fun x hx => by cases hx⟩
  | d :: ds, [], i, as, evs, hag, _, _ => absurd hag.length_eq (by simp)
  | d :: ds, ob :: bs, i, as, evs, hag, ha, he => by
    rw [List.map_cons, RsslVerif.Thm.C06.Agrees.cons_iff] at hag
    obtain ⟨oa, ra, hoa, hra, rfl⟩ := annots_cons_ok.1 ha
    obtain ⟨oe, re, hoe, hre, rfl⟩ := events_cons_ok.1 he
    have hrest := annotations_match_metadata_hlsl ds bs (i + 1) ra re hag.2 hra hre
    have hextd : ∀ n s ss k arr bl st, d = .global n s ss k arr bl st → st = .extern ∨ ob = none := by
      intro n s ss k arr bl st hd
      cases ob with
      | none => exact Or.inr rfl
      | some b => subst hd; exact Or.inl (extern_of_bound hag.1.1)
    have hiff := annot_iff_entry hextd hoa hoe
    cases oa with
    | none =>
      cases oe with
      | some x => simp at hiff
      | none => exact hrest
    | some a =>
      cases oe with
      | none => simp at hiff
      | some x =>
        obtain ⟨g, e⟩ := x
        obtain ⟨hprint, hg, hloc, _⟩ := annot_matches_meta_hlsl hoa hoe
        obtain ⟨_, _, _, hname, _⟩ := hlslEvent_some hoe
        refine ⟨by simp [hrest.1, hg, hloc, hname], fun x hx => ?_⟩
        rcases List.mem_cons.1 hx with rfl | hx
        · exact hprint
        · exact hrest.2 x hx

open RsslVerif.Lemmas.MetaTotal RsslVerif.Lemmas.Slots in
/-- per bind group the inline entries the HLSL exporter registers account for exactly the bytes the allocator handed out:
    what a run of the allocator hands out (`alloc_inline_locs`) read through `events_locs` -/
theorem events_inlInv {p : Params} (hp : ParamsOk p) {dflt : Nat} {ds : List MDecl} {res : Result}
    (h : assign p dflt (ds.map MDecl.toSlot) = .ok res) {evs : List (Nat × Entry)}
    (hevs : events (fun _ => hlslEvent) 0 ds res.bindings = .ok evs) :
    InlInv (registerAll evs []) (fun g => RsslVerif.Spec.Slots.totalInline p dflt g (ds.map MDecl.toSlot)) := by
  intro g
  obtain ⟨st, hrun, _⟩ := assign_ok_iff.1 h
  have hal := run_alloc hp hrun
  have hl := events_locs (fun _ => hlslEvent_ok) g ds res.bindings 0 evs (alloc_agrees hal) hevs
  obtain ⟨h1, h2⟩ := alloc_inline_locs g hal
  obtain ⟨_, _, _, e2⟩ := alloc_spec g hal
  rw [bindingsAt_registerAll, bindingsAt_nil, List.nil_append, found_eq, List.map_map]
  rw [← hl, e2] at h1 h2
  simp only [State.init, Counter.empty, Nat.zero_add] at h1 h2
  refine ⟨by simpa only [Function.comp_def] using h1, fun e he o ho => h2 o ?_⟩
  obtain ⟨x, hx, rfl⟩ := List.mem_map.1 he
  exact List.mem_map.2 ⟨x, hx, ho⟩

open RsslVerif.Lemmas.MetaTotal RsslVerif.Lemmas.Slots in
/-- once the allocator returned and every single `analyse_bindings` call did, `generate_inline_constant_buffers`
    returns: `bind_groups[buffer.set]` is in range and none of its three asserts can fire -/
theorem hlslMeta_ok_of_events {p : Params} (hp : ParamsOk p) {dflt : Nat} {ds : List MDecl} {res : Result}
    (h : assign p dflt (ds.map MDecl.toSlot) = .ok res) {evs : List (Nat × Entry)}
    (hevs : events (fun _ => hlslEvent) 0 ds res.bindings = .ok evs) :
    ∃ groups, hlslMeta p dflt ds = .ok groups := by
  have hc := RsslVerif.Thm.C06.inline_buffers_correct hp h
  rw [hlslMeta_of_assign h, hevs]
  apply setInlines_total _ _ _ (events_inlInv hp h hevs) hc.2.2
  · intro b hb
    exact ⟨(hc.1 b hb).1, (hc.1 b hb).2.2⟩
  · intro b _ grp hg
    exact registerAll_noIC evs [] (by intro g hg; cases hg) grp (List.mem_of_getElem? hg)

open RsslVerif.Lemmas.MetaTotal RsslVerif.Lemmas.Slots in
/-- **The HLSL metadata builder is total.**  For every module whose object-typed globals use kinds that have a
    descriptor type, every default group and every parameter set `compile()` can pass: `assign_api_bindings`
    returns (it has no panic: C06 `assign_never_panics`, fix 774c0b4), and `analyse_bindings` + `generate_inline_constant_buffers` return a
    `PipelineDescription` — `bind_groups[buffer.set]` is in range and none of the three asserts
    (`offset + 8 <= size`, `size == found_size`, `inline_constants == None`) can fire, because per bind group the
    inline entries account for exactly the bytes the allocator handed out. -/
theorem hlsl_metadata_total {p : Params} (hp : ParamsOk p) {dflt : Nat} {ds : List MDecl}
    (hdesc : ∀ n s ss k arr bl st, MDecl.global n s ss (some k) arr bl st ∈ ds → (hlslDescType k).isSome) :
    ∃ groups, hlslMeta p dflt ds = .ok groups := by
  obtain ⟨res, h⟩ := RsslVerif.Thm.C06.assign_never_panics p dflt (ds.map MDecl.toSlot)
  rcases events_hlsl_cases ds res.bindings 0 with ⟨evs, hevs⟩ | ⟨_, n, s, ss, k, arr, bl, st, hd, hn⟩
  · exact hlslMeta_ok_of_events hp h hevs
  · have := hdesc n s ss k arr bl st hd
    rw [hn] at this
    cases this

open RsslVerif.Lemmas.MetaTotal RsslVerif.Lemmas.Slots in
/-- **HLSL: metadata, or the clean refusal — for every module.**  Whatever the globals are (including globals of the
    object kinds without a register class — `RayDesc`, `RayQuery`, `TriangleStream`, the mips views; fix 774c0b4):
    the HLSL metadata builder returns a `PipelineDescription`
    or `Err(UnsupportedObjectType)`; no panic, no assert, no out-of-range index on any path. -/
theorem hlsl_metadata_total_or_refused {p : Params} (hp : ParamsOk p) (dflt : Nat) (ds : List MDecl) :
    (∃ groups, hlslMeta p dflt ds = .ok groups) ∨ hlslMeta p dflt ds = .error "UnsupportedObjectType" := by
  obtain ⟨res, h⟩ := RsslVerif.Thm.C06.assign_never_panics p dflt (ds.map MDecl.toSlot)
  rcases events_hlsl_cases ds res.bindings 0 with ⟨evs, hevs⟩ | ⟨herr, _⟩
  · exact Or.inl (hlslMeta_ok_of_events hp h hevs)
  · exact Or.inr (by rw [hlslMeta_of_assign h, herr])

open RsslVerif.Lemmas.Slots in
/-- the per-group sort of the Metal exporter is the identity on what was registered from the allocator's output: without
    buffer addresses every location is an index slot, and the index ranges of a group tile in declaration order (C06) -/
theorem sortGroups_registerAll_id {p : Params} (hsba : p.supportBufferAddress = false) {dflt : Nat}
    {usedAt : Nat → Bool} {ds : List MDecl} {res : Result}
    (h : assign p dflt (ds.map MDecl.toSlot) = .ok res) {evs : List (Nat × Entry)}
    (hev : events (fun i => mslEvent (usedAt i)) 0 ds res.bindings = .ok evs) :
    sortGroups (registerAll evs []) = .ok (registerAll evs []) := by
  have hp : ParamsOk p := by intro hb; rw [hsba] at hb; cases hb
  have hag := RsslVerif.Thm.C06.binding_complete hp h
  have hidx := all_index hsba _ _ hag (assign_good h)
  apply sortGroups_id
  intro grp hgrp
  obtain ⟨k, hk⟩ := List.getElem?_of_mem hgrp
  have hb : bindingsAt (registerAll evs []) k = grp.bindings := by simp [bindingsAt, hk]
  rw [bindingsAt_registerAll, bindingsAt_nil, List.nil_append] at hb
  have hl := events_locs (fun i => mslEvent_ok (usedAt i)) k ds res.bindings 0 evs hag hev
  have hr := indexRanges_locs (p := p) (dflt := dflt) k _ _ hag hidx
  have htile := RsslVerif.Thm.C06.index_ranges_tile hp h k
  apply sortGroup_id (ks := (RsslVerif.Spec.Slots.indexRanges p k (ds.map MDecl.toSlot) res.bindings).map (·.1))
  · rw [← hb, List.map_map, List.map_map]
    exact hl.trans hr.symm
  · exact (List.pairwise_map).2 (tiles_sorted htile).2

open RsslVerif.Lemmas.MetaTotal RsslVerif.Lemmas.Slots in
/-- the Metal binding analysis once the allocator returned and every `analyse_bindings` call did, all in groups
    that have an argument buffer: `ARGUMENT_BUFFER_NAMES[i]` stays in range and the sort (its comparator panics on
    an inline constant) is the identity -/
theorem mslMeta_ok_of_events {p : Params} (hsba : p.supportBufferAddress = false) {dflt : Nat}
    {usedAt : Nat → Bool} {ds : List MDecl} {res : Result}
    (h : assign p dflt (ds.map MDecl.toSlot) = .ok res) {evs : List (Nat × Entry)}
    (hev : events (fun i => mslEvent (usedAt i)) 0 ds res.bindings = .ok evs)
    (hlt : ∀ x ∈ evs, x.1 < argumentBufferNames.length) :
    ∃ groups, mslMeta p dflt usedAt ds = .ok groups := by
  have hlen : (registerAll evs []).length ≤ argumentBufferNames.length :=
    length_registerAll_le evs [] hlt (by simp)
  rw [mslMeta_of_assign h, hev]
  exact ⟨registerAll evs [], by simp only []; rw [if_neg (by omega)]; exact sortGroups_registerAll_id hsba h hev⟩

open RsslVerif.Lemmas.MetaTotal RsslVerif.Lemmas.Slots in
/-- **Metal: metadata, or the clean refusal.**  Without buffer addresses (Metal's parameter set), for every module
    whose object-typed globals use kinds that have a descriptor type: the allocator returns (C06
    `assign_never_panics`) and the Metal metadata builder either returns a
    `PipelineDescription` or refuses the file with `UnsupportedBindGroupIndex` (some binding sits in a group without
    argument buffer struct) — `ARGUMENT_BUFFER_NAMES[i]` is never indexed out of range and the `panic!()` of the sort
    comparator (inline constant in an argument buffer) cannot fire. -/
theorem msl_metadata_total_or_refused {p : Params} (hsba : p.supportBufferAddress = false) {dflt : Nat}
    {usedAt : Nat → Bool} {ds : List MDecl}
    (hdesc : ∀ n s ss k arr bl st, MDecl.global n s ss (some k) arr bl st ∈ ds → (mslDescType k).isSome) :
    (∃ groups, mslMeta p dflt usedAt ds = .ok groups) ∨
    mslMeta p dflt usedAt ds = .error "UnsupportedBindGroupIndex" := by
  obtain ⟨res, h⟩ := RsslVerif.Thm.C06.assign_never_panics p dflt (ds.map MDecl.toSlot)
  rcases events_msl_cases usedAt ds res.bindings 0 with ⟨evs, hev, hlt⟩ | herr | ⟨_, n, s, ss, k, arr, bl, st, hd, hn⟩
  · exact Or.inl (mslMeta_ok_of_events hsba h hev hlt)
  · exact Or.inr (by rw [mslMeta_of_assign h, herr])
  · have := hdesc n s ss k arr bl st hd
    rw [hn] at this
    cases this

open RsslVerif.Lemmas.MetaTotal in
/-- an error of the Metal binding analysis is never `UnboundGlobal` -/
theorem mslMeta_ne_unbound (p : Params) (dflt : Nat) (usedAt : Nat → Bool) (ds : List MDecl) :
    mslMeta p dflt usedAt ds ≠ .error "UnboundGlobal" := by
  obtain ⟨res, h⟩ := RsslVerif.Thm.C06.assign_never_panics p dflt (ds.map MDecl.toSlot)
  rw [mslMeta_of_assign h]
  intro he
  rcases events_msl_cases usedAt ds res.bindings 0 with ⟨evs, hev, _⟩ | herr | ⟨herr, _⟩
  · rw [hev] at he
    simp only at he
    split at he
    · simp at he
    · have := sortGroups_error _ _ he
      simp at this
  · rw [herr] at he; simp at he
  · rw [herr] at he; simp at he

open RsslVerif.Lemmas.MetaTotal RsslVerif.Lemmas.Slots in
/-- **Metal export: a description, or one of three clean refusals — for every module and every pipeline.**
    Whatever the globals are and whatever the stage entry points reach: `generate_pipeline` returns the
    `PipelineDescription` or `Err(UnsupportedObjectType)` / `Err(UnsupportedBindGroupIndex(_))` /
    `Err(UnboundGlobal)`.  The last one (fix 2ba03a4) is what a stage entry point gets that reaches an extern global
    without a place in an argument buffer (a 2-D resource array, a struct holding resources, a loose constant). -/
theorem msl_export_total_or_refused {p : Params} (hsba : p.supportBufferAddress = false) (dflt : Nat)
    (usedAt : Nat → Bool) (hasPipeline : Bool) (ds : List MDecl) :
    (∃ groups, mslExport p dflt usedAt hasPipeline ds = .ok groups) ∨
    mslExport p dflt usedAt hasPipeline ds = .error "UnsupportedObjectType" ∨
    mslExport p dflt usedAt hasPipeline ds = .error "UnsupportedBindGroupIndex" ∨
    mslExport p dflt usedAt hasPipeline ds = .error "UnboundGlobal" := by
  obtain ⟨res, h⟩ := RsslVerif.Thm.C06.assign_never_panics p dflt (ds.map MDecl.toSlot)
  rcases events_msl_cases usedAt ds res.bindings 0 with ⟨evs, hev, hlt⟩ | herr | ⟨herr, _⟩
  · obtain ⟨groups, hg⟩ := mslMeta_ok_of_events (usedAt := usedAt) hsba h hev hlt
    rw [mslExport_of_assign h, hg]
    simp only
    split
    · exact Or.inr (Or.inr (Or.inr rfl))
    · exact Or.inl ⟨groups, rfl⟩
  · exact Or.inr (Or.inr (Or.inl (by rw [mslExport_of_assign h, mslMeta_of_assign h, herr])))
  · exact Or.inr (Or.inl (by rw [mslExport_of_assign h, mslMeta_of_assign h, herr]))

open RsslVerif.Lemmas.MetaTotal in
/-- **Metal: what a stage reaches is bound.**  When a pipeline is exported (the export returns), every extern global
    — cbuffer or global variable that is no static sampler — that some stage entry point requires has an api slot,
    hence (`annot_iff_entry`, `used_flag`) an `[[id]]` member and a metadata entry marked used: with fix 2ba03a4
    "reachable ⇒ reported used" holds for *every* declaration the stages reach, also for those the allocator leaves
    alone (2-D arrays, structs holding resources), because their pipelines are refused (`UnboundGlobal`) instead of
    being exported with a dangling argument.  Conversely the refusal always names such a declaration. -/
theorem msl_reached_argument_is_bound {p : Params} {dflt : Nat} {usedAt : Nat → Bool} {ds : List MDecl} :
    (∀ groups, mslExport p dflt usedAt true ds = .ok groups →
      mslMeta p dflt usedAt ds = .ok groups ∧
      ∃ res, assign p dflt (ds.map MDecl.toSlot) = .ok res ∧
        ∀ i d, ds[i]? = some d → usedAt i = true → isStageArgument d = true → ∃ b, res.bindings[i]? = some (some b)) ∧
    (mslExport p dflt usedAt true ds = .error "UnboundGlobal" →
      ∃ res, assign p dflt (ds.map MDecl.toSlot) = .ok res ∧
        ∃ i d, ds[i]? = some d ∧ usedAt i = true ∧ isStageArgument d = true ∧ res.bindings[i]? = some none) := by
  obtain ⟨res, hres⟩ := RsslVerif.Thm.C06.assign_never_panics p dflt (ds.map MDecl.toSlot)
  rw [mslExport_of_assign hres]
  cases hm : mslMeta p dflt usedAt ds with
  | error e =>
    refine ⟨fun groups h => (by cases h), fun h => ?_⟩
    cases h
    exact absurd hm (mslMeta_ne_unbound p dflt usedAt ds)
  | ok gs =>
    simp only [Bool.true_and]
    cases hun : mslUnbound usedAt 0 ds res.bindings with
    | false =>
      refine ⟨fun groups h => ?_, fun h => (by cases h)⟩
      cases h
      refine ⟨rfl, res, hres, fun i d hd hu ha => ?_⟩
      exact mslUnbound_false usedAt ds res.bindings 0 (assign_length hres |>.trans (by simp)) hun i d hd
        (by simpa using hu) ha
    | true =>
      refine ⟨fun groups h => (by cases h), fun _ => ⟨res, hres, ?_⟩⟩
      obtain ⟨j, d, hd, hu, ha, hb⟩ := mslUnbound_true usedAt ds res.bindings 0 hun
      exact ⟨j, d, hd, by simpa using hu, ha, hb⟩

/-- Descriptor type and count of an entry depend only on the declared (peeled) kind and the array layer:
    any two globals with the same kind and array layer — whatever their names, groups, flags, storage and
    api slots — are reported with the same type and count, on both back ends; the count is the array
    length, 1 without an array. -/
theorem descriptor_kind_count {k : Option ObjKind} {arr : Arr}
    {n₁ n₂ : String} {s₁ s₂ : Option Nat} {ss₁ ss₂ bl₁ bl₂ u₁ : Bool} {st₁ st₂ : Storage} {b₁ b₂ : Binding}
    {g₁ g₂ : Nat} {e₁ e₂ : Entry} :
    (hlslEvent (.global n₁ s₁ ss₁ k arr bl₁ st₁) (some b₁) = .ok (some (g₁, e₁)) →
     hlslEvent (.global n₂ s₂ ss₂ k arr bl₂ st₂) (some b₂) = .ok (some (g₂, e₂)) →
       e₁.descType = e₂.descType ∧ e₁.count = e₂.count ∧ e₁.count = countOf arr) ∧
    (mslEvent u₁ (.global n₁ s₁ ss₁ k arr bl₁ st₁) (some b₁) = .ok (some (g₁, e₁)) →
     hlslEvent (.global n₂ s₂ ss₂ k arr bl₂ st₂) (some b₂) = .ok (some (g₂, e₂)) →
       e₁.descType = e₂.descType ∧ e₁.count = e₂.count ∧ e₁.count = countOf arr) := by
  have hagree : descOf mslDescType mslNonObjectDescType k = descOf hlslDescType hlslNonObjectDescType k := by
    cases k with
    | none => simp [descOf, (descriptor_tables_agree .Buffer).2]
    | some k => simp [descOf, (descriptor_tables_agree k).1]
  constructor
  · intro h1 h2
    obtain ⟨t1, c1⟩ := hlslEvent_global h1
    obtain ⟨t2, c2⟩ := hlslEvent_global h2
    exact ⟨Except.ok.inj (t1.symm.trans t2), c1.trans c2.symm, c1⟩
  · intro h1 h2
    obtain ⟨t1, c1⟩ := mslEvent_global h1
    obtain ⟨t2, c2⟩ := hlslEvent_global h2
    rw [hagree] at t1
    exact ⟨Except.ok.inj (t1.symm.trans t2), c1.trans c2.symm, c1⟩

/-- HLSL: in every bind group the metadata entries are exactly the externally bound declarations of that
    group — same number, same names, same (declaration) order; groups beyond the vector have no bound
    declaration.  "Externally bound" is C06's `bound`: cbuffers and object-typed globals. -/
theorem meta_bijective_hlsl {p : Params} (hp : ParamsOk p) {dflt : Nat} {ds : List MDecl} {groups : List Group}
    (h : hlslMeta p dflt ds = .ok groups) (g : Nat) :
    (bindingsAt groups g).map (·.name) = boundNames p dflt g ds := by
  obtain ⟨res, evs, hres, hev, h⟩ := hlslMeta_ok h
  rw [bindingsAt_setInlines h g, bindingsAt_registerAll, bindingsAt_nil, List.nil_append, List.map_map]
  exact events_names (fun _ => hlslEvent_ok) g ds res.bindings 0 evs (RsslVerif.Thm.C06.binding_complete hp hres) hev

/-- Metal: the same, up to the per-group sort by slot (a permutation; `meta_bijective_msl_exact` removes
    the "up to" for the parameter sets without buffer addresses, i.e. for Metal itself). -/
theorem meta_bijective_msl {p : Params} (hp : ParamsOk p) {dflt : Nat} {usedAt : Nat → Bool} {ds : List MDecl}
    {groups : List Group} (h : mslMeta p dflt usedAt ds = .ok groups) (g : Nat) :
    ((bindingsAt groups g).map (·.name)).Perm (boundNames p dflt g ds) := by
  obtain ⟨res, evs, hres, hev, h⟩ := mslMeta_ok h
  have hn := events_names (fun i => mslEvent_ok (usedAt i)) g ds res.bindings 0 evs
    (RsslVerif.Thm.C06.binding_complete hp hres) hev
  have := ((sortGroups_at h).2 g).map (·.name)
  rw [bindingsAt_registerAll, bindingsAt_nil, List.nil_append, List.map_map] at this
  rw [← hn]
  exact this

/-- Metal, exact form: the sort never reorders what the allocator produced, so per bind group the entries
    are the externally bound declarations in declaration order. -/
theorem meta_bijective_msl_exact {p : Params} (hsba : p.supportBufferAddress = false) {dflt : Nat}
    {usedAt : Nat → Bool} {ds : List MDecl} {groups : List Group}
    (h : mslMeta p dflt usedAt ds = .ok groups) (g : Nat) :
    (bindingsAt groups g).map (·.name) = boundNames p dflt g ds := by
  have hp : ParamsOk p := by intro hb; rw [hsba] at hb; cases hb
  obtain ⟨res, evs, hres, hev, h⟩ := mslMeta_ok h
  rw [sortGroups_registerAll_id hsba hres hev] at h
  cases h
  rw [bindingsAt_registerAll, bindingsAt_nil, List.nil_append, List.map_map]
  exact events_names (fun i => mslEvent_ok (usedAt i)) g ds res.bindings 0 evs
    (RsslVerif.Thm.C06.binding_complete hp hres) hev

/-- the Metal sort does not reorder a group whose slots are already non-decreasing (which C06's
    `index_ranges_tile` guarantees for the allocator's output) -/
theorem msl_sort_keeps_sorted (ks : List (Nat × Entry)) (h : ks.Pairwise (fun a b => a.1 ≤ b.1)) :
    sortKeyed ks = ks := sortKeyed_sorted ks h

/-- who is excluded on both sides: non-definitions, non-object globals, non-extern globals, unsized arrays
    (the allocator does not look through them), and static samplers on Metal (implemented in source there). -/
theorem excluded_declarations (p : Params) (n : String) (s : Option Nat) (ss bl : Bool) (k : Option ObjKind)
    (arr : Arr) (st : Storage) :
    externallyBound p .other = false ∧
    externallyBound p (.global n s ss none arr bl st) = false ∧
    externallyBound p (.global n s ss k .unsized bl st) = false ∧
    externallyBound (paramsFor .Msl false) (.global n s true k arr bl st) = false ∧
    (st ≠ .extern → externallyBound p (.global n s ss k arr bl st) = false) ∧
    externallyBound p (.cbuffer n s) = true := by
  refine ⟨rfl, ?_, ?_, ?_, ?_, rfl⟩
  · cases arr <;> cases st <;> simp [externallyBound, MDecl.toSlot, RsslVerif.Spec.Slots.bound]
  · cases st <;> simp [externallyBound, MDecl.toSlot, RsslVerif.Spec.Slots.bound]
  · cases arr <;> cases k <;> cases st <;>
      simp [externallyBound, MDecl.toSlot, RsslVerif.Spec.Slots.bound, paramsFor]
  · intro hst
    simp [externallyBound, MDecl.toSlot, hst, RsslVerif.Spec.Slots.bound]

open RsslVerif.Model.MetaReach RsslVerif.Lemmas.MetaReach in
/-- Metal: whenever the usage fixed point loop returns (with whatever fuel), a binding is marked used iff some
    stage entry point reaches the global in the use graph (calls, bodies, default arguments, and the
    initialisers of the globals on the way).  `usage_loop_terminates` shows that it always returns. -/
theorem used_iff_reachable_of_result {direct : Sym → List Sym} {keys : List Sym} {entries : List Nat} {fuel : Nat}
    {req : Sym → List Sym} (hk : ∀ k ∈ keys, ∀ s ∈ direct k, s ∈ keys)
    (he : ∀ e ∈ entries, Sym.fn e ∈ keys) (h : recurse fuel keys direct = some req) (g : Nat) :
    usedBy req entries g = true ↔ ∃ e ∈ entries, Reach direct (.fn e) (.glob g) := by
  have hr := recurse_is_reach hk h
  simp only [usedBy, List.any_eq_true, List.contains_iff_mem]
  constructor
  · rintro ⟨e, hem, hm⟩; exact ⟨e, hem, (hr _ (he e hem) _).1 hm⟩
  · rintro ⟨e, hem, hm⟩; exact ⟨e, hem, (hr _ (he e hem) _).2 hm⟩

open RsslVerif.Model.MetaReach in
/-- `GlobalUsageAnalysis::recurse` terminates: over `n` symbols (functions, globals, cbuffers — whatever key
    order the hash map yields) the loop makes at most `n * n` modifying passes, because every such pass adds a
    (symbol, required symbol) pair and there are at most `n * n` of them. -/
theorem usage_loop_terminates {direct : Sym → List Sym} {keys : List Sym}
    (hk : ∀ k ∈ keys, ∀ s ∈ direct k, s ∈ keys) :
    ∃ req, recurse (keys.length * keys.length + 1) keys direct = some req :=
  RsslVerif.Lemmas.MetaReachTerm.recurse_terminates hk

open RsslVerif.Model.MetaReach in
/-- **used_sound_complete** (Metal, full): for every use graph — any functions with bodies and default
    arguments, any globals with initialisers that mention other globals or call functions, any key order — the
    usage analysis returns, and a binding is reported used iff some stage entry point of the pipeline reaches
    its global.  (A resource array or a bindless array is one global: mentioning any element mentions it.) -/
theorem used_sound_complete {direct : Sym → List Sym} {keys : List Sym} {entries : List Nat}
    (hk : ∀ k ∈ keys, ∀ s ∈ direct k, s ∈ keys) (he : ∀ e ∈ entries, Sym.fn e ∈ keys) :
    ∃ req, recurse (keys.length * keys.length + 1) keys direct = some req ∧
      ∀ g, usedBy req entries g = true ↔ ∃ e ∈ entries, Reach direct (.fn e) (.glob g) := by
  obtain ⟨req, h⟩ := usage_loop_terminates hk
  exact ⟨req, h, used_iff_reachable_of_result hk he h⟩

/-- a use graph with a global (4) whose initialiser mentions another global (7), itself reached through a call -/
def exampleDirect : RsslVerif.Model.MetaReach.Sym → List RsslVerif.Model.MetaReach.Sym
  | .fn 0 => [.fn 1]
  | .fn 1 => [.glob 4]
  | .glob 4 => [.glob 7]
  | _ => []

example : Reach exampleDirect (.fn 0) (.glob 7) :=
  Reach.step (m := .fn 1) (Reach.base (by decide))
    (Reach.step (m := .glob 4) (Reach.base (by decide)) (Reach.base (by decide)))

/-- the `is_used` flag of an entry: always true on HLSL (so a reachable binding is never reported unused),
    the membership test on Metal -/
theorem used_flag {u : Bool} {d : MDecl} {ob : Option Binding} {g : Nat} {e : Entry} :
    (hlslEvent d ob = .ok (some (g, e)) → e.used = true) ∧
    (mslEvent u d ob = .ok (some (g, e)) → e.used = u) := by
  constructor
  · intro h
    obtain ⟨_, _, _, _, _, hu⟩ := hlslEvent_some h
    exact hu
  · intro h
    obtain ⟨_, _, _, _, _, hu, _⟩ := mslEvent_some h
    exact hu

/-- Each reported stage names the function the emitted source defines for it, and the reported thread group
    size is the value of the **last** thread group size attribute that function is emitted with (`none` when it has
    none) — on every target and for every stage kind, whatever the name generator did to the entry function's name:
    HLSL reports the exporter's generated name (fix "report the emitted name of HLSL entry points"), Metal the
    fixed name of its generated entry function (the two name tables agree).  When the function carries exactly one
    attribute, reported = emitted. -/
theorem entry_named_and_defined (msl : Bool) (funcs : List FuncDef) (s : StageDef) (r : StageOut)
    (h : reportStage msl funcs s = some r) :
    ∃ attrs, emittedStage msl funcs s = some (r.entryPoint, attrs) ∧ r.stage = s.stage ∧
      r.threadGroupSize = lastNumThreads attrs ∧ (∀ t, attrs = [t] → r.threadGroupSize = some t) ∧
      (attrs = [] → r.threadGroupSize = none) := by
  revert h
  fun_cases reportStage msl funcs s <;> intro h <;> cases h
  rename_i f hf
  refine ⟨f.attrs, ?_, rfl, rfl, ?_, ?_⟩
  · cases msl <;> simp [emittedStage, hf, msl_entry_names_agree]
  · intro t ht; simp [ht, lastNumThreads]
  · intro ht; simp [ht, lastNumThreads]

/-- a renamed entry point: reported and emitted names are both `float16_t_0` -/
example : reportStage false [{ name := "float16_t", emitted := "float16_t_0", attrs := [(8, 4, 1)] }]
      { stage := .Compute, entry := 0 } = some ⟨.Compute, "float16_t_0", some (8, 4, 1)⟩ := rfl

open RsslVerif.Model.MetaFront RsslVerif.Lemmas.MetaFront in
/-- A `Pipeline` block the front end accepts yields one stage record per stage property, in the order the
    properties are written (not in a canonical stage order); each record points at the one function of the registry
    (`funcs` = the registry *as the block finds it*: the functions registered so far and the intrinsics)
    that carries the given name — a function with a body that is no template — and stores the last
    `numthreads` attribute of exactly that function, for every stage kind alike. -/
theorem stage_records_follow_properties {funcs : List FnSrc} {earlier : List String} {p : PipeSrc} {d : PipeDef}
    (h : parsePipeline funcs earlier p = .ok d) :
    d.stages.map (·.stage) = p.stages.map (·.1) ∧ d.stages ≠ [] ∧ d.dflt = p.dflt.getD 0 ∧
    ∀ s ∈ d.stages, ∃ q ∈ p.stages, s.stage = q.1 ∧ fnIndices funcs q.2 0 = [s.entry] ∧
      ∃ f, funcs[s.entry]? = some f ∧ f.name = q.2 ∧ f.hasBody = true ∧ f.isTemplate = false ∧ f.registered = true ∧
        s.threadGroupSize = lastNumThreads f.attrs := by
  obtain ⟨_, _, hd, hmap, hne, hall, _⟩ := parsePipeline_ok h
  refine ⟨hmap, hne, hd, ?_⟩
  intro s hs
  obtain ⟨q, hq, hadd⟩ := hall s hs
  obtain ⟨h1, h2, f, hf, hn, ht, hb, hr, htg⟩ := addStage_ok hadd
  exact ⟨q, hq, h1, h2, f, hf, hn, hb, ht, hr, htg⟩

open RsslVerif.Model.MetaFront RsslVerif.Lemmas.MetaFront in
/-- `build_pipeline` copies `stage.thread_group_size` of the record; that is the value `reportStage` computes
    from the attributes the entry function is emitted with, whenever the emitted function table carries the same
    attributes as the front end's — so for every stage kind: reported size = last emitted attribute. -/
theorem reported_size_is_the_typers_record {funcs : List FnSrc} {earlier : List String} {p : PipeSrc} {d : PipeDef}
    (h : parsePipeline funcs earlier p = .ok d) {fdefs : List FuncDef} (msl : Bool)
    (hsame : ∀ (i : Nat) (f : FnSrc), funcs[i]? = some f → ∃ g : FuncDef, fdefs[i]? = some g ∧ g.attrs = f.attrs) :
    ∀ s ∈ d.stages, ∃ r, reportStage msl fdefs { stage := s.stage, entry := s.entry } = some r ∧
      r.stage = s.stage ∧ r.threadGroupSize = s.threadGroupSize := by
  intro s hs
  obtain ⟨_, _, _, hall⟩ := stage_records_follow_properties h
  obtain ⟨_, _, _, _, f, hf, _, _, _, _, htg⟩ := hall s hs
  obtain ⟨g, hg, hga⟩ := hsame _ f hf
  refine ⟨{ stage := s.stage, entryPoint := if msl then mslEntryName s.stage else g.emitted,
            threadGroupSize := lastNumThreads g.attrs }, by simp [reportStage, hg], rfl, ?_⟩
  simp [htg, hga]

open RsslVerif.Model.MetaFront RsslVerif.Lemmas.MetaFront in
/-- **The reported thread group size is the emitted one.**  A file (fix 0f5be73, "a function attribute can be given
    only once") the front end accepts *defines* no function with a second `numthreads` attribute (a forward
    declaration may carry any: `parse_function` never parses its attributes — and never stores them either).  A stage
    entry function has an implementation when its `Pipeline` block is met, so it was defined by an earlier root
    definition of the file and went through `parse_function_attributes`.  So for every pipeline of an accepted file,
    every stage record and both back ends: the stage reports the emitted entry function, and the thread group size
    attributes that function is emitted with are *exactly* the reported size (`[]` when none is reported, `[t]` when
    `t` is) — for every stage kind.
    `funcs` = the table of all functions the file registers plus the intrinsics; the only hypothesis on it: before the
    file is read nothing has an implementation (intrinsics never have one). -/
theorem reported_thread_group_size_is_emitted {funcs : List FnSrc} {items : List Item} {ds : List PipeDef}
    (h : parseFile funcs [] [] [] items = .ok ds)
    (hfuncs : ∀ f ∈ funcs, f.hasBody = false)
    {fdefs : List FuncDef} (msl : Bool)
    (hsame : ∀ (i : Nat) (f : FnSrc), funcs[i]? = some f → ∃ g : FuncDef, fdefs[i]? = some g ∧ g.attrs = f.attrs) :
    ∀ d ∈ ds, ∀ s ∈ d.stages, ∃ r, reportStage msl fdefs { stage := s.stage, entry := s.entry } = some r ∧
      emittedStage msl fdefs { stage := s.stage, entry := s.entry } = some (r.entryPoint, r.threadGroupSize.toList) ∧
      r.stage = s.stage ∧ r.threadGroupSize = s.threadGroupSize := by
  intro d hd s hs
  obtain ⟨p, _, dc', df', e, hp, hdf⟩ := parseFile_ok h (fun _ hi => nomatch hi) d hd
  obtain ⟨_, _, _, hall⟩ := stage_records_follow_properties hp
  obtain ⟨_, _, _, _, v, hv, _, hvb, _, _, htg⟩ := hall s hs
  obtain ⟨f, hf, _, hfa, _, hfb, _⟩ := regAt_getElem? hv
  obtain ⟨g, hg, hga⟩ := hsame _ f hf
  have hlen : f.attrs.length ≤ 1 := by
    have hnb := hfuncs f (List.mem_of_getElem? hf)
    rw [hfb, hnb] at hvb
    exact hdf _ (by simpa using hvb) f hf
  refine ⟨{ stage := s.stage, entryPoint := if msl then mslEntryName s.stage else g.emitted,
            threadGroupSize := lastNumThreads g.attrs }, by simp [reportStage, hg], ?_, rfl, by simp [htg, hga, hfa]⟩
  simp only [emittedStage, hg, Option.some.injEq, Prod.mk.injEq]
  refine ⟨?_, ?_⟩
  · cases msl with
    | true => simp [msl_entry_names_agree]
    | false => simp
  · rw [hga]; exact lastNumThreads_of_length hlen

open RsslVerif.Model.MetaFront in
/-- a definition with two `numthreads` attributes is refused by the front end, whatever follows it … -/
example : parseFile [⟨"cs_0", [(9, 4, 1), (8, 4, 1)], false, false, false⟩] [] [] []
    [.defn 0, .pipe ⟨"P0", [(.Compute, "cs_0")], none, false⟩] =
    .error .FunctionAttributeDuplicate := rfl

open RsslVerif.Model.MetaFront in
/-- … while the same file with one attribute is accepted and records it (the hypotheses of
    `reported_thread_group_size_is_emitted` are satisfiable), also with a forward declaration in front -/
example : (parseFile [⟨"cs_0", [(8, 4, 1)], false, false, false⟩] [] [] []
    [.decl 0, .defn 0, .pipe ⟨"P0", [(.Compute, "cs_0")], none, false⟩]).toOption.map
      (·.map (·.stages)) = some [[⟨.Compute, 0, some (8, 4, 1)⟩]] := by decide +kernel

open RsslVerif.Model.MetaFront RsslVerif.Lemmas.MetaFront in
/-- **The first error in file order wins**, for every file: when the root definitions up to some point are refused,
    the file is refused with exactly that error, whatever follows (`type_check_internal` returns at the first `?`). -/
theorem first_front_end_error_wins {funcs : List FnSrc} {e : FrontErr} {pre : List Item} (post : List Item)
    {dc df : List Nat} {earlier : List String} (h : parseFile funcs dc df earlier pre = .error e) :
    parseFile funcs dc df earlier (pre ++ post) = .error e :=
  parseFile_prefix_error post h

/-- the function table of the reduced seed-1 soak program: one mesh entry point written with two `numthreads` -/
def soakFuncs : List RsslVerif.Model.MetaFront.FnSrc := [⟨"ms_2", [(2, 2, 1), (1, 2, 1)], false, false, false⟩]

/-- an entry point and a second function of the same name (an overload) -/
def overloadFuncs : List RsslVerif.Model.MetaFront.FnSrc :=
  [⟨"cs_0", [(8, 4, 1)], false, false, false⟩, ⟨"cs_0", [], false, false, false⟩]

open RsslVerif.Model.MetaFront in
/-- the program of the seed-1 soak, reduced: a forward declaration with two `numthreads`, a `Pipeline` block without
    entry point, then the definition (two `numthreads`).  The declaration's attributes are not parsed: the block is the
    first error.  With the definition in front of the block the attribute error comes first; a block that names the
    entry point between declaration and definition finds a function without implementation. -/
example :
    parseFile soakFuncs [] [] [] [.decl 0, .pipe ⟨"P0", [], none, true⟩, .defn 0] = .error .PipelineNoEntryPoint ∧
    parseFile soakFuncs [] [] [] [.decl 0, .defn 0, .pipe ⟨"P0", [], none, true⟩] = .error .FunctionAttributeDuplicate ∧
    parseFile soakFuncs [] [] [] [.decl 0, .pipe ⟨"P0", [(.Mesh, "ms_2")], none, false⟩, .defn 0] =
      .error .PipelineEntryPointFunctionUnknown ∧
    parseFile soakFuncs [] [] [] [.pipe ⟨"P0", [(.Mesh, "ms_2")], none, false⟩, .defn 0] =
      .error .PipelineEntryPointFunctionUnknown := ⟨rfl, rfl, rfl, rfl⟩

open RsslVerif.Model.MetaFront in
/-- the entry point is looked up in the registry *of the moment*: an overload defined after the `Pipeline` block does
    not make the name ambiguous (accepted, record points at function 0), one defined before it does -/
example :
    (parseFile overloadFuncs [] [] [] [.defn 0, .pipe ⟨"P0", [(.Compute, "cs_0")], none, false⟩, .defn 1]).toOption.map
      (·.map (·.stages)) = some [[⟨.Compute, 0, some (8, 4, 1)⟩]] ∧
    parseFile overloadFuncs [] [] [] [.defn 0, .defn 1, .pipe ⟨"P0", [(.Compute, "cs_0")], none, false⟩] =
      .error .PipelineEntryPointFunctionUnknown := ⟨by decide, rfl⟩

open RsslVerif.Model.MetaFront RsslVerif.Lemmas.MetaFront in
/-- the pipelines of an accepted file — `Pipeline` blocks anywhere between the functions — are its blocks in source
    order and have pairwise different names: selecting by name is unambiguous -/
theorem pipeline_names_distinct {funcs : List FnSrc} {items : List Item} {dc df : List Nat} {ds : List PipeDef}
    (h : parseFile funcs dc df [] items = .ok ds) :
    ds.map (·.name) = (itemPipes items).map (·.name) ∧ (ds.map (·.name)).Pairwise (· ≠ ·) := by
  obtain ⟨h1, h2⟩ := parseFile_names_of_pairwise h .nil
  exact ⟨h1, by simpa [h1] using h2⟩

open RsslVerif.Model.MetaFront RsslVerif.Lemmas.MetaFront RsslVerif.Model in
/-- **Arbitrary names.** Whatever the source names are — reserved in the target language, overloaded, equal to
    another symbol's generated name — two different symbols (functions, globals, structs, namespaces) that the
    name map places in the same scope never receive the same name.  Since the HLSL stage record and every
    binding name are read from the same map the definitions are printed from, a reported entry point name denotes
    exactly one emitted function of its scope and a reported binding name exactly one emitted global of its
    scope. -/
theorem reported_name_denotes_one_symbol {reserved : List String} {src : NameSrc} {names : List Names.Named}
    (h : Names.build reserved src.input = .ok names)
    {k₁ k₂ : Names.Kind} {i j : Nat} {n₁ n₂ : String}
    (h₁ : leaf names k₁ i = .ok n₁) (h₂ : leaf names k₂ j = .ok n₂)
    (hk₁ : k₁ ≠ .localVar) (hk₂ : k₂ ≠ .localVar) (hne : (k₁, i) ≠ (k₂, j))
    (hscope : (Names.lookup names ⟨k₁, i⟩).map (·.scope) = (Names.lookup names ⟨k₂, j⟩).map (·.scope)) :
    n₁ ≠ n₂ := by
  obtain ⟨a, ha, rfl⟩ := leaf_ok h₁
  obtain ⟨b, hb, rfl⟩ := leaf_ok h₂
  obtain ⟨ham, has⟩ := Lemmas.Names.mem_of_lookup ha
  obtain ⟨hbm, hbs⟩ := Lemmas.Names.mem_of_lookup hb
  apply RsslVerif.Thm.C15.injective_per_scope h a ham b hbm
  · rw [has]; exact hk₁
  · rw [hbs]; exact hk₂
  · simpa [ha, hb] using hscope
  · rw [has, hbs]; intro e; apply hne; cases e; rfl

open RsslVerif.Model.MetaFront RsslVerif.Lemmas.MetaFront RsslVerif.Model in
/-- `entry_named_and_defined` for arbitrary names (HLSL): when the emitted function table takes its names from
    the name map — as the exporter does for the definitions it prints and for `entry_point_names` alike — the
    reported entry point is the emitted name of the stage's entry function and **no other** function the map
    places in the same scope is emitted under that name, whether the source name was reserved, overloaded or
    equal to another function's generated name. -/
theorem hlsl_entry_point_unambiguous {reserved : List String} {src : NameSrc} {names : List Names.Named}
    (h : Names.build reserved src.input = .ok names) {fdefs : List FuncDef}
    (hf : ∀ (i : Nat) (f : FuncDef), fdefs[i]? = some f → leaf names .func i = .ok f.emitted)
    {s : StageDef} {r : StageOut} (hr : reportStage false fdefs s = some r) :
    (∃ f, fdefs[s.entry]? = some f ∧ r.entryPoint = f.emitted) ∧
    ∀ (j : Nat) (g : FuncDef), fdefs[j]? = some g → j ≠ s.entry →
      (Names.lookup names ⟨.func, j⟩).map (·.scope) = (Names.lookup names ⟨.func, s.entry⟩).map (·.scope) →
      g.emitted ≠ r.entryPoint := by
  revert hr
  fun_cases reportStage false fdefs s <;> intro hr <;> cases hr
  rename_i f hfe
  refine ⟨⟨f, hfe, rfl⟩, fun j g hg hj hscope => ?_⟩
  exact reported_name_denotes_one_symbol h (hf j g hg) (hf s.entry f hfe) (by decide) (by decide)
    (by intro e; apply hj; cases e; rfl) hscope

open RsslVerif.Model.MetaFront RsslVerif.Lemmas.MetaFront RsslVerif.Model in
/-- no reported name is a reserved word of the target language -/
theorem reported_name_not_reserved {reserved : List String} {src : NameSrc} {names : List Names.Named}
    (h : Names.build reserved src.input = .ok names) {k : Names.Kind} {i : Nat} {n : String}
    (hl : leaf names k i = .ok n) : n ∉ reserved := by
  obtain ⟨a, ha, rfl⟩ := leaf_ok hl
  exact RsslVerif.Thm.C15.never_reserved h a (Lemmas.Names.mem_of_lookup ha).1

open RsslVerif.Model.MetaFront RsslVerif.Lemmas.MetaFront RsslVerif.Model in
/-- `NameKept` as a theorem: a function (or global) whose source name no other symbol of its scope carries and
    that is not reserved is printed and reported under exactly that name, so for such entry points the reported
    name is the name written in the `Pipeline` block. -/
theorem name_kept_when_unique_and_free {reserved : List String} {src : NameSrc} {names : List Names.Named}
    (h : Names.build reserved src.input = .ok names) {sc : Option Nat} (hsc : sc ∈ Names.scopeIds src.input)
    {n : String} {sym : Names.Sym}
    (hmem : (n, sym) ∈ Names.scopeSyms src.input sc)
    (huniq : ((Names.scopeSyms src.input sc).filter (fun p => p.1 == n)).map (·.2) = [sym])
    (hres : n ∉ reserved) : (⟨sym, sc, n⟩ : Names.Named) ∈ names :=
  RsslVerif.Thm.C15.verbatim h hsc hmem huniq hres

/-- HLSL prints and reports a cbuffer block under its *source* name (`get_constant_buffer_name` reads the
    registry, not the name map).  Negation witness of "every reported name denotes one declaration" on the current
    tables: `Texture2D<float4> float16_t; cbuffer float16_t_0 { .. }` — the global's name is reserved in HLSL and
    becomes `float16_t_0`, the cbuffer keeps `float16_t_0`, and the metadata holds two entries of that name
    (replayed on the real compiler by the corpus). -/
theorem hlsl_cbuffer_bypasses_name_map_witness :
    (RsslVerif.Model.Names.build hlslReserved
        (RsslVerif.Model.MetaFront.NameSrc.input { nss := [], structs := [], globals := [(none, "float16_t")], funcs := [] })).toOption.bind
      (fun names => (RsslVerif.Model.MetaFront.leaf names .global 0).toOption) = some "float16_t_0" ∧
    (hlslMeta (paramsFor .HlslForDirectX false) 0
        [.global "float16_t_0" none false (some .Texture2D) .no false .extern, .cbuffer "float16_t_0" none]).toOption.map
      (·.map fun g => g.bindings.map (·.name)) = some [["float16_t_0", "float16_t_0"]] := by
  constructor
  · decide +kernel
  · decide +kernel

/-- Bindings are reported under their leaf name.  Negation witness: `Texture2D<float4> g_t;
    namespace NS1 { Texture2D<float4> g_t; }` — the two globals live in different scopes and both keep `g_t`. -/
theorem same_leaf_name_in_two_namespaces_witness :
    (RsslVerif.Model.Names.build mslReserved
        (RsslVerif.Model.MetaFront.NameSrc.input
          { nss := [(none, "NS1")], structs := [], globals := [(none, "g_t"), (some 0, "g_t")], funcs := [] })).toOption.map
      (fun names => ((RsslVerif.Model.MetaFront.leaf names .global 0).toOption,
                     (RsslVerif.Model.MetaFront.leaf names .global 1).toOption)) =
      some (some "g_t", some "g_t") := by
  decide +kernel

/-! Non-vacuity: a block with reversed stage properties is accepted and recorded in property order; overloads
    `a`, `a` next to an entry point `a_0` get three different names (the entry point keeps `a_0`:
    names that can be kept are claimed first); a compute stage next to
    another stage and a second pipeline of the same name are refused. -/
open RsslVerif.Model.MetaFront in
example : (parsePipeline [⟨"h", [], true, false, true⟩, ⟨"vs", [], true, false, true⟩, ⟨"ps", [(4, 2, 1)], true, false, true⟩] ["P0"]
      ⟨"P1", [(.Pixel, "ps"), (.Vertex, "vs")], some 2, true⟩).toOption =
    some ⟨"P1", 2, [⟨.Pixel, 2, some (4, 2, 1)⟩, ⟨.Vertex, 1, none⟩], true⟩ := by decide +kernel

open RsslVerif.Model.MetaFront in
example : (parsePipeline [⟨"cs", [(8, 4, 1)], true, false, true⟩, ⟨"ps", [], true, false, true⟩] []
      ⟨"P0", [(.Compute, "cs"), (.Pixel, "ps")], none, false⟩).toOption = none ∧
    (parsePipeline [⟨"cs", [(8, 4, 1)], true, false, true⟩] ["P0"] ⟨"P0", [(.Compute, "cs")], none, false⟩).toOption = none ∧
    (parsePipeline [⟨"cs", [(8, 4, 1)], true, false, true⟩, ⟨"cs", [], true, false, true⟩] [] ⟨"P0", [(.Compute, "cs")], none, false⟩).toOption = none := by
  decide +kernel

example : (RsslVerif.Model.Names.build hlslReserved
      (RsslVerif.Model.MetaFront.NameSrc.input { nss := [], structs := [], globals := [], funcs := [(none, "a"), (none, "a"), (none, "a_0")] })).toOption.map
      (fun names => [0, 1, 2].map fun i => (RsslVerif.Model.MetaFront.leaf names .func i).toOption) =
    some [some "a_1", some "a_2", some "a_0"] := by decide +kernel

example : hlslAnnot (paramsFor .HlslForVulkan true) (.global "g" (some 1) false (some .Texture2D) (.sized 3) false .extern)
      (some ⟨1, .index 4, none⟩) = .ok (some (.vk 4 1)) ∧
    hlslEvent (.global "g" (some 1) false (some .Texture2D) (.sized 3) false .extern) (some ⟨1, .index 4, none⟩) =
      .ok (some (1, ⟨"g", .index 4, .Texture2d, some 3, false, true, false⟩)) := ⟨rfl, rfl⟩

example : String.ofList (Annot.print (.reg .T 3 1)).2 = " : register(t3, space1)" ∧
    String.ofList (Annot.print (.vk 3 0)).2 = "[[vk::binding(3)]]" ∧
    (Annot.print (.offset 8 2)).1 = "InlineDescriptor2".toList := by decide +kernel

/-! Non-vacuity: a mixed module goes through both exporters' metadata builders, and the usage loop
    terminates on a small call graph. -/
def exampleDecls : List MDecl :=
  [ .other, .cbuffer "g_cb" none, .global "g_t" (some 1) false (some .Texture2D) (.sized 3) false .extern,
    .global "s_value" none false none .no false .static,
    .global "g_ss" none true (some .SamplerState) .no false .extern,
    .global "g_ba" none false (some .BufferAddress) .no false .extern,
    .global "g_bab" none false (some .ByteAddressBuffer) (.sized 2) true .extern ]

example : ((hlslMeta (paramsFor .HlslForVulkan true) 0 exampleDecls).toOption.map
      (·.map fun g => (g.bindings.map (·.name), g.inlineConstants))) =
    some [(["g_cb", "g_ss", "g_ba", "g_bab"], some (4, 8)), (["g_t"], none)] := by decide +kernel

example : ((mslMeta (paramsFor .Msl false) 0 (fun i => i == 2) exampleDecls).toOption.map
      (·.map fun g => g.bindings.map fun e => (e.name, e.loc, e.used))) =
    some [[("g_cb", .index 0, false), ("g_ba", .index 1, false), ("g_bab", .index 3, false)],
          [("g_t", .index 0, true)]] := by decide +kernel

example : boundNames (paramsFor .Msl false) 0 0 exampleDecls = ["g_cb", "g_ba", "g_bab"] := by decide +kernel

open RsslVerif.Model.MetaReach in
example : ((recurse 6 [.fn 0, .fn 1, .fn 2, .glob 7, .glob 9, .glob 3]
      (fun k => if k = .fn 0 then [.fn 1] else if k = .fn 1 then [.glob 7, .fn 2] else if k = .fn 2 then [.glob 9]
                else if k = .glob 9 then [.glob 3] else [])).map
      fun req => (usedBy req [0] 9, usedBy req [0] 3, usedBy req [2] 7)) = some (true, true, false) := by decide +kernel

end RsslVerif.Thm.C05
