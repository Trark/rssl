import RsslVerif.Model.RetScope
import RsslVerif.Gen.RetScope
/-! # C03: a `return` is checked against, and converted to, the return type of the function that contains it

whatever template instantiations (struct templates with any number of methods, function templates, nested to any depth) were
checked re-entrantly between the entry of the function and the `return`.  All statements quantify over all bodies, names,
types and scope chains; proofs by mutual structural induction over `Item` / `Items` / `Methods`, in the form of the induction
principle of `elabItem` / `elabItems` / `elabMethods`. -/
namespace RsslVerif.Thm.C03R
open RsslVerif.Model.RetScope

/-! ## Reference semantics: purely structural, no scope state

`specItems owner R T b` = the checked returns of a body `b` written inside the function `owner` that returns `R`, where the
name `T` means `T`: a return statement belongs to the function node that textually contains it. -/

/-- a written type under a binding of `T` (`void` stands for an unbound `T`; never reached from an accepted program) -/
def resolveSpec (T : Option Code) : TyRef → Code
  | .lit c => c
  | .tparam => T.getD .void

mutual
def specItem (owner : String) (R : Code) (T : Option Code) : Item → List Ev
  | .ret o => [⟨owner, R, o.map (resolveSpec T)⟩]
  | .blk b => specItems owner R T b
  | .st _ arg ms => specMethods (some (resolveSpec T arg)) ms
  | .ft name rt arg b => specItems name (resolveSpec (some (resolveSpec T arg)) rt) (some (resolveSpec T arg)) b
def specItems (owner : String) (R : Code) (T : Option Code) : Items → List Ev
  | .nil => []
  | .cons i r => specItem owner R T i ++ specItems owner R T r
def specMethods (T : Option Code) : Methods → List Ev
  | .nil => []
  | .cons name rt b r => specItems name (resolveSpec T rt) T b ++ specMethods T r
end

/-- the return statements written directly in a body (at any block depth), not those of the templates it instantiates -/
def directRets : Items → List (Option TyRef)
  | .nil => []
  | .cons (.ret o) r => o :: directRets r
  | .cons (.blk b) r => directRets b ++ directRets r
  | .cons (.st _ _ _) r => directRets r
  | .cons (.ft _ _ _ _) r => directRets r

/-- what the language allows: a value of type `got` (`none`: no value) returned from a function of type `want` -/
def Returnable (got : Option Code) (want : Code) : Prop :=
  match got with
  | none => want = .void
  | some g => conv g want = true

/-! ## the source facts the model rests on (re-extracted on every run) -/

/-- `get_current_return_type` is `search_scopes(|s| s.function_return_type)`; `search_scopes` walks the parent chain from
    `current_scope`; `revisit_function` only re-enters the function's scope; the only writers of `function_return_type` are
    `set_function_return_type` (called once, by `parse_function_signature`, right after `parse_returntype`) and
    `build_function_template_signature`; both `return` arms of `parse_statement` ask `get_current_return_type`; `Context` has
    no other field that could remember a "current function".  Seeded mutant C03-6 falsifies it. -/
theorem returnTypeComesFromTheScopeChain :
    RsslVerif.Gen.RetScope.returnTypeComesFromTheScopeChain = true
    ∧ RsslVerif.Gen.RetScope.searchScopesWalksParents = true
    ∧ RsslVerif.Gen.RetScope.revisitFunctionOnlyReentersScope = true
    ∧ RsslVerif.Gen.RetScope.setFunctionReturnTypeAsPinned = true
    ∧ RsslVerif.Gen.RetScope.functionReturnTypeWriters = ["build_function_template_signature", "set_function_return_type"]
    ∧ RsslVerif.Gen.RetScope.functionReturnTypeInitialisedNone = 2
    ∧ RsslVerif.Gen.RetScope.setFunctionReturnTypeCallers = ["functions.rs:parse_function_signature"]
    ∧ RsslVerif.Gen.RetScope.getCurrentReturnTypeCallers = ["statements.rs:parse_statement", "statements.rs:parse_statement"]
    ∧ RsslVerif.Gen.RetScope.contextFields = ["module", "scopes", "current_scope", "function_to_scope", "struct_template_data"]
    ∧ RsslVerif.Gen.RetScope.instantiationRestoresCurrentScope = true :=
  ⟨rfl, rfl, rfl, rfl, rfl, rfl, rfl, rfl, rfl, rfl⟩

theorem resolve_spec {chain : List Frame} {r : TyRef} {c : Code} (h : resolve chain r = some c) :
    resolveSpec (currentT chain) r = c := by
  cases r with
  | lit c' => simp [resolve] at h; simp [resolveSpec, h]
  | tparam => simp [resolve] at h; simp [resolveSpec, h]

theorem popScope_cons {x : Frame} {chain c : List Frame} (hne : chain ≠ []) (h : popScope (x :: chain) = .ok c) : c = chain := by
  cases chain with
  | nil => exact absurd rfl hne
  | cons p r => simp [popScope] at h; exact h.symm

theorem currentRet_ne_nil {chain : List Frame} {R : Code} (h : currentRet chain = some R) : chain ≠ [] := by
  intro hc; subst hc; simp [currentRet] at h

@[simp] theorem currentT_bound (x : Option Code) (a : Code) (c : List Frame) :
    currentT ({ fnRet := x, targ := some a } :: c) = some a := by simp [currentT, List.findSome?]

@[simp] theorem currentT_unbound (x : Option Code) (c : List Frame) :
    currentT ({ fnRet := x, targ := none } :: c) = currentT c := by simp [currentT, List.findSome?]

@[simp] theorem currentRet_function (R : Code) (t : Option Code) (c : List Frame) :
    currentRet ({ fnRet := some R, targ := t } :: c) = some R := by simp [currentRet, List.findSome?]

@[simp] theorem currentRet_block (t : Option Code) (c : List Frame) :
    currentRet ({ fnRet := none, targ := t } :: c) = currentRet c := by simp [currentRet, List.findSome?]

/-- an accepted `return` records one event: for the innermost function of the chain, with an operand returnable from it -/
theorem elabRet_ok {owner : String} {chain : List Frame} {o : Option TyRef} {evs : List Ev}
    (h : elabRet owner chain o = .ok evs) :
    ∃ R, currentRet chain = some R ∧ evs = [⟨owner, R, o.map (resolveSpec (currentT chain))⟩] ∧
      Returnable (o.map (resolveSpec (currentT chain))) R := by
  revert h
  fun_cases elabRet owner chain o <;> intro h <;> cases h
  case case2 R hw hv => exact ⟨R, hw, rfl, by simpa [Returnable] using hv⟩
  case case6 hgot R hw hc => exact ⟨R, hw, by simp [resolve_spec hgot], by simpa [Returnable, resolve_spec hgot] using hc⟩

/-! ## the invariant: episodes leave the scope chain as they found it, and every return is checked against the type of the
    function node that contains it -/

/-- an accepted episode (of an item, of the methods of a struct, of a body): every recorded return is returnable; inside a
    function it leaves the chain as it found it and records what the reference semantics lists.  By the induction principle of
    `elabItem` / `elabMethods` / `elabItems`: one case per branch of the three functions, the accepted ones by name. -/
theorem elab_run :
    (∀ owner chain it c evs, elabItem owner chain it = .ok (c, evs) →
      (∀ ev ∈ evs, Returnable ev.got ev.want) ∧
        ∀ R, currentRet chain = some R → c = chain ∧ evs = specItem owner R (currentT chain) it) ∧
    (∀ chain ms c evs, elabMethods chain ms = .ok (c, evs) →
      (∀ ev ∈ evs, Returnable ev.got ev.want) ∧
        (chain ≠ [] → c = chain ∧ evs = specMethods (currentT chain) ms)) ∧
    (∀ owner chain b c evs, elabItems owner chain b = .ok (c, evs) →
      (∀ ev ∈ evs, Returnable ev.got ev.want) ∧
        ∀ R, currentRet chain = some R → c = chain ∧ evs = specItems owner R (currentT chain) b) := by
  refine elabItem.mutual_induct_unfolding
    (fun owner chain it res => ∀ c evs, res = .ok (c, evs) → (∀ ev ∈ evs, Returnable ev.got ev.want) ∧
      ∀ R, currentRet chain = some R → c = chain ∧ evs = specItem owner R (currentT chain) it)
    (fun chain ms res => ∀ c evs, res = .ok (c, evs) → (∀ ev ∈ evs, Returnable ev.got ev.want) ∧
      (chain ≠ [] → c = chain ∧ evs = specMethods (currentT chain) ms))
    (fun owner chain b res => ∀ c evs, res = .ok (c, evs) → (∀ ev ∈ evs, Returnable ev.got ev.want) ∧
      ∀ R, currentRet chain = some R → c = chain ∧ evs = specItems owner R (currentT chain) b)
    ?_ ?ret ?_ ?_ ?blk ?_ ?_ ?_ ?_ ?st ?_ ?_ ?_ ?_ ?ft ?_ ?nil ?_ ?_ ?cons ?mnil ?_ ?_ ?_ ?_ ?mcons
  case ret =>
    intro owner chain o evs he c _ h
    cases h
    obtain ⟨R', hR', rfl, hret⟩ := elabRet_ok he
    exact ⟨by simpa using hret, fun R hR => ⟨rfl, by cases hR'.symm.trans hR; rfl⟩⟩
  case blk =>
    intro owner chain b c1 evs hb c' hp ih c _ h
    cases h
    have ih := ih _ _ hb
    refine ⟨ih.1, fun R hR => ?_⟩
    obtain ⟨rfl, rfl⟩ := ih.2 R (by simpa using hR)
    exact ⟨popScope_cons (currentRet_ne_nil hR) hp, by simp [specItem]⟩
  case st =>
    intro owner chain decl arg ms a ha c1 evs hm _ _ ih c _ h
    cases h
    have ih := ih _ _ hm
    refine ⟨ih.1, fun R _ => ⟨rfl, ?_⟩⟩
    rw [(ih.2 (by simp)).2]
    simp [specItem, resolve_spec ha]
  case ft =>
    intro owner chain name rt arg b a ha r hr c1 evs hb _ ih c _ h
    cases h
    have ih := ih _ _ hb
    refine ⟨ih.1, fun R _ => ⟨rfl, ?_⟩⟩
    rw [(ih.2 r (by simp)).2]
    have hr' := resolve_spec hr
    simp only [currentT_bound] at hr'
    simp [specItem, resolve_spec ha, hr']
  case nil =>
    intro owner chain c _ h
    cases h
    exact ⟨by simp, fun R _ => ⟨rfl, by simp [specItems]⟩⟩
  case cons =>
    intro owner chain i r c1 e1 hi c2 e2 hr ih1 ih2 c _ h
    cases h
    have ih1 := ih1 _ _ hi
    have ih2 := ih2 _ _ hr
    refine ⟨List.forall_mem_append.2 ⟨ih1.1, ih2.1⟩, fun R hR => ?_⟩
    obtain ⟨rfl, rfl⟩ := ih1.2 R hR
    obtain ⟨rfl, rfl⟩ := ih2.2 R hR
    exact ⟨rfl, by simp [specItems]⟩
  case mnil =>
    intro chain c _ h
    cases h
    exact ⟨by simp, fun _ => ⟨rfl, by simp [specMethods]⟩⟩
  case mcons =>
    intro chain name rt b r rr hrr c1 e1 hb c1' hp c2 e2 hr ih1 ih2 c _ h
    cases h
    have ih1 := ih1 _ _ hb
    have ih2 := ih2 _ _ hr
    refine ⟨List.forall_mem_append.2 ⟨ih1.1, ih2.1⟩, fun hne => ?_⟩
    obtain ⟨rfl, rfl⟩ := ih1.2 rr (by simp)
    obtain rfl := popScope_cons hne hp
    obtain ⟨rfl, rfl⟩ := ih2.2 hne
    exact ⟨rfl, by simp [specMethods, resolve_spec hrr]⟩
  all_goals
    intros
    contradiction

theorem elabItem_spec (owner : String) (chain : List Frame) (R : Code) (it : Item) (c : List Frame) (evs : List Ev)
    (hR : currentRet chain = some R) (h : elabItem owner chain it = .ok (c, evs)) :
    c = chain ∧ evs = specItem owner R (currentT chain) it :=
  (elab_run.1 owner chain it c evs h).2 R hR

theorem elabItem_returnable (owner : String) (chain : List Frame) (it : Item) (c : List Frame) (evs : List Ev)
    (h : elabItem owner chain it = .ok (c, evs)) : ∀ ev ∈ evs, Returnable ev.got ev.want :=
  (elab_run.1 owner chain it c evs h).1

theorem elabMethods_returnable (chain : List Frame) (ms : Methods) (c : List Frame) (evs : List Ev)
    (h : elabMethods chain ms = .ok (c, evs)) : ∀ ev ∈ evs, Returnable ev.got ev.want :=
  (elab_run.2.1 chain ms c evs h).1

/-- a return written directly in a body appears in the reference semantics with the body's own function and return type -/
theorem directRets_spec (owner : String) (R : Code) (T : Option Code) (b : Items) :
    ∀ o ∈ directRets b, (⟨owner, R, o.map (resolveSpec T)⟩ : Ev) ∈ specItems owner R T b := by
  fun_induction directRets b <;> intro o ho <;> simp only [specItems, specItem, List.mem_append, List.mem_singleton]
  case case1 => cases ho
  -- a `return`: this one, or one of the rest
  case case2 ih => exact (List.mem_cons.1 ho).imp (fun e => by rw [e]) (ih o)
  -- a block: one of its own, or one of the rest
  case case3 ihb ihr => exact (List.mem_append.1 ho).imp (ihb o) (ihr o)
  -- an instantiation has no direct return
  case case4 ih => exact .inr (ih o ho)
  case case5 ih => exact .inr (ih o ho)

/-- **Main theorem.**  Check the body `b` of a function `name` that returns `R` (its scope, holding `R`, entered from any
    chain of scopes).  If the body is accepted then (1) the scope chain is back where it was, and (2) the checked return
    statements — of this function and of every function checked re-entrantly on the way, struct-template methods and
    function-template instances nested to any depth — are exactly those of the structural reference semantics: each one
    checked against, and converted to, the return type of the function node that textually contains it.  No bound on the number
    of instantiations, of methods, of nesting. -/
theorem return_type_is_enclosing_functions (name : String) (R : Code) (chain : List Frame) (b : Items)
    (c : List Frame) (evs : List Ev)
    (h : elabItems name ({ fnRet := some R } :: chain) b = .ok (c, evs)) :
    c = { fnRet := some R } :: chain ∧ evs = specItems name R (currentT chain) b  := by
  simpa using (elab_run.2.2 name (({ fnRet := some R } : Frame) :: chain) b c evs h).2 R (by simp)

/-- the direct returns of the function: whatever was instantiated before them, each is recorded for `name` with type `R` -/
theorem direct_returns_get_the_functions_type (name : String) (R : Code) (chain : List Frame) (b : Items)
    (c : List Frame) (evs : List Ev)
    (h : elabItems name ({ fnRet := some R } :: chain) b = .ok (c, evs)) :
    ∀ o ∈ directRets b, (⟨name, R, o.map (resolveSpec (currentT chain))⟩ : Ev) ∈ evs := by
  have hs := (return_type_is_enclosing_functions name R chain b c evs h).2
  intro o ho
  rw [hs]
  exact directRets_spec name R (currentT chain) b o ho

/-- every return statement of an accepted body — at any nesting of instantiations — is returnable from the function that
    contains it: the operand converts to that function's return type, a bare `return` only in a void function -/
theorem accepted_returns_are_returnable (name : String) (R : Code) (chain : List Frame) (b : Items)
    (c : List Frame) (evs : List Ev)
    (h : elabItems name ({ fnRet := some R } :: chain) b = .ok (c, evs)) :
    ∀ ev ∈ specItems name R (currentT chain) b, Returnable ev.got ev.want  := by
  rw [← (return_type_is_enclosing_functions name R chain b c evs h).2]
  exact (elab_run.2.2 name _ b c evs h).1

/-- **Rejection.**  A function returning `R` whose body contains — after any instantiations — a direct `return` of a value
    whose type does not convert to `R` (or a bare `return` although `R` is not void) is never accepted. -/
theorem elab_rejects_unconvertible_return_after_instantiations (name : String) (R : Code) (chain : List Frame) (b : Items)
    (o : Option TyRef) (ho : o ∈ directRets b)
    (hbad : ¬ Returnable (o.map (resolveSpec (currentT chain))) R) :
    ∀ c evs, elabItems name ({ fnRet := some R } :: chain) b ≠ .ok (c, evs) := by
  intro c evs h
  have hmem := directRets_spec name R (currentT chain) b o ho
  exact hbad (accepted_returns_are_returnable name R chain b c evs h _ hmem)

/-- the same for the methods of a struct (template instance or ordinary struct) checked in any non-empty chain -/
theorem methods_return_their_own_types (chain : List Frame) (ms : Methods) (c : List Frame) (evs : List Ev)
    (hne : chain ≠ []) (h : elabMethods chain ms = .ok (c, evs)) :
    c = chain ∧ evs = specMethods (currentT chain) ms  :=
  (elab_run.2.1 chain ms c evs h).2 hne

/-- `int2 g() { B<float> b; return gf2; }` with `template<typename T> struct B { T v; T get() { return v; } };`: accepted, the
    function's return is converted to `int2`, the method's to `float` -/
example :
    elabItems "g" ({ fnRet := some .i2 } :: rootChain)
      (.cons (.st true (.lit .f) (.cons "get" .tparam (.cons (.ret (some .tparam)) .nil) .nil)) (.cons (.ret (some (.lit .f2))) .nil))
    = .ok ({ fnRet := some .i2 } :: rootChain, [⟨"get", .f, some .f⟩, ⟨"g", .i2, some .f2⟩]) := by rfl

/-- `float f() { B<S0> b; return gs0; }` (the demonstration of seeded mutant C03-6): rejected, expected type `float` -/
example :
    elabItems "f" ({ fnRet := some .f } :: rootChain)
      (.cons (.st true (.lit .s0) (.cons "get" .tparam (.cons (.ret (some .tparam)) .nil) .nil)) (.cons (.ret (some (.lit .s0))) .nil))
    = .error (.wrongReturn .s0 .f) := by rfl

/-- hypotheses of the rejection theorem are satisfiable: that program has the direct return `gs0`, not returnable from `float` -/
example : (some (.lit .s0) : Option TyRef) ∈ directRets
      (.cons (.st true (.lit .s0) (.cons "get" .tparam (.cons (.ret (some .tparam)) .nil) .nil)) (.cons (.ret (some (.lit .s0))) .nil))
    ∧ ¬ Returnable ((some (.lit .s0) : Option TyRef).map (resolveSpec (currentT rootChain))) .f :=
  ⟨by simp [directRets], by simp [Returnable, resolveSpec, conv, Code.numeric]⟩

/-- nesting: a function template whose body names a struct template with `T`, a void method with a bare return, a return in a block -/
example :
    elabItems "h" ({ fnRet := some .s1 } :: rootChain)
      (.cons (.ft "ft" .tparam (.lit .i2)
          (.cons (.st false .tparam (.cons "m0" (.lit .void) (.cons (.ret none) .nil) (.cons "m1" .tparam (.cons (.ret (some (.lit .b))) .nil) .nil)))
            (.cons (.blk (.cons (.ret (some .tparam)) .nil)) .nil)))
        (.cons (.ret (some (.lit .s1))) .nil))
    = .ok ({ fnRet := some .s1 } :: rootChain,
        [⟨"m0", .void, none⟩, ⟨"m1", .i2, some .b⟩, ⟨"ft", .i2, some .i2⟩, ⟨"h", .s1, some .s1⟩]) := by rfl

end RsslVerif.Thm.C03R
