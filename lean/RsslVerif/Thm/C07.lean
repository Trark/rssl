import RsslVerif.Gen.HashSites
import RsslVerif.Gen.EnumRange
import RsslVerif.Gen.GlobalState
import RsslVerif.Gen.Reserved
import RsslVerif.Model.HashOrder
import RsslVerif.Model.History
import RsslVerif.Model.MemoDfs
import RsslVerif.Lemmas.Basics
import RsslVerif.Lemmas.EnumRange
import RsslVerif.Thm.C02
/-!
# C07 — compilation is deterministic

The only scheduling freedom in this single-threaded library is the iteration order of std
`HashMap`/`HashSet`.  The theorems state that each *shape* of iteration site is invariant under every
permutation of the iteration order, and `hash_sites_covered` ties the shapes to the source: every
iteration site found in the current tree is one that was reviewed and classified.
-/
namespace RsslVerif.Thm.C07
open RsslVerif.Model.HashOrder

/-- **Any** sort function (a function returning a sorted permutation of its input — Rust's `sort`,
    `sort_by`, `sort_unstable`, …) gives the same result on every permutation of the same elements,
    provided the order is antisymmetric on those elements (a derived `Ord`, or a `sort_by` key that is
    injective on the collection). -/
theorem sort_perm_invariant {α : Type} (le : α → α → Bool) (sortFn : List α → List α)
    (hsorted : ∀ l, (sortFn l).Pairwise (fun a b => le a b))
    (hperm : ∀ l, (sortFn l).Perm l)
    {l₁ l₂ : List α} (h : l₁.Perm l₂)
    (antisymm : ∀ a b, a ∈ l₁ → b ∈ l₁ → le a b → le b a → a = b) :
    sortFn l₁ = sortFn l₂ := by
  apply List.Perm.eq_of_pairwise (le := fun a b => le a b) _ (hsorted l₁) (hsorted l₂)
  · exact (hperm l₁).trans (h.trans (hperm l₂).symm)
  · intro a b ha hb hab hba
    have ha' : a ∈ l₁ := (hperm l₁).mem_iff.1 ha
    have hb' : b ∈ l₁ := h.mem_iff.2 ((hperm l₂).mem_iff.1 hb)
    exact antisymm a b ha' hb' hab hba

/-- Instance: collect-then-sort with the model's stable merge sort. -/
theorem collectSort_perm_invariant {α : Type} (le : α → α → Bool)
    (trans : ∀ a b c, le a b → le b c → le a c) (total : ∀ a b, le a b || le b a)
    {l₁ l₂ : List α} (h : l₁.Perm l₂)
    (antisymm : ∀ a b, a ∈ l₁ → b ∈ l₁ → le a b → le b a → a = b) :
    collectSort le l₁ = collectSort le l₂ :=
  sort_perm_invariant le (fun l => l.mergeSort le)
    (fun l => List.pairwise_mergeSort trans total l) (fun l => List.mergeSort_perm l le) h antisymm

/-- `sort_by(key)` with keys that are pairwise distinct on the collection (map keys, binding slots —
    distinct by C06 `index_ranges_tile`) is order independent. -/
theorem sortBy_key_perm_invariant {α : Type} (key : α → Nat) {l₁ l₂ : List α} (h : l₁.Perm l₂)
    (hinj : ∀ a b, a ∈ l₁ → b ∈ l₁ → key a = key b → a = b) :
    collectSort (fun a b => decide (key a ≤ key b)) l₁ =
    collectSort (fun a b => decide (key a ≤ key b)) l₂ := by
  apply collectSort_perm_invariant _ _ _ h
  · intro a b ha hb hab hba
    have h1 : key a ≤ key b := by simpa using hab
    have h2 : key b ≤ key a := by simpa using hba
    exact hinj a b ha hb (by omega)
  · intro a b c hab hbc
    have h1 : key a ≤ key b := by simpa using hab
    have h2 : key b ≤ key c := by simpa using hbc
    simpa using Nat.le_trans h1 h2
  · intro a b
    have := Nat.le_total (key a) (key b)
    simpa using this

/-- The first success of a search does not depend on the order when all successes agree. -/
theorem findSome?_perm {α β : Type} {f : α → Option β} {l₁ l₂ : List α} (h : l₁.Perm l₂)
    (same : ∀ a ∈ l₁, ∀ b ∈ l₁, ∀ x y, f a = some x → f b = some y → x = y) :
    l₁.findSome? f = l₂.findSome? f := by
  cases h1 : l₁.findSome? f with
  | none =>
    exact (List.findSome?_eq_none_iff.2 fun a ha => List.findSome?_eq_none_iff.1 h1 a (h.mem_iff.2 ha)).symm
  | some x =>
    obtain ⟨a, ha, hfa⟩ := List.exists_of_findSome?_eq_some h1
    cases h2 : l₂.findSome? f with
    | none => simp [List.findSome?_eq_none_iff.1 h2 a (h.mem_iff.1 ha)] at hfa
    | some y =>
      obtain ⟨b, hb, hfb⟩ := List.exists_of_findSome?_eq_some h2
      rw [same a ha b (h.mem_iff.2 hb) x y hfa hfb]

/-- Reading back by key from pairs inserted under distinct keys does not depend on insertion order
    (name map entries keyed by symbol, function → required globals, …). -/
theorem lookup_perm_invariant {κ ν : Type} [BEq κ] [LawfulBEq κ] {l₁ l₂ : List (κ × ν)}
    (h : l₁.Perm l₂) (hnd : (l₁.map (·.1)).Nodup) (k : κ) :
    lookupAfterInserts l₁ k = lookupAfterInserts l₂ k := by
  unfold lookupAfterInserts
  rw [List.lookup_eq_findSome?, List.lookup_eq_findSome?]
  -- two pairs that answer to `k` have the same key, so they are the same pair
  apply findSome?_perm h
  intro a ha b hb x y hx hy
  simp only [Option.ite_none_right_eq_some, Option.some.injEq, beq_iff_eq] at hx hy
  obtain ⟨rfl, rfl⟩ := hx
  obtain ⟨e, rfl⟩ := hy
  rw [RsslVerif.Lemmas.Basics.eq_of_map_nodup hnd ha hb e]

/-- Folding with an operation whose steps commute (set insertion/union, boolean or, counting) does
    not depend on the order. -/
theorem fold_perm_invariant {α β : Type} (op : β → α → β)
    (comm : ∀ b a₁ a₂, op (op b a₁) a₂ = op (op b a₂) a₁) (init : β) {l₁ l₂ : List α}
    (h : l₁.Perm l₂) : foldAll op init l₁ = foldAll op init l₂ :=
  h.foldl_eq' (fun _ _ _ _ b => comm b _ _) init

theorem firstFailure_eq_ok_iff {α ε : Type} (check : α → Option ε) (l : List α) :
    firstFailure check l = .ok () ↔ ∀ a ∈ l, check a = none := by
  rw [← List.findSome?_eq_none_iff]
  unfold firstFailure
  split <;> simp [*]

/-- A loop that only checks its elements (assertions, `unreachable!`, `return None`, `?`): WHETHER it fails does
    not depend on the iteration order. -/
theorem firstFailure_ok_perm_invariant {α ε : Type} (check : α → Option ε) {l₁ l₂ : List α} (h : l₁.Perm l₂) :
    firstFailure check l₁ = .ok () ↔ firstFailure check l₂ = .ok () := by
  simp only [firstFailure_eq_ok_iff, h.mem_iff]

/-- ... and WHAT it reports does not either when every failing element reports the same payload (a constant
    panic message, a constant `None`).  This is the reading behind the `effects` notes of `classified`. -/
theorem firstFailure_perm_invariant {α ε : Type} (check : α → Option ε) {l₁ l₂ : List α} (h : l₁.Perm l₂)
    (same : ∀ a ∈ l₁, ∀ b ∈ l₁, ∀ e₁ e₂, check a = some e₁ → check b = some e₂ → e₁ = e₂) :
    firstFailure check l₁ = firstFailure check l₂ := by
  unfold firstFailure
  rw [findSome?_perm h same]

/-- why a site is order independent -/
inductive Shape where
  /-- collect into a Vec, then `sort` with an antisymmetric order / injective key (`sort_perm_invariant`) -/
  | collectSort
  /-- results go into another map / set under distinct keys (`lookup_perm_invariant`) -/
  | insertOnly
  /-- the iterations commute (`fold_perm_invariant`; only on the states of a loop invariant: `Lemmas.EnumRange.foldl_perm_of_invariant`) -/
  | commutativeFold
  /-- monotone closure iterated to its least fixpoint -/
  | fixpoint
  /-- the ordered result is stored but no consumer reads its order -/
  | unobserved
  /-- the body only checks its elements (`assert!`, `unreachable!`): whether a check fails does not depend on
      the order (`firstFailure_ok_perm_invariant`); what a failing check reports is reviewed in `effects` -/
  | checksOnly
  /-- not a hash iteration at all: the loop walks a `Vec` stored as a map *value*, in push order -/
  | mapValueVec
  /-- this very body is transcribed into a Lean model and its order independence is a theorem about the model -/
  | modelled
  deriving DecidableEq, Repr

/-- one reviewed iteration site: the key (file, fn, how, bodyHash) must match the regenerated inventory -/
structure Reviewed where
  file : String
  fn : String
  how : String
  /-- fingerprint of the body that was reviewed -/
  bodyHash : String
  shape : Shape
  /-- why early exits / diagnostics / first-wins tests inside the body are harmless ("" = the body has none) -/
  effects : String
  note : String

/-- the reviewed iteration sites of the CURRENT source, each body read once -/
def classified : List Reviewed := [
  ⟨"ir/src/ir_module.rs", "process_definition", "for:inline_size|sorts:self.inline_constant_buffers", "dad79e496df3",
    .collectSort, "", "inline_constant_buffers.sort() follows (derived Ord over (set, location, size)); sets are distinct map keys"⟩,
  ⟨"ir/src/name_generator.rs", "build", "for:&scopes|sorts:name_to_symbol_vec", "62732911e785",
    .modelled, "`break candidate` leaves the inner counter loop, not the scope loop; the panic message of a duplicate symbol is unreachable (symbols are distinct keys); is_some() tests that insert result",
    "C15.build_scope_order_independent: per-scope naming depends on the scope alone (inner sort_by over distinct names); results keyed by distinct symbols; used_names_all_scopes is a set union"⟩,
  ⟨"ir/src/name_generator.rs", "build", "for:usage.get_usage_for_function(id)", "4784f8bb120e",
    .commutativeFold, "", "set insertion into used_names_all_scopes, only tested for membership afterwards (C15.build_scope_order_independent covers the model)"⟩,
  ⟨"ir/src/usage_analysis.rs", "recurse", "for:&current_set.required", "d1adc5ed101f",
    .fixpoint, "", "union of required sets (C02.closure_order_independent)"⟩,
  ⟨"ir/src/usage_analysis.rs", "recurse", "for:&keys|from:self.0", "793b2e4a0dae",
    .fixpoint, "", "the key order only changes how fast the least fixpoint is reached (C02.closure_order_independent)"⟩,
  ⟨"ir/src/usage_analysis.rs", "recurse", "method:self.0.keys", "791d50d5c7b4",
    .fixpoint, "", "keys collected once, in hash order, for the fixpoint loop above"⟩,
  ⟨"msl/src/generator.rs", "analyse_globals", "for:global_usage.get_usage_for_function(id)|sorts:required_globals", "ccd2250ffa8e",
    .collectSort, "panic!(\"Non-type template parameter is DispatchMesh\") has a constant message and guards a typer invariant; the two assert!s guard `intrinsic globals have no mode` / `DispatchMesh has one template argument` with constant texts",
    "required_globals.sort() follows (derived Ord; C02.required_order_independent); called_functions is a set"⟩,
  ⟨"msl/src/generator/intrinsic_helpers.rs", "generate_helpers", "for:objects|from:required_helpers|sorted-before", "cc1c54166cc5",
    .collectSort, "`?` leaves at the first failing helper of a SORTED walk: objects.sort_by(key) precedes the loop and `ordered.sort()` the inner one",
    "objects.sort_by over distinct map keys; inner Vec::from_iter(helpers).sort()"⟩,
  ⟨"msl/src/generator/intrinsic_helpers.rs", "generate_helpers", "from_iter:required_helpers|sorts:objects,ordered", "cd70f416dbdb",
    .collectSort, "", "Vec::from_iter(required_helpers) immediately followed by sort_by(key) over distinct map keys"⟩,
  ⟨"typer/src/typer/scopes.rs", "build_function_template_signature", "for:&self.scopes[old_scope_id].symbols", "7746252ec217",
    .insertOnly, "`return None` leaves with a constant value and nothing observable done (new_symbols is a local): `∃ mismatching parameter` does not depend on the order",
    "template parameter symbols are gathered under their own distinct names (map keys, one symbol each)"⟩,
  ⟨"typer/src/typer/scopes.rs", "build_function_template_signature", "for:new_symbols|from:symbols", "b68c1f2d892c",
    .insertOnly, "is_some() tests the result of insert under distinct names (keys of the source map): never true; the panic message is a constant",
    "re-insertion of the gathered symbols under their distinct names, one-element vectors"⟩,
  ⟨"typer/src/typer/scopes.rs", "build_function_template_signature", "for:self.scopes[old_scope_id].symbols.values()", "43432eb69114",
    .checksOnly, "five assert!(!matches!(..)) per symbol: they guard `a template function scope holds only template parameters` (the scope is filled by the template parameter list alone); were two DIFFERENT ones violated, the assertion text quoted by the panic would follow the hash order — no source text reaches that state",
    "assertions only (firstFailure_ok_perm_invariant)"⟩,
  ⟨"typer/src/typer/scopes.rs", "build_function_template_signature", "method:self.scopes[old_scope_id].symbols.values", "eb511d922cc8",
    .checksOnly, "the same loop, recorded by its method form", "assertions only (firstFailure_ok_perm_invariant)"⟩,
  ⟨"typer/src/typer/scopes.rs", "build_function_template_signature", "for:symbols", "5071b0823b50",
    .mapValueVec, "inner loop of the assertion loop above", "`symbols` is the Vec stored as a map value; assertions only"⟩,
  ⟨"typer/src/typer/scopes.rs", "build_function_template_signature", "for:symbols", "7b840f1e8977",
    .mapValueVec, "inner loop of the gathering loop above (one symbol per template parameter name)", "`symbols` is the Vec stored as a map value"⟩,
  ⟨"typer/src/typer/scopes.rs", "end_enum", "for:enum_symbols", "838b04e3655d",
    .modelled, "unreachable!() has a constant message; it guards `only enum values live in an enum scope`",
    "drains the map into enum_values in hash order: this order IS the permutation parameter `vals` of Model.EnumRange.endEnum"⟩,
  ⟨"typer/src/typer/scopes.rs", "end_enum", "for:&enum_values|from:enum_symbols", "af736ce73b79",
    .modelled, "the `_ => panic!` arm is part of the model (its message quotes the offending constant)", "range loop = Model.EnumRange.gather (min/max fold; the `_ => panic!` arm is modelled with its message): end_enum_type_or_error_order_independent"⟩,
  ⟨"typer/src/typer/scopes.rs", "end_enum", "for:&enum_values|from:enum_symbols", "1d70641d30f5",
    .modelled, "panic! / unreachable!() arms are part of the model", "conversion loop = Model.EnumRange.convertStep (update_underlying_type under distinct value ids): end_enum_order_independent"⟩,
  ⟨"typer/src/typer/scopes.rs", "end_enum", "for:&enum_values|from:enum_symbols", "054261ad51ae",
    .modelled, "unwrap() is part of the model (constant message)", "promotion loop = Model.EnumRange.promoteStep (per-name update of a vector of ANY length + replacement count; body re-read after fix batch 3: fe5dd8d removes assert_eq!(symbols.len(), 1), the text is also tied by Gen.EnumRange.promoteLoop): end_enum_order_independent"⟩,
  ⟨"typer/src/typer/scopes.rs", "end_enum", "for:enum_values|from:enum_symbols", "45774f126f3f",
    .modelled, "is_some() tests the result of insert; the panic message is a constant: both in the model", "reinsertion = Model.EnumRange.reinsertStep (distinct names; constant panic message): end_enum_order_independent"⟩,
  ⟨"typer/src/typer/scopes.rs", "end_enum", "for:symbols", "7ccfa991b261",
    .mapValueVec, "", "inner loop of the promotion loop over the Vec of the name (one enum value, possibly next to a constant buffer block of the same name since fe5dd8d); part of Model.EnumRange.promoteStep (map Sym.promote / filter Sym.isUntyped)"⟩,
  ⟨"typer/src/typer/scopes.rs", "extract_locals", "method:self.variables.iter", "cd13c9cc2951",
    .unobserved, "", "fills ScopedDeclarations.variables in hash order; no exporter reads its order (scoped_declarations_unobserved)"⟩,
  ⟨"typer/src/typer/scopes.rs", "find_identifier_in_scope", "for:symbols", "b8568009a2af",
    .mapValueVec, "first Type symbol of a Vec in push (= declaration) order", "`symbols` is the Vec stored as a map value"⟩,
  ⟨"typer/src/typer/scopes.rs", "find_identifier_in_scope", "for:symbols", "14cdd086984a",
    .mapValueVec, "first value symbol (cbuffer member, global, enum value, template type / value, constant) of a Vec in push (= declaration) order; functions are collected as overloads in that order (the candidate lists of ambiguity diagnostics); Type / ConstantBuffer / Namespace / EnumScope symbols are skipped; the debug_assert! (a value symbol never follows a gathered overload) has a constant text",
    "`symbols` is the Vec stored as a map value; body re-read after fix batch 2 (31dddea widens the debug_assert to the skipped symbol kinds, 0523738 turns the unreachable!() of the TemplateValue arm into `return Some(VariableExpression::TemplateValue(id))`)"⟩,
  ⟨"typer/src/typer/scopes.rs", "register_enum_value", "method:symbols.iter", "d3ce669c38d8",
    .mapValueVec, "`symbols.iter().any(is Namespace)` (added by fix fe5dd8d): an existential test over the Vec stored under the value's name in the parent scope (push order, not a hash walk); the `return Err(ValueAlreadyDefined(name, Unknown, Unknown))` it guards carries only the name being declared, nothing of the symbol that matched",
    "`symbols` is the Vec stored as a map value, reached by `get(&name.node)`"⟩,
  ⟨"typer/src/typer/scopes.rs", "walk_into_scopes", "for:symbols", "98fd69e2a092",
    .mapValueVec, "assert_eq!(current, step_start): at most one scope symbol per name, walked in push order", "`symbols` is the Vec stored as a map value"⟩]

open RsslVerif.Gen.HashSites in
/-- the review of a site of the regenerated inventory: same file, function, traversal AND body fingerprint -/
def reviewOf (s : Site) : Option Reviewed :=
  classified.find? (fun r => r.file == s.file && r.fn == s.fn && r.how == s.how && r.bodyHash == s.bodyHash)

open RsslVerif.Gen.HashSites in
/-- the body looks order sensitive: it can leave early / observe positions, build a diagnostic, or keep a first value -/
def flagged (s : Site) : Bool := s.hasEarlyExit || s.buildsDiagnostic || s.firstWins

/-- a classification is acceptable for a body with order-sensitive looking effects only if the body itself is
    transcribed into a model (`modelled`), is not a hash iteration (`mapValueVec`), or carries a reviewed reason —
    and never as a plain commutative fold -/
def acceptable (r : Reviewed) (isFlagged : Bool) : Bool :=
  !isFlagged || (r.shape != .commutativeFold && (r.shape == .modelled || r.effects != ""))

/-- Tie to the source: a body that can leave early, builds a diagnostic or keeps the first value it meets is never
    accepted as a commutative fold; it is modelled, or its effects were reviewed one by one. -/
theorem site_effects_reviewed :
    RsslVerif.Gen.HashSites.sites.all (fun s =>
      match reviewOf s with
      | none => false
      | some r => acceptable r (flagged s)) = true := by decide +kernel

/-- Tie to the source: every place where the current tree iterates a hash ordered container (a HashMap/HashSet,
    or a Vec filled from one) is a reviewed one, and the body that was reviewed is the body that is there now.
    A new site, a renamed one, or ANY change inside the loop body of a known site makes this obligation fail
    until the body is read again and its fingerprint recorded. -/
theorem hash_sites_covered :
    RsslVerif.Gen.HashSites.sites.all (fun s => (reviewOf s).isSome) = true :=
  List.all_eq_true.2 fun s hs => by
    have h := List.all_eq_true.1 site_effects_reviewed s hs
    cases hr : reviewOf s with
    | none => simp [hr] at h
    | some r => rfl

/-- the review file is in sync: it has no entry for a body that is no longer in the source -/
theorem classified_all_current :
    classified.all (fun r => RsslVerif.Gen.HashSites.sites.any (fun s =>
      r.file == s.file && r.fn == s.fn && r.how == s.how && r.bodyHash == s.bodyHash)) = true := by decide +kernel

/-- Tie to the source: the one hash-ordered vector that is stored in the IR is only ever filtered. -/
theorem scoped_declarations_unobserved :
    RsslVerif.Gen.HashSites.scopedDeclarationConsumers.all (fun c => c.2 == "retain") = true := by decide

/-- Tie to the source: no clocks, randomness, environment reads or threads in the compiler crates. -/
theorem no_other_nondeterminism : RsslVerif.Gen.HashSites.otherNondeterminism = [] := by decide

/-! ## History independence: the result of a request does not depend on what the process compiled before

The property speaks of compiling the same inputs again "in the same or in another process".  A process may have
compiled anything before (another target, another input, a failing input), so the result of a request has to be
the one a fresh process gives.  `Model/History.lean` fixes the notions; the tie is the regenerated inventory
`Gen.GlobalState` of everything that could survive the return of `compile`. -/
section History
open RsslVerif.Model.History

/-- If the result of a step never reads the process-wide state, every request compiled after ANY history gives
    the result a fresh process gives. (Full: all state types, all step functions, all histories.) -/
theorem history_independent_of_stateless {σ ρ β : Type} (step : σ → ρ → β × σ)
    (hpure : ∀ s s' r, (step s r).1 = (step s' r).1) (s₀ : σ) (h : List ρ) (r : ρ) :
    resultAfter step s₀ h r = fresh step s₀ r := hpure _ _ _

/-- ... and the whole list of results of a sequence is the list of the fresh results: in particular every
    permutation of a sequence of requests gives, request by request, the same results. -/
theorem runSeq_eq_map_fresh {σ ρ β : Type} (step : σ → ρ → β × σ)
    (hpure : ∀ s s' r, (step s r).1 = (step s' r).1) (s₀ : σ) (rs : List ρ) :
    ∀ s, runSeq step s rs = rs.map (fresh step s₀) := by
  induction rs with
  | nil => intro s; rfl
  | cons r rs ih =>
    intro s
    simp only [runSeq, List.map_cons, ih]
    exact congrArg (· :: _) (hpure s s₀ r)

/-- `history_independent_of_stateless` at the trivial state: a process whose only state is `Unit` (no `static` with
    interior mutability, no thread local) is history independent whatever its step function does.  That the real process
    has no other state is what `no_process_wide_state` finds in the source; this instance itself holds by `rfl`. -/
theorem history_independent_of_no_state {ρ β : Type} (step : Unit → ρ → β × Unit) (h : List ρ) (r : ρ) :
    resultAfter step () h r = fresh step () r :=
  history_independent_of_stateless step (fun _ _ _ => rfl) () h r

/-- the instance for the transcription of the reserved-set part of `NameMap::build`, whose state type is `Unit` -/
theorem real_reserved_set_history_independent (h : List NameReq) (r : NameReq) :
    resultAfter stepReal () h r = fresh stepReal () r := history_independent_of_no_state stepReal h r

/-- Of the regenerated reserved lists: `main` is a reserved word of Metal only, `f` of neither.  Evaluated once for
    the two statements below (each evaluation turns every literal of both lists into bytes first). -/
theorem main_reserved_by_metal_only :
    "main" ∈ RsslVerif.Gen.Reserved.msl ∧ "main" ∉ RsslVerif.Gen.Reserved.hlsl ∧
    "f" ∉ RsslVerif.Gen.Reserved.msl ∧ "f" ∉ RsslVerif.Gen.Reserved.hlsl := by decide +kernel

/-- non-vacuity: `main` is reserved by the Metal exporter only (regenerated lists), and the real step renames it on
    Metal and keeps it on HLSL whatever was compiled before -/
example : RsslVerif.Gen.Reserved.msl.contains "main" = true ∧ RsslVerif.Gen.Reserved.hlsl.contains "main" = false ∧
    runSeq stepReal () [⟨RsslVerif.Gen.Reserved.hlsl, ["main", "f"]⟩, ⟨RsslVerif.Gen.Reserved.msl, ["main", "f"]⟩]
      = [["main", "f"], ["main_0", "f"]] ∧
    runSeq stepReal () [⟨RsslVerif.Gen.Reserved.msl, ["main", "f"]⟩, ⟨RsslVerif.Gen.Reserved.hlsl, ["main", "f"]⟩]
      = [["main_0", "f"], ["main", "f"]] := by
  obtain ⟨h1, h2, h3, h4⟩ := main_reserved_by_metal_only
  simp [runSeq, stepReal, rename, h1, h2, h3, h4]

/-- (negation with witness) the seeded variant C07-5 — the reserved set of the first build kept in a `static
    OnceLock` — is NOT history independent: a Metal request declaring `main` gives `main_0` alone and `main` after
    one HLSL request, with the reserved lists of the current source. -/
theorem once_lock_history_dependent :
    ∃ (h : List NameReq) (r : NameReq),
      resultAfter stepOnceLock none h r ≠ fresh stepOnceLock none r :=
  ⟨[⟨RsslVerif.Gen.Reserved.hlsl, ["f"]⟩], ⟨RsslVerif.Gen.Reserved.msl, ["main"]⟩, by
    obtain ⟨h1, h2, _, _⟩ := main_reserved_by_metal_only
    simp [resultAfter, fresh, stateAfter, stepOnceLock, rename, h1, h2]⟩

/-- the reviewed list of `static` items of the compiler crates: none -/
def reviewedStatics : List RsslVerif.Gen.GlobalState.Static := []

/-- Tie to the source: the compiler crates have no process-wide state — the regenerated list of `static` items
    (module level or inside functions) equals the reviewed list and none of them has interior mutability; there
    is no `thread_local!` / `lazy_static!`, no mention of OnceLock / OnceCell / LazyLock / Mutex / RwLock / Atomic* /
    Once / UnsafeCell / Arc, and no `Box::leak` / `mem::forget` / `unsafe` with which one could be built by hand.
    The seeded change C07-5 adds `static RESERVED_NAME_SET: OnceLock<HashSet<String>>` → this obligation fails. -/
theorem no_process_wide_state :
    RsslVerif.Gen.GlobalState.statics = reviewedStatics ∧
    RsslVerif.Gen.GlobalState.statics.all (fun s => !s.interior && s.kind == "static") = true ∧
    RsslVerif.Gen.GlobalState.stateMacros = [] ∧
    RsslVerif.Gen.GlobalState.syncTypeUses = [] ∧
    RsslVerif.Gen.GlobalState.leaks = [] := by decide

/-- Tie to the source: nothing from outside the arguments enters a compilation — no environment variables,
    clocks, process / thread identity, randomness, hasher states, working directory, panic hooks, type ids or
    addresses turned into integers; and every crate the compiler links is a path dependency of the workspace
    (so the inventories above see all the code), without build scripts. Wider than `no_other_nondeterminism`
    (it also catches `use std::env; env::var(..)`, `Instant`, `process::id`, `DefaultHasher`). -/
theorem no_ambient_inputs :
    RsslVerif.Gen.GlobalState.ambient = [] ∧ RsslVerif.Gen.GlobalState.externalDependencies = [] := by decide

/-- the inventory looked at the source: at least 60 files were scanned (an empty scan would make the two
    theorems above vacuous) -/
theorem global_state_scan_not_empty : 60 ≤ RsslVerif.Gen.GlobalState.scannedFiles := by decide

end History

/-! ## Worked example of a commutative fold: `Context::end_enum` (typer/src/typer/scopes.rs)

`enum_values` is filled by draining a `HashMap`, so every loop of `end_enum` runs in hash order.  The model
`Model.EnumRange.endEnum` takes that order as its list argument. -/
section EndEnum
open RsslVerif.Model.EnumRange RsslVerif.Lemmas.EnumRange

/-- Tie to the source: the loops of `end_enum` are the ones `Model/EnumRange.lean` transcribes — initial range
    `(0, 0)`, six integer-like arms doing `min`/`max` on the widened value and a panicking `_` arm, the
    `i32` / `u32` / error selection with the error located at the ENUM's name and carrying `(min, max)`, the
    widening arms and the two wrapping conversions, the promotion loop (`unwrap`, promote every untyped value of
    the name's vector, count, `assert_eq!` on the count — WITHOUT the `assert_eq!(symbols.len(), 1)` that fix
    `fe5dd8d` removed) and the reinsertion loop.  Any edit of these pieces (the seeded change C07-3 rewrites
    the range loop and the error location) stops this theorem until the model is brought up to date. -/
theorem end_enum_shape_as_modelled :
    RsslVerif.Gen.EnumRange.init = [("min_value", "0"), ("max_value", "0")] ∧
    RsslVerif.Gen.EnumRange.gatherPrefix =
      "let constant = &self .module .enum_registry .get_enum_value(*enum_value_id) .value;" ∧
    RsslVerif.Gen.EnumRange.gatherArms =
      [("ir::Constant::Bool(value)", "", "{ min_value = std::cmp::min(min_value, value as i128); max_value = std::cmp::max(max_value, value as i128); }"),
       ("ir::Constant::IntLiteral(value)", "", "{ min_value = std::cmp::min(min_value, value); max_value = std::cmp::max(max_value, value); }"),
       ("ir::Constant::Int32(value)", "", "{ min_value = std::cmp::min(min_value, value as i128); max_value = std::cmp::max(max_value, value as i128); }"),
       ("ir::Constant::UInt32(value)", "", "{ min_value = std::cmp::min(min_value, value as i128); max_value = std::cmp::max(max_value, value as i128); }"),
       ("ir::Constant::Int64(value)", "", "{ min_value = std::cmp::min(min_value, value as i128); max_value = std::cmp::max(max_value, value as i128); }"),
       ("ir::Constant::UInt64(value)", "", "{ min_value = std::cmp::min(min_value, value as i128); max_value = std::cmp::max(max_value, value as i128); }"),
       ("_", "", "panic!(\"invalid type inside enum value: {constant:?}\")")] ∧
    RsslVerif.Gen.EnumRange.select =
      "let scalar_type = if min_value >= i32::MIN as i128 && max_value <= i32::MAX as i128 { ir::ScalarType::Int32 } else if min_value >= u32::MIN as i128 && max_value <= u32::MAX as i128 { ir::ScalarType::UInt32 } else { let location = self .module .enum_registry .get_enum_definition(enum_id) .name .location; return Err(TyperError::EnumTypeCanNotBeDeduced( location, min_value, max_value, )); };" ∧
    RsslVerif.Gen.EnumRange.widenArms =
      [("ir::Constant::Bool(value)", "", "value as i128"),
       ("ir::Constant::IntLiteral(value)", "", "value"),
       ("ir::Constant::Int32(value)", "", "value as i128"),
       ("ir::Constant::UInt32(value)", "", "value as i128"),
       ("ir::Constant::Int64(value)", "", "value as i128"),
       ("ir::Constant::UInt64(value)", "", "value as i128"),
       ("_", "", "panic!(\"invalid type inside enum value: {constant:?}\")")] ∧
    RsslVerif.Gen.EnumRange.convertArms =
      [("ir::ScalarType::Int32", "", "ir::Constant::Int32(value as i32)"),
       ("ir::ScalarType::UInt32", "", "ir::Constant::UInt32(value as u32)"),
       ("_", "", "unreachable!()")] ∧
    RsslVerif.Gen.EnumRange.promoteLoop =
      "let mut replacements = 0; for (name, _) in &enum_values { let symbols = self.scopes[parent_scope].symbols.get_mut(name).unwrap(); for symbol in symbols { if let ScopeSymbol::EnumValueUntyped(id) = symbol { *symbol = ScopeSymbol::EnumValue(*id); replacements += 1; } } } assert_eq!(replacements, enum_values.len());" ∧
    RsslVerif.Gen.EnumRange.reinsertLoop =
      "for (name, id) in enum_values { if self.scopes[self.current_scope] .symbols .insert(name, Vec::from([ScopeSymbol::EnumValue(id)])) .is_some() { panic!(\"duplicate symbol when reinserting typed enum values\"); } }" :=
  ⟨rfl, rfl, rfl, rfl, rfl, rfl, rfl, rfl⟩

/-- the chosen underlying type, or the range error with its location and `(min, max)` payload -/
def typeOrError (enumLoc : Loc) (vals : List Entry) : Except Failure Scalar :=
  match gather vals with
  | .error f => .error f
  | .ok r => select enumLoc r

/-- **The range computation of `end_enum` is order independent**: for every two iteration orders of the drained
    symbol map, the chosen underlying type — or the rendered error: location (the enum's name), minimum and
    maximum — is the same.  Hypothesis: every value is integer-like, the invariant `parse/typer` establish before
    `register_enum_value` (`EnumValueMustBeInteger`); without it see `end_enum_panics_order_independent`. -/
theorem end_enum_type_or_error_order_independent (enumLoc : Loc) {vals₁ vals₂ : List Entry}
    (p : vals₁.Perm vals₂) (hint : ∀ e ∈ vals₁, e.value.widen?.isSome) :
    typeOrError enumLoc vals₁ = typeOrError enumLoc vals₂ := by
  unfold typeOrError
  rw [gather_perm p hint]

/-- Without the integer-like invariant: WHETHER the range loop panics is the same for every order (it does iff
    some value is not integer-like). -/
theorem end_enum_panics_order_independent {vals₁ vals₂ : List Entry} (p : vals₁.Perm vals₂) :
    (∃ r, gather vals₁ = .ok r) ↔ (∃ r, gather vals₂ = .ok r) := by
  simp only [gather_ok_iff, p.mem_iff]

/-- ... but the panic MESSAGE is not: it quotes the first offending constant met.  (Unreachable from source
    text: the typer rejects a non-integer enumerator before it is registered.)  This is why
    `end_enum_type_or_error_order_independent` carries its hypothesis and is not stated for all constants. -/
theorem gather_panic_message_order_dependent :
    ∃ vals₁ vals₂ : List Entry, vals₁.Perm vals₂ ∧ gather vals₁ ≠ gather vals₂ :=
  ⟨[⟨"A", 0, .other "Float(1.0)", 10⟩, ⟨"B", 1, .other "Float(2.0)", 20⟩],
   [⟨"B", 1, .other "Float(2.0)", 20⟩, ⟨"A", 0, .other "Float(1.0)", 10⟩],
   List.Perm.swap _ _ _, by decide +kernel⟩

/-- **`end_enum` as a whole is order independent**: underlying type or error, the enum registry after the
    conversion loop, the parent scope after the promotion loop and the re-filled enum scope — or the panic with
    its message — are the same for every two iteration orders of the drained symbol map, for EVERY parent scope:
    the vector of a name may hold any number of symbols (since fix `fe5dd8d` an enum value may share its name with
    a constant buffer block; the former hypothesis "every name maps to a one-element vector" — the negation of
    the repaired `assert_eq!(symbols.len(), 1)` panic — is gone, and so is "names are distinct": the promotion
    and reinsertion iterations commute on every state).  Hypotheses = what the callers establish: values are
    integer-like and value ids distinct (fresh registry indices). -/
theorem end_enum_order_independent (enumLoc : Loc) (registry : Nat → Option Const) (parent : Scope)
    {vals₁ vals₂ : List Entry} (p : vals₁.Perm vals₂)
    (hint : ∀ e ∈ vals₁, e.value.widen?.isSome)
    (hid : ∀ x ∈ vals₁, ∀ y ∈ vals₁, x.id = y.id → x = y) :
    endEnum enumLoc registry parent vals₁ = endEnum enumLoc registry parent vals₂ := by
  unfold endEnum
  simp only [gather_perm p hint, convert_perm _ p hint hid, promote_perm p, reinsert_perm p, p.length_eq]

/-- The promotion loop of `end_enum` does not panic on what `register_enum_value` leaves behind: every name of
    the enum has an entry in the parent scope — of any length.  (Before fix `fe5dd8d` a second symbol under the
    name, `cbuffer A {..} enum E { A };`, ended in `assert_eq!(symbols.len(), 1)`.) -/
theorem end_enum_promotion_total (parent : Scope) (vals : List Entry)
    (hparent : ∀ e ∈ vals, ∃ syms, parent e.name = some syms) :
    ∃ parent' n, vals.foldl promoteStep (.ok (parent, 0)) = .ok (parent', n) :=
  promote_ok parent 0 hparent

/-- The seeded variant C07-3 (error located at the first value after which no type fits) is NOT order
    independent: the same three values in two orders blame two different locations.  The classification
    "commutative fold" is a property of the body, which is why `hash_sites_covered` pins the body. -/
theorem blame_first_order_dependent :
    ∃ vals₁ vals₂ : List Entry, vals₁.Perm vals₂ ∧
      (∀ e ∈ vals₁, e.value.widen?.isSome) ∧
      gatherBlameFirst 5 vals₁ ≠ gatherBlameFirst 5 vals₂ ∧
      typeOrError 5 vals₁ = typeOrError 5 vals₂ :=
  ⟨[⟨"None", 0, .intLiteral 0, 10⟩, ⟨"Big", 1, .intLiteral 4294967296, 20⟩, ⟨"Bigger", 2, .intLiteral 4294967297, 30⟩],
   [⟨"Bigger", 2, .intLiteral 4294967297, 30⟩, ⟨"None", 0, .intLiteral 0, 10⟩, ⟨"Big", 1, .intLiteral 4294967296, 20⟩],
   by decide, by decide, by decide, by decide⟩

/-! Non-vacuity: an enum whose range fits nothing (error with location 5 and the range), one that needs `uint`,
    and the complete `end_enum` on a parent scope prepared as `register_enum_value` leaves it. -/
example : typeOrError 5 [⟨"Neg", 0, .intLiteral (-1), 10⟩, ⟨"All", 1, .uint32 4294967295, 20⟩]
    = .error (.rangeError 5 (-1) 4294967295) := by decide
example : typeOrError 5 [⟨"A", 0, .intLiteral 1, 10⟩, ⟨"All", 1, .uint32 4294967295, 20⟩] = .ok .uint32 := by decide
example : (match endEnum 5 (fun _ => none)
      (fun n => if n = "A" then some [Sym.enumValueUntyped 0] else if n = "B" then some [Sym.enumValueUntyped 1] else none)
      [⟨"B", 1, .intLiteral 7, 20⟩, ⟨"A", 0, .bool true, 10⟩] with
    | .ok r => (r.scalar, r.registry 0, r.registry 1, r.parent "A", r.enumScope "B") ==
        (Scalar.int32, some (Const.int32 1), some (Const.int32 7), some [Sym.enumValue 0], some [Sym.enumValue 1])
    | .error _ => false) = true := by decide

/-! Non-vacuity of the class that fix `fe5dd8d` opened: `cbuffer A { .. } enum E { A, B };` — the parent scope holds
    the constant buffer block (`Sym.other 7`) AND the untyped value under `A`; both orders promote the value, keep the
    block, and count two replacements (no panic). -/
def cbufferParent : Scope := fun n =>
  if n = "A" then some [Sym.other 7, Sym.enumValueUntyped 0] else if n = "B" then some [Sym.enumValueUntyped 1] else none

def runOnCbufferParent (vals : List Entry) :=
  match endEnum 5 (fun _ => none) cbufferParent vals with
  | .ok r => some (r.scalar, r.registry 0, r.registry 1, r.parent "A", r.parent "B", r.enumScope "A")
  | .error _ => none

example :
    (runOnCbufferParent [⟨"B", 1, .intLiteral 7, 20⟩, ⟨"A", 0, .intLiteral 0, 10⟩] ==
      runOnCbufferParent [⟨"A", 0, .intLiteral 0, 10⟩, ⟨"B", 1, .intLiteral 7, 20⟩]) = true ∧
    (runOnCbufferParent [⟨"A", 0, .intLiteral 0, 10⟩, ⟨"B", 1, .intLiteral 7, 20⟩] ==
      some (Scalar.int32, some (Const.int32 0), some (Const.int32 7), some [Sym.other 7, Sym.enumValue 0],
        some [Sym.enumValue 1], some [Sym.enumValue 0])) = true := by decide

end EndEnum

/-! ## The usage fixpoint on CYCLIC tables (seeded variant C07-6)

`GlobalUsageAnalysis::recurse` walks `self.0.keys()` (hash order) and, per key, its `required` set (hash order).  The
C02 model takes both orders as explicit lists; `C02.closure_order_independent` needs `WF` only (every mentioned symbol
has an entry, sets duplicate free) - NO acyclicity.  This section makes that explicit: the statement for every table,
a table with a call cycle that satisfies the hypotheses, the tie of the loop's text, and the seeded single-pass
memoising DFS proved order DEPENDENT on a table with a 2-cycle. -/
section UsageCycles
open RsslVerif.Model.Usage RsslVerif.Spec.Usage RsslVerif.Lemmas.Usage RsslVerif.Model.MemoDfs

/-- tie: the text of `recurse` in the tree under check is the sweep-until-unmodified loop the C02 model transcribes
    (keys snapshot, `loop { modified = false; for key in &keys {..} if !modified { break } }`, start from the current
    set, union of the members' sets, store when grown).  A single-pass / memoising / recursive rewrite fails here. -/
theorem usage_recurse_shape_as_modelled :
    RsslVerif.Gen.UsageTables.recurseShape = ⟨true, true, true, true, true⟩ := by decide

/-- **The usage fixpoint is total and order independent on EVERY well-formed table, cyclic or not**: for any two
    iteration orders of the key set the loop ends without a panic and both results hold the same sets.
    (`C02.recurse_terminates` + `C02.closure_order_independent`; the only hypothesis on the table is `WF`.) -/
theorem usage_fixpoint_total_and_order_independent {t₀ : Table} (hwf : WF t₀) {keys₁ keys₂ : List Sym}
    (hk₁ : ∀ k, k ∈ keys₁ ↔ k ∈ keysOf t₀) (hk₂ : ∀ k, k ∈ keys₂ ↔ k ∈ keysOf t₀) :
    ∃ t₁ t₂, recurse keys₁ t₀ = .ok (some t₁) ∧ recurse keys₂ t₀ = .ok (some t₂) ∧
      ∀ f g, g ∈ val t₁ f ↔ g ∈ val t₂ f := by
  obtain ⟨t₁, h₁⟩ := RsslVerif.Thm.C02.recurse_terminates hwf (keys := keys₁) (fun k hk => (hk₁ k).1 hk)
  obtain ⟨t₂, h₂⟩ := RsslVerif.Thm.C02.recurse_terminates hwf (keys := keys₂) (fun k hk => (hk₂ k).1 hk)
  exact ⟨t₁, t₂, h₁, h₂, fun f g => RsslVerif.Thm.C02.closure_order_independent hwf hk₁ hk₂ h₁ h₂ f g⟩

/-- `walk_a` (fn 0) calls `walk_b` (fn 1) and reads global 0; `walk_b` calls `walk_a` and reads global 1 -/
def cycle2 : Table :=
  [(.fn 0, [.fn 1, .glob 0]), (.fn 1, [.fn 0, .glob 1]), (.glob 0, []), (.glob 1, [])]

/-- Non-vacuity of the two theorems above ON A CALL CYCLE: the 2-cycle table is well formed, `walk_a` and `walk_b`
    mention each other, every two key orders give the same sets, and (concretely, two opposite orders) both members
    end with both globals - the global of the other member is reached only through the cycle. -/
theorem usage_fixpoint_order_independent_on_cycle :
    WF cycle2 ∧ Mentions cycle2 (.fn 0) (.fn 1) ∧ Mentions cycle2 (.fn 1) (.fn 0) ∧
    (∀ keys₁ keys₂ : List Sym, (∀ k, k ∈ keys₁ ↔ k ∈ keysOf cycle2) → (∀ k, k ∈ keys₂ ↔ k ∈ keysOf cycle2) →
      ∃ t₁ t₂, recurse keys₁ cycle2 = .ok (some t₁) ∧ recurse keys₂ cycle2 = .ok (some t₂) ∧
        ∀ f g, g ∈ val t₁ f ↔ g ∈ val t₂ f) ∧
    (∃ t₁ t₂, recurse [.fn 0, .fn 1, .glob 0, .glob 1] cycle2 = .ok (some t₁) ∧
      recurse [.glob 1, .glob 0, .fn 1, .fn 0] cycle2 = .ok (some t₂) ∧
      Sym.glob 1 ∈ val t₁ (.fn 0) ∧ Sym.glob 0 ∈ val t₁ (.fn 1) ∧
      Sym.glob 1 ∈ val t₂ (.fn 0) ∧ Sym.glob 0 ∈ val t₂ (.fn 1)) := by
  have hwf : WF cycle2 := wf_of_check (by decide)
  have m01 : Mentions cycle2 (.fn 0) (.fn 1) := by unfold Mentions; decide
  have m10 : Mentions cycle2 (.fn 1) (.fn 0) := by unfold Mentions; decide
  refine ⟨hwf, m01, m10, fun keys₁ keys₂ h₁ h₂ => usage_fixpoint_total_and_order_independent hwf h₁ h₂, ?_⟩
  have hk₁ : ∀ k, k ∈ ([.fn 0, .fn 1, .glob 0, .glob 1] : List Sym) ↔ k ∈ keysOf cycle2 :=
    fun k => (show List.Perm _ (keysOf cycle2) by decide).mem_iff
  have hk₂ : ∀ k, k ∈ ([.glob 1, .glob 0, .fn 1, .fn 0] : List Sym) ↔ k ∈ keysOf cycle2 :=
    fun k => (show List.Perm _ (keysOf cycle2) by decide).mem_iff
  obtain ⟨t₁, t₂, h₁, h₂, -⟩ := usage_fixpoint_total_and_order_independent hwf hk₁ hk₂
  have reach01 : Reach (Mentions cycle2) (.fn 0) (.fn 1) := Reach.single m01
  have reach10 : Reach (Mentions cycle2) (.fn 1) (.fn 0) := Reach.single m10
  refine ⟨t₁, t₂, h₁, h₂, ?_, ?_, ?_, ?_⟩
  · exact (RsslVerif.Thm.C02.close_is_reachability hwf hk₁ h₁ _ _).2 ⟨.fn 1, reach01, by decide⟩
  · exact (RsslVerif.Thm.C02.close_is_reachability hwf hk₁ h₁ _ _).2 ⟨.fn 0, reach10, by decide⟩
  · exact (RsslVerif.Thm.C02.close_is_reachability hwf hk₂ h₂ _ _).2 ⟨.fn 1, reach01, by decide⟩
  · exact (RsslVerif.Thm.C02.close_is_reachability hwf hk₂ h₂ _ _).2 ⟨.fn 0, reach10, by decide⟩

/-- the 2-cycle with one helper: `walk_a` (fn 0) calls `walk_b` (fn 1) and `help` (fn 2); `walk_b` calls `walk_a`
    and reads global 1; `help` reads global 2 -/
def cycle2Helper : Table :=
  [(.fn 0, [.fn 1, .fn 2]), (.fn 1, [.fn 0, .glob 1]), (.fn 2, [.glob 2]), (.glob 1, []), (.glob 2, [])]

/-- **The seeded variant C07-6 (single-pass memoising DFS, `Model/MemoDfs.lean`) is order dependent on a call
    cycle** (negation with witness): on one well-formed table with a 2-cycle, started from `walk_a`, `walk_b` is
    reached while `walk_a` is still being expanded and keeps `walk_a`'s partial set - global 2 (read by the helper of
    `walk_a`) is missing from `walk_b`'s set; started from `walk_b` it is there.  The two key orders are permutations
    of the same key set, and the real loop gives the same (complete) sets for both. -/
theorem memo_dfs_order_dependent_on_cycle :
    ∃ (t : Table) (keys₁ keys₂ : List Sym), WF t ∧ keys₁.Perm keys₂ ∧ (∀ k, k ∈ keys₁ ↔ k ∈ keysOf t) ∧
      Mentions t (.fn 0) (.fn 1) ∧ Mentions t (.fn 1) (.fn 0) ∧
      Sym.glob 2 ∉ val (memoDfs keys₁ t) (.fn 1) ∧ Sym.glob 2 ∈ val (memoDfs keys₂ t) (.fn 1) ∧
      (∃ t₁ t₂, recurse keys₁ t = .ok (some t₁) ∧ recurse keys₂ t = .ok (some t₂) ∧
        (∀ f g, g ∈ val t₁ f ↔ g ∈ val t₂ f) ∧ Sym.glob 2 ∈ val t₁ (.fn 1)) := by
  have hwf : WF cycle2Helper := wf_of_check (by decide)
  have hk₁ : ∀ k, k ∈ ([.fn 0, .fn 1, .fn 2, .glob 1, .glob 2] : List Sym) ↔ k ∈ keysOf cycle2Helper :=
    fun k => (show List.Perm _ (keysOf cycle2Helper) by decide).mem_iff
  have hk₂ : ∀ k, k ∈ ([.fn 1, .fn 0, .fn 2, .glob 1, .glob 2] : List Sym) ↔ k ∈ keysOf cycle2Helper :=
    fun k => (show List.Perm _ (keysOf cycle2Helper) by decide).mem_iff
  obtain ⟨t₁, t₂, h₁, h₂, heq⟩ := usage_fixpoint_total_and_order_independent hwf hk₁ hk₂
  have m01 : Mentions cycle2Helper (.fn 0) (.fn 1) := by unfold Mentions; decide
  have m10 : Mentions cycle2Helper (.fn 1) (.fn 0) := by unfold Mentions; decide
  have m02 : Mentions cycle2Helper (.fn 0) (.fn 2) := by unfold Mentions; decide
  refine ⟨cycle2Helper, [.fn 0, .fn 1, .fn 2, .glob 1, .glob 2], [.fn 1, .fn 0, .fn 2, .glob 1, .glob 2],
    hwf, List.Perm.swap _ _ _, hk₁, m01, m10, by decide, by decide, t₁, t₂, h₁, h₂, heq, ?_⟩
  exact (RsslVerif.Thm.C02.close_is_reachability hwf hk₁ h₁ _ _).2
    ⟨.fn 2, Reach.tail (Reach.single m10) m02, by decide⟩

/-- ... and on the iteration order of a `required` SET as well: the same table with `walk_a`'s set listed as
    {help, walk_b} instead of {walk_b, help} (same keys, every set a permutation), same key order, and `walk_b` is
    complete. -/
theorem memo_dfs_set_order_dependent_on_cycle :
    let keys : List Sym := [.fn 0, .fn 1, .fn 2, .glob 1, .glob 2]
    let t' : Table := [(.fn 0, [.fn 2, .fn 1]), (.fn 1, [.fn 0, .glob 1]), (.fn 2, [.glob 2]), (.glob 1, []), (.glob 2, [])]
    (keysOf t' = keysOf cycle2Helper ∧ ∀ p ∈ t'.zip cycle2Helper, p.1.2.Perm p.2.2) ∧
    Sym.glob 2 ∉ val (memoDfs keys cycle2Helper) (.fn 1) ∧ Sym.glob 2 ∈ val (memoDfs keys t') (.fn 1) := by
  decide +kernel

/-! Non-vacuity of the negative model: on an ACYCLIC table the memoising DFS computes what the real loop computes
    (it is the cycle that breaks it). -/
example : (∀ f ∈ ([.fn 0, .fn 1, .glob 0] : List Sym),
    val (memoDfs [.fn 0, .fn 1, .glob 0] [(.fn 0, [.fn 1]), (.fn 1, [.glob 0]), (.glob 0, [])]) f =
    val (memoDfs [.glob 0, .fn 1, .fn 0] [(.fn 0, [.fn 1]), (.fn 1, [.glob 0]), (.glob 0, [])]) f) ∧
    Sym.glob 0 ∈ val (memoDfs [.fn 0, .fn 1, .glob 0] [(.fn 0, [.fn 1]), (.fn 1, [.glob 0]), (.glob 0, [])]) (.fn 0) := by
  decide

end UsageCycles

/-! ## Several KINDS of implicit parameters in one function (stream `wave:<seed>`)

`analyse_globals` pushes one `ImplicitFunctionParameter` per symbol of the closed usage set: `Global(id)` for a
global, `ThreadIndexInSimdgroup` / `ThreadsPerSimdgroup` / `MeshOutput` / `PayloadOutput` + `MeshGridProperties` for the
lane and mesh intrinsics (regenerated `Gen.UsageTables.intrinsicImplicits`), then `required_globals.sort()`.  The C02
model (`implicitsOfSet`, `sortImplicit`) has all kinds; the theorems below state order independence for sets that MIX
the kinds and transcribe the self-mutation "order the globals only" as a negative example. -/
section ImplicitKinds
open RsslVerif.Model.Usage RsslVerif.Gen.UsageTables

/-- two lane intrinsics, the mesh intrinsic, one user function and two non-constant globals -/
def kindsProgram : Program :=
  { globals := [{ name := "g_ro", storage := .Extern, isConst := false, staticSampler := false, isObject := true },
                { name := "s_acc", storage := .Static, isConst := false, staticSampler := false, isObject := false }],
    funcs := [{ name := "both", params := [.in_], items := [] },
              { name := "WaveGetLaneIndex", params := [], items := [], intrinsic := some "WaveGetLaneIndex" },
              { name := "WaveGetLaneCount", params := [], items := [], intrinsic := some "WaveGetLaneCount" },
              { name := "SetMeshOutputCounts", params := [.in_, .in_], items := [], intrinsic := some "SetMeshOutputCounts" }] }

/-- **For EVERY program and every two iteration orders of a function's closed usage set** (whatever mixture of
    globals, lane intrinsics, mesh intrinsics, user functions and constant buffers it holds) the implicit parameter
    list is the same: when both walks succeed, the sorted lists are equal. -/
theorem required_kinds_order_independent (p : Program) {ss₁ ss₂ : List Sym} (h : ss₁.Perm ss₂)
    {l₁ l₂ : List Implicit} (h₁ : implicitsOfSet p ss₁ = .ok l₁) (h₂ : implicitsOfSet p ss₂ = .ok l₂) :
    sortImplicit l₁ = sortImplicit l₂ := by
  rw [RsslVerif.Thm.C02.implicitsOfSet_ok h₁, RsslVerif.Thm.C02.implicitsOfSet_ok h₂]
  exact RsslVerif.Thm.C02.required_order_independent (h.flatMap_right _)

/-- non-vacuity on a set that mixes all kinds: with the REGENERATED variant order and intrinsic table, two opposite
    walks of {SetMeshOutputCounts, s_acc, WaveGetLaneCount, g_ro, WaveGetLaneIndex, both} give
    `[ThreadIndexInSimdgroup, ThreadsPerSimdgroup, MeshOutput, Global 0, Global 1]` -/
theorem required_kinds_instance :
    let ss₁ : List Sym := [.fn 3, .glob 1, .fn 2, .glob 0, .fn 1, .fn 0]
    let ss₂ : List Sym := [.fn 0, .fn 1, .glob 0, .fn 2, .glob 1, .fn 3]
    ss₁.Perm ss₂ ∧
    (implicitsOfSet kindsProgram ss₁).toOption.map sortImplicit =
      some [⟨variantIndex "ThreadIndexInSimdgroup", 0⟩, ⟨variantIndex "ThreadsPerSimdgroup", 0⟩,
            ⟨variantIndex "MeshOutput", 0⟩, ⟨globalVariant, 0⟩, ⟨globalVariant, 1⟩] ∧
    (implicitsOfSet kindsProgram ss₂).toOption.map sortImplicit =
      (implicitsOfSet kindsProgram ss₁).toOption.map sortImplicit ∧
    (implicitsOfSet kindsProgram ss₁).toOption ≠ (implicitsOfSet kindsProgram ss₂).toOption := by
  decide +kernel

/-- a mutation of the model: the built-in kinds keep the order of the walk, only the globals are sorted -/
def sortGlobalsOnly (l : List Implicit) : List Implicit :=
  l.filter (fun i => i.variant != globalVariant) ++ sortImplicit (l.filter (fun i => i.variant == globalVariant))

/-- (negation with witness) "sort the globals only" IS order dependent as soon as one function reaches both lane
    intrinsics - the input class no stream produced before `wave:` - while it agrees with the real `sort()` on every
    list that holds globals only (`sortGlobalsOnly_eq_on_globals`), which is why the older streams could not see it -/
theorem globals_only_sort_order_dependent :
    let ss₁ : List Sym := [.fn 1, .glob 1, .fn 2, .glob 0]
    let ss₂ : List Sym := [.glob 0, .fn 2, .glob 1, .fn 1]
    ss₁.Perm ss₂ ∧
    (implicitsOfSet kindsProgram ss₁).toOption.map sortGlobalsOnly ≠
      (implicitsOfSet kindsProgram ss₂).toOption.map sortGlobalsOnly ∧
    (implicitsOfSet kindsProgram ss₁).toOption.map sortImplicit =
      (implicitsOfSet kindsProgram ss₂).toOption.map sortImplicit := by
  decide +kernel

theorem sortGlobalsOnly_eq_on_globals (l : List Implicit) (h : ∀ i ∈ l, i.variant = globalVariant) :
    sortGlobalsOnly l = sortImplicit l := by
  have h1 : l.filter (fun i => i.variant != globalVariant) = [] := by
    apply List.filter_eq_nil_iff.2
    intro i hi
    simp [h i hi]
  have h2 : l.filter (fun i => i.variant == globalVariant) = l := by
    apply List.filter_eq_self.2
    intro i hi
    simp [h i hi]
  simp [sortGlobalsOnly, h1, h2]

end ImplicitKinds

/-! Non-vacuity: a check-only loop with two failing elements that report the same constant. -/
example : firstFailure (fun n : Nat => if n > 2 then some "duplicate" else none) [1, 5, 2, 7] =
    firstFailure (fun n : Nat => if n > 2 then some "duplicate" else none) [7, 2, 1, 5] :=
  firstFailure_perm_invariant _ (by decide) (by
    intro a _ b _ e₁ e₂ h₁ h₂
    split at h₁ <;> split at h₂ <;> simp_all)

/-! Non-vacuity: two different iteration orders of one set, one result. -/
example : collectSort (fun a b => decide (a ≤ b)) [3, 1, 2] = collectSort (fun a b => decide (a ≤ b)) [2, 3, 1] :=
  sortBy_key_perm_invariant (fun x => x) (by decide) (fun _ _ _ _ h => h)
example : ([3, 1, 2] : List Nat).Perm [2, 3, 1] := by decide

end RsslVerif.Thm.C07
