import RsslVerif.Thm.C15
import RsslVerif.Lemmas.GenSemLit
import RsslVerif.Gen.UsageTables
/-!
# C01 ∘ C15: where the hypothesis `Agree` of `gen_sem_*` comes from

`gen_sem_expr … gen_sem_program` (Thm/C01.lean) assume `Agree cx env`: every emitted name denotes, in the C semantics of
the emitted text, the variable / function the IR node referred to.  The emitted names are those of `NameMap::build`
(property C15, model `Model.Names.build`).  This file states

* what `Agree` needs of a name assignment: it is unsatisfiable as soon as two variables (or two functions) share a name
  (`agree_unsatisfiable_of_shared_name`, `…_function_name`), and satisfiable when the assignment is injective on variables
  and on functions and no function is called like a modelled built-in (`agree_of_injective`);
* what C15's model of the **local-variable pass** gives: two local variables are printed with the same name only if both
  *kept* the same source name (`assignLocals_collision_free`, lifted to `build` in `local_pass_collision_free`), so a
  renamed local never meets another local (this is the clause seeded mutant C01-4 falsifies: `pass_1`, `pass` ↦
  `pass_1`, `pass_1`), and locals with pairwise different source names get pairwise different names
  (`locals_with_distinct_sources_stay_distinct`).

Together with `Thm.C15.locals_apart_from_used` (a local never takes the name of a used function / global),
`Thm.C15.never_reserved` (no emitted name is a built-in: the HLSL reserved list contains the intrinsic names) and
`Thm.C15.injective_per_scope` (file-scope names are unique per scope) these are the premises of `agree_of_injective`
for a function whose source does not declare one name twice.  **Not closed in Lean** (cited, informal): the identification of
`Ctx.locName / globName / funcName` of a C01 request with the `Named` list of `Model.Names.build` for the module (the
harness serialises the real `NameMap` into the request's `vars= / globs= / funcs=`; C15's correspondence stream compares
that map with `Model.Names.build`), and block scoping — a source that shadows a name keeps both declarations verbatim,
`Agree` is then unsatisfiable by a flat environment and the theorems do not apply (the harness's text evaluator resolves
names by C block scoping instead).
-/
namespace RsslVerif.Thm.C01Names
open RsslVerif.Model RsslVerif.Model.GenHlsl RsslVerif.Spec.Sem RsslVerif.Lemmas.GenSem
open RsslVerif.Model.Ir (Ty Var)
open RsslVerif.Model.Names RsslVerif.Lemmas.Names

/-- A name map that gives two different variables one name falsifies `Agree` for **every** environment: no reading of the
emitted text can make both uses refer to their own entity. -/
theorem agree_unsatisfiable_of_shared_name {cx : Ctx} {x y : Var} (hxy : x ≠ y) (hn : cx.name x = cx.name y) :
    ¬ ∃ env : Ast.Env, Agree cx env := by
  rintro ⟨env, h⟩
  have h1 := h.res x
  have h2 := h.res y
  rw [hn, h2] at h1
  exact hxy (Option.some.inj h1).symm

/-- the same for functions -/
theorem agree_unsatisfiable_of_shared_function_name {cx : Ctx} {f g : Nat} (hfg : f ≠ g)
    (hn : cx.funcName f = cx.funcName g) : ¬ ∃ env : Ast.Env, Agree cx env := by
  rintro ⟨env, h⟩
  have h1 := h.fres f
  have h2 := h.fres g
  rw [hn, h2] at h1
  exact hfg (Option.some.inj h1).symm

open Classical in
/-- the environment that reads every emitted name back as the entity it was given to -/
noncomputable def envOf (cx : Ctx) : Ast.Env where
  res s := if h : ∃ x, cx.name x = s then some (Classical.choose h) else none
  vty := cx.vty
  fres s := if h : ∃ f, cx.funcName f = s then some (Classical.choose h) else none

/-- **`Agree` is dischargeable from injectivity**: if no two variables and no two functions share an emitted name and no
function carries the name of a modelled built-in, the environment `envOf cx` satisfies `Agree cx`. -/
theorem agree_of_injective (cx : Ctx) (hv : ∀ x y, cx.name x = cx.name y → x = y)
    (hf : ∀ f g, cx.funcName f = cx.funcName g → f = g)
    (hb : ∀ f, ∀ p ∈ Ast.builtins, cx.funcName f ≠ p.1) : Agree cx (envOf cx) where
  res x := by
    have h : ∃ y, cx.name y = cx.name x := ⟨x, rfl⟩
    simp only [envOf, h, dite_true]
    exact congrArg some (hv _ _ (Classical.choose_spec h))
  vty := rfl
  fres f := by
    have h : ∃ g, cx.funcName g = cx.funcName f := ⟨f, rfl⟩
    simp only [envOf, h, dite_true]
    exact congrArg some (hf _ _ (Classical.choose_spec h))
  builtin p hp := by
    have h : ¬ ∃ f, cx.funcName f = p.1 := by
      rintro ⟨f, e⟩
      exact hb f p hp e
    simp only [envOf, h, dite_false]

/-- an assignment that gives every local the name `pass_1` is refuted -/
example : ¬ ∃ env : Ast.Env, Agree ⟨fun _ => "pass_1", fun n => "g" ++ toString n, fun n => "f" ++ toString n,
    fun _ => .int⟩ env :=
  agree_unsatisfiable_of_shared_name (x := .loc 0) (y := .loc 1) (by simp) rfl

/-- two locals (source name, picked name) may share the picked name only if both kept one and the same source name -/
def Harmless (p q : String × String) : Prop := p.2 = q.2 → p.1 = q.1 ∧ p.2 = p.1 ∧ q.2 = q.1

/-- every picked name is the source name (kept) or outside the source names of all locals (generated) -/
theorem assignLocals_class {al : List String} :
    ∀ (ls : List String) {ua out : List String}, assignLocals al ua ls = .ok out →
      out.length = ls.length ∧ ∀ p ∈ ls.zip out, p.2 = p.1 ∨ p.2 ∉ al := by
  intro ls ua out
  fun_induction assignLocals al ua ls generalizing out <;> intro h <;> cases h
  case case1 => simp
  case case4 ua n r _ c hc rest hrest ih =>  -- `n` is taken: the candidate `c` is outside the source names
    obtain ⟨hl, hcl⟩ := ih hrest
    refine ⟨by simp [hl], fun p hp => ?_⟩
    rcases List.mem_cons.mp hp with rfl | hp
    · exact .inr (firstFreeLocal_not_mem _ _ hc).2
    · exact hcl p hp
  case case6 ua n r _ rest hrest ih =>  -- `n` is free and stays
    obtain ⟨hl, hcl⟩ := ih hrest
    refine ⟨by simp [hl], fun p hp => ?_⟩
    rcases List.mem_cons.mp hp with rfl | hp
    · exact .inl rfl
    · exact hcl p hp

/-- **assignLocals_collision_free** (full, for the model of the local pass; `ls ⊆ al`: in `build` both are the variable
registry): among the locals, in registry order, two are printed with the same name only if both kept the same source
name.  In particular a *generated* name `n_k` is never the name of another local — neither of one that kept its source
name (the candidate loop skips `all_local_names`) nor of another generated one (every candidate is inserted into
`used_names_all_scopes`).  Seeded mutant C01-4 drops the first test from the loop and falsifies exactly this. -/
theorem assignLocals_collision_free {al : List String} :
    ∀ (ls : List String) {ua out : List String}, (∀ n ∈ ls, n ∈ al) → assignLocals al ua ls = .ok out →
      (ls.zip out).Pairwise Harmless := by
  intro ls ua out
  fun_induction assignLocals al ua ls generalizing out <;> intro hsub h <;> cases h
  case case1 => simp
  case case4 ua n r _ c hc rest hrest ih =>
    -- a later local is outside `c :: ua`, so it is not `c`
    refine List.pairwise_cons.mpr ⟨fun q hq e => ?_, ih (fun m hm => hsub m (List.mem_cons_of_mem _ hm)) hrest⟩
    have hq2 : q.2 ∈ rest := (List.of_mem_zip (a := q.1) (b := q.2) hq).2
    exact absurd (List.mem_cons.mpr (.inl e.symm)) (assignLocals_not_mem r hrest q.2 hq2)
  case case6 ua n r _ rest hrest ih =>
    -- a later local called `n`: generated names are outside the source names, so it kept `n`
    refine List.pairwise_cons.mpr ⟨fun q hq e => ?_, ih (fun m hm => hsub m (List.mem_cons_of_mem _ hm)) hrest⟩
    simp only at e
    rcases (assignLocals_class r hrest).2 q hq with hk | hg
    · exact ⟨by rw [← hk, ← e], rfl, hk⟩
    · exact absurd (e ▸ hsub n (List.mem_cons_self ..)) hg

/-- **local_pass_collision_free** (lift to `NameMap::build`, full for the model, every module and reserved list): the
result is the file-scope names followed by the locals in registry order, and two locals share a printed name only if
both kept the same source name. -/
theorem local_pass_collision_free {reserved : List String} {inp : Input} {names : List Named}
    (h : build reserved inp = .ok names) :
    ∃ globals ls, names = globals ++ numberLocals ls 0 ∧ ls.length = inp.locals.length ∧
      (inp.locals.zip ls).Pairwise Harmless := by
  obtain ⟨scopes, ls, _, hl, rfl⟩ := RsslVerif.Thm.C15.build_ok h
  exact ⟨_, ls, rfl, (assignLocals_class _ hl).1, assignLocals_collision_free _ (fun _ hn => hn) hl⟩

/-- **locals_with_distinct_sources_stay_distinct**: locals `i < j` of the registry with different source names are
printed with different names (whatever was renamed): the premise `cx.name` injective of `agree_of_injective`, for the
local variables of a function whose source does not declare one name twice. -/
theorem locals_with_distinct_sources_stay_distinct {al : List String} {ls ua out : List String}
    (hsub : ∀ n ∈ ls, n ∈ al) (h : assignLocals al ua ls = .ok out) {i j : Nat} (hij : i < j) (hj : j < ls.length)
    (hne : ls[i]? ≠ ls[j]?) : out[i]? ≠ out[j]? := by
  have hlen := (assignLocals_class ls h).1
  have hp := assignLocals_collision_free ls hsub h
  have hzl : (ls.zip out).length = ls.length := by simp [hlen]
  have hi : i < ls.length := Nat.lt_trans hij hj
  have := List.pairwise_iff_getElem.mp hp i j (by omega) (by omega) hij
  intro e
  apply hne
  simp only [List.getElem_zip, Harmless] at this
  have hio : i < out.length := by omega
  have hjo : j < out.length := by omega
  rw [List.getElem?_eq_getElem hio, List.getElem?_eq_getElem hjo] at e
  rw [List.getElem?_eq_getElem hi, List.getElem?_eq_getElem hj]
  exact congrArg some (this (Option.some.inj e)).1

/-- non-vacuity, and the seeded scenario on the model: an earlier `pass`, then `pass_1` next to `pass` in one function —
the code (and the model) prints `pass_0`, `pass_1`, `pass_2`; the mutant printed `pass_0`, `pass_1`, `pass_1`, which
`Harmless` rejects for the last two (`pass_1` kept, `pass` renamed). -/
example : (assignLocals ["pass", "pass_1", "pass"] ["pass"] ["pass", "pass_1", "pass"]).toOption =
    some ["pass_0", "pass_1", "pass_2"] := by
  decide

example : ¬ Harmless ("pass_1", "pass_1") ("pass", "pass_1") := by
  simp [Harmless]

/-! ## the local pass rests on the usage analysis (seeded mutant C01-5)

`used_names_all_scopes` receives the names of the functions / global variables that `GlobalUsageAnalysis` reports as used by
some body (`Input.used`).  `Thm.C15.locals_apart_from_used` is the positive half: a local never takes the name of a symbol
**in** that set.  The lemmas below are the converse: a name **outside** the set (and outside the reserved list and the
generated candidates) is *kept* by every local that carries it — so if the analysis omits a symbol that a body does mention
(seed C01-5: a global referenced only inside an array index), a local of that name is printed with the global's name and
`Agree` has no solution: the emitted text reads the local where the IR reads the global.  Hence the `Agree` premise of
`gen_sem_*` needs usage *completeness*: C02's obligations about `gather_usage_*` (`Gen.UsageTables`,
`Thm.C02.all_positions_descended`, `tables_as_modelled`, `mentions_calculateLocal`, …) are C01 obligations too. -/

/-- a source name outside `used_names_all_scopes` is kept by every local that carries it (candidates are outside the
source names of the locals, so no earlier renaming can put it into the set) -/
theorem assignLocals_keeps_unreserved {al : List String} {g : String} (hg : g ∈ al) :
    ∀ (ls : List String) {ua out : List String}, g ∉ ua → assignLocals al ua ls = .ok out →
      ∀ i : Nat, ls[i]? = some g → out[i]? = some g := by
  intro ls ua out
  fun_induction assignLocals al ua ls generalizing out <;> intro hua h i hi <;> cases h
  case case1 => simp at hi
  case case4 ua n r hn c hc rest hrest ih =>  -- `n` is taken, so it is not `g`; the candidate is no source name, so `g` stays free
    cases i with
    | zero =>
      obtain rfl : n = g := by simpa using hi
      exact absurd (by simpa using hn) hua
    | succ j =>
      have hne : g ≠ c := fun e => (firstFreeLocal_not_mem _ _ hc).2 (e ▸ hg)
      exact ih (by simp [hne, hua]) hrest j hi
  case case6 ua n r _ rest hrest ih =>  -- `n` is free and stays
    cases i with
    | zero => exact hi
    | succ j => exact ih hua hrest j hi

/-- **unreserved_used_name_can_be_captured** (full, for C15's model of `NameMap::build`, every module, reserved list and
usage set): let `g` be a file-scope entry of the result whose name is not reserved, not a generated candidate, and **not the
name of any symbol the usage analysis reports** (`hom`: the used set omits `g` and whatever shares its name — what happens
when `gather_usage_*` skips the position where a body mentions `g`).  Then every local variable whose source name is
`g.name` is printed as `g.name` as well, and for every name context that prints an entity `x` as `g.name` and a different
entity `y` as that local's name, `Agree` is unsatisfiable: some use in the emitted text no longer refers to its entity
(the local captures the reference).  Together with `Thm.C15.locals_apart_from_used` (a *reported* symbol's name is never
taken by a local) this makes "the usage set contains every symbol a body mentions" exactly the premise under which the local
pass protects references. -/
theorem unreserved_used_name_can_be_captured {reserved : List String} {inp : Input} {names : List Named}
    (h : build reserved inp = .ok names) :
    ∃ (globals : List Named) (gens ls : List String), names = globals ++ numberLocals ls 0 ∧
      ∀ g ∈ globals, g.name ∉ reserved → g.name ∉ gens →
        (∀ e ∈ globals, (e.sym.kind = .func ∨ e.sym.kind = .global) → e.sym ∈ inp.used → e.name ≠ g.name) →
        ∀ i : Nat, inp.locals[i]? = some g.name →
          ls[i]? = some g.name ∧
          ∀ (cx : Ctx) (x y : Var), x ≠ y → cx.name x = g.name → some (cx.name y) = ls[i]? →
            ¬ ∃ env : Ast.Env, Agree cx env := by
  obtain ⟨scopes, ls, _, hl, rfl⟩ := RsslVerif.Thm.C15.build_ok h
  refine ⟨_, scopes.flatMap (fun p => p.2.gen), ls, rfl, ?_⟩
  intro g _ hres hgen hom i hi
  have hal : g.name ∈ inp.locals := List.mem_of_getElem? hi
  have hua : g.name ∉ reserved ++ scopes.flatMap (fun p => p.2.gen) ++
      usedNames inp (scopes.flatMap fun p => p.2.out.map fun q => (⟨q.1, p.1, q.2⟩ : Named)) := by
    simp only [List.mem_append, not_or]
    refine ⟨⟨hres, hgen⟩, fun hm => ?_⟩
    obtain ⟨e, he, hk, hu, hn⟩ := mem_usedNames.mp hm
    exact hom e he hk hu hn
  have hk := assignLocals_keeps_unreserved hal inp.locals hua hl i hi
  refine ⟨hk, ?_⟩
  intro cx x y hxy hx hy
  rw [hk] at hy
  exact agree_unsatisfiable_of_shared_name hxy (hx.trans (Option.some.inj hy).symm)

/-- non-vacuity and the seeded scenario on the model (`static uint slot; int pick(int v[4]) { int slot = v[slot]; … }`):
with the global reported used the local is printed `slot_0`; with the usage set empty (the analysis skipped the array index)
the local keeps `slot`, the name of the global. -/
example :
    let inp : List Sym → Input := fun u =>
      ⟨[], [⟨⟨.global, 0⟩, none, "slot"⟩, ⟨⟨.func, 0⟩, none, "pick"⟩], u, ["v", "slot"]⟩
    (build [] (inp [⟨.global, 0⟩])).toOption.map (·.map (·.name)) = some ["pick", "slot", "v", "slot_0"] ∧
    (build [] (inp [])).toOption.map (·.map (·.name)) = some ["pick", "slot", "v", "slot"] := by
  decide +kernel


/-- **usage_analysis_descends_everywhere** (fact about the *current* source, re-extracted by C02's translator into
`Gen.UsageTables` on every run): `gather_usage_for_statement / _expression / _init` and the `ForInit` match have exactly one
arm per variant of the IR enums and pass **every** statement-, expression- and initialiser-valued field on (the `false`
entries are the fields that hold no expression: constants, ids, types, swizzle letters, member names, the call's id and
template arguments, a case label's constant); `Global` and `Call` record their symbol; function bodies, default arguments and
global initialisers are gathered and every function has an entry.  This is the completeness premise of
`unreserved_used_name_can_be_captured` for every syntactic position: seeded mutant C01-5 turns
`("ArraySubscript", [true, true])` into `[true, false]`. -/
theorem usage_analysis_descends_everywhere :
    Gen.UsageTables.stmtArms = [
      ("Expression", [true]), ("Var", [true]), ("Block", [true]), ("If", [true, true]), ("IfElse", [true, true, true]),
      ("For", [true, true, true, true]), ("While", [true, true]), ("DoWhile", [true, true]), ("Switch", [true, true]),
      ("Break", []), ("Continue", []), ("Discard", []), ("Return", [true]), ("CaseLabel", [false]), ("DefaultLabel", [])] ∧
    Gen.UsageTables.exprArms = [
      ("Literal", [false]), ("Variable", [false]), ("MemberVariable", [false, false]), ("Global", [false]),
      ("ConstantVariable", [false]), ("EnumValue", [false]), ("TernaryConditional", [true, true, true]),
      ("Sequence", [true]), ("Swizzle", [true, false]), ("MatrixSwizzle", [true, false]),
      ("ArraySubscript", [true, true]), ("StructMember", [true, false, false]), ("ObjectMember", [true, false]),
      ("Call", [true, false, true]), ("Constructor", [false, true]), ("Cast", [false, true]), ("SizeOf", [false]),
      ("IntrinsicOp", [false, true])] ∧
    Gen.UsageTables.initArms = [("Expression", [true]), ("Aggregate", [true])] ∧
    Gen.UsageTables.forInitArms = [("Empty", []), ("Expression", [true]), ("Definitions", [true])] ∧
    Gen.UsageTables.symbolInserts =
      [("Global", "GlobalVariable"), ("ConstantVariable", "ConstantBuffer"), ("Call", "Function")] ∧
    Gen.UsageTables.functionBodyGathered = true ∧ Gen.UsageTables.defaultArgumentsGathered = true ∧
    Gen.UsageTables.globalInitialisersGathered = true ∧ Gen.UsageTables.everyFunctionHasAnEntry = true ∧
    Gen.UsageTables.recurseShape = ⟨true, true, true, true, true⟩ :=
  ⟨rfl, rfl, rfl, rfl, rfl, rfl, rfl, rfl, rfl, rfl⟩

end RsslVerif.Thm.C01Names
