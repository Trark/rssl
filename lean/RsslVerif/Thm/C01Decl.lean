import RsslVerif.Thm.C01
import RsslVerif.Model.GenHlslDecl
/-!
# C01 — modules with function prototypes

`gen_sem_program` speaks about the list of function *definitions*.  A source module may also declare a function any number
of times (before / after its definition, before its uses only, …); the exporter prints each such declaration from the
function's implementation with `body = None`.  These theorems extend the program theorem to modules with prototypes.
-/
namespace RsslVerif.Thm.C01
open RsslVerif.Gen.HlslGenTables RsslVerif.Model RsslVerif.Model.GenHlsl RsslVerif.Spec.Sem RsslVerif.Lemmas.GenSem

/-- the textual facts the prototype model rests on (re-extracted from `generate_root_definition`, `generate_function`,
`generate_function_inner` on every run) -/
theorem declaration_arms_as_modelled : declarationArmsAsModelled = true := by decide

/-- the definitions among the emitted items are exactly `genProg` of the module's implementations, in order: prototypes add
nothing to and remove nothing from what a C front end runs -/
theorem definitions_of_module {cx : Ctx} : ∀ (items : List RootItem) (m : List AstItem),
    genModule cx items = .ok m → genProg cx (implsOf items) = .ok (definitionsOf m) := by
  intro items
  fun_induction genModule cx items <;> intro m h <;> cases h
  · rfl
  next it r a ha as has ih =>
    have ihr := ih as has
    revert ha
    fun_cases genItem cx it <;> intro ha <;> cases ha
    · simpa [implsOf, definitionsOf] using ihr -- a prototype
    next fn f hf => simp [implsOf, definitionsOf, genProg, hf, ihr] -- a definition

/-- **modules with prototypes**: the emitted module — definitions and prototypes in any number and order — run by the
C-like semantics computes what the typed module computes, at every call depth, every loop fuel, for every `Prim`. -/
theorem gen_sem_module {env : Ast.Env} {cx : Ctx} (hag : Agree cx env)
    (items : List RootItem) (m : List AstItem) (hg : genModule cx items = .ok m)
    (hwt : ∀ fn ∈ implsOf items, Ir.wtStmts (Ir.sigOf (implsOf items)) cx.vty fn.ret none fn.body = true)
    (P : Prim) (fuel d : Nat) :
    Ast.phi P env (definitionsOf m) fuel d = Ir.phi P (implsOf items) fuel d :=
  gen_sem_program hag (implsOf items) (definitionsOf m) (definitions_of_module items m hg) hwt P fuel d

/-- **a prototype announces the signature of the definition**: whenever both can be generated, the item emitted for a
declaration of `fn` has the name, return type and parameters (names, directions, types, order) of the item emitted for
the definition of `fn`, and no body — so every redeclaration in the emitted module is consistent with the definition a
call resolves to. -/
theorem prototype_agrees_with_definition {cx : Ctx} (fn : Ir.Func) (p d : AstItem)
    (hp : genItem cx (.decl (some fn)) = .ok p) (hd : genItem cx (.defn fn) = .ok d) :
    p.signature = d.signature ∧ p.body = none ∧ d.body.isSome = true := by
  simp only [genItem] at hp hd
  revert hd
  fun_cases genFunc cx fn <;> intro hd <;> cases hd
  next rt hrt ps hps b hb =>
    simp [hrt, hps] at hp
    subst hp
    simp [AstItem.signature]

/-- a declared function without implementation is the export error `FunctionNotDefined`, not a panic -/
theorem prototype_without_implementation_is_refused (cx : Ctx) :
    genItem cx (.decl none) = .error (.diag "FunctionNotDefined") := rfl

/-- `P; D; P` around the example function of `Thm.C01` (for-loop, inout parameter, static global, negative constant,
cast): three items are emitted, one of them a definition, and the typed module has the one implementation -/
example : (genModule cx0 [.decl (some fEx), .defn fEx, .decl (some fEx)]).toOption.map
      (fun m => (m.length, (definitionsOf m).length, m.map (fun it => it.body.isSome))) = some (3, 1, [false, true, false]) ∧
    implsOf [.decl (some fEx), .defn fEx, .decl (some fEx)] = [fEx] := ⟨by decide, rfl⟩
/-- …and the instance of `gen_sem_module` it yields -/
example (m : List AstItem) (h : genModule cx0 [.decl (some fEx), .defn fEx, .decl (some fEx)] = .ok m) (P : Prim) (fuel d : Nat) :
    Ast.phi P env0 (definitionsOf m) fuel d = Ir.phi P [fEx] fuel d :=
  gen_sem_module agree0 _ m h (by decide) P fuel d

end RsslVerif.Thm.C01
