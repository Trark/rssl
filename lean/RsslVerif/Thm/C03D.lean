import RsslVerif.Model.TypeMods
import RsslVerif.Gen.TypeMods
import RsslVerif.Thm.C03X
/-!
# C03, declared types: the modifiers of a typedef / template parameter survive the modifiers written at the use site

`Model.TypeMods` mirrors the modifier handling of `parse_type_for_usage` (typer/src/typer/types.rs).  The constness the
write checks of `Thm.C03X` rely on is the constness of the *declared type*; these theorems say where that comes from:
the declared type of `<use-site keywords> Tn x`, `Tn` a typedef over typedefs (or a struct-template type parameter bound
to one), carries a modifier exactly if **some layer of the chain or the use site** writes it — no layer is lost, whatever
else is written anywhere (seeded mutant C03-5 applied the use-site modifiers *below* the typedef's own modifier layer:
`typedef const float CF; volatile CF x; x = 2;` was accepted).  All statements are for every chain length, every keyword
list, every declaration position, every shape of the type below the modifiers.
-/
namespace RsslVerif.Thm.C03D
open RsslVerif.Model.TypeMods
open RsslVerif.Gen.TypingTables RsslVerif.Model.Conv
open RsslVerif.Model.IrTypingX RsslVerif.Model.ElabX

/-! ## the tie: the re-extracted source facts are what the model was written from -/

instance : DecidableEq (Except Err Mods) := fun a b =>
  match a, b with
  | .ok x, .ok y => if h : x = y then isTrue (by rw [h]) else isFalse (by intro e; cases e; exact h rfl)
  | .error x, .error y => if h : x = y then isTrue (by rw [h]) else isFalse (by intro e; cases e; exact h rfl)
  | .ok _, .error _ => isFalse (by intro e; cases e)
  | .error _, .ok _ => isFalse (by intro e; cases e)

def isErr (e : Err) : Except Err Mods → Bool
  | .error e' => e == e'
  | .ok _ => false

def good : Shape := ⟨true, true⟩

/-- the row of `Gen.TypeMods.keywordRows` the **model's behaviour** gives for a keyword: every entry is obtained by
    running `kwStep` (which field the accepted step sets, which single carried / previously written field makes it a
    conflict, which property of the type below it needs, which positions deny it, which errors it can answer) -/
def probeRow (k : Kw) : String × String × List String × String × List String × List String :=
  let sets := Kw.all.filter fun f => match kwStep Mods.none good .free Mods.none k with
    | .ok m => m.flag f
    | .error _ => false
  let confFull := Kw.all.filter fun f => isErr .modifierConflict (kwStep Mods.none good .free (Mods.none.set f) k)
  let confBase := Kw.all.filter fun f => isErr .modifierConflict (kwStep (Mods.none.set f) good .free Mods.none k)
  let needsMatrix := isErr .matrixOrderRequiresMatrixType (kwStep Mods.none ⟨false, true⟩ .free Mods.none k)
  let needsF32 := isErr .modifierRequiresFloatType (kwStep Mods.none ⟨true, false⟩ .free Mods.none k)
  let denied := Pos.all.filter fun p => isErr .modifierNotSupported (kwStep Mods.none good p Mods.none k)
  (k.variant, String.intercalate "," (sets.map Kw.field),
   confFull.map (fun f => "full_modifier." ++ f.field) ++ confBase.map (fun f => "base_modifier." ++ f.field),
   (if needsMatrix then "matrix" else "") ++ (if needsF32 then "float32" else ""),
   denied.map Pos.variant,
   (if denied.isEmpty then [] else ["ModifierNotSupported"]) ++
   (if confFull.isEmpty && confBase.isEmpty then [] else ["ModifierConflict"]) ++
   (if needsMatrix then ["MatrixOrderRequiresMatrixType"] else []) ++
   (if needsF32 then ["ModifierRequiresFloatType"] else []))

/-- **The source of `parse_type_for_usage` / `parse_type_modifier` / `TypeModifier::combine` is what `Model.TypeMods` was
    written from** (re-decided against the tables re-extracted from /repo on every run):
    the returned type is built from `extract_modifier(parsed_id)` — the type *below* the named type's modifier and that
    modifier —, `base_modifier.combine(direct_modifier)` and `combine_modifier(ir_ty, modifier)`, with no early return;
    `combine` ors every field of `TypeModifier`; the keyword arms of `parse_type_modifier` set, check and deny exactly
    what `kwStep` does, and the carried modifier they check against is the one of the applied type. -/
theorem parse_type_for_usage_as_modelled :
    RsslVerif.Gen.TypeMods.usageHead =
      ["letparsed_id=parse_typelayout(&ty.layout,context)?",
       "letdirect_modifier=parse_type_modifier(&ty.modifiers,parsed_id,position,context)?"] ∧
    RsslVerif.Gen.TypeMods.usageTail =
      ["let(ir_ty,base_modifier)=context.module.type_registry.extract_modifier(parsed_id)",
       "letmodifier=base_modifier.combine(direct_modifier)",
       "letty=context.module.type_registry.combine_modifier(ir_ty,modifier)",
       "Ok(ty)"] ∧
    RsslVerif.Gen.TypeMods.usageReturns = 0 ∧
    RsslVerif.Gen.TypeMods.modifierFields = Kw.all.map Kw.field ∧
    RsslVerif.Gen.TypeMods.combineFields =
      Kw.all.map (fun k => (k.field, "self." ++ k.field, "||", "other." ++ k.field)) ∧
    RsslVerif.Gen.TypeMods.modifierPrelude =
      ["let(unmodified_type,base_modifier)=context.module.type_registry.extract_modifier(applied_type)",
       "lettyl=context.module.type_registry.get_type_layer(unmodified_type)",
       "letmutfull_modifier=ir::TypeModifier::new()"] ∧
    RsslVerif.Gen.TypeMods.modifierEpilogue = ["}Ok(full_modifier)"] ∧
    RsslVerif.Gen.TypeMods.keywordRows = Kw.all.map probeRow := by
  refine ⟨rfl, rfl, rfl, rfl, ?_, rfl, rfl, ?_⟩ <;> decide +kernel

/-- `TypeModifier::combine`, field by field -/
theorem mergeModifiers_flag (a b : Mods) (k : Kw) : (mergeModifiers a b).flag k = (a.flag k || b.flag k) := by
  cases k <;> rfl

theorem none_flag (f : Kw) : Mods.none.flag f = false := by cases f <;> rfl

theorem set_flag (m : Mods) (k f : Kw) : (m.set k).flag f = (m.flag f || decide (f = k)) := by
  rw [Bool.or_comm]; cases k <;> cases f <;> rfl

/-- an accepted keyword sets its flag; a keyword with a conflicting partner is accepted only if neither the modifier being
    built nor the carried one has the partner -/
theorem kwStep_ok {base : Mods} {sh : Shape} {pos : Pos} {full full' : Mods} {k : Kw}
    (h : kwStep base sh pos full k = .ok full') :
    full' = full.set k ∧ ∀ c, k.conflict = some c → (full.flag c || base.flag c) = false := by
  revert h
  fun_cases kwStep base sh pos full k <;> intro h <;> cases h
  case case1 | case3 => exact ⟨rfl, fun c hc => nomatch hc⟩
  -- a keyword with a partner: the first test it passed says the partner is set nowhere
  all_goals
    rename_i h1 _
    exact ⟨rfl, fun c hc => by cases hc; simpa [Mods.flag] using h1⟩

theorem kwLoop_flag {base : Mods} {sh : Shape} {pos : Pos} {kws : List Kw} :
    ∀ {full d : Mods}, kwLoop base sh pos full kws = .ok d → ∀ f, d.flag f = (full.flag f || decide (f ∈ kws)) := by
  intro full d
  fun_induction kwLoop base sh pos full kws <;> intro h f
  case case1 => cases h; simp
  case case2 => cases h
  case case3 hs ih =>
    rw [ih h f, (kwStep_ok hs).1, set_flag]
    simp [Bool.or_assoc, List.mem_cons]

/-- what `parse_type_for_usage` returns carries a modifier iff the named type carries it or it is written -/
theorem parseTypeForUsage_flag {named m : Mods} {kws : List Kw} {sh : Shape} {pos : Pos}
    (h : parseTypeForUsage named kws sh pos = .ok m) (f : Kw) : m.flag f = (named.flag f || decide (f ∈ kws)) := by
  revert h
  fun_cases parseTypeForUsage named kws sh pos <;> intro h <;> cases h
  rename_i hd
  rw [mergeModifiers_flag, kwLoop_flag hd f, none_flag, Bool.false_or]

theorem typedefChain_flag {sh : Shape} {layers : List (List Kw)} :
    ∀ {cur m : Mods}, typedefChain sh cur layers = .ok m →
      ∀ f, m.flag f = (cur.flag f || layers.any fun l => decide (f ∈ l)) := by
  intro cur m
  fun_induction typedefChain sh cur layers <;> intro h f
  case case1 => cases h; simp
  case case2 => cases h
  case case3 hm ih =>
    rw [ih h f, parseTypeForUsage_flag hm f]
    simp [Bool.or_assoc]

/-- **The declared type carries a modifier iff some typedef layer or the use site writes it**: for every chain of
    typedefs (any length; a template type parameter is one more layer), every keyword list at the use site, every
    declaration position and every type below the modifiers for which the declaration is accepted at all. -/
theorem declared_modifier_is_union_of_layers {sh : Shape} {layers : List (List Kw)} {use : List Kw} {pos : Pos} {m : Mods}
    (h : declMods sh layers use pos = .ok m) (f : Kw) :
    m.flag f = true ↔ (∃ l ∈ layers, f ∈ l) ∨ f ∈ use := by
  revert h
  fun_cases declMods sh layers use pos <;> intro h
  · cases h
  · rename_i named hn
    rw [parseTypeForUsage_flag h f, typedefChain_flag hn f, none_flag]
    simp

/-- **A typedef's `const` survives use-site modifiers**: the declared type is const iff any layer of the typedef chain or
    the use site says `const` — in particular `typedef const float CF; volatile CF x;` declares a const object. -/
theorem typedef_const_survives_use_site_modifiers {sh : Shape} {layers : List (List Kw)} {use : List Kw} {pos : Pos}
    {m : Mods} (h : declMods sh layers use pos = .ok m) :
    m.isConst = true ↔ (∃ l ∈ layers, Kw.const ∈ l) ∨ Kw.const ∈ use :=
  declared_modifier_is_union_of_layers h .const

/-- the same for the layout / normalisation modifiers of a typedef (`row_major`, `column_major`, `unorm`, `snorm`) and
    `volatile`: none is lost when another modifier is added at the use site -/
theorem typedef_modifiers_survive_use_site_modifiers {sh : Shape} {layers : List (List Kw)} {use : List Kw} {pos : Pos}
    {m : Mods} (h : declMods sh layers use pos = .ok m) {l : List Kw} (hl : l ∈ layers) {f : Kw} (hf : f ∈ l) :
    m.flag f = true :=
  (declared_modifier_is_union_of_layers h f).mpr (Or.inl ⟨l, hl, hf⟩)

/-- the declaration positions add nothing to the type: where `declModsAt` accepts, the declared modifier is `declMods`'s; a
    struct member is accepted only without a `const` of its own -/
theorem declModsAt_ok {sh : Shape} {layers : List (List Kw)} {use : List Kw} {pos : Pos} {m : Mods}
    (h : declModsAt sh layers use pos = .ok m) :
    declMods sh layers use pos = .ok m ∧ (pos = .structMember → Kw.const ∉ use) := by
  revert h
  fun_cases declModsAt sh layers use pos <;> intro h <;> cases h
  rename_i hno hd
  exact ⟨hd, fun hp hc => hno (by simp [hp, hc])⟩

/-- a struct member is const only through its type: `const` written on the member itself is refused -/
theorem struct_member_const_comes_from_the_type {sh : Shape} {layers : List (List Kw)} {use : List Kw} {m : Mods}
    (h : declModsAt sh layers use .structMember = .ok m) : m.isConst = true ↔ ∃ l ∈ layers, Kw.const ∈ l := by
  obtain ⟨hd, hu⟩ := declModsAt_ok h
  rw [typedef_const_survives_use_site_modifiers hd]
  simp [hu rfl]

/-! ## the conflict checks (fix 8a3a2d4): an accepted declaration never has both orders / both normalisations -/

/-- no keyword is set together with the keyword it conflicts with -/
def Consistent (m : Mods) : Prop := ∀ a b, a.conflict = some b → (m.flag a && m.flag b) = false

theorem conflict_symm {a b : Kw} (h : a.conflict = some b) : b.conflict = some a := by
  cases a <;> cases h <;> rfl

theorem conflict_ne {a b : Kw} (h : a.conflict = some b) : a ≠ b := by
  cases a <;> cases h <;> decide

theorem kwStep_consistent {base : Mods} {sh : Shape} {pos : Pos} {full full' : Mods} {k : Kw}
    (hc : Consistent (mergeModifiers base full)) (h : kwStep base sh pos full k = .ok full') :
    Consistent (mergeModifiers base full') := by
  obtain ⟨rfl, hk⟩ := kwStep_ok h
  intro a b hab
  have hc' := hc a b hab
  rw [mergeModifiers_flag, mergeModifiers_flag] at hc' ⊢
  rw [set_flag, set_flag]
  by_cases ha : a = k
  · -- `a` is the new keyword: its partner `b` is set nowhere
    subst ha
    have hb := hk b hab
    have hne : ¬ b = a := fun e => conflict_ne hab e.symm
    simp only [Bool.or_eq_false_iff] at hb
    simp [hb.1, hb.2, hne]
  · by_cases hb : b = k
    · subst hb
      have ha' := hk a (conflict_symm hab)
      simp only [Bool.or_eq_false_iff] at ha'
      simp [ha'.1, ha'.2, ha]
    · simpa [ha, hb] using hc'

theorem kwLoop_consistent {base : Mods} {sh : Shape} {pos : Pos} {kws : List Kw} :
    ∀ {full d : Mods}, Consistent (mergeModifiers base full) → kwLoop base sh pos full kws = .ok d →
      Consistent (mergeModifiers base d) := by
  intro full d
  fun_induction kwLoop base sh pos full kws <;> intro hc h
  case case1 => cases h; exact hc
  case case2 => cases h
  case case3 hs ih => exact ih (kwStep_consistent hc hs) h

theorem parseTypeForUsage_consistent {named m : Mods} {kws : List Kw} {sh : Shape} {pos : Pos}
    (hc : Consistent named) (h : parseTypeForUsage named kws sh pos = .ok m) : Consistent m := by
  revert h
  fun_cases parseTypeForUsage named kws sh pos <;> intro h <;> cases h
  rename_i hd
  refine kwLoop_consistent ?_ hd
  intro a b hab
  rw [mergeModifiers_flag, mergeModifiers_flag, none_flag, none_flag, Bool.or_false, Bool.or_false]
  exact hc a b hab

theorem typedefChain_consistent {sh : Shape} {layers : List (List Kw)} :
    ∀ {cur m : Mods}, Consistent cur → typedefChain sh cur layers = .ok m → Consistent m := by
  intro cur m
  fun_induction typedefChain sh cur layers <;> intro hc h
  case case1 => cases h; exact hc
  case case2 => cases h
  case case3 hm ih => exact ih (parseTypeForUsage_consistent hc hm) h

theorem none_consistent : Consistent Mods.none := fun a b _ => by rw [none_flag]; rfl

theorem declMods_consistent {sh : Shape} {layers : List (List Kw)} {use : List Kw} {pos : Pos} {m : Mods}
    (h : declMods sh layers use pos = .ok m) : Consistent m := by
  revert h
  fun_cases declMods sh layers use pos <;> intro h
  · cases h
  · rename_i named hn
    exact parseTypeForUsage_consistent (typedefChain_consistent none_consistent hn) h

/-- **No accepted declaration is both `row_major` and `column_major`, or both `unorm` and `snorm`** — wherever along the
    typedef chain and the use site the two keywords are written (the conflict checks look at the carried modifier too). -/
theorem declared_modifier_consistent {sh : Shape} {layers : List (List Kw)} {use : List Kw} {pos : Pos} {m : Mods}
    (h : declMods sh layers use pos = .ok m) :
    ¬ (m.rowMajor = true ∧ m.columnMajor = true) ∧ ¬ (m.unorm = true ∧ m.snorm = true) := by
  have hc := declMods_consistent h
  have h1 := hc .rowMajor .columnMajor rfl
  have h2 := hc .unorm .snorm rfl
  simp only [Mods.flag] at h1 h2
  constructor
  · rintro ⟨a, b⟩; simp [a, b] at h1
  · rintro ⟨a, b⟩; simp [a, b] at h2

/-- conflicting keywords are rejected wherever they meet: directly, or one carried by a typedef layer -/
theorem conflicting_modifiers_rejected {sh : Shape} {layers : List (List Kw)} {use : List Kw} {pos : Pos}
    {a b : Kw} (hab : a.conflict = some b) (ha : (∃ l ∈ layers, a ∈ l) ∨ a ∈ use) (hb : (∃ l ∈ layers, b ∈ l) ∨ b ∈ use) :
    ∀ m, declMods sh layers use pos ≠ .ok m := by
  intro m h
  have fa := (declared_modifier_is_union_of_layers h a).mpr ha
  have fb := (declared_modifier_is_union_of_layers h b).mpr hb
  have hc := declMods_consistent h a b hab
  rw [fa, fb] at hc
  cases hc

/-! ## composition with the write checks of `Thm.C03X` -/

/-- **An object declared through a const typedef is never written, whatever is added at the use site**: if the declared
    type of `a` is the one `parse_type_for_usage` computes for a chain with `const` in some layer (or at the use site),
    no assignment-family operator and no `++` / `--` with target `a` is accepted. -/
theorem typedef_const_write_rejected {sh : Shape} {layers : List (List Kw)} {use : List Kw} {pos : Pos} {m : Mods}
    (h : declMods sh layers use pos = .ok m) (hc : (∃ l ∈ layers, Kw.const ∈ l) ∨ Kw.const ∈ use)
    {Γ : Env} {dbg : Bool} {a : SExpr} {a' : IExpr} {τa : ETy}
    (ha : elabE dbg Γ a = .ok (a', τa)) (hτ : τa.ty.mod = m.toModifier) :
    (∀ (o : BinOp) (b : SExpr), o.cls = .assign → ∀ r, elabE dbg Γ (.bin o a b) ≠ .ok r) ∧
    (∀ (o : UnOp), (o = .prefixIncrement ∨ o = .prefixDecrement ∨ o = .postfixIncrement ∨ o = .postfixDecrement) →
      ∀ r, elabE dbg Γ (.un o a) ≠ .ok r) := by
  have hm := (typedef_const_survives_use_site_modifiers h).mpr hc
  exact RsslVerif.Thm.C03X.elab_rejects_const_write ha (by rw [hτ]; simpa [Mods.toModifier] using hm)

/-! ## the discipline of seeded mutant C03-5, as a negation witness -/

/-- the mutant's tail: a named type used without keywords is returned as found; otherwise the written modifier alone is
    put onto the type **below** the named type's modifier -/
def mutantUsage (named : Mods) (kws : List Kw) (sh : Shape) (pos : Pos) : Except Err Mods :=
  match parseTypeModifier kws named sh pos with
  | .error e => .error e
  | .ok direct => if direct = Mods.none then .ok named else .ok direct

/-- under that discipline `typedef const float CF; volatile CF x` declares a non-const object (so the statement of
    `typedef_const_survives_use_site_modifiers` is about the merge, not a consequence of the keyword checks) -/
theorem mutant_discipline_drops_typedef_const :
    ∃ m, mutantUsage { isConst := true } [.volatile] ⟨false, true⟩ .localVar = .ok m ∧ m.isConst = false ∧
      parseTypeForUsage { isConst := true } [.volatile] ⟨false, true⟩ .localVar = .ok { m with isConst := true } := by
  refine ⟨{ volatile := true }, ?_, ?_, ?_⟩ <;> decide

/-- `typedef const float T0; typedef volatile T0 T1; unorm T1 x;` (local): accepted, declared `const volatile unorm` -/
example : declMods ⟨false, true⟩ [[.const], [.volatile]] [.unorm] .localVar =
    .ok { isConst := true, volatile := true, unorm := true } := by decide +kernel
/-- `typedef row_major float2x2 T0; column_major T0 m;` is a conflict; `typedef const int T0; unorm T0 x` needs float;
    `volatile` struct members are not supported -/
example : declMods ⟨true, true⟩ [[.rowMajor]] [.columnMajor] .localVar = .error .modifierConflict := by decide +kernel
example : declMods ⟨false, false⟩ [[.const]] [.unorm] .localVar = .error .modifierRequiresFloatType := by decide +kernel
example : declMods ⟨false, true⟩ [[.const]] [.volatile] .structMember = .error .modifierNotSupported := by decide +kernel

end RsslVerif.Thm.C03D
