import RsslVerif.Lemmas.PlaceX
import RsslVerif.Lemmas.StmtX
import RsslVerif.Lemmas.Overload
import RsslVerif.Thm.C03
import RsslVerif.Model.Intrinsics
/-!
# C03 over the extended language — accepted programs elaborate to well-typed IR; ill-typed programs are rejected

Same statements as `Thm/C03.lean`, about `Model.ElabX.elabE` / `Model.StmtX.elabStmts` (literals, variables, operators,
`?:`, calls of user **and intrinsic** functions, casts, **member access / swizzles, subscripts, numeric constructors**;
statements: expression, `return`, definitions with expression and **aggregate initialisers**, blocks, `if` / `for` /
`while` / `do` / `switch` with scopes) and the strengthened typing judgment `Model.IrTypingX.HasType`.
All are universally quantified: any environment, any nesting, any projection chain.
-/
namespace RsslVerif.Thm.C03X
open RsslVerif.Gen.RankTable RsslVerif.Gen.TypingTables RsslVerif.Model.Conv RsslVerif.Model.Overload
open RsslVerif.Model.IrTyping (FuncSig opReturn boolOf)
open RsslVerif.Model.Elab (Err)
open RsslVerif.Model.IrTypingX RsslVerif.Model.ElabX RsslVerif.Model.StmtX RsslVerif.Spec.ElabX
open RsslVerif.Lemmas.ElabConv RsslVerif.Lemmas.ElabX RsslVerif.Lemmas.ElabFormsX RsslVerif.Lemmas.ElabExactX
open RsslVerif.Lemmas.ElabReleaseX RsslVerif.Lemmas.ElabNewX RsslVerif.Lemmas.ElabSoundX RsslVerif.Lemmas.StmtX
open RsslVerif.Lemmas.Overload RsslVerif.Spec.Overload RsslVerif.Lemmas.ProjX RsslVerif.Lemmas.PlaceX

/-- **Accepted expressions are well typed — in debug and release builds.**  If the type checker accepts an expression of
    the extended language and computes type `τ` for it, the produced IR expression has type `τ` under the IR's own typing
    rules, and so has every sub-expression; moreover every swizzle selects existing components, every struct member is
    taken from a value of that struct, and every numeric constructor receives slot by slot values of its scalar kind
    whose arities add up to its size (the extra premises of `Model.IrTypingX.HasType`). -/
theorem elab_sound {Γ : Env} {dbg : Bool} {e : SExpr} {e' : IExpr} {τ : ETy} (h : elabE dbg Γ e = .ok (e', τ)) :
    HasType Γ e' τ := elab_sound_any dbg e e' τ h

/-- **The debug-build type query is redundant** for the extended language as well. -/
theorem elab_debug_check_redundant {Γ : Env} (e : SExpr) : elabE true Γ e = elabE false Γ e := elab_debug_eq e

/-- **Every accepted statement list is well typed** (`Spec.ElabX.StmtsTyped`): every expression of every statement on every
    path has a type, returned values have exactly the function's return type, every initialiser — also every leaf of an
    aggregate initialiser — has exactly the unmodified type of the component it initialises, aggregates have exactly one
    item per component; in the environment that registers the variables the statements define. -/
theorem elab_stmt_sound {Γ Γ' : Env} {dbg : Bool} {ss : SStmts} {ss' : IStmts}
    (h : elabStmts dbg Γ ss = .ok (ss', Γ')) : Extends Γ Γ' ∧ StmtsTyped Γ' ss' := (elabStmt_sound_both dbg).2 Γ ss ss' Γ' h

/-! ## ill-typed programs are rejected

Each statement says the expression is **never accepted** (`≠ .ok _`), in debug and release builds alike, whatever the
other operands are: it may be rejected with the diagnostic of the violation, or earlier because another operand is
ill-typed. -/

/-! ### writes through projections of objects that are not mutable (fixes 4575004, b359800, 3758fdd)

`check_mutable_place` looks at **every object on the way** from the written part to the variable, so the chain theorems do
not depend on the type the member / element happens to be given: they hold for const **structs** (a struct member has the
member's declared type, without the object's `const`), for arrays of const elements as a whole, and for subscripts of values
that are not lvalues (`ArraySubscript` is always typed as an lvalue); examples below.

`NotMutable Γ τ0`: the base is not an lvalue, or its type is const (`Spec.ElabX.ConstTy`: const modifier, or array of const
elements).  `NoResourceStep`: no `[i]` of the chain subscripts a buffer / texture — an element of a resource is not part of
the value of the handle (`b[i].x = ..` through the implicitly-const global `RWStructuredBuffer<float4> b` is a legal write). -/

/-- the base of a chain that must not be written through -/
def NotMutable (Γ : Env) (τ0 : ETy) : Prop := τ0.vt = .rvalue ∨ ConstTy Γ τ0.ty

/-- **Objects that are not mutable are not written through any projection chain** (assignment family): for every chain of
    struct members, swizzles, matrix swizzles and subscripts, of any length, on a base that is const — scalar, vector,
    matrix, **struct**, array of const elements — or not an lvalue (function result, `a + b`, constructor, cast, ...) -/
theorem elab_rejects_write_chain {Γ : Env} {dbg : Bool} {o : BinOp} {base b : SExpr} {ps : List Proj}
    {b0 : IExpr} {τ0 : ETy} (ho : o.cls = .assign) (hb : elabE dbg Γ base = .ok (b0, τ0)) (hc : NotMutable Γ τ0)
    (hn : NoResourceStep dbg Γ base ps) : ∀ r, elabE dbg Γ (.bin o (applyChain base ps) b) ≠ .ok r := by
  intro r h
  obtain ⟨_, _, _, _, ha, hplace, _⟩ := elabE_assign_inv ho h
  exact not_place_of_bad_base (chain_projOf ps base b0 τ0 _ hb hn ha) (elab_sound hb) hc hplace

/-- the same for `++` / `--` -/
theorem elab_rejects_increment_chain {Γ : Env} {dbg : Bool} {o : UnOp} {base : SExpr} {ps : List Proj}
    {b0 : IExpr} {τ0 : ETy}
    (ho : o = .prefixIncrement ∨ o = .prefixDecrement ∨ o = .postfixIncrement ∨ o = .postfixDecrement)
    (hb : elabE dbg Γ base = .ok (b0, τ0)) (hc : NotMutable Γ τ0) (hn : NoResourceStep dbg Γ base ps) :
    ∀ r, elabE dbg Γ (.un o (applyChain base ps)) ≠ .ok r := by
  intro r h
  obtain ⟨_, _, he, hplace⟩ := elabE_incr_inv ho h
  exact not_place_of_bad_base (chain_projOf ps base b0 τ0 _ hb hn he) (elab_sound hb) hc hplace

/-- the same for `out` / `inout` arguments of user and intrinsic functions: if for every function of the called name some
    argument is a projection chain on a base that is not mutable and its parameter is `out` / `inout`, the call is never
    accepted -/
theorem elab_rejects_out_arg_chain {Γ : Env} {dbg : Bool} {name : Nat} {args : SArgs}
    (hn : ∀ c ∈ candidates Γ name, ∃ (i : Nat) (p : Param) (base : SExpr) (ps : List Proj) (b0 : IExpr) (τ0 : ETy),
      c.params[i]? = some p ∧ (SArgs.toList args)[i]? = some (applyChain base ps) ∧
      elabE dbg Γ base = .ok (b0, τ0) ∧ NotMutable Γ τ0 ∧ p.io.needsLvalue = true ∧ NoResourceStep dbg Γ base ps) :
    ∀ r, elabE dbg Γ (.call name args) ≠ .ok r := by
  intro r h
  obtain ⟨as1, ts, id, s, as', _, ha, _, _, hc, hca, _, _, hpl, _⟩ := elabE_call_inv h
  obtain ⟨i, p, base, ps, b0, τ0, hp, hi, hb, hbad, hio, hnr⟩ := hn _ hc
  obtain ⟨e', τ, he, hplace⟩ := outArg_place args _ as1 as' ts i p _ ha hca hpl hp hi hio
  exact not_place_of_bad_base (chain_projOf ps base b0 τ0 _ hb hnr he) (elab_sound hb) hbad hplace

/-- a const modifier makes the base not mutable, whatever its layer (struct, array, numeric) -/
theorem notMutable_of_const {Γ : Env} {τ0 : ETy} (h : τ0.ty.mod.isConst = true) : NotMutable Γ τ0 := Or.inr (.mod h)

/-- an array of const elements is not mutable although its own type carries no modifier -/
theorem notMutable_of_const_elements {Γ : Env} {τ0 : ETy} {id len : Nat} {elem : Ty} (hm : τ0.ty.mod = {})
    (hl : τ0.ty.layer = .other id) (ho : Γ.others[id]? = some (.array elem len)) (hc : elem.mod.isConst = true) :
    NotMutable Γ τ0 := Or.inr (.array hm hl ho (.mod hc))

theorem elab_rejects_assign_to_const {Γ : Env} {dbg : Bool} {o : BinOp} {a b : SExpr} {a' : IExpr} {τa : ETy}
    (ho : o.cls = .assign) (ha : elabE dbg Γ a = .ok (a', τa)) (hc : τa.ty.mod.isConst = true) :
    ∀ r, elabE dbg Γ (.bin o a b) ≠ .ok r :=
  elab_rejects_write_chain (ps := []) ho ha (notMutable_of_const hc) trivial

theorem elab_rejects_assign_to_rvalue {Γ : Env} {dbg : Bool} {o : BinOp} {a b : SExpr} {a' : IExpr} {τa : ETy}
    (ho : o.cls = .assign) (ha : elabE dbg Γ a = .ok (a', τa)) (hv : τa.vt = .rvalue) :
    ∀ r, elabE dbg Γ (.bin o a b) ≠ .ok r :=
  elab_rejects_write_chain (ps := []) ho ha (.inl hv) trivial

theorem elab_rejects_increment {Γ : Env} {dbg : Bool} {o : UnOp} {e : SExpr} {e' : IExpr} {τ : ETy}
    (ho : o = .prefixIncrement ∨ o = .prefixDecrement ∨ o = .postfixIncrement ∨ o = .postfixDecrement)
    (he : elabE dbg Γ e = .ok (e', τ)) (hv : τ.vt = .rvalue ∨ τ.ty.mod.isConst = true) :
    ∀ r, elabE dbg Γ (.un o e) ≠ .ok r :=
  elab_rejects_increment_chain (ps := []) ho he (hv.imp_right .mod) trivial

theorem elab_rejects_call {Γ : Env} {dbg : Bool} {name : Nat} {args : SArgs} {args' : IArgs} {ts : List ETy}
    (ha : elabArgs dbg Γ args = .ok (args', ts)) (hn : ∀ c ∈ candidates Γ name, NotCallable c ts) :
    ∀ r, elabE dbg Γ (.call name args) ≠ .ok r := by
  intro r h
  obtain ⟨as1, ts1, ha1, hcall⟩ := elabE_call_ok h
  rw [ha] at ha1; cases ha1
  obtain ⟨id, _, _, hsel, _⟩ := elabCall_inv hcall
  exact resolve_not_selected hn id hsel

/-- wrong number of arguments: never accepted -/
theorem elab_rejects_arity {Γ : Env} {dbg : Bool} {name : Nat} {args : SArgs} {args' : IArgs} {ts : List ETy}
    (ha : elabArgs dbg Γ args = .ok (args', ts))
    (hn : ∀ c ∈ candidates Γ name, c.params.length < ts.length ∨ ts.length < c.nonDefault) :
    ∀ r, elabE dbg Γ (.call name args) ≠ .ok r :=
  elab_rejects_call ha fun c hc => by
    unfold NotCallable
    rcases hn c hc with h | h
    · exact Or.inl h
    · exact Or.inr (Or.inl h)

theorem elab_rejects_unconvertible {Γ : Env} {dbg : Bool} {name : Nat} {args : SArgs} {args' : IArgs} {ts : List ETy}
    (ha : elabArgs dbg Γ args = .ok (args', ts))
    (hn : ∀ c ∈ candidates Γ name, ∃ (i : Nat) (p : Param) (a : ETy), c.params[i]? = some p ∧ ts[i]? = some a ∧ find a p.ety = .ok none) :
    ∀ r, elabE dbg Γ (.call name args) ≠ .ok r :=
  elab_rejects_call ha fun c hc => by
    unfold NotCallable
    exact Or.inr (Or.inr (hn c hc))

/-- an rvalue argument for an `out` / `inout` parameter: never accepted -/
theorem elab_rejects_out_arg_rvalue {Γ : Env} {dbg : Bool} {name : Nat} {args : SArgs} {args' : IArgs} {ts : List ETy}
    (ha : elabArgs dbg Γ args = .ok (args', ts))
    (hn : ∀ c ∈ candidates Γ name, ∃ (i : Nat) (p : Param) (a : ETy), c.params[i]? = some p ∧ ts[i]? = some a ∧
      p.io.needsLvalue = true ∧ a.vt = .rvalue) :
    ∀ r, elabE dbg Γ (.call name args) ≠ .ok r :=
  elab_rejects_unconvertible ha fun c hc => by
    obtain ⟨i, p, a, hp, hta, hio, hv⟩ := hn c hc
    exact ⟨i, p, a, hp, hta, RsslVerif.Thm.C03.find_none_of_out_arg hio (Or.inl hv)⟩

theorem elab_rejects_out_arg_const {Γ : Env} {dbg : Bool} {name : Nat} {args : SArgs} {args' : IArgs} {ts : List ETy}
    (ha : elabArgs dbg Γ args = .ok (args', ts))
    (hn : ∀ c ∈ candidates Γ name, ∃ (i : Nat) (p : Param) (a : ETy), c.params[i]? = some p ∧ ts[i]? = some a ∧
      p.io.needsLvalue = true ∧ a.ty.mod.isConst = true ∧ p.ty.mod.isConst = false) :
    ∀ r, elabE dbg Γ (.call name args) ≠ .ok r :=
  elab_rejects_unconvertible ha fun c hc => by
    obtain ⟨i, p, a, hp, hta, hio, hca, hcp⟩ := hn c hc
    exact ⟨i, p, a, hp, hta, RsslVerif.Thm.C03.find_none_of_out_arg hio (Or.inr ⟨hca, hcp⟩)⟩

/-! ## what the judgment says about operators (the asserts of `get_return_type` as consequences of `HasType`) -/

theorem assignment_operands {Γ : Env} {o : IOp} {a b : IExpr} {τ : ETy}
    (ho : o.rule.lhsLvalue = true ∧ o.rule.sameTypes = true)
    (h : HasType Γ (.op o (.cons a (.cons b .nil))) τ) :
    ∃ ta tb, HasType Γ a ta ∧ HasType Γ b tb ∧ ta.ty = tb.ty ∧ ta.vt = .lvalue := by
  cases h with
  | op hargs hret =>
    cases hargs with
    | cons ha hr =>
      cases hr with
      | cons hb hn =>
        cases hn
        exact ⟨_, _, ha, hb, opReturn_same ho.2 hret, opReturn_lvalue ho.1 hret⟩

theorem binary_operands_equal {Γ : Env} {o : IOp} {a b : IExpr} {τ : ETy} (ho : o.rule.sameTypes = true)
    (h : HasType Γ (.op o (.cons a (.cons b .nil))) τ) :
    ∃ ta tb, HasType Γ a ta ∧ HasType Γ b tb ∧ ta.ty = tb.ty := by
  cases h with
  | op hargs hret =>
    cases hargs with
    | cons ha hr =>
      cases hr with
      | cons hb hn =>
        cases hn
        exact ⟨_, _, ha, hb, opReturn_same ho hret⟩

theorem binop_rules (b : BinOp) (i : IOp) (h : b.toIOp = some i) :
    i.rule.sameTypes = true ∧ i.rule.arity = some 2 ∧ (b.cls = .assign → i.rule.lhsLvalue = true) :=
  RsslVerif.Thm.C03.binop_rules b i h

theorem elab_assign_exact {Γ : Env} {dbg : Bool} {o : BinOp} {a b : SExpr} {e' : IExpr} {τ : ETy} (ho : o.cls = .assign)
    (h : elabE dbg Γ (.bin o a b) = .ok (e', τ)) :
    ∃ i a' b' ta tb, e' = .op i (.cons a' (.cons b' .nil)) ∧ HasType Γ a' ta ∧ HasType Γ b' tb ∧
      ta.ty = tb.ty ∧ ta.vt = .lvalue ∧ ta.ty.mod.isConst = false ∧ τ = ta := by
  obtain ⟨a1, τa, b1, τb, ha, hb, hn⟩ := elabE_bin_ok h
  simp only [ho] at hn
  obtain ⟨hconst, hlv, _, i, b', tb, hi, rfl, h1, h2, hret⟩ := elabAssign_ok (elab_sound hb) hn
  -- the assignment family returns `param_types[0]`
  obtain ⟨_, _, hts, _, _, hres, _⟩ := opReturn_ok hret
  cases hts
  exact ⟨i, a1, b', τa, tb, rfl, elab_sound ha, h1, h2.symm, hlv, hconst, hres ((toIOp_rule o i hi).2.2.1 ho).2⟩

/-- **Accepted arithmetic / comparison / bit / logical operators** receive two operands of exactly the same type -/
theorem elab_arith_exact {Γ : Env} {dbg : Bool} {o : BinOp} {a b : SExpr} {e' : IExpr} {τ : ETy} (ho : o.cls = .arith)
    (h : elabE dbg Γ (.bin o a b) = .ok (e', τ)) :
    ∃ i a' b' ta tb, e' = .op i (.cons a' (.cons b' .nil)) ∧ HasType Γ a' ta ∧ HasType Γ b' tb ∧ ta.ty = tb.ty := by
  obtain ⟨a1, τa, b1, τb, ha, hb, hn⟩ := elabE_bin_ok h
  simp only [ho] at hn
  obtain ⟨_, _, i, a', b', ta, tb, _, rfl, h1, h2, h3, h4, _⟩ := elabArith_ok ho (elab_sound ha) (elab_sound hb) hn
  exact ⟨i, a', b', ta, tb, rfl, h1, h2, h3.trans h4.symm⟩

theorem elab_call_args_exact {Γ : Env} {dbg : Bool} {name : Nat} {args : SArgs} {e' : IExpr} {τ : ETy}
    (h : elabE dbg Γ (.call name args) = .ok (e', τ)) :
    ∃ id s as' us, e' = .call id as' ∧ Γ.funcs[id]? = some s ∧ τ = s.ret.r ∧ HasArgs Γ as' us ∧
      ArgsMatch us s.params := by
  obtain ⟨_, _, id, s, as', us, _, hs, _, _, _, h1, h2, _, hr⟩ := elabE_call_inv h
  cases hr
  exact ⟨id, s, as', us, rfl, hs, rfl, h1, h2⟩

/-- writes to the source forms the property lists (literal, `a + b`, function result, and casts, `?:`, `a++`, `-a`, ...)
    are never accepted -/
theorem elab_rejects_assign_to_rvalue_form {Γ : Env} {dbg : Bool} {o : BinOp} {a b : SExpr} (ho : o.cls = .assign)
    (hf : isRvalueForm a = true) : ∀ r, elabE dbg Γ (.bin o a b) ≠ .ok r := by
  intro r h
  obtain ⟨_, _, _, _, ha, _, _⟩ := elabE_bin_ok (n := r.1) (τ' := r.2) h
  exact elab_rejects_assign_to_rvalue ho ha (rvalue_forms hf ha) r h

/-- `++` / `--` on the same forms are never accepted -/
theorem elab_rejects_increment_of_rvalue_form {Γ : Env} {dbg : Bool} {o : UnOp} {e : SExpr}
    (ho : o = .prefixIncrement ∨ o = .prefixDecrement ∨ o = .postfixIncrement ∨ o = .postfixDecrement)
    (hf : isRvalueForm e = true) : ∀ r, elabE dbg Γ (.un o e) ≠ .ok r := by
  intro r h
  obtain ⟨_, _, he, _⟩ := elabE_un_ok (n := r.1) (τ' := r.2) h
  exact elab_rejects_increment ho he (Or.inl (rvalue_forms hf he)) r h



/-- `return e;` where `e` does not convert to the function's return type is rejected with `WrongTypeInReturnStatement` -/
theorem elab_rejects_return_type {Γ : Env} {dbg sc : Bool} {e : SExpr} {e' : IExpr} {τ : ETy} {rt : Ty}
    (he : elabTop dbg Γ e = .ok (e', τ)) (hr : Γ.ret = some rt) (hf : find τ rt.r = .ok none) :
    elabStmt dbg sc Γ (.ret (some e)) = .error (.reject "WrongTypeInReturnStatement") := by
  simp [elabStmt, elabRet, he, hr, convertRet, hf]

/-- `return e;` in a `void` function is rejected unless `e` itself is of type `void` (a call of a `void` function) -/
theorem elab_rejects_return_in_void {Γ : Env} {dbg sc : Bool} {e : SExpr} {e' : IExpr} {τ : ETy}
    (he : elabTop dbg Γ e = .ok (e', τ)) (hr : Γ.ret = none)
    (hv : ∀ id, τ.ty.layer = .other id → Γ.others[id]? ≠ some .void) :
    elabStmt dbg sc Γ (.ret (some e)) = .error (.reject "WrongTypeInReturnStatement") := by
  simp only [elabStmt, elabRet, he, hr]
  cases hl : τ.ty.layer with
  | other id => have := hv id hl; simp [this]
  | scalar _ => simp
  | vector _ _ => simp
  | matrix _ _ _ => simp
  | enum _ => simp

/-- `return;` in a function that returns a value is rejected -/
theorem elab_rejects_return_void {Γ : Env} {dbg sc : Bool} {rt : Ty} (hr : Γ.ret = some rt) :
    elabStmt dbg sc Γ (.ret none) = .error (.reject "WrongTypeInReturnStatement") := by
  simp [elabStmt, hr]

/-- `T v = e;` where `e` does not convert to (the unmodified) `T` is rejected with `InitializerExpressionWrongType` -/
theorem elab_rejects_init_type {Γ : Env} {dbg sc : Bool} {t : Ty} {e : SExpr} {e' : IExpr} {τ : ETy}
    (hv : isVoid Γ t = false) (he : elabTop dbg Γ e = .ok (e', τ)) (hf : find τ t.unmod.r = .ok none) :
    elabStmt dbg sc Γ (.decl t (some (.expr e))) = .error (.reject "InitializerExpressionWrongType") := by
  simp [elabStmt, elabDecl, hv, elabInit, elabInitExpr, he, hf]

/-- `floatN v = { .. };` with a number of items other than `N` is rejected — aggregate initialisers are not flattened -/
theorem elab_rejects_aggregate_dimension {Γ : Env} {dbg sc : Bool} {t : Ty} {s : Scalar} {n : Nat} {items : SInits}
    (hv : isVoid Γ t = false) (hl : t.layer = .vector s n) (hn : items.length ≠ n) :
    elabStmt dbg sc Γ (.decl t (some (.agg items))) = .error (.reject "InitializerAggregateWrongDimension") := by
  simp [elabStmt, elabDecl, hv, elabInit, hl, hn]

/-- a matrix cannot be initialised from `{ .. }` at all -/
theorem elab_rejects_aggregate_matrix {Γ : Env} {dbg sc : Bool} {t : Ty} {s : Scalar} {x y : Nat} {items : SInits}
    (hv : isVoid Γ t = false) (hl : t.layer = .matrix s x y) :
    elabStmt dbg sc Γ (.decl t (some (.agg items))) = .error (.reject "InitializerAggregateDoesNotMatchType") := by
  simp [elabStmt, elabDecl, hv, elabInit, hl]

/-- **Component count rule**: a numeric constructor whose argument arities do not add up to the size of the constructed
    type is never accepted -/
theorem elab_rejects_ctor_count {Γ : Env} {dbg : Bool} {t : Ty} {s : Scalar} {args : SArgs} {args' : IArgs} {ars : List Nat}
    (hs : t.layer.extractScalar = some s) (ha : elabSlots dbg Γ s args = .ok (args', ars))
    (hn : ars.sum ≠ t.layer.numElements) : ∀ r, elabE dbg Γ (.ctor t args) ≠ .ok r := by
  intro r h
  simp [elabE, hs, ha, hn] at h

/-- a constructor of a type without scalar kind (a struct, an array) is never accepted -/
theorem elab_rejects_ctor_of_non_numeric {Γ : Env} {dbg : Bool} {t : Ty} {args : SArgs}
    (hs : t.layer.extractScalar = none) : ∀ r, elabE dbg Γ (.ctor t args) ≠ .ok r := by
  intro r h
  simp [elabE, hs] at h

/-- an accepted constructor has exactly the constructed type, as an rvalue; its slots satisfy the slot contract -/
theorem elab_ctor_exact {Γ : Env} {dbg : Bool} {t : Ty} {args : SArgs} {e' : IExpr} {τ : ETy}
    (h : elabE dbg Γ (.ctor t args) = .ok (e', τ)) :
    τ = t.r ∧ ∃ ars as' ts s, e' = .ctor t ars as' ∧ HasArgs Γ as' ts ∧ t.layer.extractScalar = some s ∧
      SlotsOk s ars ts ∧ ars.sum = t.layer.numElements := by
  obtain ⟨s, as', ars, hs, ha, hsum, rfl, rfl⟩ := elabE_ctor_ok h
  obtain ⟨ts, h1, h2⟩ := elabSlots_sound_any dbg s args as' ars ha
  exact ⟨rfl, ars, as', ts, s, rfl, h1, hs, h2, hsum⟩

/-- a subscript whose index does not convert to the index type of the subscripted value (`uint` for arrays, vectors,
    matrices, buffers; `uint2` / `uint3` for textures) is never accepted -/
theorem elab_rejects_index_type {Γ : Env} {dbg : Bool} {a i : SExpr} {a' i' : IExpr} {τa τi it : ETy}
    (ha : elabE dbg Γ a = .ok (a', τa)) (hi : elabE dbg Γ i = .ok (i', τi))
    (hit : indexTy Γ τa.ty.layer = .ok it) (hf : find τi it = .ok none) :
    ∀ r, elabE dbg Γ (.index a i) ≠ .ok r := by
  intro r h
  simp [elabE, ha, hi, elabIndex, hit, hf] at h

/-- the index operand of an accepted subscript has exactly the index type of the subscripted value (the conversion is
    explicit); for arrays, vectors and matrices that is `uint` -/
theorem elab_index_exact {Γ : Env} {dbg : Bool} {a i : SExpr} {e' : IExpr} {τ : ETy}
    (h : elabE dbg Γ (.index a i) = .ok (e', τ)) :
    ∃ a' τa i' ti it, e' = .index a' i' ∧ HasType Γ a' τa ∧ HasType Γ i' ti ∧ indexTy Γ τa.ty.layer = .ok it ∧
      ti.ty = it.ty ∧ (τa.ty.layer.isNumeric = true → ti.ty = scalarTy .uInt32) := by
  obtain ⟨a0, τa, i0, τi, ha, hi, hx⟩ := elabE_index_ok h
  obtain ⟨i', ti, it, rfl, h1, h2, h3⟩ := elabIndex_index_exact (elab_sound hi) hx
  refine ⟨a0, τa, i', ti, it, rfl, elab_sound ha, h1, h2, h3, ?_⟩
  intro hn
  rw [h3, indexTy_numeric hn h2]; rfl

/-- a swizzle that names a component twice is not an lvalue: writes to `v.xx`, `m._m00_m00` are never accepted -/
theorem elab_rejects_write_to_repeated_swizzle {Γ : Env} {dbg : Bool} {o : BinOp} {e b : SExpr} {name : String}
    {e' : IExpr} {τ : ETy} {s : Scalar} {x : Nat} {slots : List Nat} (ho : o.cls = .assign)
    (he : elabE dbg Γ e = .ok (e', τ)) (hl : τ.ty.layer = .vector s x)
    (hs : slotsOf RsslVerif.Gen.ElabTables.vectorSwizzle x name.toList = some slots) (hd : hasDup slots = true) :
    ∀ r, elabE dbg Γ (.bin o (.member e name) b) ≠ .ok r := by
  intro r h
  obtain ⟨_, _, _, _, hm, _, _⟩ := elabE_bin_ok (n := r.1) (τ' := r.2) h
  refine elab_rejects_assign_to_rvalue ho hm ?_ r h
  obtain ⟨e1, τ1, h1, hmm⟩ := elabE_member_ok hm
  rw [he] at h1; cases h1
  obtain ⟨_, hk⟩ := elabMember_ok hmm
  rcases hk with ⟨_, _, _, _, hl', _⟩ | ⟨_, _, hl', _⟩ | ⟨_, _, slots', hl', hs', _, _, rfl⟩ | ⟨_, _, _, _, hl', _⟩
  all_goals rw [hl] at hl'
  all_goals first | cases hl' | skip
  rw [hs] at hs'; cases hs'
  simp [swizzleVT, hd]

/-- a matrix swizzle selects at most four components (`read_matrix_subscript` refuses more), so its type is a scalar or a
    vector of width 2..4 -/
theorem matrix_swizzle_at_most_four {Γ : Env} {name : String} {e n : IExpr} {τ τ' : ETy} {s : Scalar} {x y : Nat}
    (hl : τ.ty.layer = .matrix s x y) (h : elabMember Γ name e τ = .ok (n, τ')) :
    ∃ slots, n = .mswizzle e slots ∧ slots.length ≤ 4 := by
  obtain ⟨_, hk⟩ := elabMember_ok h
  rcases hk with ⟨_, _, _, _, hl', _⟩ | ⟨_, _, hl', _⟩ | ⟨_, _, _, hl', _⟩ | ⟨_, x', y', slots, hl', hs, rfl, _⟩
  all_goals rw [hl] at hl'
  all_goals first | cases hl' | skip
  exact ⟨slots, rfl, (readMatrix_ok _ _ _ _ _ _ _ slots (minv_start _ _) hs).2.1⟩

/-- **A swizzle of a scalar or a vector names at most four components** (fix c805c03).  Whatever the operand `e` is, if it elaborates to a scalar or a vector then a
    member name of more than four characters is never accepted: `float4 v; v.xyzwx`, `float f; f.rrrrr`, `(a + b).xxxxx`. -/
theorem elab_rejects_swizzle_longer_than_four {Γ : Env} {dbg : Bool} {e : SExpr} {name : String} {e' : IExpr} {τ : ETy}
    (he : elabE dbg Γ e = .ok (e', τ)) (hl : (∃ s, τ.ty.layer = .scalar s) ∨ (∃ s x, τ.ty.layer = .vector s x))
    (hn : 4 < name.toList.length) : ∀ r, elabE dbg Γ (.member e name) ≠ .ok r := by
  intro r h
  obtain ⟨e1, τ1, h1, hmm⟩ := elabE_member_ok h
  rw [he] at h1; cases h1
  obtain ⟨_, hk⟩ := elabMember_ok (n := r.1) (τ' := r.2) hmm
  -- a swizzle has one slot per character of the name, and at most four slots
  rcases hk with ⟨_, _, _, _, hl', _⟩ | ⟨_, slots, _, hs, hlen, _⟩ | ⟨_, _, slots, _, hs, hlen, _⟩ | ⟨_, _, _, _, hl', _⟩
  · rcases hl with ⟨_, hl⟩ | ⟨_, _, hl⟩ <;> rw [hl] at hl' <;> cases hl'
  · have := (slotsOf_ok _ _ hs).1; have := maxSlots_rows.1; omega
  · have := (slotsOf_ok _ _ hs).1; have := maxSlots_rows.2.1; omega
  · rcases hl with ⟨_, hl⟩ | ⟨_, _, hl⟩ <;> rw [hl] at hl' <;> cases hl'

/-- the positive form over the IR: whatever is accepted, a `Swizzle` node built by a member access has at most four slots
    and its type is one a declaration can spell — the scalar itself or a vector of 2, 3 or 4 components -/
theorem elab_swizzle_at_most_four {Γ : Env} {dbg : Bool} {e : SExpr} {name : String} {o : IExpr} {slots : List Nat} {τ : ETy}
    (h : elabE dbg Γ (.member e name) = .ok (.swizzle o slots, τ)) :
    slots ≠ [] ∧ slots.length ≤ 4 ∧
      ∃ s, τ.ty.layer = .scalar s ∨ ∃ n, 2 ≤ n ∧ n ≤ 4 ∧ τ.ty.layer = .vector s n := by
  have ht := elab_sound h
  have key : ∀ (s : Scalar), slots ≠ [] → slots.length ≤ 4 →
      swizzleLayer s slots.length = .scalar s ∨ ∃ n, 2 ≤ n ∧ n ≤ 4 ∧ swizzleLayer s slots.length = .vector s n := by
    intro s hne h4
    unfold swizzleLayer
    split
    · exact Or.inl rfl
    · refine Or.inr ⟨slots.length, ?_, h4, rfl⟩
      have : slots.length ≠ 0 := by intro h0; exact hne (List.length_eq_zero_iff.mp h0)
      omega
  cases ht with
  | swizzleS he hl hne h4 hb => exact ⟨hne, h4, _, key _ hne h4⟩
  | swizzleV he hl hne h4 hb => exact ⟨hne, h4, _, key _ hne h4⟩

/-- `float4 v0; float v1;` -/
def swzEnv : Env := { vars := [⟨{}, .vector .float32 4⟩, ⟨{}, .scalar .float32⟩], funcs := [] }

def swzRejects (k : String) (e : SExpr) : Bool :=
  match elabE true swzEnv e with
  | .error (.reject k') => k == k'
  | _ => false

/-- `v0.xyzwx` and `v1.rrrrr` are `InvalidSwizzle`; a character that is no slot is reported first
    (`TypeDoesNotHaveMembers` comes from the loop, before the length test) -/
example : (swzRejects "InvalidSwizzle" (.member (.var 0) "xyzwx") && swzRejects "InvalidSwizzle" (.member (.var 1) "rrrrr") &&
    swzRejects "TypeDoesNotHaveMembers" (.member (.var 1) "rrrrq") &&
    swzRejects "InvalidSwizzle" (.member (.member (.var 0) "xyxy") "wzyxw")) = true := by decide +kernel
example : (match elabE true swzEnv (.member (.var 0) "wzyx") with
     | .ok (.swizzle (.var 0) [3, 2, 1, 0], τ) => decide (τ = ⟨⟨{}, .vector .float32 4⟩, .lvalue⟩)
     | _ => false) = true := by decide +kernel
example : (match elabE true swzEnv (.member (.var 1) "rrrr") with
     | .ok (.swizzle (.var 1) [0, 0, 0, 0], τ) => decide (τ = ⟨⟨{}, .vector .float32 4⟩, .rvalue⟩)
     | _ => false) = true := by decide +kernel

/-! ### const scalars / vectors / matrices, elements of arrays of const elements and of read-only resources

Every projection of such a value is const numeric again (`ProjX.elabMember_constNum`, `elabIndex_constNum`), so the base is not
mutable and no step of the chain subscripts a resource: no `NoResourceStep` hypothesis is needed. -/

theorem constNum_chain {Γ : Env} {dbg : Bool} {base : SExpr} {b0 : IExpr} {τ0 : ETy}
    (hb : elabE dbg Γ base = .ok (b0, τ0)) (hc : ConstNum τ0) (ps : List Proj) :
    NotMutable Γ τ0 ∧ NoResourceStep dbg Γ base ps :=
  ⟨notMutable_of_const hc.1, noResourceStep_of_constNum ps base fun _ _ h => by rw [hb] at h; cases h; exact hc⟩

/-- **Writes to const objects through projections are rejected** — for every chain of swizzles and subscripts, of any
    length, applied to a const scalar / vector / matrix (`const float3 v; v.zyx.x = ..`, `const float2x2 m; m[i][j] += ..`,
    `m[0].y = ..`, `m._m00_m11.x = ..`): the assignment family never accepts it. -/
theorem elab_rejects_const_write_chain {Γ : Env} {dbg : Bool} {o : BinOp} {base b : SExpr} {ps : List Proj}
    {b0 : IExpr} {τ0 : ETy} (ho : o.cls = .assign) (hb : elabE dbg Γ base = .ok (b0, τ0)) (hc : ConstNum τ0) :
    ∀ r, elabE dbg Γ (.bin o (applyChain base ps) b) ≠ .ok r :=
  elab_rejects_write_chain ho hb (constNum_chain hb hc ps).1 (constNum_chain hb hc ps).2

/-- the same for `++` / `--` -/
theorem elab_rejects_const_increment_chain {Γ : Env} {dbg : Bool} {o : UnOp} {base : SExpr} {ps : List Proj}
    {b0 : IExpr} {τ0 : ETy}
    (ho : o = .prefixIncrement ∨ o = .prefixDecrement ∨ o = .postfixIncrement ∨ o = .postfixDecrement)
    (hb : elabE dbg Γ base = .ok (b0, τ0)) (hc : ConstNum τ0) :
    ∀ r, elabE dbg Γ (.un o (applyChain base ps)) ≠ .ok r :=
  elab_rejects_increment_chain ho hb (constNum_chain hb hc ps).1 (constNum_chain hb hc ps).2

/-- a chain that starts with `[i]` is the rest of the chain on `base[i]`: if every accepted subscript of the base is const
    numeric, nothing is written through the chain -/
theorem rejects_write_after_index {Γ : Env} {dbg : Bool} {o : BinOp} {base i b : SExpr} {ps : List Proj}
    {b0 : IExpr} {τ0 : ETy} (ho : o.cls = .assign) (hb : elabE dbg Γ base = .ok (b0, τ0))
    (hc : ∀ {i' n τi τ1}, elabIndex Γ b0 τ0 i' τi = .ok (n, τ1) → ConstNum τ1) :
    ∀ r, elabE dbg Γ (.bin o (applyChain base (.index i :: ps)) b) ≠ .ok r := by
  intro r h
  obtain ⟨_, _, _, _, hm, _, _⟩ := elabE_assign_inv ho h
  obtain ⟨⟨e1, τ1⟩, h1⟩ := chain_base_ok ps _ _ hm
  obtain ⟨_, _, _, _, ha, _, hx⟩ := elabE_index_ok h1
  cases hb.symm.trans ha
  exact elab_rejects_const_write_chain ho h1 (hc hx) r h

/-- elements of an array of const elements, and everything projected from them (`const float3 a[2]; a[i].x = ..`) -/
theorem elab_rejects_const_array_write_chain {Γ : Env} {dbg : Bool} {o : BinOp} {base i b : SExpr} {ps : List Proj}
    {b0 : IExpr} {τ0 : ETy} (ho : o.cls = .assign) (hb : elabE dbg Γ base = .ok (b0, τ0)) (hc : ConstArr Γ τ0) :
    ∀ r, elabE dbg Γ (.bin o (applyChain base (.index i :: ps)) b) ≠ .ok r :=
  rejects_write_after_index ho hb (elabIndex_constArr (elab_sound hb) hc)

/-- elements of read-only resources (`StructuredBuffer<float4> b; b[i].x = ..`, `Texture2D<float4> t; t[p] = ..`), and
    everything projected from them, are never written -/
theorem elab_rejects_readonly_resource_write_chain {Γ : Env} {dbg : Bool} {o : BinOp} {base i b : SExpr} {ps : List Proj}
    {b0 : IExpr} {τ0 : ETy} (ho : o.cls = .assign) (hb : elabE dbg Γ base = .ok (b0, τ0)) (hc : ReadOnlyRes Γ τ0) :
    ∀ r, elabE dbg Γ (.bin o (applyChain base (.index i :: ps)) b) ≠ .ok r :=
  rejects_write_after_index ho hb (elabIndex_readOnlyRes (elab_sound hb) hc)

/-- **Const objects are not passed to `out` / `inout` parameters through projections**: if for every function of the called
    name some argument is a projection chain on a const scalar / vector / matrix and its parameter is `out` / `inout`
    (not const), the call — of a user function or of an intrinsic function — is never accepted -/
theorem elab_rejects_const_out_arg_chain {Γ : Env} {dbg : Bool} {name : Nat} {args : SArgs} {args' : IArgs} {ts : List ETy}
    (ha : elabArgs dbg Γ args = .ok (args', ts))
    (hn : ∀ c ∈ candidates Γ name, ∃ (i : Nat) (p : Param) (base : SExpr) (ps : List Proj) (b0 : IExpr) (τ0 : ETy),
      c.params[i]? = some p ∧ (SArgs.toList args)[i]? = some (applyChain base ps) ∧
      elabE dbg Γ base = .ok (b0, τ0) ∧ ConstNum τ0 ∧ p.io.needsLvalue = true ∧ p.ty.mod.isConst = false) :
    ∀ r, elabE dbg Γ (.call name args) ≠ .ok r :=
  elab_rejects_out_arg_chain fun c hc => by
    obtain ⟨i, p, base, ps, b0, τ0, hp, hi, hb, hcn, hio, _⟩ := hn c hc
    exact ⟨i, p, base, ps, b0, τ0, hp, hi, hb, (constNum_chain hb hcn ps).1, hio, (constNum_chain hb hcn ps).2⟩

/-- **A member of a const struct is never written**, however deep: `const S s; s.q = ..`, `s.v.x += ..`, `s.a[i] = ..` -/
theorem elab_rejects_const_struct_write_chain {Γ : Env} {dbg : Bool} {o : BinOp} {base b : SExpr} {ps : List Proj}
    {b0 : IExpr} {τ0 : ETy} {sid : Nat} {ms : List (String × Ty)} (ho : o.cls = .assign)
    (hb : elabE dbg Γ base = .ok (b0, τ0)) (hc : τ0.ty.mod.isConst = true) (_hl : τ0.ty.layer = .other sid)
    (_hs : Γ.others[sid]? = some (.struct ms)) (hn : NoResourceStep dbg Γ base ps) :
    ∀ r, elabE dbg Γ (.bin o (applyChain base ps) b) ≠ .ok r :=
  elab_rejects_write_chain ho hb (notMutable_of_const hc) hn

/-- **An array of const elements is never assigned as a whole** (`const float a[3]; a = a`, `a += a`), nor written
    through any chain -/
theorem elab_rejects_const_array_assignment {Γ : Env} {dbg : Bool} {o : BinOp} {base b : SExpr} {b0 : IExpr} {τ0 : ETy}
    {id len : Nat} {elem : Ty} (ho : o.cls = .assign) (hb : elabE dbg Γ base = .ok (b0, τ0)) (hm : τ0.ty.mod = {})
    (hl : τ0.ty.layer = .other id) (hd : Γ.others[id]? = some (.array elem len)) (hc : elem.mod.isConst = true) :
    ∀ r, elabE dbg Γ (.bin o base b) ≠ .ok r :=
  elab_rejects_write_chain (ps := []) ho hb (notMutable_of_const_elements hm hl hd hc) trivial

/-- **Values that are not lvalues are not written through any chain** — members, swizzles **and subscripts**
    (`f()[0] = ..`, `(a + b)[i].x = ..`, `float3(a)[0]++`). -/
theorem elab_rejects_rvalue_write_chain {Γ : Env} {dbg : Bool} {o : BinOp} {base b : SExpr} {ps : List Proj}
    {b0 : IExpr} {τ0 : ETy} (ho : o.cls = .assign) (hb : elabE dbg Γ base = .ok (b0, τ0)) (hv : τ0.vt = .rvalue)
    (hn : NoResourceStep dbg Γ base ps) : ∀ r, elabE dbg Γ (.bin o (applyChain base ps) b) ≠ .ok r :=
  elab_rejects_write_chain ho hb (Or.inl hv) hn

/-- the same for `out` / `inout` arguments -/
theorem elab_rejects_rvalue_out_arg_chain {Γ : Env} {dbg : Bool} {name : Nat} {args : SArgs}
    (hn : ∀ c ∈ candidates Γ name, ∃ (i : Nat) (p : Param) (base : SExpr) (ps : List Proj) (b0 : IExpr) (τ0 : ETy),
      c.params[i]? = some p ∧ (SArgs.toList args)[i]? = some (applyChain base ps) ∧
      elabE dbg Γ base = .ok (b0, τ0) ∧ τ0.vt = .rvalue ∧ p.io.needsLvalue = true ∧ NoResourceStep dbg Γ base ps) :
    ∀ r, elabE dbg Γ (.call name args) ≠ .ok r :=
  elab_rejects_out_arg_chain fun c hc => by
    obtain ⟨i, p, base, ps, b0, τ0, h1, h2, h3, hv, h5, h6⟩ := hn c hc
    exact ⟨i, p, base, ps, b0, τ0, h1, h2, h3, Or.inl hv, h5, h6⟩

/-- chains of `.name` steps never subscript a resource -/
example {Γ : Env} {dbg : Bool} (base : SExpr) (names : List String) : NoResourceStep dbg Γ base (memberChain names) :=
  noResourceStep_members names base

/-- **The target of an accepted assignment is a mutable place** (`Spec.ElabX.MutablePlace`): the target and every object on
    the way from the written part to the variable is a non-const lvalue under the IR's typing judgment -/
theorem elab_assign_target_is_place {Γ : Env} {dbg : Bool} {o : BinOp} {a b : SExpr} {e' : IExpr} {τ : ETy}
    (ho : o.cls = .assign) (h : elabE dbg Γ (.bin o a b) = .ok (e', τ)) :
    ∃ i a' b', e' = .op i (.cons a' (.cons b' .nil)) ∧ MutablePlace Γ a' := by
  obtain ⟨a1, _, i, b', _, hp, rfl⟩ := elabE_assign_inv ho h
  exact ⟨i, a1, b', rfl, hp⟩

/-- **The operand of an accepted `++` / `--` is a mutable place** -/
theorem elab_increment_operand_is_place {Γ : Env} {dbg : Bool} {o : UnOp} {e : SExpr} {r : IExpr × ETy}
    (ho : o = .prefixIncrement ∨ o = .prefixDecrement ∨ o = .postfixIncrement ∨ o = .postfixDecrement)
    (h : elabE dbg Γ (.un o e) = .ok r) : ∃ e' τ, elabE dbg Γ e = .ok (e', τ) ∧ MutablePlace Γ e' :=
  elabE_incr_inv ho h

/-- **`out` / `inout` arguments of an accepted call are mutable places** — of user and intrinsic functions; in particular
    none is the result of a conversion (a `Cast` is an rvalue), as in `void g(out int x); int1 a; g(a)` -/
theorem elab_out_args_are_places {Γ : Env} {dbg : Bool} {name : Nat} {args : SArgs} {e' : IExpr} {τ : ETy}
    (h : elabE dbg Γ (.call name args) = .ok (e', τ)) :
    ∃ id s as', e' = .call id as' ∧ Γ.funcs[id]? = some s ∧ OutArgsPlaces Γ s.params as' := by
  obtain ⟨_, _, id, s, as', _, _, hs, _, _, _, _, _, hpl, hr⟩ := elabE_call_inv h
  cases hr
  exact ⟨id, s, as', rfl, hs, hpl⟩

/-- a place is not a `Cast`, not a literal, not a constructor: conversions and constructions are rvalues -/
theorem place_is_not_a_conversion {Γ : Env} {e : IExpr} (h : MutablePlace Γ e) :
    (∀ t x, e ≠ .cast t x) ∧ (∀ k, e ≠ .lit k) ∧ (∀ t ar as, e ≠ .ctor t ar as) := by
  refine ⟨?_, ?_, ?_⟩
  · intro t x heq; subst heq
    cases h with
    | root ht hv _ _ => cases ht; simp [Ty.r] at hv
  · intro k heq; subst heq
    cases h with
    | root ht hv _ _ => cases ht; simp [Ty.r] at hv
  · intro t ar as heq; subst heq
    cases h with
    | root ht hv _ _ => cases ht; simp [Ty.r] at hv

/-- **Writes to const expressions are never accepted** (assignment family and `++` / `--`), whatever expression of the
    extended language the target is, as soon as the type checker computes a const type for it.  (For which targets it does:
    `elab_rejects_const_write_chain`, `elab_rejects_const_array_write_chain`; objects declared const whose written part is not
    given a const type are covered by `elab_rejects_write_chain` and `elab_rejects_const_array_assignment`.) -/
theorem elab_rejects_const_write {Γ : Env} {dbg : Bool} {a : SExpr} {a' : IExpr} {τa : ETy}
    (ha : elabE dbg Γ a = .ok (a', τa)) (hc : τa.ty.mod.isConst = true) :
    (∀ (o : BinOp) (b : SExpr), o.cls = .assign → ∀ r, elabE dbg Γ (.bin o a b) ≠ .ok r) ∧
    (∀ (o : UnOp), (o = .prefixIncrement ∨ o = .prefixDecrement ∨ o = .postfixIncrement ∨ o = .postfixDecrement) →
      ∀ r, elabE dbg Γ (.un o a) ≠ .ok r) :=
  ⟨fun _ _ ho => elab_rejects_assign_to_const ho ha hc, fun _ ho => elab_rejects_increment ho ha (Or.inr hc)⟩

/-- **Writes to non-lvalue expressions are never accepted** (same two forms) -/
theorem elab_rejects_rvalue_write {Γ : Env} {dbg : Bool} {a : SExpr} {a' : IExpr} {τa : ETy}
    (ha : elabE dbg Γ a = .ok (a', τa)) (hv : τa.vt = .rvalue) :
    (∀ (o : BinOp) (b : SExpr), o.cls = .assign → ∀ r, elabE dbg Γ (.bin o a b) ≠ .ok r) ∧
    (∀ (o : UnOp), (o = .prefixIncrement ∨ o = .prefixDecrement ∨ o = .postfixIncrement ∨ o = .postfixDecrement) →
      ∀ r, elabE dbg Γ (.un o a) ≠ .ok r) :=
  ⟨fun _ _ ho => elab_rejects_assign_to_rvalue ho ha hv, fun _ ho => elab_rejects_increment ho ha (Or.inl hv)⟩

/-- **Non-lvalue or const expressions are never passed to `out` / `inout` parameters** (user and intrinsic functions) -/
theorem elab_rejects_rvalue_out_arg {Γ : Env} {dbg : Bool} {name : Nat} {args : SArgs} {args' : IArgs} {ts : List ETy}
    (ha : elabArgs dbg Γ args = .ok (args', ts))
    (hn : ∀ c ∈ candidates Γ name, ∃ (i : Nat) (p : Param) (a : ETy), c.params[i]? = some p ∧ ts[i]? = some a ∧
      p.io.needsLvalue = true ∧ (a.vt = .rvalue ∨ (a.ty.mod.isConst = true ∧ p.ty.mod.isConst = false))) :
    ∀ r, elabE dbg Γ (.call name args) ≠ .ok r :=
  elab_rejects_unconvertible ha fun c hc => by
    obtain ⟨i, p, a, hp, hta, hio, hor⟩ := hn c hc
    exact ⟨i, p, a, hp, hta, RsslVerif.Thm.C03.find_none_of_out_arg hio hor⟩

/-- **Accepted calls of intrinsic functions resolve into the re-extracted signature table.**  In an environment whose function
    registry starts with the intrinsic functions (`Module::create`) and whose user functions have other names, an accepted
    call of the intrinsic named `names[n]` elaborates to `Call(FunctionId(f), args)` where entry `f` of
    `Gen.IntrinsicSigs.sigs` is a signature of that name, the call has that signature's return type, and every argument has
    exactly the type of its parameter. -/
theorem elab_intrinsic_call_exact {Γ : Env} {dbg : Bool} {v n : Nat} {user : List FuncSig} {args : SArgs} {e' : IExpr} {τ : ETy}
    (hΓ : Γ.funcs = RsslVerif.Model.Intrinsics.intrinsicFuncs v ++ user)
    (hu : ∀ s ∈ user, s.name < RsslVerif.Model.Intrinsics.intrinsicBase)
    (h : elabE dbg Γ (.call (RsslVerif.Model.Intrinsics.intrinsicBase + n) args) = .ok (e', τ)) :
    ∃ f sig as' us, e' = .call f as' ∧ RsslVerif.Gen.IntrinsicSigs.sigs[f]? = some sig ∧ sig.name = n ∧
      τ = (RsslVerif.Model.Intrinsics.toTy v sig.ret).r ∧ HasArgs Γ as' us ∧
      ArgsMatch us (RsslVerif.Model.Intrinsics.toFuncSig v sig).params := by
  obtain ⟨_, _, id, s, as', us, _, hs, hname, _, _, hargs, hmatch, _, hr⟩ := elabE_call_inv h
  cases hr
  rw [hΓ] at hs
  by_cases hlt : id < (RsslVerif.Model.Intrinsics.intrinsicFuncs v).length
  · rw [List.getElem?_append_left hlt] at hs
    simp only [RsslVerif.Model.Intrinsics.intrinsicFuncs, List.getElem?_map] at hs
    cases hsig : RsslVerif.Gen.IntrinsicSigs.sigs[id]? with
    | none => simp [hsig] at hs
    | some sig =>
      simp [hsig] at hs
      subst hs
      refine ⟨id, sig, as', us, rfl, hsig, ?_, rfl, hargs, hmatch⟩
      simp [RsslVerif.Model.Intrinsics.toFuncSig] at hname
      exact hname
  · rw [List.getElem?_append_right (by omega)] at hs
    have := hu s (List.mem_of_getElem? hs)
    omega

/-! ## the subscript tables (re-extracted from the source on every run) say what the language says -/

/-- **Index types of resources**: buffers are indexed by a `uint`, 2D textures by a `uint2`, 2D texture arrays and 3D
    textures by a `uint3` (the widths `parse_expr_unchecked` uses, as re-extracted into `Gen.ElabTables`) -/
theorem resource_index_widths :
    RsslVerif.Gen.ElabTables.subscriptIndexWidth.lookup "Buffer" = some 1 ∧
    RsslVerif.Gen.ElabTables.subscriptIndexWidth.lookup "RWBuffer" = some 1 ∧
    RsslVerif.Gen.ElabTables.subscriptIndexWidth.lookup "StructuredBuffer" = some 1 ∧
    RsslVerif.Gen.ElabTables.subscriptIndexWidth.lookup "RWStructuredBuffer" = some 1 ∧
    RsslVerif.Gen.ElabTables.subscriptIndexWidth.lookup "Texture2D" = some 2 ∧
    RsslVerif.Gen.ElabTables.subscriptIndexWidth.lookup "RWTexture2D" = some 2 ∧
    RsslVerif.Gen.ElabTables.subscriptIndexWidth.lookup "Texture2DArray" = some 3 ∧
    RsslVerif.Gen.ElabTables.subscriptIndexWidth.lookup "RWTexture2DArray" = some 3 ∧
    RsslVerif.Gen.ElabTables.subscriptIndexWidth.lookup "Texture3D" = some 3 ∧
    RsslVerif.Gen.ElabTables.subscriptIndexWidth.lookup "RWTexture3D" = some 3 := by decide +kernel

/-- **Elements of resources**: exactly the `RW…` resources give a writable element, every other subscriptable resource gives
    a const element (`get_type(ArraySubscript)`, as re-extracted into `Gen.ElabTables`) -/
theorem resource_element_constness :
    (∀ k ∈ RsslVerif.Gen.ElabTables.subscriptReadWrite, k.startsWith "RW" = true) ∧
    (∀ k ∈ RsslVerif.Gen.ElabTables.subscriptReadOnly, k.startsWith "RW" = false) ∧
    (∀ k ∈ ["Buffer", "StructuredBuffer", "Texture2D", "Texture2DArray", "Texture3D"],
      k ∈ RsslVerif.Gen.ElabTables.subscriptReadOnly) ∧
    (∀ k ∈ ["RWBuffer", "RWStructuredBuffer", "RWTexture2D", "RWTexture2DArray", "RWTexture3D"],
      k ∈ RsslVerif.Gen.ElabTables.subscriptReadWrite) := by decide +kernel

/-! ## what the judgment says about the new nodes (consequences of `HasType`) -/

/-- a typed swizzle selects at least one component, and only components its operand has -/
theorem swizzle_in_range {Γ : Env} {e : IExpr} {slots : List Nat} {τ : ETy} (h : HasType Γ (.swizzle e slots) τ) :
    ∃ te, HasType Γ e te ∧ slots ≠ [] ∧ slots.length ≤ 4 ∧
      ((∃ s, te.ty.layer = .scalar s ∧ ∀ k ∈ slots, k < 1) ∨ (∃ s n, te.ty.layer = .vector s n ∧ ∀ k ∈ slots, k < n)) := by
  cases h with
  | swizzleS he hl hn h4 hb => exact ⟨_, he, hn, h4, Or.inl ⟨_, hl, hb⟩⟩
  | swizzleV he hl hn h4 hb => exact ⟨_, he, hn, h4, Or.inr ⟨_, _, hl, hb⟩⟩

theorem matrix_swizzle_in_range {Γ : Env} {e : IExpr} {slots : List (Nat × Nat)} {τ : ETy}
    (h : HasType Γ (.mswizzle e slots) τ) :
    ∃ te s x y, HasType Γ e te ∧ te.ty.layer = .matrix s x y ∧ slots ≠ [] ∧ slots.length ≤ 4 ∧
      ∀ k ∈ slots, k.1 < x ∧ k.2 < y := by
  cases h with
  | mswizzle he hl hn h4 hb => exact ⟨_, _, _, _, he, hl, hn, h4, hb⟩

/-- a typed struct member is taken from a value of that struct, and the member exists -/
theorem member_of_struct {Γ : Env} {e : IExpr} {sid idx : Nat} {τ : ETy} (h : HasType Γ (.member e sid idx) τ) :
    ∃ te ms m, HasType Γ e te ∧ te.ty.layer = .other sid ∧ Γ.others[sid]? = some (.struct ms) ∧ ms[idx]? = some m ∧
      τ = ⟨m.2, te.vt⟩ := by
  cases h with
  | member he hl ho hm => exact ⟨_, _, _, he, hl, ho, hm, rfl⟩

/-- a typed constructor builds a numeric type from slots of its own scalar kind whose arities are the element counts of
    the slot values and add up to the element count of the type -/
theorem ctor_slots_exact {Γ : Env} {t : Ty} {ars : List Nat} {args : IArgs} {τ : ETy} (h : HasType Γ (.ctor t ars args) τ) :
    τ = t.r ∧ ∃ ts s, HasArgs Γ args ts ∧ t.layer.extractScalar = some s ∧ SlotsOk s ars ts ∧
      ars.sum = t.layer.numElements := by
  cases h with
  | ctor h1 h2 h3 h4 => exact ⟨rfl, _, _, h1, h2, h3, h4⟩

mutual
/-- all variable ids, function ids, struct ids and member indices of the expression are allocated -/
def IdsInRange (Γ : Env) : IExpr → Prop
  | .lit _ => True
  | .var i => i < Γ.vars.length
  | .tern c a b => IdsInRange Γ c ∧ IdsInRange Γ a ∧ IdsInRange Γ b
  | .seq a b => IdsInRange Γ a ∧ IdsInRange Γ b
  | .call f args => f < Γ.funcs.length ∧ ArgsInRange Γ args
  | .cast _ e => IdsInRange Γ e
  | .op _ args => ArgsInRange Γ args
  | .swizzle e _ => IdsInRange Γ e
  | .mswizzle e _ => IdsInRange Γ e
  | .index a i => IdsInRange Γ a ∧ IdsInRange Γ i
  | .member e sid idx => IdsInRange Γ e ∧ ∃ ms, Γ.others[sid]? = some (.struct ms) ∧ idx < ms.length
  | .ctor _ _ args => ArgsInRange Γ args
def ArgsInRange (Γ : Env) : IArgs → Prop
  | .nil => True
  | .cons e r => IdsInRange Γ e ∧ ArgsInRange Γ r
end

theorem ids_of_hasType {Γ : Env} : ∀ (e : IExpr) (τ : ETy), HasType Γ e τ → IdsInRange Γ e := fun _ _ h =>
  HasType.rec (motive_1 := fun e _ _ => IdsInRange Γ e) (motive_2 := fun as _ _ => ArgsInRange Γ as)
    (lit := fun _ => trivial)
    (var := fun hv => Lemmas.Basics.lt_of_getElem?_some hv)
    (tern := fun _ _ _ _ ihc iha ihb => ⟨ihc, iha, ihb⟩)
    (seq := fun _ _ iha ihb => ⟨iha, ihb⟩)
    (call := fun hf _ iha => ⟨Lemmas.Basics.lt_of_getElem?_some hf, iha⟩)
    (cast := fun _ ih => ih)
    (op := fun _ _ iha => iha)
    (swizzleS := fun _ _ _ _ _ ih => ih)
    (swizzleV := fun _ _ _ _ _ ih => ih)
    (mswizzle := fun _ _ _ _ _ ih => ih)
    (indexV := fun _ _ _ iha ihi => ⟨iha, ihi⟩)
    (indexM := fun _ _ _ iha ihi => ⟨iha, ihi⟩)
    (indexA := fun _ _ _ _ iha ihi => ⟨iha, ihi⟩)
    (indexR := fun _ _ _ _ _ iha ihi => ⟨iha, ihi⟩)
    (member := fun _ _ ho hm ih => ⟨ih, _, ho, Lemmas.Basics.lt_of_getElem?_some hm⟩)
    (ctor := fun _ _ _ _ iha => iha)
    (nil := trivial)
    (cons := fun _ _ ihe ihr => ⟨ihe, ihr⟩)
    h

theorem ids_of_hasArgs {Γ : Env} : ∀ (as : IArgs) (ts : List ETy), HasArgs Γ as ts → ArgsInRange Γ as
  | .nil, _, .nil => trivial
  | .cons e r, _, .cons he hr => ⟨ids_of_hasType e _ he, ids_of_hasArgs r _ hr⟩

/-- **Every referenced definition exists**: all variable, function (user and intrinsic), struct ids and member indices of an
    accepted expression are allocated in the environment -/
theorem ids_in_range {Γ : Env} {dbg : Bool} {e : SExpr} {e' : IExpr} {τ : ETy} (h : elabE dbg Γ e = .ok (e', τ)) :
    IdsInRange Γ e' := ids_of_hasType e' τ (elab_sound h)

/-! ## writes through const structs, rvalue subscripts and const arrays (fixes 4575004, b359800, 3758fdd) are rejected -/

/-- `struct S0 { int q; }; const S0 v0; float3 v1; const float v2[3]; float3 f0(); int1 v3; void f1(out int); void f2(inout float);` -/
def wEnv : Env :=
  { vars := [⟨{ isConst := true }, .other 0⟩, ⟨{}, .vector .float32 3⟩, ⟨{}, .other 1⟩, ⟨{}, .vector .int32 1⟩],
    funcs := [⟨0, [], 0, ⟨{}, .vector .float32 3⟩⟩, ⟨1, [⟨⟨{}, .scalar .int32⟩, .out⟩], 1, ⟨{}, .other 2⟩⟩,
              ⟨2, [⟨⟨{}, .scalar .float32⟩, .inOut⟩], 1, ⟨{}, .other 2⟩⟩],
    others := [.struct [("q", ⟨{}, .scalar .int32⟩)], .array ⟨{ isConst := true }, .scalar .float32⟩ 3, .void] }

def wRejects (k : String) (e : SExpr) : Bool :=
  match elabE true wEnv e with
  | .error (.reject k') => k == k'
  | _ => false

/-- `v0.q = 1` and `++v0.q` (member of a const struct), `f0()[0] = 1` and `f1(f0()[0])`-style out arguments (element of a
    function result), `v2 = v2` (array of const elements), `f1(v3)` (`int1` for `out int`: would need a `Cast`) and
    `f2(v0.q)`-style out arguments of members of const objects are all rejected; the hypotheses of
    `elab_rejects_write_chain` are satisfiable -/
example :
    (wRejects "MutableRequired" (.bin .assignment (.member (.var 0) "q") (.lit .intLiteral)) &&
     wRejects "MutableRequired" (.un .prefixIncrement (.member (.var 0) "q")) &&
     wRejects "LvalueRequired" (.bin .assignment (.index (.call 0 .nil) (.lit .intLiteral)) (.lit .intLiteral)) &&
     wRejects "LvalueRequired" (.call 2 (.cons (.index (.call 0 .nil) (.lit .intLiteral)) .nil)) &&
     wRejects "MutableRequired" (.bin .assignment (.var 2) (.var 2)) &&
     wRejects "MutableRequired" (.bin .sumAssignment (.var 2) (.var 2)) &&
     wRejects "LvalueRequired" (.call 1 (.cons (.var 3) .nil)) &&
     wRejects "MutableRequired" (.call 1 (.cons (.member (.var 0) "q") .nil))) = true := by decide +kernel

example : NotMutable wEnv ⟨⟨{ isConst := true }, .other 0⟩, .lvalue⟩ := notMutable_of_const rfl
example : NotMutable wEnv ⟨⟨{}, .other 1⟩, .lvalue⟩ := notMutable_of_const_elements rfl rfl rfl rfl

/-- `float3 v0; const float3 v1; float2x2 v2; S0 v3; float v4[2]; const float2x2 v5; float v6;`
    `struct S0 { int q; float3 v; float a[2]; }` -/
def exEnv : Env :=
  { vars := [⟨{}, .vector .float32 3⟩, ⟨{ isConst := true }, .vector .float32 3⟩, ⟨{}, .matrix .float32 2 2⟩, ⟨{}, .other 0⟩,
             ⟨{}, .other 1⟩, ⟨{ isConst := true }, .matrix .float32 2 2⟩, ⟨{}, .scalar .float32⟩],
    funcs := RsslVerif.Model.Intrinsics.intrinsicFuncs 2,
    others := [.struct [("q", ⟨{}, .scalar .int32⟩), ("v", ⟨{}, .vector .float32 3⟩), ("a", ⟨{}, .other 1⟩)],
               .array ⟨{}, .scalar .float32⟩ 2, .void],
    templates := RsslVerif.Model.Intrinsics.templateNames }

def accepts (e : SExpr) : Bool := match elabE true exEnv e with | .ok _ => true | _ => false
def rejectsWith (k : String) (e : SExpr) : Bool := match elabE true exEnv e with | .error (.reject k') => k == k' | _ => false

/-- the hypotheses of the soundness and chain theorems are satisfiable, and the model behaves as described: swizzles
    (`v0.zyx.x = 1` accepted; `v0.xx = ..`, `v0.w` rejected), matrix swizzles, members, subscripts (`v2[0][1] = 1`,
    `v3.a[1] = 1` accepted), writes through chains on const objects rejected (`v1.zyx.x = 1`, `v5[0][1] = 1`,
    `v5._m00_m11.x = 1`), constructors (`float3(v0.xy, 1)` accepted, `float3(v0.xy)` rejected) -/
example :
    (accepts (.bin .assignment (.member (.member (.var 0) "zyx") "x") (.lit .intLiteral)) &&
     rejectsWith "LvalueRequired" (.bin .assignment (.member (.var 0) "xx") (.var 0)) &&
     rejectsWith "InvalidSwizzle" (.member (.var 0) "w") &&
     accepts (.bin .assignment (.index (.index (.var 2) (.lit .intLiteral)) (.lit .intLiteral)) (.lit .intLiteral)) &&
     accepts (.bin .assignment (.index (.member (.var 3) "a") (.lit .intLiteral)) (.lit .intLiteral)) &&
     accepts (.bin .assignment (.member (.var 2) "_m00_m11") (.member (.var 0) "xy")) &&
     rejectsWith "MutableRequired" (.bin .assignment (.member (.member (.var 1) "zyx") "x") (.lit .intLiteral)) &&
     rejectsWith "MutableRequired" (.bin .assignment (.index (.index (.var 5) (.lit .intLiteral)) (.lit .intLiteral)) (.lit .intLiteral)) &&
     rejectsWith "MutableRequired" (.bin .assignment (.member (.member (.var 5) "_m00_m11") "x") (.lit .intLiteral)) &&
     accepts (.ctor ⟨{}, .vector .float32 3⟩ (.cons (.member (.var 0) "xy") (.cons (.lit .intLiteral) .nil))) &&
     rejectsWith "ConstructorWrongArgumentCount" (.ctor ⟨{}, .vector .float32 3⟩ (.cons (.member (.var 0) "xy") .nil))) = true := by
  decide +kernel

/-- the const bases of the examples satisfy `ConstNum` -/
example : ConstNum ⟨⟨{ isConst := true }, .vector .float32 3⟩, .lvalue⟩ := ⟨rfl, rfl⟩

/-- intrinsic functions are selected from the re-extracted table (`Gen.IntrinsicSigs`): `dot(v0, v0)` picks the `float3`
    instance and has type `float`; `sincos(v6, v6, v6)` is accepted, `sincos(v6, 1, v6)` (rvalue to `out`) and
    `sincos(v6, v1.x, v6)` (const to `out`) and `sin()` (arity) are rejected -/
example :
    let id (n : String) : Nat := (RsslVerif.Model.Intrinsics.nameId? n).getD 0
    ((match elabE true exEnv (.call (id "dot") (.cons (.var 0) (.cons (.var 0) .nil))) with
      | .ok (.call f _, τ) => decide (τ = ⟨⟨{}, .scalar .float32⟩, .rvalue⟩) &&
          decide ((RsslVerif.Gen.IntrinsicSigs.sigs[f]?).map (·.intrinsic) = some "Dot")
      | _ => false) &&
     accepts (.call (id "sincos") (.cons (.var 6) (.cons (.var 6) (.cons (.var 6) .nil)))) &&
     rejectsWith "FunctionArgumentTypeMismatch" (.call (id "sincos") (.cons (.var 6) (.cons (.lit .float32) (.cons (.var 6) .nil)))) &&
     rejectsWith "FunctionArgumentTypeMismatch" (.call (id "sincos") (.cons (.var 6) (.cons (.member (.var 1) "x") (.cons (.var 6) .nil)))) &&
     rejectsWith "FunctionArgumentTypeMismatch" (.call (id "sin") .nil)) = true := by
  decide +kernel

/-- statements: `float3 w = { v6, 1, 2 }; if (v0) { float u = w.x; } return;` is accepted in a `void` function and
    registers two variables; `float3 w = { v0.xy, 1 };` is rejected (no flattening) -/
example :
    ((match elabStmts true exEnv (.cons (.decl ⟨{}, .vector .float32 3⟩ (some (.agg (.cons (.expr (.var 6))
          (.cons (.expr (.lit .intLiteral)) (.cons (.expr (.lit .intLiteral)) .nil))))))
        (.cons (.ifS (.var 0) (.block (.cons (.decl ⟨{}, .scalar .float32⟩ (some (.expr (.member (.var 7) "x")))) .nil)))
        (.cons (.ret none) .nil))) with
      | .ok (_, Γ') => decide (Γ'.vars.length = 9)
      | _ => false) &&
     (match elabStmts true exEnv (.cons (.decl ⟨{}, .vector .float32 3⟩ (some (.agg (.cons (.expr (.member (.var 0) "xy"))
          (.cons (.expr (.lit .intLiteral)) .nil))))) .nil) with
      | .error (.reject "InitializerAggregateWrongDimension") => true
      | _ => false)) = true := by
  decide +kernel

end RsslVerif.Thm.C03X
