import RsslVerif.Lemmas.LexerStream
import RsslVerif.Lemmas.LexerInt
import RsslVerif.Lemmas.LitFormatEmit
import RsslVerif.Lemmas.SourceMap
import RsslVerif.Gen.LitFormatTables
/-!
# C10 — lexing is lossless and numeric literals are exact

Statements are about the executable model `Model/Lexer.lean` of `preprocess/src/lexer.rs` (tied to the
source by `Gen.LexTables` and the correspondence run) and the exact rounding reference `Spec/Dec2Bin.lean`.
All quantifiers are unbounded: every byte string, every flag combination.
-/
namespace RsslVerif.Thm.C10
open RsslVerif.Model.Lexer RsslVerif.Spec.Lexer RsslVerif.Gen.LexTables RsslVerif.Spec

/-- **Progress**: every token `token_intermediate` produces consumes at least one byte and leaves a suffix
of its input (the `debug_assert!(self.current_offset < next_location)` of `TokenStream::next` can never
fire; lexing cannot loop). -/
theorem token_progress {inp rest : Bytes} {inc : Bool} {tok : Token}
    (h : tokenIntermediate inp inc = .ok (rest, tok)) : ∃ pre, pre ≠ [] ∧ inp = pre ++ rest := by
  have hg := tokenIntermediate_good inp inc
  have hs := tokenIntermediate_strict inp inc
  rw [h] at hg hs
  obtain ⟨pre, hp⟩ := hg
  refine ⟨pre, ?_, hp.symm⟩
  intro hnil
  subst hnil
  simp only [Strict] at hs
  simp at hp
  subst hp
  omega

/-- A lexing error of `token_intermediate` points into its input (or is the `&[]` of `end_of_stream()`). -/
theorem token_error_in_input {inp r : Bytes} {inc : Bool} {k : Reason}
    (h : tokenIntermediate inp inc = .error (.lex (.rest r) k)) : r <:+ inp := by
  have hg := tokenIntermediate_good inp inc
  rw [h] at hg
  exact hg

/-- None of the `debug_assert_eq!(input.len(), rest.len())` sites of `choose` / `token_intermediate` is
reachable. -/
theorem token_no_panic (inp : Bytes) (inc : Bool) (site : String) :
    tokenIntermediate inp inc ≠ .error (.panic site) := by
  intro h
  have hg := tokenIntermediate_good inp inc
  rw [h] at hg
  exact hg

/-- **spans_tile**: the tokens of a successful `read_to_end` partition `[0, |s|)` — contiguous, in order,
covering every byte; the only empty token is the synthetic `Endline` at the very end. -/
theorem spans_tile {s : Bytes} {trailing debug : Bool} {ts : List PTok}
    (h : readToEnd s trailing debug = .ok ts) : Tiles s ts := by
  simpa [h] using readToEnd_post s trailing debug

/-- **Losslessness**: concatenating the slices of the file named by the token spans reproduces the file. -/
theorem reemit_reproduces_input {s : Bytes} {trailing debug : Bool} {ts : List PTok}
    (h : readToEnd s trailing debug = .ok ts) : reemit s ts = s := by
  have := reemit_chain s (spans_tile h).chain
  simpa using this

/-- **error_pos_in_range**: every diagnostic of the lexer is positioned inside the file
(`0 ≤ offset ≤ |s|`; `|s|` is the end-of-file slot every file owns in `SourceManager`). -/
theorem error_pos_in_range {s : Bytes} {trailing debug : Bool} {k : Reason} {off : Nat}
    (h : readToEnd s trailing debug = .error (.lexer k off)) : off ≤ s.length := by
  simpa [h] using readToEnd_post s trailing debug

/-- The tokens read before a diagnostic tile the file up to a point not after the diagnostic. -/
theorem tokens_before_error_tile {s : Bytes} {trailing debug inc : Bool} {k : Reason} {off : Nat}
    (h : (readAll s trailing debug inc).2 = .error (.lexer k off)) :
    ∃ p, Chain 0 (readAll s trailing debug inc).1 p ∧ p ≤ off ∧ off ≤ s.length := by
  have hp := (readAll_post s trailing debug inc).2
  rw [h] at hp
  exact hp

/-- **Termination**: `read_to_end` needs at most `|s| + 2` iterations (the model's fuel never runs out). -/
theorem lexing_terminates (s : Bytes) (trailing debug : Bool) :
    readToEnd s trailing debug ≠ .error .outOfFuel := by
  intro h
  simpa [h] using readToEnd_post s trailing debug

/-- **read_never_panics**: `read_to_end` reaches none of the panic sites of `TokenStream::next`
(`assert!(!self.last_was_endline)`, the slice index, the subtraction, the three `debug_assert!`s) nor the
`debug_assert_eq!`s of `choose` / `token_intermediate`, in debug and in release builds, for every input.
(The `&[]` of `end_of_stream()` satisfies the pointer-range assertions: the code as of fix c600801.) -/
theorem read_never_panics (s : Bytes) (trailing debug : Bool) (site : String) :
    readToEnd s trailing debug ≠ .error (.panic site) := by
  intro h
  simpa [h] using readToEnd_post s trailing debug

/-- regression witness for c600801: an unterminated block comment (`/*`) and a file ending in `0x` are
diagnosed with `EndOfStream` at the end of the file -/
example : (match readToEnd [47, 42] true true with | .error (.lexer r off) => some (r, off) | _ => none)
    = some (.EndOfStream, 2) := by decide
example : (match readToEnd [48, 120] true true with | .error (.lexer r off) => some (r, off) | _ => none)
    = some (.EndOfStream, 2) := by decide

/-- non-vacuity of `spans_tile`: `a<b // c⏎` followed by a line splice lexes to seven tokens + synthetic endline -/
example : (readToEnd [97, 60, 98, 32, 47, 47, 99, 10, 92, 10]).toOption.map (·.map fun t => (t.start, t.stop))
    = some [(0, 1), (1, 2), (2, 3), (3, 4), (4, 7), (7, 8), (8, 10), (10, 10)] := by decide

/-- **int_value_exact** (the suffix checks are those of fixes dc17362 and 93e9a96): an accepted integer literal consumed the
maximal run of digits and its suffix, the token denotes exactly the run's positional value `v`, and `v` fits the
type the suffix names (`u` ⇒ `< 2^32`, `l` ⇒ `< 2^63`, none / `ul` ⇒ `< 2^64`). -/
theorem int_value_exact {f : UInt8 → Option Nat} {base : Nat} (hr : IsRadix f base) {inp rest : Bytes}
    {tok : Token} (h : literalIntWith f base inp = .ok (rest, tok)) :
    tok.intValue? = some (Dec2Bin.ofDigits base (digitRun f inp) : Int) ∧ tok.intInRange ∧
    Dec2Bin.ofDigits base (digitRun f inp) < 2 ^ 64 ∧
    mkIntToken? (Dec2Bin.ofDigits base (digitRun f inp)) (opt (intType (afterRun f inp)) (afterRun f inp)).2
      = some tok ∧
    rest = (opt (intType (afterRun f inp)) (afterRun f inp)).1 := by
  cases inp with
  | nil => simp [literalIntWith, digitsWith, digitWith, endOfStream] at h
  | cons b r =>
    cases hd : f b with
    | none => simp [literalIntWith, digitsWith, digitWith, hd, wrongChars] at h
    | some d =>
      rw [literalIntWith_closed hr b r d hd] at h
      split at h
      · rename_i hlt
        split at h <;> cases h
        rename_i hk
        exact ⟨mkIntToken?_value hk, mkIntToken?_inRange hlt hk, hlt, hk, rfl⟩
      · cases h

/-- **int_overflow_rejected**: a literal that does not fit — the digit run is `≥ 2^64`, or `≥ 2^32` with suffix
`u`, or `≥ 2^63` with the signed suffix `l` (`SuffixOverflow`) — is never accepted: `IntegerLiteralTooLarge` at its
first digit. -/
theorem int_overflow_rejected {f : UInt8 → Option Nat} {base : Nat} (hr : IsRadix f base) (b : UInt8) (r : Bytes)
    (d : Nat) (hd : f b = some d)
    (hbig : 2 ^ 64 ≤ Dec2Bin.ofDigits base (digitRun f (b :: r)) ∨
      SuffixOverflow (Dec2Bin.ofDigits base (digitRun f (b :: r)))
        (opt (intType (afterRun f (b :: r))) (afterRun f (b :: r))).2) :
    literalIntWith f base (b :: r) = .error (.lex (.rest (b :: r)) .IntegerLiteralTooLarge) := by
  rw [literalIntWith_closed hr b r d hd]
  by_cases hlt : Dec2Bin.ofDigits base (digitRun f (b :: r)) < 2 ^ 64
  · simp only [hlt, if_true]
    rcases hbig with hbig | hbig
    · omega
    · rw [mkIntToken?_none.mpr hbig]
  · simp only [hlt, if_false]

/-- **int_rejected_only_when_too_large**: conversely, `IntegerLiteralTooLarge` is reported only for a literal that
really does not fit its type. -/
theorem int_rejected_only_when_too_large {f : UInt8 → Option Nat} {base : Nat} (hr : IsRadix f base) {inp : Bytes}
    {pos : ErrAt} (h : literalIntWith f base inp = .error (.lex pos .IntegerLiteralTooLarge)) :
    pos = .rest inp ∧
    (2 ^ 64 ≤ Dec2Bin.ofDigits base (digitRun f inp) ∨
      SuffixOverflow (Dec2Bin.ofDigits base (digitRun f inp))
        (opt (intType (afterRun f inp)) (afterRun f inp)).2) := by
  cases inp with
  | nil => simp [literalIntWith, digitsWith, digitWith, endOfStream] at h
  | cons b r =>
    cases hd : f b with
    | none => simp [literalIntWith, digitsWith, digitWith, hd, wrongChars] at h
    | some d =>
      rw [literalIntWith_closed hr b r d hd] at h
      split at h
      · split at h <;> cases h
        rename_i hk
        exact ⟨rfl, .inr (mkIntToken?_none.mp hk)⟩
      · cases h
        exact ⟨rfl, .inl (by omega)⟩

/-- `literal_int` picks the radix from the prefix and then behaves as above -/
theorem literalInt_radix (inp : Bytes) :
    (∃ body, inp = [48, 120] ++ body ∧ literalInt inp = literalIntWith hexDigit? 16 body) ∨
    (∃ body, inp = 48 :: body ∧ (digitWith octDigit? body).isOk = true ∧
        literalInt inp = literalIntWith octDigit? 8 body) ∨
    literalInt inp = literalIntWith decDigit? 10 inp := by
  fun_cases literalInt inp
  · rename_i r h; exact .inl ⟨r, stripPrefix?_eq h, rfl⟩
  · rename_i r h x hx; exact .inr (.inl ⟨r, stripPrefix?_eq h, by simp [hx, Except.isOk, Except.toBool], rfl⟩)
  · exact .inr (.inr rfl)
  · exact .inr (.inr rfl)

/-- regression witness for dc17362: `9223372036854775808l` (2^63 with the signed suffix) is rejected at offset 0;
`9223372036854775807l` is accepted with its written value -/
example : (match literalInt [57, 50, 50, 51, 51, 55, 50, 48, 51, 54, 56, 53, 52, 55, 55, 53, 56, 48, 56, 108] with
     | .error (.lex (.rest r) k) => some (r.length, k) | _ => none) = some (20, .IntegerLiteralTooLarge) := by decide
example : (match literalInt [57, 50, 50, 51, 51, 55, 50, 48, 51, 54, 56, 53, 52, 55, 55, 53, 56, 48, 55, 108] with
     | .ok (rest, tok) => (rest.length, tok.intValue?)
     | .error _ => (1, none)) = (0, some 9223372036854775807) := by decide

/-- non-vacuity: `0x7fFFu;` is accepted with value 32767, `18446744073709551616` is rejected -/
example : (match literalInt [48, 120, 55, 102, 70, 70, 117, 59] with
     | .ok (rest, tok) => (rest, tok.intValue?) | .error _ => ([], none)) = ([59], some 32767) := by decide
/-- regression witness for 93e9a96: `4294967296u` is rejected, `4294967295u` accepted -/
example : (match literalInt [52, 50, 57, 52, 57, 54, 55, 50, 57, 54, 117] with
     | .error (.lex (.rest r) k) => some (r.length, k) | _ => none) = some (11, .IntegerLiteralTooLarge) := by decide
example : (match literalInt [52, 50, 57, 52, 57, 54, 55, 50, 57, 53, 117] with
     | .ok (rest, tok) => (rest.length, tok.intValue?) | .error _ => (1, none)) = (0, some 4294967295) := by decide
example : (match literalInt [49, 56, 52, 52, 54, 55, 52, 52, 48, 55, 51, 55, 48, 57, 53, 53, 49, 54, 49, 54] with
     | .error (.lex _ r) => some r | _ => none) = some .IntegerLiteralTooLarge := by decide

/-- how the dispatcher reaches the two numeric sub-lexers: on a digit, `token_intermediate` is `literal_float`, and
exactly when that answers `OtherTokenBytes` (digits without fraction or exponent, or the `.x` bail-out) it is
`literal_int` — so `int_value_exact` / `int_overflow_rejected` / `lex_float_nearest` are statements about the tokens
of `read_to_end`. -/
theorem token_numeric_dispatch (b : UInt8) (r : Bytes) (inc : Bool) (hd : 48 ≤ b.toNat ∧ b.toNat ≤ 57) :
    tokenIntermediate (b :: r) inc =
      (match literalFloat (b :: r) with
       | .ok x => .ok x
       | .error (.lex _ .OtherTokenBytes) => literalInt (b :: r)
       | .error e => .error e) := by
  simp only [tokenIntermediate, tokenStep, hd, and_self, if_true]
  have ho := (Lemmas.LexStable.literalFloat_sound_digit b r _ (decDigit_of_range b hd)).2
  split
  · rename_i x hx; rw [hx]
  · rename_i pos hx
    rw [hx] at ho ⊢
    simp only [OtherAtStart] at ho
    subst ho
    simp [ErrAt.len]
  · rename_i e hne hx
    rw [hx]
    split
    · rename_i heq; cases heq
    · rename_i pos heq; cases heq; exact absurd rfl (hne pos)
    · rename_i heq; exact heq

/-- **float_parts_shape_as_modelled**: the shape of `calculate_float64_from_parts` the model relies on, re-extracted
from the source on every run (`Gen.LexTables`): the body only builds the text `<left or 0>.<right or 0>e<exponent>`
and its single exit is `text.parse::<f64>()` — no early `return`, no `*` or `/`, no float cast or float function —
and `literal_float` calls it once with `(left, right, exp)`. This is what justifies
`Model.Lexer.float64FromParts = nearest64 (left ++ right) (exp - |right|)` (given that `parse` is correctly rounded);
any rewrite of the function (a fast path, digit accumulation, …) breaks this obligation before an input is found. -/
theorem float_parts_shape_as_modelled :
    floatPartsSignature = "left: DigitSequence, right: DigitSequence, exponent: i64 -> f64" ∧
    floatPartsSteps = ["newText", "pushLeftDigits", "zeroIfLeftEmpty", "pushDot", "pushRightDigits",
      "zeroIfRightEmpty", "pushE", "pushExponent", "returnParseF64"] ∧
    floatPartsReturns = 0 ∧ floatPartsMulDiv = 0 ∧ floatPartsFloatOps = 0 ∧
    floatPartsCallSites = 1 ∧ floatPartsCalledWithParts = true :=
  ⟨rfl, rfl, rfl, rfl, rfl, rfl, rfl⟩

/-- **lex_float_nearest**: an accepted float literal is the text `<left>[.<right>][e<exp>][#INF][suffix]`, and its
token carries `narrowOnce suffix (nearest64 (left ++ right) (exp - |right|))`: the double nearest (see
`Spec/Dec2Bin.lean` and `nearest_*` below) to the decimal it spells, narrowed once to single precision for the
`f`/`h` suffixes — or `+∞` for the `#INF` spelling, which is accepted only on a non-zero literal without exponent. -/
theorem lex_float_nearest {inp rest : Bytes} {tok : Token} (h : literalFloat inp = .ok (rest, tok)) :
    ∃ (hasFraction : Bool) (left right : List Nat) (i2 : Bytes) (ty : Option FloatType),
      inp = left.map digitByte ++ ((if hasFraction then 46 :: right.map digitByte else []) ++ i2) ∧
      (hasFraction = false → right = []) ∧ (∀ d ∈ left ++ right, d < 10) ∧
      (tok.floatBits? = some (narrowOnce ty
          (Dec2Bin.nearest64 (left ++ right) ((opt (floatExponent i2) i2).2.getD 0 - right.length))) ∨
       ((opt (floatExponent i2) i2).2 = none ∧
        Dec2Bin.nearest64 (left ++ right) (0 - right.length) ≠ 0 ∧
        tok.floatBits? = some (narrowOnce ty Dec2Bin.binary64.infBits))) := by
  revert h
  fun_cases literalFloat inp <;> intro h <;> cases h
  -- two branches succeed: the literal ends the input, or a byte follows that is not an identifier character
  all_goals
    obtain ⟨ht, hz, hlt⟩ := floatMantissa_text ‹floatMantissa inp = _›
    exact ⟨_, _, _, _, _, ht, hz, hlt, floatInf_bits _ ‹floatInf _ _ _ = _›⟩

/-- non-vacuity / regression witnesses for the defect fixed in c2067b9: `0.0031308` and `0.055L` are the
nearest doubles (a digit-by-digit accumulation gives `…bd`+1 and `…29`+1) -/
example : (match literalFloat [48, 46, 48, 48, 51, 49, 51, 48, 56] with
    | .ok (_, tok) => tok.floatBits? | .error _ => none) = some 0x3f69a5c37387b719 := by decide
example : (match literalFloat [48, 46, 48, 53, 53, 76] with
    | .ok (_, tok) => tok.floatBits? | .error _ => none) = some 0x3fac28f5c28f5c29 := by decide

/-- the dispatch of `token_intermediate` as the model (`tokenStep`) and `token_numeric_dispatch` read it, re-extracted
every run: the four patterns of `match input.first()` in order (digit, identifier start, any other byte, end), and the
digit arm consists of exactly one statement — `match literal_float(input)` returning its token, calling
`literal_int(input)` exactly on `OtherTokenBytes` and passing every other error on. Nothing in front of it (no
pre-classification of the numeral by a look-ahead), no other exit. The word arm is `any_word(input)`, the `None` arm
`end_of_stream()`. -/
theorem numeric_dispatch_as_modelled :
    dispatchPatterns = ["Some(b'0'..=b'9')", "Some(b'A'..=b'Z' | b'a'..=b'z' | b'_')", "Some(_)", "None"] ∧
    numericArmSteps = ["floatElseIntOnOtherTokenBytes"] ∧ wordArmSteps = ["anyWord"] ∧
    noneArmSteps = ["endOfStream"] :=
  ⟨rfl, rfl, rfl, rfl⟩

/-- **numeral_is_one_token**: every numeral of the decimal floating grammar
`digits "." digits* [exponent] [suffix] | digits exponent [suffix]`, `exponent = (e|E) [+|-] digits`,
`suffix = h H f F l L` (`Numeral`, any number of digits, leading zeros, no fraction digits, either case of the exponent
letter and of the suffix), followed by any text that does not continue it (`Boundary`: the end of the file or a byte
that is neither a letter, digit, `_` nor `#`), is read by `token_intermediate` as ONE token that consumes exactly the
numeral: the float literal of the kind its suffix names, carrying `nearest64` of its digits scaled by its exponent
(narrowed once for `f`/`h`) — with `nearest64_correct` the correctly rounded double of the decimal it spells. It is
never an integer followed by an identifier, never split at the exponent letter, the sign or the point. -/
theorem numeral_is_one_token (n : Numeral) (hwf : n.WF) (rest : Bytes) (hb : Boundary rest) (inc : Bool) :
    tokenIntermediate (n.bytes ++ rest) inc = .ok (rest, n.token) ∧
    n.token = mkFloatToken (Dec2Bin.nearest64 n.digits (n.expValue - (n.fracLen : Nat))) n.suffixType ∧
    (∀ d ∈ n.digits, d < 10) :=
  ⟨numeral_one_token n hwf rest hb inc, rfl, by
    cases n with
    | point w ws fr ex sfx =>
      intro d hd
      simp only [Numeral.digits, List.mem_append] at hd
      exact hd.elim (hwf.1 d) (hwf.2.1 d)
    | expo w ws ex sfx => exact hwf.1⟩

/-- the same at the level of `TokenStream::next` on a file that starts with the numeral: the first token is the
numeral's literal with the span `[0, |numeral|)` -/
theorem numeral_first_token_span (n : Numeral) (hwf : n.WF) (rest : Bytes) (hb : Boundary rest)
    (trailing debug inc : Bool) :
    ∃ s', (Stream.new (n.bytes ++ rest) trailing debug).next inc = .ok (⟨n.token, 0, n.bytes.length⟩, s') ∧
      s'.offset = n.bytes.length ∧ s'.input = n.bytes ++ rest := by
  have h := numeral_one_token n hwf rest hb inc
  obtain ⟨b, r, hbr, -⟩ := n.bytes_head hwf []
  have hlen : 0 < n.bytes.length := by
    simp only [List.append_nil] at hbr
    rw [hbr]; simp
  have h1 : ¬ (0 = (n.bytes ++ rest).length) := by simp; omega
  have h2 : ¬ ((n.bytes ++ rest).length < rest.length) := by simp
  have h3 : (n.bytes ++ rest).length - rest.length = n.bytes.length := by simp
  refine ⟨{ (Stream.new (n.bytes ++ rest) trailing debug) with
      offset := n.bytes.length, lastWasEndline := decide (n.token = .simple .Endline) }, ?_, rfl, rfl⟩
  have h4 : ¬ (debug = true ∧ ¬ 0 < n.bytes.length) := by simp [hlen]
  simp only [Stream.next, Stream.new, List.drop_zero, h, h1, h2, h3, h4, and_false, if_false, Nat.not_lt_zero]

/-- non-vacuity: `1E5`, `3E+2`, `25E-2f`, `7E-7`, `1.e5H`, `00.50L` are numerals of the grammar and these are their tokens
(the spellings the seeded mutant C10-5 read as integer + identifier) -/
example : (Numeral.expo 1 [] ⟨.E, .absent, 5, []⟩ none).bytes = [49, 69, 53] ∧
    (Numeral.expo 1 [] ⟨.E, .absent, 5, []⟩ none).WF ∧
    (Numeral.expo 1 [] ⟨.E, .absent, 5, []⟩ none).token = .litFloat 0x40f86a0000000000 :=
  ⟨by decide, by simp [Numeral.WF], by decide⟩
example : (Numeral.expo 3 [] ⟨.E, .plus, 2, []⟩ none).bytes = [51, 69, 43, 50] ∧
    (Numeral.expo 3 [] ⟨.E, .plus, 2, []⟩ none).token = .litFloat 0x4072c00000000000 := by decide
example : (Numeral.expo 2 [5] ⟨.E, .minus, 2, []⟩ (some ⟨.Float, false⟩)).bytes = [50, 53, 69, 45, 50, 102] ∧
    (Numeral.expo 2 [5] ⟨.E, .minus, 2, []⟩ (some ⟨.Float, false⟩)).token = .litFloat32 0x3e800000 := by decide
example : (Numeral.expo 7 [] ⟨.E, .minus, 7, []⟩ none).token = .litFloat 0x3ea77cf44765195f := by decide
example : (Numeral.point 1 [] [] (some ⟨.e, .absent, 5, []⟩) (some ⟨.Half, true⟩)).bytes = [49, 46, 101, 53, 72] ∧
    (Numeral.point 1 [] [] (some ⟨.e, .absent, 5, []⟩) (some ⟨.Half, true⟩)).token = .litFloat16 0x47c35000 := by decide
example : (match tokenIntermediate [49, 69, 53, 59] false with
    | .ok (rest, tok) => some (rest, tok) | .error _ => none) = some ([59], .litFloat 0x40f86a0000000000) := by decide
example : Boundary [59] ∧ Boundary [] ∧ Boundary [32, 120] ∧ ¬ Boundary [120] := by
  refine ⟨?_, ?_, ?_, ?_⟩
  · intro b r h; cases h; decide
  · intro b r h; cases h
  · intro b r h; cases h; decide
  · intro h; have := (h 120 [] rfl).1; revert this; decide

/-- **numeral_int_is_one_token_partial**: a decimal integer numeral of the C grammar (`0`, or a non-zero digit followed by
any digits) with any of the 13 spellings of the suffix (none, `u U l L`, `ul uL Ul UL`, `lu lU Lu LU`:
`IntSuffixSpelling`), followed by a text that does not continue it (`IntBoundary`: the end, or a byte that is neither a
letter, digit, `_` nor `.`), is read by `token_intermediate` as ONE token consuming exactly the numeral: the integer literal
of the kind the suffix names, holding the positional value of the digits — whenever that value fits the kind
(`mkIntToken?`; a value that does not fit is the diagnostic of `int_overflow_rejected`). `literal_float` declines it
(`OtherTokenBytes`), `literal_int` takes the decimal route.
*Partial*: the octal (`0` octal-digits) and hexadecimal (`0x` hex-digits) numerals are not covered by this statement
(their value and rejection are `int_value_exact` / `int_overflow_rejected` on the maximal digit run; that the run and the
suffix are the whole numeral is checked by the `C10.num` stream only). -/
theorem numeral_int_is_one_token_partial (d : Nat) (ds : List Nat) (hlt : ∀ x ∈ d :: ds, x < 10)
    (hlead : d ≠ 0 ∨ ds = []) (sfx : IntSuffixSpelling) (tok : Token)
    (hn : Dec2Bin.ofDigits 10 (d :: ds) < 2 ^ 64)
    (hk : mkIntToken? (Dec2Bin.ofDigits 10 (d :: ds)) sfx.ty = some tok) (rest : Bytes) (hb : IntBoundary rest)
    (inc : Bool) :
    tokenIntermediate ((d :: ds).map digitByte ++ (sfx.bytes ++ rest)) inc = .ok (rest, tok) :=
  decimalInt_one_token d ds hlt hlead sfx tok hn hk rest hb inc

/-- non-vacuity: `42UL`, `4294967295U`, `0l` -/
example : ([4, 2].map digitByte ++ (IntSuffixSpelling.ul true true).bytes) = [52, 50, 85, 76] ∧
    mkIntToken? (Dec2Bin.ofDigits 10 [4, 2]) (IntSuffixSpelling.ul true true).ty = some (.litIntU64 42) := by decide
example : mkIntToken? (Dec2Bin.ofDigits 10 [4, 2, 9, 4, 9, 6, 7, 2, 9, 5]) (IntSuffixSpelling.u true).ty =
    some (.litIntU32 4294967295) := by decide
example : mkIntToken? (Dec2Bin.ofDigits 10 [0]) (IntSuffixSpelling.l false).ty = some (.litIntS64 0) := by decide

open Dec2Bin in
/-- **nearest_correct**: for every positive rational `x = N / M`, `nearestRat f N M` is the bit pattern IEEE 754
prescribes for round-to-nearest-ties-to-even (`Spec.Dec2Bin.IsNearestEven`: unit in the last place of `x`'s binade
with gradual underflow, no value with a `p`-bit significand and exponent `≥ emin` closer, at most half an ulp off,
exactly half ⇒ even significand, `+∞` exactly when the result rounded with unbounded exponent reaches
`2^(emax+1)`). Both formats. -/
theorem nearest_correct (f : Fmt) (hf : f = binary64 ∨ f = binary32) (N M : Nat) (hN : 0 < N) (hM : 0 < M) :
    IsNearestEven f N M (nearestRat f N M) :=
  nearestRat_isNearestEven f (by rcases hf with h | h <;> subst h <;> decide)
    (by rcases hf with h | h <;> subst h <;> decide) N M hN hM

open Dec2Bin in
/-- **nearest64_total**: for every decimal digit string and every exponent, `nearest64 (digits, e)` is
`nearestRat binary64` of the exact rational `digits × 10^e` — the two cut-offs of `nearestDec` (`e > 400` ⟹ `+∞`,
`e + |digits| < -400` ⟹ `0`, which avoid astronomically large powers) are proved to agree with it. -/
theorem nearest64_total (ds : List Nat) (e : Int) (hds : ∀ d ∈ ds, d < 10) :
    nearest64 ds e = nearestRat binary64 (decimalRat ds e).1 (decimalRat ds e).2 := by
  rw [nearest64_eq_nearestRat ds e hds]
  unfold decimalRat
  split <;> rfl

open Dec2Bin in
/-- **nearest64_correct**: the value the lexer model gives a float literal is the correctly rounded double of its
decimal text: `IsNearestEven binary64 (digits × 10^e) (nearest64 digits e)` for every non-zero digit string and
every exponent (a zero digit string gives `+0`). -/
theorem nearest64_correct (ds : List Nat) (e : Int) (hds : ∀ d ∈ ds, d < 10) (hD : ofDigits 10 ds ≠ 0) :
    IsNearestEven binary64 (decimalRat ds e).1 (decimalRat ds e).2 (nearest64 ds e) := by
  rw [nearest64_total ds e hds]
  have hDpos : 0 < ofDigits 10 ds := Nat.pos_of_ne_zero hD
  apply nearest_correct binary64 (.inl rfl)
  · unfold decimalRat; split
    · exact Nat.mul_pos hDpos (Nat.pow_pos (by omega))
    · exact hDpos
  · unfold decimalRat; split
    · exact Nat.one_pos
    · exact Nat.pow_pos (by omega)

open Dec2Bin in
theorem nearest64_zero (ds : List Nat) (e : Int) (hD : ofDigits 10 ds = 0) : nearest64 ds e = 0 := by
  unfold nearest64 nearestDec; simp [hD]

open Dec2Bin in
/-- **nearest_correct_partial**: for every positive rational `x = N / M` the reference returns the encoding of
`m · 2^q` (or `+∞` when that encoding reaches the infinity pattern) where, with `A / B = x / 2^q` exactly:
* `q ≥ emin`, and `2^q` is the unit in the last place of the binade of `x`: `⌊x/2^q⌋ < 2^p`, and `≥ 2^(p-1)` unless
  `q = emin` (gradual underflow); `m ≤ 2^p`;
* `|x/2^q − m| ≤ ½` and on a tie `m` is even (round to nearest, ties to even);
* no multiple `k · 2^q` is closer to `x` — this covers every representable value of exponent `≥ q`;
* no value `m' · 2^q / T` (`T ≥ 2` a power of two, `m' < 2^p`) of a *smaller* exponent is closer either (they exist
  only when `q > emin`) — so `m · 2^q` is nearest to `x` among all finite values of the format.
*Partial*: the structural form of the statement (`Dec2Bin.nearestRat_structure` at the two formats), not packaged as
one predicate over decoded bit patterns and with the saturation test left as `encode ≥ infBits`; the packaged statement is `nearest_correct`, the cut-offs of `nearestDec` are `nearest64_total`,
monotonicity is `nearest_monotone`. -/
theorem nearest_correct_partial (f : Fmt) (hf : f = binary64 ∨ f = binary32) (N M : Nat) (hN : 0 < N) (hM : 0 < M) :
    ∃ (q : Int) (A B m : Nat),
      f.emin ≤ q ∧ 0 < B ∧ A * (M * 2 ^ q.toNat) = N * 2 ^ (-q).toNat * B ∧
      (2 * A ≤ 2 * (m * B) + B ∧ 2 * (m * B) ≤ 2 * A + B) ∧
      ((2 * A = 2 * (m * B) + B ∨ 2 * (m * B) = 2 * A + B) → m % 2 = 0) ∧
      (∀ k, (2 * A - 2 * (m * B)) + (2 * (m * B) - 2 * A) ≤ (2 * A - 2 * (k * B)) + (2 * (k * B) - 2 * A)) ∧
      (f.emin < q → ∀ T m', 2 ≤ T → m' < 2 ^ f.p →
        2 * (B * m') ≤ 2 * (A * T) ∧
        ((2 * A - 2 * (m * B)) + (2 * (m * B) - 2 * A)) * T ≤ 2 * (A * T) - 2 * (B * m')) ∧
      A / B < 2 ^ f.p ∧ (f.emin < q → 2 ^ (f.p - 1) ≤ A / B) ∧ m ≤ 2 ^ f.p ∧ (f.emin < q → 2 ^ (f.p - 1) ≤ m) ∧
      nearestRat f N M = Nat.min (encode f m q) f.infBits :=
  nearestRat_structure f (by rcases hf with h | h <;> subst h <;> decide) N M hN hM

open Dec2Bin in
/-- **nearest_monotone**: `N/M ≤ N'/M'` ⟹ `nearestRat f N M ≤ nearestRat f N' M'` (the bit patterns of non-negative
floats are ordered like their values, `+∞` on top) -/
theorem nearest_monotone (f : Fmt) (hf : f = binary64 ∨ f = binary32) (N M N' M' : Nat) (hM : 0 < M) (hM' : 0 < M')
    (h : N * M' ≤ N' * M) : nearestRat f N M ≤ nearestRat f N' M' :=
  nearestRat_mono f (by rcases hf with h | h <;> subst h <;> decide) N M N' M' hM hM' h

open Dec2Bin in
/-- … and for decimal texts: a literal that spells a larger number never lexes to a smaller double -/
theorem nearest64_monotone (ds ds' : List Nat) (e e' : Int) (hds : ∀ d ∈ ds, d < 10) (hds' : ∀ d ∈ ds', d < 10)
    (h : (decimalRat ds e).1 * (decimalRat ds' e').2 ≤ (decimalRat ds' e').1 * (decimalRat ds e).2) :
    nearest64 ds e ≤ nearest64 ds' e' := by
  rw [nearest64_total ds e hds, nearest64_total ds' e' hds']
  have pos : ∀ (l : List Nat) (x : Int), 0 < (decimalRat l x).2 := by
    intro l x; unfold decimalRat; split
    · exact Nat.one_pos
    · exact Nat.pow_pos (by omega)
  exact nearest_monotone binary64 (.inl rfl) _ _ _ _ (pos ds e) (pos ds' e') h

open Dec2Bin in
/-- **nearest_exact_on_representable**: a positive finite value `m · 2^q` of the format (canonical
significand/exponent) is returned unchanged, as its own bit pattern. -/
theorem nearest_exact_on_representable (f : Fmt) (hf : f = binary64 ∨ f = binary32) (m : Nat) (q : Int)
    (hc : Canon f m q) :
    nearestRat f (m * 2 ^ q.toNat) (2 ^ (-q).toNat) = Nat.min (encode f m q) f.infBits :=
  nearestRat_exact f (by rcases hf with h | h <;> subst h <;> decide) m q hc

/-- non-vacuity: `1.5 = 3·2^-1` is canonical as `(3·2^51, -52)` and comes back as `0x3ff8000000000000`;
the smallest subnormal `(1, -1074)` comes back as `1`; halfway cases go to even -/
example : Dec2Bin.Canon Dec2Bin.binary64 (3 * 2 ^ 51) (-52) := by unfold Dec2Bin.Canon; decide
example : Dec2Bin.nearestRat Dec2Bin.binary64 3 2 = 0x3ff8000000000000 := by decide
set_option exponentiation.threshold 2000 in
example : Dec2Bin.nearestRat Dec2Bin.binary64 1 (2 ^ 1074) = 1 := by decide +kernel
set_option exponentiation.threshold 2000 in
example : Dec2Bin.nearestRat Dec2Bin.binary64 1 (2 ^ 1075) = 0 := by decide +kernel   -- tie → even (0)
set_option exponentiation.threshold 2000 in
example : Dec2Bin.nearestRat Dec2Bin.binary64 3 (2 ^ 1075) = 2 := by decide +kernel   -- tie → even (2)
example : Dec2Bin.nearest64 [9, 0, 0, 7, 1, 9, 9, 2, 5, 4, 7, 4, 0, 9, 9, 3] 0 = 0x4340000000000000 := by decide
example : Dec2Bin.narrow32 0x3ff0000010000000 = 0x3f800000 := by decide      -- 1 + 2^-24: tie → even

open RsslVerif.Gen.LitFormatTables in
/-- **literal_tables_as_modelled**: the code the printing model (`Model/LitFormat.lean`) is written against,
re-extracted from the source on every run: every arm of `format_literal` (pattern, guard, format string) in order, the
four `write_infinity_*` helpers, the guard `f32_digits_round_twice` of the two arms added by fix 265a080 (signature, body —
`Display` digits parsed as a double and cast to single differ from the value — and that it is used by exactly those two
arms), the `generate_literal` arms of the HLSL and of the Metal generator that map an
`ir::Constant` to the `ast::Literal` that is printed (negative integers become `-` applied to the magnitude), and the
typer's `parse_literal` (token payload → `ir::Constant`, 64-bit integer literals rejected).  Any change of a guard, a
suffix, a format string or the arm order breaks this obligation before an input is found. -/
theorem literal_tables_as_modelled :
    formatLiteralArms = [
      ("ast::Literal::Bool(true)", "", "output.push_str(\"true\")"),
      ("ast::Literal::Bool(false)", "", "output.push_str(\"false\")"),
      ("ast::Literal::IntUntyped(v)", "", "write!(output, \"{v}\").unwrap()"),
      ("ast::Literal::IntUnsigned32(v)", "", "write!(output, \"{v}u\").unwrap()"),
      ("ast::Literal::IntUnsigned64(v)", "", "write!(output, \"{v}ul\").unwrap()"),
      ("ast::Literal::IntSigned64(v)", "", "write!(output, \"{v}l\").unwrap()"),
      ("ast::Literal::FloatUntyped(v)", "*v == f64::INFINITY", "write_infinity_untyped(output, context)"),
      ("ast::Literal::FloatUntyped(v)", "*v == f64::NEG_INFINITY", "output.push('-'); write_infinity_untyped(output, context)"),
      ("ast::Literal::FloatUntyped(v)", "*v == 0.0 && v.is_sign_negative()", "output.push_str(\"-0.0\")"),
      ("ast::Literal::FloatUntyped(v)", "*v == (*v as i64 as f64)", "write!(output, \"{}.0\", *v as i64).unwrap()"),
      ("ast::Literal::FloatUntyped(v)", "*v > i64::MAX as f64 || *v < i64::MIN as f64", "write!(output, \"{v}.0\").unwrap()"),
      ("ast::Literal::FloatUntyped(v)", "", "write!(output, \"{v}\").unwrap()"),
      ("ast::Literal::Float16(v)", "*v == f32::INFINITY", "write_infinity_f16(output, context)"),
      ("ast::Literal::Float16(v)", "*v == f32::NEG_INFINITY", "output.push('-'); write_infinity_f16(output, context)"),
      ("ast::Literal::Float16(v)", "*v == f32::NEG_INFINITY", "write!(output, \"-INFINITY\").unwrap()"),
      ("ast::Literal::Float16(v)", "*v == 0.0 && v.is_sign_negative()", "output.push_str(\"-0.0h\")"),
      ("ast::Literal::Float16(v)", "*v == (*v as i64 as f32)", "write!(output, \"{}.0h\", *v as i64).unwrap()"),
      ("ast::Literal::Float16(v)", "*v > i64::MAX as f32 || *v < i64::MIN as f32", "write!(output, \"{v}.0h\").unwrap()"),
      ("ast::Literal::Float16(v)", "f32_digits_round_twice(*v)", "write!(output, \"{}h\", *v as f64).unwrap()"),
      ("ast::Literal::Float16(v)", "", "write!(output, \"{v}h\").unwrap()"),
      ("ast::Literal::Float32(v)", "*v == f32::INFINITY", "write_infinity_f32(output, context)"),
      ("ast::Literal::Float32(v)", "*v == f32::NEG_INFINITY", "output.push('-'); write_infinity_f32(output, context)"),
      ("ast::Literal::Float32(v)", "*v == f32::MAX && context.target == Target::Msl", "output.write_str(\"FLT_MAX\").unwrap()"),
      ("ast::Literal::Float32(v)", "*v == 0.0 && v.is_sign_negative()", "output.push_str(\"-0.0f\")"),
      ("ast::Literal::Float32(v)", "*v == (*v as i64 as f32)", "write!(output, \"{}.0f\", *v as i64).unwrap()"),
      ("ast::Literal::Float32(v)", "*v > i64::MAX as f32 || *v < i64::MIN as f32", "write!(output, \"{v}.0f\").unwrap()"),
      ("ast::Literal::Float32(v)", "f32_digits_round_twice(*v)", "write!(output, \"{}f\", *v as f64).unwrap()"),
      ("ast::Literal::Float32(v)", "", "write!(output, \"{v}f\").unwrap()"),
      ("ast::Literal::Float64(v)", "*v == f64::INFINITY", "write_infinity_f64(output, context)"),
      ("ast::Literal::Float64(v)", "*v == f64::NEG_INFINITY", "output.push('-'); write_infinity_f64(output, context)"),
      ("ast::Literal::Float64(v)", "*v == 0.0 && v.is_sign_negative()", "output.push_str(\"-0.0L\")"),
      ("ast::Literal::Float64(v)", "*v == (*v as i64 as f64)", "write!(output, \"{}.0L\", *v as i64).unwrap()"),
      ("ast::Literal::Float64(v)", "*v > i64::MAX as f64 || *v < i64::MIN as f64", "write!(output, \"{v}.0L\").unwrap()"),
      ("ast::Literal::Float64(v)", "", "write!(output, \"{v}L\").unwrap()"),
      ("ast::Literal::String(s)", "", "write!(output, \"\\\"{s}\\\"\").unwrap()")] ∧
    f32DigitsRoundTwice = ("v: f32 -> bool", "v.to_string().parse::<f64>().map(|d| d as f32) != Ok(v)", 2) ∧
    writeInfinity = [
      ("write_infinity_untyped", "\"INFINITY\"", "1.#INF"),
      ("write_infinity_f16", "\"INFINITY\"", "1.#INFh"),
      ("write_infinity_f32", "\"INFINITY\"", "1.#INFf"),
      ("write_infinity_f64", "panic!(\"invalid msl\")", "1.#INFL")] ∧
    generateLiteralHlsl = [
      ("ir::Constant::Bool(v)", "", "ast::Literal::Bool(v)"),
      ("ir::Constant::IntLiteral(v)", "v < 0 && -v <= u64::MAX as i128",
       "return Ok(ast::Expression::UnaryOperation( ast::UnaryOp::Minus, Box::new(Located::none(ast::Expression::Literal( ast::Literal::IntUntyped(-v as u64), ))), ))"),
      ("ir::Constant::IntLiteral(v)", "v >= 0 && v <= u64::MAX as i128", "ast::Literal::IntUntyped(v as u64)"),
      ("ir::Constant::IntLiteral(_)", "", "return Err(GenerateError::IntLiteralOutOfRange)"),
      ("ir::Constant::Int32(v)", "v < 0",
       "return Ok(ast::Expression::UnaryOperation( ast::UnaryOp::Minus, Box::new(Located::none(ast::Expression::Literal( ast::Literal::IntUntyped(u64::from(v.unsigned_abs())), ))), ))"),
      ("ir::Constant::Int32(v)", "", "ast::Literal::IntUntyped(v as u64)"),
      ("ir::Constant::UInt32(v)", "", "ast::Literal::IntUnsigned32(u64::from(v))"),
      ("ir::Constant::Int64(v)", "", "ast::Literal::IntSigned64(v)"),
      ("ir::Constant::UInt64(v)", "", "ast::Literal::IntUnsigned64(v)"),
      ("ir::Constant::FloatLiteral(v)", "", "ast::Literal::FloatUntyped(v)"),
      ("ir::Constant::Float16(v)", "", "ast::Literal::Float16(v)"),
      ("ir::Constant::Float32(v)", "", "ast::Literal::Float32(v)"),
      ("ir::Constant::Float64(v)", "", "ast::Literal::Float64(v)"),
      ("ir::Constant::String(_)", "", "panic!(\"literal string not expected in output\")"),
      ("ir::Constant::Enum(id, ref c)", "", "enum")] ∧
    generateLiteralMsl = generateLiteralHlsl.take 12 ++
      [("ir::Constant::Float64(_)", "", "return Err(GenerateError::UnsupportedDouble)")] ++ generateLiteralHlsl.drop 13 ∧
    parseLiteralArms = [
      ("ast::Literal::Bool(b)", "", "ir::Constant::Bool(*b)"),
      ("ast::Literal::IntUntyped(i)", "", "ir::Constant::IntLiteral(*i as i128)"),
      ("ast::Literal::IntUnsigned32(i)", "", "ir::Constant::UInt32(*i as u32)"),
      ("ast::Literal::IntUnsigned64(_) | ast::Literal::IntSigned64(_)", "", "return Err(TyperError::Int64NotSupported(SourceLocation::UNKNOWN))"),
      ("ast::Literal::FloatUntyped(f)", "", "ir::Constant::FloatLiteral(*f)"),
      ("ast::Literal::Float16(f)", "", "ir::Constant::Float16(*f)"),
      ("ast::Literal::Float32(f)", "", "ir::Constant::Float32(*f)"),
      ("ast::Literal::Float64(f)", "", "ir::Constant::Float64(*f)"),
      ("ast::Literal::String(_)", "", "return Err(TyperError::StringNotSupported(SourceLocation::UNKNOWN))")] :=
  ⟨rfl, rfl, rfl, rfl, rfl, rfl⟩

open RsslVerif.Gen.LitFormatTables in
/-- **Shape obligation, re-extracted from `typer/src/casting.rs` on every run.**  When a context names a scalar
type (initialiser, default argument, `return`, call argument, operand, array element …) the typer folds an untyped
literal into a typed literal of that type — this is the only place between `parse_literal` and `generate_literal` where
the payload of a literal is rewritten.  The two `if let Expression::Literal(Constant::{IntLiteral,FloatLiteral}(v)) = expr
&& target_is_unmodified` blocks are exactly these arms: every result is a single Rust `as` cast of the literal's own
payload (`v as f32` = one narrowing of the double, the `narrow32` of `lex_float_nearest`; `Float64(v)` unchanged), no
arithmetic.  That each cast is Rust's is trusted; the emit stream compares the printed literal with the exact reference
narrowing in 50 declaration / statement forms. -/
theorem literal_fold_as_modelled :
    literalFoldArms = [
      ("IntLiteral", "&& target_is_unmodified", "TypeLayer::Scalar(ScalarType::Bool)", "return Expression::Literal(Constant::Bool(v != 0))"),
      ("IntLiteral", "&& target_is_unmodified", "TypeLayer::Scalar(ScalarType::UInt32)", "return Expression::Literal(Constant::UInt32(v as u32))"),
      ("IntLiteral", "&& target_is_unmodified", "TypeLayer::Scalar(ScalarType::Int32)", "return Expression::Literal(Constant::Int32(v as i32))"),
      ("IntLiteral", "&& target_is_unmodified", "TypeLayer::Scalar(ScalarType::Float16)", "return Expression::Literal(Constant::Float16(v as f32))"),
      ("IntLiteral", "&& target_is_unmodified", "TypeLayer::Scalar(ScalarType::Float32)", "return Expression::Literal(Constant::Float32(v as f32))"),
      ("IntLiteral", "&& target_is_unmodified", "TypeLayer::Scalar(ScalarType::Float64)", "return Expression::Literal(Constant::Float64(v as f64))"),
      ("IntLiteral", "&& target_is_unmodified", "_", ""),
      ("FloatLiteral", "&& target_is_unmodified", "TypeLayer::Scalar(ScalarType::Bool)", "return Expression::Literal(Constant::Bool(v != 0.0))"),
      ("FloatLiteral", "&& target_is_unmodified", "TypeLayer::Scalar(ScalarType::UInt32)", "return Expression::Literal(Constant::UInt32(v as u32))"),
      ("FloatLiteral", "&& target_is_unmodified", "TypeLayer::Scalar(ScalarType::Int32)", "return Expression::Literal(Constant::Int32(v as i32))"),
      ("FloatLiteral", "&& target_is_unmodified", "TypeLayer::Scalar(ScalarType::Float16)", "return Expression::Literal(Constant::Float16(v as f32))"),
      ("FloatLiteral", "&& target_is_unmodified", "TypeLayer::Scalar(ScalarType::Float32)", "return Expression::Literal(Constant::Float32(v as f32))"),
      ("FloatLiteral", "&& target_is_unmodified", "TypeLayer::Scalar(ScalarType::Float64)", "return Expression::Literal(Constant::Float64(v))"),
      ("FloatLiteral", "&& target_is_unmodified", "_", "")] :=
  rfl

open RsslVerif.Gen.LitFormatTables in
/-- non-vacuity: the table is not empty and holds the arm the `initf` / `local` / `ret` … contexts exercise -/
example : ("FloatLiteral", "&& target_is_unmodified", "TypeLayer::Scalar(ScalarType::Float32)",
    "return Expression::Literal(Constant::Float32(v as f32))") ∈ literalFoldArms := by decide +kernel

open RsslVerif.Gen.LitFormatTables in
/-- **msl_double_literal_rejected** (the code as of fix 9824ce3; without it `1.#INFL;` / `1e999L;` on Metal reaches
`write_infinity_f64` and panics with `invalid msl`): (1) the Metal `generate_literal`, as extracted on this run,
has exactly one arm for `ir::Constant::Float64` and it returns `Err(GenerateError::UnsupportedDouble)`; no arm of it builds
an `ast::Literal::Float64`, so the Metal generator hands no double literal — finite or infinite — to the formatter;
(2) `format_literal` (model `fmtFloat`) fails only on a NaN (no literal, not reachable from source) or at that panic site,
and the panic site needs exactly an infinite `Float64` literal printed for Metal: for every other kind, target and bit
pattern `format_literal` returns a text (the third alternative is not a failure of the code but the model leaving its
subset: the `Display` text handed over for a single is not a plain decimal, so `f32_digits_round_twice` — `roundTwice?` —
is not evaluated; Rust's `Display` of a finite float always is, and the run checks that on every case).  Together: compiling for Metal cannot reach the `invalid msl` panic through a
literal; the run replays `1.#INFL`, `1e999L`, `-1e999L` (corpus) and expects the `UnsupportedDouble` rejection. -/
theorem msl_double_literal_rejected :
    generateLiteralMsl.filter (fun a => a.1 = "ir::Constant::Float64(_)" ∨ a.1 = "ir::Constant::Float64(v)") =
      [("ir::Constant::Float64(_)", "", "return Err(GenerateError::UnsupportedDouble)")] ∧
    (∀ a ∈ generateLiteralMsl, a.2.2 ≠ "ast::Literal::Float64(v)") ∧
    (generateLiteralHlsl.filter (fun a => a.2.2 = "ast::Literal::Float64(v)")).map (·.1) = ["ir::Constant::Float64(v)"] ∧
    ∀ (k : Model.LitFormat.Kind) (msl : Bool) (bits : Nat) (disp disp64 : Bytes) (e : String),
      Model.LitFormat.fmtFloat k msl bits disp disp64 = .error e →
        (e = "NaN" ∧ k.fmt.infBits < bits % Model.LitFormat.signBit k.fmt) ∨
        (e = "panic: invalid msl" ∧ k = .f64 ∧ msl = true ∧ bits % Model.LitFormat.signBit k.fmt = k.fmt.infBits) ∨
        (e = Model.LitFormat.notPlain ∧ (k = .f16 ∨ k = .f32) ∧
          Model.LitFormat.roundTwice? (decide (Model.LitFormat.signBit k.fmt ≤ bits))
            (bits % Model.LitFormat.signBit k.fmt) disp = none) :=
  ⟨by decide +kernel, by decide +kernel, by decide +kernel,
    fun _ _ _ _ _ _ h => Model.LitFormat.fmtFloat_error h⟩

/-- non-vacuity: the failing branch exists in the formatter (an infinite `Float64` for Metal), every other infinity prints -/
example : (match Model.LitFormat.fmtFloat .f64 true 0x7ff0000000000000 [] [] with | .error e => e | .ok _ => "") = "panic: invalid msl" ∧
    (Model.LitFormat.fmtFloat .f64 false 0x7ff0000000000000 [] []).toOption = some [49, 46, 35, 73, 78, 70, 76] ∧
    (Model.LitFormat.fmtFloat .f32 true 0x7f800000 [] []).toOption.isSome = true := by decide

/-- **emit_int_exact**: an integer literal whose payload fits its kind (`< 2^64`; `< 2^32` for `u`; `< 2^63` for `l`) is
printed by `format_literal` as `Display` of the payload followed by the kind's suffix, and that text — followed by the end
of the text or by any byte that is not an identifier character and not `.` — is read by `token_intermediate` as exactly
one token: the integer literal of the same kind with the same value.  (A negative value is printed as `-` applied to the
magnitude by `generate_literal`, see `literal_tables_as_modelled`; the `-` is a token of its own.) -/
theorem emit_int_exact (k : Model.LitFormat.Kind) (ity : Option IntType) (hk : k.intType? = some ity) (v : Nat) (tok : Token)
    (hfit : mkIntToken? v ity = some tok) (hv : v < 2 ^ 64) (hs : k = .s64 → v < 2 ^ 63)
    (rest : Bytes) (hb : IntBoundary rest) (inc : Bool) :
    Model.LitFormat.fmtLiteral k false v [] [] = .ok (Model.LitFormat.fmtInt k v) ∧
    tokenIntermediate (Model.LitFormat.fmtInt k v ++ rest) inc = .ok (rest, tok) ∧ tok.intValue? = some (v : Int) := by
  open Model.LitFormat in
  have hsfx : k.suffix = intSuffix ity ∧ fmtLiteral k false v [] [] = .ok (fmtInt k v) := by
    cases k <;> simp [Kind.intType?] at hk <;> subst hk <;> exact ⟨rfl, rfl⟩
  refine ⟨hsfx.2, ?_, mkIntToken?_value hfit⟩
  have hneg : ¬ (k = .s64 ∧ 2 ^ 63 ≤ v) := fun h => absurd (hs h.1) (by omega)
  unfold fmtInt
  rw [if_neg hneg, hsfx.1, List.append_assoc]
  exact tokenInt_printed v hv ity tok hfit rest hb inc

/-- **emit_whole_value_exact** (no assumption): a finite non-negative float whose value is a whole number up to `2^63` —
`0.0`, `1.0f`, `255.0h`, `16777216.0L`, … — is printed as `<integer>.0<suffix>` and read back as the same kind with the
same bits; `2^63` itself is printed as `9223372036854775807.0` (`as i64` saturates) and still reads back as `2^63`. -/
theorem emit_whole_value_exact (k : Model.LitFormat.Kind) (ty : Option FloatType) (hk : k.floatType? = some ty) (msl : Bool)
    (mag n : Nat) (hfin : mag < k.fmt.infBits) (hmax : ¬ (k = .f32 ∧ msl = true ∧ mag = k.fmt.infBits - 1))
    (hw : Model.LitFormat.wholeValue? k.fmt mag = some n) (hn : n ≤ 2 ^ 63) (disp disp64 : Bytes)
    (rest : Bytes) (hb : Boundary rest) (inc : Bool) :
    ∃ text, Model.LitFormat.fmtFloat k msl mag disp disp64 = .ok text ∧
      tokenIntermediate (text ++ rest) inc = .ok (rest, Model.LitFormat.floatTok k mag) := by
  open Model.LitFormat in
  refine ⟨decText (Nat.min n (2 ^ 63 - 1)) ++ dotZero ++ k.suffix, ?_, ?_⟩
  · rw [fmtFloat_finite k ty hk msl mag hfin hmax disp disp64, hw]; simp [hn]
  obtain ⟨d, ds, hdd, hlt, hval, _, _⟩ := decDigits_spec (Nat.min n (2 ^ 63 - 1))
  have htxt : decText (Nat.min n (2 ^ 63 - 1)) = (d :: ds).map Model.Lexer.digitByte := by
    unfold decText; rw [hdd]; rfl
  rw [htxt, ← plainDec_dotZero]
  refine plainDec_token k ty hk mag rest hb inc (d :: ds) [0] (by simp) (by simp)
    (List.forall_mem_append.mpr ⟨hlt, by simp⟩) ?_
  · show narrowOnce ty (Dec2Bin.nearest64 ((d :: ds) ++ [0]) (-1)) = mag
    rw [Dec2Bin.nearest64_append_zero _ hlt, nearest64_int _ hlt, hval]
    have hr := whole_roundtrip k ty hk mag n hfin hw
    by_cases hlt63 : n < 2 ^ 63
    · rwa [show Nat.min n (2 ^ 63 - 1) = n from Nat.min_eq_left (by omega)]
    · -- `2^63` saturates to `i64::MAX`, whose nearest double (and single) is `2^63` again
      have hn63 : n = 2 ^ 63 := by omega
      subst hn63
      have hsame : Dec2Bin.nearestRat Dec2Bin.binary64 (2 ^ 63 - 1) 1 =
          Dec2Bin.nearestRat Dec2Bin.binary64 (2 ^ 63) 1 := by decide
      rwa [show Nat.min (2 ^ 63) (2 ^ 63 - 1) = 2 ^ 63 - 1 by decide, hsame]

/-- **emit_value_exact**: for every float kind (untyped, `h`, `f`, `L`), target, and finite non-negative stored value
`mag` (a binary64 pattern for the untyped and the `L` kind, a binary32 pattern for `f` and — as the code keeps half
literals in an `f32` — for `h`), the text `format_literal` prints, followed by the end of the text or any byte that is not
an identifier character and not `#`, is read by `token_intermediate` as exactly one token: the float literal of the same
kind carrying the same bits.  The assumptions are about Rust's `Display` (`{v}`) only: it writes plain decimal digits
`L[.R]`, with a `.` exactly when the value is not whole (`htext`, `hdot`), and

* `hrt` — for the double-precision kinds, and for whole singles (those above `2^63` are printed `<Display>.0`): the nearest
  double of the digits, narrowed once for a single — i.e. read the way the lexer reads (`lex_float_nearest`) — is the value;
* for a single that is not whole **no such assumption is made** (the code as of fix 265a080): `format_literal` itself tests
  whether its `Display` digits read back through the double (`f32_digits_round_twice`, model `roundTwice?`), and when they
  do not (`0x15ae43fd`, see `emit_f32_double_rounding_repaired`) it prints `Display` of the same value as a double, of which
  `h64` assumes what `hrt` assumes of a double: plain digits `L2.R2` whose nearest double is that double (`widen32 mag`,
  the exact value of the single); narrowing it once gives the single back (`narrow32_widen`, proved for zero, subnormal and
  normal singles).

The correspondence run checks these assumptions bit for bit on every generated value and, in the thorough tier, `hrt` on
all 2^31 singles.  Values printed through `v as i64` need no assumption: `emit_whole_value_exact`. -/
theorem emit_value_exact (k : Model.LitFormat.Kind) (ty : Option FloatType) (hk : k.floatType? = some ty) (msl : Bool)
    (mag : Nat) (hfin : mag < k.fmt.infBits) (hmax : ¬ (k = .f32 ∧ msl = true ∧ mag = k.fmt.infBits - 1))
    (disp : Bytes) (L R : List Nat) (hLne : L ≠ []) (hdig : ∀ d ∈ L ++ R, d < 10)
    (htext : disp = Model.LitFormat.plainDec L R)
    (hdot : R = [] ↔ (Model.LitFormat.wholeValue? k.fmt mag).isSome)
    (hrt : k.fmt = Dec2Bin.binary64 ∨ (Model.LitFormat.wholeValue? k.fmt mag).isSome →
      narrowOnce ty (Dec2Bin.nearest64 (L ++ R) (0 - (R.length : Nat))) = mag)
    (disp64 : Bytes) (L2 R2 : List Nat)
    (h64 : k.fmt = Dec2Bin.binary32 → Model.LitFormat.wholeValue? k.fmt mag = none →
      Dec2Bin.narrow32 (Dec2Bin.nearest64 (L ++ R) (0 - (R.length : Nat))) ≠ mag →
      L2 ≠ [] ∧ R2 ≠ [] ∧ (∀ d ∈ L2 ++ R2, d < 10) ∧ disp64 = Model.LitFormat.plainDec L2 R2 ∧
      Dec2Bin.nearest64 (L2 ++ R2) (0 - (R2.length : Nat)) = Model.LitFormat.widen32 mag)
    (text : Bytes) (h : Model.LitFormat.fmtFloat k msl mag disp disp64 = .ok text) (rest : Bytes) (hb : Boundary rest)
    (inc : Bool) :
    tokenIntermediate (text ++ rest) inc = .ok (rest, Model.LitFormat.floatTok k mag) ∧
    (Model.LitFormat.floatTok k mag).floatBits? = some mag := by
  refine ⟨?_, by cases k <;> rfl⟩
  open Model.LitFormat in
  subst htext
  obtain ⟨_, hfmt, _, _, h32⟩ := kind_facts k ty hk
  cases hw : wholeValue? k.fmt mag with
  | none =>
    -- not whole: `<Display>` and the suffix, or for a single whose digits round twice `<Display of the double>`
    have hR : R ≠ [] := by
      intro hR; have := hdot.mp hR; rw [hw] at this; cases this
    have key := plainDec_token k ty hk mag rest hb inc
    rw [fmtFloat_finite k ty hk msl mag hfin hmax _ disp64, hw] at h
    by_cases hs : k = .f16 ∨ k = .f32
    · have hf : k.fmt = Dec2Bin.binary32 := (kind_single k ty hk).mp hs
      have hrt2 : roundTwice? false mag (plainDec L R) =
          some (Dec2Bin.narrow32 (Dec2Bin.nearest64 (L ++ R) (0 - (R.length : Nat))) != mag) := by
        unfold roundTwice?
        simp only [Bool.false_eq_true, if_false]
        rw [parsePlain_plainDec L R hLne hdig]
      simp only [if_pos hs, hrt2] at h
      by_cases heq : Dec2Bin.narrow32 (Dec2Bin.nearest64 (L ++ R) (0 - (R.length : Nat))) = mag
      · have hb' : (Dec2Bin.narrow32 (Dec2Bin.nearest64 (L ++ R) (0 - (R.length : Nat))) != mag) = false := by
          simpa using heq
        rw [hb'] at h
        simp at h
        subst h
        exact key L R hLne hR hdig (by rw [h32 hf]; exact heq)
      · have hb' : (Dec2Bin.narrow32 (Dec2Bin.nearest64 (L ++ R) (0 - (R.length : Nat))) != mag) = true := by
          simpa using heq
        rw [hb'] at h
        simp at h
        subst h
        obtain ⟨hL2, hR2, hd2, ht2, hv2⟩ := h64 hf hw heq
        rw [ht2]
        refine key L2 R2 hL2 hR2 hd2 ?_
        rw [h32 hf, hv2]
        exact narrow32_widen mag (by rw [← hf]; exact hfin)
    · have hf : k.fmt = Dec2Bin.binary64 := by
        rcases hfmt with hf | hf
        · exact hf
        · exact absurd ((kind_single k ty hk).mpr hf) hs
      simp only [if_neg hs] at h
      simp at h
      subst h
      exact key L R hLne hR hdig (hrt (Or.inl hf))
  | some n =>
    by_cases hn : n ≤ 2 ^ 63
    · -- printed through `v as i64`
      obtain ⟨t, ht, hlex⟩ := emit_whole_value_exact k ty hk msl mag n hfin hmax hw hn _ disp64 rest hb inc
      rw [ht] at h
      simp at h
      subst h
      exact hlex
    · -- whole and above `2^63`: `<Display>.0`
      rw [fmtFloat_finite k ty hk msl mag hfin hmax _ disp64, hw] at h
      simp [hn] at h
      subst h
      have hR : R = [] := hdot.mpr (by rw [hw]; rfl)
      subst hR
      have hrt' := hrt (Or.inr (by rw [hw]; rfl))
      have hL : ∀ d ∈ L, d < 10 := fun d hd => hdig d (by simpa using hd)
      rw [← List.append_assoc, show plainDec L [] ++ dotZero = plainDec L [0] by rw [plainDec_dotZero]; simp [plainDec]]
      refine plainDec_token k ty hk mag rest hb inc L [0] hLne (by simp) (List.forall_mem_append.mpr ⟨hL, by simp⟩) ?_
      show narrowOnce ty (Dec2Bin.nearest64 (L ++ [0]) (-1)) = mag
      rw [Dec2Bin.nearest64_append_zero _ hL]
      simpa using hrt'

/-- **emit_infinity_exact**: `+∞` of every float kind is printed for HLSL as `1.#INF<suffix>` and read back as `+∞` of
the same kind.  (For Metal it is printed as the name `INFINITY`, and the largest single as `FLT_MAX`: not literals; the
run maps the names to their values.) -/
theorem emit_infinity_exact (k : Model.LitFormat.Kind) (ty : Option FloatType) (hk : k.floatType? = some ty)
    (disp disp64 : Bytes) (rest : Bytes) (hb : Boundary rest) (inc : Bool) :
    ∃ text, Model.LitFormat.fmtFloat k false k.fmt.infBits disp disp64 = .ok text ∧
      tokenIntermediate (text ++ rest) inc = .ok (rest, Model.LitFormat.floatTok k k.fmt.infBits) := by
  open Model.LitFormat in
  obtain ⟨hsfx, hfmt, htok, h64, h32⟩ := kind_facts k ty hk
  have hsb := signBit_gt k.fmt hfmt
  refine ⟨infHlsl ++ k.suffix, ?_, ?_⟩
  · unfold fmtFloat
    have hmod : k.fmt.infBits % signBit k.fmt = k.fmt.infBits := Nat.mod_eq_of_lt hsb
    have hnneg : ¬ signBit k.fmt ≤ k.fmt.infBits := by omega
    simp [hmod, hnneg, infText]
  · rw [hsfx]
    have hft := floatType_suffix (printedSuffix ty) rest hb
    rw [suffixBytes_printed, printedSuffix_ty] at hft
    have hv : Dec2Bin.nearest64 [1] 0 = 0x3ff0000000000000 := by decide
    have hlf : literalFloat (infHlsl ++ (floatSuffix ty ++ rest)) = .ok (rest, mkFloatToken Dec2Bin.binary64.infBits ty) :=
      literalFloat_of_parts
        (floatMantissa_point 1 [] [] (by simp) (by simp) _ (fun b r h => by simp at h; rw [← h.1]; decide))
        (floatExponent_none _ (fun b r h => by simp at h; rw [← h.1]; decide)) (by simp)
        (by simp [floatInf, stripPrefix?, float64FromParts, hv]) hft hb
    have hinf : floatTok k (narrowOnce ty Dec2Bin.binary64.infBits) = floatTok k k.fmt.infBits := by
      rcases hfmt with hf | hf
      · rw [h64 hf, hf]
      · rw [h32 hf, hf]; rfl
    rw [htok, hinf] at hlf
    rw [List.append_assoc]
    exact token_of_float_ok (b := 49) inc (by decide) hlf

/-- non-vacuity of `emit_value_exact`: the single `0.1f` (`0x3dcccccd`, `Display` = `0.1`, as a double
`0.10000000149011612`): the hypotheses hold (its digits do not round twice, so `h64` asks nothing) and the printed text
`0.1f;` lexes to `Float32 0x3dcccccd` followed by `;` -/
example : Dec2Bin.narrow32 (Dec2Bin.nearest64 ([0] ++ [1]) (0 - 1)) = 0x3dcccccd ∧
    Model.LitFormat.wholeValue? Dec2Bin.binary32 0x3dcccccd = none ∧
    Model.LitFormat.plainDec [0] [1] = [48, 46, 49] ∧
    Model.LitFormat.roundTwice? false 0x3dcccccd [48, 46, 49] = some false ∧
    (Model.LitFormat.fmtFloat .f32 false 0x3dcccccd [48, 46, 49]
      [48, 46, 49, 48, 48, 48, 48, 48, 48, 48, 49, 52, 57, 48, 49, 49, 54, 49, 50]).toOption = some [48, 46, 49, 102] ∧
    (tokenIntermediate [48, 46, 49, 102, 59] false).toOption = some ([59], .litFloat32 0x3dcccccd) := by decide
/-- non-vacuity of the `<Display>.0` arm of `emit_value_exact`: `1e30f` (`0x7149f2ca`, `Display` = 1 followed by 30 zeros) -/
example : Dec2Bin.narrow32 (Dec2Bin.nearest64 (1 :: List.replicate 30 0) 0) = 0x7149f2ca ∧
    (Model.LitFormat.wholeValue? Dec2Bin.binary32 0x7149f2ca).isSome = true ∧
    (Model.LitFormat.fmtFloat .f32 false 0x7149f2ca (49 :: List.replicate 30 48) []).toOption =
      some (49 :: List.replicate 30 48 ++ [46, 48, 102]) ∧
    (tokenIntermediate (49 :: List.replicate 30 48 ++ [46, 48, 102, 41]) false).toOption =
      some ([41], .litFloat32 0x7149f2ca) := by decide
/-- non-vacuity of `emit_whole_value_exact`: `255.0h` and the saturating `2^63` as a double -/
example : (Model.LitFormat.fmtFloat .f16 true 0x437f0000 [] []).toOption = some [50, 53, 53, 46, 48, 104] ∧
    (tokenIntermediate [50, 53, 53, 46, 48, 104] false).toOption = some ([], .litFloat16 0x437f0000) := by decide
/-- non-vacuity of `emit_int_exact`: `4294967295u)` -/
example : Model.LitFormat.fmtInt .u32 4294967295 = [52, 50, 57, 52, 57, 54, 55, 50, 57, 53, 117] ∧
    (tokenIntermediate ([52, 50, 57, 52, 57, 54, 55, 50, 57, 53, 117] ++ [41]) false).toOption = some ([41], .litIntU32 4294967295) := by
  decide

/-- **emit_negative_exact**: a finite negative float (sign bit set; Rust's `Display` writes `-` and the digits of the
magnitude, for the value itself and for the value as a double alike; `f32_digits_round_twice` gives the same answer as
for the magnitude) is printed as `-` followed by exactly the text of its magnitude, and `token_intermediate` reads that `-` as
the token `Minus` and leaves the magnitude's text — to which `emit_value_exact` applies — untouched.  (`-2^63` is printed
exactly, `-9223372036854775808.0`, while `+2^63` saturates: excluded here, covered by the run.)  Negative integers are
built as `Minus` applied to the magnitude by `generate_literal` itself (`literal_tables_as_modelled`). -/
theorem emit_negative_exact (k : Model.LitFormat.Kind) (ty : Option FloatType) (hk : k.floatType? = some ty) (msl : Bool)
    (mag : Nat) (hfin : mag < k.fmt.infBits) (hmax : ¬ (k = .f32 ∧ msl = true ∧ mag = k.fmt.infBits - 1))
    (h63 : Model.LitFormat.wholeValue? k.fmt mag ≠ some (2 ^ 63)) (disp disp64 t : Bytes)
    (ht : Model.LitFormat.fmtFloat k msl mag disp disp64 = .ok t) :
    Model.LitFormat.fmtFloat k msl (Model.LitFormat.signBit k.fmt + mag) (45 :: disp) (45 :: disp64) = .ok (45 :: t) ∧
    ∀ (d : UInt8) (r rest : Bytes) (inc : Bool), t = d :: r → 48 ≤ d.toNat ∧ d.toNat ≤ 57 →
      tokenIntermediate (45 :: t ++ rest) inc = .ok (t ++ rest, .simple .Minus) := by
  refine ⟨?_, ?_⟩
  · rw [Model.LitFormat.fmtFloat_negative k ty hk msl mag hfin hmax h63 disp disp64, ht]
  · intro d r rest inc htd hd
    subst htd
    exact minus_before_digit d (r ++ rest) hd inc

/-- non-vacuity: `-0.1f` (`0xbdcccccd`): printed `-0.1f`, read as `Minus`, `Float32 0x3dcccccd` -/
example : (Model.LitFormat.fmtFloat .f32 false 0xbdcccccd [45, 48, 46, 49] []).toOption = some [45, 48, 46, 49, 102] ∧
    (tokenIntermediate [45, 48, 46, 49, 102] false).toOption = some ([48, 46, 49, 102], .simple .Minus) := by decide

/-- the `Display` text of the single `0x15ae43fd`: `0.00000000000000000000000007038531` -/
def disp15ae43fd : Bytes := [48, 46] ++ List.replicate 25 48 ++ [55, 48, 51, 56, 53, 51, 49]
/-- the `Display` text of the same value as a double: `0.00000000000000000000000007038530691851209` -/
def disp15ae43fdWide : Bytes :=
  [48, 46] ++ List.replicate 25 48 ++ [55, 48, 51, 56, 53, 51, 48, 54, 57, 49, 56, 53, 49, 50, 48, 57]

/-- **emit_f32_double_rounding_repaired** (the code as of fix 265a080; the text `0.00000000000000000000000007038531f`, the
`Display` digits of the single with the suffix, lexes to `0x15ae43fe`).  The
single `0x15ae43fd` has the shortest round-trip decimal `7.038531e-26` — read directly as a single it is the nearest — but
the lexer reads a literal through the nearest double and narrows once, and the nearest double of that decimal is the exact
midpoint of `0x15ae43fd` and `0x15ae43fe`, which ties to the even neighbour: those digits still round twice (first three
conjuncts; `f32_digits_round_twice` = `roundTwice?` says so).  `format_literal` therefore prints, for the `f` and the `h`
kind, for both targets and for both signs, `Display` of the same value as a double, `…07038530691851209`; those digits
name the double `0x3ab5c87fa0000000` = the exact value of the single (`widen32`), and the printed text is read back by
`token_intermediate` as one literal of the same kind holding `0x15ae43fd` again.  With `emit_value_exact` (which has
no hypothesis about the `Display` digits of a non-whole single) no single is left for which the output differs. -/
theorem emit_f32_double_rounding_repaired :
    Dec2Bin.nearest32 [7, 0, 3, 8, 5, 3, 1] (-32) = 0x15ae43fd ∧
    Dec2Bin.narrow32 (Dec2Bin.nearest64 [7, 0, 3, 8, 5, 3, 1] (-32)) = 0x15ae43fe ∧
    Model.LitFormat.roundTwice? false 0x15ae43fd disp15ae43fd = some true ∧
    Model.LitFormat.widen32 0x15ae43fd = 0x3ab5c87fa0000000 ∧
    Dec2Bin.nearest64 [7, 0, 3, 8, 5, 3, 0, 6, 9, 1, 8, 5, 1, 2, 0, 9] (-41) = 0x3ab5c87fa0000000 ∧
    (∀ k ∈ [Model.LitFormat.Kind.f16, Model.LitFormat.Kind.f32], ∀ msl ∈ [true, false],
      (Model.LitFormat.fmtFloat k msl 0x15ae43fd disp15ae43fd disp15ae43fdWide).toOption =
        some (disp15ae43fdWide ++ k.suffix) ∧
      (Model.LitFormat.fmtFloat k msl 0x95ae43fd (45 :: disp15ae43fd) (45 :: disp15ae43fdWide)).toOption =
        some (45 :: disp15ae43fdWide ++ k.suffix)) ∧
    (tokenIntermediate (disp15ae43fdWide ++ [102]) false).toOption = some ([], .litFloat32 0x15ae43fd) ∧
    (tokenIntermediate (disp15ae43fdWide ++ [104, 59]) false).toOption = some ([59], .litFloat16 0x15ae43fd) := by
  decide

open RsslVerif.Model.SourceMap in
/-- **multi_file_spans_in_file**: let the `SourceManager` hold any files `pre`, then `f`, then any files `post` (entry
file, included files, `<define>` files, `<scratch space>` files of `##` results — a file is a file).  Lexing `f` with
`TokenStream::new(contents, base_location)` gives tokens whose start and end locations `base + start`, `base + stop`
all decode (`get_file_offset_from_source_location`, `get_file_location`) to file `f` itself, at offsets
`start ≤ stop ≤ |f|` — never to a neighbouring file, whatever the neighbours contain — and to `f`'s name with the line
and column counted inside `f` alone. -/
theorem multi_file_spans_in_file (pre post : SourceManager) (f : SourceFile) (trailing debug : Bool) (ts : List PTok)
    (h : readToEnd f.contents trailing debug = .ok ts) :
    ∀ t ∈ ts, t.start ≤ t.stop ∧ t.stop ≤ f.contents.length ∧
      getFileOffset (pre ++ f :: post) (totalSlots pre + t.start) = some (pre.length, t.start) ∧
      getFileOffset (pre ++ f :: post) (totalSlots pre + t.stop) = some (pre.length, t.stop) ∧
      getFileLocation (pre ++ f :: post) (totalSlots pre + t.start) =
        .known f.name (lineCol f.contents t.start).line (lineCol f.contents t.start).col := by
  intro t ht
  obtain ⟨_, hb⟩ := chain_bounds (spans_tile h).chain
  obtain ⟨_, h2, h3⟩ := hb t ht
  have ds := Lemmas.SourceMap.decode_in_file pre post f t.start (by omega)
  have de := Lemmas.SourceMap.decode_in_file pre post f t.stop h3
  exact ⟨h2, h3, ds.2, de.2, ds.1⟩

open RsslVerif.Model.SourceMap in
/-- **multi_file_error_in_file**: a lexer diagnostic for file `f` of a multi-file manager is positioned inside `f`: its
location `base + offset` decodes to `f` at `offset ≤ |f|` and is printed with `f`'s name. -/
theorem multi_file_error_in_file (pre post : SourceManager) (f : SourceFile) (trailing debug : Bool) (k : Reason)
    (off : Nat) (h : readToEnd f.contents trailing debug = .error (.lexer k off)) :
    off ≤ f.contents.length ∧
      getFileOffset (pre ++ f :: post) (totalSlots pre + off) = some (pre.length, off) ∧
      getFileLocation (pre ++ f :: post) (totalSlots pre + off) =
        .known f.name (lineCol f.contents off).line (lineCol f.contents off).col := by
  have hle := error_pos_in_range h
  have d := Lemmas.SourceMap.decode_in_file pre post f off hle
  exact ⟨hle, d.2, d.1⟩

/-- non-vacuity: two files; the second one (`a<b`) starts at raw location 3; its token `<` at offset 1 is location 4 and
decodes to file 1, offset 1, line 1, column 2 -/
example : (readToEnd [97, 60, 98] true true).toOption.map (·.map fun t => (t.start, t.stop)) =
      some [(0, 1), (1, 2), (2, 3), (3, 3)] ∧
    Model.SourceMap.getFileOffset [⟨"m", [120, 10]⟩, ⟨"a.h", [97, 60, 98]⟩] (3 + 1) = some (1, 1) ∧
    Model.SourceMap.getFileLocation [⟨"m", [120, 10]⟩, ⟨"a.h", [97, 60, 98]⟩] (3 + 1) = .known "a.h" 1 2 := by
  decide +kernel

end RsslVerif.Thm.C10
