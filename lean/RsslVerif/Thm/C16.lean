import RsslVerif.Lemmas.Overload
import RsslVerif.Lemmas.Conv
import RsslVerif.Lemmas.OverloadLazy
import RsslVerif.Lemmas.OverloadT
import RsslVerif.Lemmas.OverloadCall
import RsslVerif.Lemmas.OverloadSeq
import RsslVerif.Gen.ResolveShape
import RsslVerif.Model.OverloadSrc
/-!
# C16 — overload resolution is order-independent and prefers exact matches

The statements are about `Model.Overload.resolve`, the model of `find_function_type`, its forms for candidates of every
kind (`resolveG`, `resolveT`), the whole call (`callT`) and calls interleaved with declarations (`runSeq`), over
**arbitrary** candidate lists, arities and argument lists (no size bound), with the conversion ranks coming from
`Model.Conv.find`/`getRank` and the rank tables re-extracted from casting.rs on every run (`Gen.RankTable`).
-/
namespace RsslVerif.Thm.C16
open RsslVerif.Gen.RankTable RsslVerif.Model.Conv RsslVerif.Model.Overload RsslVerif.Spec.Overload
open RsslVerif.Lemmas.Overload RsslVerif.Lemmas.Conv RsslVerif.Lemmas.OverloadT RsslVerif.Lemmas.OverloadCall
open RsslVerif.Lemmas.OverloadSeq

/-- `NumericRank::compare` never reaches its `unreachable!()` arm -/
theorem compare_total (a b : NumRank) : (a.compare b).isSome = true := by
  cases a <;> cases b <;> decide

/-- the `unreachable!()` arms of the `(source_scalar, dest_scalar)` match are exactly the diagonal, which `find`
    never asks for: `find` does not panic -/
theorem primaryRank_diag (s d : Scalar) : (primaryRank s d).isNone = decide (s = d) :=
  primaryRank_isNone s d

/-- converting between different scalar kinds is never ranked `Exact` -/
theorem primaryRank_ne_exact (s d : Scalar) : primaryRank s d ≠ some .exact := by
  cases s <;> cases d <;> decide

/-- `NumericRank::order` is the priority list the property talks about -/
theorem order_agrees (r : NumRank) : r.order = numBadness r := order_eq_badness r

/-- `VectorRank::worst_to_best` lists every vector rank once, worst first, in the property's order -/
theorem worstToBest_agrees :
    VecRank.worstToBest.map vecBadness = [2, 1, 0] ∧ VecRank.worstToBest.length = VecRank.all.length := by
  decide

/-- `out` and `inout` parameters need an lvalue argument, `in` parameters do not -/
theorem needsLvalue_table :
    InputModifier.in.needsLvalue = false ∧ InputModifier.out.needsLvalue = true ∧
    InputModifier.inOut.needsLvalue = true := by decide

/-- **Order independence.** For any two declaration orders of the same candidates (any permutation, any number of
    candidates, any arities, any arguments) `find_function_type` gives the same verdict: the same selected
    overload, or the same set of ambiguous overloads, or unmatched in both, or a panic in both. -/
theorem resolve_perm {cands cands' : List Cand} (h : List.Perm cands cands') (args : List ETy) :
    Outcome.Equiv (resolve cands args) (resolve cands' args) :=
  resolveResults_perm (h.map (rankCand args))

/-- the same, for the verdict in the form the correspondence run compares (ambiguous ids sorted): **equal** -/
theorem resolve_perm_normalized {cands cands' : List Cand} (h : List.Perm cands cands') (args : List ETy) :
    (resolve cands args).normalize = (resolve cands' args).normalize :=
  normalize_eq_of_equiv (resolve_perm h args)

/-- non-vacuity of `resolve_perm`: a three-candidate set where the verdict is a selection, and one where it is an
    ambiguity listed in a different order -/
example :
    let fI : Cand := ⟨0, [⟨⟨{}, .scalar .int32⟩, .in⟩], 1⟩
    let fU : Cand := ⟨1, [⟨⟨{}, .scalar .uInt32⟩, .in⟩], 1⟩
    let fF : Cand := ⟨2, [⟨⟨{}, .scalar .float32⟩, .in⟩], 1⟩
    resolve [fI, fU, fF] [⟨⟨{}, .scalar .uInt32⟩, .rvalue⟩] = .selected 1 ∧
    resolve [fF, fU, fI] [⟨⟨{}, .scalar .uInt32⟩, .rvalue⟩] = .selected 1 ∧
    resolve [fI, fU, fF] [⟨⟨{}, .scalar .intLiteral⟩, .rvalue⟩] = .ambiguous [0, 1] ∧
    resolve [fF, fU, fI] [⟨⟨{}, .scalar .intLiteral⟩, .rvalue⟩] = .ambiguous [1, 0] := by decide +kernel

/-- a selected overload is one of the candidates and is viable for the call -/
theorem selected_is_viable {cands : List Cand} {args : List ETy} {i : Nat}
    (h : resolve cands args = .selected i) : ∃ c ∈ cands, c.id = i ∧ ∃ rc, Viable args c rc :=
  resolve_selected h

/-- **Not dominated.** If a call is accepted, no viable candidate converts every argument at least as well as the
    selected one and some argument strictly better (ranks compared lexicographically: numeric rank, then vector rank). -/
theorem selected_not_dominated {cands : List Cand} {args : List ETy} {i : Nat}
    (hid : (cands.map (·.id)).Nodup) (h : resolve cands args = .selected i) :
    ∃ c ∈ cands, c.id = i ∧ ∃ rc, Viable args c rc ∧
      ∀ d ∈ cands, ∀ rd, Viable args d rd → ¬ Dominates rd rc :=
  results_not_dominated (fun _ _ _ => rankCand_id) hid h

/-- componentwise domination (no argument worse in either component, one strictly better) is a special case -/
theorem selected_not_dominated_componentwise {cands : List Cand} {args : List ETy} {i : Nat}
    (hid : (cands.map (·.id)).Nodup) (h : resolve cands args = .selected i) :
    ∃ c ∈ cands, c.id = i ∧ ∃ rc, Viable args c rc ∧
      ∀ d ∈ cands, ∀ rd, Viable args d rd → ¬ (AllLeBoth rd rc ∧ SomeLt rd rc) := by
  obtain ⟨c, hc, hci, rc, hv, hnd⟩ := selected_not_dominated hid h
  exact ⟨c, hc, hci, rc, hv, fun d hd rd hvd ⟨hall, hsome⟩ => hnd d hd rd hvd ⟨allLe_of_allLeBoth hall, hsome⟩⟩

/-- **Exact matches decide the call.** If some candidate matches the arguments exactly (and no panic site is
    reached), the candidates left at the end of `find_function_type` are precisely the exactly matching ones. -/
theorem finals_are_the_exact_matches {cands : List Cand} {args : List ETy}
    (hid : (cands.map (·.id)).Nodup) {c : Cand} (hc : c ∈ cands) (hex : ExactMatch args c)
    (y : Nat × List Rank) :
    y ∈ finals (winners (rankedList cands args)) ↔ y ∈ rankedList cands args ∧ RankExact y.2 :=
  results_finals_exact (kind_plain args hid) hc hex y

/-- **A unique exact match is selected.** -/
theorem unique_exact_selected {cands : List Cand} {args : List ETy}
    (hid : (cands.map (·.id)).Nodup) {c : Cand} (hc : c ∈ cands)
    (hex : ExactMatch args c) (huniq : ∀ d ∈ cands, ExactMatch args d → d.id = c.id) :
    resolve cands args = .selected c.id :=
  results_unique_exact (kind_plain args hid) (noPanic_always cands args) hc hex huniq

/-- **Two exact matches are ambiguous** (the reading recorded in DESIGN.md: `f(int)` / `f(out int)` called with an
    lvalue, or `f(int)` / `f(int, int = 0)` called with one argument).  The reported set contains both and consists of
    exactly matching candidates only. -/
theorem twin_exact_ambiguous {cands : List Cand} {args : List ETy}
    (hid : (cands.map (·.id)).Nodup) {c d : Cand} (hc : c ∈ cands) (hd : d ∈ cands)
    (hne : c.id ≠ d.id) (hexc : ExactMatch args c) (hexd : ExactMatch args d) :
    ∃ ids, resolve cands args = .ambiguous ids ∧ c.id ∈ ids ∧ d.id ∈ ids ∧
      ∀ i ∈ ids, ∃ e ∈ cands, e.id = i ∧ ExactMatch args e :=
  results_twin_exact (kind_plain args hid) (noPanic_always cands args) hc hd hne hexc hexd

/-- `f(int)`, `f(uint)`, `f(float3)` called with an `int` lvalue: hypotheses of `unique_exact_selected` hold -/
example :
    let fI : Cand := ⟨0, [⟨⟨{}, .scalar .int32⟩, .in⟩], 1⟩
    let fU : Cand := ⟨1, [⟨⟨{}, .scalar .uInt32⟩, .in⟩], 1⟩
    let fV : Cand := ⟨2, [⟨⟨{}, .vector .float32 3⟩, .in⟩], 1⟩
    let a : List ETy := [⟨⟨{}, .scalar .int32⟩, .lvalue⟩]
    rankCand a fI = .ranked 0 [⟨.exact, .exact⟩] ∧ rankCand a fU = .ranked 1 [⟨.promotion, .exact⟩] ∧
    rankCand a fV = .ranked 2 [⟨.conversion, .expand⟩] ∧ resolve [fV, fU, fI] a = .selected 0 := by decide +kernel

/-- the recorded reading: `f(int)` / `f(out int)` with an lvalue argument are both exact, hence ambiguous -/
theorem in_out_twin_is_ambiguous :
    resolve [⟨0, [⟨⟨{}, .scalar .int32⟩, .in⟩], 1⟩, ⟨1, [⟨⟨{}, .scalar .int32⟩, .out⟩], 1⟩]
      [⟨⟨{}, .scalar .int32⟩, .lvalue⟩] = .ambiguous [0, 1] := by decide +kernel

/-- the second reading: a defaulted trailing parameter takes no part, `f(int3)` / `f(int3, double4 = ..)` tie -/
theorem default_twin_is_ambiguous :
    resolve [⟨0, [⟨⟨{}, .vector .int32 3⟩, .in⟩], 1⟩,
             ⟨1, [⟨⟨{}, .vector .int32 3⟩, .in⟩, ⟨⟨{}, .vector .float64 4⟩, .in⟩], 1⟩]
      [⟨⟨{}, .vector .int32 3⟩, .lvalue⟩] = .ambiguous [0, 1] := by decide +kernel

/-- outside the property's grid: with 1-vectors `int → int1` is ranked as exact as `int → int`, so `f(int)` is
    **not** preferred over `f(int1)` for an `int` argument (confirmed on the real code, see notes/C16.md) -/
theorem vec1_twin_is_ambiguous :
    resolve [⟨0, [⟨⟨{}, .scalar .int32⟩, .in⟩], 1⟩, ⟨1, [⟨⟨{}, .vector .int32 1⟩, .in⟩], 1⟩]
      [⟨⟨{}, .scalar .int32⟩, .lvalue⟩] = .ambiguous [0, 1] := by decide +kernel

/-- the tournament can have no winner although every candidate is viable: the call is then unmatched -/
theorem tournament_without_winner :
    resolve [⟨0, [⟨⟨{}, .vector .float32 2⟩, .in⟩, ⟨⟨{}, .scalar .int32⟩, .in⟩], 2⟩,
             ⟨1, [⟨⟨{}, .scalar .int32⟩, .in⟩, ⟨⟨{}, .scalar .float32⟩, .in⟩], 2⟩]
      [⟨⟨{}, .scalar .intLiteral⟩, .rvalue⟩, ⟨⟨{}, .scalar .intLiteral⟩, .rvalue⟩] = .unmatched := by decide +kernel

/-- a scalar argument for a matrix parameter is ranked `Expand` (`get_rank` as of /repo 368a51b) and selected; corpus
    lines replay it on the real code -/
theorem scalar_to_matrix_selected :
    rankCand [⟨⟨{}, .scalar .float32⟩, .rvalue⟩] ⟨0, [⟨⟨{}, .matrix .float32 2 2⟩, .in⟩], 1⟩
      = .ranked 0 [⟨.exact, .expand⟩] ∧
    resolve [⟨0, [⟨⟨{}, .matrix .float32 2 2⟩, .in⟩], 1⟩] [⟨⟨{}, .scalar .float32⟩, .rvalue⟩] = .selected 0 ∧
    resolve [⟨0, [⟨⟨{}, .matrix .float32 2 2⟩, .in⟩], 1⟩, ⟨1, [⟨⟨{}, .scalar .int32⟩, .in⟩], 1⟩]
      [⟨⟨{}, .scalar .float32⟩, .rvalue⟩] = .selected 0 := by decide +kernel

/-- `ImplicitConversion::find` never reaches the `unreachable!()` arms of its rank table -/
theorem find_total (s d : ETy) : ∃ r, find s d = .ok r := find_no_panic s d

/-- `get_rank` after `find` does not panic for a non-matrix destination (kept from before /repo 368a51b; subsumed by
    `findRank_total`) -/
theorem findRank_total_off_matrix {a d : ETy} (hd : ¬ IsMatrix d.ty.layer) : ∃ r, findRank a d = .ok r :=
  findRank_no_panic hd

/-- **since /repo 368a51b** (`get_rank` ranks scalar → matrix as `Expand`): `find` followed by `get_rank` never
    panics, for any two expression types — every dimension cast `find` can build has an arm in `get_rank` -/
theorem findRank_total (a d : ETy) : ∃ r, findRank a d = .ok r := RsslVerif.Lemmas.Conv.findRank_total a d

/-- overload resolution reaches no panic site, for **any** candidates and arguments -/
theorem resolve_no_panic (cands : List Cand) (args : List ETy) : resolve cands args ≠ .panic :=
  results_ne_panic (noPanic_always cands args)

/-- on the property's grid, the rank-level notion used above is literally "parameter types equal argument types" -/
theorem exact_rank_iff_same_type_on_grid {args : List ETy} {c : Cand}
    (hp : ∀ p ∈ c.params, OnGrid p.ty.layer) (ha : ∀ a ∈ args, ArgOnGrid a.ty.layer) :
    ExactMatch args c ↔ TypeExact args c := exactMatch_iff_typeExact hp ha

/-- **The property's second sentence on its own quantifier.** Candidates over
    {bool,int,uint,half,float,double} × {scalar,2,3,4-vector} × in/out/inout, arguments of those types or untyped
    literals: a viable candidate whose parameter types equal the argument types, if it is the only such candidate,
    is selected — whatever else is declared, in whatever order. -/
theorem exact_type_match_selected_on_grid {cands : List Cand} {args : List ETy}
    (hid : (cands.map (·.id)).Nodup)
    (hgrid : ∀ c ∈ cands, ∀ p ∈ c.params, OnGrid p.ty.layer) (hargs : ∀ a ∈ args, ArgOnGrid a.ty.layer)
    {c : Cand} (hc : c ∈ cands) (hex : TypeExact args c)
    (huniq : ∀ d ∈ cands, TypeExact args d → d.id = c.id) :
    resolve cands args = .selected c.id := by
  apply unique_exact_selected hid hc
    ((exactMatch_iff_typeExact (hgrid c hc) hargs).mpr hex)
  intro d hd hde
  exact huniq d hd ((exactMatch_iff_typeExact (hgrid d hd) hargs).mp hde)

/-- ... and with several such candidates the call is ambiguous between exactly those -/
theorem exact_type_twins_ambiguous_on_grid {cands : List Cand} {args : List ETy}
    (hid : (cands.map (·.id)).Nodup)
    (hgrid : ∀ c ∈ cands, ∀ p ∈ c.params, OnGrid p.ty.layer) (hargs : ∀ a ∈ args, ArgOnGrid a.ty.layer)
    {c d : Cand} (hc : c ∈ cands) (hd : d ∈ cands) (hne : c.id ≠ d.id)
    (hexc : TypeExact args c) (hexd : TypeExact args d) :
    ∃ ids, resolve cands args = .ambiguous ids ∧ c.id ∈ ids ∧ d.id ∈ ids ∧
      ∀ i ∈ ids, ∃ e ∈ cands, e.id = i ∧ TypeExact args e := by
  obtain ⟨ids, hr, h1, h2, h3⟩ := twin_exact_ambiguous hid hc hd hne
    ((exactMatch_iff_typeExact (hgrid c hc) hargs).mpr hexc)
    ((exactMatch_iff_typeExact (hgrid d hd) hargs).mpr hexd)
  refine ⟨ids, hr, h1, h2, ?_⟩
  intro i hi
  obtain ⟨e, he, hei, hee⟩ := h3 i hi
  exact ⟨e, he, hei, (exactMatch_iff_typeExact (hgrid e he) hargs).mp hee⟩

/-- non-vacuity: hypotheses of `exact_type_match_selected_on_grid` on a 3-candidate, 2-argument call with an
    `out` parameter and an untyped literal -/
example :
    let c0 : Cand := ⟨0, [⟨⟨{}, .vector .float32 3⟩, .out⟩, ⟨⟨{}, .scalar .int32⟩, .in⟩], 2⟩
    let c1 : Cand := ⟨1, [⟨⟨{}, .vector .float32 3⟩, .out⟩, ⟨⟨{}, .scalar .float32⟩, .in⟩], 2⟩
    let c2 : Cand := ⟨2, [⟨⟨{}, .vector .float32 2⟩, .in⟩, ⟨⟨{}, .scalar .bool⟩, .in⟩], 2⟩
    let a : List ETy := [⟨⟨{}, .vector .float32 3⟩, .lvalue⟩, ⟨⟨{}, .scalar .float32⟩, .rvalue⟩]
    let lit : List ETy := [⟨⟨{}, .vector .float32 3⟩, .lvalue⟩, ⟨⟨{}, .scalar .intLiteral⟩, .rvalue⟩]
    resolve [c0, c1, c2] a = .selected 1 ∧ resolve [c2, c1, c0] a = .selected 1 ∧
    resolve [c0, c1, c2] lit = .selected 0 ∧ resolve [c1, c2, c0] lit = .selected 0 := by decide +kernel

/-- **Refinement.** `resolveLazy` transcribes `find_function_type` with `get_rank` evaluated exactly where the Rust
    code evaluates it (inside the tournament's `zip` loop, with the `continue`/`break` of the `against` loop, and again
    in `count_by_rank`).  For pairwise distinct `FunctionId`s it computes the same outcome — including *whether* a
    panic is reached — as `resolve`, which ranks everything first.  Every theorem above is therefore a theorem about
    the literal transcription. -/
theorem resolveLazy_eq_resolve (cands : List Cand) (args : List ETy) (hid : (cands.map (·.id)).Nodup) :
    resolveLazy cands args = resolve cands args :=
  resolveLazy_eq cands args hid

/-- order independence, stated for the literal transcription -/
theorem resolveLazy_perm {cands cands' : List Cand} (h : List.Perm cands cands') (args : List ETy)
    (hid : (cands.map (·.id)).Nodup) :
    (resolveLazy cands args).normalize = (resolveLazy cands' args).normalize := by
  rw [resolveLazy_eq_resolve cands args hid,
      resolveLazy_eq_resolve cands' args ((h.map (·.id)).nodup_iff.mp hid)]
  exact resolve_perm_normalized h args

/-! ## candidates of every kind: function templates, default arguments, methods, intrinsics

`GCand` is a candidate whose first half of `find_overload_casts` (template argument deduction and instantiation) is an
**arbitrary** function of the argument types that may succeed, fail or panic, with an arbitrary arity range
(`nonDefault ≤ #args ≤ arity`).  Ordinary functions (`Cand.toG`) and the function templates of the correspondence run
(`TCand.toG`: `T`, `vector<T, n>`, `matrix<T, x, y>`, `T p[n]`, type and value template parameters, explicit template
arguments) are instances.  `WF` says that instantiating does not change the number of parameters. -/

/-- **Order independence, candidates of every kind.**  Whatever the deduction relation, the arity ranges and the
    arguments: permuting the declaration order leaves the verdict unchanged (also *whether* a panic site is reached). -/
theorem resolveG_perm {cands cands' : List GCand} (h : List.Perm cands cands') (args : List ETy) :
    Outcome.Equiv (resolveG cands args) (resolveG cands' args) :=
  resolveResults_perm (h.map (rankG args))

theorem resolveG_perm_normalized {cands cands' : List GCand} (h : List.Perm cands cands') (args : List ETy) :
    (resolveG cands args).normalize = (resolveG cands' args).normalize :=
  normalize_eq_of_equiv (resolveG_perm h args)

/-- ordinary functions seen as `GCand`s resolve exactly as `resolve` resolves them -/
theorem resolveG_of_plain (cands : List Cand) (args : List ETy) :
    resolveG (cands.map Cand.toG) args = resolve cands args := resolveG_plain cands args

/-- ordinary functions and the generator's function templates are well-formed -/
theorem plain_wf (c : Cand) : WF c.toG := toG_wf c
theorem template_wf (explicit : List TArg) (c : TCand) : WF (c.toG explicit) := tcand_wf explicit c

/-- **Not dominated, candidates of every kind** (default arguments and templates included): the selected candidate
    is viable and no viable candidate converts every argument at least as well and one strictly better. -/
theorem selectedG_not_dominated {cands : List GCand} {args : List ETy} {i : Nat}
    (hwf : ∀ g ∈ cands, WF g) (hid : (cands.map (·.id)).Nodup) (h : resolveG cands args = .selected i) :
    ∃ g ∈ cands, g.id = i ∧ ∃ rc, ViableG args g rc ∧
      ∀ d ∈ cands, ∀ rd, ViableG args d rd → ¬ Dominates rd rc :=
  results_not_dominated (fun _ _ _ hr => (rankG_ranked hr).1) hid h

/-- a selected candidate of any kind is one of the declared candidates and viable -/
theorem selectedG_is_viable {cands : List GCand} {args : List ETy} {i : Nat}
    (hwf : ∀ g ∈ cands, WF g) (hid : (cands.map (·.id)).Nodup) (h : resolveG cands args = .selected i) :
    ∃ g ∈ cands, g.id = i ∧ ∃ rc, ViableG args g rc :=
  results_selected (fun _ _ _ hr => (rankG_ranked hr).1) h

/-- **A unique exact match is selected, candidates of every kind** — provided no candidate's instantiation panics
    (`GCand.inst` is an arbitrary function; for the declared overloads of the correspondence run the hypothesis is
    discharged by `Thm.C16.templates_never_panic`). -/
theorem unique_exact_selectedG {cands : List GCand} {args : List ETy}
    (hwf : ∀ g ∈ cands, WF g) (hid : (cands.map (·.id)).Nodup) (hnp : NoPanicG cands args)
    {g : GCand} (hg : g ∈ cands) (hex : ExactMatchG args g)
    (huniq : ∀ d ∈ cands, ExactMatchG args d → d.id = g.id) :
    resolveG cands args = .selected g.id :=
  results_unique_exact (kind_G args hwf hid) hnp hg hex huniq

/-- **Two exact matches are ambiguous, candidates of every kind** (e.g. `template<typename T> f(T)` next to `f(int)`
    for an `int` argument: the type checker does not prefer the non-template). -/
theorem twin_exact_ambiguousG {cands : List GCand} {args : List ETy}
    (hwf : ∀ g ∈ cands, WF g) (hid : (cands.map (·.id)).Nodup) (hnp : NoPanicG cands args)
    {g d : GCand} (hg : g ∈ cands) (hd : d ∈ cands) (hne : g.id ≠ d.id)
    (hexg : ExactMatchG args g) (hexd : ExactMatchG args d) :
    ∃ ids, resolveG cands args = .ambiguous ids ∧ g.id ∈ ids ∧ d.id ∈ ids ∧
      ∀ i ∈ ids, ∃ e ∈ cands, e.id = i ∧ ExactMatchG args e :=
  results_twin_exact (kind_G args hwf hid) hnp hg hd hne hexg hexd

/-- **Refinement, candidates of every kind.**  `resolveGLazy` follows the source's evaluation order: the arity guard,
    then the template step of `find_overload_casts` (where a panic aborts the whole call), then the `zip` loop, then the
    lazily ranked tournament.  It computes the same outcome as `resolveG`. -/
theorem resolveGLazy_eq_resolveG (cands : List GCand) (args : List ETy) (hwf : ∀ g ∈ cands, WF g)
    (hid : (cands.map (·.id)).Nodup) : resolveGLazy cands args = resolveG cands args :=
  resolveGLazy_eq cands args hwf hid

theorem resolveGLazy_perm {cands cands' : List GCand} (h : List.Perm cands cands') (args : List ETy)
    (hwf : ∀ g ∈ cands, WF g) (hid : (cands.map (·.id)).Nodup) :
    (resolveGLazy cands args).normalize = (resolveGLazy cands' args).normalize := by
  rw [resolveGLazy_eq_resolveG cands args hwf hid,
      resolveGLazy_eq_resolveG cands' args (fun g hg => hwf g (h.mem_iff.mpr hg)) ((h.map (·.id)).nodup_iff.mp hid)]
  exact resolveG_perm_normalized h args

/-- order independence of `find_function_type` on declared overloads with function templates among them, for any
    explicit template arguments -/
theorem resolveT_perm {cands cands' : List TCand} (h : List.Perm cands cands') (explicit : List TArg) (args : List ETy) :
    (resolveT cands explicit args).normalize = (resolveT cands' explicit args).normalize :=
  resolveG_perm_normalized (h.map _) args

/-- the literal transcription (what answers the correspondence requests) equals the form the theorems are about -/
theorem resolveTLazy_eq_resolveT (cands : List TCand) (explicit : List TArg) (args : List ETy)
    (hid : (cands.map (·.id)).Nodup) : resolveTLazy cands explicit args = resolveT cands explicit args :=
  resolveTLazy_eq cands explicit args hid

/-- non-vacuity of the `G` theorems: a template, an ordinary function and a defaulted parameter in one set -/
example :
    let tT : TCand := ⟨0, [.type], [⟨.tvar 0, .in⟩], 1⟩
    let fF : TCand := ⟨1, [], [⟨.conc ⟨{}, .scalar .float32⟩, .in⟩], 1⟩
    let fD : TCand := ⟨2, [], [⟨.conc ⟨{}, .scalar .float64⟩, .in⟩, ⟨.conc ⟨{}, .scalar .int32⟩, .in⟩], 1⟩
    let i : List ETy := [⟨⟨{}, .scalar .int32⟩, .lvalue⟩]
    let f : List ETy := [⟨⟨{}, .scalar .float32⟩, .rvalue⟩]
    let h : List ETy := [⟨⟨{}, .scalar .float16⟩, .rvalue⟩]
    resolveT [tT, fF, fD] [] i = .selected 0 ∧ resolveT [fD, fF, tT] [] i = .selected 0 ∧
    resolveT [tT, fF, fD] [] f = .ambiguous [0, 1] ∧ resolveT [fD, fF, tT] [] f = .ambiguous [1, 0] ∧
    resolveT [fF, fD] [] h = .selected 1 ∧ resolveT [fD, fF] [] h = .selected 1 ∧
    resolveT [tT, fF, fD] [.type ⟨{}, .scalar .float64⟩] h = .selected 0 := by decide +kernel

/-- recorded reading: a function template whose deduced signature matches exactly ties with an exactly matching
    ordinary function (C++ would prefer the non-template); replayed on the real code by corpus/C16.txt -/
theorem template_twin_is_ambiguous :
    resolveT [⟨0, [.type], [⟨.tvar 0, .in⟩], 1⟩, ⟨1, [], [⟨.conc ⟨{}, .scalar .int32⟩, .in⟩], 1⟩] []
      [⟨⟨{}, .scalar .int32⟩, .lvalue⟩] = .ambiguous [0, 1] := by decide +kernel

/-- an untyped literal deduces `T = int` (`normalize_template_type`), which the literal then reaches by a promotion -/
theorem template_literal_deduces_int :
    (TCand.mk 0 [.type] [⟨.tvar 0, .in⟩] 1).targs [] [⟨⟨{}, .scalar .intLiteral⟩, .rvalue⟩]
      = some [.type ⟨{}, .scalar .int32⟩] ∧
    rankG [⟨⟨{}, .scalar .intLiteral⟩, .rvalue⟩] ((TCand.mk 0 [.type] [⟨.tvar 0, .in⟩] 1).toG [])
      = .ranked 0 [⟨.promotion, .exact⟩] := by decide +kernel

/-- `vector<T, 3>` is not deduced from a `const float3` (the modifier layer hides the vector), `T` is -/
theorem template_const_vector_argument :
    resolveT [⟨0, [.type], [⟨.tvec 0 3, .in⟩], 1⟩] [] [⟨⟨{ isConst := true }, .vector .float32 3⟩, .lvalue⟩] = .unmatched ∧
    resolveT [⟨0, [.type], [⟨.tvar 0, .in⟩], 1⟩] [] [⟨⟨{ isConst := true }, .vector .float32 3⟩, .lvalue⟩] = .selected 0 := by
  decide +kernel

/-- explicit template arguments make every ordinary function non-viable -/
theorem explicit_args_exclude_plain_functions :
    resolveT [⟨0, [], [⟨.conc ⟨{}, .scalar .float32⟩, .in⟩], 1⟩] [.type ⟨{}, .scalar .float32⟩]
      [⟨⟨{}, .scalar .float32⟩, .lvalue⟩] = .unmatched := by decide +kernel

/-- **Template arguments that do not fit the signature make the candidate not viable** (`apply_template_type_substitution`
    as of /repo 5dca4fc): with `T` bound to `float3` —
    deduced from the first parameter or given explicitly — `vector<T, 2>` is no type, the template is dropped from the
    candidate set, and the call resolves among the others (here: the ordinary overload is selected / nothing is left).
    Corpus lines replay both on the real code. -/
theorem template_vector_of_vector_not_viable :
    resolveT [⟨0, [.type], [⟨.tvar 0, .in⟩, ⟨.tvec 0 2, .in⟩], 2⟩, ⟨1, [], [⟨.conc ⟨{}, .vector .float32 3⟩, .in⟩,
      ⟨.conc ⟨{}, .vector .float32 2⟩, .in⟩], 2⟩] []
      [⟨⟨{}, .vector .float32 3⟩, .lvalue⟩, ⟨⟨{}, .vector .float32 2⟩, .lvalue⟩] = .selected 1 ∧
    resolveT [⟨0, [.type], [⟨.tvec 0 2, .in⟩], 1⟩] [.type ⟨{}, .vector .float32 3⟩]
      [⟨⟨{}, .vector .float32 2⟩, .lvalue⟩] = .unmatched ∧
    -- a constant where the signature names a type (`b.Load<4>(0)`)
    rankG [⟨⟨{}, .scalar .uInt32⟩, .rvalue⟩]
      ((TCand.mk 1000 [.type] [⟨.conc ⟨{}, .scalar .uInt32⟩, .in⟩, ⟨.tvar 0, .in⟩] 1).toG [.const]) = .notViable := by
  decide +kernel

/-- **`T` matches every argument exactly**: a template `f(T a)` called with any argument whose type is not an
    untyped literal (any value category, any qualifiers, scalars, vectors, matrices, structs, enums, arrays) is viable
    with rank Exact/Exact — so next to it no ordinary overload can be selected unless it is exact as well -/
theorem template_param_matches_exactly (id : Nat) (a : ETy) (h : NonLiteral a.ty.layer) :
    rankG [a] ((TCand.mk id [.type] [⟨.tvar 0, .in⟩] 1).toG []) = .ranked id [⟨.exact, .exact⟩] :=
  tvar_in_param_matches_exactly id a h

/-- **The template half of `find_overload_casts` reaches no panic site** (the hypothesis `NoPanicG` of the theorems
    above holds for every declared overload set): ordinary functions and function templates whose parameters are
    concrete types, `T`, `vector<T, n>` or `matrix<T, x, y>` with declared template parameters of either kind, whatever
    the explicit template arguments and the call (the source as of /repo 5dca4fc). -/
theorem templates_never_panic (cands : List TCand) (h : ∀ c ∈ cands, ScopedTemplate c) (explicit : List TArg)
    (args : List ETy) : NoPanicG (cands.map (TCand.toG explicit)) args := by
  intro g hg
  obtain ⟨c, hc, rfl⟩ := List.mem_map.mp hg
  exact scoped_template_never_panics c (h c hc) explicit args

/-- hence `find_function_type` on declared overloads never panics -/
theorem resolveT_no_panic (cands : List TCand) (h : ∀ c ∈ cands, ScopedTemplate c) (explicit : List TArg)
    (args : List ETy) : resolveT cands explicit args ≠ .panic :=
  results_ne_panic (templates_never_panic cands h explicit args)

/-- and a unique exact match is selected — no panic hypothesis -/
theorem unique_exact_selectedT {cands : List TCand} (hs : ∀ c ∈ cands, ScopedTemplate c) (explicit : List TArg)
    {args : List ETy} (hid : (cands.map (·.id)).Nodup) {c : TCand} (hc : c ∈ cands)
    (hex : ExactMatchG args (c.toG explicit))
    (huniq : ∀ d ∈ cands, ExactMatchG args (d.toG explicit) → d.id = c.id) :
    resolveT cands explicit args = .selected c.id := by
  rw [resolveT, resolveG, List.map_map]
  exact results_unique_exact (id := TCand.id) (rk := rankG args ∘ TCand.toG explicit)
    ⟨fun _ _ _ hr => (rankG_ranked hr).1, fun d _ _ _ hr => (rankG_ranked hr).2 (tcand_wf explicit d), hid⟩
    (fun d hd => scoped_template_never_panics d (hs d hd) explicit args) hc hex huniq

/-- non-vacuity: a set with `vector<T, n>` / `matrix<T, x, y>` parameters and a value parameter is `ScopedTemplate` -/
example : ∀ c ∈ [TCand.mk 0 [.type, .value] [⟨.tvar 0, .in⟩, ⟨.tvec 0 2, .out⟩] 2,
    TCand.mk 1 [.type] [⟨.tmat 0 2 2, .in⟩, ⟨.conc ⟨{}, .scalar .int32⟩, .inOut⟩] 2], ScopedTemplate c := by
  intro c hc
  simp only [List.mem_cons, List.not_mem_nil, or_false] at hc
  rcases hc with rfl | rfl <;> intro p hp <;> simp only [List.mem_cons, List.not_mem_nil, or_false] at hp <;>
    rcases hp with rfl | rfl <;> simp

/-- **An out or inout argument can not be the result of a conversion.**  For any signature and arguments with the
    casts `find_overload_casts` found: `check_output_arguments` passes iff every argument given for an `out` / `inout`
    parameter is a non-const lvalue whose type *is* the parameter's type.  (`find` allows two other conversions to an
    lvalue destination — scalar ↔ 1-vector of the same scalar kind, and an added qualifier; both now end in
    "lvalue is required".) -/
theorem output_arguments_checked (ps : List Param) (as : List ETy) (cs : List Conversion)
    (h : zipFind ps as = .ok (some cs)) : checkOutputs ps cs = none ↔ OutputsExact ps as :=
  checkOutputs_none_iff ps as cs h

/-- **Order independence of the verdict on the whole call** (resolution, then the output-argument check): accepted
    with the same overload / refused for the same reason / ambiguous between the same overloads / unmatched, under
    every permutation of the declaration order — for declared overloads of every kind and any explicit template
    arguments.  `callT` follows the evaluation order of the source (`resolveTLazy`). -/
theorem callT_perm {cands cands' : List TCand} (h : List.Perm cands cands') (explicit : List TArg) (args : List ETy)
    (hid : (cands.map (·.id)).Nodup) :
    (callT cands explicit args).normalize = (callT cands' explicit args).normalize := by
  rw [callT_eq_finish_resolveT cands explicit args hid,
      callT_eq_finish_resolveT cands' explicit args ((h.map (·.id)).nodup_iff.mp hid)]
  exact finishCall_perm h hid explicit args (resolveG_perm_normalized (h.map _) args)

/-- **An accepted call names the overload the resolution selected**, so `selectedG_is_viable` /
    `selectedG_not_dominated` speak about every accepted call; and its `out` / `inout` arguments are mutable lvalues of
    exactly the (instantiated) parameter types. -/
theorem callT_accepted {cands : List TCand} {explicit : List TArg} {args : List ETy} {i : Nat}
    (hid : (cands.map (·.id)).Nodup) (h : callT cands explicit args = .accepted i) :
    resolveT cands explicit args = .selected i ∧
    ∃ c ∈ cands, c.id = i ∧ ∃ ps, c.inst explicit args = .ok (some ps) ∧ OutputsExact ps args := by
  rw [callT_eq_finish_resolveT cands explicit args hid] at h
  revert h
  generalize resolveT cands explicit args = o
  fun_cases finishCall cands explicit args o <;> intro h <;> cases h
  rename_i ps casts hchk hsel
  refine ⟨rfl, ?_⟩
  revert hsel
  fun_cases selectedCasts cands explicit args i <;> intro hsel <;> cases hsel
  rename_i c hfind hinst hz
  exact ⟨c, List.mem_of_find?_eq_some hfind, by simpa using List.find?_some hfind, ps, hinst,
    (checkOutputs_none_iff ps args casts hz).mp hchk⟩

/-- a refused call was resolved: the refusal comes after `find_function_type` selected an overload, and never turns an
    ambiguous or unmatched call into something else -/
theorem callT_refused {cands : List TCand} {explicit : List TArg} {args : List ETy} {e : OutErr}
    (hid : (cands.map (·.id)).Nodup) (h : callT cands explicit args = .refused e) :
    ∃ i, resolveT cands explicit args = .selected i := by
  rw [callT_eq_finish_resolveT cands explicit args hid] at h
  revert h
  generalize resolveT cands explicit args = o
  fun_cases finishCall cands explicit args o <;> intro h <;> cases h
  exact ⟨_, rfl⟩

/-- recorded readings (corpus lines replay them on the real code): an `int` lvalue for `out int1` (and `int1` for
    `inout int`) is ranked Exact/Exact by the resolution, the overload is selected — and the call is then refused,
    because the reshaped argument is an rvalue; next to an `in` overload of the argument's own type the call is
    *ambiguous* (both Exact/Exact), not rescued; with the argument's own type as the `out` parameter it is accepted. -/
theorem out_vec1_is_refused :
    let i : List ETy := [⟨⟨{}, .scalar .int32⟩, .lvalue⟩]
    let i1 : List ETy := [⟨⟨{}, .vector .int32 1⟩, .lvalue⟩]
    let fOut1 : TCand := ⟨0, [], [⟨.conc ⟨{}, .vector .int32 1⟩, .out⟩], 1⟩
    let fInOut : TCand := ⟨0, [], [⟨.conc ⟨{}, .scalar .int32⟩, .inOut⟩], 1⟩
    let fIn : TCand := ⟨1, [], [⟨.conc ⟨{}, .scalar .int32⟩, .in⟩], 1⟩
    let fOut : TCand := ⟨2, [], [⟨.conc ⟨{}, .scalar .int32⟩, .out⟩], 1⟩
    resolveT [fOut1] [] i = .selected 0 ∧ callT [fOut1] [] i = .refused .lvalueRequired ∧
    callT [fInOut] [] i1 = .refused .lvalueRequired ∧
    callT [fOut1, fIn] [] i = .ambiguous [0, 1] ∧ callT [fIn, fOut1] [] i = .ambiguous [1, 0] ∧
    callT [fOut] [] i = .accepted 2 ∧
    -- through a template: `template<typename T> f(out T)` binds `T = int1` for an `int1` argument: accepted
    callT [⟨3, [.type], [⟨.tvar 0, .out⟩], 1⟩] [] i1 = .accepted 3 := by decide +kernel

/-! ## calls interleaved with declarations (`Model/OverloadSeq.lean`)

The type checker walks a translation unit once; `runSeq` is that walk for the overloads of one name: declarations push
onto the symbol vector of their scope, a struct registers all its methods first, the compiler's own overloads lead the
root vector, definitions of declared functions insert nothing, call sites resolve against the vector `find_identifier`
hands over at that moment, and a call inside a template body is resolved when the first call of that instance is
type checked.  `Spec.visibleAt` says, without any walk, which candidates the property calls *visible* at a place. -/

/-- **The verdict at a call site is the resolution on the candidates visible at the site, and on nothing else.**
    For every translation unit `pre ++ [site] ++ post` on every path: what the site shows is `callT` (resolution,
    then the output-argument check) on `Spec.visibleAt` — the overloads declared above the call in the scope the
    lookup reaches (all methods for a method call) — or "unknown name" when there is none.  No other item of the
    unit takes part: not what is declared below the call, not the definitions of declared functions, not the call
    sites, template helpers and instantiations above it (`visibleAt` does not look at them): **no state is carried from
    one call site to the next**. -/
theorem site_verdict_is_resolution_of_visible (p : SeqPath) (pre post : List SeqItem) (m : Nat) (x : List TArg)
    (a : List ETy) (o : SiteObs) :
    (pre.length, o) ∈ runSeq p (pre ++ .site m x a :: post) ↔ o = siteObs (visibleAt p pre post m) x a :=
  site_obs_iff p pre post m x a o

/-- **`visible_prefix_independent`: the verdict of a site is a function of the *set* visible at it.**  Two call sites
    with the same arguments — in the same unit or in different ones, on the same path or on different ones, at any
    places, looked up in any way, with whatever calls, definitions, helpers and later declarations around them — that
    see the same candidates in any two orders show the same verdict (accepted with the same overload / refused for the
    same reason / ambiguous between the same overloads / unmatched). -/
theorem visible_prefix_independent (p p' : SeqPath) (pre post pre' post' : List SeqItem) (m m' : Nat)
    (x : List TArg) (a : List ETy) (v v' : List TCand) (o o' : SiteObs)
    (hv : visibleAt p pre post m = .functions v) (hv' : visibleAt p' pre' post' m' = .functions v')
    (hperm : List.Perm v v') (hid : (v.map (·.id)).Nodup)
    (ho : (pre.length, o) ∈ runSeq p (pre ++ .site m x a :: post))
    (ho' : (pre'.length, o') ∈ runSeq p' (pre' ++ .site m' x a :: post')) :
    o.normalize = o'.normalize := by
  rw [(site_obs_iff p pre post m x a o).mp ho, (site_obs_iff p' pre' post' m' x a o').mp ho', hv, hv']
  simp only [siteObs, SiteObs.normalize]
  rw [callT_perm hperm x a hid]

/-! ### symbols of the same name that are not functions (seeded defect C16-5)

A scope's vector for a name may hold, next to the overloads, a `Type` (struct, typedef, enum), a `ConstantBuffer`, a
`Namespace` and an `EnumScope` symbol, in any order (legal since 31dddea).  `find_identifier_in_scope` walks the whole
vector and collects every function; `Model.gatherLoop` is that loop. -/

/-- **`gathering_ignores_non_function_symbols`**: the candidate list `find_identifier_in_scope` hands over is the filter
    of the symbol vector by `isFunction`, in the vector's order — whatever else the vector contains and wherever it
    stands (before all overloads, between any two, after all).  No overload is dropped, none is added. -/
theorem gathering_ignores_non_function_symbols (syms : List Sym) :
    gatherLoop [] syms = (syms.filter Sym.isFunction).filterMap Sym.fn? ∧
    (gatherLoop [] syms).map Sym.fn = syms.filter Sym.isFunction := by
  rw [gatherLoop_nil]
  constructor
  · exact (RsslVerif.Lemmas.Basics.filterMap_filter_of_none
      (fun s hs => by cases s with | fn c => cases hs | _ => rfl) syms).symm
  · induction syms with
    | nil => rfl
    | cons x xs ih => cases x <;> simp [List.filter_cons, List.filterMap_cons, Sym.isFunction, Sym.fn?, ih]

/-- inserting any symbol that is not a function anywhere into a vector changes nothing of what is gathered; and as long
    as the vector holds a function, nothing of what `find_identifier_in_scope` answers -/
theorem non_function_symbol_changes_no_candidate (xs ys : List Sym) (s : Sym) (hs : s.isFunction = false) :
    gatherLoop [] (xs ++ s :: ys) = gatherLoop [] (xs ++ ys) ∧
    (gatherLoop [] (xs ++ ys) ≠ [] → findInScope (xs ++ s :: ys) = findInScope (xs ++ ys)) := by
  have hg : gatherLoop [] (xs ++ s :: ys) = gatherLoop [] (xs ++ ys) := by
    rw [gatherLoop_nil, gatherLoop_nil]
    cases s <;> simp_all [Sym.isFunction, List.filterMap_append, List.filterMap_cons, Sym.fn?]
  refine ⟨hg, fun hne => ?_⟩
  rw [findInScope_eq, findInScope_eq, ← gatherLoop_nil, ← gatherLoop_nil, hg, scopeKnows_functions _ hne,
    scopeKnows_functions _ hne]

/-- non-vacuity, and the seeded defect C16-5 itself: `int f(int); struct f {..}; int f(float);` (and the same with an
    enum, a cbuffer, and a namespace in front) — the call with a `float` sees both overloads and selects `f(float)`; a loop
    that stopped at the first non-function symbol after an overload would hand over `[f(int)]` only -/
example :
    let fi : TCand := ⟨0, [], [⟨.conc ⟨{}, .scalar .int32⟩, .in⟩], 1⟩
    let ff : TCand := ⟨1, [], [⟨.conc ⟨{}, .scalar .float32⟩, .in⟩], 1⟩
    let arg : List ETy := [⟨⟨{}, .scalar .float32⟩, .lvalue⟩]
    gatherLoop [] [.fn fi, .type, .fn ff] = [fi, ff] ∧
    gatherLoop [] [.namespace, .fn fi, .enumScope, .type, .cbuffer, .fn ff, .cbuffer] = [fi, ff] ∧
    (runSeq .free [.decl 0 fi, .other 0 .struct, .decl 0 ff, .site 0 [] arg]).map (fun x => (x.1, x.2.normalize)) =
      [(3, .verdict (.accepted 1))] ∧
    (runSeq .free [.other 0 .namespace, .decl 0 fi, .other 0 .enum, .site 0 [] arg, .decl 0 ff, .other 0 .cbuffer,
        .site 0 [] arg]).map (fun x => (x.1, x.2.normalize)) = [(3, .verdict (.accepted 0)), (6, .verdict (.accepted 1))] := by
  decide +kernel

/-- **same-name symbols take no candidate away**: at a call site whose lookup reaches a scope with at least one function
    of the name declared above the call, the verdict is the resolution on *all* functions of the name declared above the
    call in that scope (`Spec.declared`, which does not look at `other` items) — for every unit, every number, kind
    and placement of structs / enums / typedefs / cbuffers / namespaces of that name among the declarations. -/
theorem same_name_symbols_take_no_candidate_away (pre post : List SeqItem) (m : Nat) (x : List TArg) (a : List ETy)
    (o : SiteObs) (hm : m ≠ 2) (hne : declared (if m = 1 then 1 else 0) pre ≠ [])
    (ho : (pre.length, o) ∈ runSeq .free (pre ++ .site m x a :: post)) :
    o = .verdict (callT (declared (if m = 1 then 1 else 0) pre) x a) := by
  rw [(site_obs_iff .free pre post m x a o).mp ho]
  match m with
  | 0 => simp only [visibleAt]; rw [scopeKnows_functions _ (by simpa using hne)]; simp [siteObs]
  | 1 => simp only [visibleAt]; rw [scopeKnows_functions _ (by simpa using hne)]; simp [siteObs]
  | 2 => exact absurd rfl hm
  | n + 3 =>
    have h3 : (if n + 3 = 1 then 1 else 0) = 0 := by simp
    rw [h3] at hne ⊢
    simp only [visibleAt]; rw [scopeKnows_functions _ hne]; simp [siteObs]

/-- a scope that declares a type of the name and no function hides the outer overloads: an unqualified call inside
    `namespace N` whose N holds `struct f` / `enum f` / `typedef .. f` above the call and no function `f` is not a
    call of a function, whatever the root scope declares; a cbuffer block or a namespace of that name alone hides nothing -/
theorem inner_type_hides_outer_overloads (pre post : List SeqItem) (x : List TArg) (a : List ETy) (o : SiteObs)
    (hf : declared 1 pre = []) (ho : (pre.length, o) ∈ runSeq .free (pre ++ .site 2 x a :: post)) :
    (declaresType 1 pre = true → o = .isType) ∧
    (declaresType 1 pre = false → o = siteObs (scopeKnows (declared 0 pre) (declaresType 0 pre)) x a) := by
  rw [(site_obs_iff .free pre post 2 x a o).mp ho]
  constructor
  · intro ht; simp [visibleAt, scopeKnows, hf, ht, siteObs]
  · intro ht; simp [visibleAt, scopeKnows, hf, ht]

example :
    let fi : TCand := ⟨0, [], [⟨.conc ⟨{}, .scalar .int32⟩, .in⟩], 1⟩
    let arg : List ETy := [⟨⟨{}, .scalar .int32⟩, .lvalue⟩]
    (runSeq .free [.decl 0 fi, .other 1 .cbuffer, .site 2 [] arg, .other 1 .typedef, .site 2 [] arg, .site 0 [] arg,
        .site 1 [] arg]).map (fun x => (x.1, x.2.normalize)) =
      [(2, .verdict (.accepted 0)), (4, .isType), (5, .verdict (.accepted 0)), (6, .isType)] := by decide +kernel

/-- the same when nothing is visible at either site: both report the unknown name -/
theorem nothing_visible_is_unknown_name (p : SeqPath) (pre post : List SeqItem) (m : Nat) (x : List TArg)
    (a : List ETy) (o : SiteObs) (hv : visibleAt p pre post m = .nothing)
    (ho : (pre.length, o) ∈ runSeq p (pre ++ .site m x a :: post)) : o = .noname := by
  rw [(site_obs_iff p pre post m x a o).mp ho, hv]; rfl

/-- **The instantiation registry is transparent.**  The one thing a resolution leaves behind for later call sites is
    the function registry's table of template instantiations (`find_instantiation`, consulted by
    `build_function_template_signature` / `build_intrinsic_template` before they substitute).  `runSeqR` threads that
    table through every candidate of every call of the unit, in the order the type checker meets them; for every unit
    whose declarations have distinct ids it shows exactly what `runSeq` — every call resolved from scratch — shows:
    with the state the code really carries, **no call site influences a later one**. -/
theorem registry_is_transparent (p : SeqPath) (items : List SeqItem)
    (hD : ((allDeclared items).map (·.id)).Nodup) : runSeqR p items = runSeq p items :=
  runSeqR_eq p items hD

/-- non-vacuity: the second call of `template<T0, T1> f(T0, T1)` with the same argument types finds the instantiation the
    first one registered, a call with another second argument registers a second one -/
example :
    let t : TCand := ⟨0, [.type, .type], [⟨.tvar 0, .in⟩, ⟨.tvar 1, .in⟩], 2⟩
    let i : ETy := ⟨⟨{}, .scalar .int32⟩, .lvalue⟩
    let f : ETy := ⟨⟨{}, .scalar .float32⟩, .lvalue⟩
    let r1 := (callTR [] [t] [] [i, f]).2
    r1.length = 1 ∧ (callTR r1 [t] [] [i, f]).2 = r1 ∧ ((callTR r1 [t] [] [i, i]).2).length = 2 := by decide +kernel

/-- **A call in a template body** shows, when the call that instantiates the helper is type checked: nothing, if that
    instance has a body already; else the resolution on what is visible *at the instantiating call* (in the scope the
    helper was declared in) — not at the place of the template.  (`noname` alone: no helper of that number.) -/
theorem template_body_site_resolved_at_first_instantiation (p : SeqPath) (pre post : List SeqItem) (j z : Nat)
    (o : SiteObs) (h : (pre.length, o) ∈ runSeq p (pre ++ .trigger j z :: post)) :
    o = .cached ∨ o = .noname ∨
      ∃ m a, lookupHelper j (stateAfter p (SeqState.init p (pre ++ .trigger j z :: post)) pre).helpers = some (m, a) ∧
        o = siteObs (visibleAt p pre post m) [] a :=
  trigger_obs p pre post j z o h

/-- every observation belongs to a call site or an instantiating call of the unit, at its place -/
theorem observations_are_at_places (p : SeqPath) (items : List SeqItem) (n : Nat) (o : SiteObs)
    (h : (n, o) ∈ runSeq p items) : n < items.length := by
  have := runFrom_pos p (SeqState.init p items) 0 items n o h
  omega

/-! ### A function declared more than once with different default arguments

`parse_function` asks `check_existing_functions` whether the name already has an overload with the same `param_types`;
if so the **earlier id** is used and the later signature — with it the later `non_default_params` — is dropped
(`SeqItem.redecl`: no change of state).  So the arity range of a candidate is the one of its *first* declaration. -/

/-- **What the code does with a redeclaration: nothing.**  For every unit, on every path, at every place: a later
    declaration (prototype or definition) of a function that is already declared — whatever default arguments it
    carries — changes the verdict of no call site below it: the site shows the resolution on the *first* declarations
    (`site_verdict_is_resolution_of_visible` on the unit with and without the redeclaration).  This is the model's (= the
    code's) behaviour, not the property: see `redeclared_defaults_are_order_dependent`. -/
theorem first_declaration_fixes_the_defaults (p : SeqPath) (pre₁ pre₂ post : List SeqItem) (id nd m : Nat)
    (x : List TArg) (a : List ETy) (o : SiteObs) :
    ((pre₁ ++ .redecl id nd :: pre₂).length, o) ∈ runSeq p ((pre₁ ++ .redecl id nd :: pre₂) ++ .site m x a :: post) ↔
      ((pre₁ ++ pre₂).length, o) ∈ runSeq p ((pre₁ ++ pre₂) ++ .site m x a :: post) := by
  rw [site_verdict_is_resolution_of_visible, site_verdict_is_resolution_of_visible]
  -- what a stretch declares distributes over `++`, and a redeclaration declares nothing
  have : visibleAt p (pre₁ ++ .redecl id nd :: pre₂) post m = visibleAt p (pre₁ ++ pre₂) post m := by
    simp only [visibleAt, declared_append, declaresType_append, declaresTypeAnywhere_append, allDeclared_append,
      declared, declaresType, declaresTypeAnywhere, allDeclared]
  rw [this]

/-- **Witness against the property** (the negation of "never on the order the candidates were declared in", for the
    declarations of ONE function; replayed on the real type checker by the last lines of corpus/C16.txt, recorded in
    known_findings.jsonl).  The same two declarations `R0 f(int, int);` and `R0 f(int, int = 0);` followed by the same
    call `f(x)`: *unmatched* when the one without the default value stands first, *accepted* when it stands second.
    With a second overload `R1 f(float)` around, the same unit **selects another overload** depending on which
    declaration of `f(int, float)` comes first. -/
theorem redeclared_defaults_are_order_dependent :
    let i : TParam := ⟨.conc ⟨{}, .scalar .int32⟩, .in⟩
    let fl : TParam := ⟨.conc ⟨{}, .scalar .float32⟩, .in⟩
    let arg : List ETy := [⟨⟨{}, .scalar .int32⟩, .lvalue⟩]
    let obs := fun (u : List SeqItem) => (runSeq .free u).map (fun x => (x.1, x.2.normalize))
    obs [.decl 0 ⟨0, [], [i, i], 2⟩, .redecl 0 1, .site 0 [] arg] = [(2, .verdict .unmatched)] ∧
    obs [.decl 0 ⟨0, [], [i, i], 1⟩, .redecl 0 2, .site 0 [] arg] = [(2, .verdict (.accepted 0))] ∧
    obs [.decl 0 ⟨0, [], [i, fl], 2⟩, .decl 0 ⟨1, [], [fl], 1⟩, .redecl 0 1, .site 0 [] arg] = [(3, .verdict (.accepted 1))] ∧
    obs [.decl 0 ⟨0, [], [i, fl], 1⟩, .decl 0 ⟨1, [], [fl], 1⟩, .redecl 0 2, .site 0 [] arg] = [(3, .verdict (.accepted 0))] := by
  decide +kernel

/-- **Witness against the property, function templates** (replayed by corpus/C16.txt, recorded in known_findings.jsonl).
    `template<typename T> R0 f(T a);` followed by its definition `template<typename T> R0 f(T a) { .. }` - one function
    template, declared and then defined - and the call `f(x)`: the two declarations are two overloads for the type
    checker (`elaborate`), both match exactly, the call is *ambiguous between the function and itself*; the same call
    between the two declarations is accepted.  With parameter types that mention no template parameter the later
    declaration is combined with the first (`redecl`), and the call after both is accepted. -/
theorem redeclared_template_is_a_second_overload :
    let t : TCand := ⟨0, [.type], [⟨.tvar 0, .in⟩], 1⟩
    let u : TCand := ⟨0, [.type], [⟨.conc ⟨{}, .scalar .int32⟩, .in⟩], 1⟩
    let arg : List ETy := [⟨⟨{}, .scalar .int32⟩, .lvalue⟩]
    let obs := fun (u : List SeqItem) => (runSeq .free (elaborate u)).map (fun x => (x.1, x.2.normalize))
    obs [.decl 0 t, .site 0 [] arg, .redecl 0 1, .site 0 [] arg] =
      [(1, .verdict (.accepted 0)), (3, .verdict (.ambiguous [0, 0]))] ∧
    obs [.decl 0 u, .site 0 [.type ⟨{}, .scalar .int32⟩] arg, .redecl 0 1, .site 0 [.type ⟨{}, .scalar .int32⟩] arg] =
      [(1, .verdict (.accepted 0)), (3, .verdict (.accepted 0))] := by
  decide +kernel

/-- non-vacuity, and the shape of the seeded defect "memoised resolution": `f(float)`; call `f(int_var)`; `f(int)`;
    the same call again, once more after the definition of `f(float)`, and from inside a template instantiated before
    and after: the second call sees two candidates and selects the exact one -/
example :
    let fl : TCand := ⟨0, [], [⟨.conc ⟨{}, .scalar .float32⟩, .in⟩], 1⟩
    let it : TCand := ⟨1, [], [⟨.conc ⟨{}, .scalar .int32⟩, .in⟩], 1⟩
    let arg : List ETy := [⟨⟨{}, .scalar .int32⟩, .lvalue⟩]
    (runSeq .free [.decl 0 fl, .helper 0 0 arg, .site 0 [] arg, .trigger 0 0, .decl 0 it, .site 0 [] arg, .define 0,
        .site 0 [] arg, .trigger 0 0, .trigger 0 1, .site 1 [] arg]).map (fun x => (x.1, x.2.normalize)) =
      [(2, .verdict (.accepted 0)), (3, .verdict (.accepted 0)), (5, .verdict (.accepted 1)), (7, .verdict (.accepted 1)),
       (8, .cached), (9, .verdict (.accepted 1)), (10, .noname)] := by decide +kernel

/-- non-vacuity of `visible_prefix_independent`: a site in `namespace N` after `N::f` was declared in two reopened blocks
    in one order, and a method call in a struct that declares the same two overloads in the other order *below* the caller -/
example :
    let c0 : TCand := ⟨0, [], [⟨.conc ⟨{}, .scalar .float32⟩, .in⟩], 1⟩
    let c1 : TCand := ⟨1, [], [⟨.conc ⟨{}, .vector .int32 2⟩, .in⟩], 1⟩
    visibleAt .free [.decl 0 c1, .decl 1 c0, .site 2 [] [], .decl 1 c1] [.decl 1 ⟨2, [], [], 0⟩] 2 = .functions [c0, c1] ∧
    visibleAt .method [] [.decl 0 c1, .decl 0 c0] 0 = .functions [c1, c0] ∧ List.Perm [c0, c1] [c1, c0] := by
  refine ⟨by decide +kernel, by decide +kernel, ?_⟩
  exact List.Perm.swap _ _ _

/-- every syntactic fact the transcription relies on holds in the current source: the arity guard precedes
    `find_overload_casts`; the tournament compares all pairs, skips the candidate itself, loses only on `Worse`, its `zip`
    loop has no early exit and the `against` loop breaks; `count_by_rank` counts equal vector ranks, worst first; the
    minimum is taken with `<` and exactly the minimal ones are kept; one ⇒ selected, several ⇒ ambiguous, none ⇒
    unmatched; template arguments: too many ⇒ not viable, explicit first, the first parameter that infers wins, value
    parameters are never inferred, every argument is normalized, template arguments on an ordinary function ⇒ not
    viable; an instantiation that cannot be built (`build_function_template_signature` / `build_intrinsic_template`
    return `None`, which `apply_templates` does as soon as one parameter type or the return type cannot be formed) ⇒ not
    viable; the `zip` loop over `ImplicitConversion::find` stops at the first failure; `write_function` and
    `write_method` apply the casts and then check the output arguments of the selected overload;
    `ImplicitConversion::apply` returns the expression itself only when there is no dimension, primary or modifier cast
    and otherwise an `Expression::Cast`, whose type is an rvalue; the innermost scope that knows the
    name supplies the whole overload list, in insertion order; a struct supplies all its methods of that name; an
    intrinsic object all its functions of that name; `find_function_type` is called from `write_function` and
    `write_method` only; and — what `Model/OverloadSeq.lean` walks through — a declaration that matches no earlier one
    is registered and pushed, a definition of a declared function takes its id and pushes nothing, the body of an
    ordinary function is type checked at its definition and that of a template is not, a struct registers all its
    methods before it type checks the first body, a call that selects a template instance builds the instance's body
    only if it has none, in the scope the template was declared in, and a struct template is instantiated once per
    argument list, in the scope it was declared in; the instantiation of a function template is found again by the
    template and *all* its arguments (so the registry is a cache of `substParams`, a function of that key); the loop of
    `find_identifier_in_scope` that gathers the overloads visits **every** symbol of the vector (no `break`, no
    `continue`, no guarded or catch-all arm; `Type` / `ConstantBuffer` / `Namespace` / `EnumScope` have empty arms) and the
    overloads are handed over right after it (`overloadGatheringVisitsAllSymbols`: the seeded defect C16-5 is a `break`
    in that loop) -/
theorem resolve_shape_as_modelled :
    RsslVerif.Gen.ResolveShape.shape =
      { arityGuardThenCasts := true, tournamentComparesAllPairsSkippingSelf := true,
        zipLoopHasNoEarlyExitAndOnlyWorseLoses := true, againstLoopBreaksOnWorseAndWinnersArePushed := true,
        countByRankCountsEqualVectorRank := true, orderVectorIsWorstToBestCounts := true,
        bestOrderIsTheMinimumByLess := true, keepsExactlyTheMinimal := true,
        oneSelectedSeveralAmbiguousElseUnmatched := true, tooManyTemplateArgsNotViable := true,
        explicitArgsFirstThenInferredValueParamsNever := true, firstParameterThatInfersWins := true,
        everyTemplateArgIsNormalized := true, templateArgsOnPlainFunctionNotViable := true,
        zipFindStopsAtFirstFailure := true, uninstantiableTemplateNotViable := true,
        signatureSubstitutionFailsAsAWhole := true, templateInstantiationPropagatesTheFailure := true,
        intrinsicInstantiationPropagatesTheFailure := true, functionCallChecksOutputsAfterCasts := true,
        methodCallChecksOutputsAfterCasts := true, applyKeepsTheExpressionOnlyWithoutAnyCast := true,
        aCastIsAnRvalue := true,
        declarationIsPushedADefinitionOfItReusesTheId := true, bodyIsCheckedAtTheDefinitionATemplateBodyIsNot := true,
        allMethodsAreRegisteredBeforeTheFirstBody := true,
        templateBodyIsBuiltOncePerInstanceInTheDeclaringScope := true, aCallOfAnInstanceBuildsItsBody := true,
        structTemplateIsInstantiatedOncePerArgumentsInTheDeclaringScope := true,
        instantiationIsFoundAgainByTemplateAndAllArguments := true, instantiationIsLookedUpBeforeItIsBuilt := true,
        innermostScopeWithTheNameWins := true,
        scopeContributesItsOwnFunctionsOnly := true, overloadGatheringVisitsAllSymbols := true,
        overloadsAreHandedOverRightAfterTheGatheringLoop := true, overloadsAreAppended := true,
        methodsAreAllMethodsOfThatName := true } ∧
    RsslVerif.Gen.ResolveShape.callers = ["write_function", "write_method"] ∧
    RsslVerif.Gen.ResolveShape.objectMethodsAreAllFunctionsOfThatName = true := ⟨rfl, rfl, rfl⟩

/-- The state the resolution can reach.  `find_function_type`,
    `find_overload_casts`, `try_infer_template_type` and `normalize_template_type` go through their `context` only to
    the function registry (`get_function_signature`, `get_intrinsic_data`), the type registry (`get_type_layer`,
    `register_type`: hash-consing), `&mut context.module` handed to `ImplicitConversion::find`, each other, and the two
    routines that instantiate a candidate's signature; those two read and extend the function registry (the
    instantiation of a template for given arguments is found again, `find_instantiation`: a function of its key —
    the signature is `apply_templates` of the template's), the scope table of the *template* (`function_to_scope`,
    `scopes`, `make_scope`) and the template parameter tables.  None of it is written by a call site except the
    instantiation registry.  And a `Context` has no field besides the module, the scope table, the current scope,
    `function_to_scope` and the struct template table: there is no place where one call could leave its verdict for
    the next (a memo of resolved calls would be a new field and a new path: the seeded defect C16-3). -/
theorem resolution_reads_no_call_history :
    RsslVerif.Gen.ResolveShape.resolutionContextUses =
      ["context", "context.build_function_template_signature", "context.build_intrinsic_template", "context.module",
       "context.module.function_registry.get_function_signature", "context.module.function_registry.get_intrinsic_data",
       "context.module.type_registry.get_type_layer", "context.module.type_registry.register_type"] ∧
    RsslVerif.Gen.ResolveShape.instantiationContextUses =
      ["self.function_to_scope", "self.function_to_scope.insert", "self.make_scope",
       "self.module.function_registry.find_instantiation", "self.module.function_registry.get_function_name_definition",
       "self.module.function_registry.get_function_signature", "self.module.function_registry.get_intrinsic_data",
       "self.module.function_registry.register_function", "self.module.function_registry.set_intrinsic_data",
       "self.module.function_registry.set_template_instantiation_data", "self.module.type_registry.get_template_type",
       "self.module.variable_registry.get_template_value", "self.scopes"] ∧
    RsslVerif.Gen.ResolveShape.contextFields =
      ["module", "scopes", "current_scope", "function_to_scope", "struct_template_data"] := ⟨rfl, rfl, rfl⟩

/-- the eight transcribed functions (the eighth: `find_identifier_in_scope`, whose gathering loop decides which overloads
    reach the resolution at all) are, character for character (comments and white space aside), the text the model
    was transcribed from -/
theorem resolve_source_as_transcribed :
    RsslVerif.Gen.ResolveShape.findFunctionTypeSrc = RsslVerif.Model.OverloadSrc.findFunctionType ∧
    RsslVerif.Gen.ResolveShape.findOverloadCastsSrc = RsslVerif.Model.OverloadSrc.findOverloadCasts ∧
    RsslVerif.Gen.ResolveShape.tryInferTemplateTypeSrc = RsslVerif.Model.OverloadSrc.tryInferTemplateType ∧
    RsslVerif.Gen.ResolveShape.normalizeTemplateTypeSrc = RsslVerif.Model.OverloadSrc.normalizeTemplateType ∧
    RsslVerif.Gen.ResolveShape.applyTemplateTypeSubstitutionSrc = RsslVerif.Model.OverloadSrc.applyTemplateTypeSubstitution ∧
    RsslVerif.Gen.ResolveShape.checkOutputArgumentsSrc = RsslVerif.Model.OverloadSrc.checkOutputArguments ∧
    RsslVerif.Gen.ResolveShape.checkMutablePlaceSrc = RsslVerif.Model.OverloadSrc.checkMutablePlace ∧
    RsslVerif.Gen.ResolveShape.findIdentifierInScopeSrc = RsslVerif.Model.OverloadSrc.findIdentifierInScope :=
  ⟨rfl, rfl, rfl, rfl, rfl, rfl, rfl, rfl⟩

end RsslVerif.Thm.C16
