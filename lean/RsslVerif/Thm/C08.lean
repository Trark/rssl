import RsslVerif.Gen.PanicSites
import RsslVerif.Model.Progress
import RsslVerif.Lemmas.Progress
import RsslVerif.Lemmas.ProgressChain
import RsslVerif.Lemmas.PanicClasses
import RsslVerif.Gen.ArithSites
import RsslVerif.Model.DefinedLoc
import RsslVerif.Lemmas.DefinedLoc
import RsslVerif.Lemmas.ArithClasses
import RsslVerif.Gen.PipelineProps
import RsslVerif.Model.PipelineProps
import RsslVerif.Lemmas.PipelineProps
import RsslVerif.Gen.UsageLoop
import RsslVerif.Model.UsageDfs
import RsslVerif.Lemmas.Usage
import RsslVerif.Lemmas.ReviewedTables
/-!
# C08 — compilation is total

What a proof can say about totality of a 50 kLoC compiler is (1) *which* explicit panic sites exist and
that each one has been looked at (`panic_sites_classified`, tied to the source by the regenerated
inventory), and (2) that the loops whose termination is a progress argument do terminate within a bound
that is linear in the input (`parse_list_progress`, `root_loop_progress`, `lex_progress`,
`cond_chain_total`), for *every* input and every element parser / single-token lexer satisfying the stated
progress condition — together with the witness that the condition is necessary
(`parse_multiple_diverges_without_progress`).  Further: (3) the inventory of unchecked arithmetic, casts, indexing and
slicing in the preprocessor / lexer core (`arith_sites_classified`); (4) the location subtraction of `defined` cannot
overflow (`defined_location_safe`, `defined_indices_in_range`); (5) the duplicate check of `parse_pipeline` keeps its four
asserts unreachable (`pipeline_duplicate_reported_iff`, `pipeline_state_asserts_unreachable`, `panic_class_reasons_hold`);
(6) the usage closure terminates on every call graph, while a memoised depth-first walk would not
(`usage_closure_terminates`, `usage_memo_dfs_overflows_on_cycle`).  Stack depth, allocation failure and wall-clock time are
runtime facts: they are observed by the supervised harness run, never claimed here.
-/
namespace RsslVerif.Thm.C08
open RsslVerif.Model.Progress RsslVerif.Lemmas.Progress
open RsslVerif.Gen.PanicSites

variable {τ ε α γ : Type}

/-- Tie to the source: `parse_list_base`, `parse_optional` and the loop of `parse_internal` have the
    shape the model mirrors (continue only after separator and element succeeded, on the element's
    remaining input; stop without consuming on an unconsumed failure; fail on a consumed failure). -/
theorem parser_loops_as_modelled : parserLoopShape = ⟨true, true, true, true, true, true, true⟩ := by decide

/-- **parse_list_base terminates within `|input| + 1` loop iterations** for every element parser that
    does not grow its input and every separator/element pair of which one consumes a token on success;
    the values it returns plus the input it leaves never exceed the input it was given plus one
    (the first element is parsed without a separator). -/
theorem parse_list_progress (sep : Parser τ ε γ) (elem : Parser τ ε α) (allowEmpty : Bool)
    (hp : Productive sep elem) (hn : NonIncreasing elem) (input : List τ) :
    ∃ r, parseListBase sep elem allowEmpty (input.length + 1) input = some r ∧
      ∀ rest vs, r = .ok (rest, vs) → vs.length + rest.length ≤ input.length + 1 := by
  fun_cases parseListBase sep elem allowEmpty (input.length + 1) input
  case case1 rest e he =>
    have hr := hn input rest e he
    obtain ⟨r, hr', hc⟩ := listLoop_spec hp (input.length + 1) rest [e] (by omega)
    refine ⟨r, hr', fun rest' vs h => ?_⟩
    have := hc rest' vs h
    simp only [List.length_cons, List.length_nil] at this
    omega
  case case2 => exact ⟨_, rfl, fun rest vs h => by cases h; simp⟩
  case case3 => exact ⟨_, rfl, nofun⟩

/-- The result does not depend on the fuel once there is enough of it (the model's `none` really means
    "the Rust loop is still running", not an artefact of the bound). -/
theorem parse_list_fuel_irrelevant (sep : Parser τ ε γ) (elem : Parser τ ε α) (n k : Nat)
    (input : List τ) (acc : List α) (r : PR τ ε (List α))
    (h : listLoop sep elem n input acc = some r) : listLoop sep elem (n + k) input acc = some r := by
  revert h
  fun_induction listLoop sep elem n input acc <;> intro h
  case case1 => cases h
  case case3 afterSep g hs rest e he ih =>
    rw [Nat.succ_add, listLoop]
    simp only [hs, he]
    exact ih h
  all_goals (cases h; simp [Nat.succ_add, listLoop, *])

/-- `parse_multiple` (no separator) terminates whenever the element parser consumes on success. -/
theorem parse_multiple_progress (elem : Parser τ ε α) (he : Consuming elem) (input : List τ) :
    ∃ r, parseMultiple elem (input.length + 1) input = some r ∧
      ∀ rest vs, r = .ok (rest, vs) → vs.length + rest.length ≤ input.length + 1 := by
  unfold parseMultiple
  apply parse_list_progress
  · apply productive_of_elem_consuming _ he
    intro i rest a h
    simp only [Except.ok.injEq, Prod.mk.injEq] at h
    rw [← h.1]
    exact Nat.le_refl _
  · intro i rest a h
    exact Nat.le_of_lt (he i rest a h)

/-- **The progress condition is necessary**: the combinator has no consumed-check of its own on the
    success path.  With an element parser that succeeds without consuming, `parse_multiple` never
    returns (for every amount of fuel the loop is still running). -/
theorem parse_multiple_diverges_without_progress (input : List τ) (a : α) (fuel : Nat) :
    parseMultiple (ε := ε) (fun i => .ok (i, a)) fuel input = none := by
  simp only [parseMultiple, parseListBase]
  suffices h : ∀ (n : Nat) (acc : List α),
      listLoop (τ := τ) (ε := ε) (γ := Unit) (fun i => .ok (i, ())) (fun i => .ok (i, a)) n input acc = none from h fuel [a]
  intro n
  induction n with
  | zero => intro acc; rfl
  | succ n ih => intro acc; unfold listLoop; exact ih (a :: acc)

/-- `parse_optional` is total and keeps the input when it reports `None`. -/
theorem parse_optional_total (elem : Parser τ ε α) (input : List τ) :
    (∃ rest a, elem input = .ok (rest, a) ∧ parseOptional elem input = .ok (rest, some a)) ∨
    parseOptional elem input = .ok (input, none) ∨
    (∃ rest err, elem input = .error (rest, err) ∧ rest.length ≠ input.length ∧
      parseOptional elem input = .error (rest, err)) := by
  fun_cases parseOptional elem input
  case case1 rest a he => exact .inl ⟨rest, a, he, rfl⟩
  case case2 => exact .inr (.inl rfl)
  case case3 rest err he hl => exact .inr (.inr ⟨rest, err, he, by simpa using hl, rfl⟩)

/-- The root-definition loop of `parse_internal` terminates within `|input| + 1` iterations when a root
    definition consumes at least one token. -/
theorem root_loop_progress (root : Parser τ ε α) (isEof : τ → Bool) (hc : Consuming root) :
    ∀ (n : Nat) (input : List τ) (acc : List α), input.length < n →
      ∃ r, rootLoop root isEof n input acc = some r := by
  intro n input acc
  fun_induction rootLoop root isEof n input acc <;> intro hlt
  case case1 => omega
  case case2 rest _ remaining r hr ih => exact ih (by have := hc rest remaining r hr; omega)
  all_goals exact ⟨_, rfl⟩

/-- Tie to the source: every call of `parse_list` / `parse_list_nonempty` / `parse_multiple` in the
    parser is a reviewed one (see `Lemmas/PanicClasses.lean: reviewedListUses` for who consumes). -/
theorem list_uses_reviewed :
    listUses.all (fun u => (RsslVerif.Lemmas.PanicClasses.reviewedListUses.map (·.1)).contains u) = true :=
  Lemmas.ReviewedTables.all_contains_of_sublist (by sublist_pass)

/-- Tie to the source: `TokenStream::{new, next, end_of_stream, read_to_end}` have the modelled shape and
    every caller of `next` sits under a `while !end_of_stream()` head. -/
theorem lex_shape_as_modelled :
    lexShape = ⟨true, true, true, true, true, true, true, true, true⟩ ∧
    lexNextCallers.all (fun c => c.2.2 == "guarded") = true := by decide

/-- **`read_to_end` terminates on every byte string and every single-token lexer** (whose results stay
    inside the input): within `len + 2` iterations it returns at most `len + 1` tokens or a lexer error;
    the `assert!(!self.last_was_endline)` of the synthetic-endline branch can never fire under the
    `end_of_stream` guard; and the progress `debug_assert` can only fire if the single-token lexer
    returns without consuming a byte. -/
theorem lex_progress (lex : Lex) (len : Nat)
    (hrange : ∀ off nl e, lex off = some (nl, e) → nl ≤ len) :
    ∃ r, readToEnd lex (len + 2) (Stream.new len) [] = some r ∧ r ≠ .panicAssertEndline ∧
      ((∀ off nl e, lex off = some (nl, e) → off < nl) → r ≠ .panicNoProgress) ∧
      ∀ l, r = .tokens l → l.length ≤ len + 1 := by
  have hpot : potential (Stream.new len) ≤ len + 1 := by
    unfold potential Stream.new
    by_cases h : 0 < len
    · simp [h]
    · simp [h]
  obtain ⟨r, h1, h2, h3, h4⟩ := readToEnd_gen lex (len + 2) (Stream.new len) []
    (by simp [Stream.new]) rfl hrange (by omega)
  refine ⟨r, h1, h2, h3, ?_⟩
  intro l hl
  have := h4 l hl
  simp only [List.length_nil] at this
  omega

section CondChain
open RsslVerif.Lemmas.ProgressChain

/-- Tie to the source: `ConditionChain::{switch, pop, is_active, push}`, the per-file bracket of
    `preprocess_included_file` and their users in `preprocess_command` have the modelled shape. -/
theorem cond_shape_as_modelled :
    condShape = ⟨true, true, true, true, true, true, true, true, true, true, true, true, true, true, true, true, true, true, true, true⟩ ∧
    chainBaseWrites = 2 := by
  decide

/-- **The condition chain is total, for every tree of files.**  (1) No state of the chain panics: the unchecked
    slice `&mut self.0[self.1..]` of `switch` is always in range, because `self.1 ≤ self.0.len()` is kept by every
    directive and by the save / set / check / restore bracket around an included file — so a run ends in the
    emitted text or in one of the six rendered diagnostics.  (2) For a file without `#include` and without
    malformed directive lines, *which* of them is decided by the nesting shape alone — the number of open `#if`s
    and whether the innermost one has had its `#else` (fix 03ca601: a second `#else`, or an `#elif` after it, is
    an error) — never by the values of the conditions: an `#else`/`#elif`/`#endif` without open block is the
    matching error, an open block at the end of the file is `ConditionChainNotFinished`. -/
theorem cond_chain_total (f : Lines) :
    runFile f ≠ .error .panicSlice ∧
    (f.plain = true →
      (match runFile f with | .ok _ => Except.ok () | .error e => .error e) =
        (match shapeSpec f [] with
         | .error e => .error e
         | .ok [] => .ok ()
         | .ok (_ :: _) => .error .notFinished)) := by
  have hf : Framed [] (run f ⟨[], 0⟩ []) := run_framed f [] [] []
  have hs : f.plain = true → _ = shapeSpec f [] := run_shape f [] []
  have hact : Chain.isActive ⟨[], 0⟩ = true := rfl
  unfold runFile step
  simp only [if_pos hact, List.length_nil]
  -- both claims read off the entry file's run on the empty chain
  cases hr : run f ⟨[], 0⟩ [] with
  | error e =>
    rw [hr] at hf hs
    exact ⟨by simpa using hf.1, fun hp => by rw [← hs hp]⟩
  | ok w =>
    obtain ⟨c2, o⟩ := w
    obtain ⟨top, rfl⟩ := hf.2 c2 o hr
    rw [hr] at hs
    refine ⟨?_, fun hp => ?_⟩
    · cases top <;> simp
    · rw [← hs hp]
      cases top <;> simp [elses]

/-- **An included file cannot touch the `#if` blocks of the files that include it** (fix 115a619): whatever
    the file contains, if the `#include` succeeds the chain is exactly what it was — same blocks, same `self.1`;
    so an `#else` / `#elif` / `#endif` of the included file never switches or closes an outer block, and a block
    the file leaves open is `ConditionChainNotFinished` at the end of that file. -/
theorem cond_include_isolated (f : Lines) (c c' : Chain) (o : List Nat)
    (hs : step c (.incl f) = .ok (c', o)) : c'.blocks = c.blocks ∧ c'.base = c.base := by
  rw [(incl_isolated (run_framed f [] c.blocks [])).2 c' o hs]
  exact ⟨rfl, rfl⟩

/-- the chain never gets deeper than the number of lines seen -/
theorem cond_depth_bounded : ∀ (f : Lines) (st st' : List Bool), shapeSpec f st = .ok st' →
    st'.length ≤ st.length + f.size := by
  intro f st
  fun_induction shapeSpec f st <;> intro st' h <;> try cases h
  case case1 => exact Nat.le_refl _
  -- one line opens at most one block
  all_goals
    rename_i ih
    exact Nat.le_trans (ih st' h) (by simp +arith [Lines.size])

end CondChain

/-- Tie to the source: the recursive expansion of a macro body is bracketed by disabling that macro,
    arguments are expanded under the caller's disabled set (fix d00f5aa), disabled macros are skipped. -/
theorem macro_guard_as_modelled : macroShape = ⟨true, true, true, true⟩ := by decide

/-- Tie to the source: every stage error in `compile()`/`build_pipeline()` is mapped to
    `CompileError::Text(format!("{}", err.display(..)))` (5 stage arms + the layout check). -/
theorem stage_errors_rendered : renderedErrorArms = 5 ∧ layoutErrorRendered = true := by decide

open RsslVerif.Lemmas.PanicClasses in
/-- **Every explicit panic site of the current tree is a reviewed one** with a class in
    {unreachable-by-invariant, reachable-known-finding, internal-assert}.  Both lists are sorted, so the
    check is a linear sub-list test; a new `panic!/todo!/unimplemented!/unreachable!/assert*/unwrap/expect`
    (or an existing one that moved to another function or changed its text) breaks the obligation. -/
theorem panic_sites_classified :
    List.isSublist sites (reviewed.map (·.1)) = true ∧
    reviewed.all (fun r => classNames.contains r.2.1) = true :=
  ⟨Lemmas.ReviewedTables.isSublist_of_sublist (by sublist_pass), by decide +kernel⟩


open RsslVerif.Lemmas.ArithClasses in
/-- **Every unchecked `+ - *`, `as` cast, index and slice inside the non-test functions of `preprocess.rs`,
    `lexer.rs`, `condition_parser.rs` and `location.rs` is a reviewed one**, with the invariant that makes it safe
    (`Lemmas/ArithClasses.lean`).  The inventory is regenerated from the source on every run; a new operation, or
    an inventoried one whose operands change, breaks the obligation (both lists are sorted: linear sub-list test).
    None is classified reachable. -/
theorem arith_sites_classified :
    List.isSublist RsslVerif.Gen.ArithSites.sites (reviewed.map (·.1)) = true ∧
    reviewed.all (fun r => classNames.contains r.2.1) = true ∧
    reviewed.all (fun r => r.2.1 != "reachable-known-finding") = true ∧
    RsslVerif.Gen.ArithSites.files = ["preprocess/src/preprocess.rs", "preprocess/src/lexer.rs",
      "preprocess/src/condition_parser.rs", "text/src/location.rs"] :=
  ⟨Lemmas.ReviewedTables.isSublist_of_sublist (by sublist_pass), by decide +kernel, by decide +kernel, rfl⟩

section DefinedLocation
open RsslVerif.Model.DefinedLoc RsslVerif.Lemmas.DefinedLoc RsslVerif.Gen.ArithSites

/-- Tie to the source: `find_single_macro` reports `defined` only at or after `next_pos` and only under
    `apply_defined`; the `Defined` arm takes the start from `tokens[pos]`, the end from the last consumed token and
    subtracts the raw values; the scan positions after each operation are the modelled ones; only `#if` and `#elif`
    scan with `apply_defined = true`; `Token::Concat` / `Token::MacroArg` are made in `Macro::parse` only; since
    f08088c the `(` of an invocation is looked for after blanks *and line ends* (in `split_macro_args` and in the
    function check of `find_single_macro`) and an empty argument list may hold a line end; since 3c81ed5 an API
    define whose value contains a line end is rejected before `Macro::parse`. -/
theorem defined_shape_as_modelled :
    definedShape = ⟨true, true, true, true, true, true, true, true, true, true, true, true, true, true, true, true,
      true, true, true, true, true, true⟩ ∧
    recursiveScanCalls = 2 ∧ scansWithDefined = 2 ∧ concatConstructions = 1 ∧ macroArgConstructions = 1 := by
  decide

/-- **`end_location.get_raw() - start_location.get_raw()` cannot overflow on the current code**, for every macro
    table (bodies with arbitrary locations: other files, API defines, scratch files), every `##` oracle that does
    not invent `Concat` tokens, every command line whose tokens come from one lexer run (`Mono`) and carry no
    `Concat` (the lexer makes `HashHash`), with or without `apply_defined`, and every amount of fuel.
    The proof uses the flags the *current source* passes to the two recursive scans (`Gen.ArithSites.bodyRescanFlag`,
    `argExpandFlag`, re-extracted on every run): both are the constant `false`, hence `defined` only fires in the
    outermost scan, at or after `next_pos`, where the tokens are an untouched suffix of the command line. -/
theorem defined_location_safe (paste : Tok → Tok → Option Tok)
    (hpaste : ∀ a b t, paste a b = some t → t.k ≠ .concat)
    (defs : List Macro) (cmd : List Tok) (hmono : Mono cmd) (hnc : NoConcat cmd) (ad : Bool) (fuel : Nat) :
    applyMacros paste bodyRescanFlag argExpandFlag fuel defs cmd ad ≠ .error .subOverflow := by
  have hb : bodyRescanFlag = .constFalse := by decide
  have ha : argExpandFlag = .constFalse := by decide
  rw [hb, ha]
  unfold applyMacros
  -- `hpaste` is not used: `applyLoop_no_subOverflow` holds for every oracle
  exact applyLoop_no_subOverflow paste cmd hmono hnc fuel _ cmd SearchPos.start ad (fun _ => ⟨0, rfl⟩)

/-- the header `#define ENABLED(x) (defined x)` registered after the file that says `#if ENABLED(FOO)` -/
def witnessDefs : List Macro :=
  [⟨1, true, 1, [⟨.lparen, 120, 121⟩, ⟨.id definedName, 121, 128⟩, ⟨.blank, 128, 129⟩, ⟨.arg 0, 129, 130⟩, ⟨.rparen, 130, 131⟩]⟩]
def witnessCmd : List Tok := [⟨.id 1, 20, 27⟩, ⟨.lparen, 27, 28⟩, ⟨.id 2, 28, 31⟩, ⟨.rparen, 31, 32⟩]

/-- **The flag is what makes it safe** (negation witness): if the rescan of the substituted body ran with the
    caller's `apply_defined`, a function-like macro whose body says `defined x`, defined in a file registered
    after the one with the `#if`, subtracts a larger start from a smaller end. -/
theorem defined_location_needs_plain_rescan :
    Mono witnessCmd ∧ NoConcat witnessCmd ∧
    applyMacros (fun _ _ => none) .caller .constFalse 10 witnessDefs witnessCmd true = .error .subOverflow ∧
    applyMacros (fun _ _ => none) bodyRescanFlag argExpandFlag 10 witnessDefs witnessCmd true =
      .ok [⟨.lparen, 120, 121⟩, ⟨.id definedName, 121, 128⟩, ⟨.blank, 128, 129⟩, ⟨.id 2, 28, 31⟩, ⟨.rparen, 130, 131⟩] := by
  refine ⟨mono_of_tiled _ (by decide), ?_, by rfl, by rfl⟩
  intro t ht
  simp only [witnessCmd, List.mem_cons, List.mem_nil_iff, or_false] at ht
  rcases ht with rfl | rfl | rfl | rfl <;> simp

/-- **The two index computations of the `Defined` arm stay in range**: whenever the operand of `defined` was read
    (`definedRest`), `tokens.len() - remaining.len() - 1` does not underflow and is an index after `pos`, so
    `definedToken` never reports one of its index panics. -/
theorem defined_indices_in_range (toks : List Tok) (env : List Entry) (p : Nat) (rem : List Tok) (op : Option Nat)
    (hp : p < toks.length) (hrem : definedRest (toks.drop (p + 1)) = .ok rem) :
    rem.length + 1 ≤ toks.length ∧ p + 1 ≤ toks.length - rem.length - 1 ∧ toks.length - rem.length - 1 < toks.length ∧
    ∀ s, definedToken toks env p rem op ≠ .error (.panic s) := by
  have hlen := definedRest_length _ _ hrem
  simp only [List.length_drop] at hlen
  refine ⟨by omega, by omega, by omega, ?_⟩
  intro s
  fun_cases definedToken toks env p rem op <;> intro h <;> try cases h
  case case5 => omega
  all_goals
    rename_i hn
    rw [List.getElem?_eq_none_iff] at hn
    omega

/-- A completed scan leaves no `Concat` token in its output, whatever the flags (so the `continue` without
    progress in `find_single_macro`, which needs a `Concat` before `next_pos`, is not reached from a spliced result). -/
theorem scan_output_has_no_concat (paste : Tok → Tok → Option Tok)
    (hpaste : ∀ a b t, paste a b = some t → t.k ≠ .concat) (bf af : FlagSrc)
    (defs : List Macro) (toks out : List Tok) (ad : Bool) (fuel : Nat)
    (h : applyMacros paste bf af fuel defs toks ad = .ok out) : NoConcat out :=
  applyLoop_noConcat paste bf af hpaste fuel _ toks SearchPos.start ad out
    (by intro i t hi; simp [SearchPos.start] at hi) h

end DefinedLocation

section PipelineProps
open RsslVerif.Model.PipelineProps RsslVerif.Lemmas.PipelineProps RsslVerif.Gen.PipelineProps

/-- Tie to the source (`typer/src/typer/pipelines.rs`, re-extracted on every run): both duplicate checks
    (`parse_pipeline`, `parse_static_sampler`) are the all-pairs loop and compare the property **names as text**
    (`.as_str()`), not the `Located<String>` values; the check precedes the stage loop and the state loop; the state
    loop walks exactly the properties the stage loop left, matching the name as text; each of the four flags / slots
    an `assert!` tests is written by the arm of its own name only; on a compute pipeline the gated arms return
    before they write.  The tables of the arms are the ones the model and the generators use. -/
theorem pipeline_duplicates_as_modelled :
    pipelineShape = ⟨true, true, true, true, true, true, true, true, true, true⟩ ∧
    pipelineDupCompare = .text ∧ samplerDupCompare = .text ∧
    stageProps = ["VertexShader", "PixelShader", "ComputeShader", "TaskShader", "MeshShader"] ∧
    stateArms = [
      (["RenderTargetFormat0", "RenderTargetFormat1", "RenderTargetFormat2", "RenderTargetFormat3", "RenderTargetFormat4",
        "RenderTargetFormat5", "RenderTargetFormat6", "RenderTargetFormat7"], true, true),
      (["DepthTargetFormat"], true, true), (["DefaultBindGroup"], false, false), (["CullMode"], true, true),
      (["WindingOrder"], true, true), (["BlendState"], false, false),
      (["BlendState0", "BlendState1", "BlendState2", "BlendState3", "BlendState4", "BlendState5", "BlendState6", "BlendState7"], false, false)] ∧
    blendProps = ["BlendEnabled", "SrcBlend", "DstBlend", "BlendOp", "SrcBlendAlpha", "DstBlendAlpha", "BlendOpAlpha", "WriteMask"] ∧
    samplerProps = ["Filter", "AddressU", "AddressV", "AddressW", "CompareFunc", "MaxAnisotropy", "MinLOD", "MaxLOD", "BorderColor"] :=
  ⟨by decide, by decide, by decide, rfl, rfl, rfl, rfl⟩

/-- **A repeated property is always reported, and only a repeated one**: for every table of arms, every pipeline kind
    and every property list (names and locations arbitrary, no bound on the length), the modelled `parse_pipeline` —
    with the comparison the current source uses — answers `PipelinePropertyDuplicate` iff some name occurs twice. -/
theorem pipeline_duplicate_reported_iff (arms : List (List String × Bool × Bool)) (stage : List String) (isCompute : Bool) (ps : List PProp) :
    (∃ loc, runAs pipelineDupCompare arms stage isCompute ps = some (.dup loc)) ↔ ¬ (names ps).Nodup := by
  have hc : pipelineDupCompare = .text := by decide
  rw [hc, ← firstDup_text_none_iff]
  simp only [runAs, runPipe, Option.some.injEq]
  -- a repeat is what the pairwise loop finds; the walk that follows it never answers `dup`
  cases hf : firstDup textEq ps [] with
  | none => exact ⟨fun ⟨loc, h⟩ => absurd h (stateLoop_no_dup arms isCompute _ [] loc), fun h => absurd rfl h⟩
  | some loc => exact ⟨fun _ => nofun, fun _ => ⟨loc, rfl⟩⟩

/-- **The four "not set before" asserts of `parse_pipeline` are unreachable**: for every table of arms, every pipeline
    kind and every property list, the modelled function — duplicate check with the comparison the current source uses
    (`Gen.PipelineProps.pipelineDupCompare`, re-extracted on every run), then the state loop — never ends in an assert.
    The proof starts from `pipelineDupCompare = .text` (`decide`): with the `Located` comparison the statement is false
    (`pipeline_located_compare_reaches_asserts`), so a source that compares locations falsifies this theorem itself. -/
theorem pipeline_state_asserts_unreachable (arms : List (List String × Bool × Bool)) (stage : List String) (isCompute : Bool) (ps : List PProp) :
    ∃ out, runAs pipelineDupCompare arms stage isCompute ps = some out ∧ ∀ n, out ≠ .panic n := by
  have hc : pipelineDupCompare = .text := by decide
  rw [hc]
  refine ⟨runPipe textEq arms stage isCompute ps, rfl, fun n => ?_⟩
  unfold runPipe
  cases hf : firstDup textEq ps [] with
  | some loc => simp
  | none =>
    have h := (firstDup_text_none_iff ps).1 hf
    exact stateLoop_no_panic arms isCompute _ [] (remaining_nodup stage ps h) (fun _ _ => by simp) n

/-- **Negation witness**: with the `Located<String>` comparison (name *and* source location) the duplicate check
    accepts every block a parser can produce — the locations of two properties always differ — and each of the four
    asserts is reached by a graphics pipeline that sets the property twice (the arms are the current source's). -/
theorem pipeline_located_compare_reaches_asserts :
    (∀ ps : List PProp, (ps.map (·.2)).Nodup → firstDup locatedEq ps [] = none) ∧
    runAs .located stateArms stageProps false [("VertexShader", 10), ("CullMode", 40), ("PixelShader", 50), ("CullMode", 60)] = some (.panic "CullMode") ∧
    runAs .located stateArms stageProps false [("WindingOrder", 40), ("DefaultBindGroup", 50), ("WindingOrder", 60)] = some (.panic "WindingOrder") ∧
    runAs .located stateArms stageProps false [("DepthTargetFormat", 40), ("DepthTargetFormat", 60)] = some (.panic "DepthTargetFormat") ∧
    runAs .located stateArms stageProps false [("RenderTargetFormat3", 40), ("RenderTargetFormat0", 50), ("RenderTargetFormat3", 60)] =
      some (.panic "RenderTargetFormat3") ∧
    -- the same blocks under the text comparison: the later occurrence is reported
    runAs pipelineDupCompare stateArms stageProps false [("CullMode", 40), ("CullMode", 60)] = some (.dup 60) ∧
    runAs pipelineDupCompare stateArms stageProps false [("RenderTargetFormat3", 40), ("RenderTargetFormat0", 50), ("RenderTargetFormat3", 60)] = some (.dup 60) ∧
    -- and on a compute pipeline the gated arm answers before anything is written
    runAs pipelineDupCompare stateArms stageProps true [("DefaultBindGroup", 40), ("CullMode", 60)] = some (.other 60) := by
  refine ⟨firstDup_located_none, ?_, ?_, ?_, ?_, ?_, ?_, ?_⟩ <;> decide

open RsslVerif.Lemmas.PanicClasses in
/-- value of a fact a class reason may cite (`[fact: <name>]`); an unknown name counts as false -/
def factHolds (name : String) : Bool :=
  if name = "Gen.PipelineProps.pipelineShape.duplicatePropertyCheckComparesText" then
    pipelineShape.duplicatePropertyCheckComparesText && pipelineShape.duplicateCheckIsThePairwiseLoop &&
    pipelineShape.duplicateCheckPrecedesPropertyLoops && pipelineShape.stateLoopWalksRemainingProperties &&
    pipelineShape.cullFlagWrittenByItsArmOnly && pipelineShape.windingFlagWrittenByItsArmOnly &&
    pipelineShape.depthSlotWrittenByItsArmOnly && pipelineShape.renderTargetSlotIsTheNameDigit
  else if name = "Gen.PipelineProps.pipelineShape.computeClosingAssertsFollowGatedWrites" then
    pipelineShape.computeClosingAssertsFollowGatedWrites && pipelineShape.isComputeIsFirstStage &&
    (stateArms.all fun a => !a.2.2 || a.2.1)
  else false

open RsslVerif.Lemmas.PanicClasses in
/-- **A class reason that names a regenerated fact fails when the fact is false.**  (1) every reviewed site whose
    reason is one of the citing reasons (`Lemmas.PanicClasses.citingReasons`: the reasons carrying a `[fact: ..]`
    marker; the maintenance script tools/gens/_c08_review.py lists every reason with a marker) has its fact true in the
    current `Gen` tables — stated as: every cited fact holds; (2) the six assert sites of `parse_pipeline` that are
    unreachable only because of the duplicate check / the compute gate do carry such a reason. -/
theorem panic_class_reasons_hold :
    citingReasons.all (fun c => factHolds c.1) = true ∧
    (["!cull_mode_set", "!winding_order_set", "gpo.depth_target_format.is_none()", "gpo.render_target_formats[index].is_none()"].all fun t =>
      reviewed.any fun r => r.1 == ("typer/src/typer/pipelines.rs", "parse_pipeline", "assert!", t) && r.2.1 == "unreachable-by-invariant" &&
        citingReasons.any fun c => c.1 == "Gen.PipelineProps.pipelineShape.duplicatePropertyCheckComparesText" && c.2 == r.2.2) = true ∧
    (["gpo.depth_target_format.is_none() #2", "gpo.render_target_formats.is_empty()"].all fun t =>
      reviewed.any fun r => r.1 == ("typer/src/typer/pipelines.rs", "parse_pipeline", "assert!", t) && r.2.1 == "unreachable-by-invariant" &&
        citingReasons.any fun c => c.1 == "Gen.PipelineProps.pipelineShape.computeClosingAssertsFollowGatedWrites" && c.2 == r.2.2) = true :=
  ⟨by decide +kernel,
   Lemmas.ReviewedTables.all_any_cited (List.singleton_sublist.1 (by sublist_pass)) (by sublist_pass),
   Lemmas.ReviewedTables.all_any_cited (List.singleton_sublist.1 (by sublist_pass)) (by sublist_pass)⟩

-- non-vacuity: a block without a repeat is walked to the end, one with a repeat is reported at the later occurrence,
-- an unknown name and a graphics property on a compute pipeline stop the walk with their diagnostic
example : runAs pipelineDupCompare stateArms stageProps false [("CullMode", 1), ("RenderTargetFormat0", 2), ("BlendState", 3), ("RenderTargetFormat1", 4)] = some .done := by decide
example : runAs pipelineDupCompare stateArms stageProps false [("BlendState", 1), ("CullMode", 2), ("BlendState", 3), ("CullMode", 4)] = some (.dup 3) := by decide
example : runAs pipelineDupCompare stateArms stageProps false [("CullMode", 1), ("Foo", 2)] = some (.other 2) := by decide
example : ¬ (names [("CullMode", 1), ("BlendState", 2), ("CullMode", 3)]).Nodup := by decide

end PipelineProps

/-- a consuming element parser: one token per element -/
def oneTok : Parser Nat Unit Nat := fun i => match i with | [] => .error ([], ()) | t :: r => .ok (r, t)

example : Consuming oneTok := by
  intro i rest a h
  cases i with
  | nil => cases h
  | cons t r => simp only [oneTok, Except.ok.injEq, Prod.mk.injEq] at h; rw [← h.1]; simp

example : parseMultiple oneTok 4 [7, 8, 9] = some (.ok ([], [7, 8, 9])) := rfl

example : readToEnd (fun off => if off < 3 then some (off + 1, off == 1) else none) 5 (Stream.new 3) [] =
    some (.tokens [⟨0, 1, false⟩, ⟨1, 2, true⟩, ⟨2, 3, false⟩, ⟨3, 3, true⟩]) := by decide

example : runFile (.ofList [.ifD false, .text 1, .elif true, .text 2, .els, .text 3, .endif, .text 4]) = .ok [2, 4] := rfl
example : runFile (.ofList [.ifD true, .els, .endif, .endif]) = .error .endIfNotMatched := rfl
example : runFile (.ofList [.ifD true, .ifD false]) = .error .notFinished := rfl
-- fix 03ca601: the `#else` branch is the last one
example : runFile (.ofList [.ifD false, .els, .text 1, .els, .text 2, .endif]) = .error .elseAfterElse := rfl
example : runFile (.ofList [.ifD false, .els, .text 1, .elif true, .text 2, .endif]) = .error .elifAfterElse := rfl
-- fix 115a619: the blocks of an included file start and end inside it
example : runFile (.ofList [.ifD true, .text 1, .incl (.ofList [.els]), .text 2, .endif]) = .error .elseNotMatched := rfl
example : runFile (.ofList [.incl (.ofList [.ifD true, .text 1]), .text 2, .endif]) = .error .notFinished := rfl
example : runFile (.ofList [.ifD true, .incl (.ofList [.ifD false, .text 1, .els, .text 2, .endif, .text 3]), .els, .text 4, .endif]) = .ok [2, 3] := rfl
-- a skipped `#include` does not load the file; fix ed75afa: a malformed directive line is ignored in a skipped block
example : runFile (.ofList [.ifD false, .incl (.ofList [.endif, .endif]), .junk, .endif, .text 1]) = .ok [1] := rfl
example : runFile (.ofList [.junk]) = .error .unknownCommand := rfl
example : (Lines.ofList [.ifD false, .text 1, .elif true, .els, .endif]).plain = true := rfl

section
open RsslVerif.Model.DefinedLoc RsslVerif.Lemmas.DefinedLoc RsslVerif.Gen.ArithSites
/-- `#if defined FOO && HAS(BAR)` with `#define HAS(x) defined(x)`: the bare `defined` fires in the outer scan, the one
    from the body does not -/
example : applyMacros (fun _ _ => none) bodyRescanFlag argExpandFlag 10
    [⟨3, true, 1, [⟨.id definedName, 200, 207⟩, ⟨.lparen, 207, 208⟩, ⟨.arg 0, 208, 209⟩, ⟨.rparen, 209, 210⟩]⟩]
    [⟨.id definedName, 4, 11⟩, ⟨.blank, 11, 12⟩, ⟨.id 2, 12, 15⟩, ⟨.blank, 15, 16⟩, ⟨.id 3, 16, 19⟩, ⟨.lparen, 19, 20⟩, ⟨.id 4, 20, 23⟩, ⟨.rparen, 23, 24⟩] true =
    .ok [⟨.lit 0, 4, 15⟩, ⟨.blank, 15, 16⟩, ⟨.id definedName, 200, 207⟩, ⟨.lparen, 207, 208⟩, ⟨.id 4, 20, 23⟩, ⟨.rparen, 209, 210⟩] := by rfl
example : tiled [⟨.id definedName, 4, 11⟩, ⟨.blank, 11, 12⟩, ⟨.id 2, 12, 15⟩] = true := by decide
end


section usage
open RsslVerif.Gen.UsageLoop RsslVerif.Model.Usage RsslVerif.Spec.Usage RsslVerif.Lemmas.Usage RsslVerif.Model.UsageDfs

/-- Tie to the source: `GlobalUsageAnalysis::recurse` is the sweep the model `Model.Usage.recurseFuel` mirrors
    (snapshot of the keys; `loop { modified = false; for key in &keys {..}; if !modified { break } }` with a single
    `break` and no `continue` / `return`; a key's new set starts from its current one and adds the sets of its members;
    `modified` is raised exactly when the set grew), it calls no function of usage_analysis.rs, the impl block consists
    of the four reviewed functions and none of them calls itself: the closure is computed by ITERATION, the call graph
    is never walked recursively.  A depth-first helper (seeded C08-6) falsifies five of the nine facts. -/
theorem usage_loop_as_modelled :
    usageLoopShape = ⟨true, true, true, true, true, true, true, true, true⟩ ∧ usageClosureIsIterative = true ∧
    implCalls = [("calculate", ["calculate_local", "recurse"]),
                 ("calculate_local", ["calculate_for_function", "gather_usage_for_init_opt"]),
                 ("recurse", []), ("get_usage_for_function", [])] := ⟨by decide, by decide, rfl⟩

/-- **The usage closure terminates on every call graph, cycles included.**  For every table in which each mentioned
    symbol has an entry (`calculate_local` makes one per function, global and constant buffer) and every iteration
    order of the keys: (1) the loop as the source writes it (`usageClosureIsIterative`, re-extracted on every run — the
    proof starts from it, so a recursive rewrite falsifies the theorem) returns a table within `n² + 1` sweeps, `n` =
    number of symbols, and with every larger fuel; it never reaches the `unwrap()` of a missing entry, whatever the
    fuel; (2) the termination measure: the sum of the set sizes is at most `n²`, never decreases in a sweep and
    strictly increases in a sweep that reports `modified`. -/
theorem usage_closure_terminates :
    usageClosureIsIterative = true ∧
    ∀ {t₀ : Table}, WF t₀ → ∀ {keys : List Sym}, (∀ k ∈ keys, k ∈ keysOf t₀) →
      (∃ t', recurse keys t₀ = .ok (some t')) ∧
      (∀ fuel, t₀.length * t₀.length < fuel → ∃ t', recurseFuel fuel keys t₀ = .ok (some t')) ∧
      (∀ fuel, ∃ r, recurseFuel fuel keys t₀ = .ok r) ∧
      (∀ t, Inv t₀ t → total t ≤ t₀.length * t₀.length ∧ total t ≤ total (sweepP t false keys).1 ∧
        ((sweepP t false keys).2 = true → total t < total (sweepP t false keys).1)) :=
  ⟨by decide, fun hwf _ hk => ⟨C02.recurse_terminates hwf hk, recurseFuel_some hwf hk, C02.recurse_no_panic hwf hk,
    fun _ hinv => C02.measure_bounded_and_increasing hinv _⟩⟩

/-- **What it returns is reachability**: after the loop, `g` is in `f`'s set iff `g` is mentioned by some symbol
    reachable from `f` (reflexive-transitive closure of "mentions" in the table of `calculate_local`) — the least
    fixpoint over the call graph, for every key order; keys unchanged, sets duplicate free (so
    `get_usage_for_function(..).unwrap()` of the exporters finds its entry). -/
theorem usage_closure_is_reachability {t₀ t' : Table} (hwf : WF t₀) {keys : List Sym}
    (hk : ∀ k, k ∈ keys ↔ k ∈ keysOf t₀) (h : recurse keys t₀ = .ok (some t')) :
    (∀ f g : Sym, g ∈ val t' f ↔ ∃ h, Reach (Mentions t₀) f h ∧ g ∈ val t₀ h) ∧
    keysOf t' = keysOf t₀ ∧ ∀ k, (val t' k).Nodup :=
  ⟨C02.close_is_reachability hwf hk h, C02.closure_keeps_keys hwf hk h⟩

/-- a call cycle without a way out: when the entry of every symbol of `S` is exactly one OTHER symbol of `S`, the walk
started at any of them on an empty memo table enters the next one a level deeper, and so exhausts every depth -/
theorem dfs_cycle (d : Table) (S : List Sym) (h : ∀ s ∈ S, ∃ o ∈ S, d.lookup s = some [o] ∧ o ≠ s) :
    ∀ (n : Nat), ∀ s ∈ S, resolve d n [] s = .error .stackExhausted
  | 0, _, _ => rfl
  | n + 1, s, hs => by
    obtain ⟨o, ho, hl, hne⟩ := h s hs
    simp [resolve, keysOf, hl, resolveAll, hne, dfs_cycle d S h n o ho]

/-- negation witness (why the loop shape matters): the memoised depth-first walk without an in-progress marker
    (`Model.UsageDfs`, the seeded rewrite C08-6) exhausts EVERY call depth on `is_even` / `is_odd` and on a cycle
    function → global initialiser → function → function — the real process dies with a stack overflow — although it
    handles a directly self-calling function; the loop of the current source closes the same three tables. -/
theorem usage_memo_dfs_overflows_on_cycle :
    (∀ depth keys, keys ≠ [] → (∀ k ∈ keys, k ∈ keysOf twoCycle) → recurseDfs twoCycle depth keys [] = .error .stackExhausted) ∧
    (∀ depth, recurseDfs threeCycle depth (keysOf threeCycle) [] = .error .stackExhausted) ∧
    recurseDfs selfLoop 3 (keysOf selfLoop) [] = .ok [(.fn 1, []), (.fn 0, [.fn 0, .fn 1])] ∧
    recurse (keysOf twoCycle) twoCycle = .ok (some [(.fn 0, [.fn 1, .fn 0]), (.fn 1, [.fn 0, .fn 1])]) ∧
    recurse (keysOf threeCycle) threeCycle =
      .ok (some [(.fn 0, [.glob 0, .fn 1, .fn 0]), (.glob 0, [.fn 1, .fn 0, .glob 0]), (.fn 1, [.fn 0, .glob 0, .fn 1])]) := by
  refine ⟨?_, ?_, by rfl, by rfl, by rfl⟩
  · intro depth keys hne hk
    cases keys with
    | nil => exact absurd rfl hne
    | cons k ks =>
      simp [recurseDfs, dfs_cycle twoCycle (keysOf twoCycle) (by decide) depth k (hk k (List.mem_cons_self ..))]
  · intro depth
    have h : recurseDfs threeCycle depth (keysOf threeCycle) [] =
      (match resolve threeCycle depth [] (.fn 0) with
        | .error e => .error e
        | .ok r' => recurseDfs threeCycle depth [.glob 0, .fn 1] r') := rfl
    rw [h, dfs_cycle threeCycle (keysOf threeCycle) (by decide) depth _ (by decide)]

/-- non-vacuity: cyclic tables are well formed (the hypothesis of the two theorems above holds for them) -/
example : WF twoCycle := wf_of_check (by decide)
example : WF threeCycle := wf_of_check (by decide)
/-- a ring of five with a chord and a self loop: every set ends with all five symbols, well inside the bound of 26 sweeps -/
example : (((recurse [.fn 0, .fn 1, .fn 2, .fn 3, .fn 4]
    [(.fn 0, [.fn 1]), (.fn 1, [.fn 2, .fn 1]), (.fn 2, [.fn 3]), (.fn 3, [.fn 4, .fn 1]), (.fn 4, [.fn 0])]).toOption.bind id).map
    (fun t => t.map (fun e => e.2.length))) = some [5, 5, 5, 5, 5] := by decide
end usage

end RsslVerif.Thm.C08
