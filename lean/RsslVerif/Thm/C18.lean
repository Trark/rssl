import RsslVerif.Model.Targets
import RsslVerif.Model.SimplifyCbuffers
import RsslVerif.Model.HlslModule
import RsslVerif.Model.CompileSteps
import RsslVerif.Model.GenHlsl
import RsslVerif.Gen.CbufferTables
import RsslVerif.Lemmas.MacroLite
/-!
# C18 — targets agree on everything that is target-independent

* the front end: preprocessing does not depend on the target as long as the unit does not mention the two target
  macros (`frontend_target_independent`, `targets_share_front_end`);
* stage reports and reflected bindings: kinds and counts are shared by all targets, names too between DirectX and Vulkan
  (`binding_kinds_counts_shared`, `dx_vk_bindings_shared`), in every mode of `compile()`;
* Metal rewrites cbuffer blocks before it reflects (`msl_reflects_simplified_module`);
* DirectX and Vulkan HLSL differ only in annotations, for whole modules (`dx_vk_differ_only_in_annotations`,
  `vk_vkba_differ_only_where_addresses_are`);
* `compile()` factors through the front end (`compile_factors_through_front_end`,
  `front_end_diagnostic_same_for_every_target`).
-/
namespace RsslVerif.Thm.C18
open RsslVerif.Gen.SlotTables RsslVerif.Gen.CompileTables RsslVerif.Gen.TargetTables
open RsslVerif.Model.MacroLite RsslVerif.Model.Targets RsslVerif.Spec.Targets
open RsslVerif.Lemmas.MacroLite

deriving instance DecidableEq for Except

/-! ## First error wins

Every list traversal of the models (`reports`, `mslReports`, `genRoots`) does this at each element. -/

/-- `x`, then `y`: the first error wins, two results are combined by `f` -/
def both {ε α β γ : Type} (f : α → β → γ) (x : Except ε α) (y : Except ε β) : Except ε γ :=
  match x with
  | .error e => .error e
  | .ok a =>
    match y with
    | .error e => .error e
    | .ok b => .ok (f a b)

/-- a map that `f` turns into `k` on the parts can be taken inside -/
theorem both_map {ε α β γ α' β' γ' : Type} {f : α → β → γ} {k : α' → β' → γ'} {g : γ → γ'} {g₁ : α → α'}
    {g₂ : β → β'} (h : ∀ a b, g (f a b) = k (g₁ a) (g₂ b)) (x : Except ε α) (y : Except ε β) :
    (both f x y).map g = both k (x.map g₁) (y.map g₂) := by
  cases x <;> cases y <;> simp [both, Except.map, h]

theorem both_eq_ok {ε α β γ : Type} {f : α → β → γ} {x : Except ε α} {y : Except ε β} {c : γ} :
    both f x y = .ok c ↔ ∃ a b, x = .ok a ∧ y = .ok b ∧ f a b = c := by
  cases x <;> cases y <;> simp [both]

/-! ## The front end -/

/-- General lemma (any set `S` of macro names, any two macro tables, any condition evaluator, files of any
    length, nesting of any depth): if the tables differ only in the bodies of the macros named in `S`, no other
    macro body mentions `S`, and the file never mentions `S` (text, `#if`/`#elif` conditions including
    `defined`, `#ifdef/#ifndef/#define/#undef` operands, bodies of the file's own macros), then preprocessing
    gives the same token stream or the same error. -/
theorem unmentioned_define_irrelevant (S : List String) (ev : List Tok → Option Bool) (ms ms' : Table)
    (hrel : TableRel S ms ms') (hc : TableClean S ms) (hc' : TableClean S ms')
    (file : List Line) (hfile : LinesClean S file) :
    run ev ms file = run ev ms' file := by
  rw [← run_blank ev hc file hfile, ← run_blank ev hc' file hfile, blank_of_rel hrel]

/-- Tie to the source: the generated defines whose value depends on the target are exactly these two. -/
theorem target_dependent_names : targetDependentNames = ["RSSL_TARGET_HLSL", "RSSL_TARGET_MSL"] := by decide +kernel

/-- with the bodies of the two target-dependent names erased, the generated part of the macro table is the same for all
    targets (same names, same order, same length): it is DirectX's -/
theorem blank_builtinTable (t : Target) :
    blank targetDependentNames (builtinTable t) = blank targetDependentNames (builtinTable .HlslForDirectX) := by
  cases t <;> decide

/-- the generated macro bodies are single integer literals: they mention no name at all -/
theorem builtin_table_clean (S : List String) (t : Target) : TableClean S (builtinTable t) := by
  intro m hm _ s hs
  simp only [builtinTable, List.mem_map] at hm
  obtain ⟨d, _, rfl⟩ := hm
  simp at hs

theorem initial_table_clean (S : List String) (t : Target) (user : Table) (hu : TableClean S user) :
    TableClean S (initialTable t user) := by
  intro m hm
  rcases List.mem_append.1 hm with h | h
  · exact builtin_table_clean S t m h
  · exact hu m h

/-- **The front end is target independent.**  For every pair of targets, every user define list and every
    file: if neither the file nor the bodies of the user's defines mention `RSSL_TARGET_HLSL` / `RSSL_TARGET_MSL`,
    the preprocessor output (token stream or error) is the same.  (Macro model: object-like macros, conditional
    directives, `defined`; see `Model/MacroLite.lean` for what is outside.) -/
theorem frontend_target_independent (ev : List Tok → Option Bool) (t t' : Target) (user : Table)
    (file : List Line)
    (huser : TableClean ["RSSL_TARGET_HLSL", "RSSL_TARGET_MSL"] user)
    (hfile : LinesClean ["RSSL_TARGET_HLSL", "RSSL_TARGET_MSL"] file) :
    run ev (initialTable t user) file = run ev (initialTable t' user) file := by
  rw [← target_dependent_names] at huser hfile
  rw [← run_blank ev (initial_table_clean _ t user huser) file hfile,
    ← run_blank ev (initial_table_clean _ t' user huser) file hfile,
    initialTable, initialTable, blank_append, blank_append, blank_builtinTable t, blank_builtinTable t']

/-- every textual use of the target, reviewed: the buffer-address argument check, the two define values and the
    binding_params match in `compile`; the export match (with the `for_spirv` argument and the bytecode switch) in
    `build_pipeline`; `for_spirv` handed through `export_to_hlsl` to `generate_module`, which reads it once. -/
def reviewedTargetUses : List (String × String × String × Nat) := [
  ("hlsl/src/ast_generate.rs", "generate_module", "for_spirv", 2),
  ("hlsl/src/lib.rs", "export_to_hlsl", "for_spirv", 2),
  ("hlsl/src/lib.rs", "verif_generate_ast", "for_spirv", 2),
  ("src/compile.rs", "build_pipeline", "Target::HlslForDirectX", 1),
  ("src/compile.rs", "build_pipeline", "Target::HlslForVulkan", 2),
  ("src/compile.rs", "build_pipeline", "Target::MetalBytecode", 2),
  ("src/compile.rs", "build_pipeline", "Target::Msl", 1),
  ("src/compile.rs", "build_pipeline", "args.target", 3),
  ("src/compile.rs", "compile", "Target::HlslForDirectX", 2),
  ("src/compile.rs", "compile", "Target::HlslForVulkan", 3),
  ("src/compile.rs", "compile", "Target::MetalBytecode", 2),
  ("src/compile.rs", "compile", "Target::Msl", 2),
  ("src/compile.rs", "compile", "args.target", 4)]

/-- every textual use of the target-derived parameters / flags / generator context fields, reviewed:
    binding annotations (`requires_vk_binding` in generate_global_variable / generate_constant_buffer),
    buffer address lowering (`requires_buffer_address` in the type generator and the address-method intrinsic),
    per-primitive attributes (`per_primitive_semantics`, `pixel_entry_for_mesh`), slot assignment. -/
def reviewedFlagUses : List (String × String × String × Nat) := [
  ("hlsl/src/ast_generate.rs", "analyse_per_primitive_attributes", "per_primitive_semantics", 2),
  ("hlsl/src/ast_generate.rs", "analyse_per_primitive_attributes", "pixel_entry_for_mesh", 1),
  ("hlsl/src/ast_generate.rs", "build_single_param", "requires_buffer_address", 1),
  ("hlsl/src/ast_generate.rs", "generate_constant_buffer", "requires_vk_binding", 2),
  ("hlsl/src/ast_generate.rs", "generate_function_inner", "pixel_entry_for_mesh", 1),
  ("hlsl/src/ast_generate.rs", "generate_function_param", "per_primitive_semantics", 1),
  ("hlsl/src/ast_generate.rs", "generate_global_variable", "requires_vk_binding", 2),
  ("hlsl/src/ast_generate.rs", "generate_intrinsic_function", "requires_buffer_address", 1),
  ("hlsl/src/ast_generate.rs", "generate_struct", "per_primitive_semantics", 1),
  ("hlsl/src/ast_generate.rs", "new", "per_primitive_semantics", 1),
  ("hlsl/src/ast_generate.rs", "new", "pixel_entry_for_mesh", 1),
  ("hlsl/src/ast_generate.rs", "prepend_modifiers", "per_primitive_semantics", 1),
  ("hlsl/src/ast_generate.rs", "prepend_modifiers", "pixel_entry_for_mesh", 1),
  ("ir/src/ir_module.rs", "?", "metal_slot_layout", 1),
  ("ir/src/ir_module.rs", "?", "require_slot_type", 1),
  ("ir/src/ir_module.rs", "?", "requires_buffer_address", 1),
  ("ir/src/ir_module.rs", "?", "requires_vk_binding", 1),
  ("ir/src/ir_module.rs", "?", "static_samplers_have_slots", 1),
  ("ir/src/ir_module.rs", "?", "support_buffer_address", 1),
  ("ir/src/ir_module.rs", "assign_api_bindings", "require_slot_type", 1),
  ("ir/src/ir_module.rs", "assign_api_bindings", "requires_buffer_address", 1),
  ("ir/src/ir_module.rs", "assign_api_bindings", "requires_vk_binding", 1),
  ("ir/src/ir_module.rs", "assign_api_bindings", "support_buffer_address", 2),
  ("ir/src/ir_module.rs", "default", "metal_slot_layout", 1),
  ("ir/src/ir_module.rs", "default", "require_slot_type", 1),
  ("ir/src/ir_module.rs", "default", "static_samplers_have_slots", 1),
  ("ir/src/ir_module.rs", "default", "support_buffer_address", 1),
  ("ir/src/ir_module.rs", "process_definition", "metal_slot_layout", 1),
  ("ir/src/ir_module.rs", "process_definition", "require_slot_type", 2),
  ("ir/src/ir_module.rs", "process_definition", "static_samplers_have_slots", 1),
  ("ir/src/ir_module.rs", "process_definition", "support_buffer_address", 1),
  ("src/compile.rs", "build_pipeline", "support_buffer_address", 1),
  ("src/compile.rs", "compile", "metal_slot_layout", 2),
  ("src/compile.rs", "compile", "require_slot_type", 2),
  ("src/compile.rs", "compile", "static_samplers_have_slots", 2),
  ("src/compile.rs", "compile", "support_buffer_address", 4),
  ("src/compile.rs", "new", "support_buffer_address", 1),
  ("src/compile.rs", "support_buffer_address", "support_buffer_address", 2)]

/-- Tie to the source: compile()'s front end has the shape `Model.Targets.frontEnd` mirrors; the target is read
    nowhere but at the reviewed places; the flags derived from it are read nowhere but at the reviewed places. -/
theorem target_reads_covered :
    frontShape = ⟨true, true, true, true, true⟩ ∧
    frontEndArgReads = ["defines", "entry_file_name", "include_handler", "validate_layout_consistency"] ∧
    targetUses.all (fun u => reviewedTargetUses.contains u) = true ∧
    flagUses.all (fun u => reviewedFlagUses.contains u) = true ∧
    flagsDerivedAsModelled = true ∧ hlslFormatterTargetFixed = true := by decide +kernel

/-- **All targets share one front end**: for inputs that do not mention the two target macros, `compile()` up to
    the typed IR — verdict *and* rendered diagnostic, whatever parse / type check / layout check (`rest`) do with
    the tokens and however errors are rendered — is the same function for every target. -/
theorem targets_share_front_end {ρ : Type} (ev : List Tok → Option Bool) (render : PErr → String)
    (rest : List Tok → Except String ρ) (t t' : Target) (a : FrontArgs)
    (huser : TableClean ["RSSL_TARGET_HLSL", "RSSL_TARGET_MSL"] a.user)
    (hfile : LinesClean ["RSSL_TARGET_HLSL", "RSSL_TARGET_MSL"] a.file) :
    frontEnd ev render rest t a = frontEnd ev render rest t' a := by
  simp only [frontEnd, frontend_target_independent ev t t' a.user a.file huser hfile]

/-- The rule of /repo 03ca601 ("reject a second #else and an #elif after the #else of an #if block"), for every state
    and every evaluator: once an `#else` has been accepted, a further `#else` of that block is the error
    `ElseAfterElse` and a further `#elif` is `ElifAfterElse` (its condition is still evaluated first, as in the code:
    a malformed condition is reported before the chain is consulted).
    The rule never looks at the macro table, so it is the same for every target (`unmentioned_define_irrelevant`:
    `PErr` equality includes these errors). -/
theorem no_branch_after_else (ev : List Tok → Option Bool) (st st' : St)
    (h : step ev st .else_ = .ok st') :
    step ev st' .else_ = .error .elseAfterElse ∧
    ∀ c, step ev st' (.elif c) = .error .elifAfterElse ∨ step ev st' (.elif c) = .error .badCondition := by
  simp only [step] at h
  cases hs : switch true true st.chain with
  | error e => simp [hs] at h
  | ok ch' =>
    simp only [hs, Except.ok.injEq] at h
    obtain ⟨g, r, rfl⟩ := switch_ok hs
    subst h
    refine ⟨by simp [step, switch], fun c => ?_⟩
    simp only [step, switch]
    cases condValue ev st.macros c with
    | none => exact .inr rfl
    | some a => exact .inl (by simp)

/-- non-vacuity of `no_branch_after_else`, and the first branch after the `#if` is unaffected: the two
    reproducers of the fix (`#if 0 / #else / a / #else / b / #endif`, `.. / #elif 1 / ..`) are rejected with the
    new errors, `#if / #elif / #else / #endif` is still accepted -/
example :
    run (fun ts => match ts with | [.lit n] => some (n != 0) | _ => none) (initialTable .HlslForDirectX [])
      [.if_ [.lit 0], .else_, .text [.id "a"], .else_, .text [.id "b"], .endif] = .error .elseAfterElse ∧
    run (fun ts => match ts with | [.lit n] => some (n != 0) | _ => none) (initialTable .Msl [])
      [.if_ [.lit 0], .else_, .text [.id "a"], .elif [.lit 1], .text [.id "b"], .endif] = .error .elifAfterElse ∧
    run (fun ts => match ts with | [.lit n] => some (n != 0) | _ => none) (initialTable .Msl [])
      [.if_ [.lit 0], .text [.id "a"], .elif [.lit 1], .text [.id "b"], .else_, .text [.id "c"], .endif]
      = .ok [.id "b"] := by decide +kernel

/-! ## Stage reports and pipeline state -/

/-- Tie to the source: both HLSL flavours go through one match arm that zips the pipeline's stages (kind and
    thread-group size) with the entry point names the exporter generated; those names are read from the HLSL name
    map, which is built from the module and the reserved table only (never from `for_spirv`); Metal copies stage
    and size; the pipeline state is cloned from the pipeline definition before the target is looked at. -/
theorem build_shape_as_modelled :
    buildShape = ⟨true, true, true, true, true, true⟩ ∧ hlslReportsEmittedName = true ∧
    nameMapsFromModuleAndReserved = true := by decide

/-- DirectX and Vulkan HLSL report identical stages: kinds, (emitted) entry point names and thread-group sizes —
    whatever the HLSL name map does to function names. -/
theorem dx_vk_same_stage_reports (rnFn : String → String) (stages : List StageDef) :
    stageReports rnFn .HlslForDirectX stages = stageReports rnFn .HlslForVulkan stages := rfl

/-- Every target reports the same stage kinds with the same thread-group sizes, in the same order. -/
theorem all_targets_same_stage_kinds_sizes (rnFn : String → String) (t t' : Target) (stages : List StageDef) :
    (stageReports rnFn t stages).map (fun s => (s.stage, s.threads)) =
    (stageReports rnFn t' stages).map (fun s => (s.stage, s.threads)) := by
  have h : ∀ t, (stageReports rnFn t stages).map (fun s => (s.stage, s.threads)) =
      stages.map (fun s => (s.stage, s.threads)) := by
    intro t
    simp only [stageReports, List.map_map]
    apply List.map_congr_left
    intro s _
    cases backendOf t <;> rfl
  rw [h t, h t']

/-- **Declarations only.**  The HLSL text of an extern global / cbuffer declaration for DirectX and for Vulkan (any slots,
    any spelling of the object types) is the same once `[[vk::binding]]` and `: register` are erased, unless a
    buffer address is lowered (address kind *and* buffer addresses requested).  The statement for whole modules —
    function bodies, struct members and the per-primitive attributes included — is `dx_vk_differ_only_in_annotations`. -/
theorem dx_vk_declarations_differ_only_in_annotations_partial {σ τ : Type} (spell : ObjKind → String)
    (slot : σ) (slot' : τ) (name : String) (k : Option ObjKind) (arr : Arr) (sba : Bool)
    (h : sba = false ∨ ∀ k', k = some k' → isBufferAddress k' = false) :
    (declText (flagsOf (paramsFor .HlslForDirectX false)) spell slot name k arr).erase =
    (declText (flagsOf (paramsFor .HlslForVulkan sba)) spell slot' name k arr).erase := by
  cases k with
  | none => simp [declText, DeclText.erase]
  | some k' =>
    rcases h with rfl | h
    · simp [declText, DeclText.erase, flagsOf, paramsFor, paramsDefault]
    · simp [declText, DeclText.erase, h k' rfl]

/-- and the annotations themselves are where the property says: DirectX writes `: register`, Vulkan
    `[[vk::binding]]`, never both, never neither -/
theorem dx_register_vk_binding {σ : Type} (spell : ObjKind → String) (slot : σ) (name : String)
    (k : Option ObjKind) (arr : Arr) (sba : Bool) :
    let dx := declText (flagsOf (paramsFor .HlslForDirectX false)) spell slot name k arr
    let vk := declText (flagsOf (paramsFor .HlslForVulkan sba)) spell slot name k arr
    dx.register = some slot ∧ dx.vkBinding = none ∧ vk.register = none ∧ vk.vkBinding = some slot := by
  simp [declText, flagsOf, paramsFor, paramsDefault]

/-- the fuel bound of the macro model is sufficient (no result is an artefact of running out of fuel) -/
theorem expand_fuel_irrelevant (ms : Table) (k : Nat) (t : Tok) :
    expandTok ms (fuelFor ms + k) [] t = expandTok ms (fuelFor ms) [] t :=
  expandTok_fuel_add ms k _ [] t (Nat.lt_succ_of_le (List.length_filter_le _ ms))

/-! ## Reflected bindings -/

/-- Tie to the source: the two back ends' ObjectType ↦ DescriptorType tables are the same table, the count rule
    is the same text, cbuffers are one ConstantBuffer descriptor on both. -/
theorem descriptor_tables_equal :
    (∀ k, hlslDescriptorKind k = mslDescriptorKind k) ∧ hlslNonObjectKind = mslNonObjectKind ∧
    countRuleShared = true ∧ hlslCbufferIsOneConstantBuffer = true ∧
    mslCbufferBecomesConstantBufferGlobal = true ∧ mslDescriptorKind .ConstantBuffer = some .ConstantBuffer := by
  refine ⟨fun k => by cases k <;> rfl, by decide, by decide, by decide, by decide, by decide⟩

/-- what a declaration alone says about its descriptor: kind and count (no target, no parameters) -/
def declDescriptor (d : Decl) : Option (DescKind × Option Nat) :=
  match d.shape with
  | .cbuffer => some (.ConstantBuffer, some 1)
  | .object k arr _ => (hlslDescriptorKind k).map (·, countOf arr)
  | .plain _ => none

theorem kindTable_eq (b : Backend) (k : ObjKind) : kindTable b k = hlslDescriptorKind k := by
  cases b
  · rfl
  · exact (descriptor_tables_equal.1 k).symm

/-- With /repo 774c0b4 ("a global of an object type that is not a resource is not given a register"): the object
    kinds either exporter can reflect are exactly kinds with a register class, so the allocator's rule "no
    register class, no slot" (`hasSlot`) never hides a declaration that `analyse_bindings` would report. -/
theorem reflected_kinds_are_resources (b : Backend) (k : ObjKind) (dk : DescKind)
    (h : kindTable b k = some dk) : (registerType k).isSome = true := by
  rw [kindTable_eq] at h
  cases k <;> first | rfl | (exact nomatch h)

/-- ... and a global of a kind that is not a resource (`RayDesc`, `RayQuery`, `TriangleStream`, the mips views) is
    refused by every back end under every parameter set, array or not: the targets agree.  Replayed on the real
    compiler by the `nonresource*` variants of `C18.cross`. -/
theorem non_resource_global_refused_on_every_target (rn : NameMaps) (b : Backend) (p : Params) (n : String)
    (k : ObjKind) (arr : Arr) (ss : Bool) (h : registerType k = none) :
    report rn b p ⟨n, .object k arr ss⟩ = .error .unsupportedObjectType ∧ hasSlot p (.object k arr ss) = false := by
  have hk : kindTable b k = none := by
    cases hd : kindTable b k with
    | none => rfl
    | some dk => have := reflected_kinds_are_resources b k dk hd; simp [h] at this
  simp [report, hk, hasSlot, h]

/-- non-vacuity: such kinds exist, and resource kinds are not affected -/
example : registerType .RayDesc = none ∧ registerType .RayQuery = none ∧ registerType .TriangleStream = none ∧
    (bindingsFor codeNameMaps .HlslForDirectX false [⟨"g", .object .Texture2D .single false⟩]).map List.length = .ok 1 := by
  decide +kernel

/-- Descriptor kind and count are functions of the declaration only: whatever the back end, the name maps and the
    binding parameters, a reflected binding carries `declDescriptor` of its declaration and the back end's
    reported name for it. -/
theorem kind_count_from_declaration (rn : NameMaps) (b : Backend) (p : Params) (d : Decl) (r : Binding)
    (h : report rn b p d = .ok (some r)) :
    r.name = reportedName rn b d ∧ declDescriptor d = some (r.kind, r.count) := by
  revert h
  fun_cases report rn b p d <;> intro h
  case case1 hs =>  -- a cbuffer block on HLSL
    cases h
    exact ⟨rfl, by simp [declDescriptor, hs]⟩
  case case3 hs dk hk =>  -- a cbuffer block on Metal
    rw [kindTable, descriptor_tables_equal.2.2.2.2.2] at hk
    cases hk; cases h
    exact ⟨rfl, by simp [declDescriptor, hs]⟩
  case case5 k arr ss hs dk hk =>  -- an object of a kind the back end reflects
    rw [kindTable_eq] at hk
    split at h <;> cases h
    exact ⟨rfl, by simp [declDescriptor, hs, hk]⟩
  all_goals cases h

/-- The compared part of what one declaration contributes to the reflection, names aside: nothing for a static
    sampler, a buffer address, an unbounded array or a kind without register class; the export error for a kind no
    back end reflects.  Neither the back end nor the binding parameters enter. -/
def kindsCountsOf (d : Decl) : Except ReportErr (List (DescKind × Option Nat)) :=
  match d.shape with
  | .cbuffer => .ok [(.ConstantBuffer, some 1)]
  | .plain _ => .ok []
  | .object k arr ss =>
    match hlslDescriptorKind k with
    | none => .error .unsupportedObjectType
    | some dk =>
      .ok (if !ss && !isAddressKind dk && (registerType k).isSome && arr != .unsized then [(dk, countOf arr)] else [])

theorem report_comparable (rn : NameMaps) (b : Backend) (p : Params) (d : Decl) :
    (report rn b p d).map (fun r => comparable r.toList) =
      (kindsCountsOf d).map (List.map fun kc => (reportedName rn b d, kc)) := by
  obtain ⟨name, shape⟩ := d
  cases shape with
  | cbuffer =>
    cases b <;>
      simp [report, kindTable, descriptor_tables_equal.2.2.2.2.2, kindsCountsOf, Except.map, comparable, isAddressKind]
  | plain arr => rfl
  | object k arr ss =>
    simp only [report, kindTable_eq, kindsCountsOf]
    cases hlslDescriptorKind k with
    | none => rfl
    | some dk =>
      cases ss <;> cases hs : (registerType k).isSome <;> cases ha : isAddressKind dk <;> cases hu : arr != .unsized <;>
        simp [Except.map, hasSlot, comparable, hs, ha, hu]

theorem report_kindsCounts (rn : NameMaps) (b : Backend) (p : Params) (d : Decl) :
    (report rn b p d).map (fun r => comparableKindsCounts r.toList) = kindsCountsOf d := by
  have h := congrArg (Except.map (List.map (·.2))) (report_comparable rn b p d)
  cases hr : report rn b p d <;> cases hk : kindsCountsOf d <;>
    simp_all [Except.map, comparable, comparableKindsCounts, Function.comp_def]

theorem reports_cons (rn : NameMaps) (b : Backend) (p : Params) (d : Decl) (ds : List Decl) :
    reports rn b p (d :: ds) = both (fun r rs => r.toList ++ rs) (report rn b p d) (reports rn b p ds) := by
  simp only [reports, both]
  cases report rn b p d <;> cases reports rn b p ds <;> rfl

theorem comparable_append (x y : List Binding) : comparable (x ++ y) = comparable x ++ comparable y := by
  simp [comparable]

theorem comparableKindsCounts_append (x y : List Binding) :
    comparableKindsCounts (x ++ y) = comparableKindsCounts x ++ comparableKindsCounts y := by
  simp [comparableKindsCounts]

/-- two traversals agree on a part `g` of the reflection (a part taken binding by binding) as soon as they agree on
    it declaration by declaration -/
theorem reports_map_congr {γ : Type} (g : List Binding → List γ) (hg : ∀ x y, g (x ++ y) = g x ++ g y)
    {rn rn' : NameMaps} {b b' : Backend} {p p' : Params} (ds : List Decl)
    (h : ∀ d ∈ ds, (report rn b p d).map (fun r => g r.toList) = (report rn' b' p' d).map (fun r => g r.toList)) :
    (reports rn b p ds).map g = (reports rn' b' p' ds).map g := by
  induction ds with
  | nil => rfl
  | cons d ds ih =>
    rw [reports_cons, reports_cons,
      both_map (k := (· ++ ·)) (g₁ := fun r => g r.toList) (g₂ := g) (fun r rs => hg r.toList rs),
      both_map (k := (· ++ ·)) (g₁ := fun r => g r.toList) (g₂ := g) (fun r rs => hg r.toList rs),
      h d List.mem_cons_self, ih fun d' hd' => h d' (List.mem_cons_of_mem _ hd')]

/-- For any list of declarations each of which is reported under the same name by HLSL and by Metal, any two back
    ends and parameter sets: both exports fail on an unsupported object kind, or both succeed and the compared
    parts — names, kinds, counts, in order — are equal. -/
theorem reports_shared (rn : NameMaps) (b b' : Backend) (p p' : Params) (ds : List Decl)
    (hn : ∀ d ∈ ds, reportedName rn .hlsl d = reportedName rn .msl d) :
    (reports rn b p ds).map comparable = (reports rn b' p' ds).map comparable := by
  refine reports_map_congr comparable comparable_append ds fun d hd => ?_
  have hname : ∀ b, reportedName rn b d = reportedName rn .msl d := fun b => by
    cases b
    · exact hn d hd
    · rfl
  rw [report_comparable, report_comparable, hname b, hname b']

/-- with the code's name maps, a declared name that both target languages treat alike (reserved in neither or in
    both; for a cbuffer block: not reserved in Metal) is reported under one name -/
theorem reservedAlike_same_name (d : Decl) (h : reservedAlike d = true) :
    reportedName codeNameMaps .hlsl d = reportedName codeNameMaps .msl d := by
  obtain ⟨name, shape⟩ := d
  cases shape with
  | cbuffer =>
    simp only [reservedAlike, Bool.not_eq_eq_eq_not, Bool.not_true] at h
    simp only [reportedName, nameFor, codeNameMaps, mslRename, h]
    rfl
  | object _ _ _ | plain _ =>
    simp only [reservedAlike, beq_iff_eq] at h
    simp only [reportedName, nameFor, codeNameMaps, hlslRename, mslRename, h]

/-- **Partial (names).**  All targets report the same binding names with the same descriptor kinds and counts,
    static samplers and buffer addresses aside — *provided every declared name is reserved in neither or in both
    target languages* (for a cbuffer block, which HLSL never renames: not reserved in Metal).  Missing for the full
    statement: the hypothesis `halike`; without it the statement is false on the current code
    (`binding_names_not_shared`).  (Name maps as modelled by `hlslRename` / `mslRename`: no declared `<name>_0`.) -/
theorem binding_names_kinds_counts_shared_partial (t t' : Target) (sba sba' : Bool)
    (ds : List Decl) (halike : ∀ d ∈ ds, reservedAlike d = true) :
    (bindingsFor codeNameMaps t sba ds).map comparable = (bindingsFor codeNameMaps t' sba' ds).map comparable :=
  reports_shared codeNameMaps _ _ _ _ ds (fun d hd => reservedAlike_same_name d (halike d hd))

/-- the two HLSL flavours always agree, names included (same exporter, same name map): no hypothesis -/
theorem dx_vk_bindings_shared (rn : NameMaps) (sba : Bool) (ds : List Decl) :
    (bindingsFor rn .HlslForDirectX false ds).map comparable =
    (bindingsFor rn .HlslForVulkan sba ds).map comparable :=
  reports_map_congr comparable comparable_append ds fun d _ => by
    rw [report_comparable, report_comparable]; rfl

/-- **All targets report the same descriptor kinds with the same counts, in the same order, static samplers and
    buffer addresses aside** — for any declaration list, any name maps, any two targets and buffer-address
    settings (full strength for the kinds/counts half of the statement). -/
theorem binding_kinds_counts_shared (rn : NameMaps) (t t' : Target) (sba sba' : Bool) (ds : List Decl) :
    (bindingsFor rn t sba ds).map comparableKindsCounts =
    (bindingsFor rn t' sba' ds).map comparableKindsCounts :=
  reports_map_congr comparableKindsCounts comparableKindsCounts_append ds fun d _ => by
    rw [report_kindsCounts, report_kindsCounts]

/-- a report depends on the name maps only through the name they give the declaration -/
theorem report_congr_names {rn rn' : NameMaps} (b : Backend) (p : Params) (d : Decl)
    (h : reportedName rn b d = reportedName rn' b d) : report rn b p d = report rn' b p d := by
  obtain ⟨name, shape⟩ := d
  cases shape <;> cases b <;> simp only [report, h]

/-- The names of the examples below are reserved in neither target language.  Said once: each evaluation that looks
    a name up turns every literal of the two reserved lists into bytes first. -/
theorem example_names_unreserved :
    ∀ n ∈ ["g_t", "g_c", "g_s", "g_a", "g_empty", "g_cb"], hlslRename n = n ∧ mslRename n = n := by decide +kernel

/-- on declarations whose names the code's name maps leave alone they can be replaced by the identity maps -/
theorem reports_of_unreserved {names : List String} (hnames : ∀ n ∈ names, hlslRename n = n ∧ mslRename n = n)
    (b : Backend) (p : Params) (ds : List Decl) (hds : ∀ d ∈ ds, d.name ∈ names) :
    reports codeNameMaps b p ds = reports ⟨id, id⟩ b p ds := by
  induction ds with
  | nil => rfl
  | cons d ds ih =>
    have hd := hnames d.name (hds d List.mem_cons_self)
    have hname : reportedName codeNameMaps b d = reportedName ⟨id, id⟩ b d := by
      obtain ⟨name, shape⟩ := d
      cases shape <;> cases b <;> simp [reportedName, nameFor, codeNameMaps, hd.1, hd.2]
    rw [reports_cons, reports_cons, ih fun d' hd' => hds d' (List.mem_cons_of_mem _ hd'),
      report_congr_names b p d hname]

/-- **Negation of the full statement on the current code, with witnesses** for each way a name can be reserved in
    one target language only: a texture named `matrix` (HLSL only) is `matrix_0` on the HLSL targets and `matrix`
    on Metal; a texture named `kernel` (Metal only) is `kernel` on HLSL and `kernel_0` on Metal; a cbuffer block
    named `main` keeps its name on HLSL and becomes `main_0` on Metal.  Replayed on the real compiler by
    corpus/C18.txt (`reserved-matrix`, `reserved-kernel`, `reserved-cb-main`; known-finding class
    `binding-name-reserved-in-one-target`). -/
theorem binding_names_not_shared :
    (∀ ds ∈ ([[⟨"matrix", .object .Texture2D .single false⟩], [⟨"kernel", .object .Texture2D .single false⟩],
        [⟨"main", .cbuffer⟩]] : List (List Decl)),
      (bindingsFor codeNameMaps .HlslForDirectX false ds).map comparable ≠
      (bindingsFor codeNameMaps .Msl false ds).map comparable) ∧
    reservedAlike ⟨"matrix", .object .Texture2D .single false⟩ = false ∧
    reservedAlike ⟨"kernel", .object .Texture2D .single false⟩ = false ∧
    reservedAlike ⟨"main", .cbuffer⟩ = false := by decide +kernel

/-! ### The mode of `compile()`: all pipelines / one named pipeline / `no_pipeline_mode()` (seed C18-7)

`build_pipeline` hands the exporters a module with `selected_pipeline = Some _` in the first two modes and `None` in
the third.  The statements above are about `bindingsFor`, which looks at the declarations only; they describe the code
in *every* mode only if no exporter makes its reflection depend on a selected pipeline.  That is read from both
`generate_module`s on every run and stated here as an obligation; `bindingsInMode` interprets the extracted facts (an exporter that
reflects only under a selected pipeline reports nothing in no-pipeline mode), and the target-independence theorems
are restated with the mode quantified. -/

/-- Tie to the source: both exporters run their `analyse_bindings` loop and hand its result on whether or not a pipeline is
    selected (hlsl: the loop precedes every look at `module.selected_pipeline`; msl: `generate_pipeline` takes an
    `Option`, is called unconditionally and analyses before it looks at the definition).  Seed C18-7 (Metal returns
    `PipelineDescription::default()` without a selected pipeline) falsifies the second conjunct. -/
theorem bindings_reported_without_pipeline :
    hlslBindingsReportedWithoutPipeline = true ∧ mslBindingsReportedWithoutPipeline = true := by decide

/-- for the extracted facts the reflection of every target is the same function of the declarations in every mode -/
theorem bindings_mode_independent (rn : NameMaps) (t : Target) (sba : Bool) (m : Mode) (ds : List Decl) :
    bindingsInMode codeReportsWithoutPipeline rn t sba m ds = bindingsFor rn t sba ds := by
  have h : ∀ b, codeReportsWithoutPipeline b = true := by
    intro b
    cases b
    · exact bindings_reported_without_pipeline.1
    · exact bindings_reported_without_pipeline.2
  simp [bindingsInMode, h]

/-- `binding_kinds_counts_shared` with the mode quantified: any declarations, any name maps, any two targets and
    buffer-address settings, **any mode** (all pipelines, a named pipeline, no pipeline): both exports fail or the
    kinds / counts of the compared part are equal in order -/
theorem binding_kinds_counts_shared_in_every_mode (rn : NameMaps) (t t' : Target) (sba sba' : Bool) (m : Mode)
    (ds : List Decl) :
    (bindingsInMode codeReportsWithoutPipeline rn t sba m ds).map comparableKindsCounts =
    (bindingsInMode codeReportsWithoutPipeline rn t' sba' m ds).map comparableKindsCounts := by
  rw [bindings_mode_independent, bindings_mode_independent]
  exact binding_kinds_counts_shared rn t t' sba sba' ds

/-- **Partial** (same missing part as `binding_names_kinds_counts_shared_partial`: names are shared only when every
    declared name is reserved in neither or in both target languages; the full statement is false, see
    `binding_names_not_shared`), with the mode quantified -/
theorem binding_names_kinds_counts_shared_in_every_mode_partial (t t' : Target) (sba sba' : Bool) (m : Mode)
    (ds : List Decl) (halike : ∀ d ∈ ds, reservedAlike d = true) :
    (bindingsInMode codeReportsWithoutPipeline codeNameMaps t sba m ds).map comparable =
    (bindingsInMode codeReportsWithoutPipeline codeNameMaps t' sba' m ds).map comparable := by
  rw [bindings_mode_independent, bindings_mode_independent]
  exact binding_names_kinds_counts_shared_partial t t' sba sba' ds halike

/-- DirectX and Vulkan agree on names, kinds and counts in every mode, no hypothesis -/
theorem dx_vk_bindings_shared_in_every_mode (rn : NameMaps) (sba : Bool) (m : Mode) (ds : List Decl) :
    (bindingsInMode codeReportsWithoutPipeline rn .HlslForDirectX false m ds).map comparable =
    (bindingsInMode codeReportsWithoutPipeline rn .HlslForVulkan sba m ds).map comparable := by
  rw [bindings_mode_independent, bindings_mode_independent]
  exact dx_vk_bindings_shared rn sba ds

/-- every target reports the same stage kinds and thread-group sizes in every mode (none at all without a pipeline) -/
theorem all_targets_same_stage_kinds_sizes_in_every_mode (rnFn : String → String) (t t' : Target) (m : Mode)
    (stages : List StageDef) :
    (stageReportsInMode rnFn t m stages).map (fun s => (s.stage, s.threads)) =
    (stageReportsInMode rnFn t' m stages).map (fun s => (s.stage, s.threads)) := by
  unfold stageReportsInMode
  cases m.selectsPipeline
  · rfl
  · exact all_targets_same_stage_kinds_sizes rnFn t t' stages

/-- an exporter table like seed C18-7's: Metal reflects only under a selected pipeline -/
def seedC18_7 : Backend → Bool := fun b => b != .msl

def modeDs : List Decl := [⟨"g_t", .object .Texture2D (.sized 3) false⟩, ⟨"g_c", .cbuffer⟩]

/-- non-vacuity: in no-pipeline mode the compared part is not empty and equal for DirectX and Metal; and the extracted
    fact matters - for an exporter table like the seed's (Metal reflects only under a selected pipeline) the kinds /
    counts of the two targets differ in no-pipeline mode and only there -/
example :
    (bindingsInMode codeReportsWithoutPipeline codeNameMaps .Msl false .none modeDs).map comparable =
      .ok [("g_t", .Texture2d, some 3), ("g_c", .ConstantBuffer, some 1)] := by
  rw [bindings_mode_independent, bindingsFor, reports_of_unreserved example_names_unreserved] <;> decide +kernel
example :
    (bindingsInMode codeReportsWithoutPipeline codeNameMaps .HlslForDirectX false .none modeDs).map comparable =
      .ok [("g_t", .Texture2d, some 3), ("g_c", .ConstantBuffer, some 1)] := by
  rw [bindings_mode_independent, bindingsFor, reports_of_unreserved example_names_unreserved] <;> decide +kernel
example :
    (bindingsInMode seedC18_7 codeNameMaps .Msl false .none modeDs).map comparableKindsCounts = .ok [] := by decide +kernel
example :
    (bindingsInMode seedC18_7 codeNameMaps .Msl false .none modeDs).map comparableKindsCounts ≠
      (bindingsInMode seedC18_7 codeNameMaps .HlslForDirectX false .none modeDs).map comparableKindsCounts := by decide +kernel
example :
    (bindingsInMode seedC18_7 codeNameMaps .Msl false .named modeDs).map comparableKindsCounts =
      (bindingsInMode seedC18_7 codeNameMaps .HlslForDirectX false .named modeDs).map comparableKindsCounts := by decide +kernel

/-! ## Non-vacuity -/

/-- a file with a user macro, nested conditionals and `defined`, clean of the target macros, expands to real
    output and identically for DirectX and Metal -/
example :
    run (fun ts => match ts with | [.lit n] => some (n != 0) | _ => none)
      (initialTable .HlslForDirectX [⟨"USER", [.id "x", .punct "+", .id "__HLSL_VERSION"]⟩])
      [.define "A" [.id "USER", .punct ";"], .ifdef false "A", .text [.id "A", .id "y"], .else_,
       .text [.id "z"], .endif, .if_ [.id "defined", .punct "(", .id "B", .punct ")"], .text [.id "w"], .endif]
    = .ok [.id "x", .punct "+", .lit 2021, .punct ";", .id "y"] := by decide +kernel

/-- the hypothesis matters: a file that does test the macro gives different streams -/
example :
    run (fun ts => match ts with | [.lit n] => some (n != 0) | _ => none) (initialTable .HlslForDirectX [])
      [.if_ [.id "RSSL_TARGET_HLSL"], .text [.id "a"], .else_, .text [.id "b"], .endif] ≠
    run (fun ts => match ts with | [.lit n] => some (n != 0) | _ => none) (initialTable .Msl [])
      [.if_ [.id "RSSL_TARGET_HLSL"], .text [.id "a"], .else_, .text [.id "b"], .endif] := by decide +kernel

/-- the compared part is not empty, and what is put aside really differs between targets -/
example :
    let ds : List Decl := [⟨"g_t", .object .Texture2D (.sized 3) false⟩, ⟨"g_s", .object .SamplerState .single true⟩,
      ⟨"g_a", .object .BufferAddress .single false⟩, ⟨"g_c", .cbuffer⟩]
    (bindingsFor codeNameMaps .HlslForDirectX false ds).map comparable =
      .ok [("g_t", .Texture2d, some 3), ("g_c", .ConstantBuffer, some 1)] ∧
    (bindingsFor codeNameMaps .HlslForDirectX false ds).map List.length = .ok 4 ∧
    (bindingsFor codeNameMaps .Msl false ds).map comparable =
      .ok [("g_t", .Texture2d, some 3), ("g_c", .ConstantBuffer, some 1)] := by
  simp only [bindingsFor]
  rw [reports_of_unreserved example_names_unreserved, reports_of_unreserved example_names_unreserved] <;>
    decide +kernel


/-! ## Metal rewrites cbuffer blocks before it reflects (`simplify_cbuffers`)

The Metal exporter does not see `cbuffer` blocks: `simplify_cbuffers` has turned each of them into a struct and a
`ConstantBuffer<struct>` global.  `Model.SimplifyCbuffers` mirrors that rewrite of the root-definition list; the theorems
say that reflecting the rewritten list on Metal gives, block for block, what the thin model (`report` on `.cbuffer`) says,
so that every statement above about `bindingsFor` holds for the composition bind -> rewrite -> analyse; in particular a
cbuffer block keeps exactly one binding on every target whatever its members are (none included). -/
section Simplify
open RsslVerif.Model.SimplifyCbuffers RsslVerif.Gen.CbufferTables

/-- Tie to the source: the pass has the modelled text (every cbuffer of the registry, unconditionally; root definitions
    rewritten one for two), Metal runs it first, slots are assigned before, and every cbuffer block gets a slot. -/
theorem simplify_cbuffers_as_modelled :
    simplifyEveryCbuffer = true ∧ mslSimplifiesFirst = true ∧ slotsAssignedBeforeExport = true ∧
    everyCbufferGetsASlot = true := by decide

theorem mslReports_cons (rn : NameMaps) (p : Params) (d : Root') (ds : List Root') :
    mslReports rn p (d :: ds) = both (fun r rs => r.toList ++ rs) (mslReport rn p d) (mslReports rn p ds) := by
  simp only [mslReports, both]
  cases mslReport rn p d <;> cases mslReports rn p ds <;> rfl

/-- **Bind, rewrite, analyse = the thin model.**  For any list of root definitions (cbuffer blocks with any members,
    none included): Metal's reflection of the module `simplify_cbuffers` produces is `reports .. .msl` of the declaration
    list - one `ConstantBuffer` binding per block under the block's (Metal-mapped) name. -/
theorem msl_reflects_simplified_module (rn : NameMaps) (rs : List Root) :
    mslBindings rn rs = reports rn .msl (paramsFor .Msl false) (decls rs) := by
  unfold mslBindings
  induction rs with
  | nil => rfl
  | cons r rs ih =>
    cases r with
    | other =>
      rw [simplify, mslReports_cons, ih]
      show _ = reports rn .msl _ (decls rs)
      cases reports rn .msl (paramsFor .Msl false) (decls rs) <;> rfl
    | global n g =>
      rw [simplify, mslReports_cons, ih]
      exact (reports_cons rn .msl _ ⟨n, g.toShape⟩ (decls rs)).symm
    | cbuffer n ms =>
      -- the struct is not reflected; the global made from the block is reflected as the block is
      rw [simplify, mslReports_cons, mslReports_cons, ih]
      show _ = reports rn .msl _ (⟨n, .cbuffer⟩ :: decls rs)
      rw [reports_cons]
      cases reports rn .msl (paramsFor .Msl false) (decls rs) <;> rfl

/-- **All targets report the same descriptor kinds and counts for any module, the Metal rewrite included** (static
    samplers and buffer addresses aside): HLSL flavour `t` reflecting the module as written vs Metal reflecting the
    rewritten module.  Full strength for kinds / counts / order; any name maps, any cbuffer members. -/
theorem kinds_counts_shared_through_simplify (rn : NameMaps) (t : Target) (sba : Bool) (rs : List Root)
    (ht : backendOf t = .hlsl) :
    (hlslBindings rn t sba rs).map comparableKindsCounts = (mslBindings rn rs).map comparableKindsCounts := by
  rw [msl_reflects_simplified_module, hlslBindings, ← ht]
  exact binding_kinds_counts_shared rn t .Msl sba false (decls rs)

/-- **Partial (names)**: the same with the binding names, for the code's name maps, provided every declared name is
    reserved in neither or in both target languages (what is missing for the full statement is that hypothesis; without
    it the statement is false: `binding_names_not_shared`). -/
theorem bindings_shared_through_simplify_partial (t : Target) (sba : Bool) (rs : List Root)
    (ht : backendOf t = .hlsl) (halike : ∀ d ∈ decls rs, reservedAlike d = true) :
    (hlslBindings codeNameMaps t sba rs).map comparable = (mslBindings codeNameMaps rs).map comparable := by
  rw [msl_reflects_simplified_module, hlslBindings, ← ht]
  exact binding_names_kinds_counts_shared_partial t .Msl sba false (decls rs) halike

/-- a cbuffer block keeps exactly one binding on every target, whatever its members are -/
theorem cbuffer_block_one_binding_everywhere (n : String) (ms : List String) (hn : reservedAlike ⟨n, .cbuffer⟩ = true) :
    (hlslBindings codeNameMaps .HlslForDirectX false [.cbuffer n ms]).map comparable = .ok [(n, .ConstantBuffer, some 1)] ∧
    (hlslBindings codeNameMaps .HlslForVulkan true [.cbuffer n ms]).map comparable = .ok [(n, .ConstantBuffer, some 1)] ∧
    (mslBindings codeNameMaps [.cbuffer n ms]).map comparable = .ok [(n, .ConstantBuffer, some 1)] := by
  -- HLSL never renames a block; Metal then follows from the sharing theorem
  have h : ∀ t sba, (hlslBindings codeNameMaps t sba [.cbuffer n ms]).map comparable =
      .ok [(n, .ConstantBuffer, some 1)] := fun t sba => by
    simp [hlslBindings, decls, toDecl, reports, report, reportedName, Except.map, comparable, isAddressKind]
  refine ⟨h _ _, h _ _, ?_⟩
  rw [← bindings_shared_through_simplify_partial .HlslForDirectX false [.cbuffer n ms] rfl
    (by intro d hd; simp [decls, toDecl] at hd; subst hd; exact hn)]
  exact h _ _

set_option maxRecDepth 8000 in
/-- non-vacuity: an empty block, a block with members and a texture array; the rewritten module has two more root
    definitions and no cbuffer, and all three targets agree on the compared part -/
example :
    let rs : List Root := [.cbuffer "g_empty" [], .global "g_t" (.object .Texture2D (.sized 2) false), .other,
      .cbuffer "g_cb" ["a", "b"]]
    simplify rs = [.struct "g_emptyType" [], .global "g_empty" (.object .ConstantBuffer .single false) true,
      .global "g_t" (.object .Texture2D (.sized 2) false) false, .other,
      .struct "g_cbType" ["a", "b"], .global "g_cb" (.object .ConstantBuffer .single false) true] ∧
    (mslBindings codeNameMaps rs).map comparable =
      .ok [("g_empty", .ConstantBuffer, some 1), ("g_t", .Texture2d, some 2), ("g_cb", .ConstantBuffer, some 1)] ∧
    (hlslBindings codeNameMaps .HlslForDirectX false rs).map comparable = (mslBindings codeNameMaps rs).map comparable := by
  simp only [msl_reflects_simplified_module, hlslBindings]
  rw [reports_of_unreserved example_names_unreserved, reports_of_unreserved example_names_unreserved] <;>
    decide +kernel

end Simplify


/-! ## DirectX and Vulkan HLSL differ only in annotations - whole modules, function bodies included

`Model.HlslModule.genModule` puts every reader of the target-derived flags / context fields of hlsl/src/ast_generate.rs at
its place in the generated module (declarations, struct members, parameters and attributes of the pixel entry point of a
mesh pipeline); the generator of everything else of a function is a parameter that sees `requires_buffer_address` only. -/
section HlslModule
open RsslVerif.Model.HlslModule RsslVerif.Gen.CbufferTables

/-- Tie to the source: the readers of the flags / context fields in hlsl/src/ast_generate.rs are exactly these
    (function, field) pairs - each is a site of `genModule` - and the three per-primitive sites and the `for_spirv` guard
    have the modelled text.  (`new` / `prepend_modifiers`: the struct-literal initialisers of the two context fields.) -/
theorem hlsl_target_sites_as_modelled :
    ((flagUses.filter (fun u => u.1 == "hlsl/src/ast_generate.rs")).map (fun u => (u.2.1, u.2.2.1))) =
      [("analyse_per_primitive_attributes", "per_primitive_semantics"),
       ("analyse_per_primitive_attributes", "pixel_entry_for_mesh"),
       ("build_single_param", "requires_buffer_address"),
       ("generate_constant_buffer", "requires_vk_binding"),
       ("generate_function_inner", "pixel_entry_for_mesh"),
       ("generate_function_param", "per_primitive_semantics"),
       ("generate_global_variable", "requires_vk_binding"),
       ("generate_intrinsic_function", "requires_buffer_address"),
       ("generate_struct", "per_primitive_semantics"),
       ("new", "per_primitive_semantics"), ("new", "pixel_entry_for_mesh"),
       ("prepend_modifiers", "per_primitive_semantics"), ("prepend_modifiers", "pixel_entry_for_mesh")] ∧
    forSpirvOnlyGuardsPerPrimitiveAnalysis = true ∧ perPrimitiveSitesAsModelled = true := by decide +kernel

theorem declTextOpt_erase {σ σ' : Type} (f f' : Flags) (spell : ObjKind → String) (h : σ → σ') (g : GlobalDef σ)
    (hba : f.requiresBufferAddress = f'.requiresBufferAddress ∨ g.addressFree = true) :
    (declTextOpt f spell g).erase = (declTextOpt f' spell (g.reslot h)).erase := by
  obtain ⟨name, kind, arr, slot⟩ := g
  cases kind with
  | none => cases slot <;> simp [declTextOpt, GlobalDef.reslot, DeclText.erase, declText]
  | some k =>
    have hk : (isBufferAddress k && f.requiresBufferAddress) = (isBufferAddress k && f'.requiresBufferAddress) := by
      rcases hba with e | e
      · rw [e]
      · simp only [GlobalDef.addressFree, Bool.not_eq_eq_eq_not, Bool.not_true] at e
        simp [e]
    cases slot <;> simp [declTextOpt, GlobalDef.reslot, DeclText.erase, declText, hk]

/-- the hypothesis under which the buffer-address flag can not show: it is the same on both sides, or the module
    declares no buffer address and its function generator does not look at the flag -/
def AddressAgnostic {σ φ τ ε : Type} (f f' : Flags) (genFn : Bool → φ → Except ε τ) (m : Module σ φ) : Prop :=
  f.requiresBufferAddress = f'.requiresBufferAddress ∨
  ((∀ g, Root.global g ∈ m.roots → g.addressFree = true) ∧
   (∀ fd, Root.func fd ∈ m.roots → genFn true fd.code = genFn false fd.code))

theorem genRoots_cons {σ φ τ ε : Type} (f : Flags) (pp : PerPrim) (spell : ObjKind → String)
    (genFn : Bool → φ → Except ε τ) (r : Root σ φ) (rs : List (Root σ φ)) :
    genRoots f pp spell genFn (r :: rs) =
      both List.cons (genRoot f pp spell genFn r) (genRoots f pp spell genFn rs) := by
  simp only [genRoots, both]
  cases genRoot f pp spell genFn r <;> cases genRoots f pp spell genFn rs <;> rfl

/-- two traversals agree up to annotations as soon as they do root definition by root definition -/
theorem genRoots_erase {σ σ' φ τ ε : Type} (f f' : Flags) (pp pp' : PerPrim) (spell : ObjKind → String)
    (genFn : Bool → φ → Except ε τ) (h : σ → σ') (rs : List (Root σ φ))
    (hr : ∀ r ∈ rs, (genRoot f pp spell genFn r).map RootText.erase =
      (genRoot f' pp' spell genFn (r.reslot h)).map RootText.erase) :
    (genRoots f pp spell genFn rs).map (List.map RootText.erase) =
    (genRoots f' pp' spell genFn (rs.map (Root.reslot h))).map (List.map RootText.erase) := by
  induction rs with
  | nil => rfl
  | cons r rs ih =>
    rw [List.map_cons, genRoots_cons, genRoots_cons,
      both_map (k := List.cons) (g₁ := RootText.erase) (g₂ := List.map RootText.erase) (fun _ _ => rfl),
      both_map (k := List.cons) (g₁ := RootText.erase) (g₂ := List.map RootText.erase) (fun _ _ => rfl),
      hr r List.mem_cons_self, ih fun r' hm => hr r' (List.mem_cons_of_mem _ hm)]

/-- **Two HLSL exports of one module differ only in annotations**: for any module (structs, extern globals, cbuffer
    blocks, functions with bodies of any size), any two settings of `for_spirv`, any two binding parameter sets, any api
    slots - with the annotations erased (`: register`, `[[vk::binding]]`, `[[vk::ext_decorate]]`, the
    `[[vk::ext_extension]]` pair) both exports fail alike or are equal root definition by root definition, *provided the
    buffer-address flag can not show* (`AddressAgnostic`). -/
theorem hlsl_exports_differ_only_in_annotations {σ σ' φ τ ε : Type} (fs fs' : Bool) (p p' : Params)
    (spell : ObjKind → String) (genFn : Bool → φ → Except ε τ) (h : σ → σ') (m : Module σ φ)
    (ha : AddressAgnostic (flagsOf p) (flagsOf p') genFn m) :
    (genModule fs p spell genFn m).map (List.map RootText.erase) =
    (genModule fs' p' spell genFn (m.reslot h)).map (List.map RootText.erase) := by
  refine genRoots_erase _ _ _ _ spell genFn h m.roots fun r hr => ?_
  cases r with
  | struct s => simp [genRoot, Root.reslot, RootText.erase, Except.map, List.map_map, Function.comp_def]
  | global g =>
    simp only [genRoot, Root.reslot, Except.map, RootText.erase]
    rw [declTextOpt_erase _ _ spell h g (ha.imp_right fun e => e.1 g hr)]
  | func fd =>
    have e : genFn (flagsOf p).requiresBufferAddress fd.code = genFn (flagsOf p').requiresBufferAddress fd.code := by
      rcases ha with e | ⟨_, e⟩
      · rw [e]
      · have := e fd hr
        cases (flagsOf p).requiresBufferAddress <;> cases (flagsOf p').requiresBufferAddress <;> simp_all
    simp only [genRoot, Root.reslot]
    rw [e]
    cases genFn (flagsOf p').requiresBufferAddress fd.code with
    | error e => rfl
    | ok code => simp [Except.map, RootText.erase, List.map_map, Function.comp_def]

/-- **DirectX vs Vulkan**: `export_to_hlsl(ir, false)` on the module bound for DirectX and `export_to_hlsl(ir, true)` on
    the module bound for Vulkan (no buffer addresses requested) differ only in annotations - unconditionally. -/
theorem dx_vk_differ_only_in_annotations {σ σ' φ τ ε : Type} (spell : ObjKind → String)
    (genFn : Bool → φ → Except ε τ) (h : σ → σ') (m : Module σ φ) :
    (genModule false (paramsFor .HlslForDirectX false) spell genFn m).map (List.map RootText.erase) =
    (genModule true (paramsFor .HlslForVulkan false) spell genFn (m.reslot h)).map (List.map RootText.erase) :=
  hlsl_exports_differ_only_in_annotations false true _ _ spell genFn h m (Or.inl (by decide))

/-- **Vulkan with vs without buffer addresses**: beyond annotations the two differ only where a buffer address is
    declared or its methods are called - if the module declares none and no body depends on the flag, they are equal. -/
theorem vk_vkba_differ_only_where_addresses_are {σ σ' φ τ ε : Type} (spell : ObjKind → String)
    (genFn : Bool → φ → Except ε τ) (h : σ → σ') (m : Module σ φ)
    (hg : ∀ g, Root.global g ∈ m.roots → g.addressFree = true)
    (hf : ∀ fd, Root.func fd ∈ m.roots → genFn true fd.code = genFn false fd.code) :
    (genModule true (paramsFor .HlslForVulkan false) spell genFn m).map (List.map RootText.erase) =
    (genModule true (paramsFor .HlslForVulkan true) spell genFn (m.reslot h)).map (List.map RootText.erase) :=
  hlsl_exports_differ_only_in_annotations true true _ _ spell genFn h m (Or.inr ⟨hg, hf⟩)

/-- **Function level, citing C01's exporter model**: with `Model.GenHlsl.genFunc` (expressions, statements, literals,
    calls, intrinsics of the scalar subset - the generator C01 proves meaning-preserving) as the function generator, the
    DirectX and Vulkan exports of any module are equal up to annotations; `genFunc` takes the name context only, so the
    generated functions are literally the same terms on both sides. -/
theorem dx_vk_differ_only_in_annotations_c01 {σ σ' : Type} (spell : ObjKind → String) (cx : RsslVerif.Model.GenHlsl.Ctx)
    (h : σ → σ') (m : Module σ RsslVerif.Model.Ir.Func) :
    (genModule false (paramsFor .HlslForDirectX false) spell (fun _ => RsslVerif.Model.GenHlsl.genFunc cx) m).map
      (List.map RootText.erase) =
    (genModule true (paramsFor .HlslForVulkan false) spell (fun _ => RsslVerif.Model.GenHlsl.genFunc cx) (m.reslot h)).map
      (List.map RootText.erase) :=
  dx_vk_differ_only_in_annotations spell _ h m

theorem isPerPrim_noPerPrim (f : Field) : isPerPrim noPerPrim f = false := by
  unfold isPerPrim noPerPrim
  cases f.userSemantic <;> rfl

/-- a DirectX export carries no `[[vk::..]]` annotation of any kind -/
theorem dx_has_no_vk_annotations {σ φ τ ε : Type} (spell : ObjKind → String) (genFn : Bool → φ → Except ε τ)
    (m : Module σ φ) (ts : List (RootText σ τ))
    (h : genModule false (paramsFor .HlslForDirectX false) spell genFn m = .ok ts) :
    (counts ts).2.1 = 0 ∧ (counts ts).2.2.1 = 0 ∧ (counts ts).2.2.2 = 0 := by
  unfold genModule at h
  simp only [analyse, Bool.not_false, if_true] at h
  generalize m.roots = rs at h
  induction rs generalizing ts with
  | nil => simp only [genRoots] at h; cases h; simp [counts]
  | cons r rs ih =>
    rw [genRoots_cons, both_eq_ok] at h
    obtain ⟨t, ts', hr, hrs, rfl⟩ := h
    obtain ⟨i1, i2, i3⟩ := ih ts' hrs
    revert hr
    fun_cases genRoot (flagsOf (paramsFor .HlslForDirectX false)) noPerPrim spell genFn r <;> intro hr <;> cases hr
    next => simp [counts, i1, i2, i3, isPerPrim_noPerPrim]  -- a struct: no member is per-primitive
    next g =>  -- a declaration: `: register` if anything
      obtain ⟨name, kind, arr, slot⟩ := g
      cases slot <;> simp [counts, i1, i2, i3, declTextOpt, declText, flagsOf, paramsFor, paramsDefault]
    next => simp +zetaDelta [counts, i1, i2, i3, noPerPrim]  -- a function: it is not the pixel entry of a mesh pipeline

/-- non-vacuity: a mesh pipeline whose mesh entry declares `MATERIAL` per-primitive, a struct with that member, a pixel
    entry reading it, a bound texture: the Vulkan export has one binding attribute, two decorations and the extension
    pair; the DirectX export has one register annotation and nothing else; erased they are equal -/
example :
    let m : Module Nat Unit :=
      { roots := [.struct ⟨"Prim", [⟨"material", some "MATERIAL"⟩, ⟨"pos", none⟩]⟩,
                  .global ⟨"g_t", some .Texture2D, .single, some 0⟩,
                  .func ⟨1, [], ["MATERIAL"], ()⟩,
                  .func ⟨2, [⟨"i_pos", none⟩, ⟨"i_material", some "MATERIAL"⟩], [], ()⟩],
        pipeline := some [(.Mesh, 1), (.Pixel, 2)] }
    let gen : Bool → Unit → Except Unit Unit := fun _ _ => .ok ()
    (genModule true (paramsFor .HlslForVulkan false) (fun _ => "T") gen m).map counts = .ok (0, 1, 2, 1) ∧
    (genModule false (paramsFor .HlslForDirectX false) (fun _ => "T") gen m).map counts = .ok (1, 0, 0, 0) := by
  decide +kernel

end HlslModule

section CompileSteps
open RsslVerif.Model.CompileSteps

/-- Tie to the source (step order): in `compile()` the steps stand in the order argument check → preprocess →
    prepare_tokens → parse → type_check → layout check → binding parameters → build_pipeline; nothing else can leave
    `compile()` before the binding parameters are chosen (5 `return`s, no `?`); the Metal tool chain is named nowhere in
    `compile()` and in `build_pipeline()` only in the Msl/MetalBytecode arm, after the export and its error return,
    inside `if matches!(args.target, Target::MetalBytecode) { .. }`: lookup, then run.  A lookup moved to the top of
    `compile()` (seed C18-5) puts `.toolchainLookup` second in `compileSteps` and falsifies this. -/
theorem frontEndRunsBeforeAnyTargetSpecificStep :
    compileSteps = [.argsCheck, .preprocess, .prepareTokens, .parse, .typeCheck, .layoutCheck, .bindingParams,
      .buildPipelines] ∧
    buildPrefixSteps = [.selectPipeline, .assignBindings] ∧
    hlslArmSteps = [.exportSource, .stageRecords] ∧
    mslArmSteps = [.exportSource, .stageRecords, .bytecodeGuard, .toolchainLookup, .toolchainRun] ∧
    stepFacts = ⟨true, true, true, true, true, true⟩ :=
  ⟨rfl, rfl, rfl, rfl, rfl⟩

/-- Tie to the source: the Metal tool chain crate is named nowhere in the compiler crates (front end, IR, exporters)
    but in `build_pipeline` (the one lookup; the other two hits are the payload types of the two `CompileError` variants
    declared after it), the error's `Display`, and the re-export in src/lib.rs - no exporter or pass can ask for it. -/
theorem toolchain_uses_covered :
    toolchainUses = [
      ("src/compile.rs", "build_pipeline", "MetalCompiler", 1),
      ("src/compile.rs", "build_pipeline", "metal_invoker", 3),
      ("src/compile.rs", "fmt", "metal_invoker", 1),
      ("src/lib.rs", "?", "metal_invoker", 1)] := rfl

section
attribute [local simp] compile compileWith runSteps Model.CompileSteps.step front frontEnd afterTokens

/-- **compile() = argument check, then the shared front end, then the per-pipeline builds** - for the step order of the
    current source (`frontEndRunsBeforeAnyTargetSpecificStep` is cited: the interpreter runs the *extracted* list), any
    world (parser, type checker, exporters, tool chain), any arguments.  In particular no step that looks at the target
    or at the tool chain runs before the front end has accepted the file. -/
theorem compile_factors_through_front_end {τ α ρ π σ : Type} (w : World τ α ρ π σ) (a : Args) :
    compile w a =
      if a.sba && a.target != Target.HlslForVulkan then .error .invalidArgs else
      match front w a with
      | .error e => .error (.text e)
      | .ok m =>
        match buildAll w a none m (w.pipelines m) with
        | .error e => .error e
        | .ok [] => .error (.text noPipelineText)
        | .ok (d :: ds) => .ok (d :: ds) := by
  have hs := frontEndRunsBeforeAnyTargetSpecificStep.1
  by_cases hg : (a.sba && a.target != Target.HlslForVulkan) = true
  · simp [hs, hg]
  cases hrun : run w.ev (initialTable a.target a.front.user) a.front.file with
  | error e => simp [hs, hg, hrun]
  | ok ts =>
    cases hparse : w.parse (w.prepare ts) with
    | error e => simp [hs, hg, hrun, hparse]
    | ok x =>
      cases htc : w.typeCheck x with
      | error e => simp [hs, hg, hrun, hparse, htc]
      | ok m =>
        cases hvl : a.validateLayout with
        | false =>
          cases hb : buildAll w a none m (w.pipelines m) with
          | error e => simp [hs, hg, hrun, hparse, htc, hvl, hb]
          | ok out => cases out <;> simp [hs, hg, hrun, hparse, htc, hvl, hb]
        | true =>
          cases hl : w.layoutCheck m with
          | error e => simp [hs, hg, hrun, hparse, htc, hvl, hl]
          | ok u =>
            cases hb : buildAll w a none m (w.pipelines m) with
            | error e => simp [hs, hg, hrun, hparse, htc, hvl, hl, hb]
            | ok out => cases out <;> simp [hs, hg, hrun, hparse, htc, hvl, hl, hb]

end

/-- build_pipeline() for MetalBytecode on a host without the tool chain: the export's error, else MetalCompilerNotFound -/
theorem buildPipeline_metal_bytecode_no_toolchain {τ α ρ π σ : Type} (w : World τ α ρ π σ) (a : Args)
    (ht : a.target = Target.MetalBytecode) (hn : w.toolchain = none) (m : ρ) (p : π) :
    buildPipeline w a none m p =
      match w.exportMsl (paramsFor a.target a.sba) m p with
      | .error e => .error (.text e)
      | .ok _ => .error .metalCompilerNotFound := by
  obtain ⟨_, h1, _, h3, _⟩ := frontEndRunsBeforeAnyTargetSpecificStep
  obtain ⟨t, sba, vl, fr⟩ := a
  simp only at ht
  subst ht
  cases hx : w.exportMsl (paramsFor Target.MetalBytecode sba) m p <;>
    simp [buildPipeline, h1, h3, armSteps, backendOf, runBuild, hn, hx]

/-- build_pipeline() for Msl: the export's verdict; the tool chain is not consulted -/
theorem buildPipeline_msl {τ α ρ π σ : Type} (w : World τ α ρ π σ) (a : Args)
    (ht : a.target = Target.Msl) (m : ρ) (p : π) :
    buildPipeline w a none m p =
      match w.exportMsl (paramsFor a.target a.sba) m p with
      | .error e => .error (.text e)
      | .ok s => .ok s := by
  obtain ⟨_, h1, _, h3, _⟩ := frontEndRunsBeforeAnyTargetSpecificStep
  obtain ⟨t, sba, vl, fr⟩ := a
  simp only at ht
  subst ht
  cases hx : w.exportMsl (paramsFor Target.Msl sba) m p <;>
    simp [buildPipeline, h1, h3, armSteps, backendOf, runBuild, hx]

/-- **The front-end verdict and diagnostic are the same for every target configuration, MetalBytecode included, with or
    without a Metal tool chain on the host**: if the front end rejects the file with diagnostic `e` for one configuration
    (file and user defines not naming the two target macros), `compile()` returns exactly `Text(e)` for that and for
    every other admissible configuration, whatever `find()` would answer. -/
theorem front_end_diagnostic_same_for_every_target {τ α ρ π σ : Type} (w : World τ α ρ π σ)
    (tc : Option (σ → Option σ)) (a a' : Args)
    (hfront : a'.front = a.front) (hvl : a'.validateLayout = a.validateLayout)
    (hok : argsOk a = true) (hok' : argsOk a' = true)
    (huser : TableClean ["RSSL_TARGET_HLSL", "RSSL_TARGET_MSL"] a.front.user)
    (hfile : LinesClean ["RSSL_TARGET_HLSL", "RSSL_TARGET_MSL"] a.front.file)
    (e : String) (h : front w a = .error e) :
    compile w a = .error (.text e) ∧ compile { w with toolchain := tc } a' = .error (.text e) := by
  have h' : front { w with toolchain := tc } a' = .error e := by
    rw [← h]
    simp only [front, hfront, hvl]
    exact targets_share_front_end w.ev w.render _ a'.target a.target a.front huser hfile
  simp only [argsOk, Bool.not_eq_true'] at hok hok'
  constructor
  · rw [compile_factors_through_front_end, h]; simp [hok]
  · rw [compile_factors_through_front_end, h']; simp [hok']

/-- Tie to the source: Msl and MetalBytecode get the same define list (and the same binding parameters) -/
theorem msl_metal_bytecode_same_defines :
    targetDefineNums Target.MetalBytecode = targetDefineNums Target.Msl ∧
    (∀ sba, paramsFor Target.MetalBytecode sba = paramsFor Target.Msl sba) := by
  constructor
  · decide
  · intro sba; rfl

/-- Msl and MetalBytecode share the front end unconditionally (same macro table: no cleanliness hypothesis needed) -/
theorem front_metal_bytecode_eq_msl {τ α ρ π σ : Type} (w : World τ α ρ π σ) (sba sba' vl : Bool) (fr : FrontArgs) :
    front w ⟨Target.MetalBytecode, sba, vl, fr⟩ = front w ⟨Target.Msl, sba', vl, fr⟩ := by
  simp only [front, frontEnd, initialTable, builtinTable, msl_metal_bytecode_same_defines.1]

/-- **MetalBytecode on a host without the tool chain, closed form**: the front end's diagnostic; else "no pipeline";
    else the Metal export error of the *first* pipeline; else `MetalCompilerNotFound` (the driver predicts the fifth
    verdict of `C18.cross` with this). -/
theorem metal_bytecode_without_toolchain {τ α ρ π σ : Type} (w : World τ α ρ π σ) (a : Args)
    (ht : a.target = Target.MetalBytecode) (hsba : a.sba = false) (hn : w.toolchain = none) :
    compile w a =
      match front w a with
      | .error e => .error (.text e)
      | .ok m =>
        match w.pipelines m with
        | [] => .error (.text noPipelineText)
        | p :: _ =>
          match w.exportMsl (paramsFor Target.MetalBytecode false) m p with
          | .error e => .error (.text e)
          | .ok _ => .error .metalCompilerNotFound := by
  rw [compile_factors_through_front_end]
  simp only [hsba, Bool.false_and, Bool.false_eq_true, if_false]
  cases front w a with
  | error e => rfl
  | ok m =>
    simp only
    cases hp : w.pipelines m with
    | nil => simp [buildAll]
    | cons p ps =>
      simp only [buildAll, buildPipeline_metal_bytecode_no_toolchain w a ht hn, ht, hsba]
      cases w.exportMsl (paramsFor Target.MetalBytecode false) m p <;> rfl

/-- the same closed form for Msl (no argument error: buffer addresses are not requested) -/
theorem msl_verdict {τ α ρ π σ : Type} (w : World τ α ρ π σ) (a : Args)
    (_ht : a.target = Target.Msl) (hsba : a.sba = false) :
    compile w a =
      match front w a with
      | .error e => .error (.text e)
      | .ok m =>
        match buildAll w a none m (w.pipelines m) with
        | .error e => .error e
        | .ok [] => .error (.text noPipelineText)
        | .ok (d :: ds) => .ok (d :: ds) := by
  rw [compile_factors_through_front_end]
  simp only [hsba, Bool.false_and, Bool.false_eq_true, if_false]

/-- MetalBytecode on a host without the tool chain against Msl on the same file: the tool chain error - unless Msl fails
    in the front end, for want of a pipeline or at its first pipeline, and then MetalBytecode fails with that very error
    (a later pipeline is never reached: the first one already ends at the missing tool chain) -/
theorem metal_bytecode_vs_msl {τ α ρ π σ : Type} (w : World τ α ρ π σ) (vl : Bool) (fr : FrontArgs)
    (hn : w.toolchain = none) :
    compile w ⟨Target.MetalBytecode, false, vl, fr⟩ = .error .metalCompilerNotFound ∨
    ∃ e, compile w ⟨Target.Msl, false, vl, fr⟩ = .error e ∧ compile w ⟨Target.MetalBytecode, false, vl, fr⟩ = .error e := by
  rw [metal_bytecode_without_toolchain w _ rfl rfl hn, front_metal_bytecode_eq_msl w false false vl fr,
    msl_verdict w _ rfl rfl]
  cases front w ⟨Target.Msl, false, vl, fr⟩ with
  | error e => exact .inr ⟨_, rfl, rfl⟩
  | ok m =>
    simp only
    cases w.pipelines m with
    | nil => exact .inr ⟨_, rfl, rfl⟩
    | cons p ps =>
      simp only [buildAll, buildPipeline_msl w ⟨Target.Msl, false, vl, fr⟩ rfl, msl_metal_bytecode_same_defines.2]
      cases w.exportMsl (paramsFor Target.Msl false) m p with
      | error e => exact .inr ⟨_, rfl, rfl⟩
      | ok s => exact .inl rfl

/-- a file that compiles for Msl ends, for MetalBytecode on a host without the tool chain, in exactly the tool chain error -/
theorem valid_for_msl_metal_bytecode_ends_at_toolchain {τ α ρ π σ : Type} (w : World τ α ρ π σ)
    (vl : Bool) (fr : FrontArgs) (hn : w.toolchain = none) (out : List σ)
    (h : compile w ⟨Target.Msl, false, vl, fr⟩ = .ok out) :
    compile w ⟨Target.MetalBytecode, false, vl, fr⟩ = .error .metalCompilerNotFound :=
  (metal_bytecode_vs_msl w vl fr hn).resolve_right fun ⟨_, he, _⟩ => by rw [h] at he; cases he

/-- a file rejected for Msl is rejected for MetalBytecode with the same error (front end, no pipeline, first pipeline's
    export), or - when a later pipeline was the one Metal refused - with the tool chain error of the first pipeline -/
theorem rejected_for_msl_metal_bytecode_same_or_toolchain {τ α ρ π σ : Type} (w : World τ α ρ π σ)
    (vl : Bool) (fr : FrontArgs) (hn : w.toolchain = none) (e : CErr)
    (h : compile w ⟨Target.Msl, false, vl, fr⟩ = .error e) :
    compile w ⟨Target.MetalBytecode, false, vl, fr⟩ = .error e ∨
    compile w ⟨Target.MetalBytecode, false, vl, fr⟩ = .error .metalCompilerNotFound :=
  (metal_bytecode_vs_msl w vl fr hn).elim .inr fun ⟨_, he, hb⟩ => .inl (by rw [h] at he; cases he; exact hb)

/-- a small world for the non-vacuity examples: a file of three tokens is a type error, a module has as many pipelines
    as the file has tokens, Metal refuses the second pipeline, the tool chain is `tc` -/
def exWorld (tc : Option (String → Option String)) : World (List Tok) Nat Nat Nat String :=
  { ev := fun _ => some true, render := fun _ => "error: preprocessor", prepare := id,
    parse := fun ts => if ts.length == 0 then .error "error: unexpected end of file" else .ok ts.length,
    typeCheck := fun n => if n == 3 then .error "error: unknown identifier" else .ok n,
    layoutCheck := fun _ => .ok (), pipelines := fun n => List.range n,
    exportHlsl := fun _ _ _ _ => .ok "hlsl", toolchain := tc,
    exportMsl := fun _ _ p => if p == 1 then .error "error: metal generate: unsupported" else .ok "msl" }

def exFile (n : Nat) : FrontArgs := ⟨[], [.text ((List.range n).map fun _ => .id "a")]⟩

/-- non-vacuity: a front-end-invalid file gets the same diagnostic for every configuration, also for MetalBytecode on a
    host without the tool chain; a valid file compiles for the first four and ends in the tool chain error for the fifth;
    a file whose second pipeline Metal refuses is a back-end error for Msl and the tool chain error for MetalBytecode;
    and the order matters: with the lookup as the second step of compile() the diagnostic of the invalid file is lost -/
example :
    (∀ c ∈ [(Target.HlslForDirectX, false), (Target.HlslForVulkan, false), (Target.HlslForVulkan, true), (Target.Msl, false),
        (Target.MetalBytecode, false)],
      compile (exWorld none) ⟨c.1, c.2, false, exFile 3⟩ = .error (.text "error: unknown identifier")) ∧
    compile (exWorld none) ⟨Target.HlslForDirectX, false, false, exFile 1⟩ = .ok ["hlsl"] ∧
    compile (exWorld none) ⟨Target.Msl, false, false, exFile 1⟩ = .ok ["msl"] ∧
    compile (exWorld none) ⟨Target.MetalBytecode, false, false, exFile 1⟩ = .error .metalCompilerNotFound ∧
    compile (exWorld (some fun s => some (s ++ ".air"))) ⟨Target.MetalBytecode, false, false, exFile 1⟩ = .ok ["msl.air"] ∧
    compile (exWorld (some fun _ => none)) ⟨Target.MetalBytecode, false, false, exFile 1⟩ = .error .metalCompilerFailed ∧
    compile (exWorld none) ⟨Target.Msl, false, false, exFile 2⟩ = .error (.text "error: metal generate: unsupported") ∧
    compile (exWorld none) ⟨Target.MetalBytecode, false, false, exFile 2⟩ = .error .metalCompilerNotFound ∧
    compile (exWorld none) ⟨Target.Msl, true, false, exFile 1⟩ = .error .invalidArgs ∧
    compileWith [.argsCheck, .toolchainLookup, .preprocess, .prepareTokens, .parse, .typeCheck, .layoutCheck, .bindingParams,
      .buildPipelines] (exWorld none) ⟨Target.MetalBytecode, false, false, exFile 3⟩ = .error .metalCompilerNotFound := by
  refine ⟨?_, rfl, rfl, rfl, rfl, rfl, rfl, rfl, rfl, rfl⟩
  intro c hc
  simp only [List.mem_cons, List.not_mem_nil, or_false] at hc
  rcases hc with rfl | rfl | rfl | rfl | rfl <;> rfl
end CompileSteps

end RsslVerif.Thm.C18
