import RsslVerif.Lemmas.ConstEvalNoPanic
import RsslVerif.Gen.EvalSites
import RsslVerif.Lemmas.ConstEvalFloatRound
import RsslVerif.Lemmas.ConstPosEnum
import RsslVerif.Lemmas.ConstBinop
import RsslVerif.Lemmas.InstCache
import RsslVerif.Lemmas.ReviewedTables
/-!
# C13 — compile-time constant evaluation matches run-time semantics

Theorems about `Model.ConstEval.eval` — the model of `evaluate_constexpr` / `evaluate_operator` /
`evaluate_cast` (typer/src/evaluator.rs) whose per-arm arithmetic is read from `Gen.EvalTable`, regenerated
from the Rust source on every run — against `Spec.HlslConst.eval`, the value HLSL defines.

All statements quantify over *every* expression tree (no depth bound) and every operand value.
`wfE e` ("well-formed") only says that the constants occurring in `e` fit their Rust types, enum constants
are not nested, and operator nodes have the number of operands their arm of `evaluate_operator` reads.
-/
namespace RsslVerif.Thm.C13
open RsslVerif.Gen.EvalTable RsslVerif.Model.ConstEval RsslVerif.Lemmas.ConstEval
open RsslVerif.Spec.HlslConst (fitsLit litArith)

/-- **Agreement.**  Whenever the evaluator returns a value for a well-formed expression, it is the value the
    specification defines (exact for literals, 32-bit two's complement for `int`/`uint`, shift counts
    masked to five bits, C comparisons/logic, HLSL conversions), and the value is again in range.
    Proved by mutual induction over expressions and operand lists. -/
theorem consteval_agrees (e : Expr) (hwf : wfE e = true) (v : Constant) (h : eval e = .ok v) :
    RsslVerif.Spec.HlslConst.eval e = some v ∧ wf v = true :=
  eval_agrees e hwf v h

/-- non-vacuity: a depth-3 tree mixing a cast, wrap-around and a masked shift evaluates to a value -/
example : eval (.op .LeftShift (.cons (.op .Subtract (.cons (.lit (.uint32 0)) (.cons (.lit (.uint32 1)) .nil)))
            (.cons (.cast (.scalar .UInt32) (.lit (.intLit 33))) .nil))) = .ok (.uint32 4294967294) := by decide

example : wfE (.op .LeftShift (.cons (.op .Subtract (.cons (.lit (.uint32 0)) (.cons (.lit (.uint32 1)) .nil)))
            (.cons (.cast (.scalar .UInt32) (.lit (.intLit 33))) .nil))) = true := by decide

/-- **No panic.**  Evaluation of a well-formed expression whose operator nodes have admissible operand kinds
    (`kindsOk`: enum operands are not mixed with operands of another type, `~` is applied to an integer —
    what the type checker guarantees) never hits a `panic!`, `assert!`, `unreachable!`, slice index or
    arithmetic overflow check of the modelled functions: not on overflow, not on out-of-range shifts, not on
    `INT_MIN / -1`.  The proof uses the generated tables through `tableSafe_ok` / `castTableSafe_ok`, and the row of
    `BitwiseNot` as it stands: its catch-all arm is a `panic!`, so `tableSafe` exempts it and the three integer arms are
    read off the table. -/
theorem consteval_no_panic (e : Expr) (hwf : wfE e = true) (hk : kindsOk e = true) (msg : String) :
    eval e ≠ .error (.panic msg) :=
  eval_noPanic e hwf hk msg

/-- tie to the source: every arm of the regenerated operator and cast tables that non-enum operands can
    reach computes with `wrapping_*`, `checked_*`→`Err`, zero-guarded or overflow-free operations; the one arm left out
    is the catch-all `panic!` of `BitwiseNot`, which `kindsOk` (`~` is applied to an integer) keeps operands away from -/
theorem tables_panic_free : tableSafe = true ∧ castTableSafe = true := ⟨tableSafe_ok, castTableSafe_ok⟩

/-- non-vacuity: `INT_MIN / -1`, `0u - 1u`, `1 << 32` and `-INT_MIN` satisfy the hypotheses ... -/
example : wfE (.op .Divide (.cons (.lit (.int32 (-2147483648))) (.cons (.lit (.int32 (-1))) .nil))) = true
    ∧ kindsOk (.op .Divide (.cons (.lit (.int32 (-2147483648))) (.cons (.lit (.int32 (-1))) .nil))) = true
    ∧ eval (.op .Divide (.cons (.lit (.int32 (-2147483648))) (.cons (.lit (.int32 (-1))) .nil)))
        = .ok (.int32 (-2147483648)) := by decide

/-- ... and the operand-kind hypothesis is needed: `~true` reaches the `panic!` of the `BitwiseNot` arm -/
example : eval (.op .BitwiseNot (.cons (.lit (.bool true)) .nil)) = .error (.panic "unexpected type in BitwiseNot") := by
  decide

/-- Division or modulus by a zero constant is reported as *not constant*: whatever the dividend (any
    kind, any value), `evaluate_operator` returns `Err(())` — no value and no panic. -/
theorem div_mod_zero_not_constant (o : Op) (ho : o = .Divide ∨ o = .Modulus) (a b : Constant)
    (hz : b = .intLit 0 ∨ b = .int32 0 ∨ b = .uint32 0) :
    applyOp o [a, b] = .error .notConst := by
  rcases ho with rfl | rfl <;> rcases hz with rfl | rfl | rfl <;> cases a <;> rfl

/-- ... and so is every expression `x / z`, `x % z` whose right operand evaluates to an integer zero (also
    a zero of an enum type): it never evaluates to a value. -/
theorem div_mod_zero_not_constant_expr (o : Op) (ho : o = .Divide ∨ o = .Modulus) (ea eb : Expr) (b : Constant)
    (hb : eval eb = .ok b)
    (hz : S.strip b = .intLit 0 ∨ S.strip b = .int32 0 ∨ S.strip b = .uint32 0) (r : Constant) :
    eval (.op o (.cons ea (.cons eb .nil))) ≠ .ok r := by
  intro h
  simp only [eval, evalArgs, hb] at h
  cases hea : eval ea with
  | error err => simp [hea] at h
  | ok a =>
    simp only [hea] at h
    cases hp : pushArg ⟨[], none⟩ a with
    | error err => simp [hp] at h
    | ok acc1 =>
      simp only [hp] at h
      cases hq : pushArg acc1 b with
      | error err => simp [hq] at h
      | ok acc2 =>
        have hv : acc2.vals.reverse = [S.strip a, S.strip b] := by simp [(pushArg_ok hq).1, (pushArg_ok hp).1]
        simp [hq, finishOp, hv, div_mod_zero_not_constant o ho (S.strip a) (S.strip b) hz] at h

/-- **Literal arithmetic is exact or not constant, never wrong**: if `+ - * / % << >>` on two untyped
    literals returns a value, that value is the exact mathematical result (quotient truncated toward zero,
    remainder with the sign of the dividend, `x·2^n`, `⌊x / 2^n⌋`) and it fits the literal representation. -/
theorem literal_exact (o : Op)
    (ho : o = .Add ∨ o = .Subtract ∨ o = .Multiply ∨ o = .Divide ∨ o = .Modulus ∨ o = .LeftShift ∨ o = .RightShift)
    (x y : Int) (hx : fitsLit x = true) (hy : fitsLit y = true) (r : Constant)
    (h : applyOp o [.intLit x, .intLit y] = .ok r) :
    ∃ z, litArith o x y = some z ∧ r = .intLit z ∧ fitsLit z = true := by
  have hx' : plain (.intLit x) = true := by simpa [c13] using hx
  have hy' : plain (.intLit y) = true := by simpa [c13] using hy
  have hn : arityOk o 2 = true := by rcases ho with rfl | rfl | rfl | rfl | rfl | rfl | rfl <;> decide
  have hb := (binop_agrees o hn hx' hy' h).1
  rcases ho with rfl | rfl | rfl | rfl | rfl | rfl | rfl <;>
    simp only [S.binop, S.relOf] at hb <;>
    (cases hl : litArith _ x y with
     | none => simp [hl, S.bitArith] at hb
     | some z =>
       simp only [hl, RsslVerif.Spec.HlslConst.lit?] at hb
       by_cases hf : fitsLit z = true
       · simp [hf] at hb; exact ⟨z, rfl, hb.symm, hf⟩
       · simp [hf] at hb)

/-- unary minus on a literal: exact or not constant -/
theorem literal_neg_exact (x : Int) (hx : fitsLit x = true) (r : Constant)
    (h : applyOp .Minus [.intLit x] = .ok r) : r = .intLit (-x) ∧ fitsLit (-x) = true := by
  have hx' : plain (.intLit x) = true := by simpa [c13] using hx
  have hb := (unop_agrees .Minus hx' h).1
  simp [S.unop, RsslVerif.Spec.HlslConst.lit?] at hb
  exact ⟨hb.2.symm, hb.1⟩

/-- non-vacuity of `literal_exact`: `2^63 * 2^63` is evaluated exactly; `2^64 * 2^64` is refused -/
example : applyOp .Multiply [.intLit (2 ^ 63), .intLit (2 ^ 63)] = .ok (.intLit (2 ^ 126)) := by decide
example : applyOp .Multiply [.intLit (2 ^ 64), .intLit (2 ^ 64)] = .error .notConst := by decide

/-! ## the float conversions used by constant casts are the IEEE-754 / Rust `as` conversions

`consteval_agrees` compares the evaluator with `Spec.HlslConst`, and both take the float conversions from
`Model.ConstEvalFloat`.  The theorems below remove that common assumption: the model's `round` (integer → float,
binary64 → binary32) is the correctly rounded result in the sense of IEEE 754 round-to-nearest-ties-to-even
(`Spec.Dec2Bin.IsNearestEven`, the same statement property C10 proves for decimal literals), widening is exact, and
float → integer truncates toward zero and saturates. -/

open RsslVerif.Model.ConstEvalFloat in
/-- **Round to nearest, ties to even.**  For every binary format with at least one stored significand bit and two
    exponent bits (binary32 and binary64 are the instances used), every magnitude `m · 2^e` (`m > 0`, any `e`):
    the bit pattern `round f false m e` is the one IEEE 754 prescribes for the exact rational `m · 2^e` — no
    representable value is nearer, a tie goes to the even significand, subnormals are gradual, values at or above
    `2^(emax+1)` after rounding become `+∞`; and a negative value is its magnitude's pattern plus the sign bit. -/
theorem float_round_nearest_even (f : Fmt) (hp : 1 ≤ f.mant) (he : 2 ≤ f.exp) (m : Nat) (e : Int) (hm : 0 < m) :
    RsslVerif.Spec.Dec2Bin.IsNearestEven (RsslVerif.Lemmas.ConstEvalFloat.toSpec f)
      (RsslVerif.Lemmas.ConstEvalFloat.num m e) (RsslVerif.Lemmas.ConstEvalFloat.den e) (round f false m e) ∧
    round f true m e = f.signBit + round f false m e :=
  ⟨RsslVerif.Lemmas.ConstEvalFloat.round_isNearestEven f hp he m e hm, RsslVerif.Lemmas.ConstEvalFloat.round_neg f hp m e⟩

open RsslVerif.Model.ConstEvalFloat in
/-- **`(float)z`, `(double)z` for an integer constant** (`z as f32` / `z as f64`): the correctly rounded value of
    `|z|`, with the sign of `z`; zero gives `+0`. -/
theorem int_to_float_nearest_even (f : Fmt) (hp : 1 ≤ f.mant) (he : 2 ≤ f.exp) (z : Int) :
    (0 < z → RsslVerif.Spec.Dec2Bin.IsNearestEven (RsslVerif.Lemmas.ConstEvalFloat.toSpec f) z.natAbs 1 (ofInt f z)) ∧
    (z < 0 → ofInt f z = f.signBit + ofInt f (-z)) ∧ ofInt f 0 = 0 := by
  refine ⟨RsslVerif.Lemmas.ConstEvalFloat.ofInt_isNearestEven f hp he z, ?_, ?_⟩
  · intro hz
    rw [RsslVerif.Lemmas.ConstEvalFloat.ofInt_eq f hp, RsslVerif.Lemmas.ConstEvalFloat.ofInt_eq f hp]
    have h1 : ¬ (-z < 0) := by omega
    have h2 : ¬ (0 < z) := by omega
    simp [hz, h2]
  · rw [RsslVerif.Lemmas.ConstEvalFloat.ofInt_eq f hp]; simp [RsslVerif.Spec.Dec2Bin.nearestRat]

open RsslVerif.Model.ConstEvalFloat in
/-- **`(float)d` for a finite double constant** (and any finite float → float conversion): the sign is kept and the
    magnitude `m · 2^e` is correctly rounded to the target format (overflow to infinity, underflow to subnormals/zero);
    infinities are kept. -/
theorem float_to_float_nearest_even (src dst : Fmt) (hp : 1 ≤ dst.mant) (he : 2 ≤ dst.exp) (bits : Nat) (n : Bool) (m : Nat) (e : Int)
    (hd : decode src bits = .fin n m e) :
    convert src dst bits = (if n then dst.signBit else 0) + round dst false m e ∧
    (0 < m → RsslVerif.Spec.Dec2Bin.IsNearestEven (RsslVerif.Lemmas.ConstEvalFloat.toSpec dst)
      (RsslVerif.Lemmas.ConstEvalFloat.num m e) (RsslVerif.Lemmas.ConstEvalFloat.den e) (round dst false m e)) := by
  refine ⟨?_, RsslVerif.Lemmas.ConstEvalFloat.round_isNearestEven dst hp he m e⟩
  rw [RsslVerif.Lemmas.ConstEvalFloat.convert_fin src dst hp bits n m e hd,
    RsslVerif.Lemmas.ConstEvalFloat.round_eq_nearestRat dst hp]
  simp

open RsslVerif.Model.ConstEvalFloat in
/-- the link to property C10: on every non-negative finite double the model's `(float)d` is `Spec.Dec2Bin.narrow32`,
    the narrowing C10 proves correct for `f`-suffixed literals — constants and literals are rounded by one definition -/
theorem float_narrowing_is_c10_narrow32 (bits : Nat) (h : bits < RsslVerif.Spec.Dec2Bin.binary64.infBits) :
    convert f64 f32 bits = RsslVerif.Spec.Dec2Bin.narrow32 bits := by
  open RsslVerif.Lemmas.ConstEvalFloat in
  have hd := decode_f64_spec bits h
  rw [convert_fin f64 f32 (by decide) bits false _ _ hd, toSpec_f32]
  unfold RsslVerif.Spec.Dec2Bin.narrow32
  rw [if_neg (Nat.not_le.mpr h), RsslVerif.Spec.Dec2Bin.nearestRat_branches]
  simp only [Bool.false_eq_true, if_false, Nat.zero_add, num, den]

open RsslVerif.Model.ConstEvalFloat in
/-- **`(double)f` for a finite float constant loses nothing**: the binary64 pattern encodes a significand/exponent
    pair of exactly the same value (both sides counted in units of `2^-1074`), with the same sign. -/
theorem float_widen_exact (bits : Nat) (n : Bool) (m : Nat) (e : Int) (hd : decode f32 bits = .fin n m e) :
    ∃ (m' : Nat) (q' : Int), -1074 ≤ q' ∧ m' ≤ 2 ^ 53 ∧
      m' * 2 ^ (q' + 1074).toNat = m * 2 ^ (e + 1074).toNat ∧
      convert f32 f64 bits = (if n then f64.signBit else 0) + RsslVerif.Spec.Dec2Bin.encode RsslVerif.Spec.Dec2Bin.binary64 m' q' := by
  open RsslVerif.Lemmas.ConstEvalFloat in
  open RsslVerif.Spec.Dec2Bin (chooseExp chooseExp_dyadic nearestRat encode encode64_lt_inf) in
  obtain ⟨hm, he1, he2⟩ := decode_f32_bounds bits n m e hd
  rw [convert_fin f32 f64 (by decide) bits n m e hd, toSpec_f64]
  by_cases hm0 : m = 0
  · subst hm0
    exact ⟨0, -1074, by omega, by omega, by simp, by simp [nearestRat, num, encode, RsslVerif.Spec.Dec2Bin.binary64]⟩
  · have hpos : 0 < m := Nat.pos_of_ne_zero hm0
    have hL : m.log2 < 24 := (Nat.log2_lt hm0).mpr hm
    -- the last place `q` of the double is at or below `e`: nothing is shifted out, and `(m · 2^(e-q), q)` is the pair
    have hq := chooseExp_dyadic RsslVerif.Spec.Dec2Bin.binary64 (by decide) m e hpos
    rw [nearestRat_dyadic _ m e hpos, num, den]
    generalize chooseExp _ _ _ = q at hq ⊢
    change q = if e + (m.log2 + 1 : Nat) - 53 < -1074 then -1074 else e + (m.log2 + 1 : Nat) - 53 at hq
    have hqe : q ≤ e ∧ -1074 ≤ q ∧ m.log2 + 1 + (e - q).toNat ≤ 53 := by split at hq <;> omega
    have hlt : m * 2 ^ (e - q).toNat < 2 ^ 53 :=
      Nat.lt_of_lt_of_le (Nat.mul_lt_mul_of_pos_right Nat.lt_log2_self (Nat.two_pow_pos _))
        (by rw [← Nat.pow_add]; exact Nat.pow_le_pow_right (by decide) hqe.2.2)
    refine ⟨m * 2 ^ (e - q).toNat, q, hqe.2.1, Nat.le_of_lt hlt, ?_, ?_⟩
    · rw [Nat.mul_assoc, ← Nat.pow_add]; congr 2; omega
    · rw [mantAt, if_pos hqe.1]
      exact congrArg _ (Nat.min_eq_left (Nat.le_of_lt (encode64_lt_inf hlt (by omega))))

open RsslVerif.Model.ConstEvalFloat in
/-- **`(int)x`, `(uint)x` for a float constant** (`v as i32` / `v as u32`): a finite `± m · 2^e` is truncated toward
    zero (`mag = ⌊m · 2^e⌋`, stated cross-multiplied) and then saturated to the target range; `±∞` saturates; NaN gives 0;
    the result is always inside the range. -/
theorem float_to_int_trunc_saturate (lo hi : Int) (h0 : lo ≤ 0) (h1 : 0 ≤ hi) :
    (∀ (n : Bool) (m : Nat) (e : Int), ∃ mag : Nat,
        mag * RsslVerif.Lemmas.ConstEvalFloat.den e ≤ RsslVerif.Lemmas.ConstEvalFloat.num m e ∧
        RsslVerif.Lemmas.ConstEvalFloat.num m e < (mag + 1) * RsslVerif.Lemmas.ConstEvalFloat.den e ∧
        toIntSat lo hi (.fin n m e) = RsslVerif.Lemmas.ConstEvalFloat.clamp lo hi (if n then -(mag : Int) else mag)) ∧
    (∀ n p, toIntSat lo hi (.nan n p) = 0) ∧
    (∀ n, toIntSat lo hi (.inf n) = if n then lo else hi) ∧
    (∀ v, lo ≤ toIntSat lo hi v ∧ toIntSat lo hi v ≤ hi) :=
  ⟨RsslVerif.Lemmas.ConstEvalFloat.toIntSat_fin lo hi, fun _ _ => rfl, fun _ => rfl,
   RsslVerif.Lemmas.ConstEvalFloat.toIntSat_range lo hi h0 h1⟩

open RsslVerif.Model.ConstEvalFloat in
/-- non-vacuity: binary32 and binary64 satisfy the format hypotheses; `16777217` is a tie and rounds to the even
    neighbour `16777216.0f`; `3e9f` saturates to `INT_MAX`; `-1.5f` truncates to `-1`, which saturates to `0u` -/
example : (1 ≤ f32.mant ∧ 2 ≤ f32.exp) ∧ (1 ≤ f64.mant ∧ 2 ≤ f64.exp) ∧
    ofInt f32 16777217 = 0x4b800000 ∧ ofInt f32 16777219 = 0x4b800002 ∧
    toIntSat (-(2 ^ 31)) (2 ^ 31 - 1) (decode f32 0x4f32d05e) = 2147483647 ∧
    toIntSat (-(2 ^ 31)) (2 ^ 31 - 1) (decode f32 0xbfc00000) = -1 ∧
    toIntSat 0 (2 ^ 32 - 1) (decode f32 0xbfc00000) = 0 := by decide

/-- The reviewed inventory of every call of `evaluate_constexpr` outside `evaluator.rs`
    (file, function, expression argument, module argument, origin of the expression, reassigned before the call).
    Each call passes the IR the type checker built for the source expression and the module being built:

    * `parse_declarator` — array sizes (harness position `array`)
    * `parse_rootdefinition_enum` — enum values; the one site that rewrites the expression first: an enum-typed
      initialiser receives the implicit conversion to its underlying type (`enum`, `enumnext`)
    * `parse_expr_unaryop` — folding of a unary operator on a literal; the expression is the `IntrinsicOp` node just
      built (covered by every `C13.eval` case that came through the type checker)
    * `parse_assert_eval` (twice) — both operands of `assert_eval` (`assert`)
    * `parse_rootdefinition_globalvariable`, `parse_vardef` — initialisers of `const` globals / locals (`constint`,
      `constuint`, `localconst`)
    * `parse_expr_as_u32` — `[[rssl::bind_group(n)]]` (`bindgroup`)
    * `add_stage` — `numthreads` arguments (`numthreads`); `extract_uint32`, `extract_float` — pipeline
      and static sampler properties (`pipelineprop`, `maxanisotropy`, `writemask`; `minlod`, `maxlod`)
    * `parse_statement` — case labels (`case`); `parse_statement_attribute` — `[unroll(n)]` (`unroll`)
    * `parse_and_evaluate_constant_expression` — template value arguments and their defaults (`template`) -/
def reviewedSites : List (String × String × String × String × String × Bool) := [
  ("typer/src/typer/declarations.rs", "parse_declarator", "&expr_ir", "&mut context.module", "parse_expr", false),
  ("typer/src/typer/enums.rs", "parse_rootdefinition_enum", "&expr_ir.0", "&mut context.module", "parse_expr", true),
  ("typer/src/typer/expressions.rs", "parse_expr_unaryop", "&expr_with_op", "&mut context.module", "ir::Expression::IntrinsicOp", false),
  ("typer/src/typer/expressions.rs", "parse_assert_eval", "&left_expr_ir", "&mut context.module", "parse_expr_internal", false),
  ("typer/src/typer/expressions.rs", "parse_assert_eval", "&right_expr_ir", "&mut context.module", "parse_expr_internal", false),
  ("typer/src/typer/globals.rs", "parse_rootdefinition_globalvariable", "expr", "&mut context.module", "initializer-expression", false),
  ("typer/src/typer/globals.rs", "parse_expr_as_u32", "&expr_ir", "&mut context.module", "parse_expr", false),
  ("typer/src/typer/pipelines.rs", "add_stage", "expr", "&mut context.module", "closure-parameter", false),
  ("typer/src/typer/pipelines.rs", "extract_uint32", "&value_expr.0", "&mut context.module", "parse_expr", false),
  ("typer/src/typer/pipelines.rs", "extract_float", "&value_expr.0", "&mut context.module", "parse_expr", false),
  ("typer/src/typer/statements.rs", "parse_statement", "&value_expr.0", "&mut context.module", "parse_expr", false),
  ("typer/src/typer/statements.rs", "parse_statement_attribute", "&expr", "&mut context.module", "parse_expr", false),
  ("typer/src/typer/statements.rs", "parse_vardef", "expr", "&mut context.module", "initializer-expression", false),
  ("typer/src/typer/types.rs", "parse_and_evaluate_constant_expression", "&ir_expr.0", "&mut context.module", "parse_expr", false)]

/-- **Positions use the evaluator unchanged** (tie to the source, not a model of the type checker): the calls
    of `evaluate_constexpr` found in the workspace are exactly the reviewed ones; every one hands over a type
    checker result (`parse_expr*`, an initialiser expression, the folded operator node) together with
    `context.module`, and only the enum-value site rewrites the expression before the call. A new call site, a
    site that starts to pre-process its expression, or a removed site makes this obligation fail until reviewed.
    What each site does with the *result* (`to_uint64`, range checks, storing it) is checked by the
    correspondence run (`C13.pos`), not here. -/
theorem positions_use_eval :
    (RsslVerif.Gen.EvalSites.evalSites.all fun s => reviewedSites.contains s) = true ∧
    (reviewedSites.all fun s => RsslVerif.Gen.EvalSites.evalSites.contains s) = true ∧
    (RsslVerif.Gen.EvalSites.evalSites.all fun s => s.2.2.2.1 == "&mut context.module") = true ∧
    (RsslVerif.Gen.EvalSites.evalSites.filter fun s => s.2.2.2.2.2).map (fun s => s.2.1)
      = ["parse_rootdefinition_enum"] :=
  ⟨Lemmas.ReviewedTables.all_contains_of_sublist (by sublist_pass),
   Lemmas.ReviewedTables.all_contains_of_sublist (by sublist_pass), by decide, by decide⟩

/-! ## what a position does with the evaluated constant: the boundary between untyped literals and typed values

`Model.ConstPos` reads the conversions and guards of every site from `Gen.PosTable` (re-extracted on every run from
`Constant::to_uint64` / `to_f32`, `parse_declarator`, `add_stage`, `extract_uint32`, `parse_expr_as_u32`,
`parse_statement_attribute`, `parse_statement`, `parse_and_evaluate_constant_expression`, `parse_rootdefinition_enum`,
`end_enum`). -/

open RsslVerif.Model.ConstPos RsslVerif.Lemmas.ConstPos RsslVerif.Gen.PosTable

/-- tie to the source: the reviewed reading of the five count-taking sites.  Array sizes unwrap an enum, refuse 0 and
    take 64 bits; `numthreads`, unsigned pipeline / sampler properties and `bind_group` / `vk::binding` take 32 bits
    (0 allowed, enums not unwrapped); `[unroll(n)]` takes 64 bits; `WriteMask` 8 bits. -/
theorem position_rules_as_reviewed :
    arraySize = ⟨true, true, false⟩ ∧ numthreads = ⟨false, false, true⟩ ∧ pipelineUint = ⟨false, false, true⟩ ∧
    exprAsU32 = ⟨false, false, true⟩ ∧ unroll = ⟨false, false, false⟩ ∧ writeMaskMax = 255 := by decide

/-- **Counts (array sizes, `numthreads`, `unroll`, `bind_group`, `vk::binding`, unsigned properties).**
    Whatever the kind of the constant — untyped literal, `int`, `uint`, `bool`, for array sizes also an enum — an
    accepted count `n` is the integer value of what the specification says the expression evaluates to, and it lies
    in the range of the place (`[0, 2^64)`, not 0 where 0 is refused, `< 2^32` where 32 bits are required). -/
theorem position_count_agrees (r : SizeRule) (e : Expr) (hwf : wfE e = true) (n : Int)
    (h : sizeSite r (eval e) = .count n) :
    ∃ v, RsslVerif.Spec.HlslConst.eval e = some v ∧ countOf r v = some n ∧ 0 ≤ n ∧ n ≤ 2 ^ 64 - 1 ∧
      (r.rejectZero = true → n ≠ 0) ∧ (r.max32 = true → n ≤ 2 ^ 32 - 1) := by
  cases hev : eval e with
  | error err => cases err <;> simp [hev, sizeSite] at h
  | ok v =>
    obtain ⟨h1, h2⟩ := eval_agrees e hwf v hev
    rw [hev] at h
    exact ⟨v, h1, (sizeSite_count_iff r v h2 n).1 h⟩

/-- ... and every integer-like value that fits the place is accepted with exactly that count (no kind is refused
    that has an in-range integer value; out-of-range values, floats and non-constant expressions are refused). -/
theorem position_count_complete (r : SizeRule) (e : Expr) (hwf : wfE e = true) (v : Constant) (n : Int)
    (hev : eval e = .ok v) (hc : countOf r v = some n) (h0 : 0 ≤ n) (h1 : n ≤ 2 ^ 64 - 1)
    (hz : r.rejectZero = true → n ≠ 0) (hm : r.max32 = true → n ≤ 2 ^ 32 - 1) :
    sizeSite r (eval e) = .count n := by
  rw [hev]
  exact (sizeSite_count_iff r v (eval_agrees e hwf v hev).2 n).2 ⟨hc, h0, h1, hz, hm⟩

/-- a rejection is justified by the value: zero, beyond 32 bits, or no integer value in `[0, 2^64)` at all -/
theorem position_count_rejections (r : SizeRule) (e : Expr) (hwf : wfE e = true) (v : Constant) (hev : eval e = .ok v) :
    (sizeSite r (eval e) = .zeroSize → countOf r v = some 0) ∧
    (sizeSite r (eval e) = .outOfRange → ∃ n, countOf r v = some n ∧ 2 ^ 32 - 1 < n) ∧
    (sizeSite r (eval e) = .notConstant →
      countOf r v = none ∨ ∃ n, countOf r v = some n ∧ (n < 0 ∨ 2 ^ 64 - 1 < n)) := by
  rw [hev]
  exact sizeSite_reject r v (eval_agrees e hwf v hev).2

/-- non-vacuity: `float a[(int)-1]`, `a[0]`, `a[4294967296]`, `a[E0C]` (enum value 5), `numthreads(4294967296, ..)` -/
example : sizeSite arraySize (eval (.cast (.scalar .Int32) (.lit (.intLit (-1))))) = .notConstant ∧
    sizeSite arraySize (eval (.lit (.intLit 0))) = .zeroSize ∧
    sizeSite arraySize (eval (.lit (.intLit 4294967296))) = .count 4294967296 ∧
    sizeSite arraySize (eval (.enumValue 0 (.int32 5))) = .count 5 ∧
    sizeSite numthreads (eval (.enumValue 0 (.int32 5))) = .notConstant ∧
    sizeSite numthreads (eval (.lit (.intLit 4294967296))) = .outOfRange := by decide

/-- **Case labels and const initialisers** keep the evaluated constant: the recorded constant is the specified value. -/
theorem case_label_value (e : Expr) (hwf : wfE e = true) (c : Constant) (h : caseSite (eval e) = .stored c) :
    RsslVerif.Spec.HlslConst.eval e = some c := by
  cases hev : eval e with
  | error err => cases err <;> simp [hev, caseSite] at h
  | ok v =>
    have ha := (eval_agrees e hwf v hev).1
    rw [hev, caseSite_ok] at h
    cases h
    exact ha

theorem const_initialiser_value (isConst : Bool) (e : Expr) (hwf : wfE e = true) (c : Constant)
    (h : constInitSite isConst (eval e) = .stored c) :
    isConst = true ∧ RsslVerif.Spec.HlslConst.eval e = some c := by
  unfold constInitSite at h
  cases isConst with
  | false => simp [constInitNeedsConst] at h
  | true =>
    simp only [constInitNeedsConst, Bool.not_true, Bool.and_false] at h
    cases hev : eval e with
    | error err => cases err <;> simp [hev] at h
    | ok v =>
      have ha := (eval_agrees e hwf v hev).1
      simp [hev] at h
      cases h
      exact ⟨rfl, ha⟩

/-- **Template value arguments** are bound to the specified value of the argument expression, kind included: `bool`
    and integer kinds only. -/
theorem template_argument_value (e : Expr) (hwf : wfE e = true) (c : Constant) (h : templateSite (eval e) = .stored c) :
    RsslVerif.Spec.HlslConst.eval e = some c ∧
    (c.kind = .Bool ∨ c.kind = .IntLiteral ∨ c.kind = .Int32 ∨ c.kind = .UInt32 ∨ c.kind = .Int64 ∨ c.kind = .UInt64) := by
  cases hev : eval e with
  | error err => cases err <;> simp [hev, templateSite] at h
  | ok v =>
    have ha := (eval_agrees e hwf v hev).1
    rw [hev, templateSite_ok] at h
    split at h
    · rename_i hk
      cases h
      exact ⟨ha, hk⟩
    · cases h

/-- **... but not converted to the declared parameter type** — the full statement "the parameter has the value HLSL
    defines" is *false* on the pinned source; witnesses (replayed on the real compiler as `C13.pos template -1` and
    `C13.pos template_bool 2`, known finding): `template<uint N>` instantiated with `-1` binds the literal `-1` where
    the conversion to `uint` gives `4294967295`; `template<bool B>` instantiated with `2` binds `2`, not `true`. -/
theorem template_argument_not_converted :
    templateSite (eval (.lit (.intLit (-1)))) = .stored (.intLit (-1)) ∧
    RsslVerif.Spec.HlslConst.castScalar .UInt32 (.intLit (-1)) = some (.uint32 4294967295) ∧
    templateSite (eval (.lit (.intLit 2))) = .stored (.intLit 2) ∧
    RsslVerif.Spec.HlslConst.castScalar .Bool (.intLit 2) = some (.bool true) := by decide

/-- **Float-valued properties (`MinLOD`, `MaxLOD`)**: an accepted value is the constant converted to `float` by the
    HLSL rules (32-bit kinds; 64-bit integer constants do not arise from source). -/
theorem lod_property_value (e : Expr) (hwf : wfE e = true) (b : Nat) (h : lodSite (eval e) = .lod b) :
    ∃ v, RsslVerif.Spec.HlslConst.eval e = some v ∧
      (v.kind ≠ .Int64 ∧ v.kind ≠ .UInt64 → RsslVerif.Spec.HlslConst.castScalar .Float32 v = some (.float32 b)) := by
  cases hev : eval e with
  | error err => cases err <;> simp [hev, lodSite] at h
  | ok v =>
    simp only [hev, lodSite] at h
    cases ht : toF32 v with
    | none => simp [ht] at h
    | some b' =>
      simp only [ht] at h
      cases h
      obtain ⟨h1, h2⟩ := eval_agrees e hwf v hev
      exact ⟨v, h1, fun h64 => (toF32_spec v h2 h64 b).1 ht⟩

/-- ... and complete (since `Constant::to_f32` has an arm for untyped float literals and no sign guard on `int`; the
    former witnesses `MinLOD = 0.5` and `MinLOD = (int)-1` are corpus lines): every constant the HLSL rules convert to
    `float` — `bool`, an untyped integer or float literal, `int` of either sign, `uint`, `half`, `float`, `double` — is
    accepted with exactly the converted value. -/
theorem lod_property_complete (e : Expr) (hwf : wfE e = true) (v : Constant) (b : Nat) (hev : eval e = .ok v)
    (hc : RsslVerif.Spec.HlslConst.castScalar .Float32 v = some (.float32 b)) :
    lodSite (eval e) = .lod b := by
  rw [hev]
  simp [lodSite, toF32_complete v (eval_agrees e hwf v hev).2 b hc]

/-- a refusal of a constant is justified: it has no conversion to `float` (an enum, a string) -/
theorem lod_property_rejections (e : Expr) (hwf : wfE e = true) (v : Constant) (hev : eval e = .ok v)
    (h : lodSite (eval e) = .notConstant) :
    RsslVerif.Spec.HlslConst.castScalar .Float32 v = none := by
  rw [hev] at h
  simp only [lodSite] at h
  cases ht : toF32 v with
  | none => exact toF32_none v (eval_agrees e hwf v hev).2 ht
  | some b => simp [ht] at h

/-- non-vacuity: `MinLOD = 0.5` (untyped float literal) is `0x3f000000`, `MinLOD = (int)-1` is `-1.0f`,
    `MinLOD = 16777217` rounds to even, `MinLOD = E0C` (an enum) is refused -/
example : lodSite (eval (.lit (.floatLit 0x3fe0000000000000))) = .lod 0x3f000000 ∧
    lodSite (eval (.cast (.scalar .Int32) (.lit (.intLit (-1))))) = .lod 0xbf800000 ∧
    lodSite (eval (.lit (.intLit 16777217))) = .lod 0x4b800000 ∧
    lodSite (eval (.enumValue 0 (.int32 5))) = .notConstant := by decide

/-- **Enum values have C semantics, and the underlying type is deduced from the range.**  For every list of
    enumerators (any length; initialisers are arbitrary well-formed trees, possibly built from earlier enumerators,
    which the type checker inlines as literals): if the definition is accepted with underlying type `u` and values
    `out`, there are integers `vs` with `EnumSeq none ms vs` — an initialiser gives the value the specification
    defines for it (an enum-typed one through its underlying type), the first enumerator without initialiser is 0,
    any other is its predecessor plus one — such that `out` is `vs` represented in `u` without wrap-around, and `u`
    is `int` exactly when 0 and every value fit `int`, otherwise `uint` (and then they fit `uint`). -/
theorem enum_values_c_semantics (ms : List Member) (hw : membersWf ms = true) (u : Scalar) (out : List Constant)
    (h : defineEnum ms = .ok (u, out)) :
    ∃ vs : List Int, EnumSeq none ms vs ∧ out = vs.map (mk u) ∧
      ((u = .Int32 ∧ AllIn (-(2 ^ 31)) (2 ^ 31 - 1) vs) ∨
       (u = .UInt32 ∧ ¬ AllIn (-(2 ^ 31)) (2 ^ 31 - 1) vs ∧ AllIn 0 (2 ^ 32 - 1) vs)) := by
  have o := defineEnum_outcome ms
  rw [h] at o
  cases o with
  | int cs vs hc hwd h1 => exact ⟨vs, collect_seq ms 0 none cs vs hw hc hwd, rfl, .inl ⟨rfl, h1⟩⟩
  | uint cs vs hc hwd h1 h2 => exact ⟨vs, collect_seq ms 0 none cs vs hw hc hwd, rfl, .inr ⟨rfl, h1, h2⟩⟩

/-- the range rejection (`enum range .. can not fit in any type`) happens only when the C values fit neither `int`
    nor `uint` -/
theorem enum_rejected_only_out_of_range (ms : List Member) (hw : membersWf ms = true) (lo hi : Int)
    (h : defineEnum ms = .error (.cannotDeduce lo hi)) :
    ∃ vs : List Int, EnumSeq none ms vs ∧ ¬ AllIn (-(2 ^ 31)) (2 ^ 31 - 1) vs ∧ ¬ AllIn 0 (2 ^ 32 - 1) vs := by
  have o := defineEnum_outcome ms
  rw [h] at o
  cases o with
  | member _ hc =>
    obtain ⟨i, last, m, hm⟩ := collect_error hc
    exact absurd hm (memberValue_ne_cannotDeduce i last m lo hi)
  | widen cs _ _ hwd =>
    obtain ⟨c, _, hcw⟩ := widenAll_error hwd
    exact absurd hcw (widen_ne_cannotDeduce c lo hi)
  | range cs vs hc hwd h1 h2 => exact ⟨vs, collect_seq ms 0 none cs vs hw hc hwd, h1, h2⟩

/-- the overflow rejection (`enum value overflows the type of the previous value`) is raised only when the previous
    enumerator already has the largest value of its own type: `2^127-1` for an untyped literal, `INT_MAX`, `UINT_MAX` -/
theorem enum_overflow_only_at_type_max (i j : Nat) (l : Constant) (h : nextValue i l = .error (.overflow j)) :
    j = i ∧ ∃ v, (l = .intLit v ∧ 2 ^ 127 - 1 ≤ v) ∨ (l = .int32 v ∧ 2 ^ 31 - 1 ≤ v) ∨ (l = .uint32 v ∧ 2 ^ 32 - 1 ≤ v) := by
  rw [nextValue_eq] at h
  cases l with
  | intLit v => dsimp only at h; split at h <;> cases h; exact ⟨rfl, v, .inl ⟨rfl, by omega⟩⟩
  | int32 v => dsimp only at h; split at h <;> cases h; exact ⟨rfl, v, .inr (.inl ⟨rfl, by omega⟩)⟩
  | uint32 v => dsimp only at h; split at h <;> cases h; exact ⟨rfl, v, .inr (.inr ⟨rfl, by omega⟩)⟩
  | _ => cases h

/-- **An enum definition never panics**: not when the successor of `INT_MAX` / `UINT_MAX` / the largest literal is
    needed (that is `EnumValueOverflow`), not on a `bool` enumerator, not in the range computation or the conversion
    to the underlying type.  Hypotheses (`membersOk`, executable, evaluated by the model on every definition of the
    correspondence run): the initialisers satisfy the hypotheses of `consteval_no_panic`, and an initialiser of
    integer / enum type evaluates, if at all, to an integer-like constant. -/
theorem enum_no_panic (ms : List Member) (hok : membersOk ms = true) (msg : String) :
    defineEnum ms ≠ .error (.panic msg) :=
  defineEnum_noPanic ms hok msg

/-- non-vacuity: `enum { A, B, C = 10, D, E = A + 2, F }` (the reference to `A` is the literal the type checker
    inlines) has the values 0 1 10 11 2 3 in `int`; `enum { A = 2147483647, B }` continues in `uint`;
    `enum { A = (int)2147483647, B }` is an overflow error, `enum { A = -1, B = 4294967295u }` a range error;
    the hypotheses hold for them -/
example :
    defineEnum [none, none, some (.scalar .IntLiteral, .lit (.intLit 10)), none,
                some (.scalar .Int32, .op .Add (.cons (.lit (.int32 0)) (.cons (.cast (.scalar .Int32) (.lit (.intLit 2))) .nil))), none]
      = .ok (.Int32, [.int32 0, .int32 1, .int32 10, .int32 11, .int32 2, .int32 3]) ∧
    defineEnum [some (.scalar .IntLiteral, .lit (.intLit 2147483647)), none]
      = .ok (.UInt32, [.uint32 2147483647, .uint32 2147483648]) ∧
    defineEnum [some (.scalar .Int32, .cast (.scalar .Int32) (.lit (.intLit 2147483647))), none] = .error (.overflow 1) ∧
    defineEnum [some (.scalar .IntLiteral, .lit (.intLit (-1))), some (.scalar .UInt32, .lit (.uint32 4294967295))]
      = .error (.cannotDeduce (-1) 4294967295) ∧
    membersOk [some (.scalar .Int32, .cast (.scalar .Int32) (.lit (.intLit 2147483647))), none] = true ∧
    membersWf [some (.scalar .IntLiteral, .lit (.intLit 2147483647)), none] = true := by decide


section CommonType
open RsslVerif.Gen.RankTable RsslVerif.Gen.TypingTables RsslVerif.Model.ConstBinop RsslVerif.Lemmas.ConstBinop
open RsslVerif.Spec

/-- **The common operand type is the one HLSL's usual arithmetic conversions give** — for every binary operator and every
    pair of operand shapes (`bool`, untyped integer / float literal, `int`, `uint`, `half`, `float`, `double`, an enum with
    underlying type `int` or `uint`), in both orders: `bool` is promoted to `int` (also for the six comparisons — `TWO == true`
    compares `2` with `1`), an enum takes part through its underlying type (`E1M > (int)0` with `E1M = 4294967295u` is an
    unsigned comparison; `E0C + 1` is done in `int`), `int` meets `uint` as `uint`, an integer meets a float as that float,
    `&&` / `||` work on `bool`, the bit operators refuse floats; operators of other arms have no common type on either
    side. `commonTy` is computed from the tables re-extracted on every run (`Gen.TypingTables`: ranks, `require_integer`,
    short-circuit test; `Gen.BinopTyping`: how an enum operand enters the rank comparison, the bool remap and the operators
    it applies to).

    *Partial*: the one pair of `deviates` is excluded, on which the pinned code chooses another type — an untyped integer
    literal with a `bool`: the `bool` is converted to the literal kind (`binop_common_type_literal_pairs`: no typed kind is
    ever chosen; the folder has no rule for that conversion, so no constant results — observed `notconst` on every such
    case of the run). Two enum operands are taken to be of one enum type (`sameEnum`; operands of different enum types are
    refused). -/
theorem binop_common_type_as_specified_partial (op : BinOp) (l r : OpShape)
    (hsame : HlslUsualConv.sameEnum l r = true) (hdev : deviates l r = false) :
    commonTy op l r = HlslUsualConv.commonTy op l r :=
  commonTy_table op (binOp_mem_all op) l (shape_mem_all l) r (shape_mem_all r) hsame hdev

/-- non-vacuity: the cases the seeded mutant C13-4 changed (`enum == bool`, `bool < bool`), `int + uint`, `enum + float`,
    `bool & uint`, `float & int` refused, a `uint`-backed enum next to `int` / `bool`, an enum next to an untyped literal —
    all inside the hypotheses -/
example :
    commonTy .equality .enumInt (.scalar .bool) = some (.scalar .int32) ∧
    commonTy .lessThan (.scalar .bool) (.scalar .bool) = some (.scalar .int32) ∧
    commonTy .add (.scalar .int32) (.scalar .uInt32) = some (.scalar .uInt32) ∧
    commonTy .multiply .enumInt (.scalar .float32) = some (.scalar .float32) ∧
    commonTy .bitwiseAnd (.scalar .bool) (.scalar .uInt32) = some (.scalar .uInt32) ∧
    commonTy .bitwiseAnd (.scalar .float32) (.scalar .int32) = none ∧
    commonTy .subtract .enumUInt .enumUInt = some .right ∧
    commonTy .greaterThan .enumUInt (.scalar .int32) = some (.scalar .uInt32) ∧
    commonTy .add (.scalar .intLiteral) .enumInt = some (.scalar .int32) ∧
    deviates .enumInt (.scalar .bool) = false ∧ HlslUsualConv.sameEnum .enumInt (.scalar .bool) = true ∧
    deviates .enumUInt (.scalar .int32) = false ∧ deviates (.scalar .intLiteral) .enumUInt = false := by decide

/-- **An enum operand takes part through its underlying type** — no exception: for every operator, an enum with underlying
    type `int` or `uint` next to an operand of *any* shape (every scalar kind, untyped literals included, or the same enum),
    in both orders, gets the type the usual arithmetic conversions give; and next to an operand that is not an enum the
    code treats it exactly as a value of its underlying type (the behaviour of the source since fix `80dd7f9`). In particular
    `uint`-backed enum × `int` / `bool` is `uint`, and enum × untyped integer literal is the underlying type. -/
theorem binop_common_type_enum_operand_as_specified (op : BinOp) (e s : OpShape) (he : e = .enumInt ∨ e = .enumUInt)
    (hsame : HlslUsualConv.sameEnum e s = true) :
    commonTy op e s = HlslUsualConv.commonTy op e s ∧ commonTy op s e = HlslUsualConv.commonTy op s e ∧
    (s.isEnum = false → commonTy op e s = commonTy op e.underlying s ∧ commonTy op s e = commonTy op s e.underlying) := by
  have hm : e ∈ [OpShape.enumInt, .enumUInt] := by rcases he with h | h <;> simp [h]
  have h1 := commonTy_enum_table op (binOp_mem_all op) e hm s (shape_mem_all s) hsame
  exact ⟨h1.1, h1.2, commonTy_enum_underlying_table op (binOp_mem_all op) e hm s (shape_mem_all s)⟩

/-- `E1M > (int)0` and `true + E1M` are done in `uint`, as specified; an enum next to an untyped literal is done in the
    underlying type -/
example :
    commonTy .greaterThan .enumUInt (.scalar .int32) = some (.scalar .uInt32) ∧
    HlslUsualConv.commonTy .greaterThan .enumUInt (.scalar .int32) = some (.scalar .uInt32) ∧
    commonTy .add (.scalar .bool) .enumUInt = some (.scalar .uInt32) ∧
    HlslUsualConv.commonTy .add (.scalar .bool) .enumUInt = some (.scalar .uInt32) ∧
    commonTy .equality .enumUInt (.scalar .intLiteral) = some (.scalar .uInt32) ∧
    commonTy .leftShift .enumInt (.scalar .intLiteral) = some (.scalar .int32) := by decide

/-- on the pair excluded above (an untyped integer literal with a `bool`) the code never chooses a typed kind: the common
    type is the untyped integer literal kind (or `bool` for `&&` / `||`) -/
theorem binop_common_type_literal_pairs (op : BinOp) (t : Target)
    (h : commonTy op (.scalar .intLiteral) (.scalar .bool) = some t ∨ commonTy op (.scalar .bool) (.scalar .intLiteral) = some t) :
    t = .scalar .intLiteral ∨ (op.shortCircuit = true ∧ t = .scalar .bool) := by
  have key : ∀ op ∈ BinOp.all,
      ∀ o ∈ [commonTy op (.scalar .intLiteral) (.scalar .bool), commonTy op (.scalar .bool) (.scalar .intLiteral)],
      o = none ∨ o = some (.scalar .intLiteral) ∨ (op.shortCircuit = true ∧ o = some (.scalar .bool)) := by decide +kernel
  have hm : some t ∈ [commonTy op (.scalar .intLiteral) (.scalar .bool), commonTy op (.scalar .bool) (.scalar .intLiteral)] := by
    rcases h with h | h <;> simp [h]
  rcases key op (binOp_mem_all op) _ hm with k | k | ⟨k1, k⟩ <;> cases k
  · exact .inl rfl
  · exact .inr ⟨k1, rfl⟩

end CommonType

/-! ## Several instantiations of one template in one compilation

A template value argument is evaluated once per use (`template_argument_value`); what the *body* of the instantiation
sees is decided by the cache of instantiations: a use is bound to an instantiation found by `find_instantiation` /
the struct template map, and only built when none is found. -/
section Instantiation
open RsslVerif.Gen.InstTable RsslVerif.Model.InstCache RsslVerif.Model.ConstPos RsslVerif.Lemmas.InstCache

/-- **The lookup is exact.** For every history of instantiations (any cache contents, in any order), with the comparison
    *extracted from the source of `find_instantiation`*: the search returns an entry only if it is registered, belongs to
    the requested template and its recorded argument list **equals** the requested one — same length, and argument by
    argument the same type or the same constant, kind and value (`-1 ≠ -2`, `3 ≠ 3u`, `1 ≠ true`, `E0B ≠ 1`);
    and it does return one whenever such an entry exists. -/
theorem instantiation_lookup_is_exact {α : Type} (cache : List (Entry α)) (parent : Nat) (key : List Arg) :
    (∀ e, find fnKeyMode parent key cache = some e → e ∈ cache ∧ e.parent = parent ∧ e.key = key) ∧
    ((∃ e ∈ cache, e.parent = parent ∧ e.key = key) → (find fnKeyMode parent key cache).isSome = true) := by
  rw [fnKeyMode_exact]
  exact ⟨fun e h => find_sound parent key cache e h, find_complete parent key cache⟩

/-- **Each instantiation sees its own argument.** Whatever a template body computes from its arguments (`build`: array
    sizes, case labels, initialisers, the arguments handed on to further templates ...), for every sequence of uses of any
    templates with any arguments — repeated, interleaved, in any order — starting from any cache whose entries were built
    from their own recorded arguments (the empty one in particular): every use is bound to exactly what building the
    template from *that use's* argument list gives, independent of which other instantiations exist or came first. -/
theorem each_instantiation_sees_its_own_argument {α : Type} (build : Nat → List Arg → α)
    (uses : List (Nat × List Arg)) (cache : List (Entry α)) (hinv : ∀ e ∈ cache, e.val = build e.parent e.key) :
    run fnKeyMode build cache uses = uses.map (fun pk => build pk.1 pk.2) := by
  rw [fnKeyMode_exact]
  exact run_exact build uses cache hinv

/-- ... down to the argument *expressions*: uses `tf<e>()` of templates with one value parameter, each argument accepted by
    `parse_and_evaluate_constant_expression` with the constant `c`: the use is bound to the instantiation built from the
    value the specification gives `e` (kind included). -/
theorem each_instantiation_sees_the_value_of_its_argument_expression {α : Type} (build : Nat → List Arg → α)
    (uses : List (Nat × Expr × Constant))
    (hacc : ∀ u ∈ uses, wfE u.2.1 = true ∧ templateSite (eval u.2.1) = .stored u.2.2) :
    run fnKeyMode build [] (uses.map (fun u => (u.1, [Arg.const u.2.2]))) = uses.map (fun u => build u.1 [Arg.const u.2.2]) ∧
    ∀ u ∈ uses, RsslVerif.Spec.HlslConst.eval u.2.1 = some u.2.2 := by
  refine ⟨?_, fun u hu => (template_argument_value u.2.1 (hacc u hu).1 u.2.2 (hacc u hu).2).1⟩
  rw [each_instantiation_sees_its_own_argument build _ [] (by intro e he; cases he), List.map_map]
  rfl

/-- non-vacuity: `tf<-1>(); tf<-2>(); tf<(int)-1>(); tf<-1>(); tf<1 - 3>()` — three instantiations are built (`-1`, `-2`,
    `(int)-1`), the fourth use finds the first, the fifth (a constant expression folding to `-2`) the second -/
example :
    let neg := fun (a b : Int) => eval (.op .Subtract (.cons (.lit (.intLit a)) (.cons (.lit (.intLit b)) .nil)))
    templateSite (neg 1 3) = .stored (.intLit (-2)) ∧
    run fnKeyMode (fun _ k => k) [] [(0, [.const (.intLit (-1))]), (0, [.const (.intLit (-2))]), (0, [.const (.int32 (-1))]),
      (0, [.const (.intLit (-1))]), (0, [.const (.intLit (-2))])] =
      [[.const (.intLit (-1))], [.const (.intLit (-2))], [.const (.int32 (-1))], [.const (.intLit (-1))], [.const (.intLit (-2))]] ∧
    (find fnKeyMode 0 [.const (.intLit (-2))]
      [(⟨0, [.const (.intLit (-1))], 10⟩ : Entry Nat), ⟨1, [.const (.intLit (-2))], 11⟩, ⟨0, [.const (.intLit (-2))], 12⟩]).map (·.val) = some 12 := by
  decide

/-- **Struct templates** (`ensure_struct_template`: a map keyed by the argument list, asked with the provided arguments
    and with the list completed by the defaults): for every sequence of uses `TS<args>` with at most as many arguments as
    the template has parameters, every use is bound to the struct built from *its own* arguments completed by the
    defaults. -/
theorem struct_instantiation_sees_its_own_arguments {α : Type} (build : List Arg → α) (defaults : List Arg)
    (uses : List (List Arg)) (hlen : ∀ k ∈ uses, k.length ≤ defaults.length) :
    structMapKeyedByArgs = true ∧
    runStruct build defaults [] uses = uses.map (fun k => build (complete defaults k)) :=
  ⟨argEq_is_derived.2, runStruct_exact build defaults uses [] hlen (by intro e he; cases he)⟩

/-- non-vacuity: `template<int N = 7> struct TS`: `TS<-1>`, `TS<>`, `TS<-2>`, `TS<7>`, `TS<-1>` -/
example : runStruct (fun k => k) [.const (.intLit 7)] []
    [[.const (.intLit (-1))], [], [.const (.intLit (-2))], [.const (.intLit 7)], [.const (.intLit (-1))]] =
    [[.const (.intLit (-1))], [.const (.intLit 7)], [.const (.intLit (-2))], [.const (.intLit 7)], [.const (.intLit (-1))]] := by
  decide

/-- **Why the key must be the constant itself** (negation witness for a key that matches value arguments "by value"
    through `to_uint64`): `Constant::to_uint64` — its arms are the extracted `Gen.PosTable.toUint64Table` — is `None` for
    every negative constant (and every enum), so such a comparison identifies `-1` with `-2`: the second of
    `tf<-1>(); tf<-2>()` is bound to the instantiation whose parameter is `-1`; it also binds `tf<3u>()` after `tf<3>()`
    to the instantiation typed by the untyped literal. -/
theorem to_uint64_key_identifies_negative_arguments :
    sameKey .byToUint64 [.const (.intLit (-1))] [.const (.intLit (-2))] = true ∧
    sameKey .byToUint64 [.const (.int32 (-1))] [.const (.int32 (-2147483648))] = true ∧
    sameKey .byToUint64 [.const (.intLit 3)] [.const (.uint32 3)] = true ∧
    sameKey .byToUint64 [.const (.enum 0 (.int32 1))] [.const (.enum 0 (.int32 5))] = true ∧
    run .byToUint64 (fun _ k => k) [] [(0, [.const (.intLit (-1))]), (0, [.const (.intLit (-2))])] =
      [[.const (.intLit (-1))], [.const (.intLit (-1))]] ∧
    run fnKeyMode (fun _ k => k) [] [(0, [.const (.intLit (-1))]), (0, [.const (.intLit (-2))])] =
      [[.const (.intLit (-1))], [.const (.intLit (-2))]] := by
  decide

end Instantiation

end RsslVerif.Thm.C13
