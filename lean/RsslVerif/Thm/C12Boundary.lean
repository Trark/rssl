import RsslVerif.Thm.C12
import RsslVerif.Lemmas.MacroEval
/-!
# C12 — the boundary of the class on which rssl's macro expansion is the C algorithm

`expand_refines_spec` (Thm/C12.lean) proves `model = reference` on the tame class.  Each `differs_*` theorem takes the
smallest input of one deviation class (the same inputs are replayed on the real preprocessor by corpus/C12.txt and are
listed in known_findings.jsonl), evaluates the model (`applyLoopF_sound`) and the reference on it, and concludes
* `¬ Agree`: there is no fuel for which the reference yields the model's tokens, and
* the input has no tame derivation (for the classes without `##`): the side conditions of `Tame` do exclude it.
So the boundary of the class is checked from both sides: the `agrees_*` theorems are inputs next to those witnesses that
lie in the class.  Last, `FileBoundary`: an invocation does not span the end of an included file.
-/
namespace RsslVerif.Thm.C12
open RsslVerif.Model.Macro RsslVerif.Spec.CPreMacro RsslVerif.Lemmas.MacroEval RsslVerif.Lemmas.SpecExpand
open RsslVerif.Lemmas.MacroTame RsslVerif.Lemmas.MacroTameSpec RsslVerif.Lemmas.MacroTameRun
open RsslVerif.Model.MacroTame RsslVerif.Lemmas.MacroTameP RsslVerif.Lemmas.MacroTamePSpec RsslVerif.Lemmas.MacroHang

/-- located tokens -/
abbrev loc (ks : List Tok) : List PTok := ks.map (⟨·, true⟩)

/-- rssl and the reference C algorithm agree on `toks`: both succeed, with the same tokens (white space aside) -/
def Agree (defs : List Macro) (toks : List PTok) : Prop :=
  ∃ out fuel r, applyMacros defs toks = .ok out ∧
    expand (defs.map ofMacro) fuel (plain (ppTokens toks)) = .ok r ∧ r.map (·.tok) = ppTokens out

theorem model_eval (n : Nat) (defs : List Macro) (toks : List PTok) (r : Except Err (List PTok))
    (h : applyLoopF n (allEnabled defs) toks SearchPos.start = some r) : applyMacros defs toks = r :=
  applyLoopF_sound n _ _ _ _ h

theorem not_tame_of_not_agree (defs : List Macro) (toks : List PTok) (hwf : ∀ m ∈ defs, wfB m = true)
    (h : ¬ Agree defs toks) : ¬ ∃ out, Tame (allEnabled defs) toks out := by
  rintro ⟨out, hT⟩
  obtain ⟨h1, fuel, r, h2, h3⟩ := expand_refines_spec defs toks out (fun m hm => wfMacro_of_wfB m (hwf m hm)) hT
  exact h ⟨out, fuel, r, h1, h2, h3⟩

/-- the reference's tokens -/
def refToks (defs : List Macro) (fuel : Nat) (toks : List PTok) : Except SErr (List Tok) :=
  (expand (defs.map ofMacro) fuel (plain (ppTokens toks))).map (·.map (·.tok))

theorem refToks_ok {defs : List Macro} {fuel : Nat} {toks : List PTok} {ks : List Tok}
    (h : refToks defs fuel toks = .ok ks) :
    ∃ r0, expand (defs.map ofMacro) fuel (plain (ppTokens toks)) = .ok r0 ∧ r0.map (·.tok) = ks := by
  unfold refToks at h
  cases hr : expand (defs.map ofMacro) fuel (plain (ppTokens toks)) with
  | error e => simp [hr, Except.map] at h
  | ok r0 =>
    simp only [hr, Except.map, Except.ok.injEq] at h
    exact ⟨r0, rfl, h⟩

theorem differs_of_eval {defs : List Macro} {toks : List PTok} (n : Nat) {fuel : Nat} {mr : Except Err (List PTok)}
    {ks : List Tok} (hm : applyLoopF n (allEnabled defs) toks SearchPos.start = some mr)
    (hs : refToks defs fuel toks = .ok ks) (hne : ∀ out, mr = .ok out → ks ≠ ppTokens out) :
    applyMacros defs toks = mr ∧ refToks defs fuel toks = .ok ks ∧ ¬ Agree defs toks := by
  obtain ⟨r0, h0, rfl⟩ := refToks_ok hs
  have hmr := model_eval n defs toks mr hm
  refine ⟨hmr, hs, ?_⟩
  rintro ⟨out, fuel', r, ho, hr, heq⟩
  -- the reference is deterministic: whatever fuel it succeeds with, it yields `r0`
  cases expand_det _ _ _ _ _ _ h0 hr
  exact hne out (hmr.symm.trans ho) heq

theorem differs_of_eval_wf {defs : List Macro} {toks : List PTok} (n : Nat) {fuel : Nat} {mr : Except Err (List PTok)}
    {ks : List Tok} (hm : applyLoopF n (allEnabled defs) toks SearchPos.start = some mr)
    (hs : refToks defs fuel toks = .ok ks) (hne : ∀ out, mr = .ok out → ks ≠ ppTokens out)
    (hwf : ∀ m ∈ defs, wfB m = true) :
    applyMacros defs toks = mr ∧ refToks defs fuel toks = .ok ks ∧ ¬ Agree defs toks ∧
      ¬ ∃ out, Tame (allEnabled defs) toks out :=
  have h := differs_of_eval n hm hs hne
  ⟨h.1, h.2.1, h.2.2, not_tame_of_not_agree defs toks hwf h.2.2⟩

/-- **unused-argument-expanded.** `#define K(X) 3`, `#define G(X) X`; `K(G(1,2))`.  rssl expands the argument although
the parameter does not occur in the replacement list and reports the wrong number of arguments for `G`; C: `3`. -/
theorem differs_unused_argument_expanded :
    let defs : List Macro := [⟨"K", true, 1, loc [.int "3"]⟩, ⟨"G", true, 1, loc [.arg 0]⟩]
    let toks := loc [.id "K", .lparen, .id "G", .lparen, .int "1", .comma, .int "2", .rparen, .rparen]
    applyMacros defs toks = .error .macroExpectsDifferentNumberOfArguments ∧
      refToks defs 10 toks = .ok [.int "3"] ∧ ¬ Agree defs toks ∧ ¬ ∃ out, Tame (allEnabled defs) toks out := by
  intro defs toks
  exact differs_of_eval_wf 10 (by decide +kernel) (by decide +kernel) (by intro out ho; cases ho) (by decide +kernel)

/-- **argument-repainted.** `#define B B 0`, `#define ID(X) X`; `ID(B)`.  rssl: `B 0 0` (the `B` that came out of the
expanded argument is expanded again when the replacement list is rescanned); C: `B 0`. -/
theorem differs_argument_repainted :
    let defs : List Macro := [⟨"B", false, 0, loc [.id "B", .ws, .int "0"]⟩, ⟨"ID", true, 1, loc [.arg 0]⟩]
    let toks := loc [.id "ID", .lparen, .id "B", .rparen]
    applyMacros defs toks = .ok (loc [.id "B", .ws, .int "0", .ws, .int "0"]) ∧
      refToks defs 10 toks = .ok [.id "B", .int "0"] ∧ ¬ Agree defs toks ∧
      ¬ ∃ out, Tame (allEnabled defs) toks out := by
  intro defs toks
  exact differs_of_eval_wf 12 (by decide +kernel) (by decide +kernel) (by intro out ho; cases ho; decide)
    (by decide +kernel)

/-- **argument-list-ends-behind-replacement-list.** `#define F(X) X +`, `#define G F(1`; `G) 2`.  rssl rescans the
replacement list of `G` on its own, finds `F (` and no end of the argument list: `MacroArgumentsNeverEnd`; C rescans the
replacement list together with the rest of the source, reads `F(1)` across its end and gives `1 + 2`.  (`Tame` has no
derivation: `readArgs` fails inside the replacement list, and `F` cannot be kept in front of `(`.) -/
theorem differs_argument_list_ends_behind_replacement_list :
    let defs : List Macro := [⟨"F", true, 1, loc [.arg 0, .ws, .punct "+"]⟩,
      ⟨"G", false, 0, loc [.id "F", .lparen, .int "1"]⟩]
    let toks := loc [.id "G", .rparen, .ws, .int "2"]
    applyMacros defs toks = .error .macroArgumentsNeverEnd ∧
      refToks defs 10 toks = .ok [.int "1", .punct "+", .int "2"] ∧ ¬ Agree defs toks ∧
      ¬ ∃ out, Tame (allEnabled defs) toks out := by
  intro defs toks
  exact differs_of_eval_wf 10 (by decide +kernel) (by decide +kernel) (by intro out ho; cases ho) (by decide +kernel)

/-- **painted-function-name-reinvoked.** `#define A B(A)`, `#define B(X) X B`; `A(1)`.  rssl: `A 1 B` (the `B` at the
end of `A`'s expansion came out of `B` itself, but only the macro applied last is remembered); C: `A B ( 1 )`. -/
theorem differs_painted_function_name_reinvoked :
    let defs : List Macro := [⟨"A", false, 0, loc [.id "B", .lparen, .id "A", .rparen]⟩,
      ⟨"B", true, 1, loc [.arg 0, .ws, .id "B"]⟩]
    let toks := loc [.id "A", .lparen, .int "1", .rparen]
    applyMacros defs toks = .ok (loc [.id "A", .ws, .int "1", .ws, .id "B"]) ∧
      refToks defs 12 toks = .ok [.id "A", .id "B", .lparen, .int "1", .rparen] ∧ ¬ Agree defs toks ∧
      ¬ ∃ out, Tame (allEnabled defs) toks out := by
  intro defs toks
  exact differs_of_eval_wf 12 (by decide +kernel) (by decide +kernel) (by intro out ho; cases ho; decide)
    (by decide +kernel)

/-- the same class with an acyclic table: `#define F(X) X`, `#define H(X) F(X)`; `H(F)(1)`.  rssl: `1`; C: `F ( 1 )`
(the `F` that came in through the argument is painted by the inner expansion of `F`). -/
theorem differs_painted_function_name_reinvoked_acyclic :
    let defs : List Macro := [⟨"F", true, 1, loc [.arg 0]⟩, ⟨"H", true, 1, loc [.id "F", .lparen, .arg 0, .rparen]⟩]
    let toks := loc [.id "H", .lparen, .id "F", .rparen, .lparen, .int "1", .rparen]
    applyMacros defs toks = .ok (loc [.int "1"]) ∧
      refToks defs 12 toks = .ok [.id "F", .lparen, .int "1", .rparen] ∧ ¬ Agree defs toks ∧
      ¬ ∃ out, Tame (allEnabled defs) toks out := by
  intro defs toks
  exact differs_of_eval_wf 12 (by decide +kernel) (by decide +kernel) (by intro out ho; cases ho; decide)
    (by decide +kernel)

/-- **function-name-before-vanished-macro-invoked** (why the `NoFire` side condition cannot be weakened to
"the name was looked at with nothing after it").  `#define E`, `#define F(X) X`, `#define A F E`; `A(1)`.
rssl: `1` (when `A`'s expansion `F ` is complete, `early_function_pos` lets `F` meet the `(` that follows); C: `F ( 1 )`
(`F` was followed by `E`, not by `(`, when it was looked at; `E` then expands to nothing). -/
theorem differs_function_name_before_vanished_macro :
    let defs : List Macro := [⟨"E", false, 0, []⟩, ⟨"F", true, 1, loc [.arg 0]⟩,
      ⟨"A", false, 0, loc [.id "F", .ws, .id "E"]⟩]
    let toks := loc [.id "A", .lparen, .int "1", .rparen]
    applyMacros defs toks = .ok (loc [.int "1"]) ∧
      refToks defs 12 toks = .ok [.id "F", .lparen, .int "1", .rparen] ∧ ¬ Agree defs toks ∧
      ¬ ∃ out, Tame (allEnabled defs) toks out := by
  intro defs toks
  exact differs_of_eval_wf 12 (by decide +kernel) (by decide +kernel) (by intro out ho; cases ho; decide)
    (by decide +kernel)

/-- **empty-argument-next-to-paste.** `#define F(X) P ## X Q`; `F()`.  rssl: `PQ` (no placemarker: `##` pastes the
tokens that happen to be adjacent); C: `P Q`. -/
theorem differs_empty_argument_next_to_paste :
    let defs : List Macro := [⟨"F", true, 1, loc [.id "P", .ws, .concat, .ws, .arg 0, .ws, .id "Q"]⟩]
    let toks := loc [.id "F", .lparen, .rparen]
    applyMacros defs toks = .ok (loc [.id "PQ"]) ∧ refToks defs 12 toks = .ok [.id "P", .id "Q"] ∧
      ¬ Agree defs toks := by
  intro defs toks
  exact differs_of_eval 12 (by decide +kernel) (by decide +kernel) (by intro out ho; cases ho; decide)



theorem not_tameP_of_not_agree (defs : List Macro) (toks : List PTok) (hwf : ∀ m ∈ defs, wfPB m = true)
    (hnc : noConcatB toks = true) (h : ¬ Agree defs toks) : ¬ ∃ out, TameP (allEnabled defs) toks out := by
  rintro ⟨out, hT⟩
  obtain ⟨h1, fuel, r, h2, h3⟩ := expand_refines_spec_with_paste defs toks out
    (fun m hm => wfMacroP_of_wfPB m (hwf m hm)) (noConcat_of_B toks hnc) hT
  exact h ⟨out, fuel, r, h1, h2, h3⟩

/-- **The witnesses lie outside the class with `##` as well** (`TameP`, the class of
`expand_refines_spec_with_paste`) -- in particular `F()` for `#define F(X) P ## X Q`: an empty argument next to
`##`.  Six of the seven are the conjuncts; the seventh, `differs_argument_list_ends_behind_replacement_list`, lies outside
in the same way (`not_tameP_of_not_agree`: its table is well formed and its text holds no `Concat` token). -/
theorem differs_outside_class_with_paste :
    (¬ ∃ out, TameP (allEnabled [⟨"K", true, 1, loc [.int "3"]⟩, ⟨"G", true, 1, loc [.arg 0]⟩])
      (loc [.id "K", .lparen, .id "G", .lparen, .int "1", .comma, .int "2", .rparen, .rparen]) out) ∧
    (¬ ∃ out, TameP (allEnabled [⟨"B", false, 0, loc [.id "B", .ws, .int "0"]⟩, ⟨"ID", true, 1, loc [.arg 0]⟩])
      (loc [.id "ID", .lparen, .id "B", .rparen]) out) ∧
    (¬ ∃ out, TameP (allEnabled [⟨"A", false, 0, loc [.id "B", .lparen, .id "A", .rparen]⟩,
        ⟨"B", true, 1, loc [.arg 0, .ws, .id "B"]⟩]) (loc [.id "A", .lparen, .int "1", .rparen]) out) ∧
    (¬ ∃ out, TameP (allEnabled [⟨"F", true, 1, loc [.arg 0]⟩,
        ⟨"H", true, 1, loc [.id "F", .lparen, .arg 0, .rparen]⟩])
      (loc [.id "H", .lparen, .id "F", .rparen, .lparen, .int "1", .rparen]) out) ∧
    (¬ ∃ out, TameP (allEnabled [⟨"E", false, 0, []⟩, ⟨"F", true, 1, loc [.arg 0]⟩,
        ⟨"A", false, 0, loc [.id "F", .ws, .id "E"]⟩]) (loc [.id "A", .lparen, .int "1", .rparen]) out) ∧
    (¬ ∃ out, TameP (allEnabled [⟨"F", true, 1, loc [.id "P", .ws, .concat, .ws, .arg 0, .ws, .id "Q"]⟩])
      (loc [.id "F", .lparen, .rparen]) out) := by
  refine ⟨?_, ?_, ?_, ?_, ?_, ?_⟩
  · exact not_tameP_of_not_agree _ _ (by decide +kernel) (by decide +kernel) differs_unused_argument_expanded.2.2.1
  · exact not_tameP_of_not_agree _ _ (by decide +kernel) (by decide +kernel) differs_argument_repainted.2.2.1
  · exact not_tameP_of_not_agree _ _ (by decide +kernel) (by decide +kernel) differs_painted_function_name_reinvoked.2.2.1
  · exact not_tameP_of_not_agree _ _ (by decide +kernel) (by decide +kernel) differs_painted_function_name_reinvoked_acyclic.2.2.1
  · exact not_tameP_of_not_agree _ _ (by decide +kernel) (by decide +kernel) differs_function_name_before_vanished_macro.2.2.1
  · exact not_tameP_of_not_agree _ _ (by decide +kernel) (by decide +kernel) differs_empty_argument_next_to_paste.2.2

theorem agree_of_eval {defs : List Macro} {toks : List PTok} (out : List PTok) (n fuel : Nat)
    (hm : applyLoopF n (allEnabled defs) toks SearchPos.start = some (.ok out))
    (hs : refToks defs fuel toks = .ok (ppTokens out)) : Agree defs toks :=
  let ⟨r0, h1, h2⟩ := refToks_ok hs
  ⟨out, fuel, r0, model_eval n defs toks _ hm, h1, h2⟩

/-- an input `tameRun` accepts: what the model yields, the agreement, and the derivation -/
theorem agree_of_tameRun {defs : List Macro} {toks out : List PTok} (n : Nat) (hwf : ∀ m ∈ defs, wfB m = true)
    (hnd : (entryNames (allEnabled defs)).Nodup) (h : tameRun n (allEnabled defs) toks = some out) :
    applyMacros defs toks = .ok out ∧ Agree defs toks ∧ Tame (allEnabled defs) toks out :=
  have hT := tameRun_sound n _ _ _ hnd h
  let ⟨h1, fuel, r, h2, h3⟩ := expand_refines_spec defs toks out (fun m hm => wfMacro_of_wfB m (hwf m hm)) hT
  ⟨h1, ⟨out, fuel, r, h1, h2, h3⟩, hT⟩

theorem agree_of_tameRunP {defs : List Macro} {toks out : List PTok} (n : Nat) (hwf : ∀ m ∈ defs, wfPB m = true)
    (hnd : (entryNames (allEnabled defs)).Nodup) (hnc : noConcatB toks = true)
    (h : tameRunP n (allEnabled defs) toks = some out) :
    applyMacros defs toks = .ok out ∧ Agree defs toks ∧ TameP (allEnabled defs) toks out :=
  have hT := tameRunP_sound n _ _ _ hnd h
  let ⟨h1, fuel, r, h2, h3⟩ := expand_refines_spec_with_paste defs toks out
    (fun m hm => wfMacroP_of_wfPB m (hwf m hm)) (noConcat_of_B toks hnc) hT
  ⟨h1, ⟨out, fuel, r, h1, h2, h3⟩, hT⟩

/-- **line-end-before-parenthesis (fix f08088c).**  `#define F(X) X`; `F` ⏎ `(1)`: rssl gives `1` like C (a line end does
not stop the search for `(`), and the input lies in the tame class, so it is covered by `expand_refines_spec`.  The same for a macro without parameters whose empty
argument list holds a line break, `#define Z() 7`; `Z(` ⏎ `)`, and for a line
comment / several line ends between the name and `(`.  The universal statements: `invocation_may_continue_on_next_line`
(the search for `(` is the C reading "next token that is not white space"), `function_like_is_substitution` (any
white space before `(`), and the refinement theorems, whose class contains these invocations. -/
theorem agrees_line_end_before_parenthesis :
    let F : Macro := ⟨"F", true, 1, loc [.arg 0]⟩
    let Z : Macro := ⟨"Z", true, 0, loc [.int "7"]⟩
    (applyMacros [F] (loc [.id "F", .endline, .lparen, .int "1", .rparen]) = .ok (loc [.int "1"]) ∧
      refToks [F] 10 (loc [.id "F", .endline, .lparen, .int "1", .rparen]) = .ok [.int "1"] ∧
      Agree [F] (loc [.id "F", .endline, .lparen, .int "1", .rparen]) ∧
      Tame (allEnabled [F]) (loc [.id "F", .endline, .lparen, .int "1", .rparen]) (loc [.int "1"])) ∧
    (applyMacros [Z] (loc [.id "Z", .lparen, .endline, .rparen]) = .ok (loc [.int "7"]) ∧
      Agree [Z] (loc [.id "Z", .lparen, .endline, .rparen]) ∧
      Tame (allEnabled [Z]) (loc [.id "Z", .lparen, .endline, .rparen]) (loc [.int "7"])) ∧
    Agree [F, Z] (loc [.id "F", .ws, .endline, .endline, .ws, .lparen, .id "Z", .endline, .lparen, .ws, .endline,
      .rparen, .rparen]) := by
  intro F Z
  exact ⟨(agree_of_tameRun 10 (by decide +kernel) (by decide +kernel) (by decide +kernel)).imp_right
      fun h => ⟨by decide +kernel, h⟩,
    agree_of_tameRun 10 (by decide +kernel) (by decide +kernel) (by decide +kernel),
    (agree_of_tameRun (out := loc [.int "7"]) 12 (by decide +kernel) (by decide +kernel) (by decide +kernel)).2.1⟩

/-- **Higher-order use of macros: the name of a function-like macro passed as an argument and invoked by the
replacement list.**  `#define NEG(v) (-(v))`, `#define APPLY(f, x) f(x)`: `APPLY(NEG, a)` gives `(-(a))`; the X-macro
idiom `#define LIST(X) X(1) X(2)`, `LIST(DECL)` (also with a `DECL` that pastes, `v ## n`); `#define CALL(f, args) f args`,
`CALL(ADD, (p, q))`.  In each the argument is the bare name of an *enabled* function-like macro, so what the argument
expands to (itself) is not `OnlyDisabled`; it is `AllKept`: nothing happens in the argument, its token reaches the
replacement list with exactly the hide set of the invocation, and the rescan of the replacement list -- which rssl
carries out for *every* invocation, whatever the replacement list consists of (`source_shape`: `bodyAlwaysRescanned`) --
invokes it on both sides.  The inputs lie in the class of `expand_refines_spec` / `expand_refines_spec_with_paste`
(rule `invoke`, side condition `ArgOK`), so the agreement is an instance of the refinement theorem.  (A preprocessor that skips the rescan when the replacement list holds no identifier
of its own -- seeded mutant C12-3 -- leaves `NEG(a)`, `DECL(1) DECL(2)`, `ADD (p, q)`.) -/
theorem agrees_on_higher_order_invocation :
    let NEG : Macro := ⟨"NEG", true, 1, loc [.lparen, .punct "-", .lparen, .arg 0, .rparen, .rparen]⟩
    let APPLY : Macro := ⟨"APPLY", true, 2, loc [.arg 0, .lparen, .arg 1, .rparen]⟩
    let DECL : Macro := ⟨"DECL", true, 1, loc [.id "int", .ws, .arg 0, .punct ";"]⟩
    let DECLP : Macro := ⟨"DECLP", true, 1, loc [.id "v", .ws, .concat, .ws, .arg 0, .punct ";"]⟩
    let LIST : Macro := ⟨"LIST", true, 1, loc [.arg 0, .lparen, .int "1", .rparen, .ws, .arg 0, .lparen, .int "2", .rparen]⟩
    let ADD : Macro := ⟨"ADD", true, 2, loc [.arg 0, .ws, .punct "+", .ws, .arg 1]⟩
    let CALL : Macro := ⟨"CALL", true, 2, loc [.arg 0, .ws, .arg 1]⟩
    let apply := loc [.id "APPLY", .lparen, .id "NEG", .comma, .ws, .id "a", .rparen]
    let list := loc [.id "LIST", .lparen, .id "DECL", .rparen]
    let listp := loc [.id "LIST", .lparen, .id "DECLP", .rparen]
    let call := loc [.id "CALL", .lparen, .id "ADD", .comma, .ws, .lparen, .id "p", .comma, .ws, .id "q", .rparen, .rparen]
    (applyMacros [NEG, APPLY] apply = .ok (loc [.lparen, .punct "-", .lparen, .id "a", .rparen, .rparen]) ∧
      Agree [NEG, APPLY] apply ∧
      Tame (allEnabled [NEG, APPLY]) apply (loc [.lparen, .punct "-", .lparen, .id "a", .rparen, .rparen])) ∧
    (applyMacros [DECL, LIST] list =
        .ok (loc [.id "int", .ws, .int "1", .punct ";", .ws, .id "int", .ws, .int "2", .punct ";"]) ∧
      Agree [DECL, LIST] list ∧
      Tame (allEnabled [DECL, LIST]) list
        (loc [.id "int", .ws, .int "1", .punct ";", .ws, .id "int", .ws, .int "2", .punct ";"])) ∧
    (applyMacros [DECLP, LIST] listp = .ok (loc [.id "v1", .punct ";", .ws, .id "v2", .punct ";"]) ∧
      Agree [DECLP, LIST] listp ∧
      TameP (allEnabled [DECLP, LIST]) listp (loc [.id "v1", .punct ";", .ws, .id "v2", .punct ";"])) ∧
    (applyMacros [ADD, CALL] call = .ok (loc [.id "p", .ws, .punct "+", .ws, .id "q"]) ∧
      Agree [ADD, CALL] call ∧
      Tame (allEnabled [ADD, CALL]) call (loc [.id "p", .ws, .punct "+", .ws, .id "q"])) := by
  intro NEG APPLY DECL DECLP LIST ADD CALL apply list listp call
  exact ⟨agree_of_tameRun 12 (by decide +kernel) (by decide +kernel) (by decide +kernel),
    agree_of_tameRun 14 (by decide +kernel) (by decide +kernel) (by decide +kernel),
    agree_of_tameRunP 14 (by decide +kernel) (by decide +kernel) (by decide +kernel) (by decide +kernel),
    agree_of_tameRun 12 (by decide +kernel) (by decide +kernel) (by decide +kernel)⟩

/-- **Invocations completed after the end of an expansion on which rssl and C agree** (the counterpart of
`differs_painted_function_name_reinvoked` / `differs_function_name_before_vanished_macro`; the universal statement
about the model is `trailing_function_name_is_invoked`):
`#define A(X) { X }`, `#define M(X) A X`: `M()(6)` gives `{ 6 }` (the expansion of `M()` is `A` followed by the blank
that preceded the empty argument), and `M()(6)(1)`; `#define N A`: `N(7)`; `#define S(X) X * 2`,
`#define AP(F,X) F X`: `AP(S,)(5)` gives `5 * 2`. -/
theorem agrees_on_invocation_completed_after_expansion :
    let A : Macro := ⟨"A", true, 1, loc [.punct "{", .ws, .arg 0, .ws, .punct "}"]⟩
    let M : Macro := ⟨"M", true, 1, loc [.id "A", .ws, .arg 0]⟩
    let N : Macro := ⟨"N", false, 0, loc [.id "A"]⟩
    let S : Macro := ⟨"S", true, 1, loc [.arg 0, .ws, .punct "*", .ws, .int "2"]⟩
    let AP : Macro := ⟨"AP", true, 2, loc [.arg 0, .ws, .arg 1]⟩
    Agree [A, M] (loc [.id "M", .lparen, .rparen, .lparen, .int "6", .rparen]) ∧
    Agree [A, M] (loc [.id "M", .lparen, .rparen, .ws, .lparen, .int "6", .rparen, .lparen, .int "1", .rparen]) ∧
    Agree [A, N] (loc [.id "N", .lparen, .int "7", .rparen]) ∧
    Agree [S, AP] (loc [.id "AP", .lparen, .id "S", .comma, .rparen, .lparen, .int "5", .rparen]) := by
  intro A M N S AP
  exact ⟨agree_of_eval (loc [.punct "{", .ws, .int "6", .ws, .punct "}"]) 12 12 (by decide +kernel) (by decide +kernel),
    agree_of_eval (loc [.punct "{", .ws, .int "6", .ws, .punct "}", .lparen, .int "1", .rparen]) 12 12
      (by decide +kernel) (by decide +kernel),
    agree_of_eval (loc [.punct "{", .ws, .int "7", .ws, .punct "}"]) 12 12 (by decide +kernel) (by decide +kernel),
    agree_of_eval (loc [.int "5", .ws, .punct "*", .ws, .int "2"]) 12 12 (by decide +kernel) (by decide +kernel)⟩

/-- the other side of the boundary, next to `differs_function_name_before_vanished_macro`: the same invocation
written in the text (`F E (1)`, no enclosing expansion) and inside an argument (`ID(F E)(1)`) is treated alike by
rssl and C -/
example :
    Agree [⟨"E", false, 0, []⟩, ⟨"F", true, 1, loc [.arg 0]⟩] (loc [.id "F", .ws, .id "E", .ws, .lparen, .int "1", .rparen]) :=
  (agree_of_tameRun (out := loc [.id "F", .ws, .ws, .lparen, .int "1", .rparen]) 12 (by decide +kernel) (by decide)
    (by decide +kernel)).2.1

/-! ## inclusion: where "pasting the file's contents" and the block structure differ -/

section FileBoundary
open RsslVerif.Model.Include RsslVerif.Lemmas.MacroApi RsslVerif.Lemmas.Include

/-- entry file: `#define F(X) X` / `#include "f1"` / `(1)` -/
def boundaryMain : List Line :=
  [.define (loc [.ws, .id "F", .lparen, .id "X", .rparen, .ws, .id "X"]), .incl "f1",
    .text (loc [.lparen, .int "1", .rparen])]
/-- the header `f1`: `F` -/
def boundaryHeader : List Line := [.text (loc [.id "F"])]
/-- the entry file with the header's line pasted in place of the directive -/
def boundaryPasted : List Line :=
  [.define (loc [.ws, .id "F", .lparen, .id "X", .rparen, .ws, .id "X"]), .text (loc [.id "F"]),
    .text (loc [.lparen, .int "1", .rparen])]
def boundaryHandler (main : List Line) : Handler := fun n =>
  if n = "main" then some ("main", main) else if n = "f1" then some ("f1", boundaryHeader) else none

/-- **invocation-spans-file-boundary** (negation witness for the plain textual reading of "`#include` is equivalent to
pasting the file's contents").  The header ends in the name of a function-like macro and the including file continues with
`(1)`: rssl expands the text before an `#include`, the included file and the text after it as separate blocks and
gives `F ( 1 )`; the program with the header's line pasted in gives `1`.  `include_is_paste` is the true statement: the
pasted lines stand between two block boundaries.  (C compilers agree with rssl here: clang cites C99 5.1.1.2p4, GCC
stops its look-ahead at the end of an included buffer.) -/
theorem differs_invocation_spanning_file_boundary :
    (preprocess (boundaryHandler boundaryMain) 10 [] "main").map prepare =
      .ok (.ok [.id "F", .lparen, .int "1", .rparen]) ∧
    (preprocess (boundaryHandler boundaryPasted) 10 [] "main").map prepare = .ok (.ok [.int "1"]) := by
  have hd : doDefine [] (loc [.ws, .id "F", .lparen, .id "X", .rparen, .ws, .id "X"]) =
      .ok [⟨"F", true, 1, loc [.arg 0]⟩] := by decide
  have e1 : applyMacros [⟨"F", true, 1, loc [.arg 0]⟩] (loc [.id "F", .endline]) = .ok (loc [.id "F", .endline]) :=
    model_eval 10 _ _ _ (by decide +kernel)
  have e2 : applyMacros [⟨"F", true, 1, loc [.arg 0]⟩] (loc [.lparen, .int "1", .rparen, .endline]) =
      .ok (loc [.lparen, .int "1", .rparen, .endline]) := model_eval 10 _ _ _ (by decide +kernel)
  have e3 : applyMacros [⟨"F", true, 1, loc [.arg 0]⟩]
      (loc [.id "F", .endline, .lparen, .int "1", .rparen, .endline]) = .ok (loc [.int "1", .endline]) :=
    model_eval 10 _ _ _ (by decide +kernel)
  constructor
  · simp [preprocess, boundaryHandler, boundaryMain, boundaryHeader, runInitial, initialMacros, runFile, fileStart,
      foldLines, stepLine, flush, applyMacros_nil, includeFile, eol, loc] at hd e1 e2 ⊢
    simp [hd, e1, e2, applyMacros_nil, prepare, Except.map, Tok.isWhitespace]
  · simp [preprocess, boundaryHandler, boundaryPasted, runInitial, initialMacros, runFile, fileStart, foldLines,
      stepLine, flush, applyMacros_nil, eol, loc] at hd e3 ⊢
    simp [hd, e3, prepare, Except.map, Tok.isWhitespace]

end FileBoundary

end RsslVerif.Thm.C12
