import RsslVerif.Model.Compile
import RsslVerif.Model.PipelineTyper
import RsslVerif.Model.PipelineNames
import RsslVerif.Thm.C15
/-!
# C17 — pipelines are selected and compiled independently

* `compile()`'s loop (`Model.Compile.compileLoop`, arbitrary `build`, any number of pipelines): one result per pipeline in
  order, a named pipeline selects exactly that one and does not depend on the others (`named_selects_exactly`,
  `independent_of_other_pipelines`, `all_agrees_with_named`).
* `namespace Typer`: the type checker's pipeline list is a map over the Pipeline blocks and the registry ignores them
  (`typeCheck_pipelines_map`, `typeCheck_delete_others`), so deleting the other blocks of a file changes nothing for the
  one that stays (`independent_of_other_pipelines_file`, `..._module_partial`); what a block sees of the registry
  (`elabCore_depends_on_named_entries`); the reported HLSL entry name (`reported_entry_names_distinct`, with C15's name map).
-/
namespace RsslVerif.Thm.C17
open RsslVerif.Gen.CompileTables RsslVerif.Model.Compile

variable {ρ β ε : Type}

/-- Tie to the source: compile()'s loop has the shape the model mirrors (every regex fact holds). -/
theorem loop_shape_as_modelled :
    loopShape = ⟨true, true, true, true, true, true, true, true⟩ ∧
    buildClonesAndSelectsByName = true ∧ hlslReportsEmittedName = true ∧
    selectPipelineByExactName = true ∧ defaultSetFromSelectedPipeline = true := by decide

/-- use classes of `.pipelines` that keep the selected pipeline the only one read after type checking:
    indexing by the selected index, the selection loop itself, the driver loop, construction -/
def allowedUses : List (String × String × String) := [
  ("hlsl/src/ast_generate.rs", "context.module", "index:pipeline"),
  -- generate_module: names of the selected pipeline's entry functions (index = module.selected_pipeline)
  ("hlsl/src/ast_generate.rs", "module", "index:pipeline"),
  ("ir/src/ir_module.rs", "self", "index:index"),
  ("ir/src/ir_module.rs", "self", "method:iter"),
  ("msl/src/generator.rs", "module", "index:selected_pipeline"),
  ("msl/src/lib.rs", "module", "index:selected_pipeline"),
  ("msl/src/rewrite_mesh_output.rs", "module", "index:pipeline_index"),
  ("src/compile.rs", "ir", "plain"),
  ("typer/src/typer/pipelines.rs", "context.module", "method:iter"),
  ("typer/src/typer/pipelines.rs", "context.module", "method:push")]

/-- Tie to the source: no reader of `Module.pipelines` exists beyond the ones the model accounts for
    (a new reader makes this obligation fail until it is reviewed). -/
theorem pipelines_reads_covered : pipelineUses.all (fun u => allowedUses.contains u) = true := by decide +kernel

theorem buildLoop_all_ok (build : Option (Pipeline ρ) → Except ε β) (f : Pipeline ρ → β)
    (ps : List (Pipeline ρ)) (h : ∀ p ∈ ps, build (some p) = .ok (f p)) :
    buildLoop build (fun _ => true) ps = .ok (ps.map f) := by
  induction ps with
  | nil => rfl
  | cons p ps ih =>
    have hp := h p (by simp)
    have ht := ih (fun q hq => h q (by simp [hq]))
    simp [buildLoop, hp, ht]

/-- One result per pipeline definition, in source order. -/
theorem one_per_pipeline_in_order (build : Option (Pipeline ρ) → Except ε β) (f : Pipeline ρ → β)
    (ps : List (Pipeline ρ)) (hne : ps ≠ []) (h : ∀ p ∈ ps, build (some p) = .ok (f p)) :
    compileLoop build ps .all = .ok (ps.map f) := by
  simp only [compileLoop]
  rw [buildLoop_all_ok build f ps h]
  cases ps with
  | nil => exact absurd rfl hne
  | cons p ps => rfl

theorem buildLoop_skip (build : Option (Pipeline ρ) → Except ε β) (n : String)
    (ps : List (Pipeline ρ)) (h : ∀ p ∈ ps, p.name ≠ n) :
    buildLoop build (fun p => p.name == n) ps = .ok [] := by
  induction ps with
  | nil => rfl
  | cons p ps ih =>
    have hp : (p.name == n) = false := by simpa using h p (by simp)
    simp [buildLoop, hp, ih (fun q hq => h q (by simp [hq]))]

/-- With distinct pipeline names the named loop builds exactly the named pipeline — whatever the
    other pipelines are and whether or not *they* would build. -/
theorem buildLoop_named (build : Option (Pipeline ρ) → Except ε β) (ps : List (Pipeline ρ))
    (hnd : (ps.map (·.name)).Nodup) (p : Pipeline ρ) (hp : p ∈ ps) :
    buildLoop build (fun q => q.name == p.name) ps =
      match build (some p) with
      | .error e => .error e
      | .ok b => .ok [b] := by
  induction ps with
  | nil => cases hp
  | cons q qs ih =>
    simp only [List.map_cons, List.nodup_cons] at hnd
    rcases List.mem_cons.1 hp with rfl | hq
    · have hskip := buildLoop_skip build p.name qs (by
        intro r hr e; exact hnd.1 (by rw [← e]; exact List.mem_map_of_mem hr))
      simp only [buildLoop, beq_self_eq_true, if_true, hskip]
      cases build (some p) <;> rfl
    · have hne : (q.name == p.name) = false := by
        have : q.name ≠ p.name := by
          intro e; exact hnd.1 (by rw [e]; exact List.mem_map_of_mem hq)
        simpa using this
      simp only [buildLoop, hne]
      exact ih hnd.2 hq

/-- Exactly the pipeline with the requested name. -/
theorem named_selects_exactly (build : Option (Pipeline ρ) → Except ε β) (ps : List (Pipeline ρ))
    (hnd : (ps.map (·.name)).Nodup) (p : Pipeline ρ) (hp : p ∈ ps) (b : β)
    (hb : build (some p) = .ok b) :
    compileLoop build ps (.named p.name) = .ok [b] := by
  simp only [compileLoop]
  rw [buildLoop_named build ps hnd p hp, hb]

/-- Independence: the result for a named pipeline does not depend on which other pipelines the file
    defines (same outcome in any two pipeline lists that contain it with distinct names). -/
theorem independent_of_other_pipelines (build : Option (Pipeline ρ) → Except ε β)
    (ps ps' : List (Pipeline ρ)) (hnd : (ps.map (·.name)).Nodup) (hnd' : (ps'.map (·.name)).Nodup)
    (p : Pipeline ρ) (hp : p ∈ ps) (hp' : p ∈ ps') :
    compileLoop build ps (.named p.name) = compileLoop build ps' (.named p.name) := by
  simp only [compileLoop]
  rw [buildLoop_named build ps hnd p hp, buildLoop_named build ps' hnd' p hp']

/-- Compiling the whole file gives, at each position, what compiling that pipeline alone by name
    gives. -/
theorem all_agrees_with_named (build : Option (Pipeline ρ) → Except ε β) (f : Pipeline ρ → β)
    (ps : List (Pipeline ρ)) (hnd : (ps.map (·.name)).Nodup)
    (h : ∀ p ∈ ps, build (some p) = .ok (f p)) (hne : ps ≠ []) :
    compileLoop build ps .all = .ok (ps.map f) ∧
    ∀ p ∈ ps, compileLoop build ps (.named p.name) = .ok [f p] :=
  ⟨one_per_pipeline_in_order build f ps hne h,
   fun p hp => named_selects_exactly build ps hnd p hp (f p) (h p hp)⟩

/-- A name that no pipeline has is a clean error. -/
theorem unknown_name_error (build : Option (Pipeline ρ) → Except ε β) (ps : List (Pipeline ρ))
    (n : String) (h : ∀ p ∈ ps, p.name ≠ n) :
    compileLoop build ps (.named n) = .errUnknown n := by
  simp only [compileLoop]
  rw [buildLoop_skip build n ps h]

/-- A file without pipelines is a clean error unless no-pipeline mode is requested. -/
theorem no_pipeline_error (build : Option (Pipeline ρ) → Except ε β) :
    compileLoop build [] .all = .errNone := rfl

/-- No-pipeline mode returns exactly one result, whatever pipelines the file defines. -/
theorem no_pipeline_mode_single (build : Option (Pipeline ρ) → Except ε β) (ps : List (Pipeline ρ))
    (b : β) (h : build none = .ok b) : compileLoop build ps .noPipeline = .ok [b] := by
  simp [compileLoop, h]

/-- with distinct names, compiling by name is: look the name up, build that pipeline and nothing else -/
theorem compileLoop_named (build : Option (Pipeline ρ) → Except ε β) (ps : List (Pipeline ρ))
    (hnd : (ps.map (·.name)).Nodup) (n : String) :
    compileLoop build ps (.named n) =
      match ps.find? (·.name == n) with
      | none => .errUnknown n
      | some p =>
        match build (some p) with
        | .error e => .buildErr e
        | .ok b => .ok [b] := by
  cases hf : ps.find? (·.name == n) with
  | none => exact unknown_name_error build ps n fun p hp => by simpa using List.find?_eq_none.1 hf p hp
  | some p =>
    obtain rfl : p.name = n := by simpa using List.find?_some hf
    simp only [compileLoop, buildLoop_named build ps hnd p (List.mem_of_find?_eq_some hf)]
    cases build (some p) <;> rfl

/-- With distinct names the "multiple pipelines" panic is unreachable. -/
theorem no_multiple_panic (build : Option (Pipeline ρ) → Except ε β) (ps : List (Pipeline ρ))
    (hnd : (ps.map (·.name)).Nodup) (m : Mode) :
    (match compileLoop build ps m with | .panicMultiple => False | _ => True) := by
  cases m with
  | all =>
    simp only [compileLoop]
    cases buildLoop build (fun _ => true) ps with
    | error e => trivial
    | ok bs => cases bs <;> trivial
  | noPipeline =>
    simp only [compileLoop]
    cases build none <;> trivial
  | named n =>
    rw [compileLoop_named build ps hnd]
    cases ps.find? (·.name == n) with
    | none => trivial
    | some p => simp only; cases build (some p) <;> trivial

example : compileLoop (ε := Unit) (fun p => .ok (p.map (·.payload)))
    [⟨"A", 1⟩, ⟨"B", 2⟩, ⟨"C", 3⟩] (.named "B") = .ok [some 2] := rfl
example : (["A", "B", "C"] : List String).Nodup := by decide


/-! ## The type checker's part: the IR pipeline list is a map over the Pipeline blocks

`Model.PipelineTyper` mirrors `type_check_internal` + `parse_pipeline` + `add_stage`.  The theorems below say that the
pipeline list the type checker hands to `compile()` is obtained definition by definition: element *i* is
`elabCore (registry where block i stands) (block i)`, nothing else of the file enters (in particular no other Pipeline
block, and no table built while an earlier block was processed); that deleting other Pipeline blocks from an accepted
file leaves the file accepted and every remaining element unchanged; and, composed with the selection loop, that the
result for a pipeline compiled by name is the same in both files. -/
namespace Typer
open RsslVerif.Model.PipelineTyper RsslVerif.Gen.PipelineTables

/-- Tie to the source: parse_pipeline / add_stage / parse_blend_state / type_check_internal have the control skeleton
    the model mirrors.  `entryLookupScansLiveRegistry` is the exact text of the loop over
    `context.module.function_registry.iter()` in add_stage: an entry name is resolved against the registry as it is when
    the block is processed, not against a table built earlier. -/
theorem typer_shape_as_modelled :
    typerShape = ⟨true, true, true, true, true, true, true, true, true, true, true, true, true, true, true, true, true,
      true, true, true, true, true, true⟩ := rfl

/-- everything pipelines.rs may reach through the typer context: the context itself (handed on to the expression
    checker), the module (handed to the constant evaluator), the function registry (read only) and the pipeline list -/
def allowedContextUses : List String := [
  "context", "context.module",
  "context.module.function_registry.get_function_implementation()",
  "context.module.function_registry.get_function_name()",
  "context.module.function_registry.get_function_signature()",
  "context.module.function_registry.iter()",
  "context.module.pipelines.iter()",
  "context.module.pipelines.push()"]

/-- Tie to the source: pipelines.rs touches no other part of the type checker's state (a name table cached in the
    context, for example, would be a new entry here and break this obligation). -/
theorem typer_context_uses_covered : contextUses.all (fun u => allowedContextUses.contains u) = true := by decide +kernel

/-- the tables the model is driven by are the ones the Rust `match`es spell out -/
theorem typer_tables_sane :
    (stageProps.map (·.1)).Nodup ∧ (stateProps.map (·.1)).Nodup ∧ (blendSubProps.map (·.1)).Nodup ∧
    stageProps.all (fun p => (stageOfName p.2).isSome) = true := by decide +kernel

theorem registryFrom_deletePipes (keep : String → Bool) (items : List Item) (reg : List FnDecl) :
    registryFrom reg (deletePipes keep items) = registryFrom reg items := by
  unfold registryFrom deletePipes
  rw [List.foldl_filter]
  congr 1
  funext reg it
  cases it <;> simp [stepReg]

/-- The function registry of a file does not depend on its Pipeline blocks. -/
theorem registry_ignores_pipelines (keep : String → Bool) (items : List Item) :
    registryOf (deletePipes keep items) = registryOf items :=
  registryFrom_deletePipes keep items []

/-- every exit of `elabCore` but the last is an error, and the last one assembles the pipeline under the block's name -/
theorem elabCore_name (reg : List FnDecl) (d : PipeDef) (p : IrPipe) (h : elabCore reg d = .ok p) :
    p.name = d.name := by
  unfold elabCore at h
  repeat' split at h
  all_goals cases h
  rfl

/-- an accepted run, item by item: a function is registered, a block with a new name is elaborated where it stands and appended -/
inductive Accepted : TState → List Item → TState → Prop
  | nil (s : TState) : Accepted s [] s
  | func {s s' : TState} {rest : List Item} (f : FnDecl) :
      Accepted ⟨registerFn s.reg f, s.pipes⟩ rest s' → Accepted s (.func f :: rest) s'
  | pipe {s s' : TState} {rest : List Item} {d : PipeDef} {p : IrPipe} :
      s.pipes.any (fun p => p.name == d.name) = false → elabCore s.reg d = .ok p →
      Accepted ⟨s.reg, s.pipes ++ [p]⟩ rest s' → Accepted s (.pipe d :: rest) s'

theorem accepted_iff {items : List Item} {s s' : TState} : typeCheckFrom s items = .ok s' ↔ Accepted s items s' := by
  constructor
  · intro h
    induction items generalizing s with
    | nil => simp only [typeCheckFrom] at h; cases h; exact .nil _
    | cons it rest ih =>
      simp only [typeCheckFrom] at h
      cases it with
      | func f => exact .func f (ih h)
      | pipe d =>
        simp only [step] at h
        cases hd : s.pipes.any (fun p => p.name == d.name) with
        | true => simp [hd] at h
        | false =>
          cases he : elabCore s.reg d with
          | error e => simp [hd, he] at h
          | ok p => exact .pipe hd he (ih (by simpa [hd, he] using h))
  · intro h
    induction h with
    | nil s => rfl
    | func f _ ih => simpa [typeCheckFrom, step] using ih
    | pipe hd he _ ih => simpa [typeCheckFrom, step, hd, he] using ih

theorem Accepted.pipes {items : List Item} {s s' : TState} (h : Accepted s items s') :
    s'.reg = registryFrom s.reg items ∧
    ∃ ps, s'.pipes = s.pipes ++ ps ∧
      (pipeDefsFrom s.reg items).map (fun rd => elabCore rd.1 rd.2) = ps.map Except.ok := by
  induction h with
  | nil s => exact ⟨rfl, [], by simp, rfl⟩
  | func f _ ih => exact ih
  | @pipe s _ _ d p _ he _ ih =>
    obtain ⟨hreg, ps, hps, hm⟩ := ih
    exact ⟨hreg, p :: ps, by simpa using hps, by simp only [pipeDefsFrom, List.map_cons, he]; exact congrArg _ hm⟩

theorem Accepted.names {items : List Item} {s s' : TState} (h : Accepted s items s')
    (hnd : (s.pipes.map (·.name)).Nodup) : (s'.pipes.map (·.name)).Nodup := by
  induction h with
  | nil s => exact hnd
  | func f _ ih => exact ih hnd
  | @pipe s _ _ d p hdup he _ ih =>
    refine ih ?_
    simp only [List.map_append, List.map_cons, List.map_nil]
    rw [List.nodup_append]
    refine ⟨hnd, by simp, ?_⟩
    intro a ha b hb
    simp only [List.mem_cons, List.not_mem_nil, or_false] at hb
    subst hb
    intro e
    have : (s.pipes.any (fun p => p.name == d.name)) = true := by
      obtain ⟨q, hq, hqn⟩ := List.mem_map.1 ha
      exact List.any_eq_true.2 ⟨q, hq, by simp [hqn, e, elabCore_name _ _ _ he]⟩
    rw [hdup] at this
    cases this

theorem deletePipes_func (keep : String → Bool) (f : FnDecl) (rest : List Item) :
    deletePipes keep (.func f :: rest) = .func f :: deletePipes keep rest := by
  simp [deletePipes]

theorem deletePipes_pipe_keep (keep : String → Bool) (d : PipeDef) (rest : List Item) (h : keep d.name = true) :
    deletePipes keep (.pipe d :: rest) = .pipe d :: deletePipes keep rest := by
  simp [deletePipes, h]

theorem deletePipes_pipe_drop (keep : String → Bool) (d : PipeDef) (rest : List Item) (h : keep d.name = false) :
    deletePipes keep (.pipe d :: rest) = deletePipes keep rest := by
  simp [deletePipes, h]

theorem Accepted.deletePipes (keep : String → Bool) {items : List Item} {s s' : TState} (h : Accepted s items s') :
    Accepted ⟨s.reg, s.pipes.filter (fun p => keep p.name)⟩ (deletePipes keep items)
      ⟨s'.reg, s'.pipes.filter (fun p => keep p.name)⟩ := by
  induction h with
  | nil s => exact .nil _
  | func f _ ih => rw [deletePipes_func]; exact .func f ih
  | @pipe s _ rest d p hdup he _ ih =>
    have hn := elabCore_name _ _ _ he
    cases hk : keep d.name with
    | true =>
      rw [deletePipes_pipe_keep keep d rest hk]
      refine .pipe ?_ he (by simpa [List.filter_append, hn, hk] using ih)
      rw [List.any_eq_false] at hdup ⊢
      exact fun q hq => hdup q (List.mem_filter.1 hq).1
    | false =>
      rw [deletePipes_pipe_drop keep d rest hk]
      simpa [List.filter_append, hn, hk] using ih

/-- **The IR pipeline list is a map over the Pipeline blocks**: element *i* of the list the type checker produces is
    `elabCore` of the registry where block *i* stands and of block *i* itself. -/
theorem typeCheck_pipelines_map (items : List Item) (s : TState) (h : typeCheck items = .ok s) :
    s.reg = registryOf items ∧
    (pipeDefs items).map (fun rd => elabCore rd.1 rd.2) = s.pipes.map Except.ok := by
  obtain ⟨hr, ps, hps, hm⟩ := (accepted_iff.1 h).pipes
  refine ⟨hr, ?_⟩
  simp only [List.nil_append] at hps
  rw [hps]; exact hm

/-- An accepted file has pairwise distinct pipeline names (so the selection theorems apply to it). -/
theorem typeCheck_names_nodup (items : List Item) (s : TState) (h : typeCheck items = .ok s) :
    (s.pipes.map (·.name)).Nodup :=
  (accepted_iff.1 h).names (by simp)

/-- **Deleting other Pipeline blocks changes nothing for the ones that stay**: an accepted file stays accepted, its
    function registry is the same, and its IR pipeline list is the old list restricted to the kept names - each kept
    element is literally the same value. -/
theorem typeCheck_delete_others (keep : String → Bool) (items : List Item) (s : TState)
    (h : typeCheck items = .ok s) :
    typeCheck (deletePipes keep items) = .ok ⟨s.reg, s.pipes.filter (fun p => keep p.name)⟩ :=
  accepted_iff.2 ((accepted_iff.1 h).deletePipes keep)

/-- `compile()` = front end, then the selection loop over the IR pipeline list.  `build` stands for `build_pipeline`:
    it sees the module without its pipeline list (here: the function registry) and the selected pipeline. -/
inductive FileOutcome (β ε : Type) where
  | frontErr (pipeline : String) (e : Err)
  | out (o : Outcome β ε)

def toPipeline (p : IrPipe) : Pipeline IrPipe := ⟨p.name, p⟩

def compileFile (build : List FnDecl → Option (Pipeline IrPipe) → Except ε β) (items : List Item) (m : Mode) :
    FileOutcome β ε :=
  match typeCheck items with
  | .error e => .frontErr e.1 e.2
  | .ok s => .out (compileLoop (build s.reg) (s.pipes.map toPipeline) m)

theorem map_toPipeline_names (ps : List IrPipe) :
    (ps.map toPipeline).map (·.name) = ps.map (·.name) := by
  rw [List.map_map]
  rfl

/-- **Independence, front end included**: for an accepted file, compiling pipeline `n` by name gives the same outcome
    whether or not the other Pipeline blocks (any set of them that does not contain `n`) are deleted from the file. -/
theorem independent_of_other_pipelines_file (build : List FnDecl → Option (Pipeline IrPipe) → Except ε β)
    (items : List Item) (s : TState) (h : typeCheck items = .ok s) (keep : String → Bool) (n : String)
    (hk : keep n = true) :
    compileFile build (deletePipes keep items) (.named n) = compileFile build items (.named n) := by
  have hnd := typeCheck_names_nodup items s h
  simp only [compileFile, typeCheck_delete_others keep items s h, h]
  rw [compileLoop_named _ _ (by
      rw [map_toPipeline_names]; exact List.Nodup.sublist (List.Sublist.map _ List.filter_sublist) hnd),
    compileLoop_named _ _ (by rw [map_toPipeline_names]; exact hnd),
    List.find?_map, List.find?_map, List.find?_filter]
  congr 4
  funext p
  by_cases hp : p.name = n <;> simp [toPipeline, hp, hk]

/-- The whole file: one result per Pipeline block, in source order, each computed from the registry where the block
    stands and the block itself (`typeCheck_pipelines_map`) and from nothing else. -/
theorem whole_file_one_result_per_block (build : List FnDecl → Option (Pipeline IrPipe) → Except ε β)
    (f : Pipeline IrPipe → β) (items : List Item) (s : TState) (h : typeCheck items = .ok s) (hne : s.pipes ≠ [])
    (hb : ∀ p ∈ s.pipes, build s.reg (some (toPipeline p)) = .ok (f (toPipeline p))) :
    compileFile build items .all = .out (.ok ((s.pipes.map toPipeline).map f)) ∧
    (pipeDefs items).map (fun rd => elabCore rd.1 rd.2) = s.pipes.map Except.ok := by
  refine ⟨?_, (typeCheck_pipelines_map items s h).2⟩
  simp only [compileFile, h]
  congr 1
  apply one_per_pipeline_in_order
  · intro e; exact hne (List.map_eq_nil_iff.1 e)
  · intro q hq
    obtain ⟨p, hp, rfl⟩ := List.mem_map.1 hq
    exact hb p hp

/-- A front-end rejection does not depend on the selection mode. -/
theorem front_error_independent_of_mode (build : List FnDecl → Option (Pipeline IrPipe) → Except ε β)
    (items : List Item) (n : String) (e : Err) (m m' : Mode) (h : typeCheck items = Except.error (n, e)) :
    compileFile build items m = .frontErr n e ∧ compileFile build items m' = .frontErr n e := by
  simp [compileFile, h]

/-! Non-vacuity: an entry point defined *after* an earlier Pipeline block is found (the lookup scans the live registry);
    an entry point defined after its own block is not; deleting a block keeps the other element. -/
def fnCs (n : String) : FnDecl := { name := n, shape := "c", isTemplate := false, hasBody := true, threads := some (8, 1, 1) }
def blockCs (p f : String) : PipeDef := { name := p, props := [("ComputeShader", .single (.ident f))] }

example : (typeCheck [.func (fnCs "a"), .pipe (blockCs "P0" "a"), .func (fnCs "b"), .pipe (blockCs "P1" "b")]).toOption.map
    (fun s => s.pipes.map (fun p => (p.name, p.stages.map (·.entryName)))) = some [("P0", ["a"]), ("P1", ["b"])] := by
  decide +kernel
example : (typeCheck [.pipe (blockCs "P0" "a"), .func (fnCs "a")]).toOption.isNone = true := by decide +kernel
example : (typeCheck (deletePipes (· == "P1")
    [.func (fnCs "a"), .pipe (blockCs "P0" "a"), .func (fnCs "b"), .pipe (blockCs "P1" "b")])).toOption.map
    (fun s => s.pipes.map (·.name)) = some ["P1"] := by decide +kernel


/-! ## what a block sees of the registry: the entry functions it names, with the attributes of their definitions -/

theorem mem_annotateFrom {k : Nat} {props : List (String × Val)} {p : Nat} {n : String} {v : Val}
    (h : (p, n, v) ∈ annotateFrom k props) : (n, v) ∈ props := by
  induction props generalizing k with
  | nil => simp [annotateFrom] at h
  | cons x xs ih =>
    simp only [annotateFrom, List.mem_cons] at h
    rcases h with h | h
    · have h1 : n = x.1 := by simpa using congrArg (fun t => t.2.1) h
      have h2 : v = x.2 := by simpa using congrArg (fun t => t.2.2) h
      exact List.mem_cons.2 (Or.inl (by rw [h1, h2]))
    · exact List.mem_cons_of_mem _ (ih h)

theorem entryPass_congr (reg reg' : List FnDecl) (l : List (Nat × String × Val))
    (h : ∀ p n name, (p, n, Val.single (.ident name)) ∈ l → lookupEntry reg name = lookupEntry reg' name) :
    entryPass reg l = entryPass reg' l := by
  induction l with
  | nil => rfl
  | cons x xs ih =>
    obtain ⟨p, n, v⟩ := x
    have ih' := ih (fun p n name hm => h p n name (List.mem_cons_of_mem _ hm))
    have ha : ∀ st, addStage reg st v p = addStage reg' st v p := by
      intro st
      cases v with
      | agg ps => rfl
      | single sc =>
        cases sc with
        | ident name => simp only [addStage, h p n name (List.mem_cons_self ..)]
        | _ => rfl
    simp only [entryPass, ha, ih']

/-- **A block depends on the registry only through the entry functions it names.**  Two registries that answer the entry
    lookup alike for every identifier the block uses as a property value give the same IR pipeline or the same
    diagnostic.  In particular a function whose `numthreads` attribute does not evaluate (`badThreads`), a prototype, a
    template or an overload elsewhere in the file is invisible to every block that does not name it - and the
    location-less `state requires an integer argument` arises exactly in the blocks that do. -/
theorem elabCore_depends_on_named_entries (reg reg' : List FnDecl) (d : PipeDef)
    (h : ∀ n name, (n, Val.single (.ident name)) ∈ d.props → lookupEntry reg name = lookupEntry reg' name) :
    elabCore reg d = elabCore reg' d := by
  have he : entryPass reg (annotate d.props) = entryPass reg' (annotate d.props) :=
    entryPass_congr reg reg' _ (fun p n name hm => h n name (mem_annotateFrom hm))
  simp only [elabCore, he]

/-- **The thread-group size is the one written on the definition.**  A prototype registered first gives the entry no
    attributes: after the definition the registry entry has the definition's `numthreads` (none if the definition has
    none, whatever the prototype said); a prototype repeated *after* the definition changes nothing. -/
theorem attributes_from_definition (reg : List FnDecl) (p d : FnDecl) (hnew : reg.any (sameFn p) = false)
    (hs : sameFn d p = true) (hp : p.hasBody = false) (hd : d.hasBody = true) :
    registerFn (registerFn reg p) d =
      reg ++ [{ p with hasBody := true, threads := d.threads, badThreads := d.badThreads }] ∧
    registerFn (registerFn reg d) p = registerFn reg d := by
  have hs' : sameFn p d = true := by
    simp only [sameFn, Bool.and_eq_true, beq_iff_eq] at hs ⊢
    exact ⟨hs.1.symm, hs.2.symm⟩
  have hnew' : reg.any (sameFn d) = false := by
    rw [List.any_eq_false] at hnew ⊢
    intro x hx hdx
    apply hnew x hx
    simp only [sameFn, Bool.and_eq_true, beq_iff_eq] at hs hdx ⊢
    exact ⟨hs.1 ▸ hdx.1, hs.2 ▸ hdx.2⟩
  have hmap : ∀ (f : FnDecl) (b : Bool), reg.any (sameFn f) = false →
      reg.map (fun g => if (sameFn f g && b) = true then { g with hasBody := true, threads := f.threads, badThreads := f.badThreads } else g) = reg := by
    intro f b hf
    rw [List.any_eq_false] at hf
    conv => rhs; rw [← List.map_id reg]
    apply List.map_congr_left
    intro g hg
    have : sameFn f g = false := by simpa using hf g hg
    simp [this]
  constructor
  · simp only [registerFn, hnew, Bool.false_eq_true, if_false, List.any_append, List.any_cons, List.any_nil, hs,
      Bool.or_true, Bool.or_false, if_true, List.map_append, List.map_cons, List.map_nil, hd, Bool.and_true]
    rw [show (reg.map fun g => if sameFn d g = true then { g with hasBody := true, threads := d.threads, badThreads := d.badThreads } else g) = reg from by
      simpa using hmap d true hnew']
  · simp only [registerFn, hnew', Bool.false_eq_true, if_false, List.any_append, List.any_cons, List.any_nil, hs',
      Bool.or_true, Bool.or_false, if_true, hp, Bool.and_false, List.map_append, List.map_cons, List.map_nil]
    simp

/-- a compute entry whose `numthreads` does not evaluate -/
def fnBad (n : String) : FnDecl :=
  { name := n, shape := "c", isTemplate := false, hasBody := true, threads := none, badThreads := true }

/-! Non-vacuity: the block that names the function with the unevaluable `numthreads` is rejected without a location,
    a block that does not is unaffected (same IR element with the bad function's block deleted); prototype `[2,1,1]` +
    definition `[4,1,1]` gives 4,1,1; prototype with, definition without the attribute gives none. -/
example : (match typeCheck [.func (fnCs "a"), .func (fnBad "b"), .pipe (blockCs "P0" "a"), .pipe (blockCs "P1" "b")] with
    | .error (n, e) => some (n, e.kind, e.path) | .ok _ => none) = some ("P1", .threadsNotInteger, 0) := by decide +kernel
example : (typeCheck [.func (fnCs "a"), .func (fnBad "b"), .pipe (blockCs "P0" "a")]).toOption.map
    (fun s => s.pipes.map (fun p => p.stages.map (·.tgs))) = some [[some (8, 1, 1)]] := by decide +kernel
example : (typeCheck [.func { fnCs "a" with hasBody := false, threads := some (2, 1, 1) },
      .func { fnCs "a" with threads := some (4, 1, 1) }, .pipe (blockCs "P0" "a")]).toOption.map
    (fun s => s.pipes.map (fun p => p.stages.map (·.tgs))) = some [[some (4, 1, 1)]] := by decide +kernel
example : (typeCheck [.func { fnCs "a" with hasBody := false, threads := some (2, 1, 1) },
      .func { fnCs "a" with threads := none }, .func { fnCs "a" with hasBody := false, threads := some (2, 1, 1) },
      .pipe (blockCs "P0" "a")]).toOption.map
    (fun s => s.pipes.map (fun p => p.stages.map (·.tgs))) = some [[none]] := by decide +kernel


/-! ## the module a pipeline is built from: declared functions **and** what the blocks' property values instantiate -/

/-- `compile()` with a build function that sees the whole module: the function registry of the declarations and the
    template instantiations left behind by the property values of the file's Pipeline blocks -/
def compileFileM (build : List FnDecl × List String → Option (Pipeline IrPipe) → Except ε β) (items : List Item) (m : Mode) :
    FileOutcome β ε :=
  compileFile (fun reg => build (reg, instancesOf items)) items m

theorem instancesOf_deletePipes (keep : String → Bool) (items : List Item)
    (h : ∀ d, Item.pipe d ∈ items → keep d.name = false → instantiatedBy d = []) :
    instancesOf (deletePipes keep items) = instancesOf items := by
  induction items with
  | nil => rfl
  | cons it rest ih =>
    have ih' := ih (fun d hd => h d (List.mem_cons_of_mem _ hd))
    cases it with
    | func f => rw [deletePipes_func]; simp only [instancesOf, ih']
    | pipe d =>
      cases hk : keep d.name with
      | true => rw [deletePipes_pipe_keep _ _ _ hk]; simp only [instancesOf, ih']
      | false =>
        rw [deletePipes_pipe_drop _ _ _ hk]
        simp only [instancesOf, ih', h d (List.mem_cons_self ..) hk, List.nil_append]

/-- **Independence with the whole module in view — the part that holds** (`_partial`: it needs the hypothesis that the
    deleted blocks have no property value that instantiates a function template; without it the statement is false on
    the real compiler, see `module_depends_on_instantiating_block`).  For an accepted file, compiling pipeline `n` by
    name gives the same outcome with or without the other blocks, for any build function of (function registry,
    instantiations, selected pipeline). -/
theorem independent_of_other_pipelines_module_partial
    (build : List FnDecl × List String → Option (Pipeline IrPipe) → Except ε β)
    (items : List Item) (s : TState) (h : typeCheck items = .ok s) (keep : String → Bool) (n : String)
    (hk : keep n = true)
    (hinst : ∀ d, Item.pipe d ∈ items → keep d.name = false → instantiatedBy d = []) :
    compileFileM build (deletePipes keep items) (.named n) = compileFileM build items (.named n) := by
  unfold compileFileM
  rw [instancesOf_deletePipes keep items hinst]
  exact independent_of_other_pipelines_file _ items s h keep n hk

/-- the reduced defect program (corpus/C17.txt): `P0` carries `DefaultBindGroup = sizeof(wide_tf<uint>(1u))` -/
def instWitness : List Item :=
  [.func { name := "wide_tf", shape := "z", isTemplate := true, hasBody := true, threads := none },
   .func (fnCs "cs_0"), .func (fnCs "cs_1"),
   .pipe { name := "P0", props := [("ComputeShader", .single (.ident "cs_0")), ("DefaultBindGroup", .single (.sizeofInst "wide_tf"))] },
   .pipe (blockCs "P1" "cs_1")]

/-- a build function that returns the instantiations it finds in the module (the emitted source contains them) -/
def buildShowsInstances : List FnDecl × List String → Option (Pipeline IrPipe) → Except Unit (List String) :=
  fun m _ => .ok m.2

/-- **Negation, with a concrete witness** (replayed on the real compiler by the corpus; known finding
    `property-value-instantiates-template`): the file is accepted (`P0` gets default bind group 4), block `P1` has no
    instantiating value, and yet pipeline `P1` compiled by name is built from a module that contains the instantiation
    `wide_tf<uint>` when block `P0` is in the file and from one that does not when `P0` is deleted - so the returned
    source of `P1` depends on whether another pipeline is defined. -/
theorem module_depends_on_instantiating_block :
    (typeCheck instWitness).toOption.map (fun s => s.pipes.map (fun p => (p.name, p.group))) = some [("P0", 4), ("P1", 0)] ∧
    instantiatedBy (blockCs "P1" "cs_1") = [] ∧
    (match compileFileM buildShowsInstances instWitness (.named "P1") with
      | .out (.ok [x]) => some x | _ => none) = some ["wide_tf"] ∧
    (match compileFileM buildShowsInstances (deletePipes (· == "P1") instWitness) (.named "P1") with
      | .out (.ok [x]) => some x | _ => none) = some [] := by
  decide +kernel


/-! ## the reported HLSL entry name (composition with C15's model of the name map) -/

open RsslVerif.Model RsslVerif.Model.PipelineNames in
/-- **The reported entry name does not depend on the Pipeline blocks.**  The HLSL stage report carries the leaf name the
    whole-module name map gives the entry function (`f_k` when the file has another symbol called `f` in that namespace,
    before or after the block).  That name is a function of the function registry and of the other named symbols only,
    and the registry of a file is the same with any set of Pipeline blocks deleted: compiling a pipeline alone reports
    the same entry name as compiling it as part of the whole file. -/
theorem reported_entry_name_ignores_pipelines (reserved : List String) (o : Others) (keep : String → Bool)
    (items : List Item) (i : Nat) :
    entryName reserved o (registryOf (deletePipes keep items)) i = entryName reserved o (registryOf items) i := by
  rw [registry_ignores_pipelines]

open RsslVerif.Model RsslVerif.Model.PipelineNames in
/-- **Reported entry names are unambiguous.**  Two different registry entries that the name map places in the same
    namespace are never reported under the same name - whatever the source names are (overloads, a method and a free
    function, a function that already has the name `f_0`, reserved words): the stages of one pipeline, and the same
    stage of two pipelines, name different emitted functions iff their entry functions differ (C15
    `injective_per_scope` applied to the whole-module map). -/
theorem reported_entry_names_distinct {reserved : List String} {o : Others} {reg : List FnDecl} {i j : Nat}
    {names : List Names.Named} (hb : Names.build reserved (nameInput o reg) = .ok names) {n₁ n₂ : String}
    (h₁ : entryName reserved o reg i = .ok n₁) (h₂ : entryName reserved o reg j = .ok n₂) (hij : i ≠ j)
    (hs : (Names.lookup names ⟨.func, i⟩).map (·.scope) = (Names.lookup names ⟨.func, j⟩).map (·.scope)) :
    n₁ ≠ n₂ := by
  unfold entryName at h₁ h₂
  rw [hb] at h₁ h₂
  cases ha : Names.lookup names ⟨.func, i⟩ with
  | none => simp [ha] at h₁
  | some a =>
    cases hb' : Names.lookup names ⟨.func, j⟩ with
    | none => simp [hb'] at h₂
    | some b =>
      simp only [ha, Except.ok.injEq] at h₁
      simp only [hb', Except.ok.injEq] at h₂
      subst h₁; subst h₂
      have ham := RsslVerif.Lemmas.Names.mem_of_lookup ha
      have hbm := RsslVerif.Lemmas.Names.mem_of_lookup hb'
      apply RsslVerif.Thm.C15.injective_per_scope hb a ham.1 b hbm.1
      · rw [ham.2]; intro h; cases h
      · rw [hbm.2]; intro h; cases h
      · simpa [ha, hb'] using hs
      · rw [ham.2, hbm.2]; intro e; apply hij; cases e; rfl

/-- the non-function symbols of the reduced seed-1 soak program -/
def soakOthers : RsslVerif.Model.PipelineNames.Others := ⟨[], [(none, "CbS"), (none, "S_ms_0")], [(none, "g_r0")]⟩

/-- a defined, non-template function of the given name and shape -/
def fn (n sh : String) : FnDecl := { name := n, shape := sh, isTemplate := false, hasBody := true, threads := none }

open RsslVerif.Model RsslVerif.Model.PipelineNames in
/-- non-vacuity, and the program of the seed-1 soak: a method `ms_0` (mesh entry, registry index 2) and a helper
    `void ms_0()` defined after the Pipeline block are one group of the root namespace - the entry is reported as
    `ms_0_0`, the helper is `ms_0_1`; with `ms_0_0` already taken by a function of its own the entry becomes `ms_0_1`;
    a same-named function inside `ns1` is another scope and renames nothing. -/
example :
    (entryName ["abs"] soakOthers [fn "helper0" "h", fn "ps_1" "p", fn "ms_0" "hM", fn "ms_0" "h"] 2).toOption = some "ms_0_0" ∧
    (entryName ["abs"] soakOthers [fn "helper0" "h", fn "ps_1" "p", fn "ms_0" "hM", fn "ms_0" "h"] 3).toOption = some "ms_0_1" ∧
    (entryName ["abs"] soakOthers [fn "ms_0_0" "h", fn "ps_1" "p", fn "ms_0" "m", fn "ms_0" "h"] 2).toOption = some "ms_0_1" ∧
    (entryName ["abs"] ⟨[(none, "ns1")], [], []⟩ [fn "ms_0" "m", fn "ms_0" "hN"] 0).toOption = some "ms_0" ∧
    (entryName ["abs"] soakOthers [fn "abs" "c"] 0).toOption = some "abs_0" := by
  refine ⟨?_, ?_, ?_, ?_, ?_⟩ <;> decide +kernel

end Typer

end RsslVerif.Thm.C17
