import RsslVerif.Lemmas.GenMslVecAssign
import RsslVerif.Thm.C02Sem
/-!
# C02, vector layer — the Metal exporter preserves the meaning of vector expressions

Theorems about `Model.GenMslVec` (the Cast / Swizzle / Constructor / vector-type-name arms and the component-wise operators
of `msl/src/generator.rs`), over C01's vector layer (`Model.IrVec`, `Spec.SemVec`: the typed semantics `VIr.eval`, unchanged)
and the Metal reading `Spec.SemMslVec.VMsl`.  Scalar leaves are discharged by the scalar half (`Thm.C02Sem.gen_sem_expr`).
-/
namespace RsslVerif.Thm.C02Vec
open RsslVerif.Gen.HlslGenTables RsslVerif.Gen.HlslVecTables RsslVerif.Gen.MslGenTables RsslVerif.Gen.MslVecTables
open RsslVerif.Model RsslVerif.Model.IrVec RsslVerif.Model.GenMsl RsslVerif.Model.GenMslVec
open RsslVerif.Spec.Sem RsslVerif.Spec.SemVec RsslVerif.Spec.SemMslVec RsslVerif.Lemmas.GenMsl RsslVerif.Lemmas.GenMslVec
open RsslVerif.Model.Ir (Ty Var Const Dir)

/-- the textual shape of the arms `Model.GenMslVec` mirrors is the one in the source (facts re-extracted on every run:
an edit of the Swizzle / Constructor / Cast arm, of `try_implicit_truncate`, of the Vector / Matrix arms of
`generate_type_impl`, of the `Mul` / `Transpose` arms or of the rejection of matrix subscripts and matrix swizzles makes a
fact `false` and this theorem stops checking) -/
theorem msl_exporter_vec_shape_as_modelled :
    mslSwizzleArmAsModelled = true ∧ mslConstructorArmAsModelled = true ∧ mslCastHeadAsModelled = true ∧
    mslCastTruncatesThenCasts = true ∧ vectorTypeNameAppendsDimUnlessOne = true ∧ matrixTypeNameSwapsDims = true ∧
    mulIsMultiplyInOrder = true ∧ transposeIsTranspose = true ∧ matrixSwizzleRejected = true ∧ matrixSubscriptRejected = true ∧
    truncateToScalar = "x" ∧ truncateToVec2 = "xy" ∧ truncateToVec3 = "xyz" := by
  decide

/-- the letter the exporter writes for a swizzle slot is read by Metal as that component; a swizzle's member name parses
back to its slots -/
theorem msl_swizzle_letters_are_identity :
    (∀ s, VAst.charIdx (mslSwizzleChar s) = some (slotIdx s)) ∧
    (∀ sl, VAst.parseSwizzle (GenMslVec.swizzleName sl) = some (sl.map slotIdx)) :=
  ⟨fun s => by cases s <;> rfl, parse_mslSwizzleName⟩

/-- a type Metal can name (basic kind, 2–4 components) is named by the name Metal reads back as that very type -/
theorem msl_vector_type_names_roundtrip (ty : VTy) (n : String) (h : GenMslVec.vtypeName ty = .ok n) (hok : VOk.tyOKM ty = true) :
    VMsl.vtyOfName n = some ty := vtypeName_vtyOfName h hok

/-- a one-component vector type is emitted under the scalar's name: `float1` does not exist in Metal (outside the layer) -/
theorem vec1_is_named_as_scalar : GenMslVec.vtypeName (.vec .float 1) = .ok "float" ∧ VMsl.vtyOfName "float" = some (.sc .float) :=
  ⟨rfl, by decide⟩

/-- **shape soundness** of the typed semantics: what the static decisions of the Metal reading rely on -/
theorem vec_shape_sound {W : World} {ρ : VStore} {vty : Var → Ty} {vvty : Var → VTy} (hρ : ∀ x, VOk.shaped (vvty x) (ρ x) = true)
    (e : VExpr) (t : VTy) (σ σ1 : Store) (v : VVal)
    (ht : VIr.typeOf W.sig vty vvty e = some t) (hv : VIr.eval W ρ e σ = some (v, σ1)) : VOk.shaped t v = true :=
  shape_sound hρ e t σ σ1 v ht hv

/-- **vector expressions**: the expression the Metal exporter emits is well typed under Metal's rules — *with the IR's type*,
so no implicit conversion is ever needed around it — and evaluates to exactly the IR's value and scalar store, from every
store, for every interpretation of the primitives and every (well-shaped) value of the vector variables.
Covered: casts scalar ↔ vector ↔ vector with the truncating swizzles `.x` / `.xy` / `.xyz` Metal needs, swizzles of vectors
(members) and of scalars (the operand itself / the constructor `T_n(s)`), constructors with any slots, component-wise unary /
binary operators incl. comparisons, shifts and `%` (on floats: `metal::fmod`), `&&` `||` `?:` with scalar conditions, vector
variables, scalar leaves (through `gen_sem_expr`). -/
theorem gen_sem_msl_vec_expr {W : World} {M : Msl.MWorld} {env : VAst.VEnv} {cx : Ctx} {vvty : Var → VTy} {vis : Var → Bool}
    {rsv : Nat → List Var} (hag : VAgreeM cx vis env vvty) (hw : Worlds cx rsv W M)
    (e : VExpr) (a : VAExpr) (t : VTy)
    (hg : genMV cx vvty e = .ok a) (ht : VIr.typeOf W.sig cx.vty vvty e = some t)
    (hok : VOk.okMV (side cx W vis rsv) vvty e = true) :
    VMsl.typeOf M.msig env a = some t ∧
      ∀ (ρ : VStore), (∀ x, VOk.shaped (vvty x) (ρ x) = true) → ∀ σ, VMsl.eval M env ρ a σ = VIr.eval W ρ e σ := by
  refine ⟨?_, fun ρ hρ σ => (sim_mv hag hw hρ e a t hg ht hok).2 σ⟩
  -- the static type does not depend on the vector store
  exact (sim_mv (ρ := fun x => match vvty x with | .sc _ => .sc .void | .vec _ n => .vec (List.replicate n .void)) hag hw
    (by intro x; cases h : vvty x <;> simp [VOk.shaped]) e a t hg ht hok).1

/-- a cast to a *vector of a literal type* cannot be exported: `generate_type` reaches
`generate_scalar_type(IntLiteral / FloatLiteral)` and panics — the drop-the-cast rule only looks at scalar targets.  The arm
is in the source, but the type checker (fixes 40c6233 for binary operations, c05bffa for the arms of `?:`) does not build
such a cast (see `msl_vector_op_literal_in_concrete_type`; the reproducers of the two known findings stay in the corpus). -/
theorem literal_vector_cast_panics_msl (cx : Ctx) (vvty : Var → VTy) (n : Nat) (id : Nat) :
    (∃ s, genMV cx vvty (.cast (.vec .lit n) (.vvar id)) = .error (.panic s)) ∧
    (∃ s, genMV cx vvty (.cast (.vec .flit n) (.vvar id)) = .error (.panic s)) := by
  exact ⟨⟨_, rfl⟩, ⟨_, rfl⟩⟩

/-- **statement-level vector assignment** `v = E;`, `v.xz = E;`, `v op= E;`, `v.yx op= E;` (vector local / static in scope, a
swizzle with distinct components of a variable of vector type; ALL assignment operators, `%=` on floating-point places included — fixes 92d66eb + 35faaaa):
whatever the exporter emits for the assignment (`hg`) is accepted by Metal's rules (implicit conversion of the right
operand: the identity here, distinct swizzle components) and leaves the same value, scalar store and vector store as the
typed assignment.  The emitted statement is `l op r` with the operator of the table, except for `%=` on a floating-point
place: there it is `l = metal::fmod(l, r)` — the exporter's own guard (`is_plain_place(l)`, `is_free_of_writes(r)`: else
`ComplexRemainderAssignment`, no output) holds whenever there is an output. -/
theorem gen_sem_msl_vec_assign {W : World} {M : Msl.MWorld} {env : VAst.VEnv} {cx : Ctx} {vvty : Var → VTy} {vis : Var → Bool}
    {rsv : Nat → List Var} (hag : VAgreeM cx vis env vvty) (hw : Worlds cx rsv W M)
    {o : IntrinsicOp} {lhs rhs : VExpr} {lhs' rhs' a : VAExpr} {T : VTy}
    (hgl : genMV cx vvty lhs = .ok lhs') (hgr : genMV cx vvty rhs = .ok rhs')
    (hg : genMV cx vvty (.op o (.cons lhs (.cons rhs .nil))) = .ok a)
    (hok : VIr.assignOK W.sig cx.vty vvty lhs rhs = some T) (hpl : placeOKM vis vvty lhs = true)
    (hol : VOk.okMV (side cx W vis rsv) vvty lhs = true) (hor : VOk.okMV (side cx W vis rsv) vvty rhs = true)
    (hsem : irOpSem o = .assign ∨ ∃ m, irOpSem o = .compound m ∧ binSide m T) :
    ((irOpSem o = .compound .mod ∧ T.scalar = .float ∧ plainPlaceV lhs = true ∧ freeOfWritesV rhs = true ∧
        a = .bin .Assignment lhs' (.call Msl.fmodName (.cons lhs' (.cons rhs' .nil)))) ∨
      (¬ (irOpSem o = .compound .mod ∧ T.scalar = .float) ∧ ∃ b, astBinSem b = irOpSem o ∧ a = .bin b lhs' rhs')) ∧
    ∀ ρ, (∀ y, VOk.shaped (vvty y) (ρ y) = true) → ∀ σ,
      VMsl.evalTop M env ρ a σ = VIr.evalTop W ρ (.op o (.cons lhs (.cons rhs .nil))) σ := by
  obtain ⟨x, sl, hp, htl, htr⟩ := assignOK_inv hok
  have hshape := genMV_assign_shape hw hgl hgr hg htl
    (by rcases hsem with h | ⟨m, h, _⟩; exact .inl h; exact .inr ⟨m, h⟩)
  refine ⟨hshape, fun ρ hρ σ => ?_⟩
  have hL := sim_mv hag hw hρ lhs lhs' T hgl htl hol
  have hR := sim_mv hag hw hρ rhs rhs' T hgr htr hor
  rcases hshape with ⟨hc, hfl, _, _, rfl⟩ | ⟨hn, b, hbs, rfl⟩
  · -- `l = fmod(l, r)` is the export of `l = l % r`, which on a vector place is `l %= r`
    have hll : lhs.litlike = false := by cases lhs <;> simp [VIr.placeOf, VExpr.litlike] at hp ⊢
    have ht : VIr.typeOf W.sig cx.vty vvty (.op .Modulus (.cons lhs (.cons rhs .nil))) = some T := by
      simp [VIr.typeOf, irOpSem, htl, htr, hll, MBin.isCmp]
    rw [← evalTop_remAssign hc (oa := .Assignment) rfl (om := .Modulus) rfl hp]
    exact sim_massign hag hw hρ rfl hgl hp hpl htl ht hL (sim_mfmod hw.prim rfl hfl hL htl hR ht) (.inl rfl) σ
  · refine sim_massign hag hw hρ hbs hgl hp hpl htl htr hL hR ?_ σ
    rcases hsem with h | ⟨m, h, hside⟩
    · exact .inl h
    · exact .inr ⟨m, h, hside, fun hm hfl => hn ⟨by rw [h, hm], hfl⟩⟩

/-! ## matrices: orientation -/

theorem column_get {α : Type} (j : Nat) : ∀ (rows : List (List α)) (i : Nat) (r : List α),
    rows[i]? = some r → (∀ r' ∈ rows, j < r'.length) → (Mat.column rows j)[i]? = r[j]?
  | [], i, r, h, _ => by simp at h
  | r0 :: rs, i, r, h, hl => by
    have h0 : j < r0.length := hl r0 (List.mem_cons_self)
    have hget : r0[j]? = some r0[j] := List.getElem?_eq_getElem h0
    cases i with
    | zero => simp at h; subst h; simp [Mat.column, hget]
    | succ i =>
      simp at h
      simp only [Mat.column, List.filterMap_cons, hget, List.getElem?_cons_succ]
      exact column_get j rs i r h (fun r' hr' => hl r' (List.mem_cons_of_mem _ hr'))

/-- over columns whose `i`-th entries are `rs`, the running sums of Metal's product are those of the dot product with `rs`
(both loops stop at the shorter list: no lengths are asked for) -/
theorem mul_go {α : Type} (add mul : α → α → α) (i : Nat) : ∀ (cols : List (List α)) (rs vs : List α) (acc : α),
    cols.map (·[i]?) = rs.map some →
    Mat.mulColsVecAt.go add mul i acc cols vs = some (Mat.dot.go add mul acc rs vs)
  | [], [], _, _, _ => by simp [Mat.mulColsVecAt.go, Mat.dot.go]
  | _ :: _, _ :: _, [], _, _ => by simp [Mat.mulColsVecAt.go, Mat.dot.go]
  | c :: cs, x :: xs, w :: ws, acc, h => by
    simp only [List.map_cons, List.cons.injEq] at h
    simp only [Mat.mulColsVecAt.go, Mat.dot.go, h.1]
    exact mul_go add mul i cs xs ws _ h.2
  | [], _ :: _, _, _, h => by simp at h
  | _ :: _, [], _, _, h => by simp at h

theorem mul_at {α : Type} (add mul : α → α → α) (i : Nat) : ∀ (cols : List (List α)) (r v : List α),
    cols.map (·[i]?) = r.map some → Mat.mulColsVecAt add mul cols v i = Mat.dot add mul r v
  | [], [], _, _ => by simp [Mat.mulColsVecAt, Mat.dot]
  | _ :: _, _ :: _, [], _ => by simp [Mat.mulColsVecAt, Mat.dot]
  | c :: cs, x :: xs, w :: ws, h => by
    simp only [List.map_cons, List.cons.injEq] at h
    simp only [Mat.mulColsVecAt, Mat.dot, h.1]
    exact mul_go add mul i cs xs ws _ h.2
  | [], _ :: _, _, h => by simp at h
  | _ :: _, [], _, h => by simp at h

/-- **matrix orientation**: the Metal object the exporter's type correspondence assigns to an RSSL matrix (`toMetal`: the
same logical matrix, stored by columns) multiplies a vector — Metal's `M * v`, a linear combination of the columns — to
exactly RSSL's `mul(M, v)` (the dot products of the rows with `v`), component by component, for every `add` / `mul`:
this is why `Mul => left * right` is right *given* that matrices are built and read through the logical correspondence. -/
theorem mulMV_toMetal {α : Type} (add mul : α → α → α) (rows : List (List α)) (v : List α) (i : Nat) (r : List α)
    (hr : rows[i]? = some r) (hlen : ∀ r' ∈ rows, r'.length = v.length) :
    Mat.mulColsVecAt add mul (Mat.toMetal v.length rows) v i = Mat.dot add mul r v := by
  have hrl : r.length = v.length := hlen r (List.mem_of_getElem? hr)
  -- entry `i` of column `j` is entry `j` of row `i`
  refine mul_at add mul i _ r v (List.ext_getElem? fun j => ?_)
  simp only [Mat.toMetal, List.getElem?_map]
  by_cases hj : j < v.length
  · rw [List.getElem?_range hj, Option.map_some, Option.map_some,
      column_get j rows i r hr (fun r' hr' => by rw [hlen r' hr']; exact hj), List.getElem?_eq_getElem (hrl ▸ hj)]
    rfl
  · rw [List.getElem?_eq_none (by simpa using hj), List.getElem?_eq_none (by omega)]
    rfl

/-- **negation witness** (known finding *metal-matrix-constructor-is-column-major*): the Constructor arm keeps the argument
order; Metal's constructor from scalars fills columns, RSSL's fills rows: `float2x2(1, 2, 3, 4)` denotes `[[1, 2], [3, 4]]`
in RSSL, and the emitted `metal::float2x2(1, 2, 3, 4)` is the Metal object of `[[1, 3], [2, 4]]` — the transposed matrix;
`mul` with `(1, 0)` gives `(1, 3)` in RSSL and `(1, 2)` in the emitted Metal. -/
theorem ctor_from_scalars_transposes :
    Mat.metalFromScalars 2 2 [1, 2, 3, 4] ≠ Mat.toMetal 2 (Mat.rsslFromScalars 2 2 [1, 2, 3, 4]) ∧
    Mat.metalFromScalars 2 2 [1, 2, 3, 4] = Mat.toMetal 2 [[1, 3], [2, 4]] ∧
    Mat.mulRowsVec (· + ·) (· * ·) (Mat.rsslFromScalars 2 2 [1, 2, 3, 4]) [1, 0] = some [1, 3] ∧
    [0, 1].map (Mat.mulColsVecAt (· + ·) (· * ·) (Mat.metalFromScalars 2 2 [1, 2, 3, 4]) [1, 0]) = [some 1, some 2] := by
  decide

/-- …and the correspondence is the right one for the same numbers: on the corresponding object Metal's product is RSSL's -/
example : [0, 1].map (Mat.mulColsVecAt (· + ·) (· * ·) (Mat.toMetal 2 (Mat.rsslFromScalars 2 2 [1, 2, 3, 4])) [1, 0]) = [some 1, some 3] := by
  decide

/-- Metal's `m[i]` is column `i`; RSSL's is row `i` (the exporter rejects matrix subscripts: `matrixSubscriptRejected`) -/
theorem metal_subscript_is_a_column :
    (Mat.toMetal 2 [[1, 2], [3, 4]])[0]? = some [1, 3] ∧ ([[1, 2], [3, 4]] : List (List Nat))[0]? = some [1, 2] := by decide

/-! ## non-vacuity -/

/-- vector variables `l…` of type `int3` next to the scalar `int` ones of `Thm.C02Sem.cxW` -/
def vvtyEx : Var → VTy := fun _ => .vec .int 3

def envV : VAst.VEnv := { base := C02Sem.envW, vres := C02Sem.envW.res, vvty := vvtyEx }

/-- the scalar environment of `Thm.C02Sem` with vector variables of any types `v` beside it -/
theorem agree (v : Var → VTy) :
    VAgreeM C02Sem.cxW (fun _ => true) { base := C02Sem.envW, vres := C02Sem.envW.res, vvty := v } v where
  base := C02Sem.agreeW
  vres x _ := C02Sem.agreeW.res x rfl
  vvty := rfl

/-- `(int2)((v1 + (int3)s0.xxx).zyx) << (int2)s0` with `v1 : int3`, `s0 : int` -/
def vExM : VExpr :=
  .op .LeftShift (.cons
    (.cast (.vec .int 2) (.swz (.op .Add (.cons (.vvar 1) (.cons (.cast (.vec .int 3) (.swz (.sc (.var 0)) [.X, .X, .X])) .nil))) [.Z, .Y, .X]))
    (.cons (.cast (.vec .int 2) (.sc (.var 0))) .nil))

/-- the exporter's output for it: the scalar swizzle became a constructor, the narrowing cast got its `.xy` -/
example : genMV C02Sem.cxW vvtyEx vExM = .ok
    (.bin .LeftShift
      (.cast "int2" (.member (.member (.bin .Add (.ident "ll") (.cast "int3" (.call "int3" (.cons (.sc (.ident "l")) .nil)))) "zyx") "xy"))
      (.cast "int2" (.sc (.ident "l")))) := rfl

example : VIr.typeOf C02Sem.W2.sig C02Sem.cxW.vty vvtyEx vExM = some (.vec .int 2) := by decide
example : VOk.okMV (side C02Sem.cxW C02Sem.W2 (fun _ => true) (fun _ => [])) vvtyEx vExM = true := by decide

/-- `gen_sem_msl_vec_expr` instantiated on it, in the linked worlds of `Thm.C02Sem.worlds2` -/
example : ∃ a, genMV C02Sem.cxW vvtyEx vExM = .ok a ∧ VMsl.typeOf C02Sem.M2.msig envV a = some (.vec .int 2) ∧
    ∀ ρ, (∀ x, VOk.shaped (vvtyEx x) (ρ x) = true) → ∀ σ, VMsl.eval C02Sem.M2 envV ρ a σ = VIr.eval C02Sem.W2 ρ vExM σ := by
  refine ⟨_, rfl, ?_⟩
  exact gen_sem_msl_vec_expr (agree vvtyEx) C02Sem.worlds2 vExM _ (.vec .int 2) rfl (by decide) (by decide)

/-! ### a vector operation with a literal operand (fixes 40c6233 / c05bffa)

In `b + 1` (`b : bool3`), `v * 1.5` (`v : int3`) and `c ? v : 1.5` the type checker gives the literal the concrete type:
`Add(Cast(int3, b), Cast(int3, 1))` (a cast of the vector to a *vector of the literal type*, `Cast(IntLiteral3, b)`, makes the
exporter panic in `generate_scalar_type`: two known findings, `fixed` records).  The side conditions cover that form
(`VOk.litOperandOK`), so the trees are instances of `gen_sem_msl_vec_expr`. -/

/-- `b + 1` with `b : bool3`, as typed since fix 40c6233 -/
def eBoolVecPlusLit : VExpr :=
  .op .Add (.cons (.cast (.vec .int 3) (.vvar 1)) (.cons (.cast (.vec .int 3) (.sc (.lit (.intLit 1)))) .nil))

/-- `v * 1.5` with `v : int3` -/
def eIntVecTimesFlit : VExpr :=
  .op .Multiply (.cons (.cast (.vec .float 3) (.vvar 1))
    (.cons (.cast (.vec .float 3) (.sc (.lit (.floatLit 0x3ff8000000000000#64)))) .nil))

/-- `s0 != 0 ? v : -7` with `v : int3` next to a negative literal, as typed since fix c05bffa (the arms of `?:`) -/
def eTernVecLit : VExpr :=
  .tern (.sc (.op .Inequality (.cons (.var 0) (.cons (.lit (.int32 0#32)) .nil))))
    (.vvar 1) (.cast (.vec .int 3) (.sc (.lit (.intLit (-7)))))

def vvtyB : Var → VTy := fun _ => .vec .bool 3
def envB : VAst.VEnv := { base := C02Sem.envW, vres := C02Sem.envW.res, vvty := vvtyB }

/-- **a vector operation with a literal operand is exported and keeps its meaning** — the positive statement for
the known findings `b + 1` / `v * 1.5` (panic `int literal / float literal should not be required on output`; fixes
40c6233 and c05bffa): the trees the type checker builds are accepted (`VIr.typeOf`), lie inside the side conditions, are
exported as `(int3)b + (int3)1`, `(float3)v * (float3)1.5`, `c ? v : (int3)-7`, and the emitted expression has the IR's type
under Metal's rules and evaluates to the IR's value and store for every well-shaped value of the vector, every store and every
interpretation of the primitives (instances of `gen_sem_msl_vec_expr`). -/
theorem msl_vector_op_literal_in_concrete_type :
    genMV C02Sem.cxW vvtyB eBoolVecPlusLit
      = .ok (.bin .Add (.cast "int3" (.ident "ll")) (.cast "int3" (.sc (.lit (.intUntyped 1))))) ∧
    (∀ a, genMV C02Sem.cxW vvtyB eBoolVecPlusLit = .ok a →
      VMsl.typeOf C02Sem.M2.msig envB a = some (.vec .int 3) ∧
      ∀ ρ, (∀ x, VOk.shaped (vvtyB x) (ρ x) = true) → ∀ σ, VMsl.eval C02Sem.M2 envB ρ a σ = VIr.eval C02Sem.W2 ρ eBoolVecPlusLit σ) ∧
    genMV C02Sem.cxW vvtyEx eIntVecTimesFlit
      = .ok (.bin .Multiply (.cast "float3" (.ident "ll")) (.cast "float3" (.sc (.lit (.floatUntyped 0x3ff8000000000000#64))))) ∧
    (∀ a, genMV C02Sem.cxW vvtyEx eIntVecTimesFlit = .ok a →
      VMsl.typeOf C02Sem.M2.msig envV a = some (.vec .float 3) ∧
      ∀ ρ, (∀ x, VOk.shaped (vvtyEx x) (ρ x) = true) → ∀ σ, VMsl.eval C02Sem.M2 envV ρ a σ = VIr.eval C02Sem.W2 ρ eIntVecTimesFlit σ) ∧
    (∃ a, genMV C02Sem.cxW vvtyEx eTernVecLit = .ok a ∧
      VMsl.typeOf C02Sem.M2.msig envV a = some (.vec .int 3) ∧
      ∀ ρ, (∀ x, VOk.shaped (vvtyEx x) (ρ x) = true) → ∀ σ, VMsl.eval C02Sem.M2 envV ρ a σ = VIr.eval C02Sem.W2 ρ eTernVecLit σ) :=
  ⟨rfl,
   fun a h => gen_sem_msl_vec_expr (agree vvtyB) C02Sem.worlds2 eBoolVecPlusLit a (.vec .int 3) h (by decide) (by decide),
   rfl,
   fun a h => gen_sem_msl_vec_expr (agree vvtyEx) C02Sem.worlds2 eIntVecTimesFlit a (.vec .float 3) h (by decide) (by decide),
   ⟨_, rfl, gen_sem_msl_vec_expr (agree vvtyEx) C02Sem.worlds2 eTernVecLit _ (.vec .int 3) rfl (by decide) (by decide)⟩⟩

/-- the one-element vector holding a scalar value: what a value of type `T1` is in the typed semantics, while Metal — where
`T1` is the scalar `T` — holds the scalar itself -/
def vec1Of : VVal → VVal
  | .sc x => .vec [x]
  | v => v

/-- **a cast of a vector to a one-component vector is exported and keeps its meaning** — the positive statement for
the known finding *metal-cast-not-allowed* (`(int1)v` emitted as `(int)v`: Metal has no vector → scalar conversion;
fix b6f2da1): for every operand `e` of a vector type with 2–4
components inside the side conditions and every basic kind `t`, the exporter writes `(t1)e` exactly as it writes the scalar
cast `(t)e` — `(t)e'.x`, `try_implicit_truncate` selects `.x` for a one-component target too —, the emitted expression has
the Metal type `t` (the scalar that `t1` is on Metal), and its value is the single component of the typed cast's value, with the
same store, for every store, every interpretation of the primitives and every well-shaped value of the vector variables. -/
theorem cast_to_vec1_selects_first_component {W : World} {M : Msl.MWorld} {env : VAst.VEnv} {cx : Ctx} {vvty : Var → VTy}
    {vis : Var → Bool} {rsv : Nat → List Var} (hag : VAgreeM cx vis env vvty) (hw : Worlds cx rsv W M)
    (e : VExpr) (t k : Ty) (m : Nat) (a : VAExpr)
    (hte : VIr.typeOf W.sig cx.vty vvty e = some (.vec k m)) (hoke : VOk.okMV (side cx W vis rsv) vvty e = true)
    (hbt : VOk.basicK t = true) (hg : genMV cx vvty (.cast (.vec t 1) e) = .ok a) :
    genMV cx vvty (.cast (.sc t) e) = .ok a ∧
    VMsl.typeOf M.msig env a = some (.sc t) ∧
    ∀ ρ, (∀ x, VOk.shaped (vvty x) (ρ x) = true) → ∀ σ,
      VIr.eval W ρ (.cast (.vec t 1) e) σ = (VMsl.eval M env ρ a σ).map (fun r => (vec1Of r.1, r.2)) := by
  have hoe := okMV_tyOK (S := side cx W vis rsv) e (.vec k m) hte hoke
  have hgt := getTy_ok hw.ret e (.vec k m) hte
  have hm2 : 2 ≤ m := by
    simp only [VOk.tyOKM, Bool.and_eq_true, decide_eq_true_eq] at hoe; exact hoe.1.2
  -- the two casts are generated alike
  have hsame : genMV cx vvty (.cast (.sc t) e) = genMV cx vvty (.cast (.vec t 1) e) := by
    have hn1 : ¬ ((VTy.sc t = .sc .lit) ∨ (VTy.sc t = .sc .flit)) := by
      intro h; rcases h with h | h <;> (injection h with h; subst h; simp [VOk.basicK] at hbt)
    have hn2 : ¬ ((VTy.vec t 1 = .sc .lit) ∨ (VTy.vec t 1 = .sc .flit)) := by intro h; rcases h with h | h <;> cases h
    simp only [genMV, hgt, hn1, hn2, if_false]
    cases genMV cx vvty e with
    | error err => rfl
    | ok inner =>
      simp only [GenMslVec.vtypeName, GenMslVec.dimSuffix, implicitTruncate]
      cases typeName t with
      | error err => rfl
      | ok n => simp
  have hgs : genMV cx vvty (.cast (.sc t) e) = .ok a := hsame.trans hg
  have hts : VIr.typeOf W.sig cx.vty vvty (.cast (.sc t) e) = some (.sc t) := by
    have : ¬ (t = .lit ∨ t = .flit ∨ t = .void) := by
      intro h; rcases h with h | h | h <;> subst h <;> simp [VOk.basicK] at hbt
    simp [VIr.typeOf, hte, VTy.scalar, this]
  have hoks : VOk.okMV (side cx W vis rsv) vvty (.cast (.sc t) e) = true := by
    simp only [VOk.okMV, VOk.tyOKM, hbt, Bool.true_and, Bool.or_eq_true, Bool.and_eq_true]
    right
    refine ⟨hoke, ?_⟩
    have : VIr.typeOf (side cx W vis rsv).sig (side cx W vis rsv).vty vvty e = some (.vec k m) := hte
    rw [this]
    simp only [VOk.tyOKM, Bool.and_eq_true, decide_eq_true_eq] at hoe
    simp [VOk.castFits, hoe]
  have hmain := gen_sem_msl_vec_expr hag hw (.cast (.sc t) e) a (.sc t) hgs hts hoks
  refine ⟨hgs, hmain.1, fun ρ hρ σ => ?_⟩
  rw [hmain.2 ρ hρ σ]
  simp only [VIr.eval]
  cases hv : VIr.eval W ρ e σ with
  | none => rfl
  | some r =>
    obtain ⟨v, σ1⟩ := r
    have hs := vec_shape_sound hρ e (.vec k m) σ σ1 v hte hv
    obtain ⟨xs, rfl, hlen⟩ := shaped_vec hs
    match xs, hlen with
    | x :: y :: r2, _ =>
      simp only [castShapeR, castShape, List.take, List.length_cons]
      have h1 : 1 ≤ r2.length + 1 + 1 := by omega
      simp only [h1, if_true, mapOpt]
      cases castVal W.P t x <;> simp [vec1Of]
    | [], h0 => simp at h0; omega
    | [x], h0 => simp at h0; omega

/-- the instance of the known finding: `(int1)v` with `v : int3` is exported as `(int)v.x`, typed `int` in Metal -/
example :
    genMV C02Sem.cxW vvtyEx (.cast (.vec .int 1) (.vvar 1)) = .ok (.cast "int" (.member (.ident "ll") "x")) ∧
    VMsl.typeOf C02Sem.M2.msig envV (.cast "int" (.member (.ident "ll") "x")) = some (.sc .int) ∧
    VIr.typeOf C02Sem.W2.sig C02Sem.cxW.vty vvtyEx (.cast (.vec .int 1) (.vvar 1)) = some (.vec .int 1) :=
  ⟨rfl, by decide, by decide⟩

/-- the opposite direction of fix b6f2da1: a one-component operand is a scalar on Metal and gets no member selection -/
example : implicitTruncate (.vec .float 1) (.sc .float) (.ident "v") = .ident "v" ∧
    implicitTruncate (.vec .float 3) (.vec .float 1) (.ident "v") = .member (.ident "v") "x" := ⟨rfl, rfl⟩

/-- `gen_sem_msl_vec_assign` instantiated: `v1.zx += (int2)s0;` -/
example : ∀ ρ, (∀ y, VOk.shaped (vvtyEx y) (ρ y) = true) → ∀ σ,
    VMsl.evalTop C02Sem.M2 envV ρ (.bin .SumAssignment (.member (.ident "ll") "zx") (.cast "int2" (.sc (.ident "l")))) σ =
      VIr.evalTop C02Sem.W2 ρ (.op .SumAssignment (.cons (.swz (.vvar 1) [.Z, .X]) (.cons (.cast (.vec .int 2) (.sc (.var 0))) .nil))) σ :=
  (gen_sem_msl_vec_assign (agree vvtyEx) C02Sem.worlds2 (o := .SumAssignment) (T := .vec .int 2) rfl rfl rfl (by decide) (by decide) (by decide) (by decide)
    (Or.inr ⟨.add, rfl, trivial⟩)).2

/-! ### `%=` on floating-point vectors (fixes 92d66eb + 35faaaa) -/

def vvtyF : Var → VTy := fun _ => .vec .float 3
def envF : VAst.VEnv := { base := C02Sem.envW, vres := C02Sem.envW.res, vvty := vvtyF }

/-- **`v %= w` on float vectors is exported and keeps its meaning** — the positive statement for the known finding
*metal-remainder-operator-on-floats* (Metal has no `%=` on floats): the exporter writes
`v = metal::fmod(v, w)` (also for a swizzled target, `v.zx = metal::fmod(v.zx, w.xy)`), Metal accepts it, and it leaves the
value, store and vector store of the typed `%=`; a right operand that may write (`v %= (float3)(i++)`) or a target that is not a
plain place is refused with `ComplexRemainderAssignment` instead of being reordered / evaluated twice. -/
theorem msl_float_remainder_assignment_keeps_meaning :
    genMV C02Sem.cxW vvtyF (.op .RemainderAssignment (.cons (.vvar 1) (.cons (.vvar 2) .nil))) =
      .ok (.bin .Assignment (.ident "ll") (.call "metal::fmod" (.cons (.ident "ll") (.cons (.ident "lll") .nil)))) ∧
    (∀ ρ, (∀ y, VOk.shaped (vvtyF y) (ρ y) = true) → ∀ σ,
      VMsl.evalTop C02Sem.M2 envF ρ (.bin .Assignment (.ident "ll") (.call "metal::fmod" (.cons (.ident "ll") (.cons (.ident "lll") .nil)))) σ =
        VIr.evalTop C02Sem.W2 ρ (.op .RemainderAssignment (.cons (.vvar 1) (.cons (.vvar 2) .nil))) σ) ∧
    genMV C02Sem.cxW vvtyF (.op .RemainderAssignment (.cons (.swz (.vvar 1) [.Z, .X]) (.cons (.swz (.vvar 2) [.X, .Y]) .nil))) =
      .ok (.bin .Assignment (.member (.ident "ll") "zx")
        (.call "metal::fmod" (.cons (.member (.ident "ll") "zx") (.cons (.member (.ident "lll") "xy") .nil)))) ∧
    genMV C02Sem.cxW vvtyF (.op .RemainderAssignment (.cons (.vvar 1)
      (.cons (.cast (.vec .float 3) (.sc (.op .PostfixIncrement (.cons (.var 0) .nil)))) .nil))) =
        .error (.diag "ComplexRemainderAssignment") ∧
    genMV C02Sem.cxW vvtyF (.op .RemainderAssignment (.cons (.tern (.sc (.var 0)) (.vvar 1) (.vvar 2)) (.cons (.vvar 2) .nil))) =
        .error (.diag "ComplexRemainderAssignment") := by
  refine ⟨rfl, ?_, rfl, rfl, rfl⟩
  exact (gen_sem_msl_vec_assign (agree vvtyF) C02Sem.worlds2 (o := .RemainderAssignment) (T := .vec .float 3) rfl rfl rfl
    (by decide) (by decide) (by decide) (by decide) (Or.inr ⟨.mod, rfl, trivial⟩)).2

end RsslVerif.Thm.C02Vec
