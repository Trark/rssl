import RsslVerif.Gen.NameReserve
import RsslVerif.Thm.C15
/-!
# C02 — the name of a threaded parameter is never the name of a local variable

The Metal back end passes a static / groupshared / extern global on as a reference parameter under its **leaf** name
(`Counters::total` ↦ `thread int& total`), whatever namespace the global lives in.  The threading proof (`Thm.C02.threaded_exactly`)
says WHICH functions receive the parameter; that an identifier of the body which means the global still reaches the parameter
rests on `NameMap::build`: the generated name of every function / global used by some body is put into
`used_names_all_scopes` **unconditionally** (no test of the symbol's namespace), and the local pass avoids that set.
Seeded mutant C02-7 added `&& name_string.namespace.is_none()` to the reservation: a local `total` of a nested block kept its name
and captured `Counters::total`.
-/
namespace RsslVerif.Thm.C02Names
open RsslVerif.Model.Names

/-- the loop of `NameMap::build` over the usage analysis -/
def usageLoop : String :=
  "for id in module.function_registry.iter() > for used_symbol in usage.get_usage_for_function(id)"

/-- **used_names_reserved_regardless_of_namespace** (obligation, re-extracted on every run by `Gen.NameReserve`): inside the usage
loop of `NameMap::build` exactly one statement touches `used_names_all_scopes` — the insertion of the symbol's generated (leaf)
name — and the only condition around it is that the symbol has a generated name at all (intrinsics have none): nothing about the
namespace of the symbol.  This is what `Model.Names.usedNames` does (it never looks at `Named.scope`).  False for seeded mutant
C02-7 (`&& name_string.namespace.is_none()`). -/
theorem used_names_reserved_regardless_of_namespace :
    Gen.NameReserve.allScopesEvents.filter (fun e => e.1 == usageLoop) =
      [(usageLoop, "if let Some(name_string) = name_map.names.get(&symbol)",
        "used_names_all_scopes.insert(name_string.name.clone());")] := by
  decide +kernel

/-- the model's reservation does not look at the scope of the symbol: a used global of ANY scope contributes its leaf name -/
theorem usedNames_any_scope (inp : Input) (out : List Named) (g : Named) (hg : g ∈ out)
    (hk : g.sym.kind = .func ∨ g.sym.kind = .global) (hu : g.sym ∈ inp.used) : g.name ∈ usedNames inp out :=
  Lemmas.Names.mem_usedNames.mpr ⟨g, hg, hk, hu, rfl⟩

/-- **threaded_parameter_name_is_no_local** (full, every input of the model of `NameMap::build`; an instance of C15's
`locals_apart_from_used`, cited as an obligation of C02's threading proof): the leaf name under which a used global variable of
ANY scope (`g.scope` is arbitrary: root, a namespace, a nested namespace) is printed — the name of the parameter that carries it
on Metal — is the printed name of no local variable / parameter / for-variable of the module.  So no declaration inside a
function that receives the parameter can shadow or redeclare it. -/
theorem threaded_parameter_name_is_no_local {reserved : List String} {inp : Input} {names : List Named}
    (h : build reserved inp = .ok names) (hwf : ∀ e, e ∈ inp.entries → e.sym.kind ≠ .localVar)
    (g : Named) (hg : g ∈ names) (hk : g.sym.kind = .global) (hu : g.sym ∈ inp.used) :
    ∀ l ∈ names, l.sym.kind = .localVar → l.name ≠ g.name :=
  fun l hl hkl => RsslVerif.Thm.C15.locals_apart_from_used h hwf l hl g hg hkl (Or.inr hk) hu

/-- non-vacuity (the seed's demo): `namespace Counters { static int total; }` used by a body, next to locals `result`, `i`,
`total`: the build succeeds, the global keeps `total` in scope `some 0`, the local is printed `total_0` -/
example :
    let inp : Input := { nss := [(none, "Counters")], locals := ["result", "i", "total"], used := [⟨.global, 0⟩, ⟨.func, 0⟩],
                         entries := [⟨⟨.global, 0⟩, some 0, "total"⟩, ⟨⟨.func, 0⟩, some 0, "bump"⟩, ⟨⟨.func, 1⟩, none, "accumulate"⟩] }
    (build Gen.Reserved.msl inp).toOption.map (·.map (fun n => (n.scope, n.name))) =
      some [(none, "Counters"), (none, "accumulate"), (some 0, "bump"), (some 0, "total"), (none, "result"), (none, "i"), (none, "total_0")] := by
  decide +kernel

end RsslVerif.Thm.C02Names
