import RsslVerif.Thm.C15
import RsslVerif.Gen.UsageTables
import RsslVerif.Gen.UsageOperands
/-!
# C15 — the usage analysis that feeds `NameMap::build` sees a symbol wherever its use sits

`NameMap::build` keeps locals off the emitted names of the functions / globals in `GlobalUsageAnalysis` (`Input.used` of the
model; `locals_apart_from_used`).  `Input.used` is an input of the model: what ties it to "every function / global some body
mentions" is that `gather_usage_for_expression` descends into **every operand field of every `Expression` variant**.  The two
tables below are re-extracted on every run: `Gen.UsageOperands.exprOperandFields` (from `enum Expression`: which fields hold
sub-expressions) and `Gen.UsageTables.exprArms` (from the match arms of `gather_usage_for_expression`, per or-pattern
alternative: which bound fields are passed on to a `gather_usage_*` call).
-/
namespace RsslVerif.Thm.C15
open RsslVerif.Gen.UsageTables RsslVerif.Gen.UsageOperands

/-- one step from an expression to a sub-expression: (variant of the parent, index of the field the child sits in) -/
abbrev Step := String × Nat

/-- the steps the IR allows: operand fields of `enum Expression` -/
def operandSteps : List Step :=
  exprOperandFields.flatMap fun r => ((List.range r.2.length).filter fun i => r.2.getD i false).map fun i => (r.1, i)

/-- does the arm of `gather_usage_for_expression` for `s.1` recurse into field `s.2` -/
def stepDescended (arms : List (String × List Bool)) (s : Step) : Bool :=
  match arms.lookup s.1 with
  | some fl => fl.getD s.2 false
  | none => false

/-- a mention of a function / global at the end of `path` (root expression of a statement first) is reached by the recursive
walk iff every step of the path is descended into; the mention itself is recorded when its variant inserts the symbol -/
def mentionRecorded (arms : List (String × List Bool)) (inserts : List (String × String)) (path : List Step) (leaf : String) : Bool :=
  path.all (stepDescended arms) && (inserts.lookup leaf).isSome

/-- **usage_visits_all_operands** (Gen fact on the regenerated tables): every operand field of every `Expression` variant —
`ArraySubscript`'s INDEX (field 1) as much as its object — is passed on by its arm of `gather_usage_for_expression`; the arms
cover exactly the variants of the enum; `Global` records a global, `Call` a function.  An arm that binds an operand with `_`
(seed C15-7: `ArraySubscript(ref object, _)`) makes this false. -/
theorem usage_visits_all_operands :
    operandSteps.all (stepDescended exprArms) = true ∧
    exprArms.map (·.1) = exprOperandFields.map (·.1) ∧
    exprArms.map (·.2.length) = exprOperandFields.map (·.2.length) ∧
    ("ArraySubscript", 1) ∈ operandSteps ∧ ("ArraySubscript", 0) ∈ operandSteps ∧
    symbolInserts.lookup "Global" = some "GlobalVariable" ∧ symbolInserts.lookup "Call" = some "Function" ∧
    functionBodyGathered = true := by decide +kernel

/-- **used_symbols_include_index_positions**: a function call / global mention at ANY position of an expression — any path of
operand steps of any length, e.g. index of an index of a ternary arm — is recorded by `gather_usage_for_expression`. -/
theorem used_symbols_include_index_positions (path : List Step) (hp : ∀ s ∈ path, s ∈ operandSteps) :
    mentionRecorded exprArms symbolInserts path "Global" = true ∧
    mentionRecorded exprArms symbolInserts path "Call" = true := by
  have hall : path.all (stepDescended exprArms) = true := by
    refine List.all_eq_true.mpr fun s hs => ?_
    exact List.all_eq_true.mp usage_visits_all_operands.1 s (hp s hs)
  obtain ⟨_, _, _, _, _, hg, hc, _⟩ := usage_visits_all_operands
  simp [mentionRecorded, hall, hg, hc]

/-- non-vacuity: `a[b[g]]` inside a ternary arm inside an intrinsic argument is such a path; and the statement is about the
table — with the index field of `ArraySubscript` not descended (the mutant's table) the same mention is NOT recorded -/
example : (∀ s ∈ [("IntrinsicOp", 1), ("TernaryConditional", 1), ("ArraySubscript", 1), ("ArraySubscript", 1)], s ∈ operandSteps) ∧
    mentionRecorded (exprArms.map fun r => if r.1 == "ArraySubscript" then (r.1, [true, false]) else r) symbolInserts
      [("ArraySubscript", 1)] "Global" = false := by decide +kernel

/-- **locals_apart_from_mentioned**: composition with `locals_apart_from_used`.  If the module's usage input contains every
symbol that has a recorded mention (what `GlobalUsageAnalysis` yields), then no local is printed under the name of a function /
global that is mentioned at any operand path in some body — wherever the mention sits. -/
theorem locals_apart_from_mentioned {reserved : List String} {inp : Model.Names.Input} {names : List Model.Names.Named}
    (h : Model.Names.build reserved inp = .ok names) (hwf : ∀ e, e ∈ inp.entries → e.sym.kind ≠ .localVar)
    (mentions : List (Model.Names.Sym × List Step × String))
    (hpaths : ∀ m ∈ mentions, (∀ s ∈ m.2.1, s ∈ operandSteps) ∧ (m.2.2 = "Global" ∨ m.2.2 = "Call"))
    (hused : ∀ m ∈ mentions, mentionRecorded exprArms symbolInserts m.2.1 m.2.2 = true → m.1 ∈ inp.used) :
    ∀ l ∈ names, ∀ g ∈ names, l.sym.kind = .localVar → (g.sym.kind = .func ∨ g.sym.kind = .global) →
      (∃ m ∈ mentions, m.1 = g.sym) → l.name ≠ g.name := by
  intro l hl g hg hkl hkg ⟨m, hm, hmg⟩
  refine locals_apart_from_used h hwf l hl g hg hkl hkg ?_
  rw [← hmg]
  refine hused m hm ?_
  have := used_symbols_include_index_positions m.2.1 (hpaths m hm).1
  rcases (hpaths m hm).2 with e | e <;> rw [e]
  · exact this.1
  · exact this.2

end RsslVerif.Thm.C15
