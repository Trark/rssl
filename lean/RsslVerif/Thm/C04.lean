import RsslVerif.Lemmas.FixpointMain
import RsslVerif.Lemmas.FixpointStmt
import RsslVerif.Gen.FixpointTables
import RsslVerif.Lemmas.FixpointSlots
import RsslVerif.Thm.C05Layers
import RsslVerif.Lemmas.FixpointBridge
import RsslVerif.Thm.C09Expr
import RsslVerif.Lemmas.FixpointNamesEnum
import RsslVerif.Gen.PathLookup
import RsslVerif.Gen.TemplateConst
import RsslVerif.Lemmas.FixpointTemplate
import RsslVerif.Gen.NameReserve
import RsslVerif.Lemmas.FixpointGenNames
import RsslVerif.Gen.ProtoParams
import RsslVerif.Lemmas.FixpointProto
/-!
# C04 — emitted DirectX HLSL is accepted by the front end and is a fixpoint

C04 is a composition; the sections and their headline theorems: binding slots are re-derived identically
(`slots_stable_reread`, `typedef_spelling_slots_stable`); re-elaboration of the exported tree adds no conversion
(`reelab_no_new_casts`, `out_arguments_plain`); the composition with the exporter model of C01 and the printer / parser of
C09 (`bridge_square`, `fixpoint_expr`, `fixpoint_expr_text`, `fixpoint_stmt`); name lookup of the emitted paths
(`emitted_path_resolves_to_same_entity`, `fixpoint_expr_paths`); literal kinds of template arguments
(`emitted_literal_kind_stable`); generated names against locals (`local_meets_only_kept_names`); prototypes
(`emitted_declarations_fixpoint`).  The legs of C09 / C10 / C15 / C05 / C06 are cited in `checks/c04.py`.
-/
namespace RsslVerif.Thm.C04
open RsslVerif.Gen.SlotTables RsslVerif.Model.Slots RsslVerif.Spec.Slots RsslVerif.Lemmas.Slots

/-- what the exporter writes back: every declaration carries its bind group explicitly
    (`register(x, spaceN)` / the group attribute), everything else is unchanged -/
def explicit (dflt : Nat) : Decl → Decl
  | .other => .other
  | .cbuffer s => .cbuffer (some (s.getD dflt))
  | .global s ss k l => .global (some (s.getD dflt)) ss k l

theorem step_explicit (p : Params) (dflt dflt' : Nat) (st : State) (d : Decl) :
    step p dflt' st (explicit dflt d) = step p dflt st d := by
  cases d <;> simp [explicit, step]

theorem run_explicit (p : Params) (dflt dflt' : Nat) :
    ∀ (ds : List Decl) (st : State), run p dflt' st (ds.map (explicit dflt)) = run p dflt st ds := by
  intro ds
  induction ds with
  | nil => intro st; rfl
  | cons d ds ih =>
    intro st
    simp only [List.map_cons, run, step_explicit]
    cases step p dflt st d with
    | error e => rfl
    | ok r => obtain ⟨st1, ob⟩ := r; simp only [ih]

/-- **Slots are stable under re-compilation.** Re-running the allocator on the declaration sequence
    in which every group was made explicit (what the emitted `register(.., spaceN)` annotations say),
    with *any* default group (no-pipeline mode uses 0), reproduces exactly the first result: same
    bindings for every declaration and the same inline constant blocks. -/
theorem slots_stable (p : Params) (dflt dflt' : Nat) (ds : List Decl) :
    assign p dflt' (ds.map (explicit dflt)) = assign p dflt ds := by
  simp only [assign, run_explicit]

/-! Non-vacuity: a mixed sequence with implicit groups and default group 2. -/
example : assign paramsDefault 0 ([Decl.cbuffer none, .global (some 1) false (some .Texture2D) (some 2),
      .global none false (some .SamplerState) none].map (explicit 2)) =
    assign paramsDefault 2 [Decl.cbuffer none, .global (some 1) false (some .Texture2D) (some 2),
      .global none false (some .SamplerState) none] := slots_stable _ _ _ _

/-! ## Slots as re-read from the printed annotations -/
section Reread
open RsslVerif.Gen.MetaTables RsslVerif.Model.Meta RsslVerif.Spec.Meta RsslVerif.Model.FixpointSlots
open RsslVerif.Lemmas.FixpointSlots

/-- the DirectX target allocates with register types and without buffer addresses, whatever `support_buffer_address`
    says (re-extracted `binding_params` of `compile()`) -/
theorem dx_params (sba : Bool) : DxParams (paramsFor .HlslForDirectX sba) := by
  cases sba <;> exact ⟨rfl, rfl⟩

/-- **Every resource keeps its slot when the emitted text is compiled again.**  First generation: `assign` over the
    declarations `ds` (default group `dflt` of the selected pipeline) gives `res`.  The exporter prints
    ` : register(<letter><index>[, space<group>])` for every bound declaration; the second generation sees each
    declaration with the bind group that C05's character-level reader reads from that printed text (`secondDecls`:
    print, then read back, then "space 0 / no space = no explicit group") and runs without a pipeline (default group 0).
    It computes exactly `res` again: the same group, index and register class for every declaration and the same
    inline constant blocks. -/
theorem slots_stable_reread {p : Params} (hp : DxParams p) (dflt : Nat) (ds : List Decl) (res : Result)
    (h : assign p dflt ds = .ok res) : assign p 0 (secondDecls ds res.bindings) = .ok res := by
  obtain ⟨st, hrun, hin⟩ := assign_ok_iff.mp h
  exact assign_ok_iff.mpr ⟨st, run_second hp dflt ds _ st _ hrun, hin⟩

/-- …and therefore prints the same annotations again -/
theorem annotations_stable {p : Params} (hp : DxParams p) (dflt : Nat) (ds : List Decl) (res res2 : Result)
    (h : assign p dflt ds = .ok res) (h2 : assign p 0 (secondDecls ds res.bindings) = .ok res2) :
    res2.bindings.map regAnnot = res.bindings.map regAnnot := by
  rw [slots_stable_reread hp dflt ds res h] at h2
  cases h2; rfl

/-- what is read back from a printed annotation is the group of the binding it was printed for -/
theorem reread_names_group (r : RegT) (i g : Nat) : (rereadSet (Annot.reg r i g).print).getD 0 = g :=
  rereadSet_reg r i g

/-! Non-vacuity: a cbuffer in the pipeline's default group 2, a texture array with an explicit group, a sampler -/
def dsEx : List Decl :=
  [Decl.cbuffer none, .global (some 1) false (some .Texture2D) (some 2), .global none false (some .SamplerState) none]

example :
    (match assign paramsDefault 2 dsEx with
     | .ok res =>
       decide (res.bindings.map (fun b => b.map (·.set)) = [some 2, some 1, some 2]) &&
       decide (secondDecls dsEx res.bindings =
         [Decl.cbuffer (some 2), .global (some 1) false (some .Texture2D) (some 2),
          .global (some 2) false (some .SamplerState) none]) &&
       (match assign paramsDefault 0 (secondDecls dsEx res.bindings) with
        | .ok res2 => decide (res2 = res)
        | .error _ => false)
     | .error _ => false) = true := by decide +kernel

end Reread

/-! ## Resources declared through typedefs (seeded mutant C04-7)

The exporter prints no typedef: `typedef Texture2D<float4> TextureTable[4]; TextureTable g;` is emitted as
`Texture2D<float4> g[4] : register(t0);`.  The second generation therefore allocates over OTHER layer chains than the
first one; the slot clause of the property needs the allocator's peel to see the same thing through both. -/
section TypedefSpelling
open RsslVerif.Gen.MetaTables RsslVerif.Model.Meta RsslVerif.Spec.Meta RsslVerif.Model.FixpointSlots
open RsslVerif.Lemmas.FixpointSlots RsslVerif.Lemmas.MetaLayers

/-- Tie to the source: the GlobalVariable arm of `process_definition` (`assign_api_bindings`) peels the declared type in
    the order *outer modifier, sized array layer, modifier of the element* — both as the ordered operation list C05's
    symbolic reader extracts from the `let` statements (`Gen.MetaTables.allocPeel`; an unknown helper call reads as
    `[.unknown]`) and as C06's statement-level regex fact.  Seeded mutant C04-7 (`extract_sized_array`: the array layer is
    matched on the id as given, the outer modifier is never removed in front of it) falsifies both. -/
theorem slot_peel_as_modelled :
    allocPeel = [.removeModifier, .takeArray true, .removeModifierAfterArray] ∧
    allocShape.peelsModifierArrayModifier = true := ⟨rfl, by decide +kernel⟩

/-- A resource as the SOURCE spells it: object type `kind`, reached through the typedef chain `steps`
    (`typedef [const] <cur> X[n]?;`, innermost first), optional `const` keyword, declarator dimensions `dims`. -/
structure RDecl where
  name : String
  set : Option Nat
  staticSampler : Bool
  kind : ObjKind
  steps : List TypedefStep
  constKw : Bool
  dims : List (Option Nat)
  bindless : Bool
  deriving Repr

/-- the layer chain the typer builds for it (`Model.Meta.globalTy`: the implicit const of an extern global wraps the NAMED type) -/
def RDecl.ty (r : RDecl) : Ty := globalTy (.object r.kind) r.steps r.constKw .extern r.dims

/-- the root definition of the first generation -/
def RDecl.first (r : RDecl) : TDecl := .global r.name r.set r.staticSampler r.ty r.bindless .extern

/-- The chain the SECOND generation builds: the exporter prints neither typedefs nor `const` on a resource, it prints
    the object type and every array layer of the chain on the declarator (`Texture2D<float4> g[4]`), so the implicit
    const now sits INSIDE the array layers. -/
def RDecl.exportedTy (r : RDecl) : Ty := globalTy (.object r.kind) [] false .extern (Ty.dims r.ty)

/-- the root definition the second generation sees (same name, group annotation, flags) -/
def RDecl.exported (r : RDecl) : TDecl := .global r.name r.set r.staticSampler r.exportedTy r.bindless .extern

/-- what the allocator's peel sees depends on the array lengths and the innermost object of a well-formed chain only,
    not on where the modifier layers sit (from C05's `descriptor_kind_count_from_layers`) -/
theorem toSlot_of_dims_base {n : String} {s : Option Nat} {ss bl : Bool} {t t' : Ty}
    (hw : Ty.wf t = true) (hw' : Ty.wf t' = true) (hd : Ty.dims t' = Ty.dims t) (hb : Ty.base t' = Ty.base t) :
    (TDecl.global n s ss t' bl .extern).toSlot allocPeel = (TDecl.global n s ss t bl .extern).toSlot allocPeel := by
  rw [(C05.descriptor_kind_count_from_layers (n := n) (s := s) (ss := ss) (bl := bl) (st := .extern) hw).2.2,
    (C05.descriptor_kind_count_from_layers (n := n) (s := s) (ss := ss) (bl := bl) (st := .extern) hw').2.2]
  simp only [specAllocKind, specAllocLen, specKind, hd, hb]

/-- the exported chain is well formed and has the object and the array layers of the chain the source spells -/
theorem exportedTy_shape (r : RDecl) :
    Ty.wf r.exportedTy = true ∧ Ty.base r.exportedTy = Ty.base r.ty ∧ Ty.dims r.exportedTy = Ty.dims r.ty := by
  obtain ⟨_, hb, _⟩ := globalTy_shape r.kind r.steps r.constKw .extern r.dims
  obtain ⟨hw', hb', hd'⟩ := globalTy_shape r.kind [] false .extern (Ty.dims r.ty)
  exact ⟨hw', hb'.trans hb.symm, hd'.trans (by simp)⟩

/-- the exported declarator carries the declarator's dimensions followed by the typedefs', last typedef outermost -/
theorem exported_dims (r : RDecl) :
    Ty.dims r.exportedTy = r.dims ++ (r.steps.reverse.filterMap (·.dim)).map some :=
  (exportedTy_shape r).2.2.trans (globalTy_shape r.kind r.steps r.constKw .extern r.dims).2.2

/-- **A resource declared through typedefs and its exported direct spelling are the same declaration to the allocator**:
    same object kind, same array length — for every object kind, every typedef chain (const anywhere, array typedefs,
    aliases of aliases), with or without the `const` keyword, any declarator dimensions.  `const(array(obj, n))`
    (`typedef T TA[n]; TA g;`) and `array(const(obj), n)` (`T g[n];`) in particular. -/
theorem typedef_spelling_same_slot (r : RDecl) :
    r.exported.toSlot allocPeel = r.first.toSlot allocPeel :=
  toSlot_of_dims_base (globalTy_shape r.kind r.steps r.constKw .extern r.dims).1 (exportedTy_shape r).1
    (exportedTy_shape r).2.2 (exportedTy_shape r).2.1

/-- **Every resource keeps its slot when typedef'd spellings are exported as direct ones**: `slots_stable_reread` with
    the second generation's declarations built from the EXPORTED chains (and the bind groups re-read from the printed
    annotations): the allocator computes the first generation's result again — same group, index, register class for
    every declaration, same inline blocks; all declaration lists, all typedef chains. -/
theorem typedef_spelling_slots_stable {p : Params} (hp : DxParams p) (dflt : Nat) (rs : List RDecl) (res : Result)
    (h : assign p dflt (rs.map (fun r => r.first.toSlot allocPeel)) = .ok res) :
    assign p 0 (secondDecls (rs.map (fun r => r.exported.toSlot allocPeel)) res.bindings) = .ok res := by
  have e : rs.map (fun r => r.exported.toSlot allocPeel) = rs.map (fun r => r.first.toSlot allocPeel) :=
    List.map_congr_left (fun r _ => typedef_spelling_same_slot r)
  rw [e]
  exact slots_stable_reread hp dflt _ res h

/-! Non-vacuity (the demo program of the seeded mutant): `typedef Texture2D<float4> TextureTable[4]; TextureTable g_table;
    Texture2D<float4> g_plain[2]; RWStructuredBuffer<uint> g_out; ByteAddressBuffer g_after;` — the chains differ, the
    table takes slots 0..3 and the followers keep 4, 6, 7 in the second generation. -/
def rsEx : List RDecl :=
  [⟨"g_table", none, false, .Texture2D, [⟨false, some 4⟩], false, [], false⟩,
   ⟨"g_plain", none, false, .Texture2D, [], false, [some 2], false⟩,
   ⟨"g_out", none, false, .RWStructuredBuffer, [], false, [], false⟩,
   ⟨"g_after", none, false, .ByteAddressBuffer, [], false, [], false⟩]

example :
    decide ((rsEx.map RDecl.ty).map Ty.layers =
      [[.mod, .arr (some 4), .obj .Texture2D], [.arr (some 2), .mod, .obj .Texture2D],
       [.mod, .obj .RWStructuredBuffer], [.mod, .obj .ByteAddressBuffer]]) &&
    decide ((rsEx.map RDecl.exportedTy).map Ty.layers =
      [[.arr (some 4), .mod, .obj .Texture2D], [.arr (some 2), .mod, .obj .Texture2D],
       [.mod, .obj .RWStructuredBuffer], [.mod, .obj .ByteAddressBuffer]]) &&
    (match assign (paramsFor .HlslForDirectX false) 0 (rsEx.map (fun r => r.first.toSlot allocPeel)) with
     | .ok res =>
       decide (res.bindings.map (fun b => b.map (·.loc)) = [some (.index 0), some (.index 4), some (.index 6), some (.index 7)]) &&
       (match assign (paramsFor .HlslForDirectX false) 0
           (secondDecls (rsEx.map (fun r => r.exported.toSlot allocPeel)) res.bindings) with
        | .ok res2 => decide (res2 = res)
        | .error _ => false)
     | .error _ => false) = true := by decide +kernel

/-- `TypeRegistry::extract_sized_array` of seeded mutant C04-7 (NOT the code): the sized array layer is matched on the id
    as given and a modifier is removed from the element only (from the type itself when it is no such array) -/
def mutantPeel : List PeelOp := [.takeArray true, .removeModifierAfterArray, .removeModifier]

/-- **Negation witness for the mutant's peel**: over the demo program the mutant's peel finds no object behind the
    typedef'd table (`const(array(..))`: no array on the outside, then an array layer instead of an object), gives it no
    slot and numbers the followers 0, 2, 3; over the exported chains it finds the table and numbers them 4, 6, 7 — the
    slots move (and the first text carries no `register` for the table, the second does: not a fixpoint). -/
theorem mutant_peel_moves_slots :
    (match assign (paramsFor .HlslForDirectX false) 0 (rsEx.map (fun r => r.first.toSlot mutantPeel)),
           assign (paramsFor .HlslForDirectX false) 0 (rsEx.map (fun r => r.exported.toSlot mutantPeel)) with
     | .ok r1, .ok r2 =>
       decide (r1.bindings.map (fun b => b.map (·.loc)) = [none, some (.index 0), some (.index 2), some (.index 3)]) &&
       decide (r2.bindings.map (fun b => b.map (·.loc)) = [some (.index 0), some (.index 4), some (.index 6), some (.index 7)])
     | _, _ => false) = true := by decide +kernel

end TypedefSpelling

/-! ## Re-elaboration of the exported program adds no conversion (type level, C03 model × exporter shadow)

`Model.Fixpoint.Unelab Γ' i s` says that `s` is a syntax tree the front end can read from the text exported for the
elaborated expression `i` (`generate_expression` node by node: typed `Int32` constants lose their kind, negative
constants become `-` applied to the magnitude, casts to literal types are dropped, every function has its own name).
The theorems are about `Model.Elab.elabE` (C03's model of `parse_expr_internal`, any types, any nesting, any overload
sets) in the first generation and in the second. -/
section Reelab
open RsslVerif.Gen.RankTable RsslVerif.Gen.TypingTables RsslVerif.Gen.FixpointTables
open RsslVerif.Model.Conv RsslVerif.Model.Overload RsslVerif.Model.IrTyping RsslVerif.Model.Elab RsslVerif.Model.Fixpoint
open RsslVerif.Lemmas.FixpointElab RsslVerif.Lemmas.FixpointStmt

/-- the hand-written `rereadTable` is `parse_literal` as re-extracted from typer/src/typer/expressions.rs: same
    constant variant for every suffix kind, the same three kinds rejected, payload = the literal's own value -/
theorem reread_table_agrees : ∀ k : RsslVerif.Gen.HlslGenTables.LitKind,
    (parseLiteralTable.find? (fun r => r.1 == k.name)).map (fun r => r.2.map (·.1)) =
      some ((rereadTable k).map Scalar.name) := by
  intro k; cases k <;> decide +kernel

/-- `litTyped` is the re-extracted `to_literal` test of the `Cast` arm (after `remove_modifier`) -/
theorem cast_drop_agrees (m : Modifier) (l : Layer) :
    litTyped ⟨m, l⟩ = (match l with | .scalar s => castDropLayers.contains s.name | _ => false) := by
  cases l with
  | scalar s => cases s <;> simp [litTyped] <;> decide +kernel
  | _ => rfl

/-- only typed `Int32` constants change their kind when exported and read back (`3` is an `IntLiteral`); every
    other kind has a suffix of its own -/
theorem reread_only_int32 (k : Scalar) : rereadKind k = if k = .int32 then .intLiteral else k := rereadKind_eq k

/-- **reelab_no_new_casts.**  Let `i : τ` be the elaboration of a source expression `s` (any expression of the C03
    model: literals, variables, all unary and binary operators, `?:`, `,`, casts, calls through overload resolution;
    scalar, vector, matrix, modified, struct/object types) in the environment `Γ`, and `Γ'` the environment of the
    exported program (same variables and signatures, every function named on its own).  Then **every** tree `s'` the
    front end can read from the export of `i` elaborates — in `Γ'`, in debug or release builds — to `i` itself with
    the same type `τ`: no conversion is added or lost, every literal gets its kind back, every call selects the same
    function, every operator works on the same type, every written operand and every `out` / `inout` argument is
    accepted as a mutable place again.

    Hypothesis: `SrcOk s` (the first source is one the parser can produce: no `Int32` literal, no cast to an unnamed
    literal type — exported trees satisfy it again: `export_is_source`).  Nothing is assumed about `out` / `inout`
    arguments: `check_output_arguments` runs on the converted arguments (fix 3758fdd), so no accepted call passes a `Cast`
    there (`out_arguments_plain`; `void g(out float1 p); float y; g(y)` is refused, `out_argument_conversion_rejected`). -/
theorem reelab_no_new_casts {Γ Γ' : Env} (hR : Renamed Γ Γ') (dbg dbg' : Bool) {s : SExpr} {i : IExpr} {τ : ETy}
    (hs : SrcOk s) (h : elabE dbg Γ s = .ok (i, τ)) {s' : SExpr} (hu : Unelab Γ' i s') :
    elabE dbg' Γ' s' = .ok (i, τ) := by
  rw [elabE_dbg] at h ⊢
  exact Lemmas.FixpointMain.reelab_aux hR s i τ hs h s' hu

/-- the same for statements: expression statements, `return e` (conversion to the return type) and `T v = e`
    (conversion to the variable's type) are rebuilt identically -/
theorem reelab_stmt_no_new_casts {Γ Γ' : Env} (hR : Renamed Γ Γ') (dbg dbg' : Bool) {s : SStmt} {st : IStmt}
    (hs : SrcStmtOk s) (h : elabStmt dbg Γ s = .ok st) {s' : SStmt}
    (hu : UnelabStmt Γ' st s') : elabStmt dbg' Γ' s' = .ok st := by
  rcases Lemmas.ElabRelease.elabStmt_cases h with ⟨e, e', τ, rfl, he, rfl⟩ | ⟨rfl, hr, rfl⟩ |
    ⟨e, e', τ, rt, e2, t2, rfl, he, hrt, hc, rfl⟩ | ⟨t, e, e', τ, e2, t2, rfl, he, hc, rfl⟩
  · cases hu with
    | expr hue =>
      simp [elabStmt, Lemmas.ElabRelease.elabTop_eq, Lemmas.FixpointMain.reelab_aux hR e e' τ hs he _ hue]
  · cases hu
    simp [elabStmt, hR.ret, hr]
  · cases hu with
    | ret hue =>
      obtain ⟨e0, τ0, hel, hc0⟩ := reconvert (Lemmas.FixpointMain.reelab_aux hR e e' τ hs he) rfl hc hue
      simp [elabStmt, Lemmas.ElabRelease.elabTop_eq, hel, hR.ret, hrt, hc0]
  · cases hu with
    | init hue =>
      obtain ⟨e0, τ0, hel, hc0⟩ := reconvert (Lemmas.FixpointMain.reelab_aux hR e e' τ hs he) rfl hc hue
      simp [elabStmt, Lemmas.ElabRelease.elabTop_eq, hel, hc0]

/-- **out_arguments_plain** (fix 3758fdd): in every
    accepted expression, at every call anywhere in the tree, no argument given for an `out` / `inout` parameter is a
    `Cast` node — the type checker refuses (`LvalueRequired`) a call whose `out` / `inout` argument needs a conversion,
    because a `Cast` is an rvalue for `check_mutable_place`.  Debug or release build; any source expression. -/
theorem out_arguments_plain {Γ : Env} (dbg : Bool) {s : SExpr} {i : IExpr} {τ : ETy}
    (h : elabE dbg Γ s = .ok (i, τ)) : OutArgsPlain Γ i :=
  Lemmas.FixpointMain.elab_outArgsPlain s i τ (elabE_dbg dbg s ▸ h)

/-- …and in every accepted statement (the conversion to the return / variable type wraps the whole expression) -/
theorem out_arguments_plain_stmt {Γ : Env} (dbg : Bool) {s : SStmt} {st : IStmt}
    (h : elabStmt dbg Γ s = .ok st) : OutArgsPlainStmt Γ st := by
  rcases Lemmas.ElabRelease.elabStmt_cases h with ⟨e, e', τ, rfl, he, rfl⟩ | ⟨rfl, hr, rfl⟩ |
    ⟨e, e', τ, rt, e2, t2, rfl, he, hrt, hc, rfl⟩ | ⟨t, e, e', τ, e2, t2, rfl, he, hc, rfl⟩
  · exact Lemmas.FixpointMain.elab_outArgsPlain e e' τ he
  · trivial
  · exact Lemmas.FixpointMain.convert_out hc (Lemmas.FixpointMain.elab_outArgsPlain e e' τ he)
  · exact Lemmas.FixpointMain.convert_out hc (Lemmas.FixpointMain.elab_outArgsPlain e e' τ he)

/-- an exported tree is a source tree again, so the two theorems above apply to every further generation -/
theorem export_is_source {Γ' : Env} {i : IExpr} {s' : SExpr} (hu : Unelab Γ' i s') : SrcOk s' :=
  (unelabArgs_srcOk _ _ (.cons hu .nil)).1

/-- the executable exporter shadow the driver runs (`Model.Fixpoint.unelab`) produces such a tree -/
theorem unelab_is_export {Γ' : Env} {i : IExpr} {s' : SExpr} (h : unelab Γ' i = some s') : Unelab Γ' i s' :=
  unelab_sound_both.1 i s' h

/-- every environment has an exported version (`uniqueNames`: function `i` is called `i`) -/
theorem renamed_exists (Γ : Env) : Renamed Γ (uniqueNames Γ) :=
  { vars := rfl
    ret := rfl
    sig := fun f sg h => ⟨{ sg with name := f }, by simp [uniqueNames, List.getElem?_mapIdx, h], rfl, rfl, rfl⟩
    uniq := fun f g sf sg hf hg hn => by
      simp [uniqueNames, List.getElem?_mapIdx] at hf hg
      obtain ⟨a, _, rfl⟩ := hf
      obtain ⟨b, _, rfl⟩ := hg
      simpa using hn }

/-- **idempotence**: elaborating the export of an elaborated expression gives an expression whose export elaborates
    to it again — the composition `elab ∘ export` is idempotent from the first generation on -/
theorem reelab_idempotent {Γ Γ' : Env} (hR : Renamed Γ Γ') (hR' : Renamed Γ' Γ') (dbg : Bool) {s s' s'' : SExpr}
    {i : IExpr} {τ : ETy} (hs : SrcOk s) (h : elabE dbg Γ s = .ok (i, τ))
    (hu : Unelab Γ' i s') (hu' : Unelab Γ' i s'') : elabE dbg Γ' s'' = .ok (i, τ) :=
  reelab_no_new_casts hR' dbg dbg (export_is_source hu) (reelab_no_new_casts hR dbg dbg hs h hu) hu'

/-! ### non-vacuity -/

/-- `float v0; const int v1; bool v2;`  `int k(int); int k(float);` (one overload set) -/
def ΓEx : Env :=
  { vars := [⟨{}, .scalar .float32⟩, ⟨{ isConst := true }, .scalar .int32⟩, ⟨{}, .scalar .bool⟩],
    funcs := [⟨5, [⟨⟨{}, .scalar .int32⟩, .in⟩], 1, ⟨{}, .scalar .int32⟩⟩,
              ⟨5, [⟨⟨{}, .scalar .float32⟩, .in⟩], 1, ⟨{}, .scalar .int32⟩⟩] }

/-- `v0 = v1 + 1 + k(v2 + 1) + (v2 ? 1 : 2)`: elaborates to
    `Assignment(v0, Cast(float, Add(Add(Cast(int, v1), Int32 1), k#0(Cast(int, Add(Cast(IntLiteral, v2), 1)))) + …`
    with re-tagged literals, a dropped cast to `IntLiteral`, an overload chosen by promotion, and a cast of an
    `IntLiteral`-typed conditional; its export is accepted and elaborates to the same tree. -/
def sEx : SExpr :=
  .bin .assignment (.var 0)
    (.bin .add (.bin .add (.bin .add (.var 1) (.lit .intLiteral))
      (.call 5 (.cons (.bin .add (.var 2) (.lit .intLiteral)) .nil)))
      (.tern (.var 2) (.lit .intLiteral) (.lit .intLiteral)))

example :
    (match elabE true ΓEx sEx with
     | .ok (i, τ) =>
       (match unelab (uniqueNames ΓEx) i with
        | some s' =>
          (match elabE true (uniqueNames ΓEx) s' with
           | .ok (_, τ') => decide (τ' = τ) && decide (τ = ⟨⟨{}, .scalar .float32⟩, .lvalue⟩)
           | .error _ => false)
        | none => false)
     | .error _ => false) = true := by decide +kernel

/-- the hypotheses of the theorem hold for it -/
example : SrcOk sEx := by simp [sEx, SrcOk, SrcArgsOk]; decide +kernel

/-- `int3 v0; bool3 v1; bool v2;` -/
def ΓVec : Env := { vars := [⟨{}, .vector .int32 3⟩, ⟨{}, .vector .bool 3⟩, ⟨{}, .scalar .bool⟩], funcs := [] }

/-- non-vacuity on the class fixes 40c6233 / c05bffa made exportable (vector / matrix operations and conditional
    expressions with a literal operand / arm: `v2 ? v0 : 1.5` is `Tern(v2, Cast(float3, v0), Cast(float3, FloatLiteral))`,
    exported `v2 ? (float3)v0 : (float3)1.5`; the
    working type without them is a vector of `IntLiteral` / `FloatLiteral`, which no exporter can name): `v1 + 1` elaborates
    to `Add(Cast(int3, v1), Cast(int3, IntLiteral 1))`, `v0 * 1.5` to `Mul(Cast(float3, v0), Cast(float3, FloatLiteral))`;
    the exports `(int3)v1 + (int3)1` / `(float3)v0 * (float3)1.5` are accepted and elaborate to a tree of the same
    type (and, by `reelab_no_new_casts`, to the same tree: the working kind of the second generation is `int`, not
    `IntLiteral`, but the same after the remap — `arith_stable_remap`) -/
example :
    ((match elabE true ΓVec (.bin .add (.var 1) (.lit .intLiteral)) with
      | .ok (i, τ) =>
        decide (τ = ⟨⟨{}, .vector .int32 3⟩, .rvalue⟩) &&
        (match unelab (uniqueNames ΓVec) i with
         | some s' =>
           (match elabE true (uniqueNames ΓVec) s' with
            | .ok (_, τ') => decide (τ' = τ)
            | .error _ => false)
         | none => false)
      | .error _ => false) &&
     (match elabE true ΓVec (.tern (.var 2) (.var 0) (.lit .floatLiteral)) with
      | .ok (i, τ) =>
        decide (τ = ⟨⟨{}, .vector .float32 3⟩, .rvalue⟩) &&
        (match unelab (uniqueNames ΓVec) i with
         | some s' =>
           (match elabE true (uniqueNames ΓVec) s' with
            | .ok (_, τ') => decide (τ' = τ)
            | .error _ => false)
         | none => false)
      | .error _ => false) &&
     (match elabE true ΓVec (.bin .multiply (.var 0) (.lit .floatLiteral)) with
      | .ok (i, τ) =>
        decide (τ = ⟨⟨{}, .vector .float32 3⟩, .rvalue⟩) &&
        (match unelab (uniqueNames ΓVec) i with
         | some s' =>
           (match elabE true (uniqueNames ΓVec) s' with
            | .ok (_, τ') => decide (τ' = τ)
            | .error _ => false)
         | none => false)
      | .error _ => false)) = true := by decide +kernel

/-! ### `out` / `inout` arguments (fix 3758fdd) -/

/-- `float v0;`  `void g(out float1 p);`  `void h(out float p, inout float q);` -/
def ΓOut : Env :=
  { vars := [⟨{}, .scalar .float32⟩],
    funcs := [⟨7, [⟨⟨{}, .vector .float32 1⟩, .out⟩], 1, ⟨{}, .other 0⟩⟩,
              ⟨8, [⟨⟨{}, .scalar .float32⟩, .out⟩, ⟨⟨{}, .scalar .float32⟩, .inOut⟩], 2, ⟨{}, .other 0⟩⟩] }

/-- `g(v0)` with `float v0` and `void g(out float1 p)` (accepted as `g(Cast(float1, v0))` without fix 3758fdd, with an export
    `g((float1)v0)` the second generation rejects): the call itself is refused — `LvalueRequired`, as the real compiler
    reports (`lvalue is required in this context`; replayed by the two
    reproducers kept in corpus/C04.txt, findings converted to `fixed`). -/
theorem out_argument_conversion_rejected :
    ((match elabE true ΓOut (.call 7 (.cons (.var 0) .nil)) with
      | .error (.reject "LvalueRequired") => true
      | _ => false) &&
     (match elabE false ΓOut (.call 7 (.cons (.var 0) .nil)) with
      | .error (.reject "LvalueRequired") => true
      | _ => false)) = true := by decide +kernel

/-- non-vacuity of `out_arguments_plain` / `reelab_no_new_casts` on `out` and `inout` parameters: `h(v0, v0)` is
    accepted with both arguments passed as they are, exported, accepted again and elaborated to the same call -/
example :
    (match elabE true ΓOut (.call 8 (.cons (.var 0) (.cons (.var 0) .nil))) with
     | .ok (.call 1 (.cons (.var 0) (.cons (.var 0) .nil)), τ) =>
       (match unelab (uniqueNames ΓOut) (.call 1 (.cons (.var 0) (.cons (.var 0) .nil))) with
        | some s' =>
          (match elabE true (uniqueNames ΓOut) s' with
           | .ok (.call 1 (.cons (.var 0) (.cons (.var 0) .nil)), τ') => decide (τ' = τ)
           | _ => false)
        | none => false)
     | _ => false) = true := by decide +kernel

end Reelab

/-! ## The composition: the second generation is the first (C01 exporter model ∘ C09 ∘ C03 elaboration)

`e : Ir.Expr` is a first-generation expression of the C01 subset (constants with their values), `i = erase e` its
skeleton in the C03 model, `a = genExpr cx e` the tree the exporter model of C01 generates for it (names from the
`NameMap`).  The second generation is obtained by printing `a`, parsing the text, resolving names, elaborating, and
exporting again.  Each arrow is a theorem of one layer; the hypotheses that connect them are named. -/
section Fixpoint
open RsslVerif.Gen.RankTable RsslVerif.Gen.TypingTables
open RsslVerif.Model RsslVerif.Model.Conv RsslVerif.Model.Overload RsslVerif.Model.IrTyping RsslVerif.Model.Elab
open RsslVerif.Model.Fixpoint RsslVerif.Model.FixpointBridge RsslVerif.Model.GenHlsl
open RsslVerif.Lemmas.FixpointBridge RsslVerif.Lemmas.FixpointText RsslVerif.Lemmas.Roundtrip RsslVerif.Spec.Roundtrip

/-- **bridge_square.**  The exporter model of C01 and the exporter shadow `Unelab` are the same exporter: for every
    expression of the C01 subset with a C03 counterpart, the tree `GenHlsl.genExpr` generates, read back by the front
    end (`readBack`: `parse_literal`, name lookup, operator and type names), is one of the trees `Unelab` describes.
    `NamesAgree` is name hygiene (C15): an emitted name is looked up to the entity it was emitted for. -/
theorem bridge_square {Γ' : Env} {nm : Names} {cx : Ctx} {ix : Idx} (hA : NamesAgree cx ix nm Γ') {e : Ir.Expr}
    {i : IExpr} {a : HlslAst.Expr} (he : erase ix e = some i) (hg : genExpr cx e = .ok a) :
    ∃ s, readBack nm a = some s ∧ Unelab Γ' i s := genExpr_back hA e i a he hg

/-- an expression of the subset is its skeleton plus its constants (positions name entities uniquely) -/
theorem skeleton_and_constants {ix : Idx} (hI : IdxInj ix) {e e2 : Ir.Expr} {i : IExpr} (h1 : erase ix e = some i)
    (h2 : erase ix e2 = some i) (hl : leaves e = leaves e2) : e = e2 := erase_inj hI e e2 i h1 h2 hl

/-- the payloads of `parse_literal` and of the one re-tagging a re-read constant undergoes are the modelled ones
    (`rereadConst`: `i as i128`, `i as u32`, value unchanged; `retagTo`: `IntLiteral(v) ↦ Int32(v as i32)`), as
    re-extracted from typer/src/typer/expressions.rs and typer/src/casting.rs -/
theorem reread_payloads_as_modelled :
    RsslVerif.Gen.FixpointTables.parseLiteralTable.map (fun r => r.2.map (·.2)) =
      [some "v", some "v as i128", some "v as u32", none, none, some "v", some "v", some "v", some "v", none] ∧
    (RsslVerif.Gen.FixpointTables.retagPayloads.find? (fun r => r.1 == "IntLiteral" && r.2.1 == "Int32")).map (·.2.2) =
      some "v as i32" := by decide +kernel

/-- **leaf_value_preserved** — the literal leg at the level of constants: every constant the exporter can print
    (any `Int32` including `i32::MIN`, any `UInt32`, `IntLiteral` within ±(2^64−1), every float bit pattern, booleans)
    gets its value back after `generate_literal`, `parse_literal`, folding of the printed sign and re-tagging to the
    kind the skeleton has at that leaf.  This discharges the hypothesis `leaves e2 = leaves e` of `fixpoint_expr`
    leaf by leaf, up to the digits: that the printed decimal text of a float is read back to the same bits is C10
    (`lex_float_nearest`, `nearest64_correct`) plus Rust's shortest round-trip `Display` (assumption). -/
theorem leaf_value_preserved (c : Ir.Const) (a : HlslAst.Expr) (h : genLiteral c = .ok a) : leafBack c = some c :=
  RsslVerif.Lemmas.FixpointBridge.leafBack_id c a h

/-- non-vacuity: `i32::MIN` is printed `-2147483648`, read as `IntLiteral(2147483648)`, negated and re-tagged -/
example : leafBack (.int32 (BitVec.intMin 32)) = some (.int32 (BitVec.intMin 32)) ∧
    genLiteral (.int32 (BitVec.intMin 32)) = .ok (.un .Minus (.lit (.intUntyped 2147483648))) := by
  constructor
  · exact leaf_value_preserved _ _ (by rfl : genLiteral (.int32 (BitVec.intMin 32)) = .ok (.un .Minus (.lit (.intUntyped 2147483648))))
  · rfl

/-- the C09 leg for one exported tree: the printed tokens, in front of anything that ends an expression, are read by
    the parser as exactly the tree that was printed -/
def ParsesBack (a : HlslAst.Expr) : Prop :=
  ∃ t, toFmt a = some t ∧ ∀ rest, RsslVerif.Thm.C09.Stops rest → ReadsBack t rest

/-- discharged by C09's `roundtrip_expr_partial` for every exported tree in the fragment of its model (no cast; every
    literal prints as one token reading back as itself: non-negative, floats in the dyadic subset) -/
theorem parsesBack_of_c09 {a : HlslAst.Expr} {t : Format.Expr} (h : toFmt a = some t) (hwf : WF t) : ParsesBack a :=
  ⟨t, h, fun rest hr => RsslVerif.Thm.C09.roundtrip_expr_partial t hwf rest hr⟩

/-- **fixpoint_expr.**  First generation: `s` (source) elaborates to the skeleton `i : τ` of `e`, `e` exports to `a`.
    Then
    1. *(front end accepts, no new conversions)* the tree `a`, read back by the front end, elaborates in the exported
       environment — debug or release build — to `i : τ` again: same casts, same overloads, same operator types, same
       literal kinds (`bridge_square` ∘ `reelab_no_new_casts`);
    2. *(second generation = first)* every second-generation expression `e2` with that skeleton whose constants are
       those of `e` **is** `e`, so it exports to the same tree `a` — and therefore prints the same text.

    Named hypotheses and where they come from:
    * `hA : NamesAgree` — name hygiene, C15 (`verbatim`, `never_reserved`, `injective_per_scope`): the emitted names
      are looked up to the same entities; `hR : Renamed` — every exported function has its own name (same theorems);
    * `hlit : leaves e2 = leaves e` (in 2.) — literal exactness: the constants of the second generation are those of
      the first, i.e. each printed literal is re-read with its value (C10 `lex_float_nearest`, `int_value_exact`, C01
      `literal_value_preserved`) and re-tagged to its kind with that value; checked value by value by the `C04.reelab`
      oracle on the real compiler;
    * `hs` — as in `reelab_no_new_casts`.
    The text leg (print ∘ parse = id on `a`) is `ParsesBack a`, see `fixpoint_expr_text`. -/
theorem fixpoint_expr {Γ Γ' : Env} (hR : Renamed Γ Γ') {nm : Names} {cx : Ctx} {ix : Idx}
    (hA : NamesAgree cx ix nm Γ') (hI : IdxInj ix) (dbg dbg' : Bool) {s : SExpr} {i : IExpr} {τ : ETy}
    (hs : SrcOk s) (hel : elabE dbg Γ s = .ok (i, τ))
    {e : Ir.Expr} (he : erase ix e = some i) {a : HlslAst.Expr} (hg : genExpr cx e = .ok a) :
    (∃ s', readBack nm a = some s' ∧ elabE dbg' Γ' s' = .ok (i, τ)) ∧
    (∀ e2, erase ix e2 = some i → leaves e2 = leaves e → e2 = e ∧ genExpr cx e2 = .ok a) := by
  refine ⟨?_, ?_⟩
  · obtain ⟨s', hrb, hu⟩ := bridge_square hA he hg
    exact ⟨s', hrb, reelab_no_new_casts hR dbg dbg' hs hel hu⟩
  · intro e2 he2 hlit
    have : e2 = e := skeleton_and_constants hI he2 he hlit
    subst this
    exact ⟨rfl, hg⟩

/-- **fixpoint_expr_text.**  With the C09 leg: the text printed for the first generation is read by the parser as the
    exported tree (so the front end sees `a`), and the text printed for the second generation — the print of the
    export of any `e2` as in `fixpoint_expr` — is byte for byte the text printed for the first. -/
theorem fixpoint_expr_text {cx : Ctx} {ix : Idx} (hI : IdxInj ix) {e : Ir.Expr} {i : IExpr} {a : HlslAst.Expr}
    (he : erase ix e = some i) (hg : genExpr cx e = .ok a) (hparse : ParsesBack a) :
    ∃ t, toFmt a = some t ∧ (∀ rest, RsslVerif.Thm.C09.Stops rest → ReadsBack t rest) ∧
      ∀ e2 a2 t2, erase ix e2 = some i → leaves e2 = leaves e → genExpr cx e2 = .ok a2 → toFmt a2 = some t2 →
        Format.render (Format.fmtExpr t2) = Format.render (Format.fmtExpr t) := by
  obtain ⟨t, ht, hrb⟩ := hparse
  refine ⟨t, ht, hrb, ?_⟩
  intro e2 a2 t2 he2 hlit hg2 ht2
  have : e2 = e := skeleton_and_constants hI he2 he hlit
  subst this
  rw [hg] at hg2
  cases hg2
  rw [ht] at ht2
  cases ht2
  rfl

/-- **fixpoint_stmt** (the statement forms of the C03 model: expression statement, `return`, initialised definition).
    The statement the exporter model of C01 generates (`GenHlsl.genStmt`: `generate_statement`,
    `generate_variable_definition`), read back by the front end, elaborates in the exported environment to the
    first-generation statement: the conversion to the return type / to the variable's type is found again and applied to
    the same effect.  (`if` / loops / `switch` / blocks carry no conversion of their own — conditions are elaborated
    like expression statements — and are outside the C03 statement model; their expressions are covered by
    `fixpoint_expr`, their print / parse round trip by C09.) -/
theorem fixpoint_stmt {Γ Γ' : Env} (hR : Renamed Γ Γ') {nm : Names} {cx : Ctx} {ix : Idx}
    (hA : NamesAgree cx ix nm Γ') (dbg dbg' : Bool) {s : SStmt} {st : IStmt} (hs : SrcStmtOk s)
    (hel : elabStmt dbg Γ s = .ok st)
    {stI : Ir.Stmt} (he : eraseStmt ix cx.vty stI = some st) {sa : HlslAst.Stmt} (hg : genStmt cx stI = .ok sa) :
    ∃ s', readBackStmt nm sa = some s' ∧ elabStmt dbg' Γ' s' = .ok st := by
  obtain ⟨s', hrb, hu⟩ := genStmt_back hA he hg
  exact ⟨s', hrb, reelab_stmt_no_new_casts hR dbg dbg' hs hel hu⟩

/-! ### non-vacuity: `a = b + 3` with `int a, b` -/

def cxEx : Ctx where
  locName n := match n with | 0 => "a" | 1 => "b" | _ => "v"
  globName _ := "g"
  funcName _ := "f"
  vty _ := .int

def ixEx : Idx where
  var v := match v with | .loc 0 => some 0 | .loc 1 => some 1 | _ => none
  func _ := none

def nmEx : Names where
  res n := if n = "a" then some 0 else if n = "b" then some 1 else none
  fres _ := none

def ΓInt : Env := { vars := [⟨{}, .scalar .int32⟩, ⟨{}, .scalar .int32⟩], funcs := [] }

/-- `Assignment(a, Add(b, Int32 3))` -/
def eEx : Ir.Expr :=
  .op .Assignment (.cons (.var 0) (.cons (.op .Add (.cons (.var 1) (.cons (.lit (.int32 3)) .nil))) .nil))

def aEx : HlslAst.Expr := .bin .Assignment (.ident "a") (.bin .Add (.ident "b") (.lit (.intUntyped 3)))

/-- `ixEx` knows the locals `a` and `b`, each at its own position -/
theorem ixEx_var {v : Ir.Var} {j : Nat} (h : ixEx.var v = some j) : v = .loc j ∧ (j = 0 ∨ j = 1) := by
  simp only [ixEx] at h
  split at h <;> cases h <;> simp

theorem namesAgreeEx : NamesAgree cxEx ixEx nmEx ΓInt where
  loc id j h := by
    obtain ⟨hv, rfl | rfl⟩ := ixEx_var h <;> cases hv <;> rfl
  glob _ _ h := nomatch (ixEx_var h).1
  func _ _ h := nomatch h

theorem idxInjEx : IdxInj ixEx where
  var _ _ _ hv hw := (ixEx_var hv).1.trans (ixEx_var hw).1.symm
  func _ _ _ hf _ := nomatch hf

/-- all hypotheses of `fixpoint_expr` and `fixpoint_expr_text` hold for the example: the text `a = b + 3` is parsed
    back to the exported tree, re-elaborated to the first-generation skeleton (the literal re-tagged to `Int32`
    again), and any second generation with the constant `3` prints `a = b + 3` again -/
example :
    (∃ s', readBack nmEx aEx = some s' ∧
      elabE true ΓInt s' = elabE true ΓInt (.bin .assignment (.var 0) (.bin .add (.var 1) (.lit .intLiteral)))) ∧
    ParsesBack aEx := by
  have hR : Renamed ΓInt ΓInt :=
    ⟨rfl, rfl, fun f sg h => by simp [ΓInt] at h, fun f g sf sg h => by simp [ΓInt] at h⟩
  have hel : ∃ i τ, elabE true ΓInt (.bin .assignment (.var 0) (.bin .add (.var 1) (.lit .intLiteral))) = .ok (i, τ) ∧
      erase ixEx eEx = some i := ⟨_, _, rfl, rfl⟩
  obtain ⟨i, τ, h1, h2⟩ := hel
  have hg : genExpr cxEx eEx = .ok aEx := by rfl
  obtain ⟨⟨s', hrb, hs'⟩, _⟩ := fixpoint_expr hR namesAgreeEx idxInjEx true true
    (by simp [SrcOk]; decide +kernel) h1 h2 hg
  refine ⟨⟨s', hrb, by rw [hs', h1]⟩, ?_⟩
  exact parsesBack_of_c09 (t := .bin .Assignment (.id "a") (.bin .Add (.id "b") (.lit ⟨.IntUntyped, false, 3⟩))) rfl
    (by simp [WF]; decide +kernel)

end Fixpoint

/-! ## name lookup of the emitted paths (`Model.FixpointNames`) -/
section Names
open RsslVerif.Model.FixpointNames RsslVerif.Lemmas.FixpointNames
open RsslVerif.Gen.RankTable RsslVerif.Gen.TypingTables
open RsslVerif.Model RsslVerif.Model.Conv RsslVerif.Model.Overload RsslVerif.Model.IrTyping RsslVerif.Model.Elab
open RsslVerif.Model.Fixpoint RsslVerif.Model.FixpointBridge RsslVerif.Model.GenHlsl

/-- **path_lookup_as_modelled.**  The lookup discipline `Model.FixpointNames.find` / `walkInto` / `findInScope` / `emitPath`
    mirror is the one of the current source: the bodies of `Context::find_identifier`, `Context::walk_into_scopes` and
    `scoped_name_to_identifier`, re-extracted on every run (`Gen.PathLookup`), are the transcribed ones; a relative
    identifier starts in the current scope and an absolute one in scope 0; the exporter builds relative identifiers;
    `find_identifier_in_scope` tries locals, then the symbol loop (functions are gathered, every value symbol returns,
    types / namespaces / enum scopes are skipped), then the overloads, then struct members, then types.  A change of the
    outward walk (seeded mutant C04-3: stop at the innermost scope that declares the first qualifier) breaks this
    obligation.  Declarations: `register_enum_value` refuses a value of the enum's own scope, then a local / global /
    cbuffer member / enum value / type / function of the scope that contains the enum, then (fix fe5dd8d) a namespace of
    that scope — `enumValueRefused`; the promotion loop of `end_enum` has no assertion about the other symbols of the
    name (a revert of the fix breaks both conjuncts). -/
theorem path_lookup_as_modelled :
    RsslVerif.Gen.PathLookup.findIdentifierSource = findIdentifierSource ∧
    RsslVerif.Gen.PathLookup.walkIntoScopesSource = walkIntoScopesSource ∧
    RsslVerif.Gen.PathLookup.scopedNameToIdentifierSource = scopedNameToIdentifierSource ∧
    RsslVerif.Gen.PathLookup.startScope = [("Relative", "self.current_scope"), ("Absolute", "0")] ∧
    RsslVerif.Gen.PathLookup.emittedBase = "Relative" ∧
    RsslVerif.Gen.PathLookup.findInScopeStages = findInScopeStages ∧
    RsslVerif.Gen.PathLookup.findInScopeArms = findInScopeArms ∧
    RsslVerif.Gen.PathLookup.enumValueChecks = enumValueChecks ∧
    RsslVerif.Gen.PathLookup.endEnumPromotion = endEnumPromotion :=
  ⟨rfl, rfl, rfl, rfl, rfl, rfl, rfl, rfl, rfl⟩

/-- the exporter's identifier for a qualified name is relative, its qualifiers and leaf are the segments in order -/
theorem emitPath_relative {full : List String} {p : Path} (h : emitPath full = some p) :
    p.abs = false ∧ p.quals ++ [p.leaf] = full := by
  unfold emitPath at h
  split at h
  · cases h
  · rename_i leaf rq hrev
    cases h
    refine ⟨rfl, ?_⟩
    have : full = (leaf :: rq).reverse := by rw [← hrev, List.reverse_reverse]
    simp [this]

/-- one use of the exported program: the scope it stands in, the full printed path (from the root) of the entity the
    first generation resolved it to, and that entity -/
structure EmittedUse where
  scope : Nat
  full : List String
  ent : Model.FixpointNames.Res

/-- **PathsResolveBack** — what the re-resolution of the emitted paths must satisfy for the second generation to be
    the first (the name-hygiene hypothesis of `fixpoint_expr`, spelled out for qualified names): in the scope table `T'`
    the front end has built from the exported program when it reaches the use, `find_identifier` — started in the scope of
    the use, with the *relative* identifier `scoped_name_to_identifier` builds from the full path of the entity — returns
    that entity. -/
def PathsResolveBack (T' : Table) (uses : List EmittedUse) : Prop :=
  ∀ u ∈ uses, ∃ p, emitPath u.full = some p ∧ find T' u.scope p = .ok (some u.ent)

/-- the full path denotes the entity when it is followed from the root of the exported program (`get_name_qualified`
    lists the namespaces from the root; names are unique per scope in the output: C15 `injective_per_scope`) -/
def DenotesFromRoot (T' : Table) (u : EmittedUse) : Prop :=
  ∃ p, emitPath u.full = some p ∧ resolveAt T' 0 p.quals p.leaf = .ok (some u.ent)

/-- no scope between the use and the root resolves the whole emitted path -/
def NoCloserMatch (T' : Table) (u : EmittedUse) : Prop :=
  ∃ p, emitPath u.full = some p ∧ ∀ v, OnChain T' u.scope v → v ≠ 0 → resolveAt T' v p.quals p.leaf = .ok none

/-- no scope between the use and the root declares anything under the first name of the emitted path ("no homonymous
    inner scope") -/
def NoInnerHomonym (T' : Table) (u : EmittedUse) : Prop :=
  ∃ p, emitPath u.full = some p ∧
    ∀ v sc, OnChain T' u.scope v → v ≠ 0 → T'[v]? = some sc → Undeclared sc (headName p.quals p.leaf)

theorem noCloserMatch_of_noInnerHomonym {T' : Table} (wf : TableWF T') {u : EmittedUse} (hu : u.scope < T'.length)
    (h : NoInnerHomonym T' u) : NoCloserMatch T' u := by
  obtain ⟨p, hp, hno⟩ := h
  exact ⟨p, hp, clear_of_undeclared wf hu hno⟩

/-- **emitted_path_resolves_of_no_closer_match** (the code's discipline, full strength): in a well-formed scope table, an
    emitted path that denotes its entity from the root and that no scope between the use and the root resolves is looked
    up, from the scope of the use, to that entity — for every table, every nesting depth, every path length. -/
theorem emitted_path_resolves_of_no_closer_match {T' : Table} (wf : TableWF T') (u : EmittedUse) (hu : u.scope < T'.length)
    (hd : DenotesFromRoot T' u) (hc : NoCloserMatch T' u) :
    ∃ p, emitPath u.full = some p ∧ find T' u.scope p = .ok (some u.ent) := by
  obtain ⟨p, hp, hroot⟩ := hd
  obtain ⟨p', hp', hclear⟩ := hc
  rw [hp] at hp'; cases hp'
  exact ⟨p, hp, find_of_root_only wf hu (emitPath_relative hp).1 hroot hclear⟩

/-- **emitted_path_resolves_to_same_entity**: for scope trees without a homonymous inner scope — nothing between the use
    and the root declares the first name of the emitted path — the emitted path is looked up to the entity it was printed
    for, **under both disciplines**: the code's (retry the whole path from every enclosing scope) and the one of seeded
    mutant C04-3 (stop where the first qualifier resolves).  The two differ only on tables with such a homonym
    (`mutant_discipline_loses_emitted_path`). -/
theorem emitted_path_resolves_to_same_entity {T' : Table} (wf : TableWF T') (u : EmittedUse) (hu : u.scope < T'.length)
    (hd : DenotesFromRoot T' u) (hn : NoInnerHomonym T' u) :
    ∃ p, emitPath u.full = some p ∧ find T' u.scope p = .ok (some u.ent) ∧ findStop T' u.scope p = .ok (some u.ent) := by
  obtain ⟨p, hp, hf⟩ := emitted_path_resolves_of_no_closer_match wf u hu hd (noCloserMatch_of_noInnerHomonym wf hu hn)
  obtain ⟨p1, hp1, hroot⟩ := hd
  obtain ⟨p2, hp2, hno⟩ := hn
  rw [hp] at hp1 hp2; cases hp1; cases hp2
  exact ⟨p, hp, hf, findStop_of_undeclared wf hu (emitPath_relative hp).1 hroot hno⟩

/-- `PathsResolveBack` holds for every exported program whose uses have no closer match — in particular
    (`noCloserMatch_of_noInnerHomonym`) when no inner scope reuses the first name of an emitted path -/
theorem pathsResolveBack_of_no_closer_match {T' : Table} (wf : TableWF T') (uses : List EmittedUse)
    (h : ∀ u ∈ uses, u.scope < T'.length ∧ DenotesFromRoot T' u ∧ NoCloserMatch T' u) : PathsResolveBack T' uses :=
  fun u hu => emitted_path_resolves_of_no_closer_match wf u (h u hu).1 (h u hu).2.1 (h u hu).2.2

/-- the tables of the descriptor machine are well formed: `TableWF` is not an assumption for the programs of the
    `C04.names` stream -/
theorem machine_tables_wf (is : List Instr) : TableWF (run is).T ∧ (run is).cur < (run is).T.length :=
  ⟨(run_inv is).good.1, (run_inv is).cur⟩

/-! ### witnesses -/

/-- **enum_value_named_like_namespace_refused** (fix fe5dd8d: `register_enum_value` refuses the name, where
    `end_enum` ran into its assertion).  For every descriptor prefix `pre`, every enum — any
    name, any list of values — one of whose values is spelled like a namespace / enum scope of the scope the enum stands
    in, and every continuation `rest`: the compilation of `pre ++ en n vals :: rest` does not end with every use
    resolved (`register_enum_value` returns `ValueAlreadyDefined`; `verdictOf` is `reject`, or the outcome of a use in
    front of the enum).  No bound on depth, number of values or position of the value. -/
theorem enum_value_named_like_namespace_refused (pre rest : List Instr) (n : String) {vals : List String} {v : String}
    (hv : v ∈ vals) (hns : HasScopeSym (run pre).T (run pre).cur v) (xs : List String) :
    verdictOf (run (pre ++ .en n vals :: rest)) ≠ .resolved xs :=
  run_en_refused pre rest n hv hns xs

/-- the step itself, in every state: the refusal is recorded with the number of uses in front of the enum -/
theorem enum_value_named_like_namespace_refused_step (st : St) (n : String) {vals : List String} {v : String} (hv : v ∈ vals)
    (hns : HasScopeSym st.T st.cur v) :
    ∃ why, (exec st (.en n vals)).refused = st.refused.orElse fun _ => some (st.uses.length, why) :=
  exec_en_refused st n hv hns

/-- non-vacuity, on the reproducer of fix fe5dd8d: `namespace A {} enum E { A };` (corpus: `ns A end en E A end`) is refused —
    also with other values around it, inside a namespace, and with a use in front; an enum whose values meet no
    namespace is accepted and its uses resolve (`ns A end en E B end` + a use of `B`) -/
example :
    HasScopeSym (run [.ns "A", .end]).T (run [.ns "A", .end]).cur "A" ∧
    verdictOf (run [.ns "A", .end, .en "E" ["A"]]) = .reject ∧
    verdictOf (run [.ns "M", .ns "A", .gv "q", .end, .gv "g", .fn "f" "-", .use .v ⟨false, [], "g"⟩, .end,
                    .en "E" ["V1", "A", "V2"], .end]) = .reject ∧
    (run [.ns "A", .end, .en "E" ["B"], .fn "f" "-", .use .e ⟨false, [], "B"⟩, .end]).refused = none ∧
    verdictOf (run [.ns "A", .end, .en "E" ["B"], .fn "f" "-", .use .e ⟨false, [], "B"⟩, .end]) = .resolved ["v1"] := by
  refine ⟨⟨_, rfl, by decide +kernel⟩, by decide +kernel, by decide +kernel, by decide +kernel, by decide +kernel⟩

/-- `namespace Util { int twice(int); } namespace App { namespace Util { int halve(int); } int f(int) { ::Util::twice(K); } }` -/
def homonymInstrs : List Instr :=
  [.ns "Util", .fn "twice" "-", .end, .end,
   .ns "App", .ns "Util", .fn "halve" "-", .end, .end, .fn "f" "-", .use .f ⟨true, ["Util"], "twice"⟩, .end, .end]

def homonymTable : Table := (run homonymInstrs).T

/-- the use `::Util::twice` of `App::f`: scope 6 (the body of `f`), entity 0 (`Util::twice`), emitted `Util::twice` -/
def homonymUse : EmittedUse := ⟨6, ["Util", "twice"], .fns [0]⟩

/-- the machine puts the use there and resolves the source path to that entity -/
example : (run homonymInstrs).uses.map (fun u => (u.scope, u.res)) = [(6, .ok (some (.fns [0])))] := by decide +kernel

/-- **mutant_discipline_loses_emitted_path** (negation witness for the discipline of seeded mutant C04-3): with a nested
    namespace `App::Util` next to `::Util`, the emitted path `Util::twice` denotes `twice` from the root and no enclosing
    scope resolves the whole path (so the code's discipline finds it: `PathsResolveBack` holds), but `App` declares the
    first qualifier — the stop-at-the-first-qualifier discipline gives up in `App` and reports an unknown identifier.
    The same program is the first entry of `SEARCH_NAMES` / corpus and is rejected by the real compiler with the mutant. -/
theorem mutant_discipline_loses_emitted_path :
    DenotesFromRoot homonymTable homonymUse ∧
    PathsResolveBack homonymTable [homonymUse] ∧
    findStop homonymTable homonymUse.scope ⟨false, ["Util"], "twice"⟩ = .ok none ∧
    ¬ NoInnerHomonym homonymTable homonymUse := by
  -- everything that is evaluated on the table: scope 3 is `App`, the parent of the body of `f` (scope 6); it declares `Util`
  have hev : emitPath homonymUse.full = some ⟨false, ["Util"], "twice"⟩ ∧
      resolveAt homonymTable 0 ["Util"] "twice" = .ok (some homonymUse.ent) ∧
      find homonymTable homonymUse.scope ⟨false, ["Util"], "twice"⟩ = .ok (some homonymUse.ent) ∧
      findStop homonymTable homonymUse.scope ⟨false, ["Util"], "twice"⟩ = .ok none ∧
      (homonymTable[6]?.bind (·.parent)) = some 3 ∧ (homonymTable[3]?.map (undeclared · "Util")) = some false := by
    decide +kernel
  obtain ⟨hemit, hroot, hfind, hstop, hpar, hdecl⟩ := hev
  refine ⟨⟨_, hemit, hroot⟩, ?_, hstop, ?_⟩
  · intro u hu
    cases List.mem_singleton.1 hu
    exact ⟨_, hemit, hfind⟩
  · rintro ⟨p, hp, hno⟩
    cases hemit.symm.trans hp
    obtain ⟨sc6, h6, hp6⟩ := Option.bind_eq_some_iff.1 hpar
    obtain ⟨sc3, h3, hd3⟩ := Option.map_eq_some_iff.1 hdecl
    have := hno 3 sc3 (.step h6 hp6 (.refl 3)) (by decide) h3
    exact absurd (undeclared_iff.mpr this) (by simp [headName, hd3])

/-- `namespace Util { int twice(int); } namespace App { namespace Util { int twice(int); } int f(int) { ::Util::twice(K); } }` -/
def captureInstrs : List Instr :=
  [.ns "Util", .fn "twice" "-", .end, .end,
   .ns "App", .ns "Util", .fn "twice" "-", .end, .end, .fn "f" "-", .use .f ⟨true, ["Util"], "twice"⟩, .end, .end]

/-- **emitted_path_captured_witness** (negation witness on the current code — the known findings
    `names:relative-path-captured/..`, C15 `relative-path-resolves-elsewhere`): when a scope between the use and the root
    resolves the whole emitted path, the code's discipline returns that closer entity: `::Util::twice` (entity 0), emitted
    as `Util::twice` inside `App`, is looked up to `App::Util::twice` (entity 2), so `PathsResolveBack` fails.  Replayed on
    the real compiler (corpus): the second generation prints `App::Util::twice`. -/
theorem emitted_path_captured_witness :
    (run captureInstrs).uses.map (fun u => (u.scope, u.res)) = [(6, .ok (some (.fns [0])))] ∧
    find (run captureInstrs).T 6 ⟨false, ["Util"], "twice"⟩ = .ok (some (.fns [2])) ∧
    ¬ PathsResolveBack (run captureInstrs).T [⟨6, ["Util", "twice"], .fns [0]⟩] := by
  refine ⟨by decide +kernel, by decide +kernel, ?_⟩
  intro h
  obtain ⟨p, hp, hf⟩ := h ⟨6, ["Util", "twice"], .fns [0]⟩ (by simp)
  have : emitPath ["Util", "twice"] = some ⟨false, ["Util"], "twice"⟩ := by decide +kernel
  rw [this] at hp; cases hp
  revert hf
  decide +kernel

/-- `namespace Util { int twice(int); } namespace App { namespace Detail { int halve(int); } int f(int) { ::Util::twice(K); } }` -/
def plainInstrs : List Instr :=
  [.ns "Util", .fn "twice" "-", .end, .end,
   .ns "App", .ns "Detail", .fn "halve" "-", .end, .end, .fn "f" "-", .use .f ⟨true, ["Util"], "twice"⟩, .end, .end]

/-- non-vacuity of `emitted_path_resolves_to_same_entity`: the table of a program with nested namespaces of other names
    satisfies every hypothesis (well-formedness comes from `machine_tables_wf`), and both disciplines find the entity -/
example :
    ∃ p, emitPath ["Util", "twice"] = some p ∧ find (run plainInstrs).T 6 p = .ok (some (.fns [0])) ∧
      findStop (run plainInstrs).T 6 p = .ok (some (.fns [0])) := by
  have wf := (machine_tables_wf plainInstrs).1
  exact emitted_path_resolves_to_same_entity wf ⟨6, ["Util", "twice"], .fns [0]⟩ (by decide +kernel)
    ⟨⟨false, ["Util"], "twice"⟩, by decide +kernel, by decide +kernel⟩
    ⟨⟨false, ["Util"], "twice"⟩, by decide +kernel,
      undeclared_of_noInnerHomonymB wf (u := 6) (h := "Util") (by decide +kernel)⟩

/-! ### from `PathsResolveBack` to the name hypothesis of `fixpoint_expr` -/

/-- the lookup of the exported program seen from one use position, as the `Names` the front-end model `readBack` asks:
    `dec` splits a printed identifier into its path, `pos` / `fpos` give the position (in the C03 environment) of the
    variable / function an entity of the table is -/
def namesAt (T' : Table) (u : Nat) (dec : String → Option Path) (pos fpos : Model.FixpointNames.Res → Option Nat) : Names where
  res s := (dec s).bind fun p => match find T' u p with
    | .ok (some r) => pos r
    | _ => none
  fres s := (dec s).bind fun p => match find T' u p with
    | .ok (some r) => fpos r
    | _ => none

/-- **namesAgree_of_pathsResolveBack**: when every name the exporter printed for a variable / function of the expression
    is the emitted path of a use (at position `u`) for which `PathsResolveBack` holds, the lookup of the exported program
    agrees with the exporter's names — the hypothesis `NamesAgree` of `bridge_square` / `fixpoint_expr`. -/
theorem namesAgree_of_pathsResolveBack {T' : Table} {u : Nat} {dec : String → Option Path} {pos fpos : Model.FixpointNames.Res → Option Nat}
    {cx : Ctx} {ix : Idx} {Γ' : Env} (uses : List EmittedUse) (hP : PathsResolveBack T' uses)
    (hloc : ∀ id j, ix.var (.loc id) = some j →
      ∃ e ∈ uses, e.scope = u ∧ dec (cx.locName id) = emitPath e.full ∧ pos e.ent = some j)
    (hglob : ∀ id j, ix.var (.glob id) = some j →
      ∃ e ∈ uses, e.scope = u ∧ dec (cx.globName id) = emitPath e.full ∧ pos e.ent = some j)
    (hfunc : ∀ f j, ix.func f = some j →
      (∃ e ∈ uses, e.scope = u ∧ dec (cx.funcName f) = emitPath e.full ∧ fpos e.ent = some j) ∧
      ∃ sg, Γ'.funcs[j]? = some sg ∧ sg.name = j) :
    NamesAgree cx ix (namesAt T' u dec pos fpos) Γ' := by
  -- a printed name that is the emitted path of a use at `u` is looked up to that use's entity
  have key : ∀ {s : String} {g : Model.FixpointNames.Res → Option Nat} {j : Nat},
      (∃ e ∈ uses, e.scope = u ∧ dec s = emitPath e.full ∧ g e.ent = some j) →
      ((dec s).bind fun p => match find T' u p with
        | .ok (some r) => g r
        | _ => none) = some j := by
    rintro s g j ⟨e, he, rfl, hd, hj⟩
    obtain ⟨p, hp, hf⟩ := hP e he
    simp [hd, hp, hf, hj]
  exact ⟨fun id j h => key (hloc id j h), fun id j h => key (hglob id j h),
    fun f j h => ⟨key (hfunc f j h).1, (hfunc f j h).2⟩⟩

/-- **fixpoint_expr_paths** — `fixpoint_expr` with the name hypothesis stated on the scope table of the exported program:
    if the emitted paths resolve back (`PathsResolveBack`, e.g. by `pathsResolveBack_of_no_closer_match`), the exported
    tree read back through that table elaborates to the first-generation skeleton again, and the second generation is the
    first. -/
theorem fixpoint_expr_paths {Γ Γ' : Env} (hR : Renamed Γ Γ') {T' : Table} {u : Nat} {dec : String → Option Path}
    {pos fpos : Model.FixpointNames.Res → Option Nat} {cx : Ctx} {ix : Idx} (uses : List EmittedUse) (hP : PathsResolveBack T' uses)
    (hloc : ∀ id j, ix.var (.loc id) = some j →
      ∃ e ∈ uses, e.scope = u ∧ dec (cx.locName id) = emitPath e.full ∧ pos e.ent = some j)
    (hglob : ∀ id j, ix.var (.glob id) = some j →
      ∃ e ∈ uses, e.scope = u ∧ dec (cx.globName id) = emitPath e.full ∧ pos e.ent = some j)
    (hfunc : ∀ f j, ix.func f = some j →
      (∃ e ∈ uses, e.scope = u ∧ dec (cx.funcName f) = emitPath e.full ∧ fpos e.ent = some j) ∧
      ∃ sg, Γ'.funcs[j]? = some sg ∧ sg.name = j)
    (hI : IdxInj ix) (dbg dbg' : Bool) {s : SExpr} {i : IExpr} {τ : ETy}
    (hs : SrcOk s) (hel : elabE dbg Γ s = .ok (i, τ))
    {e : Ir.Expr} (he : erase ix e = some i) {a : HlslAst.Expr} (hg : genExpr cx e = .ok a) :
    (∃ s', readBack (namesAt T' u dec pos fpos) a = some s' ∧ elabE dbg' Γ' s' = .ok (i, τ)) ∧
    (∀ e2, erase ix e2 = some i → leaves e2 = leaves e → e2 = e ∧ genExpr cx e2 = .ok a) :=
  fixpoint_expr hR (namesAgree_of_pathsResolveBack uses hP hloc hglob hfunc) hI dbg dbg' hs hel he hg

end Names

/-! ## Template value arguments: the literal KIND leg (seeded mutant C04-4)

`leaf_value_preserved` speaks of the *values* of constants.  A constant also has a *kind*, and the printed text carries
it only through its spelling: `3` is an `IntLiteral`, `3u` a `UInt32`, `true` a `Bool` — an `Int32` has no spelling of
its own (`reread_only_int32`).  For constants that arise under a conversion (`int y = 3;`) the conversion is found again
(`reelab_no_new_casts`).  A template value parameter is the place where a constant enters an expression **without** a
conversion: every use of `N` inside the instance is a constant of the kind recorded for the argument. -/
section Template
open RsslVerif.Gen.RankTable RsslVerif.Gen.TypingTables
open RsslVerif.Model.Conv RsslVerif.Model.Overload RsslVerif.Model.IrTyping RsslVerif.Model.Elab RsslVerif.Model.Fixpoint
open RsslVerif.Model.FixpointTemplate RsslVerif.Lemmas.FixpointTemplate RsslVerif.Lemmas.FixpointElab
open RsslVerif.Lemmas.FixpointStmt

/-- **template_const_as_modelled** (obligation, re-extracted on every run by `Gen.TemplateConst`): `find_overload_casts`
    records a constant template argument unchanged (`Constant(c) => Constant(c)`: `recordKind = restrictKind`; seeded
    mutant C04-4 breaks this conjunct); `parse_and_evaluate_constant_expression` and `unrestrict` keep the kind of every
    constant (`restrictKind`, `unrestrictKind`; the 64-bit kinds are outside `Scalar`); the instance gets
    `ScopeSymbol::Constant(c.unrestrict())` for the parameter (`substValue`); the call site prints
    `generate_literal(c.unrestrict())` (`secondRecordKind` goes through `rereadKind`); the parameter's printed type name
    per kind is `valueTypeName`. -/
theorem template_const_as_modelled :
    RsslVerif.Gen.TemplateConst.recordArms =
      [("Type", "ir::TypeOrConstant::Type(normalize_template_type(ty, context))"),
       ("Constant", "ir::TypeOrConstant::Constant(c)")] ∧
    (∀ k : Scalar, (RsslVerif.Gen.TemplateConst.restrictTable.find? (fun r => r.1 == k.name)).map (·.2) =
      (restrictKind k).map Scalar.name) ∧
    (∀ r ∈ RsslVerif.Gen.TemplateConst.restrictTable, r.1 = r.2) ∧
    (∀ r ∈ RsslVerif.Gen.TemplateConst.unrestrictTable, r.1 = r.2) ∧
    (∀ r ∈ RsslVerif.Gen.TemplateConst.restrictTable, r ∈ RsslVerif.Gen.TemplateConst.unrestrictTable) ∧
    RsslVerif.Gen.TemplateConst.substitutedSymbol = "ScopeSymbol::Constant(c.clone().unrestrict())" ∧
    RsslVerif.Gen.TemplateConst.callSiteExpr = "generate_literal(&c.clone().unrestrict(), context)?" ∧
    (∀ k : Scalar, (RsslVerif.Gen.TemplateConst.valueTypeNames.find? (fun r => r.1 == k.name)).map (·.2) =
      valueTypeName k) := by
  refine ⟨rfl, ?_, by decide +kernel, by decide +kernel, by decide +kernel, rfl, rfl, ?_⟩
  · intro k; cases k <;> decide +kernel
  · intro k; cases k <;> decide +kernel

/-- **emitted_literal_kind_stable** — the KIND clause next to `leaf_value_preserved`.  (1) every constant kind except
    `Int32` is read back from its printed spelling with the kind the IR constant had (all eight scalar kinds are
    printed and accepted); (2) a template argument the parser can write as a literal (any suffix kind `l` that
    `parse_literal` accepts and the evaluator admits as a template argument) is recorded with a kind `r` that is not
    `Int32`, the constant substituted for the parameter has that kind, and the second compilation — which sees the
    argument as printed at the call site — records `r` again; (3) in general the second compilation records
    `if r = Int32 then IntLiteral else r`.  The discipline of seeded mutant C04-4 records a literal argument as `Int32`
    (`mutant_discipline_loses_literal_kind`). -/
theorem emitted_literal_kind_stable :
    (∀ k : Scalar, k ≠ .int32 → rereadKind? k = some k) ∧
    (∀ (l : RsslVerif.Gen.HlslGenTables.LitKind) (k r : Scalar), rereadTable l = some k → recordKind k = some r →
      r ≠ .int32 ∧ instanceKind r = k ∧ rereadKind (instanceKind r) = instanceKind r ∧ secondRecordKind r = some r) ∧
    (∀ k r : Scalar, recordKind k = some r → secondRecordKind r = some (if r = .int32 then .intLiteral else r)) := by
  refine ⟨?_, ?_, ?_⟩
  · intro k hk; cases k <;> first | exact absurd rfl hk | decide +kernel
  · intro l k r hl hr
    cases l <;> simp [rereadTable] at hl <;> subst hl <;> revert hr <;> cases r <;> decide +kernel
  · intro k r hr
    cases k <;> simp [recordKind, restrictKind] at hr <;> subst hr <;> decide +kernel

/-- the second generation of an instance body.  Let `body` be a template body the parser can produce (`SrcOk`), `x` its
    value parameter and `r` the kind recorded for the argument, **not `Int32`** (by `emitted_literal_kind_stable` every
    argument written as a literal qualifies).  Then the instance body `substValue x r body` is again a parser-producible
    tree, so `reelab_no_new_casts` applies to it: every tree read from the export of its elaboration elaborates to the
    same IR — no conversion appears around `N + 1`. -/
theorem template_instance_reelab {Γ Γ' : Env} (hR : Renamed Γ Γ') (dbg dbg' : Bool) (x : Nat) {r : Scalar}
    (hr : r ≠ .int32) {body : SExpr} (hb : SrcOk body) {i : IExpr} {τ : ETy}
    (h : elabE dbg Γ (substValue x (instanceKind r) body) = .ok (i, τ)) {s' : SExpr} (hu : Unelab Γ' i s') :
    elabE dbg' Γ' s' = .ok (i, τ) :=
  reelab_no_new_casts hR dbg dbg' (subst_srcOk x (rereadKind_of_ne hr) body hb) h hu

/-- …and for the statements of the C03 model (initialised definition, `return`, expression statement) -/
theorem template_instance_reelab_stmt {Γ Γ' : Env} (hR : Renamed Γ Γ') (dbg dbg' : Bool) (x : Nat) {r : Scalar}
    (hr : r ≠ .int32) {body : SStmt} (hb : SrcStmtOk body) {st : IStmt}
    (h : elabStmt dbg Γ (substStmt x (instanceKind r) body) = .ok st) {s' : SStmt} (hu : UnelabStmt Γ' st s') :
    elabStmt dbg' Γ' s' = .ok st :=
  reelab_stmt_no_new_casts hR dbg dbg' (substStmt_srcOk x (rereadKind_of_ne hr) body hb) h hu

/-- `template<int N> .. { int y = N + 1; }`: variable 0 is `N`, variable 1 an `int` -/
def ΓTpl : Env := { vars := [⟨{}, .scalar .int32⟩, ⟨{}, .scalar .int32⟩], funcs := [] }

/-- `int y = N + 1;` -/
def tplBody : SStmt := .init ⟨{}, .scalar .int32⟩ (.bin .add (.var 0) (.lit .intLiteral))

/-- non-vacuity of `template_instance_reelab_stmt`: `f<3>` — the instance body `int y = 3 + 1;` (literal arithmetic under
    a conversion to `int`) is accepted, its export `int y = (int)(3 + 1);` is accepted and elaborates to the same
    statement; `f<3u>` likewise -/
example :
    (match elabStmt true ΓTpl (substStmt 0 (instanceKind .intLiteral) tplBody) with
     | .ok (.init t (.cast c (.op .add args))) =>
       (match unelab (uniqueNames ΓTpl) (.cast c (.op .add args)) with
        | some s' => (match elabStmt false (uniqueNames ΓTpl) (.init t s') with
                      | .ok (.init _ (.cast _ (.op .add _))) => true
                      | _ => false)
        | none => false)
     | _ => false) = true := by decide +kernel

/-- **emitted_literal_kind_int32_witness** (negation witness on the *current* code = known finding `a template value
    argument of kind Int32 is printed bare`): `static const int K = 3; .. f<K>(..)` records `Int32`; the second
    compilation records `IntLiteral`; the instance body `int y = N + 1;` is `int y = Add(Int32, Int32)` (no cast: the
    literal `1` is re-tagged), its export reads `Add(IntLiteral, IntLiteral)` and elaborates to
    `int y = Cast(int, Add(IntLiteral, IntLiteral))` — printed `(int)(3 + 1)`: accepted, not a fixpoint.  So the
    hypothesis `r ≠ Int32` of `template_instance_reelab_stmt` can not be dropped.  Reproducer in corpus/C04.txt. -/
theorem emitted_literal_kind_int32_witness :
    recordKind .int32 = some .int32 ∧ secondRecordKind .int32 = some .intLiteral ∧
    rereadKind (instanceKind .int32) ≠ instanceKind .int32 ∧
    (match elabStmt true ΓTpl (substStmt 0 (instanceKind .int32) tplBody) with
     | .ok (.init t (.op .add (.cons (.lit .int32) (.cons (.lit .int32) .nil)))) =>
       (match unelab (uniqueNames ΓTpl) (.op .add (.cons (.lit .int32) (.cons (.lit .int32) .nil))) with
        | some s' => (match elabStmt true (uniqueNames ΓTpl) (.init t s') with
                      | .ok (.init _ (.cast _ (.op .add (.cons (.lit .intLiteral) (.cons (.lit .intLiteral) .nil))))) => true
                      | _ => false)
        | none => false)
     | _ => false) = true := by
  refine ⟨by decide +kernel, by decide +kernel, by decide +kernel, by decide +kernel⟩

/-- **mutant_discipline_loses_literal_kind** (negation witness for the discipline of seeded mutant C04-4, `f<3>` with
    `normalize_template_constant`): the literal `3` is read as an `IntLiteral`; the mutant's discipline records it as `Int32`
    where the code records `IntLiteral`; and a constant of the recorded kind `Int32` is re-read as an `IntLiteral` — the
    situation of `emitted_literal_kind_int32_witness`.  So the recorded kind of a literal argument is `Int32`, against
    clause (2) of `emitted_literal_kind_stable`. -/
theorem mutant_discipline_loses_literal_kind :
    rereadTable .IntUntyped = some .intLiteral ∧ recordKindNormalized .intLiteral = some .int32 ∧
    recordKind .intLiteral = some .intLiteral ∧
    rereadKind (instanceKind .int32) = .intLiteral := by
  refine ⟨rfl, by decide +kernel, by decide +kernel, by decide +kernel⟩

end Template

/-! ## Generated names are reserved against locals (seeded mutant C04-5)

A type is emitted as a root-relative path, a local / parameter as a plain identifier, and `find_identifier_in_scope`
looks at the locals of a scope first (`path_lookup_as_modelled`, stage order).  So the emitted text is only read back
if no local is printed with the name of a type its scope uses.  For names the exporter *keeps* this is the known
capture class (`names:relative-path-captured/..:by-local`, finding 3); for names the exporter *generates*
(`texture` → `texture_0`) it is a theorem about `NameMap::build` (C15's model `Model.Names.build`), all inputs. -/
section GeneratedNames
open RsslVerif.Model.Names RsslVerif.Lemmas.FixpointGenNames

/-- **generated_names_reserved_as_modelled** (obligation, re-extracted on every run by `Gen.NameReserve`): the statements
of `NameMap::build` that touch `used_names_all_scopes`, in source order with the loops around them — the set is created
(from the reserved names) *before* the per-scope loop; inside that loop every candidate that could be inserted into the
scope's `used_names` is recorded in it (`St.gen` of `Model.Names.assignSym`); the usage loop adds the names of used
functions / globals (`usedNames`); the local pass tests membership in this set and extends it (`assignLocals`:
`reserved ++ gen of all scopes ++ usedNames`).  Breaks under seeded mutant C04-5 (declaration after the loop, candidate
not recorded). -/
theorem generated_names_reserved_as_modelled :
    Gen.NameReserve.allScopesEvents =
      [("", "", "let mut used_names_all_scopes = reserved_name_set.clone();"),
       ("for scope in &scopes > for (name, symbols) in name_to_symbol_vec > for symbol in symbols > loop",
        "if used_names.insert(candidate.clone())", "used_names_all_scopes.insert(candidate.clone());"),
       ("for id in module.function_registry.iter() > for used_symbol in usage.get_usage_for_function(id)",
        "if let Some(name_string) = name_map.names.get(&symbol)", "used_names_all_scopes.insert(name_string.name.clone());"),
       ("for id in module.variable_registry.iter()", "", "let picked_name = if used_names_all_scopes.contains(name)"),
       ("for id in module.variable_registry.iter() > loop", "",
        "if !all_local_names.contains(&candidate) && used_names_all_scopes.insert(candidate.clone())")] ∧
    (Gen.NameReserve.topLevelOrder.dropWhile (· ≠ "let mut used_names_all_scopes = reserved_name_set.clone();")).take 2 =
      ["let mut used_names_all_scopes = reserved_name_set.clone();", "for scope in &scopes"] :=
  ⟨rfl, by decide +kernel⟩

/-- **local_meets_only_kept_names** (full, every input of the model): a local variable / parameter that is printed with
the name of a namespace, struct, enum, enum value, global or function (of any scope) meets a symbol that *kept its source
name*.  (`hwf`: the module's entries are not local variables.) -/
theorem local_meets_only_kept_names {reserved : List String} {inp : Input} {names : List Named}
    (h : build reserved inp = .ok names) (hwf : ∀ e, e ∈ inp.entries → e.sym.kind ≠ .localVar) :
    ∀ l ∈ names, ∀ g ∈ names, l.sym.kind = .localVar → g.sym.kind ≠ .localVar → l.name = g.name →
      (g.name, g.sym) ∈ scopeSyms inp g.scope :=
  Lemmas.FixpointGenNames.local_meets_only_kept_names h hwf

/-- **generated_names_apart_from_locals** (full): a symbol printed under a generated name (it has no source name equal to
the printed one) shares that name with no local variable / parameter — in the emitted text no local shadows a renamed
type, enum value, namespace, function or global. -/
theorem generated_names_apart_from_locals {reserved : List String} {inp : Input} {names : List Named}
    (h : build reserved inp = .ok names) (hwf : ∀ e, e ∈ inp.entries → e.sym.kind ≠ .localVar) :
    ∀ l ∈ names, ∀ g ∈ names, l.sym.kind = .localVar → g.sym.kind ≠ .localVar →
      (∀ src, (src, g.sym) ∈ scopeSyms inp g.scope → src ≠ g.name) → l.name ≠ g.name :=
  Lemmas.FixpointGenNames.generated_names_apart_from_locals h hwf

/-- `struct texture`, a namespace `A` next to a struct `A`, parameters `texture_0`, `A_1` -/
def nonVacGenerated : Input :=
  { nss := [(none, "A")], locals := ["texture_0", "A_1"], used := [],
    entries := [⟨⟨.struct, 0⟩, none, "texture"⟩, ⟨⟨.struct, 1⟩, none, "A"⟩] }

/-- non-vacuity: `build` succeeds on `nonVacGenerated`, its entries are not locals, the two structs are printed under
generated names (`texture_0`, `A_1`: the hypothesis "no source name equals the printed name" holds for them) and the locals
step aside -/
example :
    (build Gen.Reserved.hlsl nonVacGenerated).toOption.map (·.map (fun n => (n.sym.kind, n.name))) =
      some [(.ns, "A_0"), (.struct, "A_1"), (.struct, "texture_0"), (.localVar, "texture_0_0"), (.localVar, "A_1_0")] ∧
    (∀ e, e ∈ nonVacGenerated.entries → e.sym.kind ≠ .localVar) ∧
    (∀ src, (src, (⟨.struct, 0⟩ : Sym)) ∈ scopeSyms nonVacGenerated none → src ≠ "texture_0") ∧
    (∀ src, (src, (⟨.struct, 1⟩ : Sym)) ∈ scopeSyms nonVacGenerated none → src ≠ "A_1") := by
  have h : ∀ p ∈ scopeSyms nonVacGenerated none,
      (p.2 = ⟨.struct, 0⟩ → p.1 ≠ "texture_0") ∧ (p.2 = ⟨.struct, 1⟩ → p.1 ≠ "A_1") := by decide +kernel
  exact ⟨by decide +kernel, by decide +kernel, fun src hs => (h _ hs).1 rfl, fun src hs => (h _ hs).2 rfl⟩

/-- **late_set_loses_generated_type_names** (negation witness for the discipline of seeded mutant C04-5, `buildLate`,
**not** the code): with the set created after the per-scope loop, `struct texture`, `enum pass` and the locals
`texture_0`, `pass_0` are printed `texture_0`, `pass_0`, `texture_0`, `pass_0` — the locals carry the names generated for
the types; the function `technique` that a body uses is still avoided.  The code's `build` gives `texture_0_0`,
`pass_0_0`.  The program is in corpus/C04.txt. -/
theorem late_set_loses_generated_type_names :
    (build Gen.Reserved.hlsl witnessGenerated).toOption.map (·.map (fun n => (n.sym.kind, n.name))) =
      some [(.enumValue, "V"), (.func, "f"), (.enum, "pass_0"), (.func, "technique_0"), (.struct, "texture_0"),
            (.localVar, "texture_0_0"), (.localVar, "pass_0_0"), (.localVar, "technique_0_0")] ∧
    (buildLate Gen.Reserved.hlsl witnessGenerated).toOption.map (·.map (fun n => (n.sym.kind, n.name))) =
      some [(.enumValue, "V"), (.func, "f"), (.enum, "pass_0"), (.func, "technique_0"), (.struct, "texture_0"),
            (.localVar, "texture_0"), (.localVar, "pass_0"), (.localVar, "technique_0_0")] :=
  Lemmas.FixpointGenNames.late_set_loses_generated_type_names

end GeneratedNames

section Prototypes
open RsslVerif.Model.FixpointProto

/-- **proto_params_as_modelled** (obligation, re-extracted on every run by `Gen.ProtoParams`): the exporter prints EVERY
declaration of a function — prototype (`only_declare = true`) or definition — from the `FunctionImplementation` (`decl`):
attributes, parameters (with `param.default_expr`) and body; `only_declare` decides the body only; without an implementation
it fails with `FunctionNotDefined`.  The typer registers the signature (`non_default_params` = number of parameters without a
default) at the first declaration, a later declaration takes the id of the pre-declaration and its own signature is used for
the look-up only; the parameter list with the default expressions is stored by `parse_function_body`, i.e. for the definition. -/
theorem proto_params_as_modelled :
    RsslVerif.Gen.ProtoParams.exporterDecl =
      ["let decl = match context .module .function_registry .get_function_implementation(id)",
       "Some(decl) => decl, None => return Err(GenerateError::FunctionNotDefined),",
       "for attribute in &decl.attributes", "for param in &decl.params", "for statement in &decl.scope_block.0"] ∧
    RsslVerif.Gen.ProtoParams.exporterOnlyDeclare = ["let body = if only_declare"] ∧
    RsslVerif.Gen.ProtoParams.exporterRootArms =
      ["ir::RootDefinition::Enum(id) => module.enum_registry.get_enum_definition(*id).namespace, ir::RootDefinition::ConstantBuffer(id) => module.cbuffer_registry[id.0 as usize].namespace, ir::RootDefinition::GlobalVariable(id) => module.global_registry[id.0 as usize].namespace, ir::RootDefinition::FunctionDeclaration(id) | ir::RootDefinition::Function(id) =>",
       "ir::RootDefinition::FunctionDeclaration(id) => generate_function(*id, true, context)? .into_iter() .map(ast::RootDefinition::Function) .collect::<Vec<_>>(), ir::RootDefinition::Function(id) => generate_function(*id, false, context)? .into_iter() .map(ast::RootDefinition::Function) .collect::<Vec<_>>(),"] ∧
    RsslVerif.Gen.ProtoParams.exporterDefault =
      ["let default_expr = if let Some(default_expr) = &param.default_expr",
       "Some(generate_expression(default_expr, context)?)", "param_type, declarator, location_annotations, default_expr,"] ∧
    RsslVerif.Gen.ProtoParams.typerPredeclaration =
      ["let id = match context.check_existing_functions(&fd.name, &signature, is_definition)?", "Some(id) =>", "id",
       "let id = context.register_function(fd.name.clone(), signature.clone(), scope, fd.clone())?",
       "context.add_function_to_current_scope(id)?", "id", "parse_function_body(fd, id, signature, context)?",
       "context.module.function_registry.set_implementation(id, def)", "Ok((id, !is_definition))"] ∧
    RsslVerif.Gen.ProtoParams.typerSignature =
      ["let (signature, scope) = parse_function_signature(fd, None, context)?",
       "let id = match context.check_existing_functions(&fd.name, &signature, is_definition)?",
       "let id = context.register_function(fd.name.clone(), signature.clone(), scope, fd.clone())?",
       "if signature.template_params.is_empty()", "parse_function_body(fd, id, signature, context)?"] ∧
    RsslVerif.Gen.ProtoParams.typerNonDefault =
      ["let mut non_default_params = 0", "if non_default_params != vec.len()", "non_default_params += 1",
       "return_type, template_params, param_types, non_default_params,"] ∧
    RsslVerif.Gen.ProtoParams.typerImplDefault =
      [", interpolation_modifier: parsed_param.interpolation_modifier, precise: parsed_param.precise, semantic: parsed_param.semantic, default_expr: parsed_param.default_expr,"] :=
  ⟨rfl, rfl, rfl, rfl, rfl, rfl, rfl, rfl⟩

/-- **emitted_declarations_fixpoint**: for every list of declarations of one function (any number of prototypes in front
of, between and after the definition, any default expressions on any of them) that the exporter prints, the printed list is
printed as itself again, every printed declaration carries the parameter list of the definition, and the signature the second
compilation registers is that of the definition. -/
theorem emitted_declarations_fixpoint (ds ds' : List FDecl) (ps : List (Option String)) (hp : implParams ds = some ps)
    (h : exportDecls ds = some ds') :
    exportDecls ds' = some ds' ∧ (∀ d' ∈ ds', d'.defaults = ps) ∧ sigNonDefault ds' = some (nonDefault ps) :=
  ⟨Lemmas.FixpointProto.export_idempotent h, Lemmas.FixpointProto.export_carries_def hp h,
   Lemmas.FixpointProto.sig_export hp h⟩

/-- **emitted_calls_accepted_again**: if the definition has at least as many default arguments as the first declaration
(`nonDefault ps ≤ k`), every call the first compilation admits (enough arguments for the first declaration's signature) is
admitted by the compilation of the emitted text — in particular for a function without a prototype, with defaults on both
sides, or on the definition only. -/
theorem emitted_calls_accepted_again (ds ds' : List FDecl) (ps : List (Option String)) (k n : Nat)
    (hp : implParams ds = some ps) (h : exportDecls ds = some ds') (hk : sigNonDefault ds = some k)
    (hge : nonDefault ps ≤ k) (hc : CallOk ds n) : CallOk ds' n :=
  (Lemmas.FixpointProto.callOk_iff (Lemmas.FixpointProto.sig_export hp h) n).mpr
    (Nat.le_trans hge ((Lemmas.FixpointProto.callOk_iff hk n).mp hc))

/-- the converse direction: the second compilation admits a call exactly when it has enough arguments for the DEFINITION -/
theorem emitted_call_iff (ds ds' : List FDecl) (ps : List (Option String)) (n : Nat)
    (hp : implParams ds = some ps) (h : exportDecls ds = some ds') : CallOk ds' n ↔ nonDefault ps ≤ n :=
  Lemmas.FixpointProto.callOk_iff (Lemmas.FixpointProto.sig_export hp h) n

/-- non-vacuity: prototype, forward use, definition, repeated prototype — defaults on both sides with different expressions -/
example :
    let ds : List FDecl := [⟨false, [none, some "2.0f"]⟩, ⟨true, [none, some "3.0f"]⟩, ⟨false, [none, some "2.0f"]⟩]
    exportDecls ds = some [⟨false, [none, some "3.0f"]⟩, ⟨true, [none, some "3.0f"]⟩, ⟨false, [none, some "3.0f"]⟩] ∧
    CallOk ds 1 ∧ sigNonDefault ds = some 1 ∧ implParams ds = some [none, some "3.0f"] := by decide +kernel

/-- **prototype_default_dropped_witness** (negation witness on the CURRENT code = known finding
`decl-forms:.. / prototype-default-dropped`): `float g(float a, float b = 2.0f); float g(float a, float b) {..}` — the call
`g(1.0f)` is admitted by the first compilation and refused by the compilation of the emitted text, whose prototype reads
`float g(float a, float b);`.  So `nonDefault ps ≤ k` can not be dropped from `emitted_calls_accepted_again`.  The second
conjunct is the sibling: with the default on the definition only the emitted PROTOTYPE carries `K`, an expression of the
definition (refused when `K` is declared between the two: known finding `.. / definition-default-printed-on-earlier-prototype`). -/
theorem prototype_default_dropped_witness :
    (let ds : List FDecl := [⟨false, [none, some "2.0f"]⟩, ⟨true, [none, none]⟩]
     CallOk ds 1 ∧ ∃ ds', exportDecls ds = some ds' ∧ ds' = [⟨false, [none, none]⟩, ⟨true, [none, none]⟩] ∧ ¬ CallOk ds' 1) ∧
    (let ds : List FDecl := [⟨false, [none, none]⟩, ⟨true, [none, some "K"]⟩]
     exportDecls ds = some [⟨false, [none, some "K"]⟩, ⟨true, [none, some "K"]⟩]) := by
  refine ⟨⟨by decide +kernel, _, rfl, rfl, by decide +kernel⟩, by decide +kernel⟩

end Prototypes

end RsslVerif.Thm.C04
