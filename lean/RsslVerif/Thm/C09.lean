import RsslVerif.Thm.C09Expr
import RsslVerif.Lemmas.RoundtripFull4
import RsslVerif.Lemmas.TArgClosed
import RsslVerif.Lemmas.StmtRT4
import RsslVerif.Lemmas.DefRT2
import RsslVerif.Lemmas.LiteralText
/-!
# C09 — printing a syntax tree and parsing it back are inverse

Five parts: expressions of `Model/Format` / `Model/Parse` (tables `Gen.FmtTables`, `Gen.ParseTables`); the full expression
language with types (`Gen.SyntaxTables`, and the 63 fingerprints of the hand-modelled functions); statements; function
and struct definitions; the text of integer literals (`Gen.LexTables`, property C10's lexer model).  The tables are
re-extracted from `formatter.rs`, `parser/*.rs`, `lexer.rs`, `tokens.rs` on every run.
-/
set_option linter.unusedSimpArgs false
namespace RsslVerif.Thm.C09
open RsslVerif.Gen.FmtTables RsslVerif.Gen.ParseTables RsslVerif.Model.Format RsslVerif.Model.Parse
open RsslVerif.Lemmas.FmtParseTables RsslVerif.Lemmas.Roundtrip RsslVerif.Spec.Roundtrip

/-- digits of `n`, least significant first -/
def decDigits : Nat → Nat → List Nat
  | 0, _ => []
  | f + 1, n => if n < 10 then [n] else n % 10 :: decDigits f (n / 10)

def ofDigits : List Nat → Nat
  | [] => 0
  | d :: r => d + 10 * ofDigits r

/-- **decimal_roundtrip.** Reading back the decimal digits of a number gives the number (any fuel above the value). -/
theorem decimal_roundtrip : ∀ f n, n < f → ofDigits (decDigits f n) = n := by
  have hd : ∀ f n, decDigits f n = RsslVerif.Model.LitFormat.decDigitsRev f n := by
    intro f
    induction f with
    | zero => intro n; rfl
    | succ f ih => intro n; unfold decDigits RsslVerif.Model.LitFormat.decDigitsRev; rw [ih]
  have ho : ∀ l, ofDigits l = RsslVerif.Model.Lexer.valRev l := by
    intro l
    induction l with
    | nil => rfl
    | cons d r ih => unfold ofDigits RsslVerif.Model.Lexer.valRev; rw [ih]
  intro f n h
  rw [hd, ho]
  exact RsslVerif.Model.Lexer.valRev_decDigitsRev f n h

/-! # Full expression language: casts, `sizeof`, template arguments, type ids (`Model/FormatFull`, `Model/ParseFull`) -/
section Full
open RsslVerif.Gen.SyntaxTables RsslVerif.Model.FormatFull RsslVerif.Model.ParseFull RsslVerif.Lemmas.RoundtripFull

/-- **source_fingerprints.** The formatter / parser functions whose control flow is hand-modelled for types,
declarators, casts, `sizeof`, template arguments, statements and declarations are, byte for byte (comments and white
space aside), the ones the model was written against.  A changed arm changes a fingerprint and breaks this obligation
until the model has been re-read against the source. -/
theorem source_fingerprints : fingerprints = [
  ("formatter.rs::format_type", "d83e86900d81642d"),
  ("formatter.rs::format_type_id", "896d1c9d5dea3027"),
  ("formatter.rs::format_type_layout", "0191290b4d467359"),
  ("formatter.rs::format_type_modifiers", "fb763be26ee47d64"),
  ("formatter.rs::format_scoped_identifier", "c7e98328ef2f1ab7"),
  ("formatter.rs::format_expression_or_type", "0b8647e423906d6b"),
  ("formatter.rs::format_template_type_args", "22882aaf047c9870"),
  ("formatter.rs::format_declarator", "72519b3dea763ee6"),
  ("formatter.rs::format_init_declarators", "a6aaf2ef67380f1e"),
  ("formatter.rs::format_init_declarator", "2004455c026fd649"),
  ("formatter.rs::format_initializer", "608341352974e4da"),
  ("formatter.rs::format_initializer_inner", "e5d93efad5993464"),
  ("formatter.rs::format_variable_definition", "eba838305e0123ff"),
  ("formatter.rs::format_for_init", "77387f99a2903821"),
  ("formatter.rs::format_statement", "851bce204a360d81"),
  ("formatter.rs::format_attributes", "6b395693600e5105"),
  ("formatter.rs::format_attribute", "7aca6d2c7598a77f"),
  ("formatter.rs::format_function", "43bae6a8d4666ee9"),
  ("formatter.rs::format_function_param", "02ce7de2dbefe139"),
  ("formatter.rs::format_struct", "7b7ccb0705c8f968"),
  ("formatter.rs::format_global_variable", "83c45667ed45906b"),
  ("formatter.rs::format_location_annotations", "73455d720677dbab"),
  ("formatter.rs::format_location_annotation", "34c33f08d32d97b6"),
  ("formatter.rs::format_semantic_annotation", "0400732ec536c60f"),
  ("errors.rs::get_most_relevant_result", "2505c52c638c5746"),
  ("errors.rs::get_result_significance", "e1441eecd0642dfa"),
  ("parser.rs::parse_list_base", "0f78701638d6db4e"),
  ("parser.rs::parse_optional", "b87cda134d4851f0"),
  ("parser.rs::parse_arraydim", "bf8e5b16fd4abc79"),
  ("expressions.rs::expr_leaf", "de7b23154bf0956b"),
  ("expressions.rs::expr_in_paren", "def8686136d1bc43"),
  ("expressions.rs::parse_expression_or_type_with_or_without_symbols", "74b162e773b9e5eb"),
  ("expressions.rs::parse_template_args_req", "44bb80d9de927364"),
  ("expressions.rs::parse_template_args", "1a0bf04454d4d0dc"),
  ("expressions.rs::expr_p1::expr_p1_call", "fa6d20aff622c8c8"),
  ("expressions.rs::expr_p1::expr_p1_member", "d94bc05f5ec4c8c3"),
  ("expressions.rs::expr_p1::expr_p1_right", "c0452b72ee345266"),
  ("expressions.rs::expr_p1::right_side_ops", "67ea0f8a68aeea7c"),
  ("expressions.rs::expr_p2", "c40df69052c6a6b4"),
  ("expressions.rs::parse_binary_operations_st", "ab202dc0478184f5"),
  ("expressions.rs::parse_expression_resolve_symbols", "d100fa08dca97ff6"),
  ("types.rs::parse_type_layout_internal", "b578d754752ce45d"),
  ("types.rs::parse_type_internal", "ca0f75a7106803cc"),
  ("types.rs::parse_type_modifiers_before", "803ee0b44f18e6bc"),
  ("types.rs::parse_type_modifiers_after", "6fe766d05c799df8"),
  ("types.rs::parse_type_id_internal", "2171f0334b7fe597"),
  ("declarations.rs::parse_init_declarators", "7a5389e036f53b50"),
  ("declarations.rs::parse_init_declarator", "e6d1a3233a196abd"),
  ("declarations.rs::parse_declarator_internal", "8315041ced7162f7"),
  ("declarations.rs::parse_location_annotation", "af7b00342f66cc7b"),
  ("declarations.rs::parse_semantic", "bb4dbea2741d1f02"),
  ("statements.rs::parse_initializer", "543427202b5482df"),
  ("statements.rs::parse_vardef", "181bca3d57af5d04"),
  ("statements.rs::parse_init_statement", "7f54757739ac3383"),
  ("statements.rs::parse_attribute_base", "be7cea9025ca37bc"),
  ("statements.rs::parse_statement", "98a553601f5e956c"),
  ("statements.rs::parse_statement_kind", "ed144f8b976aa774"),
  ("statements.rs::statement_block", "93f2fb5777e9a1a0"),
  ("functions.rs::parse_function_param", "664db391b2d86622"),
  ("functions.rs::parse_function_definition", "50a556c10f921203"),
  ("structs.rs::parse_struct_member", "470ca87ddd983dfb"),
  ("structs.rs::parse_struct_entry", "b768e80fbf094306"),
  ("structs.rs::parse_struct_definition", "986a743efdefb80e")] := rfl

/-- the three table checks of one modifier (see `modifier_tables_agree`) -/
def modTableOk (m : TypeMod) : Bool :=
  (match modBeforeStep (modTok m) with | .mod m' => m' == m | _ => false) &&
  (match keywords.find? (fun e => e.1 == modSpell m) with
   | some e => modTok m == .p e.2
   | none => modTok m == .id (modSpell m)) &&
  modAfterKw.all (fun e => e.2 != m || modTok m == .p e.1)

/-- **modifier_tables_agree.** For every type modifier: `parse_type_modifiers_before` reads the token of the printed
spelling (`Debug` of the modifier) as that modifier; the lexer's keyword table maps the spelling to that token (or the
spelling is no keyword and the token is the identifier); `parse_type_modifiers_after` knows the modifier under the
same token. -/
theorem modifier_tables_agree : ∀ m : TypeMod, modTableOk m = true := by
  intro m; cases m <;> decide

/-- what may follow a complete expression (full model): nothing, or `)`, `]`, `:`, `;` -/
def StopsX (rest : List Tok) : Prop :=
  rest = [] ∨ ∃ t r, rest = t :: r ∧
    (t = .p .RightParen ∨ t = .p .RightSquareBracket ∨ t = .p .Colon ∨ t = .p .Semicolon)

/-- **roundtrip_xexpr_partial.** For every tree of the full expression language — the kinds of
`roundtrip_expr_partial` plus casts `(T)e`, `sizeof(T)` / `sizeof(e)`, calls with template arguments, over type ids with
modifiers, template arguments (nested), pointer / reference / array abstract declarators — and every set `W` of type
names: the tokens of the printed text read back, at the top level of the parser model run with exactly the names in `W`
accepted as types in cast / `sizeof` position, as the tree.

Partial: `WF W e` is a decidable, syntactic carve-out.  It excludes, besides the literals of `LitOk`:
* an expression argument of `sizeof` / of a template argument list whose first printed token starts a type (a name — in a
  template argument any name, in `sizeof` a name of `W` — unless it is the whole argument, which is the `both` form the
  parser answers for a lone name).  Which operators the argument contains no longer matters: since e8e0be6 the position is
  printed with `format_subexpression(expr, 7, CommaList)`, so `>`, `>=`, `>>`, `,`, `<` and everything else that binds no
  tighter than the shift operators is in parentheses (read under `Standard`), and what is printed bare is built below the
  shift level, where no operator test looks at the terminator (`Lemmas.FmtParseTables.pos_eot`) —
  `eot_parenthesised_admissible`, `sizeof_shift_roundtrips`, `template_arg_shift_roundtrips`, `template_arg_comma_roundtrips`;
* a *type* in `sizeof` / template-argument position whose first token is not a keyword modifier (there the parser also
  tries to read the text as an expression and the longer reading wins; only a lone name — `both` — and types starting
  with a keyword modifier are proved); types in cast position are not restricted this way;
* parenthesised binary / conditional operands whose text starts like a type (`castDeadB`: first token a name of `W`
  followed by `<`, `*`, `&`, `[`, `const`, `volatile` or `)`, or a modifier word) — a sufficient condition for the cast
  alternative of `expr_p2` to fail, not a necessary one;
* declarators outside what `parse_declarator_internal` reads (`T (*)[n]`, `T*[n]`, qualifiers other than `const` /
  `volatile` after `*`, `&&`);
and the hypothesis `hsafe` excludes a `<` operator followed anywhere later in the stream by `>` directly before `(`
(`less_greater_paren_regroups`: the real code reads `a < a > (…)` as a call with template arguments — not repaired).  `hsafe`
is sufficient, not necessary: it also rules out a `<` operator *inside* a template argument of a call (the list's own `>`
`(` follows), which does read back since the argument is parenthesised (`template_arg_less_roundtrips`, by evaluation).
Also not covered: `BracedInit` (no production reads it) and attributes.  The model takes the cast alternative of
`expr_p2` whenever it succeeds (see `Model/ParseFull.lean`). -/
theorem roundtrip_xexpr_partial (W : List String) (e : XExpr) (hwf : RsslVerif.Lemmas.RoundtripFull.WF W e) (rest : List Tok) (hrest : StopsX rest)
    (hsafe : hasLt e = true → TmplFree (toks (fmtExprX e) ++ rest) = true) :
    ∃ fuel, xparseLvl W fuel 15 .Standard (toks (fmtExprX e) ++ rest) = some (e, rest) := by
  refine (RsslVerif.Lemmas.StmtRT.expr_reads_inert W e hwf rest (fun k => ?_) hsafe).exists
  rcases hrest with rfl | ⟨t, r, rfl, ht⟩
  · exact RsslVerif.Lemmas.RoundtripFull.inert_nil W _ _
  · exact RsslVerif.Lemmas.RoundtripFull.inert_closes W _ _ _ _ (by
      rcases ht with h | h | h | h <;> simp [RsslVerif.Lemmas.RoundtripFull.Closes, h])

/-- **roundtrip_typeid_partial.** A type id with an abstract declarator, printed by `format_type_id` in front of `)`,
`,` or `>`, is read back by `parse_type_id` (with or without a symbol table) as the same type id: modifiers (all 27, in
order), scoped name, template arguments, pointers with `const` / `volatile` qualifiers, references, arrays with and
without size.  (`WFTy`: the name is not one of the identifiers `parse_type_modifiers_before` takes as modifiers; the
template arguments satisfy `WFArg`; the declarator is one the parser has a production for.) -/
theorem roundtrip_typeid_partial (W : List String) (mods : List TypeMod) (n : String) (targs : TArgs) (d : Decl)
    (hwf : WFTy W (.mk mods n targs d)) (habs : d.abstr = true) (sym fol : Bool) (rest : List Tok)
    (hsym : sym = true → W.contains n = true) (hrest : TyRest rest)
    (hsafe : hasLtTy (.mk mods n targs d) = true → TmplFree (toks (fmtTyId (.mk mods n targs d) fol) ++ rest) = true) :
    ∃ fuel, parseTyId W fuel sym (toks (fmtTyId (.mk mods n targs d) fol) ++ rest) = some (.mk mods n targs d, rest) := by
  exact RsslVerif.Lemmas.Fuel.Ev.exists (rtTyp W (.mk mods n targs d) hwf habs sym fol rest hsym hrest hsafe)

/-! ## Expression-or-type positions after e8e0be6: the former negation witnesses read back -/

/-- **eot_parenthesised_admissible.** Every expression of `WF` that binds no tighter than the shift operators — any
operator among `<< >> < <= > >= == != & ^ | && || ?: = op= ,` at its top — is admissible as the operand of `sizeof` and
as a template argument: it is printed in parentheses, so its first token starts no type.  (Before e8e0be6 `WF` had to
exclude `>`, `>=`, `>>`, `,` and `<` there.) -/
theorem eot_parenthesised_admissible (W : List String) (sym : Bool) (x : XExpr)
    (hw : RsslVerif.Lemmas.RoundtripFull.WF W x) (hp : needParen x.prec eotExprPrec eotExprSide = true) :
    WFArg W sym (.e x) := by
  refine ⟨hw, ?_⟩
  rw [fmtSubX_eq, hp, toks_wrap_true]
  simp [tyHeadDeadB, modBeforeStep, modBeforeKw, modBeforeSkips]

theorem eot_parenthesises_from_shift : eotExprPrec = binPrec .RightShift ∧ eotExprPrec = binPrec .LeftShift ∧
    ∀ op : BinOp, needParen (binPrec op) eotExprPrec eotExprSide = decide (binPrec .RightShift ≤ binPrec op) := by
  refine ⟨by decide, by decide, fun op => ?_⟩
  cases op <;> decide

/-! ## A printed template argument is closed (seeded mutant C09-6)

`Lemmas/TArgClosed.lean`: `scan a p ts` walks a token list with a bracket counter (`p` = open `(` `[` `{`, `a` = open `<`
outside those); it fails on a `>` outside all brackets that closes nothing, on a `,` outside all brackets and on
unbalanced parentheses.  Inside parentheses `<`, `>`, `,` are ordinary operators. -/
open RsslVerif.Lemmas.TArgClosed in
/-- **template_argument_closed.** For every expression-or-type tree (expression of any node kind at any depth — conditionals,
comma, assignments, relational and shift operators, casts, nested template calls, `sizeof` — or a type id with modifiers,
nested template arguments and declarators) the tokens `format_expression_or_type` prints are invisible to the bracket
scanner in **every** state and in front of every continuation: no `>`, `>=`, `>>`, `>>=` and no `,` stands outside
brackets, and every `<` outside parentheses (a nested template argument list) is closed inside the entry.  So the angle
brackets around a template argument list stay matched and the list has as many entries as the tree.  Induction over the
six mutually recursive tree types.  Of the code it reads the generated precedence tables (`binPrec`, `unPrec`,
`precTernaryConditional`, `precArraySubscript`, `precMember`, `precCall`, `precCast`: which nodes bind tighter than the shift
operators, and that no operator spelt with `<`, `>` or `,` does) and, for the position itself, the generated pair
`(eotExprPrec, eotExprSide)` through `eot_bare_prec` (what is printed bare there binds tighter than `<<` / `>>`) — a
formatter that prints a conditional or a relational operator bare in that position (seeded mutant C09-6) has no such pair:
the extractor refuses it and this theorem has nothing to stand on; `bare_conditional_not_closed` is the witness. -/
theorem template_argument_closed (a : TArg) (fol : Bool) (na np : Nat) (rest : List Tok) :
    scan na np (toks (fmtEOT a fol) ++ rest) = scan na np rest :=
  pArg a fol na np rest (by simp [Mode.ok])

open RsslVerif.Lemmas.TArgClosed in
/-- the same for a whole printed list `<a, b, c>` (`format_template_type_args` / `format_type_layout`): in every state
the scanner leaves the list as it entered it — the `<` that opens it is closed by the `>` that ends it, whatever the entries -/
theorem template_argument_list_closed (l : TArgs) (fol : Bool) (na np : Nat) (rest : List Tok) :
    scan na np (toks (fmtTArgs l fol) ++ rest) = scan na np rest :=
  pTArgs l fol na np rest (by simp [Mode.ok])

open RsslVerif.Lemmas.TArgClosed in
/-- on its own: the entry scans to "nothing open", and between its angle brackets the closing one matches the opening one -/
theorem template_argument_brackets_match (a : TArg) (fol : Bool) :
    scan 0 0 (toks (fmtEOT a true)) = some 0 ∧
    scan 0 0 (.lt true :: (toks (fmtEOT a true) ++ [.gt fol])) = some 0 := by
  constructor
  · have := template_argument_closed a true 0 0 []
    simpa [scan] using this
  · have := template_argument_closed a true 1 0 [.gt fol]
    simp only [scan, cls, if_true]
    rw [this]
    simp [scan, cls]

/-- **the threshold the code uses is low enough**: at `(eotExprPrec, eotExprSide)` the conditional, the comma, every
assignment, every relational and both shift operators are parenthesised (all the operators whose spelling contains `<`
or `>` or `,`, and all the nodes that print such an operand bare) -/
theorem eot_threshold_closes :
    needParen precTernaryConditional eotExprPrec eotExprSide = true ∧
    (∀ op : BinOp, (binToks op).any (fun t => t.isLt || t.isGt || t == .p .Comma) = true →
      needParen (binPrec op) eotExprPrec eotExprSide = true) ∧
    (∀ op : BinOp, precTernaryConditional ≤ binPrec op → needParen (binPrec op) eotExprPrec eotExprSide = true) := by
  refine ⟨by decide, fun op => by cases op <;> decide, fun op h => ?_⟩
  -- the conditional binds no tighter than the shift operators, where the parentheses start
  rw [eot_parenthesises_from_shift.2.2 op]
  exact decide_eq_true (Nat.le_trans (by decide) h)

/-- `c > 0 ? a : b`, the argument of the seeded mutant's demonstration `g<(c > 0 ? a : b)>(x)` -/
def condGreater : XExpr := .tern (.bin .GreaterThan (.id "c") (.lit ⟨.IntUntyped, false, 0⟩)) (.id "a") (.id "b")

open RsslVerif.Lemmas.TArgClosed in
/-- **bare_conditional_not_closed** (why the threshold matters; what seeded mutant C09-6 prints): the conditional
`c > 0 ? a : b` printed *without* parentheses is not closed — the scanner stops at its `>` — whereas what the model of
the current code prints, `(c > 0 ? a : b)`, is (an instance of `template_argument_closed`, evaluated) -/
theorem bare_conditional_not_closed :
    scan 0 0 (toks (fmtExprX condGreater)) = none ∧
    scan 1 0 (toks (fmtExprX condGreater) ++ [.gt true]) ≠ scan 1 0 [.gt true] ∧
    scan 0 0 (toks (fmtEOT (.e condGreater) true)) = some 0 := by
  refine ⟨by decide, by decide, by decide⟩

/-- non-vacuity: `g<f<a>(x), (b > c ? a : b), vector<float, 4>>` — a nested template call printed bare (its `<` `>` are
brackets of the entry), a parenthesised conditional with `>`, a type with a list of its own -/
def sampleTArgs : TArgs :=
  .cons (.e (.call (.id "f") (.cons (.e (.id "a")) .nil) (.cons (.id "x") .nil)))
    (.cons (.e (.tern (.bin .GreaterThan (.id "b") (.id "c")) (.id "a") (.id "b")))
      (.cons (.t (.mk [] "vector" (.cons (.t (.mk [] "float" .nil .empty)) (.cons (.e (.lit ⟨.IntUntyped, false, 4⟩)) .nil)) .empty))
        .nil))
open RsslVerif.Lemmas.TArgClosed in
example : scan 0 0 (toks (fmtTArgs sampleTArgs true)) = some 0 := by decide
open RsslVerif.Lemmas.TArgClosed in
example : (toks (fmtTArgs sampleTArgs true)).length = 26 := by decide

/-- `sizeof((a >> a))` -/
def sizeofShift : XExpr := .sizeof (.e (.bin .RightShift (.id "a") (.id "a")))
/-- `a<(a >> a)>()` -/
def templateArgShift : XExpr := .call (.id "a") (.cons (.e (.bin .RightShift (.id "a") (.id "a"))) .nil) .nil
/-- `a<(a, b)>()` -/
def templateArgComma : XExpr := .call (.id "a") (.cons (.e (.bin .Sequence (.id "a") (.id "b"))) .nil) .nil
/-- `a<(a < b)>()` -/
def templateArgLess : XExpr := .call (.id "a") (.cons (.e (.bin .LessThan (.id "a") (.id "b"))) .nil) .nil

/-- `sizeof((a >> a))` (before e8e0be6 `sizeof(a >> a)`: rejected, the operand is read under `Terminator::TypeList`): the printed
tokens and their reading by the parser model -/
theorem sizeof_shift_roundtrips :
    toks (fmtExprX sizeofShift) = [.p .SizeOf, .p .LeftParen, .p .LeftParen, .id "a", .gt true, .gt false, .id "a",
      .p .RightParen, .p .RightParen] ∧
    xparseAll [] .Standard (toks (fmtExprX sizeofShift)) = some (sizeofShift, []) := by
  exact ⟨rfl, rfl⟩

/-- `a<(a >> a)>()` (before e8e0be6 `a<a >> a>()`: the `>>` closed the list) -/
theorem template_arg_shift_roundtrips :
    xparseAll [] .Standard (toks (fmtExprX templateArgShift)) = some (templateArgShift, []) := by rfl

/-- `a<(a, b)>()` (before e8e0be6 `a<a, b>()`: two template arguments) -/
theorem template_arg_comma_roundtrips :
    xparseAll [] .Standard (toks (fmtExprX templateArgComma)) = some (templateArgComma, []) := by rfl

/-- `a<(a < b)>()` (before e8e0be6 `a<a < b>()`, read as `a < a<b>()`) — by evaluation only: `hsafe` of the general theorem does not
hold for it (see there) -/
theorem template_arg_less_roundtrips :
    xparseAll [] .Standard (toks (fmtExprX templateArgLess)) = some (templateArgLess, []) := by rfl

/-- the first three are instances of the general theorem (for any set of type names that does not make the parenthesised
text look like a cast: here none) -/
theorem former_witnesses_wf :
    RsslVerif.Lemmas.RoundtripFull.WF [] sizeofShift ∧ RsslVerif.Lemmas.RoundtripFull.WF [] templateArgShift ∧
    RsslVerif.Lemmas.RoundtripFull.WF [] templateArgComma := by
  refine ⟨?_, ?_, ?_⟩ <;>
    simp [sizeofShift, templateArgShift, templateArgComma, RsslVerif.Lemmas.RoundtripFull.WF,
      RsslVerif.Lemmas.RoundtripFull.WFA, WFArg, WFTArgs] <;> decide

example : ∃ fuel, xparseLvl [] fuel 15 .Standard (toks (fmtExprX sizeofShift) ++ []) = some (sizeofShift, []) :=
  roundtrip_xexpr_partial [] _ former_witnesses_wf.1 [] (Or.inl rfl) (fun h => by revert h; decide)
example : ∃ fuel, xparseLvl [] fuel 15 .Standard (toks (fmtExprX templateArgShift) ++ []) = some (templateArgShift, []) :=
  roundtrip_xexpr_partial [] _ former_witnesses_wf.2.1 [] (Or.inl rfl) (fun h => by revert h; decide)
example : ∃ fuel, xparseLvl [] fuel 15 .Standard (toks (fmtExprX templateArgComma) ++ []) = some (templateArgComma, []) :=
  roundtrip_xexpr_partial [] _ former_witnesses_wf.2.2 [] (Or.inl rfl) (fun h => by revert h; decide)

/-! ## Negation witness: the shape outside `hsafe` for which the real code still does not round-trip (known finding) -/

/-- `(a < a) > (a & a)` prints `a < a > (a & a)` and reads back as the call `a<a>(a & a)` -/
theorem less_greater_paren_regroups :
    xparseAll [] .Standard (toks (fmtExprX
      (.bin .GreaterThan (.bin .LessThan (.id "a") (.id "a")) (.bin .BitwiseAnd (.id "a") (.id "a"))))) =
    some (.call (.id "a") (.cons (.both (.id "a") (.mk [] "a" .nil .empty)) .nil)
      (.cons (.bin .BitwiseAnd (.id "a") (.id "a")) .nil), []) := by rfl

/-- non-vacuity: casts over types with modifiers, nested template arguments, pointers and arrays; `sizeof` of a type and
of an expression; a call with template arguments; a parenthesised cast operand; all under operators of several levels -/
def sampleX : XExpr :=
  .bin .Assignment (.id "r")
    (.bin .Add
      (.cast (.mk [.Const] "vector" (.cons (.both (.id "float") (.mk [] "float" .nil .empty))
          (.cons (.e (.lit ⟨.IntUntyped, false, 4⟩)) .nil)) (.ptr [.Const] .empty))
        (.bin .Multiply (.id "x") (.un .Minus (.id "y"))))
      (.bin .Multiply
        (.sizeof (.both (.id "S") (.mk [] "S" .nil .empty)))
        (.bin .Subtract
          (.call (.id "f") (.cons (.t (.mk [.RowMajor] "M" .nil .empty)) (.cons (.e (.lit ⟨.IntUnsigned32, false, 2⟩)) .nil))
            (.cons (.cast (.mk [] "S" .nil (.arr .empty (.id "n"))) (.mem (.id "p") "q")) (.cons (.id "z") .nil)))
          (.sizeof (.e (.sub (.id "v") (.lit ⟨.IntUntyped, false, 0⟩)))))))

theorem sampleX_wf : RsslVerif.Lemmas.RoundtripFull.WF ["vector", "S"] sampleX := by
  simp [sampleX, RsslVerif.Lemmas.RoundtripFull.WF, RsslVerif.Lemmas.RoundtripFull.WFA, WFArg, WFTArgs, WFTy, WFDecl,
    tyName, hasLt, XExpr.lvl, kwModHead, tyMods, Decl.abstr, Decl.needsScope, Decl.startsBracket]
  decide +kernel

example : ∃ fuel, xparseLvl ["vector", "S"] fuel 15 .Standard (toks (fmtExprX sampleX) ++ []) = some (sampleX, []) :=
  roundtrip_xexpr_partial _ sampleX sampleX_wf [] (Or.inl rfl) (fun h => by revert h; decide)
example : xparseAll ["vector", "S"] .Standard (toks (fmtExprX sampleX)) = some (sampleX, []) := by rfl

end Full

/-! # Statements and local variable definitions (`Model/FormatStmt`, `Model/ParseStmt`) -/
section Statements
open RsslVerif.Gen.SyntaxTables RsslVerif.Model.FormatFull RsslVerif.Model.ParseFull RsslVerif.Model.FormatStmt
open RsslVerif.Model.ParseStmt RsslVerif.Lemmas.RoundtripFull RsslVerif.Lemmas.StmtRT

/-- **roundtrip_stmt_partial.** For every statement tree — empty, expression, local variable definition (shared type
with modifiers and template arguments; several init-declarators with pointer / reference / array declarators and
expression or (nested, possibly empty) aggregate initialisers), block, `if` / `if`-`else`, `for` with optional init
(expression or definition), condition and increment, `while`, `do`-`while`, `switch`, `case` / `default` labels,
`break` / `continue` / `discard` / `return` with and without value — each with attributes (`[a]`, `[[a::b(args)]]`),
nested to any depth, and every set `W` of type names: the printed tokens followed by a non-empty `rest` are read back by
the model of `parse_statement` as the tree (never `panic`, never `fail`), by mutual induction over statements,
statement kinds and statement lists, on top of `roundtrip_xexpr_partial` and the declaration lemmas.

Partial — `WFS` (decidable, syntactic) requires, besides `WF` of every expression:
* **dangling else**: the true-branch of an `if`-`else` does not end in an `if` without `else` (`openIf`), and the
  statement itself, when it ends that way, is not followed by `else` (`dangling_else_regroups`: such a tree prints
  without braces and the `else` re-attaches; neither the parser nor the exporters build one);
* **declaration or expression**: an expression statement (and a `for` init expression) does not read as a declaration
  (`declDeadB`: first token no modifier; a leading name is followed by a token that starts no declarator), a definition
  does not read as an expression statement (`varExprDeadB`: it starts with a keyword modifier or with two names in a
  row — `T x`, not `T* x` / `T<a> x`, which the real parser answers with `AmbiguousDeclarationOrExpression` and the
  type checker resolves; a pointer definition in `for` init reads back as an expression: `for_init_pointer_reads_as_expr`);
* (attribute arguments and initialiser expressions are no longer restricted: a comma expression there is printed in
  parentheses — initialisers since d76894a, attribute arguments since 2a6da39, `attribute_comma_roundtrips`);
* the declarators the parser has productions for (`WFDecl`), no location annotations, no `StaticSampler`.
`hsafe` is the `<` condition of `roundtrip_xexpr_partial` for the whole remaining stream. -/
theorem roundtrip_stmt_partial (W : List String) (s : Stmt) (hwf : WFS W s) (rest : List Tok) (hne : rest ≠ [])
    (hopen : openIf s = true → ∀ r, rest ≠ .p .Else :: r)
    (hsafe : hasLtS s = true → TmplFree (toks (fmtStmt s) ++ rest) = true) :
    ∃ fuel, parseStmt W fuel (toks (fmtStmt s) ++ rest) = .ok s rest := by
  exact RsslVerif.Lemmas.Fuel.Ev.exists (rs W s hwf rest hne hopen hsafe)

/-- **roundtrip_block_partial.** The statements of a function body / block up to and including the closing brace. -/
theorem roundtrip_block_partial (W : List String) (b : Stmts) (hwf : WFSs W b) (rest : List Tok)
    (hsafe : hasLtSs b = true → TmplFree (toks (fmtStmts b) ++ .p .RightBrace :: rest) = true) :
    ∃ fuel, parseStmts W fuel (toks (fmtStmts b) ++ .p .RightBrace :: rest) = .ok b rest := by
  exact RsslVerif.Lemmas.Fuel.Ev.exists (rss W b hwf rest hsafe)

/-- **roundtrip_decl_partial.** A variable definition — type (modifiers, name, template arguments) and a non-empty list
of init-declarators (named declarators with pointers + `const`/`volatile` qualifiers, references, arrays with and
without size; no, expression or aggregate initialiser) — printed by `format_variable_definition` in front of `;` is read
back by `parse_vardef` as the same definition. -/
theorem roundtrip_decl_partial (W : List String) (v : VarDef) (hwf : WFVarDef W v) (rest : List Tok)
    (hsafe : hasLtVarDef v = true → TmplFree (toks (fmtVarDef v) ++ .p .Semicolon :: rest) = true) :
    ∃ fuel, parseVarDef W fuel (toks (fmtVarDef v) ++ .p .Semicolon :: rest) = some (v, .p .Semicolon :: rest) := by
  exact RsslVerif.Lemmas.Fuel.Ev.exists (varDef_reads W v hwf (.p .Semicolon :: rest) ⟨rest, rfl⟩ hsafe)

private def sx (n : String) : Stmt := .mk [] (.expr (.id n))

/-- `IfElse(c, If(d, x;), y;)` prints `if (c) if (d) x; else y;` and reads back as `If(c, IfElse(d, x;, y;))` -/
theorem dangling_else_regroups :
    parseStmtAll [] (toks (fmtStmt (.mk [] (.ifElse (.id "c") (.mk [] (.ifS (.id "d") (sx "x"))) (sx "y")))) ++ [.p .RightBrace]) =
    .ok (.mk [] (.ifS (.id "c") (.mk [] (.ifElse (.id "d") (sx "x") (sx "y"))))) [.p .RightBrace] := by rfl

/-- `[unroll((a, b))] ;` -/
def attrCommaStmt : Stmt := .mk [⟨"unroll", .cons (.bin .Sequence (.id "a") (.id "b")) .nil, false⟩] .empty

/-- `[unroll((a, b))] ;` (before 2a6da39 printed `[unroll(a, b)] ;` and read back with two arguments): the printed tokens
and their reading by the statement model -/
theorem attribute_comma_roundtrips :
    toks (fmtStmt attrCommaStmt) = [.p .LeftSquareBracket, .id "unroll", .p .LeftParen, .p .LeftParen, .id "a", .p .Comma,
      .id "b", .p .RightParen, .p .RightParen, .p .RightSquareBracket, .p .Semicolon] ∧
    parseStmtAll [] (toks (fmtStmt attrCommaStmt) ++ [.p .RightBrace]) = .ok attrCommaStmt [.p .RightBrace] := by
  exact ⟨rfl, rfl⟩

/-- … and it is an instance of the general theorem -/
example : ∃ fuel, parseStmt [] fuel (toks (fmtStmt attrCommaStmt) ++ [.p .RightBrace]) = .ok attrCommaStmt [.p .RightBrace] :=
  roundtrip_stmt_partial [] attrCommaStmt
    (by simp [attrCommaStmt, WFS, WFK, WFAttrs, WFAttr, RsslVerif.Lemmas.RoundtripFull.WF, RsslVerif.Lemmas.RoundtripFull.WFA]
        decide)
    _ (by simp) (fun _ r h => by cases h) (fun h => by revert h; decide)

/-- `for (T* p;;) ;` reads back with the init as the expression `T * p` (the expression wins a tie in
`parse_init_statement`) -/
theorem for_init_pointer_reads_as_expr :
    parseStmtAll ["T"] (toks (fmtStmt (.mk [] (.forS (.decl ⟨[], "T", .nil, [⟨.ptr [] (.name "p"), none⟩]⟩) none none (.mk [] .empty)))) ++ [.p .RightBrace]) =
    .ok (.mk [] (.forS (.expr (.bin .Multiply (.id "T") (.id "p"))) none none (.mk [] .empty))) [.p .RightBrace] := by rfl

/-- non-vacuity: attributes, a definition with three declarators and nested aggregate initialiser, `for` with a
definition, `if`-`else` chains, `switch` with labels, `do`-`while`, `return` -/
def sampleStmt : Stmt :=
  .mk [⟨"loop", .nil, false⟩] (.forS
    (.decl ⟨[], "int", .nil, [⟨.name "i", some (.expr (.lit ⟨.IntUntyped, false, 0⟩))⟩, ⟨.name "j", none⟩]⟩)
    (some (.bin .LessThan (.id "i") (.id "n")))
    (some (.bin .Sequence (.un .PrefixIncrement (.id "i")) (.un .PostfixDecrement (.id "j"))))
    (.mk [] (.block (.cons
      (.mk [] (.var ⟨[.Const], "vector", .cons (.both (.id "float") (.mk [] "float" .nil .empty))
          (.cons (.e (.lit ⟨.IntUntyped, false, 4⟩)) .nil),
        [⟨.ptr [.Const] (.name "p"), some (.expr (.cast (.mk [] "S" .nil (.ptr [] .empty)) (.id "q")))⟩,
         ⟨.arr (.name "a") (.bin .Add (.id "n") (.lit ⟨.IntUntyped, false, 1⟩)),
           some (.agg (.cons (.expr (.lit ⟨.IntUntyped, false, 1⟩)) (.cons (.agg (.cons (.expr (.id "x")) .nil)) (.cons (.agg .nil) .nil))))⟩]⟩))
      (.cons (.mk [⟨"vk::x", .cons (.lit ⟨.IntUntyped, false, 3⟩) .nil, true⟩]
        (.ifElse (.id "c")
          (.mk [] (.block (.cons (.mk [] (.ifS (.id "d") (.mk [] (.expr (.bin .Assignment (.id "x") (.id "y")))))) .nil)))
          (.mk [] (.ifS (.id "e") (.mk [] .breakS)))))
      (.cons (.mk [] (.switchS (.id "k") (.mk [] (.block
        (.cons (.mk [] (.caseS (.lit ⟨.IntUntyped, false, 0⟩) (.mk [] (.caseS (.lit ⟨.IntUntyped, false, 1⟩) (.mk [] (.ret none))))))
        (.cons (.mk [] (.defaultS (.mk [] (.doWhile (.mk [] .continueS) (.id "w"))))) .nil))))))
      (.cons (.mk [] (.ret (some (.call (.id "f") .nil (.cons (.id "i") .nil))))) .nil)))))))

theorem sampleStmt_wf : WFS ["int", "vector", "S"] sampleStmt := by
  simp [sampleStmt, WFS, WFK, WFSs, WFAttrs, WFAttr, WFForInit, WFVarDef, WFInitDecl, WFInit, WFInits, WFOpt, WFDecl,
    RsslVerif.Lemmas.RoundtripFull.WF, RsslVerif.Lemmas.RoundtripFull.WFA, WFArg, WFTArgs, WFTy, tyName,
    hasLt, XExpr.lvl, Decl.abstr, Decl.needsScope, Decl.startsBracket, openIf, openIfK]
  decide +kernel

example : ∃ fuel, parseStmt ["int", "vector", "S"] fuel (toks (fmtStmt sampleStmt) ++ [.p .RightBrace]) =
    .ok sampleStmt [.p .RightBrace] :=
  roundtrip_stmt_partial _ sampleStmt sampleStmt_wf _ (by simp) (fun _ r h => by cases h) (fun _ => by decide +kernel)
end Statements

/-! # Function and struct definitions (`Model/FormatDef`, `Model/ParseDef`) -/
section Definitions
open RsslVerif.Gen.SyntaxTables RsslVerif.Model.FormatFull RsslVerif.Model.ParseFull RsslVerif.Model.FormatStmt
open RsslVerif.Model.ParseStmt RsslVerif.Model.FormatDef RsslVerif.Model.ParseDef
open RsslVerif.Lemmas.RoundtripFull RsslVerif.Lemmas.StmtRT RsslVerif.Lemmas.DefRT

/-- **roundtrip_param_partial.** A function parameter — type with modifiers (`in` / `out` / `inout`, `const`, …) and
template arguments, named declarator (pointer, reference, array dimensions), optional semantic, optional default value —
printed by `format_function_param` in front of `,` or `)` is read back by the model of `parse_function_param` as the same
parameter.  Partial — `WFParam`: the declarator is named and one the parser has productions for, expressions are `WF`
(a default value that is a comma expression is printed in parentheses since 2a6da39 and covered:
`default_arg_comma_roundtrips`). -/
theorem roundtrip_param_partial (W : List String) (p : Param) (hwf : WFParam W p) (c : Tok)
    (hc : c = .p .Comma ∨ c = .p .RightParen) (rest : List Tok)
    (hsafe : hasLtParam p = true → TmplFree (toks (fmtParam p) ++ c :: rest) = true) :
    ∃ fuel, parseParam W fuel (toks (fmtParam p) ++ c :: rest) = some (p, c :: rest) := by
  rw [toks_fmtParam] at hsafe ⊢
  exact RsslVerif.Lemmas.Fuel.Ev.exists (param_reads W p hwf c hc rest hsafe)

/-- **roundtrip_function_partial.** For every function definition tree — attributes, return type (modifiers, name,
template arguments), name, any number of parameters (`roundtrip_param_partial`), optional semantic on the return value,
and either no body (`;`) or a body of any statements (`roundtrip_block_partial`) — and every `rest`: the printed tokens
followed by `rest` are read back by the model of `parse_function_definition` as the same tree (`ok`, never `panic`).
Partial — `WFFn`: `WFAttrs`, `WFParam` of every parameter, `WFSs` of the body; not in the tree type: template parameter
lists, `const` / `volatile` methods, register / packoffset annotations, more than one annotation per position (driver:
`unsupported`).  `hsafe` is the `<` condition of `roundtrip_xexpr_partial` for the whole remaining stream. -/
theorem roundtrip_function_partial (W : List String) (fn : FnDef) (hwf : WFFn W fn) (rest : List Tok)
    (hsafe : hasLtFn fn = true → TmplFree (toks (fmtFn fn) ++ rest) = true) :
    ∃ fuel, parseFn W fuel (toks (fmtFn fn) ++ rest) = .ok fn rest := by
  rw [toks_fmtFn] at hsafe ⊢
  exact RsslVerif.Lemmas.Fuel.Ev.exists (fn_reads W fn hwf rest hsafe)

/-- **roundtrip_struct_partial.** For every struct definition tree — name, any number of base types (modifiers, name,
template arguments; printed as ` : A, B<…>` since 2e907a1 — before that the formatter dropped them) and any number of
entries, each a member
variable definition with attributes (`roundtrip_decl_partial`) or a method (`roundtrip_function_partial`; the model of
`parse_struct_entry` tries the member reading first, which is shown to fail on a method: after the name comes `(`) — the
printed tokens followed by `rest` are read back by the model of `parse_struct_definition` as the same tree.
Partial — `WFStruct`: `WFBase` of the base types (name no modifier word, `WFTArgs`), `WFVarDef` / `WFFn` of the entries;
not in the tree type: template parameters, member semantics / packoffsets. -/
theorem roundtrip_struct_partial (W : List String) (s : StructDef) (hwf : WFStruct W s) (rest : List Tok)
    (hsafe : (hasLtBases s.bases || hasLtMembers s.members) = true → TmplFree (toks (fmtStruct s) ++ rest) = true) :
    ∃ fuel, parseStruct W fuel (toks (fmtStruct s) ++ rest) = .ok s rest := by
  rw [toks_fmtStruct] at hsafe ⊢
  exact RsslVerif.Lemmas.Fuel.Ev.exists (struct_reads W s hwf rest hsafe)

/-- `struct P : S { };` with a base type reads back with it (before 2e907a1 base types were not printed) -/
theorem struct_base_types_roundtrip :
    toks (fmtStruct ⟨"P", [([], "S", .nil), ([], "T", .cons (.both (.id "U") (.mk [] "U" .nil .empty)) .nil)], []⟩) =
      [.p .Struct, .id "P", .p .Colon, .id "S", .p .Comma, .id "T", .lt true, .id "U", .gt false, .p .LeftBrace,
       .p .RightBrace, .p .Semicolon] ∧
    parseStruct [] 40 (toks (fmtStruct ⟨"P", [([], "S", .nil), ([], "T", .cons (.both (.id "U") (.mk [] "U" .nil .empty)) .nil)], []⟩) ++ [.p .Eof]) =
      .ok ⟨"P", [([], "S", .nil), ([], "T", .cons (.both (.id "U") (.mk [] "U" .nil .empty)) .nil)], []⟩ [.p .Eof] := by
  exact ⟨rfl, rfl⟩

/-- **definition_header_tables_agree.** `format_function` prints the template parameter list and the attributes in the order
in which `parse_function_definition` reads them (before df99070 the formatter printed the attributes first and the text
`[numthreads(8,8,1)] template<typename T> void f()` was rejected), and `format_struct` prints the base types that
`parse_struct_definition` reads (2e907a1).  Template parameter lists themselves are outside the tree types. -/
theorem definition_header_tables_agree :
    templateParamsBeforeAttributes = parserReadsTemplateParamsFirst ∧ structPrintsBaseTypes = true := by decide

/-- `void f(int a = (x, y));` -/
def defaultCommaFn : FnDef :=
  ⟨[], [], "void", .nil, "f", [⟨[], "int", .nil, .name "a", none, some (.bin .Sequence (.id "x") (.id "y"))⟩], none, none⟩

/-- `void f(int a = (x, y));` (before 2a6da39 printed `void f(int a = x, y);` and rejected): the default value keeps its
parentheses and the function reads back -/
theorem default_arg_comma_roundtrips :
    toks (fmtFn defaultCommaFn) = [.id "void", .id "f", .p .LeftParen, .id "int", .id "a", .p .Equals, .p .LeftParen, .id "x",
      .p .Comma, .id "y", .p .RightParen, .p .RightParen, .p .Semicolon] ∧
    parseFn [] 40 (toks (fmtFn defaultCommaFn) ++ [.p .Eof]) = .ok defaultCommaFn [.p .Eof] := by
  exact ⟨rfl, rfl⟩

/-- … and it is an instance of the general theorem -/
example : ∃ fuel, parseFn [] fuel (toks (fmtFn defaultCommaFn) ++ [.p .Eof]) = .ok defaultCommaFn [.p .Eof] :=
  roundtrip_function_partial [] defaultCommaFn
    (by simp [defaultCommaFn, WFFn, WFParam, WFBody, WFAttrs, WFTArgs, WFDecl, Decl.abstr,
          RsslVerif.Lemmas.RoundtripFull.WF]
        decide)
    _ (fun h => by revert h; decide)

/-- non-vacuity: attribute, template return type, `in`/`out`/`inout` parameters with array declarator, semantics and a
default value, a body with a definition and a `return` -/
def sampleFn : FnDef :=
  ⟨[⟨"numthreads", .cons (.lit ⟨.IntUntyped, false, 8⟩) (.cons (.lit ⟨.IntUntyped, false, 8⟩) (.cons (.lit ⟨.IntUntyped, false, 1⟩) .nil)), false⟩],
   [.Static], "vector", .cons (.both (.id "float") (.mk [] "float" .nil .empty)) (.cons (.e (.lit ⟨.IntUntyped, false, 4⟩)) .nil), "f",
   [⟨[.In], "float4", .nil, .name "a", some "COLOR", none⟩,
    ⟨[.Out], "S", .nil, .arr (.name "b") (.lit ⟨.IntUntyped, false, 3⟩), none, none⟩,
    ⟨[.InOut, .Const], "uint", .nil, .name "c", some "SV_VertexID", some (.bin .Add (.id "n") (.lit ⟨.IntUntyped, false, 1⟩))⟩],
   some "SV_Target",
   some (.cons (.mk [] (.var ⟨[], "float", .nil, [⟨.name "t", some (.expr (.id "a"))⟩]⟩))
     (.cons (.mk [] (.ret (some (.id "t")))) .nil))⟩

theorem sampleFn_wf : WFFn ["vector", "float4", "S", "uint", "float", "float4x4"] sampleFn := by
  simp [sampleFn, WFFn, WFParam, WFBody, WFS, WFK, WFSs, WFAttrs, WFAttr, WFVarDef, WFInitDecl, WFInit, WFOpt, WFDecl,
    RsslVerif.Lemmas.RoundtripFull.WF, RsslVerif.Lemmas.RoundtripFull.WFA, WFArg, WFTArgs, WFTy, tyName,
    hasLt, XExpr.lvl, Decl.abstr, Decl.needsScope, Decl.startsBracket, openIf, openIfK]
  decide +kernel

example : ∃ fuel, parseFn ["vector", "float4", "S", "uint", "float", "float4x4"] fuel (toks (fmtFn sampleFn) ++ [.p .Eof]) = .ok sampleFn [.p .Eof] :=
  roundtrip_function_partial _ sampleFn sampleFn_wf _ (fun _ => by decide +kernel)

/-- non-vacuity: a struct with two base types (one with a template argument), two member definitions (one with attribute
and two declarators) and a method -/
def sampleStruct : StructDef :=
  ⟨"P", [([], "Base", .nil), ([], "Mixin", .cons (.e (.lit ⟨.IntUntyped, false, 4⟩)) .nil)],
        [.var [] ⟨[], "float4", .nil, [⟨.name "pos", none⟩]⟩,
         .var [⟨"a", .nil, true⟩] ⟨[.RowMajor], "float4x4", .nil, [⟨.name "m", none⟩, ⟨.arr (.name "k") (.lit ⟨.IntUntyped, false, 2⟩), none⟩]⟩,
         .method sampleFn]⟩

theorem sampleStruct_wf : WFStruct ["vector", "float4", "S", "uint", "float", "float4x4"] sampleStruct := by
  refine ⟨fun b hb => ?_, ?_⟩
  · simp only [sampleStruct, List.mem_cons, List.not_mem_nil, or_false] at hb
    rcases hb with rfl | rfl <;> simp [WFBase, WFTArgs, WFArg, RsslVerif.Lemmas.RoundtripFull.WF] <;> decide
  intro m hm
  simp only [sampleStruct, List.mem_cons, List.not_mem_nil, or_false] at hm
  rcases hm with rfl | rfl | rfl
  · simp [WFMember, WFAttrs, WFVarDef, WFInitDecl, WFDecl, WFTArgs, Decl.abstr]; decide +kernel
  · simp [WFMember, WFAttrs, WFAttr, RsslVerif.Lemmas.RoundtripFull.WFA, WFVarDef, WFInitDecl, WFDecl, WFTArgs,
      Decl.abstr, Decl.needsScope, RsslVerif.Lemmas.RoundtripFull.WF]
    decide +kernel
  · exact sampleFn_wf

example : ∃ fuel, parseStruct ["vector", "float4", "S", "uint", "float", "float4x4"] fuel (toks (fmtStruct sampleStruct) ++ [.p .Eof]) =
    .ok sampleStruct [.p .Eof] :=
  roundtrip_struct_partial _ sampleStruct sampleStruct_wf _ (fun _ => by decide +kernel)

end Definitions

/-! # The text of integer literals -/
section LiteralText
open RsslVerif.Lemmas.LiteralText RsslVerif.Model.Lexer RsslVerif.Gen.LexTables

/-- the lexer's integer type of a literal kind of the syntax tree -/
def intTypeOfKind : LitKind → Option (Option IntType)
  | .IntUntyped => some none
  | .IntUnsigned32 => some (some .Unsigned32)
  | .IntUnsigned64 => some (some .Unsigned64)
  | .IntSigned64 => some (some .Signed64)
  | _ => none

/-- the suffix characters `format_literal` appends -/
def sfxChars : Option IntType → List Char
  | none => []
  | some .Unsigned32 => ['u']
  | some .Unsigned64 => ['u', 'l']
  | some .Signed64 => ['l']

/-- **literal_roundtrip_int** (beyond `_partial`, for integer literals of every type suffix).  For every non-negative
integer literal of the four integer kinds whose value fits the kind (`mkIntToken?` = the lexer's range check: `< 2^32`
for `u`, `< 2^63` for `l`, `< 2^64` otherwise):
1. the piece the formatter model prints carries the text `digits ++ suffix`, where `digits` are the decimal digits of
   the value, most significant first without leading zeros (`decMS`; `repr_decMS`: this is what `toString` — standing
   for Rust's `Display`, which is trusted — produces), and
2. that text, as bytes, followed by anything that does not continue the literal (`IntFollow`), is accepted by
   `literal_int` — property C10's model of `preprocess/src/lexer.rs` — and yields exactly the literal token of the same
   kind and value (`ofDigits_decMS`: the digits denote the value; `int_value_exact` is the converse direction).
`token_numeric_dispatch` (C10, cited) says `literal_int` is what `token_intermediate` runs when `literal_float` declines. -/
theorem literal_roundtrip_int (kind : LitKind) (k : Option IntType) (hk : intTypeOfKind kind = some k)
    (v : Nat) (hv : v < 2 ^ 64) (tok : Token) (hfit : mkIntToken? v k = some tok) :
    litPieces ⟨kind, false, v⟩ =
      some [.t (.lit ⟨kind, false, v⟩) (String.ofList ((decMS v).map Nat.digitChar ++ sfxChars k))] ∧
    (∀ tail, IntFollow tail →
      literalInt ((((decMS v).map Nat.digitChar ++ sfxChars k).map fun c => UInt8.ofNat c.toNat) ++ tail) = .ok (tail, tok)) ∧
    (tok = match k with
      | none => .litInt v
      | some .Unsigned32 => .litIntU32 v
      | some .Unsigned64 => .litIntU64 v
      | some .Signed64 => .litIntS64 (v : Int)) := by
  have hbytes : ∀ tail, (((decMS v).map Nat.digitChar ++ sfxChars k).map fun c => UInt8.ofNat c.toNat) ++ tail =
      (decMS v).map digitByte ++ (intSuffix k ++ tail) := by
    intro tail
    rw [List.map_append, digitChars_bytes, List.append_assoc]
    congr 1
    cases k with
    | none => rfl
    | some k => cases k <;> rfl
  refine ⟨?_, fun tail hf => ?_, ?_⟩
  · cases kind <;> simp [intTypeOfKind] at hk <;> subst hk <;>
      (simp [litPieces, sfxChars, String.ofList_append]; exact repr_decMS v)
  · rw [hbytes]
    exact int_text_reads v k tok hv hfit tail hf
  · revert hfit
    fun_cases mkIntToken? v k <;> intro hfit <;> cases hfit <;> rfl

/-- non-vacuity: `4294967295u`, `18446744073709551615ul`, `9223372036854775807l`, `0` -/
example : ∃ tok, mkIntToken? 4294967295 (some .Unsigned32) = some tok ∧
    literalInt ((((decMS 4294967295).map Nat.digitChar ++ sfxChars (some .Unsigned32)).map fun c => UInt8.ofNat c.toNat) ++ [59]) =
      .ok ([59], tok) :=
  ⟨_, rfl, (literal_roundtrip_int .IntUnsigned32 _ rfl 4294967295 (by decide) _ rfl).2.1 [59] ⟨by decide, by decide, by decide, by decide, by decide, by decide⟩⟩
example : mkIntToken? 18446744073709551615 (some .Unsigned64) = some (.litIntU64 18446744073709551615) := rfl
example : mkIntToken? (2 ^ 63) (some .Signed64) = none := by decide

end LiteralText

end RsslVerif.Thm.C09
