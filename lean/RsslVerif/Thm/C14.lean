import RsslVerif.Lemmas.SourceMap
import RsslVerif.Spec.SourceMap
import RsslVerif.Lemmas.Trivia
import RsslVerif.Lemmas.TriviaLexer
import RsslVerif.Gen.MacroTables
/-!
# C14 — layout trivia never changes results and diagnostics track source positions

Part 1: positions.  Theorems about `Model.SourceMap` — the model of `SourceManager` (`text/src/location.rs`) and
`MessagePrinter::write_message` (`text/src/errors.rs`) — for all texts, all insertion points, all inserted texts and
all file lists.  Part 2: trivia insensitivity of `read_to_end` + `prepare_tokens` over an abstract lexer.  Part 3: the
two places of the macro expander that look at trivia; 3b: white space inside a higher-order invocation.  Part 4: Part 2
for the byte-level lexer model.  Part 5: directive recognition ignores trivia.
-/
namespace RsslVerif.Thm.C14
open RsslVerif.Gen.SourceMapTables RsslVerif.Model.SourceMap RsslVerif.Lemmas.SourceMap RsslVerif.Spec.SourceMap

/-- Tie to the source: the constants and format pieces the model is written against are the ones
    `location.rs`, `errors.rs`, `tokens.rs` and `prepare_tokens` contain today. -/
theorem tables_as_modelled :
    unknownRaw = 2 ^ 32 - 1 ∧ firstRaw = 0 ∧ firstLine = 1 ∧ firstColumn = 1 ∧ extraSlots = 1 ∧ newlineByte = 10 ∧
    locSep = ":" ∧ headSep = ": " ∧ unknownText = "<unknown>" ∧ caretText = "^" ∧ padText = " " ∧
    Severity.Error.text = "error" ∧ Severity.Note.text = "note" ∧
    whitespaceKinds = ["Endline", "PhysicalEndline", "Whitespace", "Comment"] ∧
    prepareDropsWhitespace = true ∧ prepareAppendsEofUnknown = true ∧
    spaceTabAreWhitespace = true ∧ spliceIsPhysicalEndline = true ∧ newlineIsEndline = true :=
  ⟨rfl, rfl, rfl, rfl, rfl, rfl, rfl, rfl, rfl, rfl, rfl, rfl, rfl, rfl, rfl, rfl, rfl, rfl, rfl⟩

/-- **General insertion formula.** After inserting any `ins` at `p`, the old offset `q ≥ p` (now at
    `q + |ins|`) is `nlCount ins` lines further down; its column is unchanged once a line break lies
    between `p` and `q`, and otherwise is the column reached by scanning `ins` and then the bytes up to `q`. -/
theorem insert_shift (s ins : Bytes) (p q : Nat) (hpq : p ≤ q) (hq : q ≤ s.length) :
    (lineCol (insertAt s p ins) (q + ins.length)).line = (lineCol s q).line + nlCount ins ∧
    (0 < nlCount ((s.drop p).take (q - p)) →
      (lineCol (insertAt s p ins) (q + ins.length)).col = (lineCol s q).col) := by
  rw [lineCol_insertAt_after s ins p q hpq hq, lineCol_split s p q hpq, scan_eq, scan_eq, scan_eq]
  exact ⟨Nat.add_right_comm _ _ _, scanCol_reset _ _ _⟩

/-- **line_shift.** Inserting `k` newline-terminated lines (`ins`) at the start of a line (`p`) moves
    every position `q ≥ p` down by exactly `k` lines and leaves its column unchanged — for all texts,
    all `k`, all `p`, all `q`. -/
theorem line_shift (s ins : Bytes) (p q k : Nat) (hpq : p ≤ q) (hq : q ≤ s.length)
    (hstart : (lineCol s p).col = firstColumn) (hins : NlTerminated ins) (hk : nlCount ins = k) :
    lineCol (insertAt s p ins) (q + ins.length) = ⟨(lineCol s q).line + k, (lineCol s q).col⟩ := by
  rw [lineCol_insertAt_after s ins p q hpq hq, lineCol_split s p q hpq, scan_lines _ ins hins hstart,
    scan_eq, scan_eq, hk, Nat.add_right_comm]

/-- non-vacuity: `"ab\ncd"`, two lines (`"//\n\n"`) inserted at the start of line 2: `d` moves from 2:2 to 4:2 -/
example :
    let s : Bytes := [97, 98, 10, 99, 100]
    let ins : Bytes := [47, 47, 10, 10]
    (lineCol s 3).col = firstColumn ∧ NlTerminated ins ∧ nlCount ins = 2 ∧
    lineCol s 4 = ⟨2, 2⟩ ∧ lineCol (insertAt s 3 ins) (4 + ins.length) = ⟨4, 2⟩ :=
  ⟨by decide, Or.inr ⟨[47, 47, 10], 10, rfl, by decide⟩, by decide, by decide, by decide⟩

/-- positions before the inserted lines do not move at all -/
theorem line_shift_before (s ins : Bytes) (p q : Nat) (hqp : q ≤ p) (hp : p ≤ s.length) :
    lineCol (insertAt s p ins) q = lineCol s q :=
  lineCol_insertAt_before s ins p q hqp hp

/-- **Inline trivia.** Inserting `w` without a line break at `p`: a position on the rest of that line
    moves right by `|w|`, positions on later lines do not move, the line number never changes. -/
theorem inline_trivia_shift (s w : Bytes) (p q : Nat) (hpq : p ≤ q) (hq : q ≤ s.length) (hw : nlCount w = 0) :
    (lineCol (insertAt s p w) (q + w.length)).line = (lineCol s q).line ∧
    (nlCount ((s.drop p).take (q - p)) = 0 →
      (lineCol (insertAt s p w) (q + w.length)).col = (lineCol s q).col + w.length) ∧
    (0 < nlCount ((s.drop p).take (q - p)) →
      (lineCol (insertAt s p w) (q + w.length)).col = (lineCol s q).col) := by
  have h := insert_shift s w p q hpq hq
  refine ⟨by rw [h.1, hw]; rfl, ?_, h.2⟩
  intro h0
  rw [lineCol_insertAt_after s w p q hpq hq, lineCol_split s p q hpq]
  simp only [scan_col]
  rw [scanCol_noNl _ _ h0, scanCol_noNl _ _ h0, scanCol_noNl _ _ hw]
  omega

/-- line and column determine the offset: two different positions of a file never print the same `line:col` -/
theorem lineCol_injective (s : Bytes) (p q : Nat) (hpq : p ≤ q) (hq : q ≤ s.length)
    (h : lineCol s p = lineCol s q) : p = q := by
  have hl : (lineCol s q).line = (lineCol s p).line + nlCount ((s.drop p).take (q - p)) := by
    rw [lineCol_split s p q hpq, scan_line]
  have hc : (lineCol s q).col = scanCol (lineCol s p).col ((s.drop p).take (q - p)) := by
    rw [lineCol_split s p q hpq, scan_col]
  rw [← h] at hl hc
  have h0 : nlCount ((s.drop p).take (q - p)) = 0 := by omega
  rw [scanCol_noNl _ _ h0] at hc
  have hlen : ((s.drop p).take (q - p)).length = q - p := by
    simp [List.length_take, List.length_drop]; omega
  omega

/-- bounds: lines and columns start at 1 and never exceed the offset + 1 -/
theorem lineCol_bounds (s : Bytes) (q : Nat) (hq : q ≤ s.length) :
    firstLine ≤ (lineCol s q).line ∧ (lineCol s q).line ≤ firstLine + q ∧
    firstColumn ≤ (lineCol s q).col ∧ (lineCol s q).col ≤ firstColumn + q := by
  have hlen : (s.take q).length = q := by simp [List.length_take]; omega
  have h1 : nlCount (s.take q) ≤ q := by
    have := List.countP_le_length (p := isNl) (l := s.take q)
    unfold nlCount; omega
  have h2 : (lastLine (s.take q)).length ≤ q := by
    have : (lastLine (s.take q)).length ≤ (s.take q).length := by
      unfold lastLine
      rw [List.length_reverse]
      have := (List.takeWhile_sublist (fun c => !isNl c) (l := (s.take q).reverse)).length_le
      simpa using this
    omega
  rw [lineCol_line, lineCol_col]
  omega

/-- **Several insertions.** With the insertion offsets given in original coordinates in ascending
    order (what the harness sends and the driver applies), `moveThrough` is where each original byte
    ends up: the edited text has, at the moved offset, the very byte the original had. -/
theorem applyEdits_tracks (s : Bytes) (es : List (Nat × Bytes)) (hasc : Ascending es)
    (hle : ∀ e ∈ es, e.1 ≤ s.length) (q : Nat) (hq : q < s.length) :
    (applyEdits s es)[moveThrough es q]? = s[q]? := by
  induction es with
  | nil => simp [applyEdits, moveThrough]
  | cons e rest ih =>
    obtain ⟨p, ins⟩ := e
    have ih' := ih hasc.2 (fun e he => hle e (by simp [he]))
    have hp : p ≤ s.length := hle (p, ins) (by simp)
    have hlen := length_applyEdits_ge s rest
    rw [moveThrough_cons]
    simp only [applyEdits]
    by_cases hpq : p ≤ q
    · simp only [hpq, if_true]
      rw [getElem?_insertAt_after _ ins p _ (Nat.le_trans hpq (moveThrough_ge rest q)) (by omega)]
      exact ih'
    · have hall : ∀ e ∈ rest, q < e.1 := fun e he => by have := hasc.1 e he; omega
      rw [moveThrough_all_after rest q hall] at ih' ⊢
      simp only [hpq, if_false, Nat.add_zero]
      rw [getElem?_insertAt_before _ ins p q (by omega) (by omega)]
      exact ih'

/-- **include_location.** A location inside a file — wherever that file sits among the loaded files,
    whatever the files loaded before it (the including files) and after it contain — decodes to that
    file's own name and to the line and column counted inside that file alone. -/
theorem include_location (pre post : SourceManager) (f : SourceFile) (off : Nat)
    (h : off ≤ f.contents.length) :
    getFileLocation (pre ++ f :: post) (totalSlots pre + off) =
      .known f.name (lineCol f.contents off).line (lineCol f.contents off).col ∧
    getFileOffset (pre ++ f :: post) (totalSlots pre + off) = some (pre.length, off) :=
  decode_in_file pre post f off h

/-- editing the including files (any change of the files loaded earlier or later) does not change
    what a position inside an included file decodes to -/
theorem include_independent_of_includer (pre pre' post post' : SourceManager) (f : SourceFile) (off : Nat)
    (h : off ≤ f.contents.length) :
    getFileLocation (pre' ++ f :: post') (totalSlots pre' + off) =
      getFileLocation (pre ++ f :: post) (totalSlots pre + off) := by
  rw [(include_location pre post f off h).1, (include_location pre' post' f off h).1]

/-- `get_source_location_from_file_offset` produces exactly the locations `include_location` speaks about -/
theorem sourceLocation_eq (pre post : SourceManager) (f : SourceFile) (off : Nat) (h : off ≤ f.contents.length) :
    sourceLocation (pre ++ f :: post) pre.length off = .ok (totalSlots pre + off) := by
  have hlt : off < f.slots := by unfold SourceFile.slots; have : extraSlots = 1 := rfl; omega
  simp [sourceLocation, hlt, baseOf]

/-- **location_in_range.** A raw location decodes to a file position exactly when it is below the
    total number of slots; the decoded pair lies inside its file (`offset ≤ size`) and re-encodes to the
    same raw location; both decoders agree on the owner. -/
theorem location_in_range (sm : SourceManager) (loc : Nat) :
    (loc < totalSlots sm ↔ getFileLocation sm loc ≠ .unknown) ∧
    (getFileOffset sm loc = none ↔ getFileLocation sm loc = .unknown) ∧
    (∀ i off, getFileOffset sm loc = some (i, off) →
      ∃ f, sm[i]? = some f ∧ off ≤ f.contents.length ∧ baseOf sm i + off = loc ∧
        getFileLocation sm loc = .known f.name (lineCol f.contents off).line (lineCol f.contents off).col) := by
  rcases loc_cases sm loc with ⟨h1, h2, h3⟩ | ⟨pre, f, post, off, rfl, ho, rfl⟩
  · simp [h2, h3]; omega
  · obtain ⟨d1, d2⟩ := decode_in_file pre post f off ho
    refine ⟨?_, by simp [d1, d2], ?_⟩
    · have : off < f.slots := Nat.lt_succ_of_le ho
      simp only [d1, totalSlots_append, totalSlots]; simp; omega
    · intro i o hio
      rw [d2] at hio; cases hio
      exact ⟨f, by simp, ho, by simp [baseOf], d1⟩

/-- **line_shift across files.** `f` is any loaded file, `k` whole lines are inserted at the line start
    `p` of `f`.  A location at or after `p` in `f` moves by `|ins|` raw slots and decodes to the same
    file name, the same column and `line + k`.  (Locations before `p`, of files loaded earlier and of files loaded
    later: `line_shift_before`, `earlier_files_unaffected`, `later_files_unaffected`.) -/
theorem line_shift_located (pre post : SourceManager) (f : SourceFile) (ins : Bytes) (p q k : Nat)
    (hpq : p ≤ q) (hq : q ≤ f.contents.length)
    (hstart : (lineCol f.contents p).col = firstColumn) (hins : NlTerminated ins) (hk : nlCount ins = k) :
    getFileLocation (pre ++ { f with contents := insertAt f.contents p ins } :: post)
        (totalSlots pre + q + ins.length) =
      .known f.name ((lineCol f.contents q).line + k) (lineCol f.contents q).col ∧
    getFileLocation (pre ++ f :: post) (totalSlots pre + q) =
      .known f.name (lineCol f.contents q).line (lineCol f.contents q).col := by
  constructor
  · have hq' : q + ins.length ≤ (insertAt f.contents p ins).length := by rw [length_insertAt]; omega
    have := (include_location pre post { f with contents := insertAt f.contents p ins } (q + ins.length) hq').1
    rw [Nat.add_assoc, this]
    simp only [line_shift f.contents ins p q k hpq hq hstart hins hk]
  · exact (include_location pre post f q hq).1

/-- locations of files loaded after the edited file: the raw value moves, the decoded position does not -/
theorem later_files_unaffected (pre post : SourceManager) (f f' : SourceFile) (loc : Nat) :
    getFileLocation (pre ++ f' :: post) (totalSlots pre + f'.slots + loc) =
      getFileLocation (pre ++ f :: post) (totalSlots pre + f.slots + loc) := by
  rw [Nat.add_assoc, Nat.add_assoc, getFileLocation_skip, getFileLocation_skip]
  simp only [getFileLocation, Nat.not_lt.2 (Nat.le_add_right _ _), if_false, Nat.add_sub_cancel_left]

/-- locations of files loaded before the edited file are untouched -/
theorem earlier_files_unaffected (pre rest rest' : SourceManager) (loc : Nat) (h : loc < totalSlots pre) :
    getFileLocation (pre ++ rest') loc = getFileLocation (pre ++ rest) loc := by
  rcases loc_cases pre loc with ⟨h1, _⟩ | ⟨a, f, b, off, rfl, ho, rfl⟩
  · omega
  · simp only [List.append_assoc, List.cons_append]
    rw [(decode_in_file a (b ++ rest') f off ho).1, (decode_in_file a (b ++ rest) f off ho).1]

/-! ## command-line defines (`CompileArgs::defines`)

`preprocess_initial_file` loads every define as a file named `<define>` holding `NAME VALUE` *before* the entry
file and lexes it from offset 0 of that file: for the source manager they are ordinary files in front of the
program's files. -/

/-- Tie to the source: how the command-line defines are loaded is what the statements below assume (extracted
    from `preprocess_initial_file` this run). -/
theorem commandline_defines_as_modelled :
    defineFileName = "<define>" ∧ defineFileFormat = "{name} {value}" ∧
    defineTokensStartAtOffsetZero = true ∧ definesAreLoadedBeforeTheEntryFile = true :=
  ⟨rfl, rfl, rfl, rfl⟩

/-- a command-line define as a loaded file -/
def defineFile (name value : Bytes) : SourceFile :=
  { name := defineFileName, contents := name ++ strBytes " " ++ value }

/-- **commandline_defines_location.** Whatever defines are passed on the command line (any number, any names and
    values) and whatever they are replaced by, (1) a position inside a file of the program decodes to that file's
    own name and to the line and column counted inside that file alone, and so to the same place as without any
    define; (2) a position inside the text of a define decodes to `<define>` and the line / column inside that
    text, independently of the program's files.  (Inserting lines into a file of the program with the defines in
    front: `line_shift_located` with `D ++ pre` for `pre`.) -/
theorem commandline_defines_location (defs defs' : List (Bytes × Bytes)) (pre post : SourceManager) (f : SourceFile)
    (off : Nat) (h : off ≤ f.contents.length) :
    let D := defs.map fun d => defineFile d.1 d.2
    let D' := defs'.map fun d => defineFile d.1 d.2
    getFileLocation (D ++ (pre ++ f :: post)) (totalSlots (D ++ pre) + off) =
      .known f.name (lineCol f.contents off).line (lineCol f.contents off).col ∧
    getFileLocation (D' ++ (pre ++ f :: post)) (totalSlots (D' ++ pre) + off) =
      getFileLocation (pre ++ f :: post) (totalSlots pre + off) ∧
    (∀ (D₁ D₂ : SourceManager) (name value : Bytes) (o : Nat) (rest rest' : SourceManager),
      o ≤ (defineFile name value).contents.length →
      getFileLocation (D₁ ++ defineFile name value :: (D₂ ++ rest)) (totalSlots D₁ + o) =
        .known "<define>" (lineCol (name ++ strBytes " " ++ value) o).line (lineCol (name ++ strBytes " " ++ value) o).col ∧
      getFileLocation (D₁ ++ defineFile name value :: (D₂ ++ rest')) (totalSlots D₁ + o) =
        getFileLocation (D₁ ++ defineFile name value :: (D₂ ++ rest)) (totalSlots D₁ + o)) := by
  intro D D'
  refine ⟨?_, ?_, ?_⟩
  · have := (include_location (D ++ pre) post f off h).1
    simpa [List.append_assoc] using this
  · have h1 := (include_location (D' ++ pre) post f off h).1
    have h2 := (include_location pre post f off h).1
    rw [h2]
    simpa [List.append_assoc] using h1
  · intro D₁ D₂ name value o rest rest' ho
    have h1 := (include_location D₁ (D₂ ++ rest) (defineFile name value) o ho).1
    have h2 := (include_location D₁ (D₂ ++ rest') (defineFile name value) o ho).1
    refine ⟨?_, ?_⟩
    · rw [h1]; rfl
    · rw [h1, h2]

/-- non-vacuity, and what the real compiler prints for `-D CLD_BAD=(1 + q)` used in `main.rssl`: the `q` of the
    define is `<define>:1:14`, the first byte of the entry file behind two defines is `main.rssl:1:1` -/
example :
    getFileLocation [defineFile (strBytes "CLD_ONE") (strBytes "1"), defineFile (strBytes "CLD_BAD") (strBytes "(1 + q)"),
      { name := "main.rssl", contents := strBytes "int v = CLD_BAD;\n" }] (10 + 13) = .known "<define>" 1 14 ∧
    getFileLocation [defineFile (strBytes "CLD_ONE") (strBytes "1"), defineFile (strBytes "CLD_BAD") (strBytes "(1 + q)"),
      { name := "main.rssl", contents := strBytes "int v = CLD_BAD;\n" }] (10 + 16) = .known "main.rssl" 1 1 := by
  decide +kernel

theorem isNl_iff (c : UInt8) : (!isNl c) = (c != 10) := by
  have h : (c.toNat == 10) = (c == 10) := by rw [Bool.eq_iff_iff]; simp [← UInt8.toNat_inj]
  simp [isNl, newlineByte, bne, h]

/-- the model's source line is the reference "line around the offset" -/
theorem sourceLine_eq_lineAround (s : Bytes) (q : Nat) : sourceLine s q = lineAround s q := by
  unfold sourceLine lineAround lastLine
  have : (fun c => !isNl c) = (fun c : UInt8 => c != 10) := funext isNl_iff
  rw [this]

theorem getD_append_cons (pre post : SourceManager) (f d : SourceFile) :
    (pre ++ f :: post).getD pre.length d = f := by
  simp [List.getD]

/-- `write_message` for a position inside a loaded file prints the reference rendering of
    (file name, line, column, severity, message, source line) — or panics off a character boundary. -/
theorem writeMessage_located (pre post : SourceManager) (f : SourceFile) (q : Nat) (msg : Bytes) (sev : Severity)
    (hq : q ≤ f.contents.length) (hknown : totalSlots pre + q ≠ unknownRaw) :
    writeMessage (pre ++ f :: post) msg (totalSlots pre + q) sev =
      if isCharBoundary f.contents q then
        .ok (renderLocated f.name (lineCol f.contents q).line (lineCol f.contents q).col sev msg
          (lineAround f.contents q))
      else .error "panic: byte index is not a char boundary" := by
  obtain ⟨h1, h2⟩ := include_location pre post f q hq
  unfold writeMessage writeSourceForError
  simp only [hknown, ne_eq, not_false_eq_true, if_true, h1, h2, getD_append_cons]
  by_cases hb : isCharBoundary f.contents q
  · simp [hb, renderLocated, FileLocation.render, caretLine, sourceLine_eq_lineAround,
      show locSep = ":" from rfl, show headSep = ": " from rfl, show caretText = "^" from rfl]
  · simp [hb]

/-- a message without a position is `severity: message` -/
theorem writeMessage_unlocated (sm : SourceManager) (msg : Bytes) (sev : Severity) :
    writeMessage sm msg unknownRaw sev = .ok (strBytes sev.text ++ strBytes ": " ++ msg ++ [nl]) := by
  simp [writeMessage, show headSep = ": " from rfl]

/-- **message_render_shift.** `k` whole lines are inserted at the line start `p` of the loaded file `f`.
    The diagnostic printed for a position `q ≥ p` of `f` before the edit, and the diagnostic printed for
    the moved position after the edit, are the reference rendering of the *same* file name, column,
    severity, message and source-line text, with `line` and `line + k` — they differ in the line number
    and in nothing else.  (Both positions are character boundaries: otherwise the printer panics.) -/
theorem message_render_shift (pre post : SourceManager) (f : SourceFile) (ins msg : Bytes) (sev : Severity)
    (p q k : Nat) (hpq : p ≤ q) (hq : q ≤ f.contents.length)
    (hstart : (lineCol f.contents p).col = firstColumn) (hins : NlTerminated ins) (hk : nlCount ins = k)
    (hknown : totalSlots pre + q ≠ unknownRaw) (hknown' : totalSlots pre + (q + ins.length) ≠ unknownRaw)
    (hb : isCharBoundary f.contents q = true)
    (hb' : isCharBoundary (insertAt f.contents p ins) (q + ins.length) = true) :
    ∃ name line col src,
      writeMessage (pre ++ f :: post) msg (totalSlots pre + q) sev =
        .ok (renderLocated name line col sev msg src) ∧
      writeMessage (pre ++ { f with contents := insertAt f.contents p ins } :: post) msg
          (totalSlots pre + (q + ins.length)) sev =
        .ok (renderLocated name (line + k) col sev msg src) := by
  refine ⟨f.name, (lineCol f.contents q).line, (lineCol f.contents q).col, lineAround f.contents q, ?_, ?_⟩
  · rw [writeMessage_located pre post f q msg sev hq hknown, hb]; rfl
  · have hq' : q + ins.length ≤ (insertAt f.contents p ins).length := by rw [length_insertAt]; omega
    rw [writeMessage_located pre post { f with contents := insertAt f.contents p ins } (q + ins.length) msg sev hq' hknown']
    simp only [hb', if_true, line_shift f.contents ins p q k hpq hq hstart hins hk]
    rw [← sourceLine_eq_lineAround, ← sourceLine_eq_lineAround, sourceLine_insert_lines f.contents ins p q hpq hq hstart hins]

/-- the moved position is a character boundary whenever the old one was (except at the very start of
    the file, where Rust's `is_char_boundary(0)` is true for any contents) -/
theorem boundary_preserved (s ins : Bytes) (p q : Nat) (hpq : p ≤ q) (hq : q ≤ s.length) (hq0 : 0 < q)
    (hb : isCharBoundary s q = true) : isCharBoundary (insertAt s p ins) (q + ins.length) = true := by
  unfold isCharBoundary at hb ⊢
  have hq0' : (q == 0) = false := by simp; omega
  have hq1 : (q + ins.length == 0) = false := by simp; omega
  rw [length_insertAt, getElem?_insertAt_after s ins p q hpq (Nat.le_trans hpq hq)]
  simp only [hq0', hq1, Bool.false_or] at hb ⊢
  have : (q + ins.length == s.length + ins.length) = (q == s.length) := by
    cases h : (q == s.length) <;> simp at h ⊢ <;> omega
  rw [this]
  exact hb

/-!
# Part 2: trivia insensitivity of `read_to_end` + `prepare_tokens`, over an abstract lexer

What a concrete lexer has to provide, for each trivia text `w` and each token kind `t` after which insertion
is allowed:

* `LexesAs L w ws` with every token of `ws` whitespace — (T) the trivia lexes as trivia whatever follows;
* `AdjacentStable L w t` / `AdjacentStableIf` — (A) the token is closed under following trivia;
* `DistantStable L w` / `DistantStableIf` — (D) a token does not depend on text at or beyond the end of the next
  token, as far as inserting `w` there is concerned (the `If` form: provided the next token is itself unchanged,
  and under a side condition on the text at the token's start).

Part 4 discharges them for the byte-level model of `preprocess/src/lexer.rs`: `<` and `>` fail (A) (their
`FollowedBy` flag looks at the next token), a line comment fails (A) (the inserted text joins the comment), `/`
fails (A) for a `w` that starts with `/`, and a swizzled numeric literal (`1.xxx`) fails the side condition: these
are exactly the insertion points the harness excludes or lists as a known finding.
-/
open RsslVerif.Model.Trivia RsslVerif.Lemmas.Trivia

variable {τ : Type}

/-- **trivia_insensitive (general form, with a side condition `good` on the text at token starts).** `s` lexes; `i` is the start of the text or the end of a token after which
    insertion is allowed; `w` is a trivia text for this lexer ((T), (A), (D)).  Then the edited text
    lexes, and `prepare_tokens` of the edited text is `prepare_tokens` of the original text with every
    location at or after `i` moved by `|w|` and nothing else changed: the same tokens in the same order,
    each still pointing at its own bytes. -/
theorem trivia_insensitive_if (L : Lexer τ) (hEnd : L.isWs L.endline = true)
    (w : Bytes) (ws : List (τ × Nat)) (allowed : τ → Prop) (good : Bytes → Prop)
    (hT : LexesAs L w ws) (hws : ∀ t ∈ ws, L.isWs t.1 = true)
    (hA : ∀ t, allowed t → AdjacentStableIf L w good t) (hD : DistantStableIf L w good)
    (s : Bytes) (i : Nat) (trailing : Bool) (toks0 toks : List (Spanned τ))
    (h0 : lexBytes L s 0 = .ok toks0) (hb : BoundaryOK allowed 0 i toks0)
    (hg : ∀ t ∈ toks0, t.stop ≤ i → good (s.drop t.start))
    (h : readToEnd L s trailing = .ok toks) :
    ∃ toks', readToEnd L (insertAt s i w) trailing = .ok toks' ∧
      prepare L toks' = (prepare L toks).map fun tl => (tl.1, relocate i w.length tl.2) := by
  rw [← lexPrefix_of_ok L s 0 toks0 h0] at hb hg
  obtain ⟨⟨pre, hpre, e1, e2⟩, _⟩ := lexBytes_cut L w allowed good hA hD s 0 i hb (by simpa using hg)
  rw [Nat.sub_zero] at e1 e2
  -- the run behind `i`: `post`; after the edit the trivia and `post` moved
  cases hpost : lexBytes L (s.drop i) i with
  | error e => rw [hpost, h0] at e1; cases e1
  | ok post =>
    rw [hpost, h0] at e1
    rw [hT, lexBytes_shift, hpost] at e2
    cases e1
    obtain ⟨toks1, h1, hp1⟩ := readToEnd_ok L hEnd s trailing _ h0
    obtain ⟨toks', hr, hp⟩ := readToEnd_ok L hEnd (insertAt s i w) trailing _ e2
    cases h1.symm.trans h
    refine ⟨toks', hr, ?_⟩
    rw [hp, hp1]
    simp only [← List.append_assoc]
    exact prepare_moved L i w.length pre _ post (spansFrom_tok ws i L.isWs hws) (fun t ht => (hpre t ht).1)
      (fun t ht => (lexBytes_spans L _ i post hpost t ht).1)

/-- **trivia_insensitive.** The form without side condition: (A) and (D) hold outright. -/
theorem trivia_insensitive (L : Lexer τ) (hEnd : L.isWs L.endline = true)
    (w : Bytes) (ws : List (τ × Nat)) (allowed : τ → Prop)
    (hT : LexesAs L w ws) (hws : ∀ t ∈ ws, L.isWs t.1 = true)
    (hA : ∀ t, allowed t → AdjacentStable L w t) (hD : DistantStable L w)
    (s : Bytes) (i : Nat) (trailing : Bool) (toks0 toks : List (Spanned τ))
    (h0 : lexBytes L s 0 = .ok toks0) (hb : BoundaryOK allowed 0 i toks0)
    (h : readToEnd L s trailing = .ok toks) :
    ∃ toks', readToEnd L (insertAt s i w) trailing = .ok toks' ∧
      prepare L toks' = (prepare L toks).map fun tl => (tl.1, relocate i w.length tl.2) :=
  trivia_insensitive_if L hEnd w ws allowed (fun _ => True) hT hws (fun t ht => (hA t ht).toIf) hD.toIf
    s i trailing toks0 toks h0 hb (fun _ _ _ => trivial) h

/-- **trivia_insensitive, rejected texts.** If the lexer rejects `s`, and `i` is the start of the text
    or the end of one of the tokens lexed before the failure (after which insertion is allowed), the
    edited text is rejected too — same reason, at the moved offset.  Together with
    `trivia_insensitive`: the lexer's accept/reject verdict is unchanged. -/
theorem trivia_insensitive_rejected_if (L : Lexer τ)
    (w : Bytes) (ws : List (τ × Nat)) (allowed : τ → Prop) (good : Bytes → Prop)
    (hT : LexesAs L w ws) (hA : ∀ t, allowed t → AdjacentStableIf L w good t) (hD : DistantStableIf L w good)
    (s : Bytes) (i : Nat) (trailing : Bool) (e : LexErr)
    (h : readToEnd L s trailing = .error e) (hb : BoundaryOK allowed 0 i (lexPrefix L s 0))
    (hg : ∀ t ∈ lexPrefix L s 0, t.stop ≤ i → good (s.drop t.start)) :
    readToEnd L (insertAt s i w) trailing = .error (e.shift w.length) := by
  have := lexBytes_insert_error_if L w ws allowed good hT hA hD s 0 i e ((readToEnd_error L s trailing e).1 h) hb
    (by simpa using hg)
  exact (readToEnd_error L _ trailing _).2 (by simpa using this)

/-- the form without side condition -/
theorem trivia_insensitive_rejected (L : Lexer τ)
    (w : Bytes) (ws : List (τ × Nat)) (allowed : τ → Prop)
    (hT : LexesAs L w ws) (hA : ∀ t, allowed t → AdjacentStable L w t) (hD : DistantStable L w)
    (s : Bytes) (i : Nat) (trailing : Bool) (e : LexErr)
    (h : readToEnd L s trailing = .error e) (hb : BoundaryOK allowed 0 i (lexPrefix L s 0)) :
    readToEnd L (insertAt s i w) trailing = .error (e.shift w.length) :=
  trivia_insensitive_rejected_if L w ws allowed (fun _ => True) hT (fun t ht => (hA t ht).toIf) hD.toIf
    s i trailing e h hb (fun _ _ _ => trivial)

/-- words of letters (maximal munch), single spaces, newlines, and `<` with a one-token lookahead flag
    like `leftanglebracket`; everything else is an error -/
inductive ToyTok where
  | word (n : Nat) | space | newline | langle (followedByToken : Bool)
  deriving DecidableEq, Repr

def isLetter (c : UInt8) : Bool := 97 ≤ c.toNat && c.toNat ≤ 122

def toyTok (x : Bytes) : Option (ToyTok × Nat) :=
  match x with
  | [] => none
  | c :: r =>
    if c = 32 then some (.space, 1)
    else if c = 10 then some (.newline, 1)
    else if c = 60 then
      some (.langle (match r with
        | [] => false
        | d :: _ => isLetter d || d = 60), 1)
    else if isLetter c then some (.word (1 + (r.takeWhile isLetter).length), 1 + (r.takeWhile isLetter).length)
    else none

def toyLexer : Lexer ToyTok where
  tok := toyTok
  isWs := fun t => t = .space || t = .newline
  endline := .newline
  isEndline := fun t => t = .newline

/-! the hypotheses of `trivia_insensitive` hold for the toy lexer, `w` = one space, after any token other than `<`:
`toy_lexesAs`, `toy_adjacent`, `toy_distant` -/

theorem toy_lexesAs : LexesAs toyLexer [32] [(.space, 1)] := by
  intro y off
  have ht : toyLexer.tok ([32] ++ y) = some (.space, 1) := by simp [toyLexer, toyTok]
  rw [lexBytes_step toyLexer ([32] ++ y) off .space 1 ht (by omega) (by simp)]
  simp only [List.singleton_append, List.drop_succ_cons, List.drop_zero, List.length_singleton]
  cases lexBytes toyLexer y (off + 1) <;> simp [consOk, mapOk, spansFrom]

theorem takeWhile_letter_stop (r : Bytes) (rest : Bytes) (c : UInt8) (hc : isLetter c = false) :
    ((r.takeWhile isLetter ++ c :: rest).takeWhile isLetter) = r.takeWhile isLetter := by
  rw [List.takeWhile_append_of_pos (fun a ha => List.all_eq_true.1 List.all_takeWhile a ha),
    List.takeWhile_cons_of_neg (by simp [hc]), List.append_nil]

theorem take_takeWhile_length (p : UInt8 → Bool) (r : Bytes) : r.take (r.takeWhile p).length = r.takeWhile p :=
  (List.prefix_iff_eq_take.1 (List.takeWhile_prefix p)).symm

theorem toy_adjacent (t : ToyTok) (hl : ∀ b, t ≠ .langle b) : AdjacentStable toyLexer [32] t := by
  intro x n ht hn hle
  change toyTok x = _ at ht
  change toyTok _ = _
  revert ht
  fun_cases toyTok x <;> intro ht <;> cases ht
  · simp [toyTok]
  · simp [toyTok, *]
  · exact absurd rfl (hl _)
  · -- a word: the inserted space stops it where the old text did
    rename_i c r h1 h2 h3 h4
    rw [Nat.add_comm, List.take_succ_cons, take_takeWhile_length, List.drop_succ_cons]
    simp only [List.cons_append, List.append_assoc, toyTok, h1, h2, h3, h4, if_false, if_true]
    rw [takeWhile_letter_stop r _ 32 (by decide), Nat.add_comm]

theorem takeWhile_length_of_take_eq (p : UInt8 → Bool) (r r' : Bytes) (l : Nat)
    (hl : (r.takeWhile p).length = l) (h : r.take (l + 1) = r'.take (l + 1)) :
    (r'.takeWhile p).length = l := by
  -- `takeWhile` commutes with `take`, and neither result fills the `l + 1` places
  have h1 := List.take_takeWhile (l := r) (p := p) (i := l + 1)
  rw [h, ← List.take_takeWhile] at h1
  have := congrArg List.length h1
  simp only [List.length_take] at this
  omega

/-- the toy lexer reads at most one byte beyond the token -/
theorem toyTok_prefix (x x' : Bytes) (t : ToyTok) (n : Nat) (h : toyTok x = some (t, n))
    (hp : x.take (n + 1) = x'.take (n + 1)) : toyTok x' = some (t, n) := by
  revert h
  fun_cases toyTok x <;> intro h <;> cases h
  all_goals
    rcases x' with _ | ⟨c', r'⟩
    · simp at hp
    simp only [List.take_succ_cons, List.cons.injEq] at hp
    obtain ⟨rfl, hp⟩ := hp
    simp only [toyTok, *, if_true, if_false]
  · -- `<` looks at the byte behind it
    rename_i r _ _
    cases r <;> cases r' <;> simp_all
  · -- a word ends at the first byte that is not a letter
    rename_i r _ _ _ _
    rw [takeWhile_length_of_take_eq isLetter r r' _ rfl (by rw [Nat.add_comm]; exact hp)]

theorem toy_distant (w : Bytes) : DistantStable toyLexer w := by
  intro x t n t2 n2 j ht hn hle ht2 hn2 hj hjx
  apply toyTok_prefix x _ t n ht
  exact (take_insertAt_before x w j (n + 1) (by omega) hjx).symm

/-- the hypotheses of `trivia_insensitive` are satisfiable: the toy lexer, one inserted space, after
    any token except `<`; and the conclusion on a concrete text (`ab<c` with a space after `ab`) -/
example (s : Bytes) (i : Nat) (trailing : Bool) (toks0 toks : List (Spanned ToyTok))
    (h0 : lexBytes toyLexer s 0 = .ok toks0)
    (hb : BoundaryOK (fun t => ∀ b, t ≠ ToyTok.langle b) 0 i toks0)
    (h : readToEnd toyLexer s trailing = .ok toks) :
    ∃ toks', readToEnd toyLexer (insertAt s i [32]) trailing = .ok toks' ∧
      prepare toyLexer toks' = (prepare toyLexer toks).map fun tl => (tl.1, relocate i 1 tl.2) :=
  trivia_insensitive toyLexer rfl [32] [(.space, 1)] _ toy_lexesAs (by simp [toyLexer])
    (fun t ht => toy_adjacent t ht) (toy_distant [32]) s i trailing toks0 toks h0 hb h

/-- adjacency after `<` is significant — the exception in the property is real: inserting a space
    directly after `<` changes the token (`FollowedBy::Token` becomes `FollowedBy::Whitespace`) -/
theorem angle_bracket_not_closed : ¬ AdjacentStable toyLexer [32] (.langle true) := by
  intro h
  have := h [60, 97] 1 (by decide) (by omega) (by decide)
  revert this
  decide

/-!
# Part 3: the two places of the macro expander that look at trivia (`find_single_macro`, the empty argument of a
zero-parameter macro).  Trivia without a line break never matters; the two line-break witnesses are conditional on
table flags (`findMacroUsesTrimStart`, `emptyArgsTestIsEmpty`) that are `false` in `Gen/SourceMapTables` of the present
tree: they describe a `find_single_macro` / empty-argument test that used `trim_whitespace_start` / `is_empty` on the trimmed
argument (corpus lines `hand:newline-between-macro-name-and-paren`, `hand:newline-in-empty-macro-args`).
-/

/-- a gap of tokens that `trim_whitespace_start` skips (its own test) does not change whether the macro is invoked -/
theorem activates_skip (gap rest : List PTok)
    (h : ∀ t ∈ gap, (t.isWs && !(trimKeepsEndline && t == .endline)) = true) :
    activatesFunctionMacro (gap ++ rest) = activatesFunctionMacro rest := by
  induction gap with
  | nil => rfl
  | cons t gap ih =>
    rw [← ih fun u hu => h u (List.mem_cons_of_mem _ hu)]
    unfold activatesFunctionMacro
    rw [List.cons_append, trimWhitespaceStart, if_pos (h t List.mem_cons_self)]

/-- trivia without a line break between a function-like macro's name and `(` never matters … -/
theorem macro_call_gap_inline_insensitive (gap rest : List PTok)
    (h : ∀ t ∈ gap, t = .whitespace ∨ t = .comment ∨ t = .physicalEndline) :
    activatesFunctionMacro (gap ++ rest) = activatesFunctionMacro rest :=
  activates_skip gap rest fun t ht => by rcases h t ht with rfl | rfl | rfl <;> rfl

/-- … but a line break there does, as long as `trim_whitespace_start` keeps `Endline` tokens and
    `find_single_macro` uses it (both flags re-read from the source on every run; in the present tree
    `trimKeepsEndline = true` and `findMacroUsesTrimStart = false`, so the second hypothesis is not met):
    `F <newline> (` would not be an invocation although `F (` is.  (C11 6.10.3p10 counts new-lines as white space here.) -/
theorem macro_call_gap_linebreak_witness : trimKeepsEndline = true → findMacroUsesTrimStart = true →
    activatesFunctionMacro [.whitespace, .leftParen] = true ∧
    activatesFunctionMacro [.comment, .physicalEndline, .leftParen] = true ∧
    activatesFunctionMacro [.endline, .leftParen] = false ∧
    activatesFunctionMacro [.comment, .endline, .leftParen] = false := by decide

/-- once `trim_whitespace_start` also skips `Endline` (`trimKeepsEndline = false`; the present tree has `true`), every
    kind of trivia in the gap is harmless -/
theorem macro_call_gap_insensitive_if_fixed (hfix : trimKeepsEndline = false) (gap rest : List PTok)
    (h : ∀ t ∈ gap, t.isWs = true) :
    activatesFunctionMacro (gap ++ rest) = activatesFunctionMacro rest :=
  activates_skip gap rest fun t ht => by simp [h t ht, hfix]

/-- the same for the empty argument list of a zero-parameter macro, under the three flags: `Z( )` is accepted,
    `Z(<newline>)` is not (present tree: `trimKeepsEndline = true`, `macroArgsUseTrim = true`, `emptyArgsTestIsEmpty = false`,
    so the third hypothesis is not met) -/
theorem empty_argument_linebreak_witness :
    trimKeepsEndline = true → macroArgsUseTrim = true → emptyArgsTestIsEmpty = true →
    acceptsEmptyArgument [] = true ∧ acceptsEmptyArgument [.whitespace, .comment] = true ∧
    acceptsEmptyArgument [.endline] = false ∧ acceptsEmptyArgument [.whitespace, .endline, .whitespace] = false := by
  decide

/-!
# Part 3b: white space inside a higher-order invocation (`SELECT(INC<trivia>)(b)`; seeded mutant C14-7)

`#define SELECT(f) f`, `#define INC(v) ((v)+1)`: in `SELECT(INC)(b)` the replaced region is the expanded argument, `INC`,
and the `(` that invokes it is the text *behind* the region.  Trivia between the argument and the `)` of the outer
invocation stays in the region when it ends in a line break (`trim_whitespace_end` keeps an `Endline`:
`trimEndKeepsEndline`), so the region is `INC` + line break.  That the name is still invoked rests on where the scan is
resumed: at the first token of the region (`earlyFunctionPosIsRegionStart`, and `Gen.MacroTables.searchPositions`, the
table C12 pins too).  What C14 takes from C12 (`Thm.C12.agrees_on_higher_order_invocation` (file Thm/C12Boundary.lean), in this check's
`theorems` list): the macro-expander model, evaluated on higher-order invocations whose name is invoked by the
*replacement list* (`APPLY(NEG, a)`, `LIST(DECL)`, `CALL(ADD, (p, q))`, with white space tokens inside the argument
lists), agrees with the reference semantics -- i.e. an argument that is a bare function-like macro name reaches the
rescan unexpanded and is invoked there.  What C12's theorem does not cover and is proved here: the name is invoked by
text *behind* the region, whatever white space (line breaks included) the region ends in.
-/

/-- the three places of preprocess.rs this part rests on are the modelled ones; the second conjunct is the same fact read
from C12's table of every `MacroSearchPosition` literal (entry 1 = the `User` arm of `apply_single_macro`).  Fails under
seeded mutant C14-7 (`early_function_pos: if tokens_added > 0 { new_end - 1 } else { pos }`). -/
theorem macro_resume_as_modelled :
    (earlyFunctionPosIsRegionStart = true ∧ findMacroScansFromEarlyFunctionPos = true ∧ trimEndKeepsEndline = true) ∧
    RsslVerif.Gen.MacroTables.searchPositions[1]? =
      some ["new_end", "pos", "if macro_def.is_function { macro_index } else { usize::MAX }"] :=
  ⟨⟨rfl, rfl, rfl⟩, rfl⟩

theorem skipAllWs_ws (w r : List RTok) (h : ∀ t ∈ w, t.isWs = true) : skipAllWs (w ++ r) = skipAllWs r := by
  induction w with
  | nil => rfl
  | cons t w ih =>
    have ht := h t (by simp)
    simp [skipAllWs, ht, ih (fun u hu => h u (by simp [hu]))]

theorem scanFrom_skip (n : Nat) (body r : List RTok) (h : ∀ t ∈ body, t ≠ .fnName) (i : Nat) :
    scanFrom n i (body ++ r) = scanFrom n (i + body.length) r := by
  induction body generalizing i with
  | nil => simp
  | cons t body ih =>
    have ht := h t (by simp)
    have := ih (fun u hu => h u (by simp [hu])) (i + 1)
    simp [scanFrom, ht, this]
    congr 1; omega

/-- **For every replaced region that ends in the name of a function-like macro followed by any white space (line breaks
included), and every following text that begins -- behind any white space -- with `(`: the scan resumed at the start of
the region finds that name**, at its own index, whatever precedes the region (`pre`), whatever the region holds in front
of the name (`body`: no other candidate name), whatever white space the region ends in (`trail`) and whatever separates
the `(` (`gap`).  In particular the answer does not depend on `trail` and `gap`: white space between the last argument
and the `)` of the outer invocation, and between that `)` and the next `(`, does not change what is invoked. -/
theorem resume_at_region_start_finds_trailing_name (pre body trail gap tail : List RTok)
    (hbody : ∀ t ∈ body, t ≠ .fnName) (htrail : ∀ t ∈ trail, t.isWs = true) (hgap : ∀ t ∈ gap, t.isWs = true) :
    resumedScan earlyFunctionPosIsRegionStart pre (body ++ .fnName :: trail) (gap ++ .leftParen :: tail) =
      some (pre.length + body.length) := by
  have hflag : earlyFunctionPosIsRegionStart = true := by decide
  rw [hflag]
  have hs : skipAllWs (trail ++ (gap ++ RTok.leftParen :: tail)) = RTok.leftParen :: tail := by
    rw [skipAllWs_ws _ _ htrail, skipAllWs_ws _ _ hgap]; simp [skipAllWs, RTok.isWs]
  unfold resumedScan resumeIndex
  simp only [Bool.true_or, if_true]
  rw [List.append_assoc, List.drop_left, List.append_assoc, scanFrom_skip _ _ _ hbody]
  simp [scanFrom, hs]
  omega

/-- non-vacuity: `x = SELECT(INC // c⏎)(b)` after the expansion of `SELECT`: region `INC` + line break, then ` (b)` -/
example : resumedScan earlyFunctionPosIsRegionStart [.other, .other] [.fnName, .endline] [.ws, .leftParen, .other, .other] = some 2 :=
  resume_at_region_start_finds_trailing_name [.other, .other] [] [.endline] [.ws] [.other, .other]
    (by simp) (by decide) (by decide)

/-- why the start of the region: a scan resumed at the LAST token of the region (what seeded mutant C14-7 does) finds the
name when the region ends with it, and misses it as soon as the region ends in a line break -- `SELECT(INC)(b)` is
expanded, `SELECT(INC⏎)(b)` is not; resumed at the start both are -/
theorem resume_at_region_end_linebreak_witness :
    resumedScan false [] [.fnName] [.leftParen, .other] = some 0 ∧
    resumedScan false [] [.fnName, .endline] [.leftParen, .other] = none ∧
    resumedScan true [] [.fnName] [.leftParen, .other] = some 0 ∧
    resumedScan true [] [.fnName, .endline] [.leftParen, .other] = some 0 := by decide

/-!
# Part 4: trivia insensitivity of the byte-level lexer model (`Model.Lexer`, the model of `preprocess/src/lexer.rs`)

`rsslLexer` = `tokenIntermediate _ false` behind the interface of Part 2; tokens are carried with their spelling.
The hypotheses of Part 2 are discharged for it in `Lemmas/TriviaLexer.lean` (from `tokenIntermediate_stable`,
`Lemmas/LexStableTok.lean`), with these side conditions — each one necessary, with a witness below:

* the insertion point is offset 0 or the end of a token whose spelling does not begin with `<`, `>` (their
  `FollowedBy` flag looks at the next token) or `//` (the text would join the comment);
* after a lone `/` the inserted text does not begin with `/` (`/` + `/* c */` is a line comment);
* no token that ends at or before the insertion point starts a *swizzled numeric literal* — a complete floating
  literal directly followed by `x` (`1.xxx`, `2.0fx`, `1e5x`), which the float lexer gives up on so that the text is
  lexed again as an integer, `.`, … : its first token depends on text several tokens further on.
-/
open RsslVerif.Model.Lexer RsslVerif.Model.TriviaLexer RsslVerif.Lemmas.TriviaLexer RsslVerif.Lemmas.LexStable

/-- Tie to the source: the two comment lexers have the loop shape the model mirrors (`block_comment` searches
    byte by byte for the first `*/` after the opening `/*`; `line_comment` skips spliced line ends and stops in
    front of a line end), and the arms of the directive state machine are the modelled ones. -/
theorem trivia_lexers_as_modelled :
    lineCommentAsModelled = true ∧ blockCommentAsModelled = true ∧
    hashStartsCommandAtStartOfLine = true ∧ startOfLineSkipsAllWhitespace = true ∧
    commandNameIsFirstNonWhitespace = true ∧ endlineEndsCommand = true ∧ endlineStartsLine = true ∧
    otherTokensArePushed = true :=
  ⟨rfl, rfl, rfl, rfl, rfl, rfl, rfl, rfl⟩

/-- **trivia_insensitive_lexer.** For every text `s` the lexer accepts, every trivia text `w` (`TriviaText`:
    spaces, tabs, LF / CRLF, spliced line ends, block comments closed at their first `*/`, line comments with the
    line end that stops them, in any sequence), and every insertion point `i` that satisfies the side conditions:
    the edited text is accepted, and `prepare_tokens` of it is `prepare_tokens` of the original with every location
    at or after `i` moved by `|w|` — the same non-trivia tokens (kind, payload and spelling) in the same order,
    each pointing at its own bytes. -/
theorem trivia_insensitive_lexer (w : List UInt8) (ws : List (LTok × Nat)) (hw : TriviaText w ws)
    (s : List UInt8) (i : Nat) (trailing : Bool) (toks0 toks : List (Spanned LTok))
    (h0 : lexBytes rsslLexer s 0 = Except.ok toks0)
    (hb : BoundaryOK (allowedBefore w) 0 i toks0)
    (hx : ∀ t ∈ toks0, t.stop ≤ i → ¬ FloatGaveUpOnX (s.drop t.start))
    (h : readToEnd rsslLexer s trailing = Except.ok toks) :
    ∃ toks', readToEnd rsslLexer (insertAt s i w) trailing = Except.ok toks' ∧
      prepare rsslLexer toks' = (prepare rsslLexer toks).map fun tl => (tl.1, relocate i w.length tl.2) :=
  trivia_insensitive_if rsslLexer rfl w ws (allowedBefore w) good (triviaText_lexesAs hw) (triviaText_ws hw)
    (fun t ht => adjacent w (triviaText_headStop hw) t ht) (distant w (triviaText_headStop hw))
    s i trailing toks0 toks h0 hb hx h

/-- **trivia_insensitive_lexer, rejected texts.** If the lexer rejects `s` and `i` is offset 0 or the end of one
    of the tokens lexed before the failure (same side conditions), the edited text is rejected as well, at the
    moved offset: the lexer's verdict is unchanged.  (`LexErr` carries the offset at which the failing token
    starts; that the reported reason and the position inside the token move along is
    `lexer_failure_moves`.) -/
theorem trivia_insensitive_lexer_rejected (w : List UInt8) (ws : List (LTok × Nat)) (hw : TriviaText w ws)
    (s : List UInt8) (i : Nat) (trailing : Bool) (e : Model.Trivia.LexErr)
    (h : readToEnd rsslLexer s trailing = Except.error e)
    (hb : BoundaryOK (allowedBefore w) 0 i (lexPrefix rsslLexer s 0))
    (hx : ∀ t ∈ lexPrefix rsslLexer s 0, t.stop ≤ i → ¬ FloatGaveUpOnX (s.drop t.start)) :
    readToEnd rsslLexer (insertAt s i w) trailing = Except.error (e.shift w.length) :=
  trivia_insensitive_rejected_if rsslLexer w ws (allowedBefore w) good (triviaText_lexesAs hw)
    (fun t ht => adjacent w (triviaText_headStop hw) t ht) (distant w (triviaText_headStop hw))
    s i trailing e h hb hx

/-- the text from the failing token on is the same text after an insertion in front of it, so
    `TokenStream::next` reports the same reason, `|w|` bytes further on -/
theorem lexer_failure_moves (s w : List UInt8) (i pos : Nat) (hi : i ≤ pos) (hp : pos ≤ s.length) :
    failureAt ((insertAt s i w).drop (pos + w.length)) (pos + w.length) =
      (failureAt (s.drop pos) pos).map fun rp => (rp.1, rp.2 + w.length) := by
  rw [drop_insertAt_after s w i pos hi hp]
  unfold failureAt
  cases tokenIntermediate (s.drop pos) false with
  | ok v => rfl
  | error e =>
    cases e with
    | panic site => rfl
    | lex p reason => cases p <;> simp <;> omega

/-- the hypotheses are satisfiable, and the conclusion on a concrete text: a space inserted after the `(` of `(;)` -/
example : ∃ toks', readToEnd rsslLexer (insertAt [40, 59, 41] 1 [32]) true = Except.ok toks' ∧
    prepare rsslLexer toks' =
      [(some (.simple .LeftParen, [40]), some 0), (some (.simple .Semicolon, [59]), some 2),
       (some (.simple .RightParen, [41]), some 3), (none, none)] := by
  have e1 := lexBytes_front [40] [59, 41] (.simple .LeftParen) 0 (by simp) (by rfl)
  have e2 := lexBytes_front [59] [41] (.simple .Semicolon) 1 (by simp) (by rfl)
  have e3 := lexBytes_front [41] [] (.simple .RightParen) 2 (by simp) (by rfl)
  have h0 : lexBytes rsslLexer [40, 59, 41] 0 = Except.ok
      [⟨(.simple .LeftParen, [40]), 0, 1⟩, ⟨(.simple .Semicolon, [59]), 1, 2⟩, ⟨(.simple .RightParen, [41]), 2, 3⟩] := by
    simp only [List.cons_append, List.nil_append, List.length_cons, List.length_nil] at e1 e2 e3
    rw [e1, e2, e3, lexBytes_nil]
    rfl
  have h : readToEnd rsslLexer [40, 59, 41] true = Except.ok
      [⟨(.simple .LeftParen, [40]), 0, 1⟩, ⟨(.simple .Semicolon, [59]), 1, 2⟩, ⟨(.simple .RightParen, [41]), 2, 3⟩,
       ⟨(.simple .Endline, []), 3, 3⟩] := by
    unfold Model.Trivia.readToEnd
    rw [h0]
    rfl
  obtain ⟨toks', h1, h2⟩ := trivia_insensitive_lexer [32] _ (TriviaText.space TriviaText.nil) [40, 59, 41] 1 true _ _ h0
    (Or.inr ⟨_, List.mem_cons_self, rfl, by
      refine ⟨?_, ?_, ?_, ?_⟩
      · intro r h; simp at h
      · intro r h; simp at h
      · intro r h; simp at h
      · intro h; simp at h⟩)
    (by
      intro t ht hst
      simp only [List.mem_cons, List.not_mem_nil, or_false] at ht
      rcases ht with rfl | rfl | rfl
      · rintro ⟨i2, m, hm, _, _⟩; simp [floatMantissa, fractionalConstant, digitSequence, digitWith, decDigit?, opt, wrongChars, otherTokenChars] at hm
      · simp at hst
      · simp at hst) h
  refine ⟨toks', h1, ?_⟩
  rw [h2]
  rfl

/-- each side condition is needed (witnesses on concrete bytes): a space after `<` (in `<(`) changes the token's payload; a
    comment after `/` swallows the `/` into a line comment; text after a line comment joins the comment; a space
    after the `.` of `1.x` turns the integer `1` into the floating literal `1.` (and `1.x` is a swizzled literal) -/
theorem lexer_side_conditions_needed :
    tokenIntermediate [60, 40] false = .ok ([40], .leftAngle .token) ∧
    tokenIntermediate ([60] ++ [32] ++ [40]) false = .ok ([32, 40], .leftAngle .whitespace) ∧
    tokenIntermediate [47, 40] false = .ok ([40], .simple .ForwardSlash) ∧
    tokenIntermediate ([47] ++ [47, 42, 42, 47] ++ [40]) false = .ok ([], .simple .Comment) ∧
    tokenIntermediate [47, 47, 99, 10] false = .ok ([10], .simple .Comment) ∧
    tokenIntermediate ([47, 47, 99] ++ [32] ++ [10]) false = .ok ([10], .simple .Comment) ∧
    tokenIntermediate [49, 46, 120] false = .ok ([46, 120], .litInt 1) ∧
    tokenIntermediate ([49, 46] ++ [32] ++ [120]) false = .ok ([32, 120], .litFloat 0x3ff0000000000000) ∧
    FloatGaveUpOnX [49, 46, 120] :=
  ⟨by rfl, by rfl, by rfl, by rfl, by rfl, by rfl, by rfl, by rfl, ⟨[120], (true, [1], []), by rfl, by decide, by rfl⟩⟩

/-!
# Part 5: directive recognition ignores leading and interior trivia (partial)
-/

/-- **preprocess_trivia_insensitive_partial.** While the `(tok, StartOfLine)` arm of `preprocess_included_file`
    leaves the state alone for *every* whitespace token (`startOfLineSkipsAllWhitespace`, re-read from the source
    on every run: `true` in the present tree, `trivia_lexers_as_modelled` — seeded mutant C14-1 breaks exactly this), the split of a file's token stream into normal tokens
    and `#` commands (with their tokens) is the same as that of the stream with all `Whitespace` / `Comment` /
    `PhysicalEndline` tokens removed — hence the same for any two streams that differ only in such tokens: trivia
    before a `#`, between `#` and the command name and inside a command changes nothing.

    Partial: this is the directive state machine alone.  What `preprocess_command`, macro expansion
    (`find_single_macro`: Part 3 treats its look at trivia), the parser and the type checker do with the
    tokens is covered by the metamorphic run, not proved; and `Endline` tokens are kept (a line break ends a
    command by design). -/
theorem preprocess_trivia_insensitive_partial (hflag : startOfLineSkipsAllWhitespace = true)
    (st : DState) (cmd l : List DTok) (hcmd : st ≠ .commandContents → cmd = []) :
    dscan startOfLineSkipsAllWhitespace st cmd l = dscan startOfLineSkipsAllWhitespace st cmd (l.filter (· ≠ .ws)) := by
  rw [hflag]
  induction l generalizing st cmd with
  | nil => rfl
  | cons t r ih =>
    -- in every state a `ws` token leaves state and command alone (outside a command `cmd = []` already: `hcmd`);
    -- any other token survives the filter and both sides take the same step
    cases t <;> cases st <;> simp [dscan, ih, hcmd]

/-- non-vacuity, and what the seeded mutant C14-1 does: `/* c */ # define X` is one command; with an arm that
    only skips `Whitespace` (flag `false`) the comment makes the line normal text and the `#` is never seen -/
example :
    dscan true .startOfLine [] [.ws, .hash, .ws, .other 1, .ws, .other 2, .endline, .other 3] =
      [.command [.other 1, .other 2], .tok (.other 3)] ∧
    dscan false .startOfLine [] [.ws, .hash, .ws, .other 1, .ws, .other 2, .endline, .other 3] =
      [.tok .hash, .tok (.other 1), .tok (.other 2), .tok .endline, .tok (.other 3)] := by decide

end RsslVerif.Thm.C14
