import RsslVerif.Lemmas.GenMslWorld
import RsslVerif.Thm.C01
/-!
# C02, semantic half — the Metal exporter preserves the meaning of the scalar subset

Theorems about `Model.GenMsl` (the expression / statement / function half of `msl/src/generator.rs`), and the fixtures
(`cxW`, `envW`, `W2`, `M2`, `worlds2`, `agreeW`) that `Thm.C02Vec` and `Thm.C02Text` instantiate their theorems on.
-/
namespace RsslVerif.Thm.C02Sem
open RsslVerif.Gen.HlslGenTables RsslVerif.Gen.MslGenTables RsslVerif.Model RsslVerif.Model.GenMsl RsslVerif.Spec.Sem RsslVerif.Lemmas.GenMsl
open RsslVerif.Model.Ir (Ty Var Const Dir)

/-- the textual shape of every arm of `generate_expression` / `generate_intrinsic_op` / `generate_statement` /
`generate_scope_block` / `generate_for_init` / `generate_variable_definition` / `generate_user_call` /
`generate_function_inner` / `generate_function_and_trampoline` / `generate_function_out_trampoline_body` that
`Model.GenMsl` mirrors is the one in the source (facts re-extracted on every run; an edit of any of these functions makes
the corresponding fact `false` and this theorem stops checking). -/
theorem msl_exporter_shape_as_modelled :
    mslUnaryFormAsModelled = true ∧ mslBinaryFormAsModelled = true ∧ invokeSimpleAsModelled = true ∧
    invocationArgsInOrder = true ∧ mslSequenceAsModelled = true ∧ mslCastAsModelled = true ∧ mslTernaryInOrder = true ∧
    mslVariableIsLeafName = true ∧ mslGlobalIsName = true ∧ mslCallDispatch = true ∧ mslLiteralArm = true ∧
    mslUserCallAsModelled = true ∧ mslScopeBlockAsModelled = true ∧ mslStatementArmsAsModelled = true ∧
    mslVariableDefinitionAsModelled = true ∧ mslForInitAsModelled = true ∧ outParamsAreThreadReferences = true ∧
    trampolineBodyAsModelled = true ∧ targetThenTrampoline = true ∧ functionBodyAsModelled = true ∧
    tagParameterAsModelled = true ∧ metalLibPrefix = "metal" ∧ trampolineResultName = "out" ∧ trampolineLocalPrefix = "__" := by
  decide

/-- `generate_intrinsic_op`'s table for Metal (re-extracted on every run): every typed operator is mapped to the syntax
operator whose C meaning is the RSSL meaning of the typed operator; `%` and `%=` alone look at their operand type: `%`
becomes `metal::fmod` for floating-point operands, and `%=` on a floating-point target (Metal has neither operator for
floats; fixes 92d66eb + 35faaaa) is generated as the assignment `a = a % b` — through the very rows of this table for `=`
and `%` — or refused with `ComplexRemainderAssignment`, and stays `%=` otherwise; the helper / mesh forms have no meaning in
the scalar subset. -/
theorem msl_op_table_is_identity :
    (∀ o u, mslOpForm o = .unary u → astUnSem u = irOpSem o) ∧
    (∀ o b, mslOpForm o = .binary b → astBinSem b = irOpSem o) ∧
    (∀ o n s b, mslOpForm o = .floatCall n s b → o = .Modulus ∧ n = "fmod" ∧ astBinSem b = irOpSem o ∧
        s = ["Float16", "Float32", "Float64", "FloatLiteral"]) ∧
    (∀ o s err outer inner b, mslOpForm o = .floatAssign s err outer inner b →
        o = .RemainderAssignment ∧ astBinSem b = irOpSem o ∧ irOpSem o = .compound .mod ∧
        irOpSem outer = .assign ∧ irOpSem inner = .bin .mod ∧ s = ["Float16", "Float32", "Float64"] ∧
        err = "ComplexRemainderAssignment") ∧
    (∀ o, (mslOpForm o = .special ∨ mslOpForm o = .meshMethod ∨ mslOpForm o = .meshHelper) → irOpSem o = .unsupported) := by
  refine ⟨fun _ _ => op_unaryM, fun _ _ => op_binaryM, ?_, ?_, fun _ => op_no_form⟩
  · intro o n s b h
    obtain ⟨rfl, rfl, rfl, rfl⟩ := mslOpForm_floatCall h
    exact ⟨rfl, rfl, rfl, rfl⟩
  · intro o s err outer inner b h
    obtain ⟨rfl, rfl, rfl, rfl, rfl, rfl⟩ := mslOpForm_floatAssign h
    exact ⟨rfl, rfl, rfl, rfl, rfl, rfl, rfl⟩

/-- the Metal literal function has the same arms, in the same order, as the HLSL one (`Gen.HlslGenTables.literalArms`),
except for one row: a `Float64` constant — Metal has no `double` — is refused
with `Err(GenerateError::UnsupportedDouble)` (fix 9824ce3).  Every other row, including
`IntLiteral ↦ Err(IntLiteralOutOfRange)` (fix 6017bad), is the HLSL row: what C01 proves about the tree of a constant holds
for the Metal tree as well -/
theorem msl_literal_arms_same_as_hlsl :
    mslLiteralArms = literalArms.map (fun a => if a.1 = .Float64 then (a.1, a.2.1, .errs "UnsupportedDouble") else a) ∧
    (∀ k v, k ≠ ConstKind.Float64 → GenMsl.findArm k v = GenHlsl.findArm k v) ∧
    (∀ v, GenMsl.findArm .Float64 v = some (.errs "UnsupportedDouble")) :=
  ⟨Lemmas.GenMsl.literal_arms_eq, Lemmas.GenMsl.findArm_eq, Lemmas.GenMsl.findArm_float64⟩

/-- on every modelled constant (none is a double) the two literal functions agree: same tree, same refusal -/
theorem msl_genLiteral_eq (c : Ir.Const) : GenMsl.genLiteral c = GenHlsl.genLiteral c := Lemmas.GenMsl.genLiteral_eq c

/-- **the Metal `generate_literal` never panics** on a modelled constant (fix 6017bad): a constant is exported, or — exactly
when it is an `IntLiteral` of magnitude above `u64::MAX` — refused with `Err(GenerateError::IntLiteralOutOfRange)`
(C01's `literal_never_panics` carried over through `msl_genLiteral_eq`) -/
theorem msl_literal_never_panics :
    (∀ c : Ir.Const, (∃ a, GenMsl.genLiteral c = .ok a) ∨ GenMsl.genLiteral c = .error (.diag "IntLiteralOutOfRange")) ∧
    (∀ v : Int, (v < -GenHlsl.u64Max ∨ GenHlsl.u64Max < v) → GenMsl.genLiteral (.intLit v) = .error (.diag "IntLiteralOutOfRange")) ∧
    (∀ (c : Ir.Const) m, GenMsl.genLiteral c ≠ .error (.panic m)) := by
  simp only [genLiteral_eq]
  exact C01.literal_never_panics

/-! ## meaning preservation: expressions

`Msl.eval` is the C++/Metal reading of the emitted syntax (`Spec.SemMsl`): Metal's literal types, integer promotion and
usual arithmetic conversions, Metal's shift rule, by-value and by-reference (`thread T&`) parameters.  `Ir.eval` is the
typed semantics of C01, unchanged.  Hypotheses: the type checker accepted the expression (`Ir.typeOf`); the side
conditions `Ir.okM` (`Spec.SemMslWT`: where the Metal reading is *known* to coincide — each excluded form is either one of
the two known findings or needs run-time types of variables); the emitted names denote the IR's entities in the frame at
hand, for the variables in scope there (`AgreeM`); the callable functions of the two worlds are linked by `Worlds`:
a Metal call with variables for the out/inout parameters and references to the needed statics behaves as copy-in /
copy-out around the typed function (discharged for whole programs by `gen_sem_program`). -/

/-- **expressions**: the emitted expression has a static type `ta` under C++ rules and — converted to the IR's type `t`,
which is what every context the exporter places it in does — evaluates to exactly the IR's value and store, from every
store, for every interpretation of the primitives.  All expression forms of the model: typed constants, locals,
statics (reference parameters in Metal), unary / binary / assignment / increment operators incl. `%` on floats
(`metal::fmod`) and `%=` on floats (`x = metal::fmod(x, y)`, fixes 92d66eb + 35faaaa: whenever the exporter emits it its own
guard — plain target, right operand free of writes — is what the proof needs), `?:`, `Sequence`, casts, calls of user
functions with in/out/inout arguments and appended statics. -/
theorem gen_sem_expr {W : World} {M : Msl.MWorld} {env : Ast.Env} {cx : Ctx} {vis : Var → Bool} {rsv : Nat → List Var}
    (hag : AgreeM cx vis env) (hw : Worlds cx rsv W M) (e : Ir.Expr) (a : HlslAst.Expr) (t : Ty)
    (hg : genExpr cx e = .ok a) (ht : Ir.typeOf W.sig cx.vty e = some t) (hok : Ir.okM (side cx W vis rsv) e = true) :
    ∃ ta, Msl.typeOf M.msig env a = some ta ∧ ∀ σ, Msl.convR M.P ta t (Msl.eval M env a σ) = Ir.eval W e σ :=
  ⟨mTy e t, (sim_exprM hag hw e a t hg ht hok).1, fun σ => (sim_exprM hag hw e a t hg ht hok).conv ht σ⟩

/-- …and without any conversion unless the expression is the bare constant `Int32(i32::MIN)` (printed `-2147483648`, a
`long` in Metal): same static type, same result. -/
theorem gen_sem_expr_plain {W : World} {M : Msl.MWorld} {env : Ast.Env} {cx : Ctx} {vis : Var → Bool} {rsv : Nat → List Var}
    (hag : AgreeM cx vis env) (hw : Worlds cx rsv W M) (e : Ir.Expr) (a : HlslAst.Expr) (t : Ty)
    (hg : genExpr cx e = .ok a) (ht : Ir.typeOf W.sig cx.vty e = some t) (hok : Ir.okM (side cx W vis rsv) e = true)
    (hn : Ir.isMin e = false) :
    Msl.typeOf M.msig env a = some t ∧ ∀ σ, Msl.eval M env a σ = Ir.eval W e σ :=
  (sim_exprM hag hw e a t hg ht hok).plain hn

/-- the argument list of a call — user arguments followed by the callee's statics — evaluates, left to right, to the
values of the `in` arguments, the *locations* of the out/inout arguments and of the statics, with the store the typed
evaluation of the user arguments leaves. -/
theorem gen_sem_args {W : World} {M : Msl.MWorld} {env : Ast.Env} {cx : Ctx} {vis : Var → Bool} {rsv : Nat → List Var}
    (hag : AgreeM cx vis env) (hw : Worlds cx rsv W M) (es : Ir.Exprs) (as : HlslAst.Exprs) (ps : List (Dir × Ty)) (gs : List Nat)
    (hg : genArgs cx es = .ok as) (hargs : Ir.argsOK W.sig cx.vty es ps = true)
    (hok : Ir.okMArgs (side cx W vis rsv) es = true) (hvis : gs.all (fun g => vis (.glob g)) = true) :
    ∀ σ, Msl.evalArgs M env (appendArgs as (globalArgs cx gs)) (mParams ps ++ globParams cx gs) σ =
      match Ir.evalArgs W es ps σ with
      | none => none
      | some (l, σ1) => some (l.map toMArg ++ globMArgs gs, σ1) :=
  sim_argsM hag hw es as ps _ _ _ hg hargs hok (globalArgs_eval hag gs hvis)


/-! ## meaning preservation: statements, functions, the trampoline, programs -/

/-- **statements** (expression statement, declaration, block, if, if/else, for with every kind of init, while, do-while,
break, continue, return, `switch`, `case` and `default` labels): same control-flow outcome and same store, from every
store, for every fuel and every way of entering the statement (executing, or looking for the `case`/`default` label of
the enclosing `switch`).  A `case` label written as an `IntLiteral` is an `int` or a `long` constant in Metal; converted
to the type of the controlling expression it selects the same case. -/
theorem gen_sem_stmt {W : World} {M : Msl.MWorld} {env : Ast.Env} {cx : Ctx} {vis : Var → Bool} {rsv : Nat → List Var}
    (hag : AgreeM cx vis env) (hw : Worlds cx rsv W M) (rt : Ty) (lt : Option Ty)
    (s : Ir.Stmt) (s' : HlslAst.Stmt) (hg : genStmt cx s = .ok s')
    (hwt : Ir.wtStmtM (side cx W vis rsv) rt lt s = true) (m : Mode) (hm : Lemmas.GenSem.ModeOK lt m) :
    ∀ fuel σ, Msl.exec M env rt fuel m s' σ = Ir.exec W fuel m s σ :=
  sim_stmtM hag hw rt s s' lt hg hwt m hm

/-- **statement lists** = `generate_scope_block`, including its label handling -/
theorem gen_sem_stmts {W : World} {M : Msl.MWorld} {env : Ast.Env} {cx : Ctx} {vis : Var → Bool} {rsv : Nat → List Var}
    (hag : AgreeM cx vis env) (hw : Worlds cx rsv W M) (rt : Ty) (lt : Option Ty)
    (b : Ir.Stmts) (b' : HlslAst.Stmts) (hg : genStmts cx b = .ok b')
    (hwt : Ir.wtStmtsM (side cx W vis rsv) rt lt b = true) (m : Mode) (hm : Lemmas.GenSem.ModeOK lt m) :
    ∀ fuel σ, Msl.execs M env rt fuel m b' σ = Ir.execs W fuel m b σ :=
  execs_of_accM (sim_accM hag hw rt b .nil b' lt hg hwt m hm)

/-- **functions** — the definition that carries the source body (a function that needs no trampoline, or the target of
one: `target`): run by the Metal semantics with by-value arguments for the `in` parameters, *references to the
parameter slots* for the out/inout parameters (which hold the argument values: `Preset`), the tag if it is a target, and
references to the statics it needs, it returns what the typed function returns and leaves the store the typed function
leaves (the slots the layout reclaims at return aside).  The statics are reachable only through the reference
parameters: they are not in the frame (`AgreeL`), so a static that was not threaded would not resolve. -/
theorem gen_sem_func {W : World} {M : Msl.MWorld} {cx : Ctx} {L : Msl.Layout} {rsv : Nat → List Var} {vis0 : Var → Bool}
    {fn : Ir.Func} {mfn : MslAst.Func} {gs : List Nat} {target : Bool}
    (hL : AgreeL cx L fn vis0) (hw : Worlds cx rsv W M) (hreq : cx.req fn.id = some gs)
    (hinj : ∀ x y, visWith vis0 gs x = true → visWith vis0 gs y = true → cx.name x = cx.name y → x = y)
    (hnd : (fn.params.map (·.1)).Nodup) (hg : genFuncInner cx fn target false = .ok mfn)
    (hwt : Ir.wtStmtsM (side cx W (visWith vis0 gs) rsv) fn.ret none fn.body = true) :
    ∀ fuel vals σ, vals.length = fn.params.length → Preset fn.params vals σ →
      Msl.callFunc M L fuel mfn (slotArgs fn.params vals ++ ((if target then [Msl.MArg.tag] else []) ++ globMArgs gs)) σ =
        (Ir.callFunc W fuel fn vals σ).map (fun r => (r.1, Msl.restore (L.scratch (cx.funcName fn.id)) σ r.2.2)) :=
  sim_funcM hL hw hreq hinj hnd hg hwt

/-- **`trampoline_copy_semantics`**: the emitted trampoline (`generate_function_out_trampoline_body`), called through
references — by-value arguments `v` for the `in` parameters, *arbitrary caller variables* `x` for the out/inout parameters
(they may be equal to one another, to a static the function also receives, anything outside the trampoline's own
slots), references to the statics — evaluates its arguments' variables at the moment of the call (`valsIn`: copy-in),
runs the typed function on its own copies (the target's specification `hT`, discharged by `gen_sem_func`), and writes
the final parameter values back to the variables **in parameter order** on top of the function's final store
(`writeBack`: copy-out) — exactly the copy-in/copy-out call of the typed semantics, whatever aliasing there is among the
arguments.  (`out` parameters enter with whatever their slot holds: `T __p;` has no initialiser.) -/
theorem trampoline_copy_semantics {W : World} {cx : Ctx} {L : Msl.Layout} {fn : Ir.Func} {gs : List Nat} {xo : Var}
    (hA : AgreeT cx L fn gs xo) (M : Msl.MWorld) (fuel : Nat) (t : MslAst.Func)
    (hreq : cx.req fn.id = some gs) (hg : genFuncInner cx fn false true = .ok t)
    (htyP : ∀ p ∈ fn.params, cx.vty (.loc p.1) = p.2.2)
    (hsig : M.msig fn.id true = some (fn.ret, mParamsOf fn.params ++ (Msl.PK.tag, Ty.void) :: globParams cx gs))
    (hT : ∀ σ', M.mphi fn.id true (slotArgs fn.params (fn.params.map fun p => σ' (.loc p.1)) ++ Msl.MArg.tag :: globMArgs gs) σ' =
      (Ir.callFunc W fuel fn (fn.params.map fun p => σ' (.loc p.1)) σ').map (fun r => (r.1, Msl.restore [xo] σ' r.2.2)))
    (l : CArgs) (hok : ArgsOK cx.vty (slotsOf fn.params) xo fn.params l) :
    ∀ σ, Msl.callFunc M L fuel t (l.map toMArg ++ globMArgs gs) σ =
      match Ir.callFunc W fuel fn (valsIn fn.params l σ) σ with
      | none => none
      | some (ret, finals, σ1) =>
        some (if fn.ret = .void then Val.void else ret, Msl.restore [xo] σ (writeBack (l.map (·.2)) finals σ1)) :=
  trampoline_copy hA M fuel t hreq hg hsig hT l hok

/-- **programs**: the callee semantics is that of the emitted program itself.  For every call depth `d`, every loop fuel, every
interpretation of the primitives: a call of a function of the emitted Metal program (the overload callers see), with
values for the `in` parameters, variables for the out/inout parameters and references to the statics the function
needs, returns what the typed function returns when entered with the current values of those variables, and leaves the
typed function's final store with the final parameter values written back to the variables in order.

Hypotheses: `ProgOK` (the exporter produced the module; per function the side conditions of the statement theorems,
names and layout), `SynOK` (syntactic: no function mentions a trampoline's scratch slot `out`; a `void` function that
gets a trampoline has no `return e;`) and `OutOK`: the typed functions that get a trampoline do not depend on the value
an `out` parameter has on entry — a *semantic* precondition on the source program (a program that reads an `out`
parameter before writing it has no defined meaning in the source language; `T __p;` is uninitialised in the emitted
Metal), not derived from a syntactic definite-assignment analysis here. -/
theorem gen_sem_program {cx : Ctx} {L : Msl.Layout} {prog : List Ir.Func} {mprog : List MslAst.Func}
    {rsv : Nat → List Var} {xo : Nat → Var} {vis0 : Nat → Var → Bool} {P : Prim} {fuel : Nat}
    (hP : ProgOK cx L prog mprog rsv xo vis0) (hsyn : SynOK cx prog xo) (hout : OutOK cx P prog fuel) (d : Nat)
    (f : Nat) (rt : Ty) (ps : List (Dir × Ty)) (gs : List Nat) (l : List (Val × Option Var)) (σ : Store)
    (hsig : Ir.sigOf prog f = some (rt, ps)) (hreq : cx.req f = some gs) (hcalled : cx.called f = true)
    (hfit : fitsB cx.vty ps l = true) (hrsv : ∀ p ∈ l, ∀ x, p.2 = some x → (rsv f).contains x = false) :
    Msl.phi P L mprog fuel d f false (l.map toMArg ++ globMArgs gs) σ =
      match Ir.phi P prog fuel d f (l.map (valAt σ)) σ with
      | none => none
      | some (ret, finals, σ2) => some (ret, writeBack (l.map (·.2)) finals σ2) :=
  (worlds_prog hP (semOK_of hout hsyn) d).call f rt ps gs l σ hsig hreq hcalled hfit hrsv

/-- the typed semantics changes only variables the program mentions (used to discharge "the scratch slot is untouched") -/
theorem ir_frame (P : Prim) (prog : List Ir.Func) (fuel : Nat) (x : Var) (hfree : ∀ fn ∈ prog, Lemmas.GenMsl.Ir.freeF x fn = true)
    (d f : Nat) (vals : List Val) (σ : Store) (r : Val × List Val × Store) (h : Ir.phi P prog fuel d f vals σ = some r) :
    r.2.2 x = σ x :=
  phi_frame P prog fuel x hfree d f vals σ r h

/-- …and the signatures a C++ front end reads off the emitted definitions are the typed ones followed by references to
the statics -/
theorem gen_sem_signatures {cx : Ctx} {L : Msl.Layout} {prog : List Ir.Func} {mprog : List MslAst.Func}
    {rsv : Nat → List Var} {xo : Nat → Var} {vis0 : Nat → Var → Bool}
    (hP : ProgOK cx L prog mprog rsv xo vis0) (f : Nat) (rt : Ty) (ps : List (Dir × Ty)) (gs : List Nat)
    (hsig : Ir.sigOf prog f = some (rt, ps)) (hreq : cx.req f = some gs) :
    Msl.sigOf L mprog f false = some (rt, mParams ps ++ globParams cx gs) :=
  msig_false hP hsig hreq


/-! ## where the full statement fails: negations with concrete witnesses (both replayed on the real exporter) -/

def P1 : Prim where
  fbin _ x _ := x
  fcmp _ _ _ := false
  fneg x := x
  fstep _ x := x
  idiv s x y := if s then x.sdiv y else x / y
  imod s x y := if s then x.srem y else x % y
  i2f x := x
  u2f x := x
  f2i x := x
  f2u x := x
  f2b _ := false
  d2f _ := 0
  intr _ _ _ := none

def cxW : Ctx where
  locName n := String.ofList (List.replicate (n + 1) 'l')
  globName n := String.ofList ('g' :: List.replicate n 'g')
  funcName n := String.ofList ('Z' :: List.replicate n 'Z')
  vty _ := .int
  retTy _ := some .int
  req _ := some []
  called _ := true

def envW : Ast.Env where
  res s := match s.toList with
    | 'l' :: r => some (.loc r.length)
    | 'g' :: r => some (.glob r.length)
    | _ => none
  vty _ := .int
  fres s := match s.toList with
    | 'Z' :: r => some r.length
    | _ => none

def W1 : World := { P := P1, phi := fun _ _ _ => none, sig := fun _ => none }
def M1 : Msl.MWorld := { P := P1, mphi := fun _ _ _ _ => none, msig := fun _ _ => none }

/-- `(x + -2147483648) / 2` -/
def eMin : Ir.Expr :=
  .op .Divide (.cons (.op .Add (.cons (.var 0) (.cons (.lit (.int32 (BitVec.intMin 32))) .nil))) (.cons (.lit (.int32 2)) .nil))

def σm : Store := fun _ => .i (-1)

/-- **negation witness 1** (known finding *metal-integer-literal-typing*): the typed constant `Int32(i32::MIN)` is printed
`-2147483648`; in Metal `2147483648` does not fit `int`, so the literal — and with it the sum and the quotient — is a 64-bit
`long`.  For `x = -1` the IR computes `(-1 + INT_MIN)` with 32-bit wrap-around (`INT_MAX`) and `/ 2` gives `0x3FFFFFFF`; the
emitted Metal computes `-2147483649 / 2 = -1073741824` in 64 bits and converts to `int`: `0xC0000000`.  So meaning
preservation is **false** outside the side condition "`Int32(i32::MIN)` is not an operand of an operator" of `Ir.okM`.
Replayed on the real exporter: corpus/C02.txt `int f3(int x) { return (x + -2147483648) / 2; }`, `x = -1`. -/
theorem int_min_literal_changes_meaning :
    ∃ a, genExpr cxW eMin = .ok a ∧ Ir.typeOf W1.sig cxW.vty eMin = some .int ∧
      Msl.typeOf M1.msig envW a = some .lit ∧
      (Ir.eval W1 eMin σm).map (·.1) = some (.i 0x3FFFFFFF#32) ∧
      (Msl.convR P1 .lit .int (Msl.eval M1 envW a σm)).map (·.1) = some (.i 0xC0000000#32) := by
  refine ⟨.bin .Divide (.bin .Add (.ident "l") (.un .Minus (.lit (.intUntyped 2147483648)))) (.lit (.intUntyped 2)), rfl, ?_, ?_, ?_, ?_⟩ <;> decide

/-- `(int)((2147483647 + 1000000) / 7)`, as the type checker leaves it: arithmetic on `IntLiteral`s, then a cast -/
def eLit : Ir.Expr :=
  .cast .int (.op .Divide (.cons (.op .Add (.cons (.lit (.intLit 2147483647)) (.cons (.lit (.intLit 1000000)) .nil)))
    (.cons (.lit (.intLit 7)) .nil)))

/-- **negation witness 1b** (same finding): RSSL computes on `IntLiteral`s exactly (`2148483647 / 7 = 306926235`); the
emitted `(int)((2147483647 + 1000000) / 7)` is `int` arithmetic in Metal: the sum wraps and the quotient is `-306640521`. -/
theorem literal_arithmetic_changes_meaning :
    ∃ a, genExpr cxW eLit = .ok a ∧
      (Ir.eval W1 eLit σm).map (·.1) = some (.i (BitVec.ofInt 32 306926235)) ∧
      (Msl.eval M1 envW a σm).map (·.1) = some (.i (BitVec.ofInt 32 (-306640521))) := by
  refine ⟨.cast "int" (.bin .Divide (.bin .Add (.lit (.intUntyped 2147483647)) (.lit (.intUntyped 1000000))) (.lit (.intUntyped 7))), rfl, ?_, ?_⟩ <;> decide

/-- `int g(inout int p, int q) { return p + q; }` as the typed world sees it -/
def W2 : World where
  P := P1
  sig f := if f = 0 then some (.int, [(.inout, .int), (.in_, .int)]) else none
  phi f vals σ :=
    if f = 0 then
      match vals with
      | [.i a, .i b] => some (.i (a + b), [.i a, .i b], σ)
      | _ => none
    else none

/-- the Metal world the program theorem provides for it: the call through a reference is copy-in at the moment of the call,
the typed function, copy-out -/
def M2 : Msl.MWorld where
  P := P1
  msig f t := if f = 0 ∧ t = false then some (.int, [(.ref, .int), (.val, .int)]) else none
  mphi f t margs σ :=
    if f = 0 ∧ t = false then
      match margs with
      | [.ref x, .val q] =>
        match W2.phi 0 [σ x, q] σ with
        | none => none
        | some (ret, finals, σ2) => some (ret, writeBack [some x, none] finals σ2)
      | _ => none
    else none

theorem worlds2 : Worlds cxW (fun _ => []) W2 M2 where
  prim := rfl
  ret := by intro f rt ps h; simp [W2] at h; simp [cxW, h.2.1.symm]
  sig := by
    intro f rt ps gs h hr _
    simp only [W2] at h
    split at h
    · rename_i hf; subst hf
      simp at h; obtain ⟨rfl, rfl⟩ := h
      simp [cxW] at hr; subst hr
      simp [M2, mParams, globParams, pkOf]
    · simp at h
  call := by
    intro f rt ps gs l σ h hr _ hfit _
    simp only [W2] at h
    split at h
    · rename_i hf; subst hf
      simp at h; obtain ⟨rfl, rfl⟩ := h
      simp [cxW] at hr; subst hr
      match l, hfit with
      | [(v1, some x), (v2, none)], _ =>
        simp only [M2, toMArg, globMArgs, valAt, List.map, List.append_nil, and_self, if_true]
        cases W2.phi 0 [σ x, v2] σ <;> rfl
      | [], hfit => simp [fitsB] at hfit
      | [_], hfit => simp [fitsB] at hfit
      | (_, none) :: _ :: _, hfit => simp [fitsB] at hfit
      | [(_, some _), (_, some _)], hfit => simp [fitsB] at hfit
      | _ :: _ :: _ :: _, hfit => simp [fitsB] at hfit
    · simp at h

/-- `g(x, x++)` -/
def eOrd : Ir.Expr := .call 0 (.cons (.var 0) (.cons (.op .PostfixIncrement (.cons (.var 0) .nil)) .nil))
def σ5 : Store := fun _ => .i 5

/-- **negation witness 2** (known finding *inout-copy-in-after-later-arguments*): with the two worlds linked exactly as
`gen_sem_program` links them (`worlds2 : Worlds …`), the call `g(x, x++)` — `x` passed to an `inout` parameter and
modified by a later argument — evaluates to `10` in the typed semantics (the value of `x` is copied in when the first
argument is reached: `5 + 5`) and to `11` in the emitted Metal (the reference is bound, `x++` runs, the trampoline copies
`x` in afterwards: `6 + 5`).  So `gen_sem_expr` is **false** without the side condition "the `in` arguments after an
out/inout argument have no side effects" (`Ir.refArgsOK`).  Replayed on the real exporter: corpus/C02.txt
`int g(inout int p, int q) { return p + q; } int f(int x) { return g(x, x++); }`, `x = 5`. -/
theorem inout_copy_in_order_changes_meaning :
    ∃ a, genExpr cxW eOrd = .ok a ∧ Worlds cxW (fun _ => []) W2 M2 ∧
      Ir.typeOf W2.sig cxW.vty eOrd = some .int ∧
      (Ir.eval W2 eOrd σ5).map (·.1) = some (.i 10) ∧ (Msl.eval M2 envW a σ5).map (·.1) = some (.i 11) := by
  refine ⟨.call "Z" (.cons (.ident "l") (.cons (.un .PostfixIncrement (.ident "l")) .nil)), rfl, worlds2, ?_, ?_, ?_⟩ <;> decide

/-! ## non-vacuity -/

theorem agreeW : AgreeM cxW (fun _ => true) envW where
  res x _ := by cases x <;> simp [Ctx.name, cxW, envW, List.replicate_succ]
  vty := rfl
  fres f := by simp [cxW, envW]
  notLib f := by
    constructor <;> (intro h; have := congrArg String.toList h; simp [cxW, Msl.fmodName, Msl.tagName] at this)

/-- `int f(inout int p2) { for (int v1 = 0; v1 < 3; ++v1) { p2 += 1; g0 = g0 % 5 + v1; } g(p2, 7); return p2 - -5; }` -/
def fExM : Ir.Func where
  id := 7
  ret := .int
  params := [(2, .inout, .int)]
  body :=
    .cons (.for (.defs [(1, some (.lit (.int32 0)))])
        (some (.op .LessThan (.cons (.var 1) (.cons (.lit (.int32 3)) .nil))))
        (some (.op .PrefixIncrement (.cons (.var 1) .nil)))
        (.cons (.expr (.op .SumAssignment (.cons (.var 2) (.cons (.lit (.int32 1)) .nil))))
          (.cons (.expr (.op .Assignment (.cons (.global 0)
            (.cons (.op .Add (.cons (.op .Modulus (.cons (.global 0) (.cons (.lit (.int32 5)) .nil))) (.cons (.var 1) .nil))) .nil)))) .nil)))
      (.cons (.expr (.call 0 (.cons (.var 2) (.cons (.lit (.int32 7)) .nil))))
      (.cons (.ret (some (.op .Subtract (.cons (.var 2) (.cons (.lit (.int32 (-5))) .nil))))) .nil))

/-- the hypotheses of the statement theorems hold for it (a loop, an inout parameter, a static, a call with an inout
argument followed by a pure argument, a negative constant), the names agree, and the exporter produces the trampoline
target and the trampoline for it -/
example : Ir.wtStmtsM (side cxW W2 (fun _ => true) (fun _ => [])) fExM.ret none fExM.body = true := by decide
example : Lemmas.GenMsl.AgreeM cxW (fun _ => true) envW := agreeW
example : ∃ t1 t2, genFuncs cxW fExM = .ok [t1, t2] ∧ t1.isTarget = true ∧ t2.isTarget = false := ⟨_, _, rfl, rfl, rfl⟩
/-- …and the instance of `gen_sem_stmts` it yields, in the linked worlds of witness 2 -/
example (b' : HlslAst.Stmts) (h : genStmts cxW fExM.body = .ok b') (fuel : Nat) (σ : Store) :
    Msl.execs M2 envW .int fuel .run b' σ = Ir.execs W2 fuel .run fExM.body σ :=
  gen_sem_stmts agreeW worlds2 .int none fExM.body b' h (by decide) .run trivial fuel σ
/-- floating-point `%` becomes `metal::fmod`, and is covered -/
example : genExpr { cxW with vty := fun _ => .float } (.op .Modulus (.cons (.var 0) (.cons (.var 1) .nil))) =
    .ok (.call "metal::fmod" (.cons (.ident "l") (.cons (.ident "ll") .nil))) := by rfl

/-- **`x %= y` on floats** (fixes 92d66eb + 35faaaa; known finding *metal-remainder-operator-on-floats*: Metal has no `%=` on floats, and the reading
`Spec.SemMsl` gives it none): the exporter writes `x = metal::fmod(x, y)` when the target is a plain place and the right operand is free of
writes — the emitted form reads `x` BEFORE `y` is evaluated, `%=` after, so `x %= (x = y)` and `g %= h()` (a call may write
`g`) are refused with `ComplexRemainderAssignment` (35faaaa) —; `gen_sem_expr`
covers the emitted form with no side condition beyond the exporter's own guard (`Lemmas.GenMsl.eval_remAssign`,
`freeOfWrites_pure`); on integers `%=` stays `%=`. -/
theorem float_remainder_assignment_exported :
    genExpr { cxW with vty := fun _ => .float } (.op .RemainderAssignment (.cons (.var 0) (.cons (.var 1) .nil))) =
      .ok (.bin .Assignment (.ident "l") (.call "metal::fmod" (.cons (.ident "l") (.cons (.ident "ll") .nil)))) ∧
    genExpr { cxW with vty := fun _ => .float } (.op .RemainderAssignment (.cons (.global 0)
      (.cons (.op .Add (.cons (.var 1) (.cons (.tern (.var 2) (.var 0) (.global 0)) .nil))) .nil))) =
      .ok (.bin .Assignment (.ident "g") (.call "metal::fmod" (.cons (.ident "g")
        (.cons (.bin .Add (.ident "ll") (.tern (.ident "lll") (.ident "l") (.ident "g"))) .nil)))) ∧
    genExpr { cxW with vty := fun _ => .float } (.op .RemainderAssignment (.cons (.var 0)
      (.cons (.op .Assignment (.cons (.var 0) (.cons (.var 1) .nil))) .nil))) = .error (.diag "ComplexRemainderAssignment") ∧
    genExpr { cxW with vty := fun _ => .float } (.op .RemainderAssignment (.cons (.global 0) (.cons (.call 1 .nil) .nil))) =
      .error (.diag "ComplexRemainderAssignment") ∧
    genExpr { cxW with vty := fun _ => .float } (.op .RemainderAssignment (.cons (.tern (.var 2) (.var 0) (.var 1)) (.cons (.var 1) .nil))) =
      .error (.diag "ComplexRemainderAssignment") ∧
    genExpr cxW (.op .RemainderAssignment (.cons (.var 0) (.cons (.call 1 .nil) .nil))) =
      .ok (.bin .RemainderAssignment (.ident "l") (.call "ZZ" .nil)) :=
  ⟨rfl, rfl, rfl, rfl, rfl, rfl⟩

/-! ### non-vacuity of `gen_sem_program`: the aliasing program of seeded mutant C02-2

`static int g0; void bump(inout int x) { x = x + 1; g0 = g0 + 10; } int f() { bump(g0); return g0; }` — every hypothesis
(`ProgOK` incl. layout and name conditions, `SynOK`, `OutOK`) is established for it, and the theorem is instantiated at the
call that passes the static both as the inout argument and as the threaded reference. -/

/-- `void bump(inout int x) { x = x + 1; g0 = g0 + 10; }` -/
def bumpFn : Ir.Func where
  id := 0
  ret := .void
  params := [(2, .inout, .int)]
  body :=
    .cons (.expr (.op .Assignment (.cons (.var 2) (.cons (.op .Add (.cons (.var 2) (.cons (.lit (.int32 1)) .nil))) .nil))))
    (.cons (.expr (.op .Assignment (.cons (.global 0) (.cons (.op .Add (.cons (.global 0) (.cons (.lit (.int32 10)) .nil))) .nil)))) .nil)

/-- `int f() { bump(g0); return g0; }` -/
def callerFn : Ir.Func where
  id := 1
  ret := .int
  params := []
  body := .cons (.expr (.call 0 (.cons (.global 0) .nil))) (.cons (.ret (some (.global 0))) .nil)

def progP : List Ir.Func := [bumpFn, callerFn]

def xoP : Var := .loc 1000

def cxP : Ctx :=
  { cxW with
    vty := fun x => if x = xoP then .void else .int
    retTy := fun f => if f = 0 then some .void else some .int
    req := fun _ => some [0]
    called := fun f => f == 0 }

def mprogP : List MslAst.Func := match genProg cxP progP with | .ok m => m | .error _ => []

theorem genP : genProg cxP progP = .ok mprogP := by rfl

/-- the emitted module: the trampoline target of `bump`, its trampoline, `f` -/
example : mprogP.map (fun m => (m.name, m.params.length, m.isTarget)) = [("Z", 3, true), ("Z", 2, false), ("ZZ", 1, false)] := by decide

def frameP (s : String) : Option Var :=
  match s.toList with
  | 'l' :: r => some (.loc r.length)
  | '_' :: '_' :: 'l' :: r => some (.loc r.length)
  | ['o', 'u', 't'] => some xoP
  | _ => none

def LP : Msl.Layout where
  frame _ s := frameP s
  vty := cxP.vty
  fres s := match s.toList with
    | 'Z' :: r => some r.length
    | _ => none
  scratch fname := if fname = "Z" then [xoP] else []

def vis0P : Nat → Var → Bool := fun _ x => match x with | .loc n => decide (n < 100) | .glob _ => false
def rsvP : Nat → List Var := fun f => if f = 0 then [xoP, .loc 2] else []

-- `cxP` has the names of `cxW`, and `envW` reads each of them back
theorem name_inj (x y : Var) (h : cxP.name x = cxP.name y) : x = y :=
  Option.some.inj ((agreeW.res x rfl).symm.trans ((congrArg envW.res h).trans (agreeW.res y rfl)))

theorem resP (f : Nat) : Res cxP (vis0P f) frameP := by
  intro x hx
  cases x with
  | loc n => simp [Ctx.name, cxP, cxW, frameP, List.replicate_succ]
  | glob n => simp [vis0P] at hx

theorem fresP (f : Nat) : LP.fres (cxP.funcName f) = some f := by simp [LP, cxP, cxW]

theorem agreeLP (fn : Ir.Func) (hp : ∀ p ∈ fn.params, p.1 < 100) : AgreeL cxP LP fn (vis0P fn.id) where
  vty := rfl
  fres := fresP
  notLib := agreeW.notLib
  frame := resP fn.id
  params := fun p hp' => by simp [vis0P, hp p hp']

theorem funcOK_bump : FuncOK cxP LP progP rsvP (fun _ => xoP) vis0P bumpFn [0] where
  req := rfl
  ret := rfl
  layout := agreeLP bumpFn (by decide)
  inj := fun x y _ _ h => name_inj x y h
  ids := by decide
  wt := by decide
  tyP := by decide
  scratch := by decide
  tramp := fun _ => ⟨
    { vty := rfl
      fres := fresP 0
      notFmod := (agreeW.notLib 0).1
      slotP := by decide
      slotT := by decide
      slotO := by decide
      scratch := by decide
      tyO := by decide
      xoFresh := by decide
      ids := by decide
      names := by decide
      namesT := by decide
      namesO := by decide
      namesG := by decide }, by decide⟩

theorem funcOK_caller : FuncOK cxP LP progP rsvP (fun _ => xoP) vis0P callerFn [0] where
  req := rfl
  ret := rfl
  layout := agreeLP callerFn (by decide)
  inj := fun x y _ _ h => name_inj x y h
  ids := by decide
  wt := by decide
  tyP := by decide
  scratch := by decide
  tramp := fun h => by simp [needsTrampoline, hasOut, callerFn] at h

theorem progOKP : ProgOK cxP LP progP mprogP rsvP (fun _ => xoP) vis0P where
  gen := genP
  ids := by decide
  fres := fresP
  funcs := by
    intro fn hfn
    simp only [progP, List.mem_cons, List.not_mem_nil, or_false] at hfn
    rcases hfn with rfl | rfl
    · exact ⟨[0], funcOK_bump⟩
    · exact ⟨[0], funcOK_caller⟩

theorem synOKP : SynOK cxP progP (fun _ => xoP) where
  scratchFree := by decide
  voidNoRet := by decide

theorem offOut_noOut (ps : Params) (vs ws : List Val) (hall : (ps.all fun p => decide (p.2.1 ≠ .out)) = true)
    (h : offOut ps vs ws) : vs = ws := by
  fun_induction offOut ps vs ws with
  | case1 pid d T ps v vs w ws ih =>
    simp only [List.all_cons, Bool.and_eq_true, decide_eq_true_eq] at hall
    rw [h.1 hall.1, ih hall.2 h.2]
  | case2 => rfl
  | case3 => exact h.elim

theorem outOKP (P : Prim) (fuel : Nat) : OutOK cxP P progP fuel := by
  intro d fn hfn hn vals vals' σ hoff
  simp only [progP, List.mem_cons, List.not_mem_nil, or_false] at hfn
  rcases hfn with rfl | rfl
  · rw [offOut_noOut bumpFn.params vals vals' (by decide) hoff]
  · simp [needsTrampoline, hasOut, callerFn] at hn

/-- the aliasing call `bump(g0)` of the emitted program: the static is passed as the inout argument *and* as the threaded
reference; the Metal call is the typed copy-in/copy-out call -/
example (P : Prim) (fuel d : Nat) (v : Val) (σ : Store) :
    Msl.phi P LP mprogP fuel d 0 false [Msl.MArg.ref (.glob 0), Msl.MArg.ref (.glob 0)] σ =
      match Ir.phi P progP fuel d 0 [σ (.glob 0)] σ with
      | none => none
      | some (ret, finals, σ2) => some (ret, writeBack [some (.glob 0)] finals σ2) :=
  gen_sem_program progOKP synOKP (outOKP P fuel) d 0 .void [(.inout, .int)] [0] [(v, some (.glob 0))] σ rfl rfl rfl (by simp [fitsB, cxP, xoP])
    (by intro p hp x hx; simp at hp; subst hp; simp at hx; subst hx; decide)

end RsslVerif.Thm.C02Sem
