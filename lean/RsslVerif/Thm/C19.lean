import RsslVerif.Lemmas.Layout
import RsslVerif.Lemmas.LayoutCollect
import RsslVerif.Lemmas.LayoutFull
import RsslVerif.Lemmas.LayoutFields
import RsslVerif.Gen.LayoutSites
import RsslVerif.Gen.LayoutPurity
import RsslVerif.Lemmas.LayoutContext
import RsslVerif.Lemmas.LayoutIgnored
/-!
# C19 — layout-consistency validation is sound

Statements are about `Model.Layout.get` / `offsetsMatch` / `checkAll` (the model of `get_type_layout`,
`offsets_match` and the final loop of `check_layout`, driven by the op programs regenerated from `/repo`
into `Gen.LayoutTables`) and the independent reference calculators `Spec.Layout.hlslSB` /
`Spec.Layout.metal`.  Every theorem below is at full strength: the only hypotheses are that the element
type has a reference layout at all (`wf`: the property's grid — half/int/uint/float/double, vectors of
1–4, 32-bit enums, arrays of ≥ 1 element, structs (empty ones included), nested to any depth) and, for the
"no unknown size" / completeness statements, that the two reference sizes fit in `u32`.

The modelled source is /repo with 0414772, 24ea36f, c062f2e, d99f90e + bdddd35, d25724e: sizes beyond 32 bits are
"unknown size" (`check_never_panics`), a typed load that still depends on a template parameter is skipped, arrays of
structured buffers are collected whatever modifiers sit between the array layers
(`property_uses_collected_partial`), an empty struct has its Metal byte (`check_sound_full`).
-/
namespace RsslVerif.Thm.C19
open RsslVerif.Gen.LayoutTables RsslVerif.Model.Layout RsslVerif.Spec.Layout RsslVerif.Lemmas.Layout

/-- `ScalarType::get_size` gives the reference byte sizes on the property's scalar grid, `bool` has no
    layout, the arms of `get_type_layout` have the kinds the model assumes, and `check_layout` calls
    `offsets_match` and compares sizes and offsets. -/
theorem tables_pinned :
    (∀ s, sized s = true → scalarSize s = some (bytes s)) ∧ boolHasNoLayout = true ∧
    layerKind .Scalar = .scalar ∧ layerKind .Vector = .vector ∧ layerKind .Struct = .struct ∧
    layerKind .ArraySized = .array ∧ layerKind .Enum = .underlying ∧ layerKind .Modifier = .inner ∧
    layerKind .Matrix = .none ∧ layerKind .ArrayUnsized = .none ∧ layerKind .Object = .none ∧
    layerKind .Void = .none ∧ hasOffsetsMatch = true ∧ checkCompare = .sizeAndOffsets ∧
    offsetsModifierIsInner = true := by
  refine ⟨fun s => by cases s <;> decide, ?_⟩
  decide +kernel

/-- `check_layout` looks at exactly the uses the property names: (RW)StructuredBuffer element types and
    the template argument of typed raw-buffer / buffer-address loads and stores. -/
theorem checked_sites :
    checkedObjects = ["StructuredBuffer", "RWStructuredBuffer"] ∧
    checkedIntrinsics = ["ByteAddressBufferLoadT", "RWByteAddressBufferLoadT", "RWByteAddressBufferStore",
      "BufferAddressLoad", "RWBufferAddressLoad", "RWBufferAddressStore"] :=
  ⟨rfl, rfl⟩

/-- `get_type_layout` returns the reference size and alignment of every type of the grid, under both
    rule sets. -/
theorem get_matches_spec (m : Mode) (t : Ty) (l : Layout) (hw : wf t = true) (h : get m t = .ok l) :
    l = ⟨size m t, align m t⟩ := by
  rw [get_eq m t hw] at h
  split at h <;> cases h
  rfl

/-- structural form of soundness: accepted ⇒ every listed element type has the same total size and the
    same relative offset of every member at every nesting level (and the same array strides) -/
theorem check_sound_agree (ts : List Ty) (h : checkAll ts = .ok) (t : Ty) (ht : t ∈ ts)
    (hw : wf t = true) : Agree t :=
  checkOne_spec hw (Lemmas.LayoutContext.checkAll_ok_iff.1 h t ht)

/-- **Soundness.**  If `check_layout` accepts the element types `ts`, then for every one of them the two
    reference calculators give the same total size and the same absolute byte offset for every field,
    recursively (every array element included). -/
theorem check_sound (ts : List Ty) (h : checkAll ts = .ok) (t : Ty) (ht : t ∈ ts) (hw : wf t = true) :
    ∃ rh rm, hlslSB t = some rh ∧ metal t = some rm ∧ rh.size = rm.size ∧ rh.fields = rm.fields := by
  have ha := check_sound_agree ts h t ht hw
  refine ⟨⟨size .hlsl t, align .hlsl t, fieldsAt .hlsl t 0⟩, ⟨size .metal t, align .metal t, fieldsAt .metal t 0⟩,
    by simp only [hlslSB, ref, hw, if_true], by simp only [metal, ref, hw, if_true], ha.1, ?_⟩
  exact agree_fields t ha.2 0

/-- **Reported sizes are the true sizes.**  If `check_layout` rejects, the type it blames is the `i`-th
    collected one and the sizes (and alignments) in the message are the reference ones. -/
theorem reported_sizes_true (ts : List Ty) (i : Nat) (lh lm : Layout)
    (h : checkAll ts = .mismatch i lh lm) :
    ∃ t, ts[i]? = some t ∧ (wf t = true →
      lh = ⟨size .hlsl t, align .hlsl t⟩ ∧ lm = ⟨size .metal t, align .metal t⟩ ∧
      hlslSB t = some ⟨lh.size, lh.align, fieldsAt .hlsl t 0⟩ ∧
      metal t = some ⟨lm.size, lm.align, fieldsAt .metal t 0⟩) := by
  obtain ⟨t, ht, hc⟩ := Lemmas.LayoutContext.checkAll_mismatch h
  refine ⟨t, ht, fun hw => ?_⟩
  obtain ⟨_, rfl, rfl⟩ := checkOne_spec hw hc
  exact ⟨rfl, rfl, by simp only [hlslSB, ref, hw, if_true], by simp only [metal, ref, hw, if_true]⟩

/-- a rejection is never spurious: the type blamed at position `i` really differs in total size or in some offset -/
theorem rejected_differs_at (ts : List Ty) (i : Nat) (lh lm : Layout) (h : checkAll ts = .mismatch i lh lm) :
    ∃ t, ts[i]? = some t ∧
      (wf t = true → size .hlsl t ≤ u32Max → size .metal t ≤ u32Max → ¬ Agree t) := by
  obtain ⟨t, ht, hc⟩ := Lemmas.LayoutContext.checkAll_mismatch h
  exact ⟨t, ht, fun hw _ _ => (checkOne_spec hw hc).1⟩

/-- the same for a single type -/
theorem rejected_differs (t : Ty) (lh lm : Layout) (hw : wf t = true)
    (hh : size .hlsl t ≤ u32Max) (hm : size .metal t ≤ u32Max)
    (h : checkAll [t] = .mismatch 0 lh lm) : ¬ Agree t := by
  obtain ⟨_, ht, hn⟩ := rejected_differs_at [t] 0 lh lm h
  cases ht
  exact hn hw hh hm

/-- **Completeness (no false rejection).**  Element types whose reference layouts agree (and whose
    sizes fit `u32`) are all accepted. -/
theorem check_complete (ts : List Ty)
    (h : ∀ t ∈ ts, wf t = true ∧ size .hlsl t ≤ u32Max ∧ size .metal t ≤ u32Max ∧ Agree t) :
    checkAll ts = .ok :=
  Lemmas.LayoutContext.checkAll_ok_iff.2 fun t ht => checkOne_complete t (h t ht).1 (h t ht).2.1 (h t ht).2.2.1 (h t ht).2.2.2

/-- **No panic, no "unknown size" on the grid.**  For every type that has a reference layout and whose
    two reference sizes fit in `u32`, the loop body reaches the comparison: none of the overflow /
    `unwrap` / `panic!` sites of `get_type_layout` and `offsets_match` fires, no call returns `None`. -/
theorem check_total (t : Ty) (hw : wf t = true) (hh : size .hlsl t ≤ u32Max)
    (hm : size .metal t ≤ u32Max) : ∃ r, checkOne t = .ok r := by
  rw [checkOne_eq t hw, if_pos (fits_of_sizes hw hh hm)]
  exact ⟨_, rfl⟩

/-- **No panic on the grid, whatever the sizes** (/repo 24ea36f).  Every overflow site of
    `get_type_layout` and `offsets_match` returns `None` ("unknown size"); the one unchecked
    `next_multiple_of` left, in `check_layout` itself, cannot overflow because a size is a multiple of its
    alignment. -/
theorem check_never_panics (ts : List Ty) (hw : ∀ t ∈ ts, wf t = true) (msg : String) :
    checkAll ts ≠ .panic msg := by
  intro h
  obtain ⟨t, ht, hc⟩ := Lemmas.LayoutContext.checkAll_panic h
  exact checkOne_noPanic t (hw t ht) msg hc

/-- non-vacuity: sizes beyond `u32` (`float a[4294967295]`, `float a[4294967296]`, a struct that ends
    beyond 4 GiB, an array of 2^32 empty structs) are in the grid and get "unknown size" -/
example :
    wf (.struct (Tys.ofList [.arr (.scalar .Float32) 4294967295])) = true ∧
    checkAll [.struct (Tys.ofList [.arr (.scalar .Float32) 4294967295])] = .unknown 0 ∧
    checkAll [.struct (Tys.ofList [.arr (.scalar .Float32) 4294967296])] = .unknown 0 ∧
    checkAll [.struct (Tys.ofList [.arr (.scalar .Float32) 1073741823, .scalar .Float64])] = .unknown 0 ∧
    checkAll [.struct (Tys.ofList [.arr (.struct .nil) 4294967296])] = .unknown 0 ∧
    checkAll [.struct (Tys.ofList [.arr (.scalar .Float32) 1073741823])] = .ok := by
  decide +kernel

/-- without vectors and empty structs (scalars, enums, arrays and non-empty structs of them, to any depth) the two
    rule sets give the same layout -/
theorem vector_free_agree (t : Ty) (hv : vectorFree t = true) : Agree t :=
  ⟨(vectorFree_same t hv).2.1, (vectorFree_same t hv).2.2⟩

/-- `Agree` is exactly what the property demands: the same total size and the same absolute byte offset of every
    field, recursively (every array element listed). -/
theorem agree_iff_same_size_and_offsets (t : Ty) (hw : wf t = true) :
    Agree t ↔ (size .hlsl t = size .metal t ∧ fieldsAt .hlsl t 0 = fieldsAt .metal t 0) :=
  ⟨fun h => ⟨h.1, agree_fields t h.2 0⟩, fun h => ⟨h.1, Lemmas.LayoutFields.fields_agree t hw 0 h.2⟩⟩

/-- a rejection is never spurious: the blamed type differs in total size or in the offset of some field -/
theorem rejected_really_differs (t : Ty) (lh lm : Layout) (hw : wf t = true)
    (hh : size .hlsl t ≤ u32Max) (hm : size .metal t ≤ u32Max)
    (h : checkAll [t] = .mismatch 0 lh lm) :
    ¬ (size .hlsl t = size .metal t ∧ fieldsAt .hlsl t 0 = fieldsAt .metal t 0) :=
  fun hf => rejected_differs t lh lm hw hh hm h ((agree_iff_same_size_and_offsets t hw).2 hf)

/-- no false rejection: types with the same total size and the same offset of every field are accepted -/
theorem check_complete_fields (ts : List Ty)
    (h : ∀ t ∈ ts, wf t = true ∧ size .hlsl t ≤ u32Max ∧ size .metal t ≤ u32Max ∧
      size .hlsl t = size .metal t ∧ fieldsAt .hlsl t 0 = fieldsAt .metal t 0) :
    checkAll ts = .ok :=
  check_complete ts fun t ht =>
    ⟨(h t ht).1, (h t ht).2.1, (h t ht).2.2.1, (agree_iff_same_size_and_offsets t (h t ht).1).2 (h t ht).2.2.2⟩

section collection
open RsslVerif.Gen.LayoutSites RsslVerif.Model.LayoutCollect RsslVerif.Lemmas.LayoutCollect

/-- "structured buffer", in the property's words -/
def propertyObjects : List String := ["StructuredBuffer", "RWStructuredBuffer"]
/-- "raw buffer / buffer address" -/
def rawBufferObjects : List String := ["ByteAddressBuffer", "RWByteAddressBuffer", "BufferAddress", "RWBufferAddress"]

/-- **Inventory of use sites.**  Taken from the type checker's own tables (`ObjectType`, `parse_object_type`,
    the method tables of `get_methods`), not from `layout_checker.rs`: every object type whose element may be a
    structure is a structured buffer (and then matched by `check_layout`) or one of the two kinds the property
    does not name; every object method templated on a type `T` is a load / store of a raw buffer or buffer
    address and its intrinsic is matched by `check_layout`; nothing else is matched; the global loop looks below
    a modifier, then below every array layer and a modifier after each (/repo d99f90e + bdddd35); the function loop
    skips type arguments that depend on a template parameter (/repo c062f2e); both de-duplicate by type id
    and take the single type argument. -/
theorem collection_sites_covered :
    (∀ o ∈ structElementObjects, o ∈ propertyObjects ∨ o ∈ ["ConstantBuffer", "TriangleStream"]) ∧
    (∀ o ∈ propertyObjects, o ∈ checkedObjects ∧ (o, true) ∈ objectTypes ∧ o ∈ structElementObjects) ∧
    (∀ t ∈ typedMethods, t.1 ∈ rawBufferObjects ∧ t.2.2.1 ∈ checkedIntrinsics) ∧
    (∀ o ∈ rawBufferObjects, (o, false) ∈ objectTypes ∧ ∃ t ∈ typedMethods, t.1 = o) ∧
    (∀ i ∈ checkedIntrinsics, ∃ t ∈ typedMethods, t.2.2.1 = i) ∧
    (∀ o ∈ checkedObjects, o ∈ propertyObjects) ∧
    globalLoopStripsModifier = true ∧ globalLoopStripsArray = true ∧
    globalPeelOps = [.removeModifier, .whileArrayRemoveModifier] ∧ fnLoopSkipsDependent = true ∧
    dedupByTypeId = true ∧ fnLoopOneTypeArgument = true := by
  decide +kernel

/-- **When validation runs and what it prints.**  `compile` calls `check_layout` exactly when
    `validate_layout_consistency` is set, between type checking and anything that depends on the target or on
    the pipeline mode; a mismatch prints the HLSL layout first and the Metal layout second, size before
    alignment (this is how the harness reads the message back). -/
theorem diagnostic_pinned :
    validationGuard = "args.validate_layout_consistency" ∧ validationBeforeTargetSelection = true ∧
    unknownMessage = "struct has unknown size" ∧
    mismatchMessage = "struct has size={} align={} on HLSL but size={} align={} on Metal" ∧
    mismatchArgs = ["lhs.size", "lhs.align", "rhs.size", "rhs.align"] ∧
    fnLocationIsStructDefinition = true :=
  ⟨rfl, rfl, rfl, rfl, rfl, rfl⟩

/-- the buffer object a global is made of, below `Modifier` and `Array` layers in any order: in the property's
    words every element of an array of structured buffers is a structured buffer -/
def bufferElem : GTy → Option (String × TyRef)
  | .object k (some r) => some (k, r)
  | .modifier t => bufferElem t
  | .array t => bufferElem t
  | _ => none

def isModifier : GTy → Bool
  | .modifier _ => true
  | _ => false

/-- no `Modifier` layer directly on a `Modifier` layer: an invariant of the type registry (`combine_modifier` asserts
    that the type it qualifies is not qualified already) -/
def unstacked : GTy → Bool
  | .modifier t => !isModifier t && unstacked t
  | .array t => unstacked t
  | _ => true

/-- one round of `while let TypeLayer::Array(inner, _) = layer(ty) { ty = remove_modifier(inner); }` -/
theorem whileArray_array (u : GTy) : whileArray (.array u) = whileArray (removeModifier u) := by
  cases u <;> rfl

/-- the global loop's peeling statements reach the buffer object of every global that is a structured buffer or an
    array of structured buffers, however `Array` and (unstacked) `Modifier` layers interleave (/repo bdddd35) -/
theorem peel_bufferElem {k : String} {r : TyRef} {t : GTy} (hu : unstacked t = true)
    (h : bufferElem t = some (k, r)) : peel globalPeelOps t = .object k (some r) := by
  show whileArray (removeModifier t) = _
  induction t with
  | object a b =>
    cases b with
    | none => cases h
    | some r' => cases h; rfl
  | other => cases h
  | array u ih => exact (whileArray_array u).trans (ih hu h)
  | modifier v ih =>
    simp only [unstacked, Bool.and_eq_true, Bool.not_eq_true'] at hu
    -- below an unstacked modifier `remove_modifier` has nothing more to remove
    have := ih hu.2 h
    cases v with
    | modifier _ => cases hu.1
    | _ => exact this

/-- a use of the type `r` that the property names: the element type of a global (RW)StructuredBuffer or of a
    global array of them — any dimensions, typedef'd or not, `Modifier` layers anywhere between (`bufferElem`; the
    registry's invariant `unstacked`) — or the type argument of an instantiated typed load / store of a raw buffer or
    buffer address.  *Narrower than the property's words* in one way: a buffer that is a member of a global struct is
    not expressible (`GTy.other`; it is not collected: known finding `accepted/site-sbmem`). -/
inductive PropertyUse (m : Module) (r : TyRef) : Prop
  | buffer (g : Global) (hg : g ∈ m.globals) (k : String) (hk : k ∈ propertyObjects)
      (h : bufferElem g.ty = some (k, r)) (hs : unstacked g.ty = true)
  | access (f : Fn) (hf : f ∈ m.fns) (t : String × String × String × Nat) (ht : t ∈ typedMethods)
      (hi : f.intrinsic = some t.2.2.1) (ha : f.template = some [.type r])

/-- the type reference is matched by one of the two loops -/
def Matched (m : Module) (r : TyRef) : Prop :=
  (∃ g ∈ m.globals, GlobalHit g r) ∨ (∃ f ∈ m.fns, FnHit f r)

/-- a type id denotes one type (the type registry interns types) -/
def Consistent (m : Module) : Prop :=
  ∀ r r', Matched m r → Matched m r' → r.id = r'.id → r.ty = r'.ty

/-- a type of the grid does not depend on a template parameter -/
theorem wf_not_dependent (t : Ty) (hw : wf t = true) : isDependent t = false := by
  fun_induction isDependent t with
  | case1 => cases hw
  | case2 t n ih => simp only [wf, Bool.and_eq_true] at hw; exact ih hw.2
  | case3 => rfl

theorem propertyUse_matched (m : Module) (r : TyRef) (h : PropertyUse m r) (hd : isDependent r.ty = false) :
    Matched m r := by
  cases h with
  | buffer g hg k hk h hs =>
    refine Or.inl ⟨g, hg, k, peel_bufferElem hs h, ?_⟩
    have := (collection_sites_covered.2.1 k hk).1
    simpa using this
  | access f hf t ht hi ha =>
    refine Or.inr ⟨f, hf, t.2.2.1, hi, ?_, ha, by simp [hd]⟩
    have := (collection_sites_covered.2.2.1 t ht).2
    simpa using this

/-- **Every use the property names is collected** (partial: see `PropertyUse` for the one class of use that is
    missing): the type id of a concrete type (one that does not depend on a template parameter — a load inside a
    template is a use only once the template is instantiated) is among `types_to_check`; this includes
    the element type of every array of structured buffers (/repo d99f90e + bdddd35). -/
theorem property_uses_collected_partial (m : Module) (l : List Entry) (h : collect m = .ok l) (r : TyRef)
    (hu : PropertyUse m r) (hd : isDependent r.ty = false) : ∃ e ∈ l, e.ref.id = r.id :=
  collect_hit m l h r (propertyUse_matched m r hu hd)

/-- with consistent type ids the type of every matched reference is among the checked ones -/
theorem matched_checked {m : Module} (hc : Consistent m) {l : List Entry} (hl : collect m = .ok l) {r : TyRef}
    (hr : Matched m r) : r.ty ∈ l.map (·.ref.ty) := by
  obtain ⟨e, he, hid⟩ := collect_hit m l hl r hr
  exact List.mem_map.2 ⟨e, he, hc e.ref r (collect_origin m l hl e he) hr hid⟩

/-- **Soundness of `check_layout` as a whole** (partial only through `PropertyUse`).  If it accepts a module,
    every structure used as the element type of a structured buffer (or of an array of structured buffers) or of
    a typed raw-buffer / buffer-address load or store has the same total size and the same byte offset of every
    field, recursively, under both reference calculators. -/
theorem check_layout_sound_partial (m : Module) (hc : Consistent m) (h : checkLayout m = .ok) (r : TyRef)
    (hu : PropertyUse m r) (hw : wf r.ty = true) :
    ∃ rh rm, hlslSB r.ty = some rh ∧ metal r.ty = some rm ∧ rh.size = rm.size ∧ rh.fields = rm.fields := by
  unfold checkLayout at h
  split at h
  · rename_i l hl
    exact check_sound _ h r.ty (matched_checked hc hl (propertyUse_matched m r hu (wf_not_dependent r.ty hw))) hw
  · cases h
  · cases h

/-- **Reported sizes, module level**: a rejection blames a collected type, i.e. one the loops matched, and
    the sizes and alignments in the message are the reference ones. -/
theorem check_layout_reports_true_sizes (m : Module) (i : Nat) (lh lm : Layout)
    (h : checkLayout m = .mismatch i lh lm) :
    ∃ r, Matched m r ∧ (wf r.ty = true →
      hlslSB r.ty = some ⟨lh.size, lh.align, fieldsAt .hlsl r.ty 0⟩ ∧
      metal r.ty = some ⟨lm.size, lm.align, fieldsAt .metal r.ty 0⟩) := by
  unfold checkLayout at h
  split at h
  · rename_i l hl
    obtain ⟨t, ht, hs⟩ := reported_sizes_true _ i lh lm h
    rw [List.getElem?_map, Option.map_eq_some_iff] at ht
    obtain ⟨e, he, rfl⟩ := ht
    exact ⟨e.ref, collect_origin m l hl e (List.mem_of_getElem? he), fun hw => (hs hw).2.2⟩
  · cases h
  · cases h

private def sF : Ty := .struct (Tys.ofList [.scalar .Float32, .vec .Float32 2])
private def sG : Ty := .struct (Tys.ofList [.scalar .Float32, .scalar .Float32])

/-- the shapes /repo d99f90e (an array of structured buffers was not looked at) and bdddd35 (what d99f90e left:
    `typedef StructuredBuffer<S> A[2]; A g[3];` = `Array(Modifier(const, Array(Object)))`) repaired:
    arrays of structured buffers — as the model saw them then, and as the type checker really builds them
    (`Array(Modifier(const, Object))`) —, of one and two dimensions, typedef'd arrays with and without further
    dimensions and modifiers between all layers are rejected with the true sizes (12 vs 16 bytes) -/
example :
    checkLayout ⟨[⟨.array (.object "StructuredBuffer" (some ⟨0, sF⟩)), "g"⟩], []⟩ = .mismatch 0 ⟨12, 4⟩ ⟨16, 8⟩ ∧
    checkLayout ⟨[⟨.array (.modifier (.object "StructuredBuffer" (some ⟨0, sF⟩))), "g"⟩], []⟩ = .mismatch 0 ⟨12, 4⟩ ⟨16, 8⟩ ∧
    checkLayout ⟨[⟨.array (.array (.modifier (.object "RWStructuredBuffer" (some ⟨0, sF⟩)))), "g"⟩], []⟩
      = .mismatch 0 ⟨12, 4⟩ ⟨16, 8⟩ ∧
    checkLayout ⟨[⟨.modifier (.array (.object "StructuredBuffer" (some ⟨0, sF⟩))), "g"⟩], []⟩ = .mismatch 0 ⟨12, 4⟩ ⟨16, 8⟩ ∧
    checkLayout ⟨[⟨.array (.modifier (.array (.object "StructuredBuffer" (some ⟨0, sF⟩)))), "g"⟩], []⟩
      = .mismatch 0 ⟨12, 4⟩ ⟨16, 8⟩ ∧
    checkLayout ⟨[⟨.array (.modifier (.array (.modifier (.array (.object "StructuredBuffer" (some ⟨0, sF⟩)))))), "g"⟩], []⟩
      = .mismatch 0 ⟨12, 4⟩ ⟨16, 8⟩ ∧
    unstacked (.array (.modifier (.array (.modifier (.array (.object "StructuredBuffer" (some ⟨0, sF⟩))))))) = true ∧
    (bufferElem (.array (.modifier (.array (.object "StructuredBuffer" (some ⟨0, sF⟩)))))).map
      (fun p => (p.1, p.2.id)) = some ("StructuredBuffer", 0) ∧
    wf sF = true ∧ ¬ Agree sF := by
  decide +kernel

/-- a typed load whose type argument still depends on a template parameter (`T`, `T[2]`) is skipped, wherever it
    stands; the first concrete failure is still reported -/
example :
    checkLayout ⟨[], [⟨some "ByteAddressBufferLoadT", some [.type ⟨7, .other .TemplateParam⟩]⟩]⟩ = .ok ∧
    checkLayout ⟨[], [⟨some "BufferAddressLoad", some [.type ⟨7, .arr (.other .TemplateParam) 2⟩]⟩,
      ⟨some "RWBufferAddressStore", some [.type ⟨0, sF⟩]⟩]⟩ = .mismatch 0 ⟨12, 4⟩ ⟨16, 8⟩ := by
  decide +kernel

/-- non-vacuity: the same structure behind a plain structured buffer, behind modifiers, or as the argument of a
    typed store is rejected with the true sizes; an agreeing structure at every site is accepted; the first
    collected failure is the one reported (globals before functions), a type id is looked at once -/
example :
    checkLayout ⟨[⟨.object "StructuredBuffer" (some ⟨0, sF⟩), "g"⟩], []⟩ = .mismatch 0 ⟨12, 4⟩ ⟨16, 8⟩ ∧
    checkLayout ⟨[⟨.modifier (.object "RWStructuredBuffer" (some ⟨0, sF⟩)), "g"⟩], []⟩ = .mismatch 0 ⟨12, 4⟩ ⟨16, 8⟩ ∧
    checkLayout ⟨[], [⟨some "RWBufferAddressStore", some [.type ⟨0, sF⟩]⟩]⟩ = .mismatch 0 ⟨12, 4⟩ ⟨16, 8⟩ ∧
    checkLayout ⟨[⟨.object "StructuredBuffer" (some ⟨1, sG⟩), "g"⟩, ⟨.object "ConstantBuffer" (some ⟨0, sF⟩), "c"⟩],
      [⟨some "ByteAddressBufferLoadT", some [.type ⟨1, sG⟩]⟩, ⟨some "ByteAddressBufferLoad", none⟩]⟩ = .ok ∧
    checkLayout ⟨[⟨.object "StructuredBuffer" (some ⟨1, sG⟩), "g"⟩],
      [⟨some "ByteAddressBufferLoadT", some [.type ⟨1, sG⟩]⟩, ⟨some "BufferAddressLoad", some [.type ⟨0, sF⟩]⟩]⟩
        = .mismatch 1 ⟨12, 4⟩ ⟨16, 8⟩ := by
  decide +kernel

/-- non-vacuity of `check_layout_sound_partial`: an accepted module with consistent type ids and a use the property
    names (an array of structured buffers) -/
example :
    Consistent ⟨[⟨.array (.modifier (.object "StructuredBuffer" (some ⟨1, sG⟩))), "g"⟩],
      [⟨some "ByteAddressBufferLoadT", some [.type ⟨1, sG⟩]⟩]⟩ ∧
    checkLayout ⟨[⟨.array (.modifier (.object "StructuredBuffer" (some ⟨1, sG⟩))), "g"⟩],
      [⟨some "ByteAddressBufferLoadT", some [.type ⟨1, sG⟩]⟩]⟩ = .ok ∧
    PropertyUse ⟨[⟨.array (.modifier (.object "StructuredBuffer" (some ⟨1, sG⟩))), "g"⟩],
      [⟨some "ByteAddressBufferLoadT", some [.type ⟨1, sG⟩]⟩]⟩ ⟨1, sG⟩ ∧
    wf sG = true := by
  refine ⟨?_, by decide +kernel, ?_, by decide +kernel⟩
  · have key : ∀ x : TyRef, Matched ⟨[⟨.array (.modifier (.object "StructuredBuffer" (some ⟨1, sG⟩))), "g"⟩],
        [⟨some "ByteAddressBufferLoadT", some [.type ⟨1, sG⟩]⟩]⟩ x → x = ⟨1, sG⟩ := by
      intro x hx
      rcases hx with ⟨g, hg, k, hk, _⟩ | ⟨f, hf, i, _, _, ht, _⟩
      · simp only [List.mem_singleton] at hg
        subst hg
        have hp : peel globalPeelOps (.array (.modifier (.object "StructuredBuffer" (some ⟨1, sG⟩)))) =
            .object "StructuredBuffer" (some ⟨1, sG⟩) := rfl
        rw [hp] at hk
        simp only [GTy.object.injEq, Option.some.injEq] at hk
        exact hk.2.symm
      · simp only [List.mem_singleton] at hf
        subst hf
        simp only [Option.some.injEq, List.cons.injEq, TArg.type.injEq, and_true] at ht
        exact ht.symm
    intro r r' h h' _
    rw [key r h, key r' h']
  · exact .buffer _ (List.mem_singleton.2 rfl) "StructuredBuffer" (by decide) rfl rfl

end collection

/-! ## No state between two layout queries

A struct definition that several checked types share (the same `StructId` as a member of two buffer element types,
twice in one type, below an array, ...) is laid out again for every use.  The model has no place for a memory of
earlier queries: `get`, `offsetsMatch`, `checkOne` are functions of the type (and the mode) alone.  That this is also
true of the source is a fact about its text, re-read on every run (`Gen.LayoutPurity`); that the real compiler behaves
like it is tested by the correspondence run on programs whose type table shares definitions (`$k` in `C19.prog`). -/
section context
open RsslVerif.Gen.LayoutPurity RsslVerif.Model.LayoutCollect RsslVerif.Lemmas.LayoutCollect
  RsslVerif.Lemmas.LayoutContext

/-- what a function of `layout_checker.rs` may take: the module (shared reference), a type id, a packing mode -/
def pureParameterTypes : List String := ["&Module", "TypeId", "PackingMode"]

/-- accessors of the module that only read it -/
def readOnlyAccesses : List String :=
  ["enum_registry.get_underlying_type_id", "function_registry.get_function_count", "function_registry.get_intrinsic_data",
   "function_registry.get_template_instantiation_data", "get_type_location()", "global_registry", "struct_registry[]",
   "type_registry.get_type_layer", "type_registry.remove_modifier", "type_registry.get_non_array_id",
   "type_registry.extract_modifier"]

/-- **The layout functions take no mutable state** (tie of `layout_is_context_free` to the source text).
    `get_type_layout` is a function of (module, type id, packing mode), `offsets_match` and `is_dependent_type` of
    (module, type id), `check_layout` of the module; apart from the diagnostic printer (whose `w` is the message
    sink) no function of the file has a parameter of another type, none has a `&mut` parameter; the mutable locals of
    the three layout functions are the accumulators of one call (`layout`, the vector width `x`, the two running
    offsets) and `check_layout`'s are the two collection containers, the peeled global type and the two layouts under
    comparison; closures occur in the printer only; the file mentions no `static`, cell, lock, map or other container
    a cache could live in; it reads the module through read-only accessors only (the type registry keeps its layers
    in a `RefCell`: `get_type_layer` is a plain read of it). -/
theorem layout_functions_are_pure :
    (functions.find? (·.1 == "get_type_layout")).map (·.2.2) =
      some ([("module", "&Module"), ("ty", "TypeId"), ("mode", "PackingMode")], "Option<Layout>") ∧
    (functions.find? (·.1 == "offsets_match")).map (·.2.2) =
      some ([("module", "&Module"), ("ty", "TypeId")], "Option<bool>") ∧
    (functions.find? (·.1 == "is_dependent_type")).map (·.2.2) =
      some ([("module", "&Module"), ("ty", "TypeId")], "bool") ∧
    (functions.find? (·.1 == "check_layout")).map (·.2.2) =
      some ([("module", "&Module")], "Result<(),LayoutError>") ∧
    (functions.all fun f => f.1 == "print" || (f.2.1 == "" && f.2.2.1.all fun p => pureParameterTypes.contains p.2)) = true ∧
    (functions.filter (·.1 != "print")).length + 1 = functions.length ∧
    mutableParameters = [("print", "w")] ∧
    mutableLocals.lookup "get_type_layout" = some ["let mut layout", "pattern mut x"] ∧
    mutableLocals.lookup "offsets_match" = some ["let (mut offset_hlsl, mut offset_metal)"] ∧
    mutableLocals.lookup "is_dependent_type" = some [] ∧
    mutableLocals.lookup "check_layout" =
      some ["let mut layout_hlsl", "let mut layout_metal", "let mut ty", "let mut types_seen", "let mut types_to_check"] ∧
    (functionsWithClosures.all (· == "print")) = true ∧
    stateTokens = [] ∧
    (moduleAccesses.all readOnlyAccesses.contains) = true ∧
    (macros.all ["matches", "panic", "write", "assert", "unreachable"].contains) = true ∧
    typeLayerIsARead = true := by
  decide +kernel

/-- **The layout of a type does not depend on what was laid out before it.**
    (1) In the loop over `types_to_check` the type at any position gets the verdict of the loop body on that type
    alone (`verdictAt`: `mismatch` with the two layouts of *this* type, `unknown`, a panic, or "go on"), whatever
    types were checked (and accepted) before it; (2) a list is accepted iff every type of it passes on its own;
    (3) so neither the order of the checked types, nor checking one twice, nor leaving some out can turn a rejection
    into an acceptance; (4) inside a struct every member type is laid out by the same function of (mode, type) and
    the running layout, wherever the member occurs and whatever the members before it were (the equation of
    `getMembers`), and likewise in `offsets_match`. -/
theorem layout_is_context_free :
    (∀ (pre post : List Ty) (t : Ty), (∀ u ∈ pre, checkOne u = .ok none) →
      checkAll (pre ++ t :: post) = (verdictAt pre.length (checkOne t)).getD (checkFrom (pre.length + 1) post)) ∧
    (∀ ts : List Ty, checkAll ts = .ok ↔ ∀ t ∈ ts, checkOne t = .ok none) ∧
    (∀ ts ts' : List Ty, (∀ t ∈ ts', t ∈ ts) → checkAll ts = .ok → checkAll ts' = .ok) ∧
    (∀ (m : Mode) (t : Ty) (ts : Tys) (acc : Layout),
      getMembers m (.cons t ts) acc =
        match get m t with
        | .error e => .error e
        | .ok ml =>
          match runLay (structMemberOps m) ⟨acc, 0, ml, 0, 0⟩ with
          | .error e => .error e
          | .ok acc' => getMembers m ts acc') ∧
    (∀ (t : Ty) (ts : Tys) (ch cm : Nat),
      offsetsMembers (.cons t ts) ch cm =
        match runOff (get .hlsl t) (get .metal t) (offsetsMatch t) 0 offsetsMemberOps ⟨ch, cm, ⟨0, 0⟩, ⟨0, 0⟩⟩ with
        | .ok (.ret b) => .ok b
        | .ok (.next s) => offsetsMembers ts s.ch s.cm
        | .error e => .error e) := by
  refine ⟨?_, ?_, ?_, ?_, ?_⟩
  · intro pre post t h
    unfold checkAll
    rw [checkFrom_append pre (t :: post) 0 h, checkFrom_cons]
    simp
  · intro ts; exact checkAll_ok_iff
  · intro ts ts' hs h
    exact checkAll_ok_iff.2 fun t ht => checkAll_ok_iff.1 h t (hs t ht)
  · intro m t ts acc
    rw [getMembers]
    cases get m t with
    | error e => rfl
    | ok ml => cases runLay (structMemberOps m) ⟨acc, 0, ml, 0, 0⟩ <;> rfl
  · intro t ts ch cm
    rw [offsetsMembers]
    cases runOff (get .hlsl t) (get .metal t) (offsetsMatch t) 0 offsetsMemberOps ⟨ch, cm, ⟨0, 0⟩, ⟨0, 0⟩⟩ with
    | error e => rfl
    | ok fl => cases fl <;> rfl

/-- **Module level: acceptance does not depend on the order of the declarations.**  If `check_layout` accepts a
    module (with consistent type ids), it accepts every module made of (some of) the same globals and functions in
    any order and multiplicity: which use of a type comes first decides where a diagnostic points, never whether
    there is one. -/
theorem check_layout_order_free (m m' : Module) (hc : Consistent m)
    (hg : ∀ g ∈ m'.globals, g ∈ m.globals) (hf : ∀ f ∈ m'.fns, f ∈ m.fns) (h : checkLayout m = .ok) :
    checkLayout m' = .ok := by
  unfold checkLayout at h
  split at h
  · rename_i l hl
    have hbad := (collect_ok_iff m).1 ⟨l, hl⟩
    obtain ⟨l', hl'⟩ := (collect_ok_iff m').2 fun f hf' => hbad f (hf f hf')
    unfold checkLayout
    rw [hl']
    refine checkAll_ok_iff.2 fun t ht => ?_
    obtain ⟨e', he', rfl⟩ := List.mem_map.1 ht
    -- the entry stems from a global / function of m', i.e. of m, so m checked its type as well
    have hm' : Matched m e'.ref := by
      rcases collect_origin m' l' hl' e' he' with ⟨g, hg', hh⟩ | ⟨f, hf', hh⟩
      · exact Or.inl ⟨g, hg g hg', hh⟩
      · exact Or.inr ⟨f, hf f hf', hh⟩
    exact checkAll_ok_iff.1 h _ (matched_checked hc hl hm')
  · cases h
  · cases h

/-- **Only the matched sites matter.**  For every module: dropping every global that is not — below its
    `Modifier` / `Array` layers — an object of a matched kind with an element type, and every function that is not a
    matched typed load / store intrinsic with template instantiation data, changes neither `types_to_check` (entries,
    order, locations) nor the verdict nor whether the collection panics.  So resources of any other kind (`Buffer<T>`,
    textures, samplers, raw buffers, `ConstantBuffer<T>`), plain / static / groupshared variables, local variables,
    non-templated intrinsics, user functions and function template instances — in any number, anywhere between the
    matched ones — are never looked at and can neither hide nor cause a diagnostic. -/
theorem unmatched_sites_ignored (m : Module) :
    collect ⟨m.globals.filter Lemmas.LayoutIgnored.globalMatters, m.fns.filter Lemmas.LayoutIgnored.fnMatters⟩ = collect m ∧
    checkLayout ⟨m.globals.filter Lemmas.LayoutIgnored.globalMatters, m.fns.filter Lemmas.LayoutIgnored.fnMatters⟩
      = checkLayout m := by
  have h := Lemmas.LayoutIgnored.collect_filter m
  refine ⟨h, ?_⟩
  unfold checkLayout
  rw [h]

/-- non-vacuity: the `decoy` globals and functions of the correspondence run (a `Buffer`, a texture, a `ConstantBuffer`
    of the differing struct, a plain variable, an untyped raw-buffer load, a user function template instance) do not
    matter, a structured buffer (static: no modifier; extern: const) and a typed store do; with or without the decoys the
    module is rejected at the same entry with the same numbers -/
example :
    let decoysG : List Global := [⟨.modifier (.object "Buffer" none), "d0"⟩, ⟨.modifier (.object "Texture2D" none), "d1"⟩,
      ⟨.modifier (.object "ConstantBuffer" (some ⟨0, sF⟩)), "d2"⟩, ⟨.other, "d3"⟩, ⟨.array .other, "d4"⟩]
    let decoysF : List Fn := [⟨some "ByteAddressBufferLoad3", none⟩, ⟨none, some [.type ⟨0, sF⟩]⟩, ⟨none, none⟩,
      ⟨some "RWByteAddressBufferStore", none⟩]
    let sb : Global := ⟨.object "StructuredBuffer" (some ⟨1, sG⟩), "g"⟩
    let st : Fn := ⟨some "RWByteAddressBufferStore", some [.type ⟨0, sF⟩]⟩
    decoysG.all (fun g => !Lemmas.LayoutIgnored.globalMatters g) = true ∧
    decoysF.all (fun f => !Lemmas.LayoutIgnored.fnMatters f) = true ∧
    Lemmas.LayoutIgnored.globalMatters sb = true ∧ Lemmas.LayoutIgnored.fnMatters st = true ∧
    checkLayout ⟨decoysG ++ [sb] ++ decoysG, decoysF ++ [st] ++ decoysF⟩ = .mismatch 1 ⟨12, 4⟩ ⟨16, 8⟩ ∧
    checkLayout ⟨[sb], [st]⟩ = .mismatch 1 ⟨12, 4⟩ ⟨16, 8⟩ ∧
    checkLayout ⟨decoysG, decoysF⟩ = .ok := by
  decide +kernel

private def sE : Ty := .struct .nil
private def sA : Ty := .struct (Tys.ofList [.scalar .Float16, sE, .scalar .Float32])
private def sB : Ty := .struct (Tys.ofList [.scalar .UInt32, sE, .scalar .UInt32])

/-- non-vacuity (the shape of seeded mutant C19-3): `struct E {}; struct A { half h; E e; float f; };
    struct B { uint x; E e; uint y; };` — `A` is accepted (the Metal byte of `E` sits in padding both rule sets
    have), `B` is rejected with 8 vs 12 bytes after `A` just as on its own and as before `A`; both uses of `E` in
    one struct: 16 vs 20; the module with the two buffers in either order is rejected at `B`'s buffer. -/
example :
    checkAll [sA] = .ok ∧ checkAll [sB] = .mismatch 0 ⟨8, 4⟩ ⟨12, 4⟩ ∧
    checkAll [sA, sB] = .mismatch 1 ⟨8, 4⟩ ⟨12, 4⟩ ∧ checkAll [sB, sA] = .mismatch 0 ⟨8, 4⟩ ⟨12, 4⟩ ∧
    checkAll [.struct (Tys.ofList [.scalar .Float16, sE, .scalar .Float32, .scalar .UInt32, sE, .scalar .UInt32])]
      = .mismatch 0 ⟨16, 4⟩ ⟨20, 4⟩ ∧
    checkLayout ⟨[⟨.modifier (.object "StructuredBuffer" (some ⟨1, sA⟩)), "G0"⟩,
                  ⟨.modifier (.object "StructuredBuffer" (some ⟨2, sB⟩)), "G1"⟩], []⟩ = .mismatch 1 ⟨8, 4⟩ ⟨12, 4⟩ ∧
    checkLayout ⟨[⟨.modifier (.object "StructuredBuffer" (some ⟨2, sB⟩)), "G0"⟩,
                  ⟨.modifier (.object "StructuredBuffer" (some ⟨1, sA⟩)), "G1"⟩], []⟩ = .mismatch 0 ⟨8, 4⟩ ⟨12, 4⟩ ∧
    wf sA = true ∧ wf sB = true := by
  decide +kernel

/-- non-vacuity of `check_layout_order_free`: an accepted module with two uses, and the same uses in the other
    order -/
example :
    checkLayout ⟨[⟨.modifier (.object "StructuredBuffer" (some ⟨1, sA⟩)), "G0"⟩],
      [⟨some "ByteAddressBufferLoadT", some [.type ⟨3, sG⟩]⟩]⟩ = .ok ∧
    checkLayout ⟨[⟨.modifier (.object "StructuredBuffer" (some ⟨1, sA⟩)), "G0"⟩,
                  ⟨.modifier (.object "StructuredBuffer" (some ⟨1, sA⟩)), "G1"⟩],
      [⟨some "ByteAddressBufferLoadT", some [.type ⟨3, sG⟩]⟩, ⟨some "ByteAddressBufferLoadT", some [.type ⟨3, sG⟩]⟩]⟩ = .ok := by
  decide +kernel

end context

/-! ## The full type universe: `bool`, matrices (all scalars, 1–4 rows and columns, `row_major` /
    `column_major`), next to everything of the grid, nested to any depth -/
section full
open RsslVerif.Spec.LayoutFull RsslVerif.Lemmas.LayoutFull

/-- **Soundness over the full universe.**  If `check_layout` accepts, every listed type for which both rule
    sets define a layout (`xwf`: also `bool`, `boolN`, `half`/`float` matrices, empty structs) has the same total size and the
    same byte offset of every field, recursively, under the full reference calculators. -/
theorem check_sound_full (ts : List XTy) (h : checkAll (ts.map erase) = .ok) (t : XTy) (ht : t ∈ ts)
    (hw : xwf t = true) :
    ∃ rh rm, xhlslSB t = some rh ∧ xmetal t = some rm ∧ rh.size = rm.size ∧ rh.fields = rm.fields := by
  have hc := Lemmas.LayoutContext.checkAll_ok_iff.1 h (erase t) (List.mem_map_of_mem ht)
  cases hp : plain t with
  | false => exact absurd hc (checkOne_opaque t hp _)
  | true =>
    obtain ⟨w, hs, hf, _⟩ := coincide t hp hw
    have ha : Agree (erase t) := checkOne_spec w hc
    refine ⟨⟨xsize .hlsl t, xalign .hlsl t, xfieldsAt .hlsl t 0⟩, ⟨xsize .metal t, xalign .metal t, xfieldsAt .metal t 0⟩,
      by simp only [xhlslSB, xref, hw, if_true], by simp only [xmetal, xref, hw, if_true], ?_, ?_⟩
    · show xsize .hlsl t = xsize .metal t
      rw [(hs .hlsl).1, (hs .metal).1]; exact ha.1
    · show xfieldsAt .hlsl t 0 = xfieldsAt .metal t 0
      rw [hf .hlsl 0, hf .metal 0]; exact agree_fields _ ha.2 0

/-- **Reported sizes over the full universe.** -/
theorem reported_sizes_true_full (ts : List XTy) (i : Nat) (lh lm : Layout)
    (h : checkAll (ts.map erase) = .mismatch i lh lm) :
    ∃ t, ts[i]? = some t ∧ (xwf t = true →
      xhlslSB t = some ⟨lh.size, lh.align, xfieldsAt .hlsl t 0⟩ ∧
      xmetal t = some ⟨lm.size, lm.align, xfieldsAt .metal t 0⟩) := by
  obtain ⟨u, hu, hc⟩ := Lemmas.LayoutContext.checkAll_mismatch h
  rw [List.getElem?_map, Option.map_eq_some_iff] at hu
  obtain ⟨t, ht, rfl⟩ := hu
  refine ⟨t, ht, fun hw => ?_⟩
  cases hp : plain t with
  | false => exact absurd hc (checkOne_opaque t hp _)
  | true =>
    obtain ⟨w, hs, hf, _⟩ := coincide t hp hw
    obtain ⟨_, rfl, rfl⟩ := checkOne_spec w hc
    exact ⟨by simp only [xhlslSB, xref, hw, if_true, (hs .hlsl).1, (hs .hlsl).2],
      by simp only [xmetal, xref, hw, if_true, (hs .metal).1, (hs .metal).2]⟩

/-- **No panic over the full universe**: also with `bool`, matrices and empty structs inside. -/
theorem check_never_panics_full (ts : List XTy) (hw : ∀ t ∈ ts, xwf t = true) (msg : String) :
    checkAll (ts.map erase) ≠ .panic msg := by
  intro h
  obtain ⟨u, hu, hc⟩ := Lemmas.LayoutContext.checkAll_panic h
  obtain ⟨t, ht, rfl⟩ := List.mem_map.1 hu
  exact checkOne_noPanic_full t (hw t ht) msg hc

/-- **What `get_type_layout` cannot handle is never silently accepted**: a type that mentions a `bool` or a
    matrix anywhere is neither accepted nor reported with sizes; when both rule sets have a layout for it the
    verdict is exactly "unknown size" (`no_layout_is_unknown`). -/
theorem no_layout_no_verdict (t : XTy) (hp : plain t = false) :
    checkAll [erase t] ≠ .ok ∧ ∀ i lh lm, checkAll [erase t] ≠ .mismatch i lh lm := by
  have hn := checkOne_opaque t hp
  constructor
  · intro h
    exact hn _ (Lemmas.LayoutContext.checkAll_ok_iff.1 h (erase t) (List.mem_singleton.2 rfl))
  · intro i lh lm h
    obtain ⟨u, hu, hc⟩ := Lemmas.LayoutContext.checkAll_mismatch h
    obtain rfl := List.mem_singleton.1 (List.mem_of_getElem? hu)
    exact hn _ hc

/-- a type with a `bool` or a matrix in it for which both rule sets define a layout gets "unknown size" (no earlier
    member can panic first: /repo 24ea36f) -/
theorem no_layout_is_unknown (t : XTy) (hw : xwf t = true) (hp : plain t = false) :
    checkAll [erase t] = .unknown 0 := by
  simp only [checkAll, checkFrom, checkOne_opaque_unknown t hw hp]

/-- **Completeness, partial.**  Types without `bool` and matrices that have the same total size and the same
    byte offset of every field under both rule sets (sizes ≤ u32::MAX) are all accepted.
    *Missing for the full statement:* a type that mentions a `bool` or a matrix is rejected ("unknown size") even
    when its two layouts agree — `complete_fails_beyond_plain` gives `{float4x4}` and `{bool; int}`. -/
theorem check_complete_partial (ts : List XTy)
    (h : ∀ t ∈ ts, xwf t = true ∧ plain t = true ∧ xsize .hlsl t ≤ u32Max ∧ xsize .metal t ≤ u32Max ∧
      xsize .hlsl t = xsize .metal t ∧ xfieldsAt .hlsl t 0 = xfieldsAt .metal t 0) :
    checkAll (ts.map erase) = .ok := by
  apply check_complete_fields
  intro u hu
  obtain ⟨t, ht, rfl⟩ := List.mem_map.1 hu
  obtain ⟨hw, hp, hh, hm, hs, hf⟩ := h t ht
  obtain ⟨w, hsz, hfl, _⟩ := coincide t hp hw
  refine ⟨w, by rw [← (hsz .hlsl).1]; exact hh, by rw [← (hsz .metal).1]; exact hm, ?_, ?_⟩
  · rw [← (hsz .hlsl).1, ← (hsz .metal).1]; exact hs
  · rw [← hfl .hlsl 0, ← hfl .metal 0]; exact hf

private def xf : XTy := .scalar .Float32
private def XS (l : List XTy) : XTy := .struct (XTys.ofList l)

/-- the full completeness statement is false: these two have identical layouts under both rule sets and are
    rejected with "unknown size" -/
theorem complete_fails_beyond_plain :
    (xwf (XS [.mat .Float32 4 4 .none]) = true ∧
      xsize .hlsl (XS [.mat .Float32 4 4 .none]) = xsize .metal (XS [.mat .Float32 4 4 .none]) ∧
      xfieldsAt .hlsl (XS [.mat .Float32 4 4 .none]) 0 = xfieldsAt .metal (XS [.mat .Float32 4 4 .none]) 0 ∧
      checkAll [erase (XS [.mat .Float32 4 4 .none])] = .unknown 0) ∧
    (xwf (XS [.scalar .Bool, .scalar .Int32]) = true ∧
      xsize .hlsl (XS [.scalar .Bool, .scalar .Int32]) = xsize .metal (XS [.scalar .Bool, .scalar .Int32]) ∧
      xfieldsAt .hlsl (XS [.scalar .Bool, .scalar .Int32]) 0 = xfieldsAt .metal (XS [.scalar .Bool, .scalar .Int32]) 0 ∧
      checkAll [erase (XS [.scalar .Bool, .scalar .Int32])] = .unknown 0) := by
  decide +kernel

/-- an empty struct has its Metal byte (/repo d25724e): `struct E {}; struct S { E e; float a; }` — `a` at offset 0 (size 4) under HLSL packing, at offset 4
    (size 8) in Metal — is inside `xwf` and rejected with exactly these sizes; `{half; E; float}` has the same
    offsets [0, 2, 4] and size 8 under both rule sets and is accepted; an empty struct on its own is 0 vs 1 byte. -/
example :
    xwf (XS [XS [], xf]) = true ∧
    xsize .hlsl (XS [XS [], xf]) = 4 ∧ xsize .metal (XS [XS [], xf]) = 8 ∧
    xfieldsAt .hlsl (XS [XS [], xf]) 0 = [0, 0] ∧ xfieldsAt .metal (XS [XS [], xf]) 0 = [0, 4] ∧
    checkAll [erase (XS [XS [], xf])] = .mismatch 0 ⟨4, 4⟩ ⟨8, 4⟩ ∧
    xwf (XS [.scalar .Float16, XS [], xf]) = true ∧
    xfieldsAt .hlsl (XS [.scalar .Float16, XS [], xf]) 0 = [0, 2, 4] ∧
    xfieldsAt .metal (XS [.scalar .Float16, XS [], xf]) 0 = [0, 2, 4] ∧
    checkAll [erase (XS [.scalar .Float16, XS [], xf])] = .ok ∧
    checkAll [erase (XS [])] = .mismatch 0 ⟨0, 1⟩ ⟨1, 1⟩ ∧
    checkAll [erase (XS [.scalar .Float16, .arr (XS []) 2, xf])] = .mismatch 0 ⟨8, 4⟩ ⟨8, 4⟩ := by
  decide +kernel

/-- non-vacuity: types of the widened universe that satisfy `xwf`; a `bool`/matrix-free one among them is
    accepted, the others get "unknown size"; a depth-5 nest is handled -/
example :
    xwf (XS [.vec .Bool 3, .mat .Float16 3 2 .row, .arr (.arr (.arr xf 2) 3) 4, .enum .UInt32]) = true ∧
    checkAll [erase (XS [.vec .Bool 3, xf])] = .unknown 0 ∧
    checkAll [erase (XS [xf, .mat .Float64 2 2 .column])] = .unknown 0 ∧
    checkAll [erase (XS [.arr (.arr (.arr xf 2) 3) 4, .vec .Float32 2])] = .ok ∧
    checkAll [erase (XS [XS [XS [XS [XS [.vec .Float32 2, xf]], xf]], xf])] = .mismatch 0 ⟨20, 4⟩ ⟨32, 8⟩ := by
  decide +kernel

end full

private def f : Ty := .scalar .Float32
private def h : Ty := .scalar .Float16
private def d : Ty := .scalar .Float64
private def f2 : Ty := .vec .Float32 2
private def f4 : Ty := .vec .Float32 4
private def S (l : List Ty) : Ty := .struct (Tys.ofList l)

/-- a depth-3 type with arrays, vectors, an enum and nested structs is accepted -/
private def deep : Ty :=
  S [f4, S [f2, f2, S [.vec .Float64 2, d, .enum .Int32, f, f2, d]], .arr f4 3, .arr (S [d, d]) 2, d, d]

example : wf deep = true ∧ checkAll [S [h, h], deep] = .ok := by decide +kernel

/-- accepted although the member sizes differ: `{half3; float; float}` (half3 is 6 vs 8 bytes) -/
example : checkAll [S [.vec .Float16 3, f, f]] = .ok := by decide +kernel

/-- differing layouts that /repo 0414772 made the checker reject, with the true sizes -/
example : checkAll [S [S [f2, f], f]] = .mismatch 0 ⟨16, 4⟩ ⟨24, 8⟩ := by decide +kernel
example : checkAll [S [h, .vec .Float16 2, f]] = .mismatch 0 ⟨12, 4⟩ ⟨12, 4⟩ := by decide +kernel
example : checkAll [S [.arr (S [f2, f]) 2]] = .mismatch 0 ⟨24, 4⟩ ⟨32, 8⟩ := by decide +kernel
example : checkAll [S [S [f2, f], f, .vec .Float32 3]] = .mismatch 0 ⟨28, 4⟩ ⟨48, 16⟩ := by decide +kernel
/-- agreeing layouts with different member sizes are accepted (/repo 0414772) -/
example : checkAll [S [.arr (S [f2, .vec .Float16 3]) 4]] = .ok := by decide +kernel

end RsslVerif.Thm.C19
