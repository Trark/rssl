import RsslVerif.Thm.C05
import RsslVerif.Lemmas.MetaLayers
/-!
# C05, type spellings: descriptor type and count are read off the global's layer chain

Continuation of `Thm/C05.lean` (same namespace).  A global's type is a chain of layers
`[array n]* modifier ([array n]+ modifier?)* object` — the declarator's array layers, the implicit `const` of an extern
global, then whatever the typedef chain it is declared through contributed.  The theorems are about the peel sequences
re-extracted from the source (`Gen.MetaTables.{hlslPeel, mslPeel, allocPeel, bufferAddressTestPeel}`): when a peel is
re-ordered the proofs below stop checking.
-/
namespace RsslVerif.Thm.C05
open RsslVerif.Gen.SlotTables RsslVerif.Gen.MetaTables RsslVerif.Gen.CompileTables
open RsslVerif.Model.Slots RsslVerif.Model.Meta RsslVerif.Spec.Meta RsslVerif.Lemmas.Meta RsslVerif.Lemmas.MetaLayers
open RsslVerif.Lemmas.Slots (ParamsOk paramsFor_ok)

/-- the facts next to the peel sequences: the count is the length of the array layer taken (`Some(1)` without one), the
    allocator's `array_len` likewise (`unwrap_or(1)`), the allocator asks `is_buffer_address` about the declared type;
    the type registry refuses a modifier around a modifier; an extern global is made const; a typedef names the type id
    its declarator built; a declarator wraps its array layers around the base type -/
theorem peel_facts_as_modelled : peelFacts = ⟨true, true, true, true, true, true, true, true⟩ := rfl

/-- **Both `analyse_bindings` read every well-formed layer chain the way the property means it** (`Spec/MetaLayers`):
    the kind is the innermost object when at most one array layer is around it, the array layer is the outermost one —
    wherever modifier layers sit: `Texture2D g[3]` (array of const object), `typedef Texture2D T[3]; T g;` (const array of
    object), `typedef const Texture2D C; typedef C T[3]; T g;` (const array of const object) are the same binding. -/
theorem peels_read_layers : ReadsLayers hlslPeel ∧ ReadsLayers mslPeel :=
  ⟨reads_layers_of_mod_array_mod, reads_layers_of_mod_array_mod⟩

/-- **reflection_peel_agrees_with_allocator_peel.**  For every declaration and every layer chain (well-formed or not):
    what `process_definition` sees through *its* peel is what `MDecl.toSlot` computes from what `analyse_bindings` sees
    through its own — same object kind, same array length, except that the allocator does not take an unsized array
    layer; and the two exporters' peels see the same thing.  (The existing module-level theorems are stated over
    `MDecl.toSlot`: this is what makes them theorems about the allocator's real input.) -/
theorem reflection_peel_agrees_with_allocator_peel (d : TDecl) :
    (d.toMeta hlslPeel).toSlot = d.toSlot allocPeel ∧ (d.toMeta mslPeel).toSlot = d.toSlot allocPeel ∧
    d.toMeta mslPeel = d.toMeta hlslPeel :=
  ⟨toSlot_agree d, toSlot_agree d, rfl⟩

/-- **descriptor_kind_count_from_layers.**  For a global whose type is any well-formed layer chain `t`, the entry either
    exporter registers carries the descriptor type of `specKind t` (the innermost object under at most one array layer;
    `PushConstants` when there is none) and the count `specCount t` (length of the outermost array layer, 1 without);
    and what `process_definition` gives binding slots to is the same object kind over the same array length (nothing for
    an unsized array — the recorded finding). -/
theorem descriptor_kind_count_from_layers {n : String} {s : Option Nat} {ss bl : Bool} {t : Ty} {st : Storage}
    (hwf : Ty.wf t = true) :
    (∀ {b : Binding} {g : Nat} {e : Entry},
      hlslEvent ((TDecl.global n s ss t bl st).toMeta hlslPeel) (some b) = .ok (some (g, e)) →
        descOf hlslDescType hlslNonObjectDescType (specKind t) = .ok e.descType ∧ e.count = specCount t) ∧
    (∀ {u : Bool} {b : Binding} {g : Nat} {e : Entry},
      mslEvent u ((TDecl.global n s ss t bl st).toMeta mslPeel) (some b) = .ok (some (g, e)) →
        descOf mslDescType mslNonObjectDescType (specKind t) = .ok e.descType ∧ e.count = specCount t) ∧
    (TDecl.global n s ss t bl .extern).toSlot allocPeel = .global s ss (specAllocKind t) (specAllocLen t) := by
  obtain ⟨hk, ha⟩ := peels_read_layers.1 t hwf
  obtain ⟨mk, ma⟩ := peels_read_layers.2 t hwf
  refine ⟨?_, ?_, ?_⟩
  · intro b g e h
    obtain ⟨t1, c1⟩ := hlslEvent_global h
    rw [hk] at t1
    rw [ha] at c1
    exact ⟨t1, c1.trans (countOf_specArr t)⟩
  · intro u b g e h
    obtain ⟨t1, c1⟩ := mslEvent_global h
    rw [mk] at t1
    rw [ma] at c1
    exact ⟨t1, c1.trans (countOf_specArr t)⟩
  · rw [← (reflection_peel_agrees_with_allocator_peel _).1]
    simp only [TDecl.toMeta, hk, ha, MDecl.toSlot, specArr, specAllocKind, specAllocLen]
    cases hdm : Ty.dims t with
    | nil => simp
    | cons d r => cases d <;> simp

/-- `TypeRegistry::is_buffer_address(decl.type_id)` — its own one-step peel — holds exactly when the allocator's full
    peel ends at a buffer address kind without having taken an array: the test `isBufferAddress k && len.isNone` of
    C06's `Model.Slots.step` is the real one, for every layer chain -/
theorem buffer_address_test_agrees_with_allocator_peel (t : Ty) :
    isBufferAddressTy t =
      (match (runPeel allocPeel t).kind with
       | some k => isBufferAddress k && !(runPeel allocPeel t).took
       | none => false) :=
  buffer_address_test t

/-- **What the typer builds.**  A global declared as `[const] X g<dims>` where `X` is reached from an object type `k`
    through any chain of `typedef [const] .. X[n]?` has a well-formed chain whose innermost layer is `k` and whose array
    layers are the declarator's followed by the typedefs' (last typedef outermost).  So by
    `descriptor_kind_count_from_layers` its binding is `k` when all spellings together contribute at most one array
    dimension, and its count is the first of them. -/
theorem spelling_kind_count (k : ObjKind) (steps : List TypedefStep) (constKw : Bool) (st : Storage)
    (ds : List (Option Nat)) :
    Ty.wf (globalTy (.object k) steps constKw st ds) = true ∧
    specKind (globalTy (.object k) steps constKw st ds) =
      (if (ds ++ (steps.reverse.filterMap (·.dim)).map some).length ≤ 1 then some k else none) ∧
    specCount (globalTy (.object k) steps constKw st ds) =
      (match ds ++ (steps.reverse.filterMap (·.dim)).map some with | [] => some 1 | d :: _ => d) := by
  obtain ⟨hw, hb, hd⟩ := globalTy_shape k steps constKw st ds
  refine ⟨hw, ?_, ?_⟩
  · unfold specKind; rw [hd, hb]
  · unfold specCount; rw [hd]
    generalize ds ++ (steps.reverse.filterMap (·.dim)).map some = l
    cases l <;> rfl

/-- the typed builders (which peel with the three extracted sequences) are the builders of `Model/Meta` on the peeled
    declarations: every module-level theorem of this file applies to typed modules -/
theorem typed_metadata_is_peeled_metadata (p : Params) (dflt : Nat) (usedAt : Nat → Bool) (hasPipeline : Bool)
    (ds : List TDecl) :
    hlslMetaT p dflt ds = hlslMeta p dflt (ds.map (TDecl.toMeta hlslPeel)) ∧
    mslMetaT p dflt usedAt ds = mslMeta p dflt usedAt (ds.map (TDecl.toMeta mslPeel)) ∧
    mslExportT p dflt usedAt hasPipeline ds = mslExport p dflt usedAt hasPipeline (ds.map (TDecl.toMeta mslPeel)) := by
  have h : (ds.map (TDecl.toMeta hlslPeel)).map MDecl.toSlot = ds.map (TDecl.toSlot allocPeel) := by
    rw [List.map_map]
    exact List.map_congr_left fun d _ => (reflection_peel_agrees_with_allocator_peel d).1
  refine ⟨?_, ?_, ?_⟩
  · unfold hlslMetaT hlslMeta; rw [h]; rfl
  · unfold mslMetaT mslMeta; rw [show mslPeel = hlslPeel from rfl, h]; rfl
  · unfold mslExportT mslExport mslMetaT mslMeta; rw [show mslPeel = hlslPeel from rfl, h]; rfl

/-- HLSL, typed module: per bind group the entry names are the externally bound declarations (as the allocator's own
    peel decides them), in order -/
theorem meta_bijective_hlsl_typed {p : Params} (hp : ParamsOk p) {dflt : Nat} {ds : List TDecl} {groups : List Group}
    (h : hlslMetaT p dflt ds = .ok groups) (g : Nat) :
    (bindingsAt groups g).map (·.name) = boundNames p dflt g (ds.map (TDecl.toMeta hlslPeel)) := by
  rw [(typed_metadata_is_peeled_metadata p dflt (fun _ => false) false ds).1] at h
  exact meta_bijective_hlsl hp h g

/-- every typed module, both exporters: a description or one of the clean refusals -/
theorem typed_export_total_or_refused {p : Params} (hp : ParamsOk p) (hsba : p.supportBufferAddress = false) (dflt : Nat)
    (usedAt : Nat → Bool) (hasPipeline : Bool) (ds : List TDecl) :
    ((∃ groups, hlslMetaT p dflt ds = .ok groups) ∨ hlslMetaT p dflt ds = .error "UnsupportedObjectType") ∧
    ((∃ groups, mslExportT p dflt usedAt hasPipeline ds = .ok groups) ∨
      mslExportT p dflt usedAt hasPipeline ds = .error "UnsupportedObjectType" ∨
      mslExportT p dflt usedAt hasPipeline ds = .error "UnsupportedBindGroupIndex" ∨
      mslExportT p dflt usedAt hasPipeline ds = .error "UnboundGlobal") := by
  obtain ⟨h1, _, h3⟩ := typed_metadata_is_peeled_metadata p dflt usedAt hasPipeline ds
  rw [h1, h3]
  exact ⟨hlsl_metadata_total_or_refused hp dflt _, msl_export_total_or_refused hsba dflt usedAt hasPipeline _⟩

/-- the seeded shape `typedef Texture2D<float4> TextureTable[3]; TextureTable g_table;` = const array of object -/
def typedefTable : Ty := globalTy (.object .Texture2D) [⟨false, some 3⟩] false .extern []

example : typedefTable = .modifier (.array (.object .Texture2D) (some 3)) := by decide +kernel
example : Ty.wf typedefTable = true ∧ specKind typedefTable = some .Texture2D ∧ specCount typedefTable = some 3 := by decide +kernel
example : hlslEvent ((TDecl.global "g_table" none false typedefTable false .extern).toMeta hlslPeel) (some ⟨0, .index 0, some .T⟩) =
    .ok (some (0, ⟨"g_table", .index 0, .Texture2d, some 3, false, true, false⟩)) := by rfl

/-- `typedef const Texture2D<float4> C; typedef C A[2]; A g[4];` — array of const array of const object: two array layers,
    no binding (the recorded 2-D finding), count of the outer layer -/
example : globalTy (.object .Texture2D) [⟨true, none⟩, ⟨false, some 2⟩] false .extern [some 4] =
      .array (.modifier (.array (.modifier (.object .Texture2D)) (some 2))) (some 4) ∧
    specKind (globalTy (.object .Texture2D) [⟨true, none⟩, ⟨false, some 2⟩] false .extern [some 4]) = none := by decide +kernel

/-- **Sensitivity witness: the order matters.**  A peel that takes the array layer first and removes one modifier
    afterwards (seeded mutant C05-3) reads the typedef'd table as a non-object with count 1, while it agrees with the real
    order on `Texture2D g[3]` and on `typedef Texture2D T; T g;` -/
theorem array_first_peel_misreads_typedef_arrays_witness :
    let bad : List PeelOp := [.takeArray false, .removeModifier]
    ((runPeel bad typedefTable).kind, (runPeel bad typedefTable).arr) = (none, Arr.no) ∧
    ((runPeel hlslPeel typedefTable).kind, (runPeel hlslPeel typedefTable).arr) = (some .Texture2D, Arr.sized 3) ∧
    runPeel bad (globalTy (.object .Texture2D) [] false .extern [some 3]) =
      runPeel hlslPeel (globalTy (.object .Texture2D) [] false .extern [some 3]) ∧
    runPeel bad (globalTy (.object .Texture2D) [⟨false, none⟩] false .extern []) =
      runPeel hlslPeel (globalTy (.object .Texture2D) [⟨false, none⟩] false .extern []) := by decide +kernel

/-- without the registry's invariant the peels do not read a chain: a modifier around a modifier hides the object -/
example : Ty.wf (.modifier (.modifier (.object .Texture2D))) = false ∧
    (runPeel hlslPeel (.modifier (.modifier (.object .Texture2D)))).kind = none := by decide +kernel

/-- buffer addresses: `typedef BufferAddress BA; BA g;` is an inline constant candidate, `typedef BufferAddress A[2]; A g;`
    and `BA g[2];` are not -/
example : isBufferAddressTy (globalTy (.object .BufferAddress) [⟨false, none⟩] false .extern []) = true ∧
    isBufferAddressTy (globalTy (.object .BufferAddress) [⟨false, some 2⟩] false .extern []) = false ∧
    isBufferAddressTy (globalTy (.object .BufferAddress) [⟨false, none⟩] false .extern [some 2]) = false := by decide +kernel

/-- a typed module through both typed builders -/
def exampleTyped : List TDecl :=
  [ .cbuffer "g_cb" none, .global "g_table" none false typedefTable false .extern,
    .global "g_c" none false (globalTy (.object .StructuredBuffer) [⟨true, none⟩] false .extern [some 2]) false .extern,
    .global "g_s" none false (globalTy (.object .Texture2D) [] false .static []) false .static ]

example : ((hlslMetaT (paramsFor .HlslForDirectX false) 0 exampleTyped).toOption.map
      (·.map fun g => g.bindings.map fun e => (e.name, e.loc, e.descType, e.count))) =
    some [[("g_cb", .index 0, .ConstantBuffer, some 1), ("g_table", .index 1, .Texture2d, some 3),
           ("g_c", .index 4, .StructuredBuffer, some 2)]] := by rfl

example : ((mslExportT (paramsFor .Msl false) 0 (fun _ => true) true exampleTyped).toOption.map
      (·.map fun g => g.bindings.map fun e => (e.name, e.loc, e.count))) =
    some [[("g_cb", .index 0, some 1), ("g_table", .index 1, some 3), ("g_c", .index 4, some 2)]] := by decide +kernel

end RsslVerif.Thm.C05
