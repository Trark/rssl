import RsslVerif.Spec.Roundtrip
import RsslVerif.Lemmas.FmtParseTables
import RsslVerif.Lemmas.RoundtripThm
import RsslVerif.Gen.SyntaxTables
/-!
# C09, expressions of `Model/Format` / `Model/Parse`

The tables the printer and the parser share (`Gen.FmtTables`, `Gen.ParseTables`), level consistency, and the round trip
of the expression grammar.  `Thm/C09.lean` continues with the full expression language, statements, definitions and the
text of literals; `Thm/C04.lean` needs only this part.
-/
set_option linter.unusedSimpArgs false
namespace RsslVerif.Thm.C09
open RsslVerif.Gen.FmtTables RsslVerif.Gen.ParseTables RsslVerif.Model.Format RsslVerif.Model.Parse
open RsslVerif.Lemmas.FmtParseTables RsslVerif.Lemmas.Roundtrip RsslVerif.Spec.Roundtrip

/-- Spelling ↔ tokens: lexing the characters `format_bin_op` prints (followed by the space the formatter
always prints) with the lexer's own symbol tables gives exactly the token list the model uses. -/
theorem binToks_lexes : ∀ op : BinOp, lexSyms 8 (binSpellChars op ++ [' ']) = some (binToks op) := by
  intro op; cases op <;> decide

/-- Same for `format_unary_op`, whatever non-operator character follows. -/
theorem unTok_lexes : ∀ op : UnOp, lexSyms 8 (unSpellChars op) = some [unTok op] := by
  intro op; cases op <;> decide

/-- Levels. For every binary operator: the parser loop of the level that corresponds to
its formatter precedence reads the printed tokens as that operator, and no tighter-binding loop takes them.
(`rest` = the operand that follows; `TermOk` = the terminators under which the parser accepts the operator at all.) -/
theorem tables_agree (op : BinOp) (term : Terminator) (rest : List Tok)
    (hr : OperandStart rest) (ht : TermOk op term) :
    parseOpAt (levelOfPrec (binPrec op)) term (binToks op ++ rest) = some (op, rest) ∧
    ∀ k, k < levelOfPrec (binPrec op) → parseOpAt k term (binToks op ++ rest) = none :=
  ⟨parseOpAt_own op term rest hr ht, parseOpAt_lower op term rest⟩

/-- Associativity. The formatter calls a precedence left-to-right exactly when the parser
level is one of the left-associative loops, and right-to-left exactly when it is the assignment level. -/
theorem assoc_agrees : ∀ op : BinOp,
    (assoc (binPrec op) = .LeftToRight ↔ leftAssocLevels.contains (levelOfPrec (binPrec op)) = true) ∧
    (assoc (binPrec op) = .RightToLeft ↔ levelOfPrec (binPrec op) = assignLevel) := by
  intro op; cases op <;> decide

/-- the conditional has the assignment precedence in the formatter and its own, tighter level in the parser -/
theorem ternary_level : precTernaryConditional = 16 ∧ assoc precTernaryConditional = .RightToLeft ∧
    ternaryLevel < assignLevel := by decide

/-- prefix operators: the parser's `unaryop_prefix` reads the printed token as the operator;
postfix operators print the tokens the postfix loop of `expr_p1` tests for. -/
theorem unary_tables_agree : ∀ op : UnOp,
    (isPostfix op = false → prefixOp (unTok op) = some op ∧ unPrec op = 3) ∧
    (isPostfix op = true → unPrec op = 2 ∧
      ((op = .PostfixIncrement ∧ unTok op = .p .PlusPlus) ∨ (op = .PostfixDecrement ∧ unTok op = .p .MinusMinus))) := by
  intro op; cases op <;> decide

/-- Operator characters, part 1: a prefix operator directly followed by an operand that starts
with another prefix operator. The formatter separates exactly the pairs the lexer would merge into another token. -/
theorem glue_prefix_prefix : ∀ a b : UnOp, isPostfix a = false → isPostfix b = false →
    let glued := lexSyms 8 (unSpellChars a ++ unSpellChars b)
    let spaced := lexSyms 8 (unSpellChars a ++ [' '] ++ unSpellChars b)
    spaced = some [unTok a, unTok b] ∧
    (unSign a ≠ (unSpellChars b).head? → glued = some [unTok a, unTok b]) := by
  intro a b; cases a <;> cases b <;> decide

/-- Part 2: a postfix operator is followed by a space or one of `) ] , . [ ( ; ?` or another postfix
operator; none of these merges with `++`/`--`. -/
theorem glue_postfix_next : ∀ a : UnOp, isPostfix a = true → ∀ c ∈ [')', ']', ',', '.', '[', '(', ';', '?'],
    lexSyms 8 (unSpellChars a ++ [c]) = (lexSyms 8 [c]).map (unTok a :: ·) := by
  intro a; cases a <;> decide

/-- the sign rule of the formatter is needed: without the space the text reads as another operator -/
theorem glue_needs_space : lexSyms 8 (unSpellChars .Minus ++ unSpellChars .Minus) = some [.p .MinusMinus] ∧
    lexSyms 8 (unSpellChars .Plus ++ unSpellChars .Plus) = some [.p .PlusPlus] ∧
    lexSyms 8 (unSpellChars .AddressOf ++ unSpellChars .AddressOf) = some [.p .AmpersandAmpersand] := by decide

/-! ## Level consistency: where the formatter omits parentheses, the parser reads that position at a covering level -/

/-- **paren_rule_matches_grammar.** For every child position of unary, binary and conditional nodes: if
`format_subexpression` prints the child without parentheses, the child's production level is at most the level
at which the parser reads that position (the levels of the conditional's operands are the ones extracted from
`ternary_right`: the middle operand is read at the assignment level since f3b64c8).  The children include negative
literals, whose text (`-5l`) is read by the prefix production (`Expr.lvl` = 2): since e7611e2 they have the precedence of a
prefix operation, so they are parenthesised under every postfix construct — with `precNegLiteral = precLiteral` (the
code before the fix) the second conjunct is false. -/
theorem paren_rule_matches_grammar :
    (∀ op (x : Expr), isPostfix op = false → needParen x.prec (unPrec op) prefixOperandSide = false → x.lvl ≤ prefixLevel) ∧
    (∀ op (x : Expr), isPostfix op = true → needParen x.prec (unPrec op) postfixOperandSide = false → x.lvl ≤ postfixLevel) ∧
    (∀ op (x : Expr), needParen x.prec (binPrec op) binLeftSide = false →
      (binLevel op ≠ assignLevel → x.lvl ≤ binLevel op) ∧ (binLevel op = assignLevel → x.lvl ≤ ternaryLevel - 1)) ∧
    (∀ op (x : Expr), needParen x.prec (binPrec op) binRightSide = false →
      (binLevel op ≠ assignLevel → x.lvl ≤ binLevel op - 1) ∧ (binLevel op = assignLevel → x.lvl ≤ assignLevel)) ∧
    (∀ x : Expr, needParen x.prec precTernaryConditional ternCondSide = false → x.lvl ≤ ternaryLevel - 1) ∧
    (∀ x : Expr, needParen x.prec precTernaryConditional ternTrueSide = false → x.lvl ≤ ternMiddleLevel) ∧
    (∀ x : Expr, needParen x.prec precTernaryConditional ternFalseSide = false → falseIsAssignment x = false →
      x.lvl ≤ ternLastLevel) :=
  ⟨fun op x hop h => pos_prefix op hop x.prec_lvl h, fun op x hop h => pos_postfix op hop x.prec_lvl h,
   fun op x h => ⟨fun h14 => ((pos_binL op x.prec_lvl h).1 h14).1, (pos_binL op x.prec_lvl h).2⟩,
   fun op x h => pos_binR op x.prec_lvl h, fun x h => pos_ternC x.prec_lvl h, fun x h => pos_ternA x.prec_lvl h,
   fun x h hf => by
     have := pos_ternB x.prec_lvl h
     have h14 : x.lvl ≠ 14 := fun h14 => by rw [falseIsAssignment_of_lvl x h14] at hf; cases hf
     show x.lvl ≤ 13
     omega⟩

/-- what may follow a complete expression: nothing, or `)`, `]`, `:`, `;` -/
def Stops (rest : List Tok) : Prop :=
  rest = [] ∨ ∃ t r, rest = t :: r ∧ Closes .Standard t

/-- **roundtrip_expr_partial.** For every tree over literals, identifiers, all 10 unary and all 30 binary operators,
the conditional, member access, array subscript and calls (without template arguments), nested to any depth: the tokens of the printed text, followed by anything that ends an
expression, are read by the parser model at the top level (`expr_p15`, terminator `Standard`) as exactly the tree.

Partial, because `WF` excludes literals that do not print as one token reading back as themselves (negative values,
`-0.0`, NaN, … — `LitOk`, see `literal_roundtrip_partial` / `negative_literals_break`) — for those the full statement is
false on the real code (known findings; what *is* true of negative literals since e7611e2 is
`negative_literal_binds_like_minus`). An integer literal as the object of a member access is covered (`(1).m`, 07e6b1c:
`member_of_int_literal_roundtrips`). Casts, `sizeof`, template
arguments and braced initialisers are not in the model at all (so neither is `expr_p1_call`'s attempt to read
`<…>(` as template arguments, which breaks `a < b > (c)` on the real code — a known finding). -/
theorem roundtrip_expr_partial (e : Expr) (hwf : WF e) (rest : List Tok) (hrest : Stops rest) :
    ReadsBack e rest := by
  have hin : ∀ k, Inert k .Standard rest := by
    rcases hrest with rfl | ⟨t, r, rfl, ht⟩
    · exact fun k => inert_nil k _
    · exact fun k => inert_closes k _ _ _ ht
  exact RsslVerif.Lemmas.Fuel.Ev.exists (rt e hwf 15 .Standard rest (e, rest) (by decide) (lvl_le e) (fun _ => rfl)
    (fun i _ _ => hin i) (RsslVerif.Lemmas.LevelParser.fin_self e (lvl_le e) (fun _ => hin 15)))

/-- the same at any sub-expression position: printed under `(outer, side)` and read at a level that covers it -/
theorem roundtrip_subexpr_partial (e : Expr) (hwf : WF e) (outer : Nat) (side : Side) (k : Nat) (term : Terminator)
    (rest : List Tok) (hterm : term ≠ .TypeList) (hk : k ≤ 15)
    (hpos : needParen e.prec outer side = false → e.lvl ≤ k ∧ (e.lvl = 15 → term = .Standard))
    (hno : NoLow k term rest) (hin : k ≠ 0 → Inert k term rest) :
    ∃ fuel, parseLvl fuel k term (toks (fmtSub e outer side) ++ rest) = some (e, rest) := by
  exact RsslVerif.Lemmas.Fuel.Ev.exists (rts_self (rt e hwf) outer side k term rest hterm hpos hno hin)

/-- **roundtrip_comma_positions_partial.** Initialiser expressions (d76894a), array sizes (a83e0d0), call arguments and —
since 2a6da39 — attribute arguments, default values of parameters and enum values are
printed at `(17, CommaList)` and read with the `Sequence` terminator (`parse_expression_no_seq`): in front of `,`, `;`,
`]` or `)` the printed tokens read back as the tree — a comma expression there is printed in parentheses. -/
theorem roundtrip_comma_positions_partial (e : Expr) (hwf : WF e) (t : Tok) (rest : List Tok)
    (ht : Closes .Sequence t) :
    (initPrec = 17 ∧ initSide = .CommaList ∧ arraySizePrec = 17 ∧ arraySizeSide = .CommaList ∧
     callArgPrec = 17 ∧ callArgSide = .CommaList ∧ initTerminator = .Sequence ∧ arraySizeTerminator = .Sequence ∧
     callArgTerminator = .Sequence ∧
     RsslVerif.Gen.SyntaxTables.attrArgPrec = 17 ∧ RsslVerif.Gen.SyntaxTables.attrArgSide = .CommaList ∧
     RsslVerif.Gen.SyntaxTables.paramDefaultPrec = 17 ∧ RsslVerif.Gen.SyntaxTables.paramDefaultSide = .CommaList ∧
     RsslVerif.Gen.SyntaxTables.enumValuePrec = 17 ∧ RsslVerif.Gen.SyntaxTables.enumValueSide = .CommaList) ∧
    ∃ fuel, parseLvl fuel 15 .Sequence (toks (fmtSub e 17 .CommaList) ++ t :: rest) = some (e, t :: rest) := by
  refine ⟨by decide, ?_⟩
  apply roundtrip_subexpr_partial e hwf 17 .CommaList 15 .Sequence (t :: rest) (by decide) (Nat.le_refl _)
  · intro hp
    have := pos_commaList e.prec_lvl hp
    exact ⟨by omega, fun h => by omega⟩
  · exact noLow_closes 15 _ _ _ ht
  · exact fun _ => inert_closes 15 _ _ _ ht

/-- **literal_roundtrip_partial** (token level). Every non-negative integer literal of every kind (within the range
the suffix admits) and both booleans
print as one token carrying the same kind and value; so does every non-negative float in the modelled (dyadic) subset.
What is *not* proved here: that the printed digits are the value (Rust `Display`, trusted) and that the lexer reads
digits back exactly (C10 `int_value_exact` / `lex_float_nearest`); `decimal_roundtrip` (`Thm/C09.lean`) is the digit-level core. -/
theorem literal_roundtrip_partial :
    (∀ v, LitOk ⟨.IntUntyped, false, v⟩ = true ∧ (v < 2 ^ 32 → LitOk ⟨.IntUnsigned32, false, v⟩ = true) ∧
          LitOk ⟨.IntUnsigned64, false, v⟩ = true ∧ (v < 2 ^ 63 → LitOk ⟨.IntSigned64, false, v⟩ = true)) ∧
    LitOk ⟨.Bool, false, 0⟩ = true ∧ LitOk ⟨.Bool, false, 1⟩ = true ∧
    (∀ bits q, eighths? 11 52 bits = some q → LitOk ⟨.FloatUntyped, false, bits⟩ = true ∧ LitOk ⟨.Float64, false, bits⟩ = true) ∧
    (∀ bits q, eighths? 8 23 bits = some q → LitOk ⟨.Float32, false, bits⟩ = true ∧ LitOk ⟨.Float16, false, bits⟩ = true) := by
  refine ⟨fun v => ⟨?_, ?_, ?_, ?_⟩, ?_, ?_, fun bits q h => ⟨?_, ?_⟩, fun bits q h => ⟨?_, ?_⟩⟩ <;>
    (try intro hv) <;> simp [LitOk, litPieces, floatPieces, litTooLarge, *] <;> omega

/-- **Negation for negative literals, all of them.** A negative 64-bit integer literal and a float literal with the
sign bit set — negative zero included since 1157dad — print as `-` followed by the non-negative literal: two tokens,
which the parser reads as `UnaryOperation(Minus, …)`. (Real code: known findings.) -/
theorem negative_literals_break :
    (∀ v, v ≠ 0 → (litPieces ⟨.IntSigned64, true, v⟩).map toks = some [.p .Minus, .lit ⟨.IntSigned64, false, v⟩]) ∧
    (∀ bits q, eighths? 8 23 bits = some q →
      (litPieces ⟨.Float32, true, bits⟩).map toks = some [.p .Minus, .lit ⟨.Float32, false, bits⟩] ∧
      (litPieces ⟨.Float16, true, bits⟩).map toks = some [.p .Minus, .lit ⟨.Float16, false, bits⟩]) ∧
    (∀ bits q, eighths? 11 52 bits = some q →
      (litPieces ⟨.FloatUntyped, true, bits⟩).map toks = some [.p .Minus, .lit ⟨.FloatUntyped, false, bits⟩] ∧
      (litPieces ⟨.Float64, true, bits⟩).map toks = some [.p .Minus, .lit ⟨.Float64, false, bits⟩]) ∧
    (litPieces ⟨.Float32, true, 0⟩).map toks = some [.p .Minus, .lit ⟨.Float32, false, 0⟩] ∧
    LitOk ⟨.IntSigned64, true, 5⟩ = false ∧ LitOk ⟨.Float32, true, 0⟩ = false := by
  refine ⟨fun v hv => ?_, fun bits q h => ⟨?_, ?_⟩, fun bits q h => ⟨?_, ?_⟩, ?_, ?_, ?_⟩
  · simp [litPieces, hv, minusPiece]
  · simp [litPieces, floatPieces, h, minusPiece]
  · simp [litPieces, floatPieces, h, minusPiece]
  · simp [litPieces, floatPieces, h, minusPiece]
  · simp [litPieces, floatPieces, h, minusPiece]
  · decide
  · decide
  · decide

/-- **negative_literal_binds_like_minus** (fix e7611e2).  At every position `(outer, side)` a negative literal prints exactly
the tokens of the unary minus applied to the literal of its magnitude: it is parenthesised wherever that prefix operation
is — so the reading differs from the tree in the node kind only (`Literal(-v)` ↦ `Minus(Literal(v))`, the remaining known
finding), never in the grouping (before e7611e2 `-5l.m` read as `Minus(Member(5l, m))`; `negative_literal_member_groups`). -/
theorem negative_literal_binds_like_minus :
    (∀ v, v ≠ 0 → ∀ outer side, toks (fmtSub (.lit ⟨.IntSigned64, true, v⟩) outer side) =
      toks (fmtSub (.un .Minus (.lit ⟨.IntSigned64, false, v⟩)) outer side)) ∧
    (∀ bits q, eighths? 8 23 bits = some q → ∀ outer side,
      toks (fmtSub (.lit ⟨.Float32, true, bits⟩) outer side) =
        toks (fmtSub (.un .Minus (.lit ⟨.Float32, false, bits⟩)) outer side) ∧
      toks (fmtSub (.lit ⟨.Float16, true, bits⟩) outer side) =
        toks (fmtSub (.un .Minus (.lit ⟨.Float16, false, bits⟩)) outer side)) ∧
    (∀ bits q, eighths? 11 52 bits = some q → ∀ outer side,
      toks (fmtSub (.lit ⟨.FloatUntyped, true, bits⟩) outer side) =
        toks (fmtSub (.un .Minus (.lit ⟨.FloatUntyped, false, bits⟩)) outer side) ∧
      toks (fmtSub (.lit ⟨.Float64, true, bits⟩) outer side) =
        toks (fmtSub (.un .Minus (.lit ⟨.Float64, false, bits⟩)) outer side)) := by
  refine ⟨fun v hv outer side => ?_, fun bits q h outer side => ⟨?_, ?_⟩, fun bits q h outer side => ⟨?_, ?_⟩⟩
  · exact neg_literal_eq_minus _ _ (by simp [litPieces, hv]) outer side
  all_goals exact neg_literal_eq_minus _ _ (by simp [litPieces, floatPieces, h]) outer side

/-- `(-5l).m` (before e7611e2: `-5l.m`): the tokens, and what the parser model makes of them — the member access of the negated literal -/
theorem negative_literal_member_groups :
    toks (fmtExpr (.mem (.lit ⟨.IntSigned64, true, 5⟩) "m")) =
      [.p .LeftParen, .p .Minus, .lit ⟨.IntSigned64, false, 5⟩, .p .RightParen, .p .Period, .id "m"] ∧
    parseAll .Standard (toks (fmtExpr (.mem (.lit ⟨.IntSigned64, true, 5⟩) "m"))) =
      some (.mem (.un .Minus (.lit ⟨.IntSigned64, false, 5⟩)) "m", []) ∧
    parseAll .Standard (toks (fmtExpr (.un .PostfixIncrement (.lit ⟨.Float32, true, 0x3fc00000⟩)))) =
      some (.un .PostfixIncrement (.un .Minus (.lit ⟨.Float32, false, 0x3fc00000⟩)), []) := by
  exact ⟨rfl, rfl, rfl⟩

/-- **member_of_int_literal_roundtrips** (fix 07e6b1c; before it `1.m` was printed and rejected by the lexer).  An integer
literal that is the object of a member access is printed in parentheses — `(1).m`, so the digits are not followed by the
period — and reads back as the tree, for every value, kind of integer literal and member name. -/
theorem member_of_int_literal_roundtrips (kind : LitKind) (hk : kind = .IntUntyped ∨ kind = .IntUnsigned32 ∨
      kind = .IntUnsigned64 ∨ kind = .IntSigned64) (v : Nat) (hv : LitOk ⟨kind, false, v⟩ = true) (n : String) :
    toks (fmtExpr (.mem (.lit ⟨kind, false, v⟩) n)) =
      [.p .LeftParen, .lit ⟨kind, false, v⟩, .p .RightParen, .p .Period, .id n] ∧
    ReadsBack (.mem (.lit ⟨kind, false, v⟩) n) [] := by
  refine ⟨?_, roundtrip_expr_partial (.mem (.lit ⟨kind, false, v⟩) n) (by simpa [WF] using hv) [] (Or.inl rfl)⟩
  have hp : litPrec ⟨kind, false, v⟩ = 0 := by simp [litPrec, litNegative, precLiteral]
  have hm : memObjParen (.lit ⟨kind, false, v⟩) = true := by
    rcases hk with rfl | rfl | rfl | rfl <;> rfl
  have e1 : needParen precMember topPrec topSide = false := by decide
  have e2 : needParen 0 precMember memObjectSide = false := by decide
  simp only [fmtExpr, fmtSub, hm, hp, e1, e2, wrap_false]
  simp [wrap, lp, rp, pp, litOk_toks _ hv]

/-- non-vacuity: a depth-6 tree (with literal leaves of four kinds: `LitOk` is decided by the kernel) mixing eight levels, both associativities, prefix/postfix signs, conditionals, member, subscript and call -/
def sample : Expr :=
  .bin .Assignment (.id "r")
    (.tern (.bin .LessThan (.bin .Add (.id "a") (.bin .Multiply (.id "b") (.un .Minus (.un .Minus (.id "c"))))) (.id "d"))
      (.bin .Subtract (.id "x") (.bin .Subtract (.sub (.mem (.id "y") "m") (.bin .Sequence (.id "i") (.id "j")))
        (.un .PostfixDecrement (.id "z"))))
      (.bin .Sequence (.bin .BitwiseOrAssignment (.id "p") (.id "q"))
        (.un .LogicalNot (.call (.mem (.id "w") "f") (.cons (.tern (.id "u") (.id "v") (.id "w")) (.cons (.bin .Multiply (.lit ⟨.Float32, false, 0x3fc00000⟩) (.lit ⟨.IntUnsigned64, false, 18446744073709551615⟩))
          (.cons (.bin .Add (.lit ⟨.IntUntyped, false, 3⟩) (.lit ⟨.Float64, false, 0x4000000000000000⟩)) .nil)))))))

theorem sample_wf : WF sample := by
  simp [sample, WF, WFA]
  decide
example : ReadsBack sample [] := roundtrip_expr_partial sample sample_wf [] (Or.inl rfl)

/-- the conditional shape that did not read back before f3b64c8 (`expr_p13` read the middle operand with `expr_p13`) -/
def ternaryMiddleAssignment : Expr :=
  .tern (.id "c") (.bin .Assignment (.id "b") (.id "x")) (.id "a")

/-- `c ? b = x : a` round-trips: by the theorem, and by evaluating the parser model on the printed tokens -/
example : ReadsBack ternaryMiddleAssignment [] :=
  roundtrip_expr_partial ternaryMiddleAssignment (by simp [ternaryMiddleAssignment, WF]) [] (Or.inl rfl)
example : parseAll .Standard (toks (fmtExpr ternaryMiddleAssignment)) = some (ternaryMiddleAssignment, []) := rfl

end RsslVerif.Thm.C09
