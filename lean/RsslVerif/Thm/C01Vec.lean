import RsslVerif.Thm.C01
import RsslVerif.Lemmas.GenSemVec
/-!
# C01 — vector layer: shape-changing casts, swizzles, numeric constructors, component-wise operators

Theorems about `Model.GenHlslVec` (the `Cast` / `Swizzle` / `Constructor` arms of `generate_expression`, the `Vector` arm
of `generate_type_impl`) against `Spec.SemVec`.  Scalar leaves are handled by `gen_sem_expr`'s induction (`sim_expr`).
-/
namespace RsslVerif.Thm.C01
open RsslVerif.Gen.HlslGenTables RsslVerif.Gen.HlslIntrinsicTables RsslVerif.Gen.HlslVecTables RsslVerif.Model RsslVerif.Model.IrVec
open RsslVerif.Model.GenHlsl RsslVerif.Model.GenHlslVec RsslVerif.Spec.Sem RsslVerif.Spec.SemVec
open RsslVerif.Lemmas.GenSem RsslVerif.Lemmas.GenSemVec
open RsslVerif.Model.Ir (Ty Var Const Dir)

/-- the `Swizzle`, `Constructor` and `Cast` arms of `generate_expression` and the `Vector` arm of `generate_type_impl`
have the shape `Model.GenHlslVec` mirrors (textual facts re-extracted on every run): the swizzle's object is generated
and wrapped in `Member` with one letter per slot; the constructor's slots are generated in order into a `Call` of the
type's name; the cast generates *its own operand* (it does not look through it, rebind it or skip inner casts) and wraps
it unless the target is a scalar literal type; a vector type's name is the scalar's name followed by the dimension. -/
theorem exporter_vec_shape_as_modelled :
    swizzleArmAsModelled = true ∧ constructorArmAsModelled = true ∧ castArmGeneratesItsOperand = true ∧
    vectorTypeNameAppendsDim = true := by decide

/-- the letter the exporter writes for a swizzle slot (table re-extracted from the source) is read by HLSL as that very
component, and no two slots share a letter -/
theorem swizzle_letters_are_identity :
    (∀ s : SwizzleSlot, VAst.charIdx (swizzleChar s) = some (slotIdx s)) ∧
    (∀ a b : SwizzleSlot, swizzleChar a = swizzleChar b → a = b) ∧
    (∀ sl : List SwizzleSlot, VAst.parseSwizzle (swizzleName sl) = some (sl.map slotIdx)) := by
  refine ⟨charIdx_swizzleChar, ?_, parse_swizzleName⟩
  intro a b; cases a <;> cases b <;> decide

/-- the vector-only pure built-ins (reductions, geometric functions, HLSL 2021 logical functions) with the name HLSL
gives exactly that built-in -/
def vectorBuiltins : List (String × Intrinsic) :=
  [("dot", .Dot), ("length", .Length), ("distance", .Distance), ("cross", .Cross), ("normalize", .Normalize),
   ("reflect", .Reflect), ("any", .Any), ("all", .All), ("and", .And), ("or", .Or), ("select", .Select)]

/-- `generate_intrinsic_function`'s table (re-extracted on every run) invokes each of them under that very name, and no
two of them (nor any of the 46 scalar built-ins of `intrinsic_table_is_identity`) share a name -/
theorem vector_intrinsic_table_is_identity :
    (∀ p ∈ vectorBuiltins, intrinsicForm p.2 = .invoke p.1) ∧
    (∀ p ∈ vectorBuiltins, ∀ q ∈ vectorBuiltins ++ Ast.builtins, p.1 = q.1 → p.2 = q.2) := by
  decide +kernel

/-- every numeric type the layer can name is printed under a name HLSL reads as that type -/
theorem vector_type_names_roundtrip (ty : VTy) (n : String) (h : vtypeName ty = .ok n)
    (h1 : ty.scalar ≠ .lit) (h2 : ty.scalar ≠ .flit) (h3 : ty.scalar ≠ .void) : VAst.vtyOfName n = some ty :=
  vtypeName_vtyOfName h h1 h2 h3

/-- **vector expressions**: for every expression of the vector layer (casts between any scalar / vector types in any
nesting, swizzles, numeric constructors with any partition into slots, component-wise unary / binary / comparison
operators, `?:` with vector arms, vector variables, scalar sub-expressions of the scalar model) that the type checker
accepted, the emitted expression has a static type `ta` under HLSL's rules and — converted to the IR's type `t`, which is
what every context the exporter places it in does — evaluates to exactly the IR's value and scalar store, from every
store and every value of the vector variables, for every interpretation of the primitives.  By mutual induction over
`VExpr` / `VSlots`, with `sim_expr` at the scalar leaves. -/
theorem gen_sem_vec_expr {W : World} {env : VAst.VEnv} {cx : Ctx} {vvty : Var → VTy} (hag : VAgree cx env vvty)
    (e : VExpr) (a : VAExpr) (t : VTy)
    (hg : genV cx e = .ok a) (ht : VIr.typeOf W.sig cx.vty vvty e = some t) (hl : VIr.litOK e = true) :
    ∃ ta, VAst.typeOf W.sig env a = some ta ∧
      ∀ ρ σ, VAst.vconvR W.P ta t (VAst.eval W env ρ a σ) = VIr.eval W ρ e σ :=
  ⟨vastTy e t, (sim_v hag e a t hg ht hl).1, (sim_v hag e a t hg ht hl).conv ht⟩

/-- …and without any conversion when the expression is not a bare `Int32` constant -/
theorem gen_sem_vec_expr_plain {W : World} {env : VAst.VEnv} {cx : Ctx} {vvty : Var → VTy} (hag : VAgree cx env vvty)
    (e : VExpr) (a : VAExpr) (t : VTy)
    (hg : genV cx e = .ok a) (ht : VIr.typeOf W.sig cx.vty vvty e = some t) (hl : VIr.litOK e = true)
    (hn : e.litlike = false) :
    VAst.typeOf W.sig env a = some t ∧ ∀ ρ σ, VAst.eval W env ρ a σ = VIr.eval W ρ e σ :=
  (sim_v hag e a t hg ht hl).plain hn

/-- **statement-level assignment to vectors and swizzles** (`v = E`, `v.xz = E`, `v += E`, `v.yx *= E`, … for every
assignment operator the exporter accepts, `E` any expression of the layer, `v` a vector-typed local or global): the emitted
`lhs op rhs` — the right operand converted to the left operand's type, for compound operators computed in the common
type and converted back, the named components overwritten in order — yields the same value, scalar store and **vector
store** as the IR's assignment.  The place is re-read by name and letters on the emitted side (`lvalOfV`). -/
theorem gen_sem_vec_assign {W : World} {env : VAst.VEnv} {cx : Ctx} {vvty : Var → VTy} (hag : VAgree cx env vvty)
    (o : IntrinsicOp) (lhs rhs : VExpr) (a : VAExpr) (T : VTy)
    (hg : genV cx (.op o (.cons lhs (.cons rhs .nil))) = .ok a)
    (hok : VIr.assignOK W.sig cx.vty vvty lhs rhs = some T) (hl : VIr.litOK rhs = true)
    (hsem : irOpSem o = .assign ∨ ∃ m, irOpSem o = .compound m) :
    ∀ ρ σ, VAst.evalTop W env ρ a σ = VIr.evalTop W ρ (.op o (.cons lhs (.cons rhs .nil))) σ := by
  obtain ⟨b, lhs', rhs', hf, hgl, hgr, rfl⟩ := genV_op2_ok hg
  exact sim_vassign hag hf hgl hgr hok hl hsem

/-- a cast chain is **not** collapsible: converting a float vector to a scalar first and widening it again replicates
the first component, converting the vector directly keeps the components.  For every interpretation of the primitives,
every dimension `n ≥ 2` and every vector whose first two components differ. -/
theorem scalar_cast_then_widen_differs (P : Prim) (n : Nat) (hn : 2 ≤ n) (x y : BitVec 32) (rest : List Val) (hxy : x ≠ y) :
    (castShape P (.sc .float) (.vec (.f x :: .f y :: rest))).bind (castShape P (.vec .float n)) ≠
      castShape P (.vec .float n) (.vec (.f x :: .f y :: rest)) := by
  obtain ⟨k, rfl⟩ : ∃ k, n = k + 2 := ⟨n - 2, by omega⟩
  simp only [castShape, castVal, Option.map, Option.bind]
  split
  · rename_i h
    simp only [List.take_succ_cons, mapOpt, castVal] at h ⊢
    cases hm : mapOpt (castVal P .float) (List.take k rest) with
    | none => simp
    | some l =>
      simp only [List.replicate_succ, ne_eq, Option.some.injEq, VVal.vec.injEq, List.cons.injEq, Val.f.injEq, true_and]
      intro hc
      exact hxy hc.1
  · simp

def ρ123 : VStore := fun _ => .vec [.f 1, .f 2, .f 3]

/-- `(float3)(float)v` — the IR of `float3 r = (float)v;` -/
def eChain : VExpr := .cast (.vec .float 3) (.cast (.sc .float) (.vvar 0))

def venv0 : VAst.VEnv where
  base := env0
  vres := env0.res
  vvty := fun _ => .vec .float 3

theorem vagree0 : VAgree cx0 venv0 (fun _ => .vec .float 3) where
  base := agree0
  vres := agree0.res
  vvty := rfl

/-- the exporter keeps both casts of the chain (`(float3)(float)l`), and that tree means what the IR means; the tree
without the inner cast (`(float3)l`, what an exporter that "tidies" cast chains of one scalar type would emit — seeded
mutant C01-2) evaluates to a **different** value for `v = (1, 2, 3)`, under every interpretation of the primitives. -/
theorem dropping_inner_shape_cast_changes_meaning :
    genV cx0 eChain = .ok (.cast "float3" (.cast "float" (.ident "l"))) ∧
    ∀ (W : World) (σ : Store),
      VAst.eval W venv0 ρ123 (.cast "float3" (.cast "float" (.ident "l"))) σ = VIr.eval W ρ123 eChain σ ∧
      VIr.eval W ρ123 eChain σ = some (.vec [.f 1, .f 1, .f 1], σ) ∧
      VAst.eval W venv0 ρ123 (.cast "float3" (.ident "l")) σ = some (.vec [.f 1, .f 2, .f 3], σ) := by
  refine ⟨rfl, fun W σ => ⟨?_, rfl, ?_⟩⟩
  · exact ((gen_sem_vec_expr_plain (W := W) vagree0 eChain _ (.vec .float 3) rfl rfl rfl rfl).2 ρ123 σ)
  · have h1 : VAst.vtyOfName "float3" = some (.vec .float 3) := by decide +kernel
    have h2 : venv0.vres "l" = some (.loc 0) := by decide +kernel
    simp only [VAst.eval, h1, h2]; rfl

/-- a cast to a *vector of a literal type* cannot be exported: `generate_type` reaches
`generate_scalar_type(IntLiteral / FloatLiteral)` and panics — the drop-the-cast rule only looks at scalar targets.
The type checker does not build such a cast: neither for a binary operation (`boolvec + 1`, `intvec * 1.5`: /repo commit
40c6233) nor for the arms of `?:` (`c ? intvec : 1.5`: c05bffa) — see `vector_op_literal_in_concrete_type`; `VIr.typeOf`
rejects it.  A fact about the exporter alone: such a tree must never reach it. -/
theorem literal_vector_cast_panics (cx : Ctx) (e : VExpr) (a : VAExpr) (n : Nat) (hg : genV cx e = .ok a) :
    (∃ m, genV cx (.cast (.vec .lit n) e) = .error (.panic m)) ∧ (∃ m, genV cx (.cast (.vec .flit n) e) = .error (.panic m)) := by
  constructor <;>
    exact ⟨"generate_scalar_type: literal type should not be required on output",
      by simp [genV, hg, vtypeName, typeName, scalarKey, scalarTypeName]⟩

/-- what the type checker builds for `b + 1` with `b : bool3` (/repo commit 40c6233) — `Add(Cast(int3, b), Cast(int3, 1))`,
the operation done in the concrete type the literal receives, not `Cast(IntLiteral3, b)`, on which the exporter panics -/
def eBoolVecPlusLit : VExpr :=
  .op .Add (.cons (.cast (.vec .int 3) (.vvar 0)) (.cons (.cast (.vec .int 3) (.sc (.lit (.intLit 1)))) .nil))

/-- the same for `v * 1.5` with `v : int3`: `Multiply(Cast(float3, v), Cast(float3, 1.5))` -/
def eIntVecTimesFlit : VExpr :=
  .op .Multiply (.cons (.cast (.vec .float 3) (.vvar 0))
    (.cons (.cast (.vec .float 3) (.sc (.lit (.floatLit 0x3ff8000000000000#64)))) .nil))

/-- the same for `c ? b : 7` with `b : bool3` (/repo commit c05bffa): `c ? Cast(int3, b) : Cast(int3, 7)` -/
def eTernVecLit : VExpr :=
  .tern (.sc (.var 0)) (.cast (.vec .int 3) (.vvar 1)) (.cast (.vec .int 3) (.sc (.lit (.intLit 7))))

def venvOf (t : VTy) : VAst.VEnv where
  base := env0
  vres := env0.res
  vvty := fun _ => t

theorem vagreeOf (t : VTy) : VAgree cx0 (venvOf t) (fun _ => t) where
  base := agree0
  vres := agree0.res
  vvty := rfl

/-- **a vector operation or conditional with a literal operand is exported and keeps its meaning** (`b + 1` / `v * 1.5` /
`c ? b : 7`, as typed by /repo commits 40c6233 and c05bffa): the trees the type checker builds are accepted by `VIr.typeOf` (result `int3` / `float3`), satisfy the literal side condition, are
exported — `(int3)b + (int3)1`, `(float3)v * (float3)1.5`, `c ? (int3)b : (int3)7` — and the emitted expression has the
IR's type and evaluates to the IR's value and store for every value of the vector, every store and every interpretation
of the primitives (instances of `gen_sem_vec_expr_plain`). -/
theorem vector_op_literal_in_concrete_type (W : World) :
    genV cx0 eBoolVecPlusLit = .ok (.bin .Add (.cast "int3" (.ident "l")) (.cast "int3" (.sc (.lit (.intUntyped 1))))) ∧
    (∀ a, genV cx0 eBoolVecPlusLit = .ok a →
      VAst.typeOf W.sig (venvOf (.vec .bool 3)) a = some (.vec .int 3) ∧
      ∀ ρ σ, VAst.eval W (venvOf (.vec .bool 3)) ρ a σ = VIr.eval W ρ eBoolVecPlusLit σ) ∧
    (∃ a, genV cx0 eIntVecTimesFlit = .ok a) ∧
    (∀ a, genV cx0 eIntVecTimesFlit = .ok a →
      VAst.typeOf W.sig (venvOf (.vec .int 3)) a = some (.vec .float 3) ∧
      ∀ ρ σ, VAst.eval W (venvOf (.vec .int 3)) ρ a σ = VIr.eval W ρ eIntVecTimesFlit σ) ∧
    genV cx0 eTernVecLit =
      .ok (.tern (.sc (.ident "l")) (.cast "int3" (.ident "ll")) (.cast "int3" (.sc (.lit (.intUntyped 7))))) ∧
    (∀ a, genV cx0 eTernVecLit = .ok a →
      VAst.typeOf W.sig (venvOf (.vec .bool 3)) a = some (.vec .int 3) ∧
      ∀ ρ σ, VAst.eval W (venvOf (.vec .bool 3)) ρ a σ = VIr.eval W ρ eTernVecLit σ) :=
  ⟨rfl,
   fun a h => gen_sem_vec_expr_plain (vagreeOf _) eBoolVecPlusLit a (.vec .int 3) h rfl rfl rfl,
   ⟨_, rfl⟩,
   fun a h => gen_sem_vec_expr_plain (vagreeOf _) eIntVecTimesFlit a (.vec .float 3) h rfl rfl rfl,
   rfl,
   fun a h => gen_sem_vec_expr_plain (vagreeOf _) eTernVecLit a (.vec .int 3) h rfl rfl rfl⟩

/-- the constants outside the evaluated subset (64-bit integers, 16- and 64-bit floats) go — unconditionally, first matching
arm — to the literal of the *same* kind carrying the *same* payload (`.plain k` = `Literal::k(v)`), and `half` / `double`
are the names of the 16- / 64-bit float types: the literal and scalar-type tables (re-extracted on every run) keep kind and
width for them.  (Their arithmetic is not modelled; this is the part of the property that is a table fact.) -/
theorem wide_constants_keep_kind_and_payload :
    (∀ v, findArm .Int64 v = some (.plain .IntSigned64)) ∧ (∀ v, findArm .UInt64 v = some (.plain .IntUnsigned64)) ∧
    (∀ v, findArm .Float16 v = some (.plain .Float16)) ∧ (∀ v, findArm .Float64 v = some (.plain .Float64)) ∧
    scalarTypeName.lookup "Float16" = some (some "half") ∧ scalarTypeName.lookup "Float64" = some (some "double") :=
  ⟨fun _ => rfl, fun _ => rfl, fun _ => rfl, fun _ => rfl, by decide +kernel, by decide +kernel⟩

/-- `(float3)(float)l0 + float3(ll, l0.zx)`-like: cast chain, constructor with a scalar leaf and a swizzle slot, a
comparison, a ternary — accepted, exported, hypotheses of `gen_sem_vec_expr` hold -/
def vEx : VExpr :=
  .tern (.sc (.var 0))
    (.op .Add (.cons eChain (.cons (.ctor (.vec .float 3)
      (.cons 1 (.cast (.sc .float) (.sc (.var 1))) (.cons 2 (.swz (.vvar 0) [.Z, .X]) .nil))) .nil)))
    (.cast (.vec .float 3) (.op .LessThan (.cons (.vvar 0) (.cons (.cast (.vec .float 3) (.sc (.lit (.int32 2)))) .nil))))

example : VIr.typeOf W0.sig cx0.vty (fun _ => .vec .float 3) vEx = some (.vec .float 3) := by decide
example : VIr.litOK vEx = true := by decide
example : ∃ a, genV cx0 vEx = .ok a := ⟨_, rfl⟩
example : VAgree cx0 venv0 (fun _ => .vec .float 3) := vagree0
/-- `l0.zx += (float2)(float)l0` (a swizzle write with a cast chain on the right): the hypotheses of `gen_sem_vec_assign` hold -/
example : VIr.assignOK W0.sig cx0.vty (fun _ => .vec .float 3) (.swz (.vvar 0) [.Z, .X])
    (.cast (.vec .float 2) (.cast (.sc .float) (.vvar 0))) = some (.vec .float 2) := by decide
example : VIr.evalTop W0 ρ123 (.op .SumAssignment (.cons (.swz (.vvar 0) [.Z, .X])
    (.cons (.cast (.vec .float 2) (.cast (.sc .float) (.vvar 0))) .nil))) (fun _ => .void) ≠ none := by decide
example (a : VAExpr) (h : genV cx0 vEx = .ok a) (ρ : VStore) (σ : Store) :
    VAst.eval W0 venv0 ρ a σ = VIr.eval W0 ρ vEx σ :=
  (gen_sem_vec_expr_plain vagree0 vEx a (.vec .float 3) h (by decide) (by decide) (by decide)).2 ρ σ

end RsslVerif.Thm.C01
