import RsslVerif.Lemmas.SlotsInline
import RsslVerif.Lemmas.SlotsCompile
import RsslVerif.Lemmas.SlotsMeta
import RsslVerif.Lemmas.SlotsFront
/-!
# C06 — binding slots are allocated completely, contiguously and without overlap

All theorems are about `Model.Slots.assign` (the model of `Module::assign_api_bindings`) instantiated
with the tables regenerated from `/repo` (`Gen.SlotTables`).  They hold for every declaration list of
any length, every default group and every parameter set satisfying `ParamsOk` — which every parameter
set `compile()` can produce does (`params_of_targets_ok`).  Arithmetic is unbounded (`Nat`); the Rust
code works in `u32`, so the statements apply below 2^32 slots per group (C08 reports the rest).
-/
namespace RsslVerif.Thm.C06
open RsslVerif.Gen.SlotTables RsslVerif.Model.Slots RsslVerif.Spec.Slots RsslVerif.Lemmas.Slots

/-- Tie to the source: the generated per-kind cost table is the specified one. -/
theorem slice_cost_table (metal : Bool) (k : ObjKind) :
    sliceCost metal (some k) = if metal && doubled k then 2 else 1 :=
  sliceCost_spec metal k

/-- Tie to the source: every parameter set `compile()` builds satisfies the side condition. -/
theorem params_of_targets_ok (t : Target) (sba : Bool) : ParamsOk (paramsFor t sba) :=
  paramsFor_ok t sba

/-- Tie to the source: the four configurations are the ones the property names. -/
theorem params_of_targets :
    paramsFor .HlslForDirectX false = ⟨true, false, false, true⟩ ∧
    paramsFor .HlslForVulkan false = ⟨false, false, false, true⟩ ∧
    paramsFor .HlslForVulkan true = ⟨false, true, false, true⟩ ∧
    paramsFor .Msl false = ⟨false, false, true, false⟩ ∧
    paramsFor .MetalBytecode false = ⟨false, false, true, false⟩ ∧
    bufferAddressOnlyVulkan = true := by
  decide +kernel

/-- Tie to the source: `process_definition` / `assign_api_bindings` still have, statement by statement,
    the shape that `Model.Slots.step` / `assign` mirror (16 regex facts over the current source, among
    them (fix 774c0b4): only a type with a register class is bound, that class is the reported slot type, and the body of
    `process_definition` contains no `panic!`). -/
theorem alloc_shape_as_modelled :
    allocShape = ⟨true, true, true, true, true, true, true, true, true, true, true, true, true, true, true, true⟩ := rfl

/-- Tie to the source: `get_register_type` gives a register class exactly to the kinds the property calls
    resources (`Spec.resource`, written by hand); the others return `None` and are therefore never bound. -/
theorem register_class_iff_resource (k : ObjKind) : (registerType k).isSome = resource k :=
  registerType_isSome_spec k

/-- Index slots: in every group the index-bound declarations receive, in declaration order,
    consecutive ranges of exactly the required length starting at zero — no gap, no overlap —
    and they end at the group's specified total. -/
theorem index_ranges_tile {p : Params} (hp : ParamsOk p) {dflt : Nat} {ds : List Decl} {res : Result}
    (h : assign p dflt ds = .ok res) (g : Nat) :
    TilesTo 0 (indexRanges p g ds res.bindings) (totalIndex p dflt g ds) := by
  obtain ⟨st, hrun, _⟩ := assign_ok_iff.1 h
  obtain ⟨t1, _, e1, _⟩ := alloc_spec g (run_alloc hp hrun)
  rw [e1] at t1
  simpa [State.init, Counter.empty] using t1

/-- Inline constants: in every group the buffer addresses receive consecutive 8-byte offsets from 0
    in declaration order, ending at the block's specified size. -/
theorem inline_offsets_tile {p : Params} (hp : ParamsOk p) {dflt : Nat} {ds : List Decl} {res : Result}
    (h : assign p dflt ds = .ok res) (g : Nat) :
    TilesTo 0 (inlineRanges p g ds res.bindings) (totalInline p dflt g ds) := by
  obtain ⟨st, hrun, _⟩ := assign_ok_iff.1 h
  obtain ⟨_, t2, _, e2⟩ := alloc_spec g (run_alloc hp hrun)
  rw [e2] at t2
  simpa [State.init, Counter.empty] using t2

/-- Completeness: exactly the bindable declarations are bound (cbuffers and globals of a resource kind
    — `Spec.resource`; a global of a non-resource object kind such as `RayDesc` is not (fix 774c0b4) —
    minus static samplers where the target implements them in source); non-resources take nothing;
    each lands in its explicit group or else the default group; buffer addresses go inline
    exactly when the target supports them. -/
theorem binding_complete {p : Params} (hp : ParamsOk p) {dflt : Nat} {ds : List Decl} {res : Result}
    (h : assign p dflt ds = .ok res) : Agrees p dflt ds res.bindings := by
  obtain ⟨st, hrun, _⟩ := assign_ok_iff.1 h
  exact alloc_agrees (run_alloc hp hrun)

/-- Inline constant blocks: one per group that has buffer addresses, sorted by group, whose size is
    the sum of its members and whose slot is the group's total index-slot count (it follows all
    other slots of the group). -/
theorem inline_buffers_correct {p : Params} (hp : ParamsOk p) {dflt : Nat} {ds : List Decl}
    {res : Result} (h : assign p dflt ds = .ok res) :
    (∀ b ∈ res.inlineBufs, b.sizeInBytes = totalInline p dflt b.set ds ∧
        b.apiLocation = totalIndex p dflt b.set ds ∧ 0 < b.sizeInBytes) ∧
    (∀ g, 0 < totalInline p dflt g ds → ∃ b ∈ res.inlineBufs, b.set = g) ∧
    res.inlineBufs.Pairwise (fun a b => a.set < b.set) := by
  obtain ⟨st, hrun, hbufs⟩ := assign_ok_iff.1 h
  have hk := alloc_keysInv (run_alloc hp hrun) (by simpa [State.init] using KeysInv.empty)
  have hspec := fun g => alloc_spec g (run_alloc hp hrun)
  rw [hbufs]
  simp only [inlineBuffers]
  refine ⟨?_, ?_, ?_⟩
  · intro b hb
    rw [mem_sortBufs] at hb
    simp only [List.mem_map] at hb
    obtain ⟨g, hg, rfl⟩ := hb
    obtain ⟨_, _, e1, e2⟩ := hspec g
    simp only [State.init, Counter.empty] at e1 e2
    refine ⟨by simpa using e2, by simpa using e1, (hk.2 g).1 hg⟩
  · intro g hg
    obtain ⟨_, _, _, e2⟩ := hspec g
    simp only [State.init, Counter.empty] at e2
    have : g ∈ st.inline.keys := (hk.2 g).2 (by omega)
    exact ⟨_, mem_sortBufs.2 (List.mem_map_of_mem this), rfl⟩
  · apply sortBufs_sorted
    simpa [List.map_map, Function.comp_def] using hk.1

/-- The allocator never panics: for every parameter set, default group and declaration sequence — including globals
    of the object kinds without a register class (`RayDesc`, `RayQuery`, `TriangleStream`, the mips views; fix 774c0b4) —
    `assign` returns a result. -/
theorem assign_never_panics (p : Params) (dflt : Nat) (ds : List Decl) :
    ∃ res, assign p dflt ds = .ok res :=
  assign_total p dflt ds

/-- A global of a non-resource object kind takes nothing and moves nothing: from every state the allocator step
    returns the unchanged counters and no binding, whatever its group, array length and the parameter set. -/
theorem non_resource_global_is_inert {p : Params} {dflt : Nat} {st : State} {s : Option Nat} {ss : Bool}
    {k : ObjKind} {l : Option Nat} (hk : resource k = false) :
    step p dflt st (.global s ss (some k) l) = .ok (st, none) := by
  have hreg := registerType_none_iff.2 hk
  unfold step; simp only [hreg]
  split <;> rfl

/-! Non-vacuity: a concrete mixed sequence meets every hypothesis, on two configurations. -/
def exampleDecls : List Decl :=
  [ .cbuffer none, .global (some 1) false (some .Texture2D) (some 3), .other,
    .global none false (some .RWStructuredBuffer) none, .global none true (some .SamplerState) none,
    .global none false (some .BufferAddress) none, .global none false none none,
    .global (some 1) false (some .RWBufferAddress) none, .global none false (some .RayDesc) none,
    .global none false (some .ByteAddressBuffer) (some 2) ]

example : ParamsOk (paramsFor .HlslForVulkan true) ∧ ParamsOk (paramsFor .Msl false) :=
  ⟨paramsFor_ok _ _, paramsFor_ok _ _⟩

example : (assign (paramsFor .Msl false) 0 exampleDecls).toOption.map (·.bindings.map (·.map setLoc)) =
    some [some (0, .index 0), some (1, .index 0), none, some (0, .index 1), none, some (0, .index 3),
          none, some (1, .index 3), none, some (0, .index 5)] := by decide +kernel

example : (assign (paramsFor .HlslForVulkan true) 0 exampleDecls).toOption.map (·.inlineBufs) =
    some [⟨0, 5, 8⟩, ⟨1, 3, 8⟩] := by decide +kernel

/-! ## The end-to-end leg: what `compile()` returns per pipeline

`Model.SlotsCompile` mirrors `compile()` / `build_pipeline()` / `select_pipeline` / the guard of
`assign_api_bindings` and the metadata construction of both exporters. -/
section EndToEnd
open RsslVerif.Gen.SlotCompile RsslVerif.Model.SlotsCompile RsslVerif.Lemmas.SlotsCompile

/-- Tie to the source: `compile()` keeps one immutable type-checked module, `build_pipeline` takes no state shared
    between pipelines, clones the unbound module, selects the pipeline by name and calls `assign_api_bindings`
    unconditionally; the allocator never reads a language-level slot index; an explicit group is the register space or the
    overriding attribute and a pipeline's default group is its DefaultBindGroup property (0 if absent); in the type
    checker every declarator of a global-variable declaration starts from a FRESH language binding (nothing but the
    attribute result, the base type and the storage class is computed before the loop over the declarators; the binding
    the annotations write is the `lang_slot` of the global `insert_global` has just pushed with
    `LanguageBinding::default()`; no file but globals.rs assigns a language binding), the annotation loop, the attribute overrides after it, the whole attribute loop
    (`parse_attributes_for_global`, `parse_expr_as_u32`), the storage-class loop of `parse_globaltype` and the cbuffer
    path have the statement sequence `Model.SlotsFront` mirrors; the exporters read that bound module and list
    bound root definitions in order, grouped by set
    (42 comparisons with the comment-stripped, whitespace-normalised current source). -/
theorem compile_shape_as_modelled :
    compileShape = ⟨true, true, true, true, true, true, true, true, true, true, true, true, true, true, true, true,
                    true, true, true, true, true, true, true, true, true, true, true, true, true, true, true, true,
                    true, true, true, true, true, true, true, true, true, true⟩ := rfl

/-- two lists with the same image, read at one position -/
theorem map_eq_map_get {α β γ : Type} {f : α → γ} {g : β → γ} {l : List α} {l' : List β} (e : l.map f = l'.map g)
    {k : Nat} {a : α} (ha : l[k]? = some a) : ∃ b, l'[k]? = some b ∧ g b = f a := by
  have := congrArg (·[k]?) e
  simp only [List.getElem?_map, ha, Option.map_some] at this
  exact Option.map_eq_some_iff.1 this.symm

/-- **Per-pipeline default group.**  For every module the type checker can hand to `compile()` (any declaration
    sequence, any list of pipelines) and every argument set: the call returns one result per requested pipeline
    (all / the named one / the single no-pipeline build), and the k-th result is exactly the allocator run
    `assign (paramsFor target) (default group of the k-th requested pipeline) decls` on the module's whole declaration
    sequence, followed by the exporter's description of it — whatever other pipelines the file contains and
    whatever was built before it. -/
theorem per_pipeline_default_group {a : Args} {ir : Module} {outs : List Built}
    (hfresh : ir.assigned = false) (hsel : ir.selected = none) (h : compile a ir = .ok outs) :
    outs.map (fun b => (Except.ok b.slots : Except String Result)) =
      (requestedDefaults a.mode ir.pipelines).map
        (fun d => assign (paramsFor a.target a.supportBufferAddress) d ir.decls) ∧
    outs.map (fun b => (Except.ok b.groups : Except Err (List MetaGroup))) =
      outs.map (fun b => describe a.target ir.names ir.decls b.slots) := by
  -- `hfresh` is not used: a successful `assign_api_bindings` has passed its assertion that nothing is assigned yet
  obtain ⟨e, hd⟩ := (compile_spec hsel h).maps
  exact ⟨e, List.map_congr_left fun b hb => (hd b hb).symm⟩

/-- The module `typer::type_check` returns satisfies the side conditions (nothing selected, nothing assigned). -/
theorem fresh_module_unbound (names : List String) (decls : List Decl) (ps : List Pipeline) :
    (Module.fresh names decls ps).assigned = false ∧ (Module.fresh names decls ps).selected = none := ⟨rfl, rfl⟩

/-- Hence every C06 statement holds for every returned pipeline with ITS default group: index ranges tile,
    inline offsets tile, exactly the bindable declarations are bound (ungrouped ones in this pipeline's default
    group), inline blocks are correct. -/
theorem per_pipeline_tiling {a : Args} {ir : Module} {outs : List Built}
    (hfresh : ir.assigned = false) (hsel : ir.selected = none) (h : compile a ir = .ok outs) :
    ∀ (k : Nat) (b : Built), outs[k]? = some b → ∃ d, (requestedDefaults a.mode ir.pipelines)[k]? = some d ∧
      let p := paramsFor a.target a.supportBufferAddress
      (∀ g, TilesTo 0 (indexRanges p g ir.decls b.slots.bindings) (totalIndex p d g ir.decls)) ∧
      (∀ g, TilesTo 0 (inlineRanges p g ir.decls b.slots.bindings) (totalInline p d g ir.decls)) ∧
      Agrees p d ir.decls b.slots.bindings ∧
      (∀ ib ∈ b.slots.inlineBufs, ib.sizeInBytes = totalInline p d ib.set ir.decls ∧
        ib.apiLocation = totalIndex p d ib.set ir.decls) := by
  intro k b hb
  obtain ⟨d, hd, hb'⟩ := map_eq_map_get (compile_spec hsel h).maps.1 hb
  have hp := paramsFor_ok a.target a.supportBufferAddress
  exact ⟨d, hd, fun g => index_ranges_tile hp hb' g, fun g => inline_offsets_tile hp hb' g, binding_complete hp hb',
    fun ib hib => ⟨((inline_buffers_correct hp hb').1 ib hib).1, ((inline_buffers_correct hp hb').1 ib hib).2.1⟩⟩

/-- Independence of the other pipelines, in the form the seeded defect violated: building the k-th pipeline of a
    file by name gives exactly one result, equal to the k-th entry of the whole-file result. -/
theorem by_name_agrees_with_whole_file {t : Target} {sba : Bool} {ir : Module} {outs outs' : List Built}
    {k : Nat} {p : Pipeline} {b : Built}
    (hfresh : ir.assigned = false) (hsel : ir.selected = none)
    (hall : compile { target := t, supportBufferAddress := sba, mode := .all } ir = .ok outs)
    (hp : ir.pipelines[k]? = some p) (hb : outs[k]? = some b)
    (hname : compile { target := t, supportBufferAddress := sba, mode := .named p.name } ir = .ok outs') :
    outs' = [b] := by
  obtain ⟨eall, dall⟩ := (compile_spec hsel hall).maps
  have kname := compile_spec hsel hname
  simp only [requestedDefaults] at eall kname
  obtain ⟨d, hd, hbd⟩ := map_eq_map_get eall hb
  obtain rfl : p.defaultGroup = d := by simpa [hp] using hd
  have hbk : IsBuiltFor t (paramsFor t sba) ir p.defaultGroup b := ⟨hbd, dall b (List.mem_of_getElem? hb)⟩
  -- by name at most one result is returned, so `p` is the only pipeline of its name
  have hlen : outs'.length ≤ 1 := compile_named_length rfl hname
  rw [← kname.length, List.length_map] at hlen
  have hpf : p ∈ ir.pipelines.filter (fun q => decide (q.name = p.name)) := by simp [List.mem_of_getElem? hp]
  obtain ⟨q, hq⟩ := List.length_eq_one_iff.1 (Nat.le_antisymm hlen (List.length_pos_of_mem hpf))
  rw [hq] at hpf kname
  cases List.mem_singleton.1 hpf
  obtain ⟨b', rfl⟩ := List.length_eq_one_iff.1 kname.length.symm
  rw [IsBuiltFor.unique kname.1 hbk]

open RsslVerif.Lemmas.SlotsMeta

theorem metal_params_no_buffer_address (t : Target) (sba : Bool) (h : isMetal t = true) :
    (paramsFor t sba).supportBufferAddress = false := by
  cases t <;> simp_all [isMetal, paramsFor]

/-- **What is observed is what was allocated.**  For every pipeline `compile()` returns, on every target, the
    returned metadata lists in group `g` exactly the bound declarations whose binding is in group `g`, in
    declaration order, each with the allocator's location and its descriptor count, and the group's inline block
    is the allocator's inline block of that set (none on Metal, where there are none).  On Metal this includes
    that the exporter's per-group sort by index changes nothing, because the index ranges tile in declaration order. -/
theorem metadata_is_the_allocation {a : Args} {ir : Module} {outs : List Built}
    (hfresh : ir.assigned = false) (hsel : ir.selected = none) (h : compile a ir = .ok outs) :
    ∀ b ∈ outs, ∀ g,
      bindingsAt b.groups g = entriesOf g ir.names ir.decls b.slots.bindings ∧
      inlineAt b.groups g =
        (b.slots.inlineBufs.find? (fun x => x.set == g)).map (fun x => (x.apiLocation, x.sizeInBytes)) := by
  intro b hb g
  obtain ⟨e, hd⟩ := (compile_spec hsel h).maps
  obtain ⟨d, _, hassign⟩ := List.mem_map.1 (e ▸ List.mem_map_of_mem hb)
  have hp := paramsFor_ok a.target a.supportBufferAddress
  -- HLSL: the inline blocks are sorted; Metal (no buffer addresses): the ranges tile and every binding is an index slot
  exact describe_spec (inline_buffers_correct hp hassign).2.2
    (fun hm => ⟨fun g' => ⟨_, index_ranges_tile hp hassign g'⟩,
      agrees_all_index (metal_params_no_buffer_address _ _ hm) (binding_complete hp hassign)⟩) (hd b hb) g

/-! Non-vacuity: two pipelines with different default groups over one ungrouped buffer address and one explicit
    group — the whole-file call returns both layouts, each in its own default group. -/
def examplePipelines : List Pipeline := [⟨"P0", 2⟩, ⟨"P1", 0⟩]
def exampleModule : Module :=
  Module.fresh ["g_a", "g_b", "cb"]
    [.global none false (some .RWBufferAddress) none, .global (some 1) false (some .Texture2D) (some 2), .cbuffer none]
    examplePipelines

example : (compile ⟨.HlslForVulkan, true, .all⟩ exampleModule).toOption.map (·.map (·.groups)) =
    some [ [⟨[], none⟩, ⟨[⟨"g_b", .index 0, 2⟩], none⟩, ⟨[⟨"g_a", .inline 0, 1⟩, ⟨"cb", .index 0, 1⟩], some (1, 8)⟩],
           [⟨[⟨"g_a", .inline 0, 1⟩, ⟨"cb", .index 0, 1⟩], some (1, 8)⟩, ⟨[⟨"g_b", .index 0, 2⟩], none⟩] ] := by decide +kernel

example : (compile ⟨.Msl, false, .named "P1"⟩ exampleModule).toOption.map (·.map (·.groups)) =
    some [ [⟨[⟨"g_a", .index 0, 1⟩, ⟨"cb", .index 2, 1⟩], none⟩, ⟨[⟨"g_b", .index 0, 2⟩], none⟩] ] := by decide +kernel

end EndToEnd

section PerDeclarator
open RsslVerif.Gen.SlotCompile RsslVerif.Model.SlotsCompile RsslVerif.Lemmas.SlotsCompile
open RsslVerif.Model.SlotsFront RsslVerif.Lemmas.SlotsFront

/-- The attributes of a declaration are read once, in order: an ill-formed one rejects the declaration; otherwise
    the group / binding index in force is the one named by the LAST attribute that names one
    (`rssl::bind_group(g)`, `vk::binding(i)` / `vk::binding(i, g)`), `bindless` is set by any `rssl::bindless`. -/
theorem attribute_fold_later_wins {attrs : List Attr} {attr : AttrResult} (h : parseAttributes attrs = .ok attr) :
    attrs.all wellFormed = true ∧
    attr.groupOverride = lastSome attrGroup attrs ∧
    attr.indexOverride = lastSome attrIndex attrs ∧
    attr.bindless = attrs.any isBindless :=
  parseAttributes_spec h

/-- On the fresh slot of one name: if its annotations are accepted, they are all `register(..)` annotations and every
    one of them (the parser never produces an empty `register()`) asks for the same language binding — the one the
    name ends up with before the attribute overrides.  So "the space of ITS register annotation" is unambiguous. -/
theorem accepted_annotations_agree {e : RegT} {conflict : FrontErr} {name : String} {anns : List Annotation}
    {s : LangBinding} (h : annotate (some e) conflict name LangBinding.default anns = .ok s) :
    (∀ a ∈ anns, ∃ r, a = .register r) ∧
    ((∀ r, Annotation.register r ∈ anns → Register.nontrivial r) →
      ∀ r, Annotation.register r ∈ anns → bindingOf e name r = some s) := by
  refine ⟨fun a ha => ?_, fun hnt r hr => ?_⟩
  · obtain ⟨r, _, h1, _⟩ := (annotate_ok h).2 a ha
    exact ⟨r, h1⟩
  · -- the binding a non-trivial register asks for is not the default one, so it is the result
    obtain ⟨_, b, h1, h2, h3⟩ := (annotate_ok h).2 _ hr
    cases h1
    rw [h2, h3.resolve_left (bindingOf_ne_default (hnt r hr) h2)]

/-- **The group of declarator j depends only on its own annotations and the declaration-level attributes.**
    For every declaration (any attributes, base type, storage class, any number of declarators with any annotations)
    and every registry it is appended to: if the type checker accepts it, it appends exactly one global per
    declarator, in declarator order, and the j-th of them is literally what the declaration consisting of THAT
    declarator alone gives on an empty registry; its name, shape and static-sampler flag are the declarator's and
    its explicit group is `explicitGroup attrs (its own annotations)` — the last group attribute of the declaration,
    else the space of its own register annotation, else none. -/
theorem declarator_groups_independent {σ : Type} (attrs : List Attr) (base : Option ObjKind) (isExtern : Bool)
    {registry registry' : List (GlobalVar σ)} {ds : List (Declarator σ)}
    (h : parseGlobalVariable attrs base isExtern registry ds = .ok registry') :
    ∃ news : List (GlobalVar σ), registry' = registry ++ news ∧ news.length = ds.length ∧
      ∀ (j : Nat) (d : Declarator σ), ds[j]? = some d →
        ∃ g, news[j]? = some g ∧
          parseGlobalVariable attrs base isExtern [] [d] = .ok [g] ∧
          g.name = d.name ∧ g.shape = d.shape ∧ g.staticSampler = d.staticSampler ∧
          g.langSlot.set = explicitGroup attrs d.annotations := by
  unfold parseGlobalVariable at h
  split at h
  · cases h
  · rename_i attr ha
    obtain ⟨news, h1, h2⟩ := declaratorLoop_spec h
    refine ⟨news, h1, by simpa using congrArg List.length h2, ?_⟩
    intro j d hd
    obtain ⟨g, hg, hs⟩ := map_eq_map_get h2.symm hd
    obtain ⟨n1, n2, n3, _, n5⟩ := declaratorStep_single ha hs.symm
    refine ⟨g, hg, ?_, n1, n2, n3, n5⟩
    simp [parseGlobalVariable, ha, declaratorLoop, ← hs]

/-- The same in the form the seeded defect C06-4 violated: two accepted declarations with the same attributes —
    whatever their other declarators say and wherever they stand — give a declarator with the same annotations the
    same explicit group. -/
theorem declarator_group_depends_only_on_itself {σ : Type} (attrs : List Attr) (base base' : Option ObjKind)
    (isExtern isExtern' : Bool) {r1 r1' r2 r2' : List (GlobalVar σ)} {ds ds' : List (Declarator σ)}
    (h : parseGlobalVariable attrs base isExtern r1 ds = .ok r1')
    (h' : parseGlobalVariable attrs base' isExtern' r2 ds' = .ok r2')
    {j j' : Nat} {d d' : Declarator σ} (hd : ds[j]? = some d) (hd' : ds'[j']? = some d')
    (hsame : d.annotations = d'.annotations) :
    ∃ g g', r1'[r1.length + j]? = some g ∧ r2'[r2.length + j']? = some g' ∧ g.langSlot.set = g'.langSlot.set := by
  obtain ⟨n, e1, _, a1⟩ := declarator_groups_independent attrs base isExtern h
  obtain ⟨n', e2, _, a2⟩ := declarator_groups_independent attrs base' isExtern' h'
  obtain ⟨g, hg, _, _, _, _, s1⟩ := a1 j d hd
  obtain ⟨g', hg', _, _, _, _, s2⟩ := a2 j' d' hd'
  refine ⟨g, g', ?_, ?_, by rw [s1, s2, hsame]⟩
  · rw [e1, List.getElem?_append_right (by omega)]; simpa using hg
  · rw [e2, List.getElem?_append_right (by omega)]; simpa using hg'

/-- the allocator declaration of one declarator of an accepted declaration -/
def declOf (attrs : List Attr) (base : Option ObjKind) (isExtern : Bool) (d : Declarator Shape) : String × Decl :=
  (d.name, .global (explicitGroup attrs d.annotations) d.staticSampler
    (if isExtern && d.shape.peelable then base else none) (if d.shape.peelable then d.shape.len else none))

/-- **Declaration order = declarator order, one allocator declaration per declarator.**  For every accepted file that
    contains the declaration `attrs base mods ds` between any root definitions `pre` and `post`: what the slot
    allocator is given is (front end of `pre`) ++ (one entry per declarator, in order, `declOf` of that declarator
    alone) ++ (front end of `post`) — no state is carried between root definitions or between declarators. -/
theorem front_lists_each_declarator {pre post : List RootItem} {attrs : List Attr} {base : Option ObjKind}
    {mods : List StorageMod} {ds : List (Declarator Shape)} {out : List (String × Decl)}
    (h : frontItems (pre ++ RootItem.globals attrs base mods ds :: post) = .ok out) :
    ∃ opre opost isExtern, frontItems pre = .ok opre ∧ frontItems post = .ok opost ∧
      isExternStorage mods = .ok isExtern ∧
      out = opre ++ ds.map (declOf attrs base isExtern) ++ opost := by
  obtain ⟨opre, orest, h1, h2, h3⟩ := frontItems_append pre _ h
  have h2' : frontItems ([RootItem.globals attrs base mods ds] ++ post) = .ok orest := by simpa using h2
  obtain ⟨omid, opost, h4, h5, h6⟩ := frontItems_append _ post h2'
  simp only [frontItems] at h4
  split at h4
  · cases h4
  · rename_i xs hx
    simp only [List.append_nil, Except.ok.injEq] at h4
    subst h4
    split at hx
    · cases hx
    · rename_i isExtern hext
      refine ⟨opre, opost, isExtern, h1, h5, hext, ?_⟩
      rw [h3, h6, List.append_assoc]
      congr 2
      split at hx
      · cases hx
      · rename_i gs hgs
        cases hx
        obtain ⟨news, e1, e2, e3⟩ := declarator_groups_independent attrs base isExtern hgs
        simp only [List.nil_append] at e1
        subst e1
        apply List.ext_getElem?
        intro j
        simp only [List.getElem?_map]
        cases hd : ds[j]? with
        | none =>
          have : gs.length ≤ j := by rw [e2]; exact List.getElem?_eq_none_iff.1 hd
          simp [List.getElem?_eq_none_iff.2 this]
        | some d =>
          obtain ⟨g, hg, _, n1, n2, n3, n4⟩ := e3 j d hd
          simp [hg, declOf, GlobalVar.toDecl, n1, n2, n3, n4]

/-- `Agrees`, read at one position -/
theorem agrees_get {p : Params} {dflt : Nat} : ∀ {ds : List Decl} {bs : List (Option Binding)},
    Agrees p dflt ds bs → ∀ (i : Nat) (d : Decl), ds[i]? = some d →
      ∃ ob, bs[i]? = some ob ∧ (ob = none → bound p d = false) ∧
        ∀ b, ob = some b → bound p d = true ∧ b.set = group dflt d := by
  intro ds bs
  fun_induction Agrees p dflt ds bs <;> intro h i d hd
  case case1 => cases hd
  case case2 x xs ob bs ih =>
    cases i with
    | zero =>
      cases hd
      refine ⟨ob, rfl, ?_, ?_⟩
      · rintro rfl; exact h.1
      · rintro b rfl; exact ⟨h.1.1, h.1.2.1⟩
    | succ i => exact ih h.2 i d hd
  case case3 => exact h.elim

/-- **Every declarator lands in its own group, end to end.**  For every accepted file that contains the declaration
    `attrs base mods ds` (between any root definitions), every list of pipelines, target, mode: in every pipeline
    `compile()` returns — with THAT pipeline's default group `dflt` — the j-th declarator of the declaration is bound
    exactly when the property says a global of its kind is, and then in group
    `(explicitGroup attrs (ITS annotations)).getD dflt`: the declaration's last group attribute, else the space of
    its own register annotation, else the pipeline's default group — whatever the other declarators say. -/
theorem declarator_lands_in_its_own_group {a : Args} {pre post : List RootItem} {attrs : List Attr}
    {base : Option ObjKind} {mods : List StorageMod} {ds : List (Declarator Shape)} {nds : List (String × Decl)}
    {ps : List Pipeline} {outs : List Built}
    (hf : frontItems (pre ++ RootItem.globals attrs base mods ds :: post) = .ok nds)
    (h : compile a (Module.fresh (nds.map (·.1)) (nds.map (·.2)) ps) = .ok outs) :
    ∃ opre isExtern, frontItems pre = .ok opre ∧ isExternStorage mods = .ok isExtern ∧
      ∀ (k : Nat) (b : Built), outs[k]? = some b → ∃ dflt, (requestedDefaults a.mode ps)[k]? = some dflt ∧
        ∀ (j : Nat) (d : Declarator Shape), ds[j]? = some d →
          ∃ ob, b.slots.bindings[opre.length + j]? = some ob ∧
            let decl := (declOf attrs base isExtern d).2
            (ob = none → bound (paramsFor a.target a.supportBufferAddress) decl = false) ∧
            ∀ bd, ob = some bd → bound (paramsFor a.target a.supportBufferAddress) decl = true ∧
              bd.set = (explicitGroup attrs d.annotations).getD dflt := by
  obtain ⟨opre, opost, isExtern, h1, _, hext, h3⟩ := front_lists_each_declarator hf
  refine ⟨opre, isExtern, h1, hext, ?_⟩
  intro k b hb
  obtain ⟨dflt, hd1, _, _, hagree, _⟩ :=
    per_pipeline_tiling (fresh_module_unbound _ _ ps).1 (fresh_module_unbound _ _ ps).2 h k b hb
  refine ⟨dflt, hd1, ?_⟩
  intro j d hd
  have hdecl : (Module.fresh (nds.map (·.1)) (nds.map (·.2)) ps).decls[opre.length + j]? =
      some (declOf attrs base isExtern d).2 := by
    show (nds.map (·.2))[opre.length + j]? = _
    rw [h3, List.getElem?_map, List.append_assoc, List.getElem?_append_right (by omega)]
    simp only [Nat.add_sub_cancel_left]
    rw [List.getElem?_append_left (by simpa using (List.getElem?_eq_some_iff.1 hd).1)]
    simp [List.getElem?_map, hd]
  obtain ⟨ob, e1, e2, e3⟩ := agrees_get hagree _ _ hdecl
  refine ⟨ob, e1, e2, ?_⟩
  intro bd hbd
  obtain ⟨x1, x2⟩ := e3 bd hbd
  exact ⟨x1, by rw [x2]; rfl⟩

/-! Non-vacuity: `Texture2D<float4> a : register(t0, space1), b;` followed by
    `[[rssl::bind_group(3)]] SamplerState c : register(s2, space1) : register(s2, space1), d : register(space2);`
    with pipelines of default group 2 and 0: `a` is in group 1, `b` in the default group of each pipeline (the seeded
    defect C06-4 put it into group 1), `c` and `d` in group 3 (the attribute wins over both register spaces). -/
def exampleItems : List RootItem :=
  [ .globals [] (some .Texture2D) []
      [ ⟨"a", [.register ⟨some (.T, 0), some 1⟩], false, ⟨none, true⟩⟩, ⟨"b", [], false, ⟨some 2, true⟩⟩ ],
    .globals [.bindGroup 3] (some .SamplerState) [.extern]
      [ ⟨"c", [.register ⟨some (.S, 2), some 1⟩, .register ⟨some (.S, 2), some 1⟩], false, ⟨none, true⟩⟩,
        ⟨"d", [.register ⟨none, some 2⟩], false, ⟨none, true⟩⟩ ] ]

example : (frontItems exampleItems).toOption = some
    [ ("a", .global (some 1) false (some .Texture2D) none), ("b", .global none false (some .Texture2D) (some 2)),
      ("c", .global (some 3) false (some .SamplerState) none), ("d", .global (some 3) false (some .SamplerState) none) ] := by
  decide +kernel

example : ((frontItems exampleItems).toOption.bind fun nds =>
      (compile ⟨.HlslForDirectX, false, .all⟩ (Module.fresh (nds.map (·.1)) (nds.map (·.2)) examplePipelines)).toOption).map
      (·.map (·.groups)) =
    some [ [⟨[], none⟩, ⟨[⟨"a", .index 0, 1⟩], none⟩, ⟨[⟨"b", .index 0, 2⟩], none⟩, ⟨[⟨"c", .index 0, 1⟩, ⟨"d", .index 1, 1⟩], none⟩],
           [⟨[⟨"b", .index 0, 2⟩], none⟩, ⟨[⟨"a", .index 0, 1⟩], none⟩, ⟨[], none⟩, ⟨[⟨"c", .index 0, 1⟩, ⟨"d", .index 1, 1⟩], none⟩] ] := by
  decide +kernel

/-- a second annotation that says something else is rejected (and names the declarator), an agreeing one is not -/
example : (match frontItems [.globals [] (some .Texture2D) []
      [⟨"a", [.register ⟨some (.T, 0), some 1⟩], false, ⟨none, true⟩⟩,
       ⟨"b", [.register ⟨some (.T, 0), some 1⟩, .register ⟨some (.T, 0), some 2⟩], false, ⟨none, true⟩⟩]] with
      | .error e => some e
      | .ok _ => none) = some (.invalidRegisterAnnotation "b") := by decide +kernel

/-- an ill-formed attribute rejects the declaration; `static extern` is a modifier conflict -/
example : (match frontItems [.globals [.bindGroup 1, .badCount "binding"] (some .Texture2D) []
      [⟨"a", [], false, ⟨none, true⟩⟩]] with
      | .error e => some e
      | .ok _ => none) = some (.attributeArgumentCount "binding") := by decide +kernel

example : (match frontItems [.globals [] (some .Texture2D) [.static, .static, .extern]
      [⟨"a", [], false, ⟨none, true⟩⟩]] with
      | .error e => some e
      | .ok _ => none) = some (.modifierConflict "extern" "static") := by decide +kernel

end PerDeclarator

section Rejections
open RsslVerif.Gen.SlotCompile RsslVerif.Model.SlotsCompile RsslVerif.Lemmas.SlotsCompile
open RsslVerif.Model.SlotsFront RsslVerif.Lemmas.SlotsFront

/-- **No fifth parameter set.**  Buffer addresses requested for a target other than Vulkan-flavoured HLSL: `compile`
    refuses the arguments before it looks at the module, for every module and mode. -/
theorem compile_refuses_buffer_address_off_vulkan (a : Args) (ir : Module)
    (hba : a.supportBufferAddress = true) (ht : a.target ≠ .HlslForVulkan) :
    compile a ir = .error .invalidArgs := by
  unfold compile
  have : (a.supportBufferAddress && a.target != Target.HlslForVulkan) = true := by
    simp [hba, ht]
  simp [this]

/-- ... and therefore whatever `compile` returns was allocated with one of the four parameter sets the property
    names (DirectX, Vulkan, Vulkan with buffer addresses, Metal). -/
theorem returned_parameter_set_is_one_of_four {a : Args} {ir : Module} {outs : List Built}
    (h : compile a ir = .ok outs) :
    paramsFor a.target a.supportBufferAddress ∈
      [⟨true, false, false, true⟩, ⟨false, false, false, true⟩, ⟨false, true, false, true⟩, ⟨false, false, true, false⟩] := by
  cases hba : a.supportBufferAddress with
  | false => cases ht : a.target <;> decide
  | true =>
    by_cases ht : a.target = .HlslForVulkan
    · rw [ht]; decide
    · rw [compile_refuses_buffer_address_off_vulkan a ir hba ht] at h; cases h

example : (match compile ⟨.HlslForDirectX, true, .noPipeline⟩ (Module.fresh [] [] []) with
    | .error e => some e
    | .ok _ => none) = some .invalidArgs := by decide +kernel
example : (compile ⟨.HlslForVulkan, true, .noPipeline⟩ (Module.fresh [] [] [])).toOption.isSome = true := by decide +kernel

/-- **A declaration whose base type has no register class** (not an object, a non-resource object, or -- the class the
    spelling matrix added -- an ARRAY typedef of a resource, `typedef Texture2D<float4> TA[2]; TA g : register(t0);`,
    since the lookup is done on the declaration's base type): a declarator that carries any annotation is rejected,
    whatever the attributes, the storage class and the registry are. -/
theorem annotation_without_register_class_rejected {σ : Type} (isExtern : Bool) (attr : AttrResult)
    (registry : List (GlobalVar σ)) (d : Declarator σ) (hne : d.annotations ≠ []) :
    ∃ e, declaratorStep none isExtern attr registry d = .error e := by
  unfold declaratorStep
  split
  · exact ⟨_, rfl⟩
  · cases hd : d.annotations with
    | nil => exact absurd hd hne
    | cons x rest => cases x <;> simp [annotate]

/-- ... and a declaration over such a base that IS accepted has no annotation on any declarator, so each of its globals
    has the attributes' group or none. -/
theorem accepted_without_register_class_has_no_annotation {σ : Type} (isExtern : Bool) (attr : AttrResult) :
    ∀ (ds : List (Declarator σ)) (registry out : List (GlobalVar σ)),
      declaratorLoop none isExtern attr registry ds = .ok out → ∀ d ∈ ds, d.annotations = [] := by
  intro ds registry
  fun_induction declaratorLoop none isExtern attr registry ds <;> intro out h d hd <;> try cases h
  case case1 => cases hd
  case case3 registry _ _ _ hstep ih =>
    rcases List.mem_cons.mp hd with rfl | hmem
    · refine Decidable.byContradiction fun hne => ?_
      obtain ⟨e, he⟩ := annotation_without_register_class_rejected isExtern attr registry d hne
      rw [he] at hstep; cases hstep
    · exact ih out h d hmem

example : (match frontItems [.globals [.bindGroup 2] none [] [⟨"g", [.register ⟨some (.T, 0), none⟩], false, ⟨some 2, true⟩⟩]] with
      | .error e => some e
      | .ok _ => none) = some (.invalidRegisterAnnotation "g") := by decide +kernel

/-- **Members of a cbuffer never touch its binding.**  Their annotations can only reject the block (a register or a
    semantic on a member, a second packoffset); when they do not, the block's language-level binding is the one the
    block has without looking at the members. -/
theorem cbuffer_members_only_reject (name : String) (attrs : List Attr) (members : List (String × List Annotation))
    (anns : List Annotation) {slot : LangBinding} (h : parseConstantBuffer name attrs members anns = .ok slot) :
    memberLoop members = .ok () ∧ parseConstantBuffer name attrs [] anns = .ok slot := by
  revert h
  fun_cases parseConstantBuffer name attrs members anns <;> intro h <;> try cases h
  rename_i hattr hm _ hann _ hb
  obtain rfl := Except.ok.inj h
  exact ⟨hm, by simp +zetaDelta [parseConstantBuffer, memberLoop, hattr, hann, hb]⟩

/-- a member that is accepted carries no register and no semantic -/
theorem accepted_member_has_no_register (n : String) : ∀ (seen : Bool) (anns : List Annotation),
    memberAnnotations n seen anns = .ok () → ∀ a ∈ anns, a = .packOffset := by
  intro seen anns
  fun_induction memberAnnotations n seen anns <;> intro h a ha <;> try cases h
  case case1 => cases ha
  case case4 ih =>
    rcases List.mem_cons.mp ha with rfl | hmem
    · rfl
    · exact ih h a hmem

example : (match parseConstantBuffer "cb" [.bindGroup 1] [("cb_v", [.register ⟨some (.B, 0), none⟩])] [] with
    | .error e => some e
    | .ok _ => none) = some (.unexpectedRegisterAnnotation "cb_v") := by decide +kernel
example : (parseConstantBuffer "cb" [.bindGroup 1] [("cb_v", []), ("p", [.packOffset])] [.register ⟨none, some 2⟩]).toOption =
    some ⟨some 1, none⟩ := by decide +kernel

end Rejections

end RsslVerif.Thm.C06
